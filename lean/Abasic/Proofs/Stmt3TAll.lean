import Abasic.Proofs.Stmt3TRel
/-
  C03 / C08 — Proofs/Stmt3All.lean for programs with INPUT statements:
  `stmt3_run` (the statement evaluator realises `RStmt3.exec` for a `base`
  statement `j` of line `n`) and the READ lemmas, from the statement lemmas for
  a `ProgView`.
-/

namespace Abasic.Stmt3T
open Abasic Abasic.Ref Abasic.ExprL Abasic.ExprL2 Abasic.StmtL Abasic.ProgL Abasic.Prog3L Abasic.Stmt3L Abasic.Hoare M
open Abasic.Prog3I (preToksI)
open Abasic.Prog2L (Rel2)

variable {F : Type} [NumOps F]

/-- The hypotheses of the statement theorem (`SReady3` of Stmt3All.lean): the
    statement `s` is the `base` statement `j` of line `n`; the other statements
    of the line (and of the program) may be INPUTs. -/
structure SReady3 (p : ProgT F) (r : RState3 F) (σ : St F) (n j : Nat) (ss : List (RStmtI F))
    (s : RStmt3 F) (fuel : Nat) : Prop where
  wf : p.q.WF
  env : Env3 p σ
  mem : Mem3 p r σ
  inv : RInv3 r
  nesting : σ.nesting = 0
  line : p.q.line n = some ss
  stmt : ss[j]? = some (.base s)
  locline : σ.loc.line = some n
  idx : σ.loc.idx = (preToksI ss j).length
  covered : s.Covered
  bodies : ∀ name d, alGet name r.fns = some d → Resolved r.fns d.body
  resolved : ResolvedS r.fns s
  fuel : sdepth3 r.fns s ≤ fuel
  nest : sdepth3 r.fns s ≤ Extracted.nestingLimit

section ready
variable {p : ProgT F} {r : RState3 F} {σ : St F} {n j : Nat} {ss : List (RStmtI F)} {s : RStmt3 F} {fuel : Nat}

theorem SReady3.sync (h : SReady3 p r σ n j ss s fuel) : Sync p r σ := ⟨h.wf, h.env, h.mem, h.inv, h.bodies⟩

theorem SReady3.at (h : SReady3 p r σ n j ss s fuel) :
    At σ (preToksI ss j) (renderS3 s ++ renderTailI (ss.drop (j + 1))) :=
  ⟨by rw [SeqL.lineToks_of h.env.lines.seq h.line h.locline, SeqL.line_split ss j _ h.stmt]; rfl, h.idx⟩

theorem SReady3.pos (h : SReady3 p r σ n j ss s fuel) :
    Pos p σ n j s (preToksI ss j) (renderTailI (ss.drop (j + 1)))
      ((preToksI ss j).length + (renderS3 s).length) (renderLineI ss).length :=
  ⟨h.locline, h.at, rfl, by rw [show renderLineI ss = _ from SeqL.line_split (L := Prog3I.lang) ss j _ h.stmt]; rfl,
    fun _ => ⟨ss, j, .base s, h.line, rfl, h.stmt, rfl⟩⟩

end ready

theorem stmt3_run {p : ProgT F} {r : RState3 F} {σ : St F} {n j : Nat} {ss : List (RStmtI F)} {s : RStmt3 F}
    {fuel : Nat} (h : SReady3 p r σ n j ss s fuel) :
    Stmt3V.Outcome3 (view p) σ n ((preToksI ss j).length + (renderS3 s).length) (renderLineI ss).length
      (stmtBody (evalN fuel) σ) (s.exec (allDataI p.q) n j r).1 (s.exec (allDataI p.q) n j r).2 :=
  Stmt3V.stmt_ok (view p) n j s fuel σ r _ _ _ _ h.sync.view (.inl rfl) h.pos.view
    (Or.inl (SeqL.tail_lineEnd3 (L := Prog3I.lang) ss j))
    h.covered.1 h.covered.2 h.resolved h.fuel (by rw [h.nesting, Nat.zero_add]; exact h.nest)

/-- as `Stmt3L.ReadCellOK`, for `ProgT` -/
def ReadCellOK (p : ProgT F) (σ : St F) (pre tgt rest : List (Token F)) (K : M F Unit) (res : Res F Unit) :
    RState3 F × Ctl2 → Prop
  | (r', .next) => ∃ τ, res = K τ ∧ Sync p r' τ ∧ Start σ τ ∧ At τ (pre ++ tgt) rest
  | (_, .error e) => e ≠ .dataTypeMismatch ∧ ErrFrom σ e res
  | (_, .errorAt e ln) => e = .dataTypeMismatch ∧
      ∃ σ' i, res = .err { err := e } σ' ∧ σ'.dataLoc = some { line := some ln, idx := i } ∧ σ'.out = σ.out ∧
        σ'.nesting = σ.nesting
  | _ => True

theorem readCellOK_of_view {p : ProgT F} (hwf : p.q.WF) {σ : St F} {pre tgt rest : List (Token F)} {K : M F Unit}
    {res : Res F Unit} {r0 : RState3 F} : ∀ {x : RState3 F × Ctl2},
    Stmt3V.Follows (view p) σ r0 res (pre ++ tgt) rest K x → ReadCellOK p σ pre tgt rest K res x
  | (_, .next), ⟨τ, h1, hm⟩ => ⟨τ, h1, sync_of_view hwf hm.sync, hm.start, hm.cur⟩
  | (_, .error _), h => h
  | (_, .errorAt _ _), h => h
  | (_, .skipLine), _ => trivial
  | (_, .jump _), _ => trivial
  | (_, .stop), _ => trivial
  | (_, .resume _ _), _ => trivial

theorem read_cell_refines {p : ProgT F} {σ : St F} {r : RState3 F} (hS : Sync p r σ) (fuel : Nat)
    (name : Str) (idx : List (Expr2 F)) (pre rest : List (Token F))
    (hres : ResolvedL r.fns idx) (hd : depthArgs r.fns callFuel idx ≤ fuel)
    (hn : σ.nesting + depthArgs r.fns callFuel idx ≤ Extracted.nestingLimit)
    (hAt : At σ pre (.symbol name :: .kw .LeftParen :: (renderArgs idx ++ (.kw .RightParen :: rest))))
    (K : M F Unit) :
    ReadCellOK p σ pre (cellToks name idx) rest K (readBody (evalN fuel) K σ)
      (readCellSpec (allDataI p.q) r name idx) :=
  readCellOK_of_view hS.wf (Stmt3V.read_cell_follows fuel name idx (Stmt3V.Mid.ofSync hS.view hAt) rfl hres hd hn K)

theorem read_target_refines {p : ProgT F} {σ : St F} {r : RState3 F} (hS : Sync p r σ) (fuel : Nat)
    (t : RTarget F) (pre rest : List (Token F)) (hok : TargetOK r.fns fuel σ.nesting t)
    (hAt : At σ pre (t.toks ++ rest)) (hpost : ∀ t', rest.head? = some t' → t'.isKw .LeftParen = false)
    (K : M F Unit) :
    ReadCellOK p σ pre t.toks rest K (readBody (evalN fuel) K σ) (readTargetSpec (allDataI p.q) r t) :=
  readCellOK_of_view hS.wf (Stmt3V.read_target_follows fuel t (Stmt3V.Mid.ofSync hS.view hAt) (.inl rfl) hok hpost K)

theorem read_targets_refines {p : ProgT F} (fuel : Nat) (rest : List (Token F)) (hE : StmtEnd rest) :
    ∀ (ts : List (RTarget F)), ts ≠ [] → ∀ (k : Nat) (σ : St F) (r : RState3 F) (pre : List (Token F)),
      Sync p r σ → (∀ t ∈ ts, TargetOK r.fns fuel σ.nesting t) → At σ pre (renderRTargets ts ++ rest) →
      (renderRTargets ts).length < k →
      ReadCellOK p σ pre (renderRTargets ts) rest (pure ()) (readLoop (evalN fuel) k σ)
        (readTargetsSpec (allDataI p.q) r ts) :=
  fun ts hts k σ r pre hS hok hAt hk =>
    readCellOK_of_view hS.wf (Stmt3V.read_targets_follows fuel rest hE ts hts k σ r pre (Stmt3V.Mid.ofSync hS.view hAt) (fun _ _ => .inl rfl) hok hk)

end Abasic.Stmt3T
