import Abasic.Proofs.AnalyzerKeeps
import Abasic.Proofs.Cursor
import Abasic.Proofs.ExprCursor
import Abasic.Proofs.ProgLemmas
/-
  Lemmas for C06 at the program level (Abasic/Props/C06Prog.lean, C06Loops.lean, C06File3.lean).

  `Abasic.ALine` — the frame lemma of the static analyzer for `loc.line` (Proofs/AnalyzerFrame.lean has
  `lines` and `nesting`): no analyzer action of a statement moves the cursor to another line, on the
  success path and on the error path alike (`ALine.keeps_stmt`).  The file pass needs it after a
  statement has failed: `nextLine` continues behind the line the failing statement stood on.
  `Abasic.ProgT` — the colon as a statement of its own, `nextLine` on a line of the program (the equations
  of one round of `analyzeStatements` / `analyzeProgram` are in Props/C05Eval.lean), the line behind a
  line of an ascending program.
-/

namespace Abasic.ALine
open Abasic M

variable {F : Type}

/-- as `AKeep.st` -/
def rst {α : Type} : Res F α → St F
  | .ok _ s => s
  | .err _ s => s

def key (s : St F) : Option Nat := s.loc.line

structure Keeps {α : Type} (m : M F α) : Prop where
  h : ∀ s, key (rst (m s)) = key s

theorem Keeps.rpanic {α : Type} (x : String) : Keeps (M.rpanic x : M F α) := ⟨fun _ => rfl⟩

theorem Keeps.ite {α : Type} {c : Prop} [Decidable c] {a b : M F α} (ha : Keeps a) (hb : Keeps b) :
    Keeps (if c then a else b) := by
  split <;> assumption

theorem Keeps.of {α : Type} {m : M F α} (h : AKeep.Keeps key m) : Keeps m := ⟨h.h⟩

instance : AKeep.Frame (key (F := F)) where
  dep s t _ _ _ hl := hl
  exit s t h := by
    cases hn : t.nesting <;> simpa only [exitNested, bind, M.bindM, M.get, hn, M.set, M.rpanic, AKeep.st, key] using h

theorem noFns : AKeep.NoFns (key (F := F)) := ⟨fun _ _ => rfl⟩

variable [NumOps F]

theorem keeps_hasNext : Keeps (hasNext : M F _) := .of AKeep.keeps_hasNext

theorem keeps_stmt (fuel : Nat) : Keeps (aStmtBody (aEvalN (F := F) fuel)) := .of (AKeep.keeps_stmt noFns fuel)

end Abasic.ALine

namespace Abasic.ProgT
open Abasic Abasic.Ref Abasic.ExprL Abasic.StmtL Abasic.ProgL M

variable {F : Type} [NumOps F]

theorem aStmtBody_colon {ev : AEvals F} {σ : St F} {pre post : List (Token F)}
    (h : At σ pre (.kw .Colon :: post)) :
    aStmtBody ev σ = .ok () (mv σ 1 (σ.reads + 1)) := by
  unfold aStmtBody
  rw [bind_ok (next_eq h)]
  rfl

omit [NumOps F] in
theorem nextLine_some {s : St F} {n m : Nat} (hl : s.loc.line = some n) (ha : s.lines.after n = some m) :
    nextLine s = .ok true { s with loc := { line := some m, idx := 0 } } := by
  rw [Cur.nextLine_eq, hl, Option.bind_some, ha]

omit [NumOps F] in
theorem nextLine_none {s : St F} {n : Nat} (hl : s.loc.line = some n) (ha : s.lines.after n = none) :
    nextLine s = .ok false s := by
  rw [Cur.nextLine_eq, hl, Option.bind_some, ha]

omit [NumOps F] in
theorem find_after_at {β : Type} {done q : List (Nat × β)} {n : Nat} {b : β}
    (h : ((done ++ (n, b) :: q).map (·.1)).Pairwise (· < ·)) :
    ((done ++ (n, b) :: q).map (·.1)).find? (fun k => decide (n < k)) = q.head?.map (·.1) := by
  induction done with
  | nil =>
    simp only [List.nil_append, List.map_cons] at h ⊢
    have h' := List.pairwise_cons.mp h
    rw [List.find?_cons_of_neg (by simp)]
    cases q with
    | nil => rfl
    | cons l q' =>
      have : n < l.1 := h'.1 l.1 (by simp)
      simp only [List.map_cons, List.head?_cons, Option.map_some]
      rw [List.find?_cons_of_pos (by simpa using this)]
  | cons l done ih =>
    simp only [List.cons_append, List.map_cons] at h ⊢
    have h' := List.pairwise_cons.mp h
    have hk : l.1 < n := h'.1 n (by simp)
    rw [List.find?_cons_of_neg (by simp only [decide_eq_true_eq]; omega)]
    exact ih h'.2

end Abasic.ProgT
