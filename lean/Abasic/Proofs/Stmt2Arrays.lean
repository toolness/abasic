import Abasic.Proofs.Stmt2Lemmas
import Abasic.Ref.Stmt3
/-
  C03, arrays — what DIM and the assignment to an array cell rest on, at every level: subscripts of the small
  language against `foldSubs` (`optIdx_run`), `arraySet` against `storeCell` (`arraySet_run`), and the reference
  step of the two statements of Ref/Stmt2.lean in parts.
-/
set_option linter.unusedSectionVars false

namespace Abasic.Stmt2L
open Abasic Abasic.Ref Abasic.StmtL Abasic.ProgL Abasic.Prog2L Abasic.Hoare M
open Abasic.ExprL hiding Quiet
open Abasic.ExprG (Quiet)

variable {F : Type} [NumOps F]

theorem create_nd {name : Str} {idx : List Nat} {e : Err}
    (h : ArrayV.create (F := F) name idx = .error e) : e ≠ .dataTypeMismatch := by
  rcases ArrayL.create_err h with rfl | rfl <;> simp

/-! The subscript loop is proved once, for the full expression language (`ExprL3.arrayIndex_cons`); these
    subscripts are trees of the small language, seen there through `emb`, on any quiet state (`Inv.plain`). -/

section emb
open Abasic.ExprL2 Abasic.Names
open Abasic.ExprL3 (Inv)
open Abasic.Props.C06 (emb render2_emb depthArgs_emb resolvedL_emb fold2_emb)
open Abasic.ExprG (envOf tracks_envOf lookup_quiet main_plain)

omit [NumOps F] in
theorem renderArgs_emb : ∀ es : List (Expr F), renderArgs (es.map emb) = renderSubs2 es
  | [] => renderArgs_nil
  | [e] => by simp only [List.map_cons, List.map_nil, renderArgs_one, render2_emb, renderSubs2]
  | e :: e' :: es => by
    have ih := renderArgs_emb (e' :: es)
    simp only [List.map_cons, renderArgs_cons, render2_emb, renderSubs2] at ih ⊢
    rw [ih]

theorem foldIdx_emb (n : Nat) (env : RefEnv F) : ∀ (e : Expr F) (es : List (Expr F)),
    foldIdx n env (emb e :: es.map emb) = (foldSubs env.lookup (e :: es)).map fun is => (is, env) := by
  intro e es
  induction es generalizing e with
  | nil =>
    rw [foldSubs]
    simp only [List.map_nil, foldIdx, fold2_emb, numE, foldSubs]
    cases foldE env.lookup e with
    | error err => rfl
    | ok v =>
      cases v with
      | str s => rfl
      | num x =>
        simp only [Except.map, subscript]
        by_cases hneg : NumOps.toI64 x < 0 <;> simp only [hneg, ↓reduceIte]
  | cons e' es ih =>
    rw [foldSubs, List.map_cons, foldIdx, fold2_emb]
    simp only [numE]
    cases foldE env.lookup e with
    | error err => rfl
    | ok v =>
      cases v with
      | str s => rfl
      | num x =>
        simp only [Except.map, subscript]
        by_cases hneg : NumOps.toI64 x < 0
        · simp only [hneg, ↓reduceIte]
        · simp only [hneg, ↓reduceIte]
          rw [ih e']
          cases foldSubs env.lookup (e' :: es) <;> rfl

theorem foldIdx3_emb (n : Nat) {σ : St F} (hq : Quiet σ) (e : Expr F) (es : List (Expr F)) :
    foldIdx3 n (envOf σ []) ((e :: es).map emb) = (foldSubs (getVar σ) (e :: es)).map fun is => (is, envOf σ []) := by
  rw [foldIdx3_off _ _ _ hq.2, List.map_cons, foldIdx_emb, lookup_quiet hq]
  cases foldSubs (getVar σ) (e :: es) <;> rfl

omit [NumOps F] in
theorem argsDepth_le {m : Nat} : ∀ (es : List (Expr F)), argsDepth es ≤ m → ∀ x ∈ es, depth x + 1 ≤ m
  | [], _, _, hx => by cases hx
  | y :: ys, h, x, hx => by
    simp only [argsDepth] at h
    rcases List.mem_cons.mp hx with rfl | hx
    · omega
    · exact argsDepth_le ys (by omega) x hx

theorem foldSubs_nd (vars : List (Str × Value F)) :
    ∀ (es : List (Expr F)) {x : Err}, foldSubs (envOf vars) es = .error x → x ≠ .dataTypeMismatch
  | [], _, h => by cases h
  | e :: es, x, h => by
    rw [foldSubs, numE] at h
    cases hf : foldE (envOf vars) e with
    | error y => rw [hf] at h; cases h; exact foldE_nd vars e hf
    | ok v =>
      rw [hf] at h
      cases v with
      | str s => cases h; simp
      | num y =>
        dsimp only at h
        split at h
        · cases h; simp
        · cases hr : foldSubs (envOf vars) es with
          | error z => rw [hr] at h; cases h; exact foldSubs_nd vars es hr
          | ok is => rw [hr] at h; cases h

theorem optIdx_run (f : Nat) (es : List (Expr F)) (hes : es ≠ []) (σ : St F) (pre rest : List (Token F))
    (hAt : At σ pre (.kw .LeftParen :: (renderSubs2 es ++ .kw .RightParen :: rest)))
    (hq : Quiet σ) (hfn : σ.fns = []) (hd : argsDepth es ≤ f)
    (hn : σ.nesting + argsDepth es ≤ Extracted.nestingLimit) :
    match foldSubs (getVar σ) es with
    | .ok is => ∃ r, σ.reads < r ∧
        optionalArrayIndex (evalN f) σ = .ok (some is) (mv σ (1 + (renderSubs2 es).length + 1) r)
    | .error err => err ≠ .dataTypeMismatch ∧
        ∃ σ', optionalArrayIndex (evalN f) σ = .err { err := err } σ' ∧ σ'.nesting = σ.nesting ∧
          σ'.loc.line = σ.loc.line ∧ σ'.out = σ.out := by
  obtain ⟨e, es, rfl⟩ : ∃ e es', es = e :: es' := by
    cases es with
    | nil => exact absurd rfl hes
    | cons e es' => exact ⟨e, es', rfl⟩
  have hf : 1 ≤ f := by have := argsDepth_le _ hd e List.mem_cons_self; omega
  have hnl : argsDepth (e :: es) ≤ Extracted.nestingLimit - σ.nesting := by omega
  have h := ExprL3.arrayIndex_cons Inv.plain 0 (emb e) (es.map emb)
    (fun y hy => by
      obtain ⟨x, _, rfl⟩ := List.mem_map.mp (show y ∈ (e :: es).map emb from hy)
      exact (main_plain 0 x).1)
    f (mv σ 0 (σ.reads + 1)) (envOf (mv σ 0 (σ.reads + 1)) []) pre rest
    (depthArgs_emb _ 0 f hf (e :: es) (argsDepth_le _ hd))
    (by
      have := depthArgs_emb (F := F) [] 0 (Extracted.nestingLimit - σ.nesting)
        (by have := argsDepth_le _ hnl e List.mem_cons_self; omega) (e :: es) (argsDepth_le _ hnl)
      show σ.nesting + depthArgs [] 0 ((e :: es).map emb) ≤ _
      omega)
    (by rw [show emb e :: es.map emb = (e :: es).map emb from rfl, renderArgs_emb]; exact at_mv0 hAt _)
    (tracks_envOf _ []) (resolvedL_emb _ (e :: es))
  rw [show emb e :: es.map emb = (e :: es).map emb from rfl, foldIdx3_emb 0 (hq.mv _ _) e es, renderArgs_emb,
    getVar_mv] at h
  have hk : (Token.kw (F := F) Kw.LeftParen).isKw Kw.LeftParen = true := rfl
  unfold optionalArrayIndex
  rw [bind_ok (peekIsKw_cons .LeftParen hAt)]
  simp only [hk, ↓reduceIte]
  cases hfi : foldSubs (getVar σ) (e :: es) with
  | error err =>
    rw [hfi] at h
    obtain ⟨te, σ', hσ', hx, hloc, hnest⟩ := h
    obtain ⟨_, _⟩ := te
    cases hx; cases hloc
    exact ⟨foldSubs_nd _ _ hfi, σ', bind_err hσ', hnest,
      (((fr_arrayIndex (R := KQ) _ (fr_evalN_expr f)).at _).2 _ _ hσ' hfn hq.2).2.2⟩
  | ok is =>
    rw [hfi] at h
    obtain ⟨r, hr, hσ'⟩ := h
    refine ⟨r, by simp only [mv_reads] at hr; omega, ?_⟩
    rw [bind_ok hσ']
    show Res.ok (some is) (ExprL3.upd _ _ r (envOf _ [])) = _
    rw [(tracks_envOf _ []).upd_eq, mv_mv]
    exact congrArg (Res.ok (some is)) (mv_congr _ _ (by omega))

end emb

theorem exec_dim_err {items : List (Nat × DataElement F)} {n j : Nat} {r : RState2 F} {name : Str}
    {dims : List (Expr F)} {err : Err} (h : foldSubs (envOf r.vars) dims = .error err) :
    (RStmt2.dimS name dims).exec items n j r = (r, .error err) := by
  simp only [RStmt2.exec, h]

theorem alSet_alSet {β : Type} (k : Str) (v v' : β) (l : List (Str × β)) :
    alSet k v' (alSet k v l) = alSet k v' l := by
  induction l with
  | nil => simp [alSet]
  | cons p ps ih =>
    obtain ⟨k0, v0⟩ := p
    by_cases hk : (k0 == k) = true
    · simp [alSet, hk]
    · simp [alSet, hk, ih]

theorem cellSet_nd {a : ArrayV F} {index : List Nat} {v : Value F} {e : Err} (h : cellSet a index v = .error e) :
    e ≠ .dataTypeMismatch := by
  rcases ArrayL.cellSet_errs h with rfl | rfl <;> simp

theorem arraySet_run (name : Str) (index : List Nat) (v : Value F) (σ : St F)
    (harr : ∀ k a, alGet k σ.arrays = some a → a.cellCount = Props.C16.prod a.dims) :
    match storeCell name index v σ.arrays with
    | .ok arrs => arraySet name index v σ = .ok () { σ with arrays := arrs }
    | .error e => e ≠ .dataTypeMismatch ∧
        ∃ σ', arraySet name index v σ = .err { err := e } σ' ∧ σ'.loc = σ.loc ∧ σ'.out = σ.out := by
  rw [ArrayL.arraySet_eq]
  unfold storeCell
  cases hm : v.matchesName name with
  | false =>
    simp only [Bool.not_false, ↓reduceIte]
    exact ⟨by simp, σ, rfl, rfl, rfl⟩
  | true =>
    simp only [Bool.not_true, Bool.false_eq_true, ↓reduceIte]
    cases hg : alGet name σ.arrays with
    | some a =>
      have hhas : alHas name σ.arrays = true := by simp only [alHas, hg, Option.isSome_some]
      have hens : ensureArray name index.length σ = .ok () σ := by
        simp only [ensureArray, bind, M.bindM, M.get, hhas, ↓reduceIte, pure, M.pureM]
      have hea : ensureArr name index.length σ.arrays = .ok a := by simp only [ensureArr, hg]
      rw [hea, bind_ok hens]
      dsimp only
      have hT := ArrayL.arraySetTail_run name index v σ a hg (harr name a hg)
      cases hcs : cellSet a index v with
      | ok a' => rw [hcs] at hT; exact hT
      | error e => rw [hcs] at hT; exact ⟨cellSet_nd hcs, σ, hT, rfl, rfl⟩
    | none =>
      have hhas : alHas name σ.arrays = false := by simp only [alHas, hg, Option.isSome_none]
      cases hcr : ArrayV.create (F := F) name (List.replicate index.length Extracted.defaultArraySize) with
      | error e =>
        have hens : ensureArray name index.length σ = .err { err := e } σ := by
          simp only [ensureArray, bind, M.bindM, M.get, hhas, Bool.false_eq_true, ↓reduceIte, hcr, M.fail]
        have hea : ensureArr name index.length σ.arrays = .error e := by simp only [ensureArr, hg, hcr]
        rw [hea, bind_err hens]
        exact ⟨create_nd hcr, σ, rfl, rfl, rfl⟩
      | ok a =>
        have hens : ensureArray name index.length σ = .ok () { σ with arrays := alSet name a σ.arrays } := by
          simp only [ensureArray, bind, M.bindM, M.get, hhas, Bool.false_eq_true, ↓reduceIte, hcr, M.set]
        have hea : ensureArr name index.length σ.arrays = .ok a := by simp only [ensureArr, hg, hcr]
        rw [hea, bind_ok hens]
        dsimp only
        have hT := ArrayL.arraySetTail_run name index v { σ with arrays := alSet name a σ.arrays } a
          (Props.C16.alGet_alSet_self name a σ.arrays) (Props.C16.create_spec name _ a hcr).1
        cases hcs : cellSet a index v with
        | ok a' =>
          rw [hcs] at hT
          rw [hT]
          show Res.ok () _ = Res.ok () _
          congr 1
          show ({ σ with arrays := alSet name a' (alSet name a σ.arrays) } : St F) = _
          rw [alSet_alSet]
        | error e => rw [hcs] at hT; exact ⟨cellSet_nd hcs, _, hT, rfl, rfl⟩

theorem exec_letCell {items : List (Nat × DataElement F)} {n j : Nat} {r : RState2 F} {name : Str}
    {idx : List (Expr F)} {e : Expr F} {index : List Nat} {v : Value F}
    (h1 : foldSubs (envOf r.vars) idx = .ok index) (h2 : foldE (envOf r.vars) e = .ok v) :
    (RStmt2.letCellS name idx e).exec items n j r =
      (match storeCell name index v r.arrays with
       | .ok arrs => ({ r with arrays := arrs }, .next)
       | .error err => (r, .error err)) := by
  simp only [RStmt2.exec, h1, h2, storeCell]
  cases hm : v.matchesName name with
  | false => rfl
  | true =>
    simp only [Bool.not_true, Bool.false_eq_true, ↓reduceIte]
    cases hea : ensureArr name index.length r.arrays with
    | error err => rfl
    | ok a =>
      simp only
      cases hcs : cellSet a index v with
      | error err => rfl
      | ok a' => rfl

theorem exec_letCell_err1 {items : List (Nat × DataElement F)} {n j : Nat} {r : RState2 F} {name : Str}
    {idx : List (Expr F)} {e : Expr F} {err : Err} (h1 : foldSubs (envOf r.vars) idx = .error err) :
    (RStmt2.letCellS name idx e).exec items n j r = (r, .error err) := by
  simp only [RStmt2.exec, h1]

theorem exec_letCell_err2 {items : List (Nat × DataElement F)} {n j : Nat} {r : RState2 F} {name : Str}
    {idx : List (Expr F)} {e : Expr F} {index : List Nat} {err : Err}
    (h1 : foldSubs (envOf r.vars) idx = .ok index) (h2 : foldE (envOf r.vars) e = .error err) :
    (RStmt2.letCellS name idx e).exec items n j r = (r, .error err) := by
  simp only [RStmt2.exec, h1, h2]

theorem warnUndeclared_off (name : Str) (σ : St F) (h : σ.warnings = false) :
    warnUndeclaredArray name σ = .ok () σ := by
  simp only [warnUndeclaredArray, bind, M.bindM, M.get, h, Bool.false_and, Bool.false_eq_true, ↓reduceIte, pure,
    M.pureM]

end Abasic.Stmt2L
