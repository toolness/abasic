import Abasic.Proofs.Turn
import Abasic.Proofs.ExprLemmas
import Abasic.Proofs.ExprLemmasG
import Abasic.Proofs.StmtSteps
import Abasic.Proofs.Stmt2Arrays
/-
  Helper lemmas for C08More (INPUT suspends and resumes wherever it sits):
  the backwards search for the INPUT token over any stretch of tokens that holds no INPUT;
  one turn of `continue_evaluating` = the statement at the cursor followed by line sequencing,
  the latter as the function `lineEndSt` on states (Proofs/Turn.lean);
  `Arrays::set_value_at_index` as a pure partial function on the array table (`storeCell`);
  a subscript list written as rendered expression trees evaluates to the folded subscripts and moves
  only the cursor and the read counter (`arrayIndex_render`, from the subscript lemma of the full
  language, Proofs/Expr2WarnInd.lean, through `emb`).  INPUT's subscripts are those of READ and DIM
  (`renderSubs_eq`, `foldSubs_of_subsVal`: `renderSubs2` and `foldSubs` of Ref/Stmt2.lean), so their image in the
  full language is the one of Proofs/Stmt2Arrays.lean.
-/
namespace Abasic.InputL
open Abasic Abasic.Ref Abasic.ExprL Abasic.StmtL M

variable {F : Type}

theorem findInputBefore_skip (ts : List (Token F)) (i : Nat) (t : Token F) (h : ts[i]? = some t)
    (hk : t.isKw .Input = true) :
    ∀ k, i < k → (∀ j u, i < j → j < k → ts[j]? = some u → u.isKw .Input = false) →
      findInputBefore ts k = some i := by
  intro k
  induction k with
  | zero => intro hik; omega
  | succ k ih =>
    intro hik hno
    unfold findInputBefore
    by_cases hi : i = k
    · subst hi
      simp only [h, hk, ↓reduceIte]
    · have hik' : i < k := by omega
      have ih' := ih hik' (fun j u h1 h2 => hno j u h1 (by omega))
      cases hq : ts[k]? with
      | none => simp only [ih']
      | some u =>
        have := hno k u hik' (Nat.lt_succ_self k) hq
        simp only [this, Bool.false_eq_true, ↓reduceIte, ih']

theorem findInputBefore_mid (pre mid post : List (Token F))
    (hmid : ∀ t ∈ mid, t.isKw .Input = false) :
    findInputBefore (pre ++ .kw .Input :: (mid ++ post)) (pre.length + 1 + mid.length) = some pre.length := by
  refine findInputBefore_skip _ pre.length (.kw .Input) ?_ rfl _ (by omega) ?_
  · rw [List.getElem?_append_right (Nat.le_refl _), Nat.sub_self]; rfl
  · intro j u h1 h2 hj
    rw [List.getElem?_append_right (by omega)] at hj
    obtain ⟨d, hd⟩ : ∃ d, j - pre.length = d + 1 := ⟨j - pre.length - 1, by omega⟩
    rw [hd, List.getElem?_cons_succ, List.getElem?_append_left (by omega)] at hj
    exact hmid u (List.mem_of_getElem? hj)

theorem rewindBeforeInput_at {σ : St F} {ts : List (Token F)} {i : Nat}
    (h : lineToks σ = some ts) (hf : findInputBefore ts σ.loc.idx = some i) :
    rewindBeforeInput σ =
      .ok () { σ with loc := { σ.loc with idx := i }, reads := σ.reads + (σ.loc.idx - i) } := by
  unfold rewindBeforeInput
  rw [bind_ok (tokens_eq h)]
  simp only [bind, M.bindM, M.get, hf, M.set]

theorem rewindAndAwaitInput_at {σ : St F} {ts : List (Token F)} {i : Nat}
    (h : lineToks σ = some ts) (hf : findInputBefore ts σ.loc.idx = some i) :
    rewindAndAwaitInput σ =
      .ok () { σ with loc := { σ.loc with idx := i }, reads := σ.reads + (σ.loc.idx - i),
                      state := .awaitingInput } := by
  unfold rewindAndAwaitInput
  rw [bind_ok (rewindBeforeInput_at h hf)]
  rfl

/-- `rewind_and_await_input` from behind `INPUT :: mid` with no INPUT in `mid`: the cursor goes back ON that
    INPUT token, one read per token passed -/
theorem rewind_behind {σ : St F} {pre mid post : List (Token F)} (h : At σ (pre ++ .kw .Input :: mid) post)
    (hmid : ∀ t ∈ mid, t.isKw .Input = false) :
    rewindAndAwaitInput σ =
      .ok () { σ with loc := { σ.loc with idx := pre.length }, state := .awaitingInput,
                      reads := σ.reads + (mid.length + 1) } := by
  have hi : σ.loc.idx = pre.length + 1 + mid.length := by
    rw [h.2, List.length_append, List.length_cons]; omega
  have hl : lineToks σ = some (pre ++ .kw .Input :: (mid ++ post)) := by
    rw [h.1, List.append_assoc, List.cons_append]
  rw [rewindAndAwaitInput_at hl (hi ▸ findInputBefore_mid pre mid post hmid), hi,
    show pre.length + 1 + mid.length - pre.length = mid.length + 1 by omega]

/-- what `evaluate_statement` emits before dispatching -/
def traceOut (σ : St F) : List Out :=
  if σ.tracing then
    match σ.loc.line with
    | some n => [.trace n]
    | none => []
  else []

theorem traceOut_off {σ : St F} (h : σ.tracing = false) : traceOut σ = [] := by
  simp only [traceOut, h, Bool.false_eq_true, ↓reduceIte]

theorem traceHere_eq (σ : St F) : traceHere σ = .ok () { σ with out := traceOut σ ++ σ.out } := by
  unfold traceHere traceOut
  simp only [bind, M.bindM, M.get]
  by_cases ht : σ.tracing = true
  · rw [if_pos ht, if_pos ht]
    cases hl : σ.loc.line with
    | none => rfl
    | some n => rfl
  · rw [if_neg ht, if_neg ht]; rfl

/-- more tokens follow on the line: only the read counter moves -/
theorem lineEndSt_more {σ : St F} {pre post : List (Token F)} {t : Token F} (h : At σ pre (t :: post)) :
    lineEndSt σ = mv σ 0 (σ.reads + 1) :=
  Turn.lineEndSt_more h.1 (Turn.at_tok h)

theorem state_running_eq {σ : St F} (h : σ.state = .running) : { σ with state := .running } = σ := by
  cases σ; simp only at h; subst h; rfl

variable [NumOps F]

theorem takeInput_none {σ : St F} (h : σ.input = none) : takeInput σ = .ok none σ := by
  simp only [takeInput, bind, M.bindM, M.get, h, pure, M.pureM]

/-- A statement with its first token `t` under the cursor: the trace record, then what `dispatch` does
    with `t` (`k`, found by `rfl`), behind `t`. -/
theorem stmtBody_at {ev : Evals F} {σ : St F} {pre post : List (Token F)} {t : Token F}
    (h : At σ pre (t :: post)) {k : Option (Token F) → M F Unit} (hk : dispatch ev = next >>= k) :
    stmtBody ev σ = k (some t) (mv ({ σ with out := traceOut σ ++ σ.out } : St F) 1 (σ.reads + 1)) := by
  unfold stmtBody
  rw [bind_ok (traceHere_eq σ), hk, bind_ok (next_eq (σ := { σ with out := traceOut σ ++ σ.out }) ⟨h.1, h.2⟩)]

/-- `continue_evaluating` of a running interpreter with the cursor on a token: the statement, then line
    sequencing (`Turn.turn_tok`; the state is marked running already) -/
theorem continue_eq {fuel : Nat} {σ : St F} {pre post : List (Token F)} {t : Token F}
    (hs : σ.state = .running) (h : At σ pre (t :: post)) :
    continueEvaluating fuel σ =
      postprocess (stmtBody (evalN fuel) >>= fun _ => Props.C09.sequence) (mv σ 0 (σ.reads + 1)) := by
  have hst : Props.C17.turnStart σ = mv σ 0 (σ.reads + 1) := by
    show mv { σ with state := .running } 0 (σ.reads + 1) = _
    rw [state_running_eq hs]
  rw [Props.C09.continue_is_one_turn fuel σ hs]
  unfold postprocess
  rw [Turn.turn_tok fuel h.1 (Turn.at_tok h), hst]

theorem rns_ok {fuel : Nat} {σ σ' : St F} {pre post pre' post' : List (Token F)} {t : Token F}
    (h : At σ pre (t :: post))
    (hst : stmtBody (evalN fuel) (Props.C17.turnStart σ) = .ok () σ') (h' : At σ' pre' post') :
    runNextStatement fuel σ = .ok () (lineEndSt σ') := by
  rw [Turn.turn_tok fuel h.1 (Turn.at_tok h), bind_ok hst]
  exact Turn.sequence_eq h'.1

theorem rns_ok_more {fuel : Nat} {σ σ' : St F} {pre post pre' post' : List (Token F)} {t t' : Token F}
    (h : At σ pre (t :: post))
    (hst : stmtBody (evalN fuel) (Props.C17.turnStart σ) = .ok () σ') (h' : At σ' pre' (t' :: post')) :
    runNextStatement fuel σ = .ok () (mv σ' 0 (σ'.reads + 1)) := by
  rw [rns_ok h hst h', lineEndSt_more h']

theorem continue_ok {fuel : Nat} {σ σ' : St F} {pre post pre' post' : List (Token F)} {t : Token F}
    (hs : σ.state = .running) (h : At σ pre (t :: post))
    (hst : stmtBody (evalN fuel) (mv σ 0 (σ.reads + 1)) = .ok () σ') (h' : At σ' pre' post') :
    continueEvaluating fuel σ = .ok () (lineEndSt σ') := by
  rw [continue_eq hs h]
  exact Props.C01.postprocess_of_ok (by rw [bind_ok hst]; exact Turn.sequence_eq h'.1)

theorem continue_ok_more {fuel : Nat} {σ σ' : St F} {pre post pre' post' : List (Token F)} {t t' : Token F}
    (hs : σ.state = .running) (h : At σ pre (t :: post))
    (hst : stmtBody (evalN fuel) (mv σ 0 (σ.reads + 1)) = .ok () σ') (h' : At σ' pre' (t' :: post')) :
    continueEvaluating fuel σ = .ok () (mv σ' 0 (σ'.reads + 1)) := by
  rw [continue_ok hs h hst h', lineEndSt_more h']

theorem parseLValue_scalar_at {ev : Evals F} {σ : St F} {pre rest : List (Token F)} {name : Str}
    (h : At σ pre (.symbol name :: rest))
    (hnp : ∀ t, rest.head? = some t → t.isKw .LeftParen = false) :
    parseLValue ev σ = .ok { name := name, index := none } (mv σ 1 (σ.reads + 1 + 1)) := by
  have ho : optionalArrayIndex ev (mv σ 1 (σ.reads + 1)) = .ok none (mv σ 1 (σ.reads + 1 + 1)) := by
    unfold optionalArrayIndex
    rw [bind_ok (peekIsKw_false .LeftParen (at_mv1 h _) hnp), mv_mv]
    rfl
  unfold parseLValue
  rw [bind_ok (next_eq h)]
  show (optionalArrayIndex ev >>= fun idx => pure ({ name := name, index := idx } : LValue)) _ = _
  rw [bind_ok ho]
  rfl

theorem parseLValue_array_at {ev : Evals F} {σ : St F} {pre post : List (Token F)} {name : Str}
    (h : At σ pre (.symbol name :: .kw .LeftParen :: post)) :
    parseLValue ev σ =
      (arrayIndex ev >>= fun idx => pure { name := name, index := some idx }) (mv σ 1 (σ.reads + 1 + 1)) := by
  have ho : optionalArrayIndex ev (mv σ 1 (σ.reads + 1)) =
      (arrayIndex ev >>= fun idx => pure (some idx)) (mv σ 1 (σ.reads + 1 + 1)) := by
    unfold optionalArrayIndex
    rw [bind_ok (peekIsKw_cons .LeftParen (at_mv1 h _)), mv_mv]
    rfl
  unfold parseLValue
  rw [bind_ok (next_eq h)]
  show (optionalArrayIndex ev >>= fun idx => pure ({ name := name, index := idx } : LValue)) _ = _
  cases hx : arrayIndex ev (mv σ 1 (σ.reads + 1 + 1)) with
  | ok idx s =>
    rw [bind_ok hx] at ho
    rw [bind_ok ho, bind_ok hx]
  | err e s =>
    rw [bind_err hx] at ho
    rw [bind_err ho, bind_err hx]

/-- `maybe_create_default_array` on the table -/
def ensureArrays (name : Str) (arity : Nat) (arrays : List (Str × ArrayV F)) :
    Except Err (List (Str × ArrayV F)) :=
  if alHas name arrays then .ok arrays
  else
    match ArrayV.create (F := F) name (List.replicate arity Extracted.defaultArraySize) with
    | .ok a => .ok (alSet name a arrays)
    | .error e => .error e

theorem ensureArray_eq (name : Str) (arity : Nat) (σ : St F) :
    ensureArray name arity σ =
      match ensureArrays name arity σ.arrays with
      | .ok arrs => .ok () { σ with arrays := arrs }
      | .error e => .err { err := e } σ := by
  unfold ensureArray ensureArrays
  simp only [bind, M.bindM, M.get]
  by_cases hh : alHas name σ.arrays = true
  · rw [if_pos hh, if_pos hh]; rfl
  · rw [if_neg hh, if_neg hh]
    cases ArrayV.create (F := F) name (List.replicate arity Extracted.defaultArraySize) <;> rfl

/-- writing cell `i` of an array with a value of its kind -/
def arrayStore (a : ArrayV F) (i : Nat) (v : Value F) : Option (ArrayV F) :=
  match a, v with
  | .strs dims cells, .str x => if i < cells.length then some (.strs dims (cells.set i x)) else none
  | .nums dims cells, .num x => if i < cells.length then some (.nums dims (cells.set i x)) else none
  | _, _ => none

/-- The array table after `name(idx) := v`, when the store succeeds: the value
    has the kind of the name, the array exists or is created with the default
    size and `idx.length` dimensions, the subscripts are within its bounds. -/
def storeCell (name : Str) (idx : List Nat) (v : Value F) (arrays : List (Str × ArrayV F)) :
    Option (List (Str × ArrayV F)) :=
  if v.matchesName name then
    match ensureArrays name idx.length arrays with
    | .error _ => none
    | .ok arrs =>
      match alGet name arrs with
      | none => none
      | some a =>
        match linearIndex idx a.dims with
        | .error _ => none
        | .ok i => (arrayStore a i v).map fun a' => alSet name a' arrs
  else none

theorem arraySet_storeCell (name : Str) (idx : List Nat) (v : Value F) (σ : St F) :
    match storeCell name idx v σ.arrays with
    | some arrs' => arraySet name idx v σ = .ok () { σ with arrays := arrs' }
    | none => ∀ σ', arraySet name idx v σ ≠ .ok () σ' := by
  unfold storeCell arraySet
  by_cases hm : v.matchesName name = true
  · simp only [hm, Bool.not_true, Bool.false_eq_true, ↓reduceIte]
    have hE := ensureArray_eq name idx.length σ
    cases he : ensureArrays name idx.length σ.arrays with
    | error e => rw [he] at hE; rw [bind_err hE]; exact fun _ h => nomatch h
    | ok arrs =>
      rw [he] at hE
      rw [bind_ok hE]
      simp only [bind, M.bindM, M.get]
      cases hg : alGet name arrs with
      | none => exact fun _ h => nomatch h
      | some a =>
        simp only
        cases a with
        | strs dims cells =>
          rw [show (ArrayV.strs (F := F) dims cells).dims = dims from rfl]
          cases v with
          | num x =>
            cases hl : linearIndex idx dims <;> simp only [arrayStore, Option.map_none] <;>
              exact fun _ h => nomatch h
          | str x =>
            cases hl : linearIndex idx dims with
            | error e => simp only [hl]; exact fun _ h => nomatch h
            | ok i =>
              simp only [hl, arrayStore]
              by_cases hi : i < cells.length
              · simp only [if_pos hi, Option.map_some]; rfl
              · simp only [if_neg hi, Option.map_none]; exact fun _ h => nomatch h
        | nums dims cells =>
          rw [show (ArrayV.nums (F := F) dims cells).dims = dims from rfl]
          cases v with
          | str x =>
            cases hl : linearIndex idx dims <;> simp only [arrayStore, Option.map_none] <;>
              exact fun _ h => nomatch h
          | num x =>
            cases hl : linearIndex idx dims with
            | error e => simp only [hl]; exact fun _ h => nomatch h
            | ok i =>
              simp only [hl, arrayStore]
              by_cases hi : i < cells.length
              · simp only [if_pos hi, Option.map_some]; rfl
              · simp only [if_neg hi, Option.map_none]; exact fun _ h => nomatch h
  · simp only [hm, Bool.false_eq_true, ↓reduceIte, Bool.not_false]
    exact fun _ h => nomatch h
theorem arraySet_of_storeCell (name : Str) (idx : List Nat) (v : Value F) (σ : St F)
    (arrs' : List (Str × ArrayV F)) (h : storeCell name idx v σ.arrays = some arrs') :
    arraySet name idx v σ = .ok () { σ with arrays := arrs' } := by
  have hC := arraySet_storeCell name idx v σ
  rw [h] at hC
  exact hC

theorem storeCell_of_arraySet (name : Str) (idx : List Nat) (v : Value F) (σ σ' : St F)
    (h : arraySet name idx v σ = .ok () σ') :
    ∃ arrs', storeCell name idx v σ.arrays = some arrs' ∧ σ' = { σ with arrays := arrs' } := by
  have hC := arraySet_storeCell name idx v σ
  cases hs : storeCell name idx v σ.arrays with
  | some arrs' =>
    rw [hs] at hC
    rw [hC] at h
    cases h
    exact ⟨arrs', rfl, rfl⟩
  | none =>
    rw [hs] at hC
    exact absurd h (hC σ')

def warnOut (name : Str) (σ : St F) : List Out :=
  if σ.warnings && !alHas name σ.arrays then
    [.warning ("Use of undeclared array '".toList ++ name ++ "'.".toList) σ.loc.line]
  else []

omit [NumOps F] in
theorem warnOut_off {name : Str} {σ : St F} (h : σ.warnings = false) : warnOut name σ = [] := by
  simp only [warnOut, h, Bool.false_and, Bool.false_eq_true, ↓reduceIte]

omit [NumOps F] in
theorem warnUndeclaredArray_eq (name : Str) (σ : St F) :
    warnUndeclaredArray name σ = .ok () { σ with out := warnOut name σ ++ σ.out } := by
  unfold warnUndeclaredArray warnOut
  simp only [bind, M.bindM, M.get]
  by_cases hw : (σ.warnings && !alHas name σ.arrays) = true
  · rw [if_pos hw, if_pos hw]
    have hw' : σ.warnings = true := by
      simp only [Bool.and_eq_true] at hw; exact hw.1
    simp only [warn, bind, M.bindM, M.get, hw', ↓reduceIte, emit, M.modify, List.cons_append, List.nil_append]
  · rw [if_neg hw, if_neg hw]; rfl

omit [NumOps F] in
theorem render_not_input : ∀ (e : Expr F), ∀ t ∈ render e, t.isKw .Input = false :=
  render_forall (fun _ => rfl) (fun _ => rfl) (fun _ => rfl) rfl rfl (fun op => by cases op <;> rfl)
    (fun op => by
      cases op with
      | cmp c => cases c <;> rfl
      | _ => rfl)

/-- the tokens of a subscript list, without the brackets -/
def renderSubs : List (Expr F) → List (Token F)
  | [] => []
  | [e] => render e
  | e :: e' :: es => render e ++ .kw .Comma :: renderSubs (e' :: es)

omit [NumOps F] in
theorem renderSubs_not_input : ∀ (subs : List (Expr F)), ∀ t ∈ renderSubs subs, t.isKw .Input = false
  | [] => by intro t ht; simp [renderSubs] at ht
  | [e] => by intro t ht; rw [renderSubs] at ht; exact render_not_input e t ht
  | e :: e' :: es => by
    intro t ht
    rw [renderSubs] at ht
    rcases List.mem_append.mp ht with ht | ht
    · exact render_not_input e t ht
    · rcases List.mem_cons.mp ht with rfl | ht
      · rfl
      · exact renderSubs_not_input (e' :: es) t ht

/-- the value of one subscript: a number whose `as i64` is not negative -/
def subVal (env : Str → Value F) (e : Expr F) : Option Nat :=
  match foldE env e with
  | .ok (.num x) => if NumOps.toI64 x < 0 then none else some (NumOps.toI64 x).toNat
  | _ => none

def subsVal (env : Str → Value F) : List (Expr F) → Option (List Nat)
  | [] => some []
  | e :: es =>
    match subVal env e, subsVal env es with
    | some i, some is => some (i :: is)
    | _, _ => none

/-- room for every subscript: fuel and nesting levels -/
def SubsFit (f : Nat) (σ : St F) (subs : List (Expr F)) : Prop :=
  ∀ e ∈ subs, depth e + 1 ≤ f ∧ σ.nesting + (depth e + 1) ≤ Extracted.nestingLimit

section full
open Abasic.ExprL2 Abasic.Names
open Abasic.ExprL3 (Inv upd)
open Abasic.Props.C06 (emb depthArgs_emb resolvedL_emb)
open Abasic.ExprG (envOf tracks_envOf main_plain)

omit [NumOps F] in
/-- INPUT's subscript lists are written as READ's and DIM's are -/
theorem renderSubs_eq : ∀ es : List (Expr F), renderSubs es = renderSubs2 es
  | [] => rfl
  | [e] => rfl
  | e :: e' :: es => by rw [renderSubs, renderSubs2.eq_3 e (e' :: es) (by simp), renderSubs_eq (e' :: es)]

/-- … and `subsVal` is the success of `foldSubs` -/
theorem foldSubs_of_subsVal {env : Str → Value F} : ∀ {es : List (Expr F)} {idx : List Nat},
    subsVal env es = some idx → foldSubs env es = .ok idx
  | [], _, h => by cases h; rfl
  | e :: es, idx, h => by
    rw [subsVal, subVal] at h
    rw [foldSubs, numE]
    cases hf : foldE env e with
    | error err => rw [hf] at h; cases h
    | ok v =>
      rw [hf] at h
      cases v with
      | str s => cases h
      | num x =>
        dsimp only at h ⊢
        by_cases hx : NumOps.toI64 x < 0
        · rw [if_pos hx] at h; cases h
        · rw [if_neg hx] at h ⊢
          cases hv : subsVal env es with
          | none => rw [hv] at h; cases h
          | some is => rw [hv] at h; cases h; rw [foldSubs_of_subsVal hv]

/-- **`evaluate_array_index` on `( e₁ , … , eₖ )`**: the folded subscripts; only the
    cursor and the read counter move.  (`ExprL3.arrayIndex_cons` on these trees, seen in the full language
    through `emb`, on any state: `Inv.plain`.) -/
theorem arrayIndex_render (f : Nat) (e : Expr F) (es : List (Expr F)) (σ : St F) (pre rest : List (Token F))
    (idx : List Nat)
    (hAt : At σ pre (.kw .LeftParen :: (renderSubs (e :: es) ++ .kw .RightParen :: rest))) (hq : Quiet σ)
    (hfit : SubsFit f σ (e :: es)) (hv : subsVal (getVar σ) (e :: es) = some idx) :
    ∃ r, σ.reads < r ∧
      arrayIndex (evalN f) σ = .ok idx (mv σ (1 + (renderSubs (e :: es)).length + 1) r) := by
  have hf : 1 ≤ f := by have := (hfit e List.mem_cons_self).1; omega
  have hnl : 1 ≤ Extracted.nestingLimit - σ.nesting := by have := (hfit e List.mem_cons_self).2; omega
  have h := ExprL3.arrayIndex_cons Inv.plain 0 (emb e) (es.map emb)
    (fun y hy => by
      obtain ⟨x, _, rfl⟩ := List.mem_map.mp (show y ∈ (e :: es).map emb from hy)
      exact (main_plain 0 x).1)
    f σ (envOf σ []) pre rest
    (depthArgs_emb _ 0 f hf (e :: es) fun x hx => (hfit x hx).1)
    (by
      have := depthArgs_emb (F := F) [] 0 (Extracted.nestingLimit - σ.nesting) hnl (e :: es)
        fun x hx => by have := (hfit x hx).2; omega
      have h2 := (hfit e List.mem_cons_self).2
      show σ.nesting + depthArgs [] 0 ((e :: es).map emb) ≤ _
      omega)
    (by rw [show emb e :: es.map emb = (e :: es).map emb from rfl, Stmt2L.renderArgs_emb, ← renderSubs_eq]; exact hAt)
    (tracks_envOf σ []) (resolvedL_emb _ (e :: es))
  rw [show emb e :: es.map emb = (e :: es).map emb from rfl, Stmt2L.foldIdx3_emb 0 (ExprG.quiet_of_nil hq.1 hq.2) e es,
    foldSubs_of_subsVal hv, Stmt2L.renderArgs_emb, ← renderSubs_eq] at h
  obtain ⟨r, hr, h⟩ := h
  refine ⟨r, hr, h.trans ?_⟩
  show Res.ok idx (upd σ _ r (envOf σ [])) = _
  rw [(tracks_envOf σ []).upd_eq]
  exact congrArg (Res.ok idx) (mv_congr _ _ (by omega))

end full

theorem ensureArrays_other {name : Str} {arity : Nat} {arrays arrs : List (Str × ArrayV F)}
    (h : ensureArrays name arity arrays = .ok arrs) (y : Str) (hy : y ≠ name) :
    alGet y arrs = alGet y arrays := by
  unfold ensureArrays at h
  by_cases hh : alHas name arrays = true
  · rw [if_pos hh] at h
    simp only [Except.ok.injEq] at h
    rw [h]
  · rw [if_neg hh] at h
    cases hc : ArrayV.create (F := F) name (List.replicate arity Extracted.defaultArraySize) with
    | error e => rw [hc] at h; cases h
    | ok a =>
      rw [hc] at h
      simp only [Except.ok.injEq] at h
      rw [← h, Props.C16.alGet_alSet_ne _ _ _ _ hy]

/-- what a successful `storeCell` did: the array existed or was created with the
    default size; cell `i` (the linear index of the subscripts) now holds the
    value; every other array is as before. -/
theorem storeCell_spec {name : Str} {idx : List Nat} {v : Value F} {arrays arrs' : List (Str × ArrayV F)}
    (h : storeCell name idx v arrays = some arrs') :
    v.matchesName name = true ∧
    ∃ arrs a i a', ensureArrays name idx.length arrays = .ok arrs ∧ alGet name arrs = some a ∧
      linearIndex idx a.dims = .ok i ∧ arrayStore a i v = some a' ∧
      arrs' = alSet name a' arrs ∧ alGet name arrs' = some a' ∧
      ∀ y, y ≠ name → alGet y arrs' = alGet y arrays := by
  unfold storeCell at h
  by_cases hm : v.matchesName name = true
  · rw [if_pos hm] at h
    refine ⟨hm, ?_⟩
    cases he : ensureArrays name idx.length arrays with
    | error e => rw [he] at h; cases h
    | ok arrs =>
      rw [he] at h
      cases hg : alGet name arrs with
      | none => simp only [hg] at h; cases h
      | some a =>
        simp only [hg] at h
        cases hl : linearIndex idx a.dims with
        | error e => simp only [hl] at h; cases h
        | ok i =>
          simp only [hl] at h
          cases hs : arrayStore a i v with
          | none => simp only [hs, Option.map_none] at h; cases h
          | some a' =>
            simp only [hs, Option.map_some, Option.some.injEq] at h
            refine ⟨arrs, a, i, a', rfl, hg, hl, hs, h.symm, ?_, ?_⟩
            · rw [← h, Props.C16.alGet_alSet_self]
            · intro y hy
              rw [← h, Props.C16.alGet_alSet_ne _ _ _ _ hy, ensureArrays_other he y hy]
  · rw [if_neg hm] at h; cases h

def arrayCell (a : ArrayV F) (i : Nat) : Option (Value F) :=
  match a with
  | .strs _ cells => cells[i]?.map Value.str
  | .nums _ cells => cells[i]?.map Value.num

omit [NumOps F] in
theorem arrayStore_cell {a a' : ArrayV F} {i : Nat} {v : Value F} (h : arrayStore a i v = some a') :
    arrayCell a' i = some v ∧ a'.dims = a.dims ∧ ∀ j, j ≠ i → arrayCell a' j = arrayCell a j := by
  unfold arrayStore at h
  cases a with
  | strs dims cells =>
    cases v with
    | num x => cases h
    | str x =>
      simp only at h
      by_cases hi : i < cells.length
      · rw [if_pos hi] at h
        simp only [Option.some.injEq] at h
        subst h
        refine ⟨?_, rfl, fun j hj => ?_⟩
        · simp only [arrayCell, List.getElem?_set_self hi, Option.map_some]
        · simp only [arrayCell, List.getElem?_set_ne (Ne.symm hj)]
      · rw [if_neg hi] at h; cases h
  | nums dims cells =>
    cases v with
    | str x => cases h
    | num x =>
      simp only at h
      by_cases hi : i < cells.length
      · rw [if_pos hi] at h
        simp only [Option.some.injEq] at h
        subst h
        refine ⟨?_, rfl, fun j hj => ?_⟩
        · simp only [arrayCell, List.getElem?_set_self hi, Option.map_some]
        · simp only [arrayCell, List.getElem?_set_ne (Ne.symm hj)]
      · rw [if_neg hi] at h; cases h

end Abasic.InputL
