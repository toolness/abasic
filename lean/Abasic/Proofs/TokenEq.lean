import Abasic.Token
/-
  Equality of tokens is decidable (the inductive types of Token.lean derive no `DecidableEq`): a token is
  coded as a sum of types that have it.  Used to check concrete token lists by evaluation.
-/
namespace Abasic.Props.C14
open Abasic

def dataCode {F : Type} : DataElement F → Sum Str F
  | .str s => .inl s
  | .num x => .inr x

theorem dataCode_inj {F : Type} (a b : DataElement F) (h : dataCode a = dataCode b) : a = b := by
  cases a <;> cases b <;> simp_all [dataCode]

instance instDecEqData {F : Type} [DecidableEq F] : DecidableEq (DataElement F) := fun a b =>
  decidable_of_iff (dataCode a = dataCode b) ⟨dataCode_inj a b, fun h => by rw [h]⟩

def tokCode {F : Type} : Token F → Sum Kw (Sum Str (Sum Str (Sum Str (Sum F (List (DataElement F))))))
  | .kw k => .inl k
  | .remark s => .inr (.inl s)
  | .symbol s => .inr (.inr (.inl s))
  | .str s => .inr (.inr (.inr (.inl s)))
  | .num x => .inr (.inr (.inr (.inr (.inl x))))
  | .data items => .inr (.inr (.inr (.inr (.inr items))))

theorem tokCode_inj {F : Type} (a b : Token F) (h : tokCode a = tokCode b) : a = b := by
  cases a <;> cases b <;> simp_all [tokCode]

set_option synthInstance.maxSize 1024 in
instance instDecEqToken {F : Type} [DecidableEq F] : DecidableEq (Token F) := fun a b =>
  decidable_of_iff (tokCode a = tokCode b) ⟨tokCode_inj a b, fun h => by rw [h]⟩

end Abasic.Props.C14
