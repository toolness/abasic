import Abasic.Lines
/- Helper lemmas about the two indexes of `Lines` (program_lines.rs). -/
namespace Abasic.Lines
variable {F : Type}

theorem getMap_cons (n k : Nat) (v : List (Token F)) (m : List (Nat × List (Token F))) :
    getMap n ((k, v) :: m) = if n = k then some v else getMap n m := by
  by_cases h : n = k
  · simp [getMap, h]
  · simp [getMap, h, Ne.symm h]

theorem getMap_setMap (n m : Nat) (v : List (Token F)) (l : List (Nat × List (Token F))) :
    getMap m (setMap n v l) = if m = n then some v else getMap m l := by
  induction l with
  | nil => exact getMap_cons m n v []
  | cons p rest ih =>
    obtain ⟨k, v'⟩ := p
    simp only [setMap]
    split
    · next hk =>
      cases eq_of_beq hk
      rw [getMap_cons, getMap_cons]
      by_cases h : m = n
      · simp only [if_pos h]
      · simp only [if_neg h]
    · next hk =>
      rw [getMap_cons, ih, getMap_cons]
      by_cases h : m = n
      · simp only [if_pos h, if_neg fun e : m = k => hk (beq_iff_eq.mpr (e.symm.trans h))]
      · simp only [if_neg h]

theorem getMap_eraseMap (n m : Nat) (l : List (Nat × List (Token F))) :
    getMap m (eraseMap n l) = if m = n then none else getMap m l := by
  induction l with
  | nil => exact (ite_self _).symm
  | cons p rest ih =>
    obtain ⟨k, v'⟩ := p
    simp only [eraseMap]
    split
    · next hk =>
      cases eq_of_beq hk
      rw [ih, getMap_cons]
      by_cases h : m = n
      · simp only [if_pos h]
      · simp only [if_neg h]
    · next hk =>
      rw [getMap_cons, ih, getMap_cons]
      by_cases h : m = n
      · simp only [if_pos h, if_neg fun e : m = k => hk (beq_iff_eq.mpr (e.symm.trans h))]
      · simp only [if_neg h]

theorem mem_insertSorted (n m : Nat) (l : List Nat) :
    m ∈ insertSorted n l ↔ m = n ∨ m ∈ l := by
  induction l with
  | nil => simp [insertSorted]
  | cons k rest ih =>
    simp only [insertSorted]
    split
    · simp
    · split
      · rename_i h1 h2
        have : n = k := by simpa using h2
        subst this
        simp
      · simp only [List.mem_cons, ih]
        exact or_left_comm

theorem sorted_insertSorted (n : Nat) (l : List Nat) (h : l.Pairwise (· < ·)) :
    (insertSorted n l).Pairwise (· < ·) := by
  induction l with
  | nil => simp [insertSorted]
  | cons k rest ih =>
    simp only [insertSorted]
    have hk := List.pairwise_cons.mp h
    split
    · rename_i hlt
      refine List.pairwise_cons.mpr ⟨?_, h⟩
      intro a ha
      rcases List.mem_cons.mp ha with rfl | ha
      · exact hlt
      · exact Nat.lt_trans hlt (hk.1 a ha)
    · split
      · exact h
      · rename_i h1 h2
        have hne : n ≠ k := by simpa using h2
        refine List.pairwise_cons.mpr ⟨?_, ih hk.2⟩
        intro a ha
        rcases (mem_insertSorted n a rest).mp ha with rfl | ha
        · omega
        · exact hk.1 a ha

theorem eraseSorted_eq_filter (n : Nat) (l : List Nat) : eraseSorted n l = l.filter (· != n) := by
  induction l with
  | nil => rfl
  | cons k rest ih => by_cases h : k = n <;> simp [eraseSorted, h, ih]

theorem mem_eraseSorted (n m : Nat) (l : List Nat) : m ∈ eraseSorted n l ↔ m ≠ n ∧ m ∈ l := by
  rw [eraseSorted_eq_filter, List.mem_filter, bne_iff_ne, and_comm]

theorem sorted_eraseSorted (n : Nat) (l : List Nat) (h : l.Pairwise (· < ·)) :
    (eraseSorted n l).Pairwise (· < ·) := by
  rw [eraseSorted_eq_filter]; exact h.filter _

theorem sorted_ext (a b : List Nat) (ha : a.Pairwise (· < ·)) (hb : b.Pairwise (· < ·))
    (h : ∀ x, x ∈ a ↔ x ∈ b) : a = b :=
  ((List.perm_ext_iff_of_nodup (ha.imp Nat.ne_of_lt) (hb.imp Nat.ne_of_lt)).2 h).eq_of_pairwise
    (fun _ _ _ _ h1 h2 => absurd h1 (Nat.lt_asymm h2)) ha hb

theorem afterList_find (n : Nat) (l : List Nat) : afterList n l = l.find? (fun k => decide (n < k)) := by
  induction l with
  | nil => rfl
  | cons k ks ih => by_cases h : n < k <;> simp [afterList, h, ih]

end Abasic.Lines
