import Lean.Meta.Tactic.Simp.RegisterCommand

/-- `WF.Good R T m` (Proofs/WF.lean) for the single functions `m` of the interpreter: where `good_auto` looks a
    callee up -/
register_simp_attr good

/-- `Keeps key m` for the single functions `m` of the analyzer: where `keeps` looks a step up -/
register_simp_attr keep

/-- `Sat E R m` for the single functions `m` of the two evaluators: where `w_auto` looks a bound action up -/
register_simp_attr sat

/-- `W.P m` for the single functions `m` of the analyzer's evaluator (Proofs/AWalk.lean): where `awalk` looks a callee up -/
register_simp_attr awalk
