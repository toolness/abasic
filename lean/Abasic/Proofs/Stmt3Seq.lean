import Abasic.Proofs.StmtCalc
import Abasic.Proofs.Stmt2Arrays
import Abasic.Proofs.Stmt3Frame
/-
  C03, full statement language — what expressions, numeric expressions and subscripts do, as rules of the
  calculus of Proofs/StmtCalc.lean (`Mid.expr`, `Mid.num`, `Mid.optIdx`: `expr_eq2` and `arrayIndex_agree` of
  Proofs/Expr2Lemmas.lean in terms of `Sync`), and the language a view speaks.

  The statement lemmas serve two languages.  A view of the full language (`p.full = true`) asks of the reference
  state what RND and the calls of user functions need (`Sync.exprs`), and its expressions are any trees.  A view
  of the small language holds statements of Ref/Stmt2.lean seen in the full one (`embS`): its expressions are
  trees of Ref/Expr.lean, which the evaluator handles in ANY state, so nothing is asked (`InLang`, and the second
  case of the three rules).
-/
set_option linter.unusedSectionVars false

namespace Abasic.Props.C06
open Abasic Abasic.Ref Abasic.ExprL Abasic.Stmt2L

variable {F : Type} [NumOps F]

/-- a statement of `RStmt2` outside `base` as a statement of `RStmt3`: none of them nests a statement, so `emb`
    on the expressions is all there is to it -/
def embS : RStmt2 F → RStmt3 F
  | .forS v a b c => .forS v (emb a) (emb b) (c.map emb)
  | .nextS v => .nextS v
  | .gosubS m => .gosubS m
  | .returnS => .returnS
  | .readS ts => .readS (ts.map .scalar)
  | .dataS items => .dataS items
  | .restoreS => .restoreS
  | .dimS name dims => .dimS name (dims.map emb)
  | .letCellS name idx e => .letCellS name (idx.map emb) (emb e)
  | .base _ => .endS

theorem renderRTargets_scalars : ∀ ts : List Str, renderRTargets (F := F) (ts.map .scalar) = renderTargets ts
  | [] => rfl
  | [_] => rfl
  | t :: t' :: ts => by
    have ih : renderRTargets (F := F) ((t' :: ts).map .scalar) = _ := renderRTargets_scalars (t' :: ts)
    simp only [List.map_cons, renderRTargets, renderTargets, RTarget.toks] at ih ⊢
    rw [ih]; rfl

theorem renderS3_embS (s : RStmt2 F) (hb : ∀ b, s ≠ .base b) : renderS3 (embS s) = renderS2 s := by
  cases s with
  | base b => exact absurd rfl (hb b)
  | forS v a b c => cases c <;> simp only [embS, Option.map, renderS3, renderS2, render2_emb]
  | readS ts => simp only [embS, renderS3, renderS2, renderRTargets_scalars]
  | _ => simp only [embS, renderS3, renderS2, render2_emb, renderArgs_emb]

theorem coveredB_embS (s : RStmt2 F) (hcov : s.Covered) : (embS s).isLine = false ∧ (embS s).CoveredB := by
  cases s with
  | gosubS m => exact ⟨rfl, hcov⟩
  | readS ts => exact ⟨rfl, fun h => hcov (List.map_eq_nil_iff.1 h)⟩
  | _ => exact ⟨rfl, trivial⟩

end Abasic.Props.C06

namespace Abasic.Stmt3L
open Abasic Abasic.ExprL M

variable {F : Type} [NumOps F]

theorem optIdx_some {ev : Evals F} {σ : St F} {pre post : List (Token F)}
    (hAt : At σ pre (.kw .LeftParen :: post)) :
    ∃ k, optionalArrayIndex ev σ = (arrayIndex ev >>= fun is => pure (some is)) (mv σ 0 k) := by
  refine ⟨σ.reads + 1, ?_⟩
  unfold optionalArrayIndex
  rw [bind_ok (peekIsKw_cons .LeftParen hAt)]
  have hk : (Token.kw (F := F) Kw.LeftParen).isKw Kw.LeftParen = true := rfl
  simp only [hk, ↓reduceIte]

section small
open Abasic.Ref Abasic.Props.C06

theorem lookupFrames_nil (x : Str) : ∀ k : List (Nat × Nat),
    lookupFrames x (k.map fun _ => ([] : List (Str × Value F))) = none
  | [] => rfl
  | _ :: k => by simp only [List.map_cons, lookupFrames, alGet]; exact lookupFrames_nil x k

/-- the frames of the GOSUB stack bind nothing -/
theorem lookup_env (r : RState3 F) : r.env.lookup = envOf r.vars := by
  funext x
  unfold RefEnv.lookup
  show (match lookupFrames x (r.rets.map fun _ => ([] : List (Str × Value F))) with | some v => v | none => _) = _
  rw [lookupFrames_nil]
  rfl

theorem evalE_emb (r : RState3 F) (e : Expr F) : evalE r (emb e) = (foldE (envOf r.vars) e).map fun v => (v, r) := by
  unfold evalE
  rw [fold2_emb, lookup_env]
  cases foldE (envOf r.vars) e <;> rfl

theorem numE3_emb (r : RState3 F) (e : Expr F) : numE3 r (emb e) = (numE (envOf r.vars) e).map fun x => (x, r) := by
  unfold numE3 numE
  rw [evalE_emb]
  cases foldE (envOf r.vars) e with
  | error err => rfl
  | ok v => cases v <;> rfl

theorem evalIdx_emb (r : RState3 F) (es : List (Expr F)) (hes : es ≠ []) :
    evalIdx r (es.map emb) = (foldSubs (envOf r.vars) es).map fun is => (is, r) := by
  cases es with
  | nil => exact absurd rfl hes
  | cons e es =>
    unfold evalIdx
    rw [List.map_cons, Stmt2L.foldIdx_emb, lookup_env]
    cases foldSubs (envOf r.vars) (e :: es) <;> rfl

theorem argsDepth_emb (fns : List (Str × FnDefSpec F)) (n : Nat) :
    ∀ es : List (Expr F), es ≠ [] → depthArgs fns n (es.map emb) = Stmt2L.argsDepth es
  | [], h => absurd rfl h
  | [e], _ => by
    rw [List.map_cons, ExprL2.depthArgs_cons, depth2_emb, List.map_nil, depthArgs]
    simp only [Stmt2L.argsDepth]; omega
  | e :: e' :: es, _ => by
    rw [List.map_cons, ExprL2.depthArgs_cons, depth2_emb, argsDepth_emb fns n (e' :: es) (by simp)]
    simp only [Stmt2L.argsDepth]

theorem fns_nil_of_link {σ : St F} (h : ExprL2.FnsLink σ []) : σ.fns = [] := by
  cases hfn : σ.fns with
  | nil => rfl
  | cons a rest =>
    have := h.undef a.1 rfl
    rw [hfn] at this
    simp [alGet] at this

end small

end Abasic.Stmt3L

namespace Abasic.Stmt3V
open Abasic Abasic.Ref Abasic.ExprL Abasic.ExprL2 Abasic.StmtL Abasic.ProgL Abasic.Prog3L Abasic.Stmt3L Abasic.Hoare M
open Abasic.Props.C06 (emb render2_emb depth2_emb embS)

variable {F : Type} [NumOps F]

section
variable {p : ProgView F} {σ τ : St F} {r0 r : RState3 F} {pre rest : List (Token F)}

/-- The statement `s` is one the view speaks of: any statement, for a view of the full language; for a view of the
    small language the image of a covered statement of Ref/Stmt2.lean, no function being defined. -/
def InLang (p : ProgView F) (r : RState3 F) (s : RStmt3 F) : Prop :=
  p.full = true ∨ (r.fns = [] ∧ ∃ s2 : RStmt2 F, s = embS s2 ∧ s2.Covered)

def InLangE (p : ProgView F) (r : RState3 F) (e : Expr2 F) : Prop :=
  p.full = true ∨ (r.fns = [] ∧ ∃ e0 : Expr F, e = emb e0)

def InLangL (p : ProgView F) (r : RState3 F) (idx : List (Expr2 F)) : Prop :=
  p.full = true ∨ (r.fns = [] ∧ ∃ es0 : List (Expr F), es0 ≠ [] ∧ idx = es0.map emb)

theorem InLang.full {s : RStmt3 F} (h : InLang p r s) (hs : ∀ s2 : RStmt2 F, s ≠ embS s2) : p.full = true :=
  h.elim id fun ⟨_, s2, h2, _⟩ => absurd h2 (hs s2)

theorem InLang.forS {v : Str} {a b : Expr2 F} {c : Option (Expr2 F)} (h : InLang p r (.forS v a b c)) :
    InLangE p r a ∧ InLangE p r b ∧ ∀ c1, c = some c1 → InLangE p r c1 := by
  rcases h with h | ⟨hf, s2, hs, _⟩
  · exact ⟨.inl h, .inl h, fun _ _ => .inl h⟩
  · cases s2 with
    | forS v' a' b' c' =>
      simp only [embS, RStmt3.forS.injEq] at hs
      obtain ⟨_, rfl, rfl, rfl⟩ := hs
      refine ⟨.inr ⟨hf, _, rfl⟩, .inr ⟨hf, _, rfl⟩, fun c1 hc => .inr ⟨hf, ?_⟩⟩
      cases c' with
      | none => cases hc
      | some c0 => cases hc; exact ⟨_, rfl⟩
    | _ => simp [embS] at hs

theorem InLang.dimS {name : Str} {dims : List (Expr2 F)} (h : InLang p r (.dimS name dims)) : InLangL p r dims := by
  rcases h with h | ⟨hf, s2, hs, hcov⟩
  · exact .inl h
  · cases s2 with
    | dimS name' dims' =>
      simp only [embS, RStmt3.dimS.injEq] at hs
      exact .inr ⟨hf, dims', hcov, hs.2⟩
    | _ => simp [embS] at hs

theorem InLang.letCellS {name : Str} {idx : List (Expr2 F)} {e : Expr2 F} (h : InLang p r (.letCellS name idx e)) :
    InLangL p r idx ∧ InLangE p r e := by
  rcases h with h | ⟨hf, s2, hs, hcov⟩
  · exact ⟨.inl h, .inl h⟩
  · cases s2 with
    | letCellS name' idx' e' =>
      simp only [embS, RStmt3.letCellS.injEq] at hs
      exact ⟨.inr ⟨hf, idx', hcov, hs.2.1⟩, .inr ⟨hf, e', hs.2.2⟩⟩
    | _ => simp [embS] at hs

theorem InLang.readS {ts : List (RTarget F)} (h : InLang p r (.readS ts)) :
    ∀ t ∈ ts, p.full = true ∨ ∃ x, t = .scalar x := by
  rcases h with h | ⟨hf, s2, hs, _⟩
  · exact fun _ _ => .inl h
  · cases s2 with
    | readS ts' =>
      simp only [embS, RStmt3.readS.injEq] at hs
      subst hs
      intro t ht
      obtain ⟨x, _, rfl⟩ := List.mem_map.mp ht
      exact .inr ⟨x, rfl⟩
    | _ => simp [embS] at hs

theorem findInStack_view {rets : List (Nat × Nat)} {stack : List (Frame F)} (h : Prog2L.Rel2 p.Ret rets stack)
    (sym : Str) : findInStack sym stack = none := by
  induction h with
  | nil => rfl
  | cons hd _ ih =>
    simp only [findInStack, hd.1, alGet]
    exact ih

theorem Mid.small (h : Mid p σ r0 r τ pre rest) (hnil : r0.fns = []) :
    τ.fns = [] ∧ ExprG.Quiet τ :=
  ⟨fns_nil_of_link (by have := h.sync.mem.fns; rwa [h.fns, hnil] at this),
    findInStack_view h.sync.mem.stack, h.sync.env.warnings⟩

/-- The expression interface.  For a view of the full language this is `expr_eq2`, on a state with the invariants
    RND and the calls need (`Sync.rel`); a tree of the small language is evaluated as `foldE` says in any state
    (`StmtG.expr_runs`). -/
theorem Mid.expr {α : Type} {e : Expr2 F} (h : Mid p σ r0 r τ pre (render2 e ++ rest)) (fuel : Nat)
    (hL : InLangE p r0 e) (hres : Resolved r0.fns e) (hd : edepth r0.fns e ≤ fuel)
    (hn : σ.nesting + edepth r0.fns e ≤ Extracted.nestingLimit) (hE : Ends 6 rest) (K : Value F → M F α) :
    Tracks p σ r0 (((evalN fuel).expr >>= K) τ) (evalE r e) (pre ++ render2 e) rest K := by
  have hS := h.sync
  rcases hL with hfull | ⟨hnil, e0, rfl⟩
  · have hf : r.env.fns = r0.fns := h.fns
    have hX := expr_eq2 callFuel e fuel τ r.env pre rest (by rw [hf]; exact hd) (by rw [hf, h.nesting]; exact hn)
      hE h.cur (hS.rel hfull) (by rw [hf]; exact hres)
    unfold evalE
    cases hev : fold2 callFuel r.env e with
    | error x =>
      rw [hev] at hX
      obtain ⟨te, σ', hσ', hx, hk⟩ := hX
      have hg := fold2_good callFuel e r.env x (by rw [frames_len]; exact (hS.exprs hfull).rets) (callFuel_ok _) hev
      refine ⟨hg.2, ErrFrom.start ⟨te, σ', bind_err hσ', hx, expr_err_out hS.env.warnings hσ', hk.2.2.1, hk.1, ?_⟩ h.start⟩
      exact inFn_of_locOK hk.2.2.2 (by rw [hx]; exact hg.2)
    | ok q =>
      obtain ⟨v, env'⟩ := q
      rw [hev] at hX
      obtain ⟨rd, _, hσ⟩ := hX
      exact ⟨_, bind_ok hσ, ⟨hS.put (fold2_step callFuel e r.env env' v hev) _ _, h.fns,
        h.start.trans (start_upd _ _ _ _), at_upd h.cur rd env'⟩⟩
  · obtain ⟨hτf, hq⟩ := h.small hnil
    have hde : edepth r0.fns (emb e0) = depth e0 + 1 := by unfold edepth; rw [depth2_emb]
    rw [hde] at hd hn
    have h' := h
    rw [render2_emb] at h' ⊢
    have hX := StmtG.expr_runs e0 fuel τ pre rest hd (by rw [h.nesting]; exact hn) hE h'.cur hq
    rw [evalE_emb, ← hS.mem.vars, ← getVar_eq_envOf]
    cases hfe : foldE (getVar τ) e0 with
    | error x =>
      rw [hfe] at hX
      obtain ⟨σ', hσ', hnest, hk⟩ := hX
      exact ⟨foldE_nd _ e0 hfe, ErrFrom.start (errFrom_fail (bind_err hσ') (hk hτf).2 (hk hτf).1 hnest) h.start⟩
    | ok v =>
      rw [hfe] at hX
      obtain ⟨k, _, hσ⟩ := hX
      exact ⟨_, bind_ok hσ, h'.past k⟩

theorem Mid.num {α : Type} {e : Expr2 F} (h : Mid p σ r0 r τ pre (render2 e ++ rest)) (fuel : Nat)
    (hL : InLangE p r0 e) (hres : Resolved r0.fns e) (hd : edepth r0.fns e ≤ fuel)
    (hn : σ.nesting + edepth r0.fns e ≤ Extracted.nestingLimit) (hE : Ends 6 rest) (K : F → M F α) :
    Tracks p σ r0 (((evalN fuel).expr >>= Stmt2L.numK K) τ) (numE3 r e) (pre ++ render2 e) rest K := by
  refine (h.expr fuel hL hres hd hn hE (Stmt2L.numK K)).andThen (fun err hx => by simp only [numE3, hx])
    fun v r1 τ1 hx hτ => ?_
  cases v with
  | str s =>
    have : numE3 r e = .error .typeMismatch := by simp only [numE3, hx]
    rw [this]
    exact ⟨by simp, hτ.fails (.refl _) rfl⟩
  | num x =>
    have : numE3 r e = .ok (x, r1) := by simp only [numE3, hx]
    rw [this]
    exact ⟨τ1, rfl, hτ⟩

/-- `( e₁ , … )` behind an array name: `arrayIndex_agree` for a view of the full language, `Stmt2L.optIdx_run` for
    subscripts of the small one -/
theorem Mid.optIdx {α : Type} {idx : List (Expr2 F)}
    (h : Mid p σ r0 r τ pre (.kw .LeftParen :: (renderArgs idx ++ (.kw .RightParen :: rest)))) (fuel : Nat)
    (hL : InLangL p r0 idx) (hres : ResolvedL r0.fns idx) (hd : depthArgs r0.fns callFuel idx ≤ fuel)
    (hn : σ.nesting + depthArgs r0.fns callFuel idx ≤ Extracted.nestingLimit) (K : Option (List Nat) → M F α) :
    Tracks p σ r0 ((optionalArrayIndex (evalN fuel) >>= K) τ) (evalIdx r idx)
      (pre ++ (Token.kw Kw.LeftParen :: (renderArgs idx ++ [Token.kw Kw.RightParen]))) rest (fun is => K (some is)) := by
  have hS := h.sync
  rcases hL with hfull | ⟨hnil, es0, hes, rfl⟩
  · obtain ⟨k, hk⟩ := optIdx_some (ev := evalN fuel) h.cur
    have hf : r.env.fns = r0.fns := h.fns
    have hX := arrayIndex_agree callFuel idx fuel (mv τ 0 k) r.env pre rest (by rw [hf]; exact hd)
      (by rw [hf]; show τ.nesting + _ ≤ _; rw [h.nesting]; exact hn) (at_mv0 h.cur k) ((hS.mv 0 k).rel hfull)
      (by rw [hf]; exact hres)
    have hst : Start σ (mv τ 0 k) := h.start.trans (start_mv _ _ _)
    unfold evalIdx
    cases hev : foldIdx callFuel r.env idx with
    | error x =>
      rw [hev] at hX
      obtain ⟨te, σ', hσ', hx, hk'⟩ := hX
      have hg := foldIdx_good callFuel idx r.env x (by rw [frames_len]; exact (hS.exprs hfull).rets) (callFuel_ok _) hev
      have hrun : (optionalArrayIndex (evalN fuel) >>= K) τ = .err te σ' := by
        rw [bind_at hk, ExprL.bind_assoc']; exact bind_err hσ'
      refine ⟨hg.2, ErrFrom.start (σ1 := mv τ 0 k)
        ⟨te, σ', hrun, hx, arrayIndex_err_out (σ := mv τ 0 k) hS.env.warnings hσ', hk'.2.2.1, hk'.1, ?_⟩ hst⟩
      exact inFn_of_locOK hk'.2.2.2 (by rw [hx]; exact hg.2)
    | ok q =>
      obtain ⟨is, env'⟩ := q
      rw [hev] at hX
      obtain ⟨rd, _, hσ⟩ := hX
      have hrun : optionalArrayIndex (evalN fuel) τ = .ok (some is) (upd (mv τ 0 k) ((renderArgs idx).length + 2) rd env') := by
        rw [hk, bind_ok hσ]; rfl
      refine ⟨_, bind_ok hrun, (hS.mv 0 k).put (foldIdx_step callFuel idx r.env env' is hev) _ _, h.fns,
        hst.trans (start_upd _ _ _ _), ?_⟩
      have hAt' : At (mv τ 0 k) pre ((Token.kw Kw.LeftParen :: (renderArgs idx ++ [Token.kw Kw.RightParen])) ++ rest) := by
        have := at_mv0 h.cur k
        simpa only [List.cons_append, List.append_assoc, List.nil_append] using this
      have := at_upd hAt' rd env'
      simpa only [List.length_cons, List.length_append, List.length_nil] using this
  · obtain ⟨hτf, hq⟩ := h.small hnil
    rw [argsDepth_emb _ _ es0 hes] at hd hn
    have h' := h
    rw [Stmt2L.renderArgs_emb] at h' ⊢
    have hX := Stmt2L.optIdx_run fuel es0 hes τ pre rest h'.cur hq hτf hd (by rw [h.nesting]; exact hn)
    rw [evalIdx_emb r es0 hes, ← hS.mem.vars, ← getVar_eq_envOf]
    cases hfe : foldSubs (getVar τ) es0 with
    | error x =>
      rw [hfe] at hX
      obtain ⟨hnd, σ', hσ', hnest, hl, ho⟩ := hX
      exact ⟨hnd, ErrFrom.start (errFrom_fail (bind_err hσ') ho hl hnest) h.start⟩
    | ok is =>
      rw [hfe] at hX
      obtain ⟨k, _, hσ⟩ := hX
      refine ⟨_, bind_ok hσ, ?_⟩
      have := (h'.at (pre' := pre) (rest' := (Token.kw Kw.LeftParen :: (renderSubs2 es0 ++ [Token.kw Kw.RightParen])) ++ rest)
        (by simpa only [List.cons_append, List.append_assoc, List.nil_append] using h'.cur)).past k
      simpa only [List.length_cons, List.length_append, List.length_nil, Nat.add_comm, Nat.add_left_comm] using this

end

end Abasic.Stmt3V
