import Abasic.Proofs.Data2Lemmas
import Abasic.Ref.Prog3
/-
  C03, full statement language — facts about the tokens of `render2` and `renderS3`:
  no `:`, no ELSE and no DATA token inside an expression; what an expression
  begins with; the DATA items among the tokens of a statement.
-/
set_option linter.unusedSectionVars false

namespace Abasic.Prog3L
open Abasic Abasic.Ref Abasic.ExprL Abasic.ExprL2 Abasic.StmtL Abasic.ProgL M
open Abasic.Prog2L (dataToks isData dataToks_append dataToks_cons_nodata dataToks_nodata)

variable {F : Type}

/-- a token that may occur inside an expression -/
def ETok (t : Token F) : Prop := isData t = false ∧ t.isKw .Colon = false ∧ t.isKw .Else = false

theorem etok_binop (op : BinOp) : ETok (Token.kw (F := F) (BinOp.token op)) := by
  cases op with
  | cmp c => cases c <;> exact ⟨rfl, rfl, rfl⟩
  | _ => exact ⟨rfl, rfl, rfl⟩

theorem etok_unop (op : UnOp) : ETok (Token.kw (F := F) (UnOp.token op)) := by
  cases op <;> exact ⟨rfl, rfl, rfl⟩

theorem etok_wrap {l : List (Token F)} (h : ∀ t ∈ l, ETok t) :
    ∀ t ∈ (Token.kw .LeftParen :: (l ++ [Token.kw .RightParen])), ETok t := by
  intro t ht
  simp only [List.mem_cons, List.mem_append, List.not_mem_nil, or_false] at ht
  rcases ht with rfl | ht | rfl
  · exact ⟨rfl, rfl, rfl⟩
  · exact h t ht
  · exact ⟨rfl, rfl, rfl⟩

theorem etok_call {l : List (Token F)} (name : Str) (h : ∀ t ∈ l, ETok t) :
    ∀ t ∈ (Token.symbol name :: Token.kw .LeftParen :: (l ++ [Token.kw .RightParen])), ETok t := by
  intro t ht
  rcases List.mem_cons.mp ht with rfl | ht
  · exact ⟨rfl, rfl, rfl⟩
  · exact etok_wrap h t ht

theorem etok_fixP2 (p : Nat) (e : Expr2 F) (h : ∀ t ∈ render2 e, ETok t) :
    ∀ t ∈ render2 (fixP2 p e), ETok t := by
  unfold fixP2; split
  · rw [render2_paren]; exact etok_wrap h
  · exact h

-- `Expr2` is nested through `List` (`cell`, `call`), which `induction e` does not handle: the induction is on a bound
-- `m` of `sizeOf`, and expressions and argument lists go together because each has the other inside. The arms differ
-- only in the constructor's own tokens; an operand under `fixP2` gains at most a pair of brackets (`etok_fixP2`).
theorem etok_all : ∀ m : Nat,
    (∀ e : Expr2 F, sizeOf e ≤ m → ∀ t ∈ render2 e, ETok t) ∧
    (∀ es : List (Expr2 F), sizeOf es ≤ m → ∀ t ∈ renderArgs es, ETok t) := by
  intro m
  induction m with
  | zero =>
    refine ⟨fun e he => ?_, fun es he => ?_⟩
    · cases e <;> simp at he
    · cases es <;> simp at he
  | succ m ih =>
    refine ⟨fun e he => ?_, fun es he => ?_⟩
    · cases e with
      | num x => intro t ht; rw [render2_num] at ht; simp only [List.mem_singleton] at ht; subst ht; exact ⟨rfl, rfl, rfl⟩
      | str s => intro t ht; rw [render2_str] at ht; simp only [List.mem_singleton] at ht; subst ht; exact ⟨rfl, rfl, rfl⟩
      | var n => intro t ht; rw [render2_var] at ht; simp only [List.mem_singleton] at ht; subst ht; exact ⟨rfl, rfl, rfl⟩
      | paren x =>
        rw [render2_paren]
        exact etok_wrap (ih.1 x (by simp only [Expr2.paren.sizeOf_spec] at he; omega))
      | abs x =>
        rw [render2_abs]
        exact etok_call _ (ih.1 x (by simp only [Expr2.abs.sizeOf_spec] at he; omega))
      | int x =>
        rw [render2_int]
        exact etok_call _ (ih.1 x (by simp only [Expr2.int.sizeOf_spec] at he; omega))
      | rnd x =>
        rw [render2_rnd]
        exact etok_call _ (ih.1 x (by simp only [Expr2.rnd.sizeOf_spec] at he; omega))
      | cell name idx =>
        rw [render2_cell]
        exact etok_call _ (ih.2 idx (by simp only [Expr2.cell.sizeOf_spec] at he; omega))
      | call g args =>
        rw [render2_call]
        exact etok_call _ (ih.2 args (by simp only [Expr2.call.sizeOf_spec] at he; omega))
      | un op x =>
        rw [render2_un]
        intro t ht
        rcases List.mem_cons.mp ht with rfl | ht
        · exact etok_unop op
        · exact etok_fixP2 8 x (ih.1 x (by simp only [Expr2.un.sizeOf_spec] at he; omega)) t ht
      | bin op l r =>
        rw [render2_bin]
        intro t ht
        rcases List.mem_append.mp ht with ht | ht
        · exact etok_fixP2 _ l (ih.1 l (by simp only [Expr2.bin.sizeOf_spec] at he; omega)) t ht
        · rcases List.mem_cons.mp ht with rfl | ht
          · exact etok_binop op
          · exact etok_fixP2 _ r (ih.1 r (by simp only [Expr2.bin.sizeOf_spec] at he; omega)) t ht
    · cases es with
      | nil => intro t ht; rw [renderArgs_nil] at ht; cases ht
      | cons e es' =>
        have h1 := ih.1 e (by simp only [List.cons.sizeOf_spec] at he; omega)
        cases es' with
        | nil => rw [renderArgs_one]; exact h1
        | cons e' es'' =>
          rw [renderArgs_cons]
          have h2 := ih.2 (e' :: es'') (by simp only [List.cons.sizeOf_spec] at he ⊢; omega)
          intro t ht
          rcases List.mem_append.mp ht with ht | ht
          · exact h1 t ht
          · rcases List.mem_cons.mp ht with rfl | ht
            · exact ⟨rfl, rfl, rfl⟩
            · exact h2 t ht

theorem etok_render2 (e : Expr2 F) : ∀ t ∈ render2 e, ETok t := (etok_all (sizeOf e)).1 e (Nat.le_refl _)

theorem etok_renderArgs (es : List (Expr2 F)) : ∀ t ∈ renderArgs es, ETok t :=
  (etok_all (sizeOf es)).2 es (Nat.le_refl _)

theorem render2_head_plain (e : Expr2 F) : ∃ t ts, render2 e = t :: ts ∧ Plain t := by
  suffices h : ∀ m (e : Expr2 F), sizeOf e ≤ m → ∃ t ts, render2 e = t :: ts ∧ Plain t from
    h _ e (Nat.le_refl _)
  intro m
  induction m with
  | zero => intro e he; cases e <;> simp at he
  | succ m ih =>
    intro e he
    cases e with
    | num x => exact ⟨_, _, render2_num x, rfl, rfl, rfl, rfl⟩
    | str s => exact ⟨_, _, render2_str s, rfl, rfl, rfl, rfl⟩
    | var n => exact ⟨_, _, render2_var n, rfl, rfl, rfl, rfl⟩
    | paren x => exact ⟨_, _, render2_paren x, rfl, rfl, rfl, rfl⟩
    | abs x => exact ⟨_, _, render2_abs x, rfl, rfl, rfl, rfl⟩
    | int x => exact ⟨_, _, render2_int x, rfl, rfl, rfl, rfl⟩
    | rnd x => exact ⟨_, _, render2_rnd x, rfl, rfl, rfl, rfl⟩
    | cell name idx => exact ⟨_, _, render2_cell name idx, rfl, rfl, rfl, rfl⟩
    | call g args => exact ⟨_, _, render2_call g args, rfl, rfl, rfl, rfl⟩
    | un op x => exact ⟨_, _, render2_un op x, by cases op <;> exact ⟨rfl, rfl, rfl, rfl⟩⟩
    | bin op l r =>
      rw [render2_bin]
      have hl : ∃ t ts, render2 (fixP2 (BinOp.prec op) l) = t :: ts ∧ Plain t := by
        unfold fixP2; split
        · exact ⟨_, _, render2_paren l, rfl, rfl, rfl, rfl⟩
        · exact ih l (by simp only [Expr2.bin.sizeOf_spec] at he; omega)
      obtain ⟨t, ts, hts, ht⟩ := hl
      exact ⟨t, ts ++ _, by rw [hts]; rfl, ht⟩

theorem render2_pos (e : Expr2 F) : 0 < (render2 e).length := by
  obtain ⟨t, ts, h, _⟩ := render2_head_plain e
  rw [h]; simp

variable [NumOps F]

theorem etok_items (items : List (PItem3 F)) : ∀ t ∈ renderItems3 items, isData t = false := by
  induction items with
  | nil => intro t ht; simp [renderItems3] at ht
  | cons i r ih =>
    intro t ht
    rw [renderItems3] at ht
    rcases List.mem_append.mp ht with ht | ht
    · cases i with
      | expr e => exact (etok_render2 e t ht).1
      | semi => simp only [PItem3.render, List.mem_singleton] at ht; subst ht; rfl
      | comma => simp only [PItem3.render, List.mem_singleton] at ht; subst ht; rfl
    · exact ih t ht

theorem nodata_targets (xs : List Str) : ∀ t ∈ renderTargets (F := F) xs, isData t = false :=
  Prog2L.nodata_targets xs

theorem etok_rtarget (t : RTarget F) : ∀ x ∈ t.toks, ETok x := by
  cases t with
  | scalar n => intro x hx; simp only [RTarget.toks, List.mem_singleton] at hx; subst hx; exact ⟨rfl, rfl, rfl⟩
  | cell name idx => exact etok_call name (etok_renderArgs idx)

theorem etok_rtargets (ts : List (RTarget F)) : ∀ x ∈ renderRTargets ts, ETok x := by
  induction ts with
  | nil => intro x hx; simp [renderRTargets] at hx
  | cons t rest ih =>
    cases rest with
    | nil => exact etok_rtarget t
    | cons t' rest' =>
      intro x hx
      rw [renderRTargets] at hx
      rcases List.mem_append.mp hx with hx | hx
      · exact etok_rtarget t x hx
      · rcases List.mem_cons.mp hx with rfl | hx
        · exact ⟨rfl, rfl, rfl⟩
        · exact ih x hx

theorem dataToks_expr (e : Expr2 F) : dataToks (render2 e) = [] :=
  dataToks_nodata fun t ht => (etok_render2 e t ht).1

theorem dataToks_args (es : List (Expr2 F)) : dataToks (renderArgs es) = [] :=
  dataToks_nodata fun t ht => (etok_renderArgs es t ht).1

theorem dataToks_cons_kw (k : Kw) (ts : List (Token F)) : dataToks (.kw k :: ts) = dataToks ts :=
  dataToks_cons_nodata ts rfl

theorem dataToks_cons_symbol (x : Str) (ts : List (Token F)) : dataToks (.symbol x :: ts) = dataToks ts :=
  dataToks_cons_nodata ts rfl

theorem dataToks_nil : dataToks ([] : List (Token F)) = [] := rfl

theorem dataToks_renderS3 : ∀ (s : RStmt3 F), dataToks (renderS3 s) = s.dataOf
  | .dataS items => by simp [renderS3, dataToks, RStmt3.dataOf]
  | .letS x e => by
    simp only [renderS3, dataToks_cons_kw, dataToks_cons_symbol, dataToks_expr, RStmt3.dataOf]
  | .printS items => by
    simp only [renderS3, dataToks_cons_kw, RStmt3.dataOf]
    exact dataToks_nodata (etok_items items)
  | .gotoS n => rfl
  | .endS => rfl
  | .lineS n => rfl
  | .ifS c t none => by
    simp only [renderS3, dataToks_cons_kw, dataToks_append, dataToks_expr, List.nil_append, RStmt3.dataOf]
    exact dataToks_renderS3 t
  | .ifS c t (some e) => by
    simp only [renderS3, dataToks_cons_kw, dataToks_append, dataToks_expr, List.nil_append, RStmt3.dataOf]
    rw [dataToks_renderS3 t, dataToks_renderS3 e]
  | .forS v a b none => by
    simp only [renderS3, dataToks_cons_kw, dataToks_cons_symbol, dataToks_append, dataToks_expr, List.nil_append,
      RStmt3.dataOf]
  | .forS v a b (some c) => by
    simp only [renderS3, dataToks_cons_kw, dataToks_cons_symbol, dataToks_append, dataToks_expr, List.nil_append,
      RStmt3.dataOf]
  | .nextS v => rfl
  | .gosubS n => rfl
  | .returnS => rfl
  | .readS ts => by
    simp only [renderS3, dataToks_cons_kw, RStmt3.dataOf]
    exact dataToks_nodata fun t ht => (etok_rtargets ts t ht).1
  | .restoreS => rfl
  | .dimS name dims => by
    simp only [renderS3, dataToks_cons_kw, dataToks_cons_symbol, dataToks_append, dataToks_args, List.nil_append,
      RStmt3.dataOf]
    rfl
  | .letCellS name idx e => by
    simp only [renderS3, dataToks_cons_kw, dataToks_cons_symbol, dataToks_append, dataToks_args, dataToks_expr,
      List.nil_append, RStmt3.dataOf]
  | .defS f ps body => by
    simp only [renderS3, dataToks_cons_kw, dataToks_cons_symbol, dataToks_append, dataToks_expr, RStmt3.dataOf,
      dataToks_nodata (nodata_targets ps), List.nil_append]

/-! ### no `:` and no ELSE inside a statement without ELSE -/

def NoCE (t : Token F) : Prop := t.isKw .Colon = false ∧ t.isKw .Else = false

theorem noce_expr (e : Expr2 F) : ∀ t ∈ render2 e, NoCE t := fun t ht => (etok_render2 e t ht).2

theorem noce_args (es : List (Expr2 F)) : ∀ t ∈ renderArgs es, NoCE t := fun t ht => (etok_renderArgs es t ht).2

theorem noce_items (items : List (PItem3 F)) : ∀ t ∈ renderItems3 items, NoCE t := by
  induction items with
  | nil => intro t ht; simp [renderItems3] at ht
  | cons i r ih =>
    intro t ht
    rw [renderItems3] at ht
    rcases List.mem_append.mp ht with ht | ht
    · cases i with
      | expr e => exact noce_expr e t ht
      | semi => simp only [PItem3.render, List.mem_singleton] at ht; subst ht; exact ⟨rfl, rfl⟩
      | comma => simp only [PItem3.render, List.mem_singleton] at ht; subst ht; exact ⟨rfl, rfl⟩
    · exact ih t ht

theorem noce_targets (xs : List Str) : ∀ t ∈ renderTargets (F := F) xs, NoCE t := by
  induction xs with
  | nil => intro t ht; simp [renderTargets] at ht
  | cons x rest ih =>
    cases rest with
    | nil => intro t ht; simp only [renderTargets, List.mem_singleton] at ht; subst ht; exact ⟨rfl, rfl⟩
    | cons x' rest' =>
      intro t ht
      simp only [renderTargets, List.mem_cons] at ht
      rcases ht with rfl | rfl | ht
      · exact ⟨rfl, rfl⟩
      · exact ⟨rfl, rfl⟩
      · exact ih t (by simpa only [renderTargets, List.mem_cons] using ht)

theorem noce_cons {t : Token F} {l : List (Token F)} (h : NoCE t) (hl : ∀ x ∈ l, NoCE x) : ∀ x ∈ t :: l, NoCE x := by
  intro x hx
  rcases List.mem_cons.mp hx with rfl | hx
  · exact h
  · exact hl x hx

theorem noce_append {a b : List (Token F)} (ha : ∀ x ∈ a, NoCE x) (hb : ∀ x ∈ b, NoCE x) : ∀ x ∈ a ++ b, NoCE x := by
  intro x hx
  rcases List.mem_append.mp hx with hx | hx
  · exact ha x hx
  · exact hb x hx

theorem noce_nil : ∀ x ∈ ([] : List (Token F)), NoCE x := fun _ h => by cases h

theorem renderS3_tokens : ∀ (s : RStmt3 F), s.elseFree = true → ∀ t ∈ renderS3 s, NoCE t
  | .letS x e, _ => by
    rw [renderS3]
    exact noce_cons ⟨rfl, rfl⟩ (noce_cons ⟨rfl, rfl⟩ (noce_cons ⟨rfl, rfl⟩ (noce_expr e)))
  | .printS items, _ => by rw [renderS3]; exact noce_cons ⟨rfl, rfl⟩ (noce_items items)
  | .gotoS n, _ => by rw [renderS3]; exact noce_cons ⟨rfl, rfl⟩ (noce_cons ⟨rfl, rfl⟩ noce_nil)
  | .endS, _ => by rw [renderS3]; exact noce_cons ⟨rfl, rfl⟩ noce_nil
  | .lineS n, _ => by rw [renderS3]; exact noce_cons ⟨rfl, rfl⟩ noce_nil
  | .ifS c t none, h => by
    rw [renderS3]
    exact noce_cons ⟨rfl, rfl⟩ (noce_append (noce_expr c) (noce_cons ⟨rfl, rfl⟩ (renderS3_tokens t h)))
  | .ifS c t (some e), h => by simp [RStmt3.elseFree] at h
  | .forS v a b none, _ => by
    rw [renderS3]
    exact noce_cons ⟨rfl, rfl⟩ (noce_cons ⟨rfl, rfl⟩ (noce_cons ⟨rfl, rfl⟩
      (noce_append (noce_expr a) (noce_cons ⟨rfl, rfl⟩ (noce_expr b)))))
  | .forS v a b (some c), _ => by
    rw [renderS3]
    exact noce_cons ⟨rfl, rfl⟩ (noce_cons ⟨rfl, rfl⟩ (noce_cons ⟨rfl, rfl⟩
      (noce_append (noce_expr a) (noce_cons ⟨rfl, rfl⟩ (noce_append (noce_expr b) (noce_cons ⟨rfl, rfl⟩ (noce_expr c)))))))
  | .nextS v, _ => by rw [renderS3]; exact noce_cons ⟨rfl, rfl⟩ (noce_cons ⟨rfl, rfl⟩ noce_nil)
  | .gosubS n, _ => by rw [renderS3]; exact noce_cons ⟨rfl, rfl⟩ (noce_cons ⟨rfl, rfl⟩ noce_nil)
  | .returnS, _ => by rw [renderS3]; exact noce_cons ⟨rfl, rfl⟩ noce_nil
  | .readS ts, _ => by rw [renderS3]; exact noce_cons ⟨rfl, rfl⟩ (fun t ht => (etok_rtargets ts t ht).2)
  | .dataS items, _ => by rw [renderS3]; exact noce_cons ⟨rfl, rfl⟩ noce_nil
  | .restoreS, _ => by rw [renderS3]; exact noce_cons ⟨rfl, rfl⟩ noce_nil
  | .dimS name dims, _ => by
    rw [renderS3]
    exact noce_cons ⟨rfl, rfl⟩ (noce_cons ⟨rfl, rfl⟩ (noce_cons ⟨rfl, rfl⟩
      (noce_append (noce_args dims) (noce_cons ⟨rfl, rfl⟩ noce_nil))))
  | .letCellS name idx e, _ => by
    rw [renderS3]
    exact noce_cons ⟨rfl, rfl⟩ (noce_cons ⟨rfl, rfl⟩ (noce_cons ⟨rfl, rfl⟩
      (noce_append (noce_args idx) (noce_cons ⟨rfl, rfl⟩ (noce_cons ⟨rfl, rfl⟩ (noce_expr e))))))
  | .defS f ps body, _ => by
    rw [renderS3]
    exact noce_cons ⟨rfl, rfl⟩ (noce_cons ⟨rfl, rfl⟩ (noce_cons ⟨rfl, rfl⟩
      (noce_append (noce_targets ps) (noce_cons ⟨rfl, rfl⟩ (noce_cons ⟨rfl, rfl⟩ (noce_expr body))))))

theorem closes_elseFree (s : RStmt3 F) (h : s.closes = true) : s.elseFree = true := by
  cases s <;> first | rfl | simp [RStmt3.closes] at h

end Abasic.Prog3L
