import Abasic.Ref.Expr2
import Abasic.Proofs.ExprCursor
import Abasic.Proofs.WF
import Abasic.Proofs.ArrOk
import Abasic.Proofs.CallBody
/-
  What the proof of `eval_render2` needs that does not depend on how the
  reference environment is related to the interpreter state:

  * `render2` constructor by constructor, with the operand parenthesised where its precedence asks
    (`fixP2`), the tier of a tree (`lv2`) and its left spine (`spine2`);
  * the frame of `fold2` (`Step`: only `arrays` and `rng` change, and they stay
    well-formed), and the errors `fold2` can end in (`fold2_good`);
  * the agreement predicate `Agrees2`, generic in the type of the environment
    and in what is claimed of a failing state, with its sequencing rules;
  * what the evaluator does on a closing parenthesis and in the body of a call
    (`pushed`, for `XF.callBody_eq`; the cell of a found array: Proofs/ArrayCells.lean).

  At the end, in `Props.C06`: the trees of `Expr` among those of `Expr2` (`emb`), rendered and folded alike
  (`render2_emb`, `fold2_emb`).
-/
set_option linter.unusedSectionVars false

namespace Abasic.ExprL2
open Abasic Abasic.Ref M Abasic.ExprL

variable {F : Type}

/-- what `renderAt2 p` renders -/
def fixP2 (p : Nat) (e : Expr2 F) : Expr2 F := if e.prec < p then .paren e else e

theorem render2_num (x : F) : render2 (.num x : Expr2 F) = [.num x] := by rw [render2]
theorem render2_str (s : Str) : render2 (.str s : Expr2 F) = [.str s] := by rw [render2]
theorem render2_var (n : Str) : render2 (.var n : Expr2 F) = [.symbol n] := by rw [render2]

theorem render2_paren (e : Expr2 F) :
    render2 (.paren e) = .kw .LeftParen :: (render2 e ++ [.kw .RightParen]) := by
  rw [render2]; rfl

theorem renderAt2_eq (p : Nat) (e : Expr2 F) : renderAt2 p e = render2 (fixP2 p e) := by
  rw [renderAt2]; unfold fixP2
  split
  · rw [render2_paren]; rfl
  · rfl

theorem render2_bin (op : BinOp) (l r : Expr2 F) :
    render2 (.bin op l r) =
      render2 (fixP2 (BinOp.prec op) l) ++ .kw (BinOp.token op) :: render2 (fixP2 (BinOp.prec op + 1) r) := by
  rw [render2, renderAt2_eq, renderAt2_eq]

theorem render2_un (op : UnOp) (e : Expr2 F) :
    render2 (.un op e) = .kw (UnOp.token op) :: render2 (fixP2 8 e) := by
  rw [render2, renderAt2_eq]

theorem render2_abs (e : Expr2 F) :
    render2 (.abs e) = .symbol Extracted.builtinAbs.toList :: .kw .LeftParen :: (render2 e ++ [.kw .RightParen]) := by
  rw [render2]; rfl

theorem render2_int (e : Expr2 F) :
    render2 (.int e) = .symbol Extracted.builtinInt.toList :: .kw .LeftParen :: (render2 e ++ [.kw .RightParen]) := by
  rw [render2]; rfl

theorem render2_rnd (e : Expr2 F) :
    render2 (.rnd e) = .symbol Extracted.builtinRnd.toList :: .kw .LeftParen :: (render2 e ++ [.kw .RightParen]) := by
  rw [render2]; rfl

theorem render2_cell (name : Str) (idx : List (Expr2 F)) :
    render2 (.cell name idx) = .symbol name :: .kw .LeftParen :: (renderArgs idx ++ [.kw .RightParen]) := by
  rw [render2]; rfl

theorem render2_call (f : Str) (args : List (Expr2 F)) :
    render2 (.call f args) = .symbol f :: .kw .LeftParen :: (renderArgs args ++ [.kw .RightParen]) := by
  rw [render2]; rfl

theorem renderArgs_nil : renderArgs ([] : List (Expr2 F)) = [] := by rw [renderArgs]
theorem renderArgs_one (e : Expr2 F) : renderArgs [e] = render2 e := by rw [renderArgs]
theorem renderArgs_cons (e e' : Expr2 F) (es : List (Expr2 F)) :
    renderArgs (e :: e' :: es) = render2 e ++ .kw .Comma :: renderArgs (e' :: es) := by rw [renderArgs]

def argsTail : List (Expr2 F) → List (Token F)
  | [] => []
  | e :: es => .kw .Comma :: renderArgs (e :: es)

theorem renderArgs_eq (e : Expr2 F) (es : List (Expr2 F)) : renderArgs (e :: es) = render2 e ++ argsTail es := by
  cases es with
  | nil => rw [renderArgs_one]; exact (List.append_nil _).symm
  | cons e' es' => exact renderArgs_cons e e' es'

theorem prec2_bounds (e : Expr2 F) : 1 ≤ e.prec ∧ e.prec ≤ 8 := by
  cases e <;> simp [Expr2.prec]
  exact ⟨(prec_op_bounds _).1, by have := (prec_op_bounds ‹_›).2; omega⟩

/-- tier index, as `ExprL.lv` -/
def lv2 (e : Expr2 F) : Nat := 7 - e.prec

theorem prec_fixP2 (p : Nat) (e : Expr2 F) (hp : p ≤ 8) : p ≤ (fixP2 p e).prec := by
  unfold fixP2; split
  · simp [Expr2.prec]; exact hp
  · omega

theorem prec_fixP2_8 (x : Expr2 F) : (fixP2 8 x).prec = 8 := by
  have h1 := prec_fixP2 8 x (Nat.le_refl _)
  have h2 := prec2_bounds (fixP2 8 x)
  omega

theorem lv_fixP2_left (op : BinOp) (l : Expr2 F) : lv2 (fixP2 (BinOp.prec op) l) ≤ 6 - BinOp.prec op + 1 := by
  have := prec_op_bounds op
  have := prec_fixP2 (BinOp.prec op) l (by omega)
  unfold lv2; omega

theorem lv_fixP2_right (op : BinOp) (r : Expr2 F) : lv2 (fixP2 (BinOp.prec op + 1) r) ≤ 6 - BinOp.prec op := by
  have := prec_op_bounds op
  have := prec_fixP2 (BinOp.prec op + 1) r (by omega)
  unfold lv2; omega

theorem render2_length_fixP2 (p : Nat) (e : Expr2 F) : (render2 e).length ≤ (render2 (fixP2 p e)).length := by
  unfold fixP2; split
  · rw [render2_paren]; simp only [List.length_cons, List.length_append]; omega
  · exact Nat.le_refl _

/-- number of operators of tier `k` on the left spine of `e` -/
def spine2 (k : Nat) : Expr2 F → Nat
  | .bin op l _ => if 6 - BinOp.prec op = k then spine2 k l + 1 else 0
  | _ => 0

theorem spine2_zero {k : Nat} {e : Expr2 F} (h : lv2 e ≤ k) : spine2 k e = 0 := by
  cases e with
  | bin op l r =>
    have := prec_op_bounds op
    simp only [lv2, Expr2.prec] at h
    simp only [spine2]
    rw [if_neg]; omega
  | _ => rfl

theorem spine2_fixP2 (op : BinOp) (l : Expr2 F) :
    spine2 (6 - BinOp.prec op) (fixP2 (BinOp.prec op) l) = spine2 (6 - BinOp.prec op) l := by
  unfold fixP2; split
  · rename_i h
    have := prec_op_bounds op
    cases l with
    | bin op' a b =>
      have := prec_op_bounds op'
      simp only [Expr2.prec] at h
      simp only [spine2]
      rw [if_neg]; omega
    | _ => rfl
  · rfl

theorem spine2_le (k : Nat) : ∀ e : Expr2 F, spine2 k e ≤ (render2 e).length
  | .bin op l r => by
    simp only [spine2]
    split
    · rw [render2_bin]
      have := render2_length_fixP2 (BinOp.prec op) l
      have := spine2_le k l
      simp only [List.length_append, List.length_cons]; omega
    · omega
  | .num _ | .str _ | .var _ | .paren _ | .abs _ | .int _ | .rnd _ | .cell _ _ | .call _ _ | .un _ _ => by
    simp only [spine2]; omega

theorem atom_head (e : Expr2 F) (h : e.prec = 8) :
    ∃ t ts, render2 e = t :: ts ∧ UnOp.ofToken t = none ∧ t.isKw .RightParen = false := by
  cases e with
  | num x => exact ⟨_, _, render2_num x, rfl, rfl⟩
  | str s => exact ⟨_, _, render2_str s, rfl, rfl⟩
  | var n => exact ⟨_, _, render2_var n, rfl, rfl⟩
  | paren x => exact ⟨_, _, render2_paren x, rfl, rfl⟩
  | abs x => exact ⟨_, _, render2_abs x, rfl, rfl⟩
  | int x => exact ⟨_, _, render2_int x, rfl, rfl⟩
  | rnd x => exact ⟨_, _, render2_rnd x, rfl, rfl⟩
  | cell name idx => exact ⟨_, _, render2_cell name idx, rfl, rfl⟩
  | call g args => exact ⟨_, _, render2_call g args, rfl, rfl⟩
  | un op x => simp [Expr2.prec] at h
  | bin op l r => have := prec_op_bounds op; simp only [Expr2.prec] at h; omega

theorem atom_head2 (e : Expr2 F) (h : e.prec = 8) :
    ∃ t ts, render2 e = t :: ts ∧ UnOp.ofToken t = none :=
  let ⟨t, ts, h1, h2, _⟩ := atom_head e h; ⟨t, ts, h1, h2⟩

theorem render2_head : ∀ e : Expr2 F, ∃ t ts, render2 e = t :: ts ∧ t.isKw .RightParen = false
  | .un op x => ⟨_, _, render2_un op x, by cases op <;> rfl⟩
  | .bin op l r => by
    rw [render2_bin]
    have hl : ∃ t ts, render2 (fixP2 (BinOp.prec op) l) = t :: ts ∧ t.isKw .RightParen = false := by
      unfold fixP2; split
      · exact ⟨_, _, render2_paren l, rfl⟩
      · exact render2_head l
    obtain ⟨t, ts, hts, ht⟩ := hl
    exact ⟨t, ts ++ _, by rw [hts]; rfl, ht⟩
  | .num _ | .str _ | .var _ | .paren _ | .abs _ | .int _ | .rnd _ | .cell _ _ | .call _ _ =>
    let ⟨t, ts, h1, _, h2⟩ := atom_head _ rfl; ⟨t, ts, h1, h2⟩

theorem renderArgs_length (es : List (Expr2 F)) : es.length ≤ (renderArgs es).length := by
  induction es with
  | nil => simp
  | cons e es ih =>
    obtain ⟨t, ts, hts, _⟩ := render2_head e
    cases es with
    | nil => rw [renderArgs_one, hts]; simp
    | cons e' es' =>
      rw [renderArgs_cons, hts]
      simp only [List.length_cons, List.length_append] at ih ⊢
      omega

theorem opsAt_comma (i : Nat) : opsAt (F := F) i (.kw .Comma) = none := by
  rcases i with _ | _ | _ | _ | _ | _ | j <;> rfl

theorem ends_comma (j : Nat) (rest : List (Token F)) : Ends j (.kw .Comma :: rest) := by
  intro t ht
  simp only [List.head?_cons, Option.some.injEq] at ht
  subst ht
  exact ⟨rfl, fun i _ => opsAt_comma i⟩

theorem ends_argsTail (es : List (Expr2 F)) (rest : List (Token F)) :
    Ends 6 (argsTail es ++ .kw .RightParen :: rest) := by
  cases es with
  | nil => exact ends_rparen 6 rest
  | cons e es => exact ends_comma 6 _

theorem length_call_tokens (t1 t2 t3 : Token F) (l : List (Token F)) :
    (t1 :: t2 :: (l ++ [t3])).length = l.length + 3 := by
  simp only [List.length_cons, List.length_append, List.length_nil]

theorem expect_fail {σ : St F} {pre post : List (Token F)} {t : Token F} {k : Kw}
    (h : At σ pre (t :: post)) (hk : t.isKw k = false) :
    expect k σ = .err { err := .syntax (.expectedToken k) } (mv σ 1 (σ.reads + 1)) := by
  unfold expect
  rw [bind_ok (nextUnwrapped_eq h)]
  simp only [hk, Bool.false_eq_true, ↓reduceIte]
  rfl

theorem alSet_cons {β : Type} (k : Str) (v : β) (l : List (Str × β)) : ∃ x xs, alSet k v l = x :: xs := by
  cases l with
  | nil => exact ⟨_, _, rfl⟩
  | cons p ps =>
    obtain ⟨k', v'⟩ := p
    simp only [alSet]
    split
    · exact ⟨_, _, rfl⟩
    · exact ⟨_, _, rfl⟩

abbrev pushed (σ : St F) (b : List (Str × Value F)) (line idx : Nat) : St F :=
  { σ with stack := { ret := σ.loc, vars := b } :: σ.stack, loc := { line := some line, idx := idx } }

/-- where an error raised during an expression is located: nowhere yet (the
    enclosing statement's `populate` will put it just before the cursor of the
    final state), or — when it arose in the body of a user function, where the
    call has already populated it — on the line of a function definition.
    (The middle case never applies to an expression: `fold2_good`.) -/
def LocOK (σ : St F) (te : TErr) : Prop :=
  te.loc = none ∨ te.err = .dataTypeMismatch ∨
    ∃ (l : Loc) (name : Str) (fd : FnDef), te.loc = some l ∧ alGet name σ.fns = some fd ∧ l.line = some fd.line

def Keeps (σ : St F) (te : TErr) (σ' : St F) : Prop :=
  σ'.nesting = σ.nesting ∧ σ'.stack = σ.stack ∧ σ'.loc.line = σ.loc.line ∧ LocOK σ te

theorem Keeps.refl (σ : St F) (e : Err) : Keeps σ { err := e } σ := ⟨rfl, rfl, rfl, Or.inl rfl⟩

/-- agreement of a run with the spec's result: on a value, the run is the
    continuation `k` applied to it, to the new environment and to some larger
    read counter; on an error, the run fails with that error, in a state of which
    `K` holds (`Keeps` in the statements about all trees) -/
def Agrees2 {α β E : Type} (K : St F → TErr → St F → Prop) (res : Res F α) (ev : Except Err (β × E)) (σ : St F)
    (k : β → E → Nat → Res F α) : Prop :=
  match ev with
  | .ok p => ∃ r, σ.reads < r ∧ res = k p.1 p.2 r
  | .error x => ∃ te σ', res = .err te σ' ∧ te.err = x ∧ K σ te σ'

theorem Agrees2.fail {α β E : Type} {res : Res F α} {σ σ' : St F} {x : Err} {k : β → E → Nat → Res F α}
    (h : res = .err { err := x } σ') (hn : σ'.nesting = σ.nesting := by rfl) (hs : σ'.stack = σ.stack := by rfl)
    (hl : σ'.loc.line = σ.loc.line := by rfl) : Agrees2 Keeps res (.error x : Except Err (β × E)) σ k :=
  ⟨_, σ', h, rfl, hn, hs, hl, Or.inl rfl⟩

/-- the run continues with `f` on a value; an error of the first action passes through -/
theorem Agrees2.seq {K : St F → TErr → St F → Prop} {α α' β E : Type} {m : M F α'} {f : α' → M F α} {σ₁ σ : St F}
    {ev : Except Err (β × E)} {g : β → E → α'} {s : β → E → Nat → St F}
    (h : Agrees2 K (m σ₁) ev σ (fun b env r => .ok (g b env) (s b env r))) :
    Agrees2 K ((m >>= f) σ₁) ev σ (fun b env r => f (g b env) (s b env r)) := by
  cases ev with
  | error x => obtain ⟨te, σ', h1, h2⟩ := h; exact ⟨te, σ', bind_err h1, h2⟩
  | ok p => obtain ⟨r, hr, h1⟩ := h; exact ⟨r, hr, bind_ok h1⟩

/-- the spec continues with `f` on a value, seen from `σ`, an earlier state of the same run -/
theorem Agrees2.andThen {K : St F → TErr → St F → Prop} {α β β' E E' : Type} {res : Res F α}
    {ev : Except Err (β × E)} {f : β × E → Except Err (β' × E')} {σ₁ σ : St F} {k : β → E → Nat → Res F α}
    {k' : β' → E' → Nat → Res F α} (h : Agrees2 K res ev σ₁ k) (hK : ∀ {te σ'}, K σ₁ te σ' → K σ te σ')
    (hk : ∀ b env r, ev = .ok (b, env) → σ₁.reads < r → Agrees2 K (k b env r) (f (b, env)) σ k') :
    Agrees2 K res (ev >>= f) σ k' := by
  cases ev with
  | error x => obtain ⟨te, σ', h1, h2, h3⟩ := h; exact ⟨te, σ', h1, h2, hK h3⟩
  | ok p => obtain ⟨r, hr, rfl⟩ := h; exact hk p.1 p.2 r rfl hr

/-- the same run seen from `σ`, with the continuation rewritten -/
theorem Agrees2.mono {K : St F → TErr → St F → Prop} {α β E : Type} {res : Res F α} {ev : Except Err (β × E)}
    {σ₁ σ : St F} {k k' : β → E → Nat → Res F α} (h : Agrees2 K res ev σ₁ k)
    (hK : ∀ {te σ'}, K σ₁ te σ' → K σ te σ')
    (hk : ∀ b env r, ev = .ok (b, env) → σ₁.reads < r → ∃ r', σ.reads < r' ∧ k b env r = k' b env r') :
    Agrees2 K res ev σ k' := by
  cases ev with
  | error x => obtain ⟨te, σ', h1, h2, h3⟩ := h; exact ⟨te, σ', h1, h2, hK h3⟩
  | ok p => obtain ⟨r, hr, rfl⟩ := h; exact hk p.1 p.2 r rfl hr

variable [NumOps F]

theorem fold2_paren (n : Nat) (env : RefEnv F) (e : Expr2 F) : fold2 n env (.paren e) = fold2 n env e := by
  rw [fold2]

theorem fold2_fixP2 (n : Nat) (env : RefEnv F) (p : Nat) (e : Expr2 F) :
    fold2 n env (fixP2 p e) = fold2 n env e := by
  unfold fixP2; split
  · exact fold2_paren n env e
  · rfl

theorem depth2_fixP2 (fns : List (Str × FnDefSpec F)) (n p : Nat) (e : Expr2 F) :
    depth2 fns n (fixP2 p e) = if e.prec < p then depth2 fns n e + 1 else depth2 fns n e := by
  unfold fixP2; split
  · rw [depth2]
  · rfl

theorem depth2_bin (fns : List (Str × FnDefSpec F)) (n : Nat) (op : BinOp) (l r : Expr2 F) :
    depth2 fns n (.bin op l r) =
      max (depth2 fns n (fixP2 (BinOp.prec op) l)) (depth2 fns n (fixP2 (BinOp.prec op + 1) r)) := by
  rw [depth2_fixP2, depth2_fixP2, depth2]

theorem depth2_un (fns : List (Str × FnDefSpec F)) (n : Nat) (op : UnOp) (e : Expr2 F) :
    depth2 fns n (.un op e) = depth2 fns n (fixP2 8 e) := by
  rw [depth2_fixP2, depth2]

theorem resolved_fixP2 (fns : List (Str × FnDefSpec F)) (p : Nat) (e : Expr2 F) :
    Resolved fns (fixP2 p e) ↔ Resolved fns e := by
  unfold fixP2; split
  · simp only [Resolved]
  · exact Iff.rfl

theorem depth2_paren (fns : List (Str × FnDefSpec F)) (n : Nat) (e : Expr2 F) :
    depth2 fns n (.paren e) = depth2 fns n e + 1 := by rw [depth2]
theorem depth2_abs (fns : List (Str × FnDefSpec F)) (n : Nat) (e : Expr2 F) :
    depth2 fns n (.abs e) = depth2 fns n e + 1 := by rw [depth2]
theorem depth2_int (fns : List (Str × FnDefSpec F)) (n : Nat) (e : Expr2 F) :
    depth2 fns n (.int e) = depth2 fns n e + 1 := by rw [depth2]
theorem depth2_rnd (fns : List (Str × FnDefSpec F)) (n : Nat) (e : Expr2 F) :
    depth2 fns n (.rnd e) = depth2 fns n e + 1 := by rw [depth2]

theorem depth2_cell (fns : List (Str × FnDefSpec F)) (n : Nat) (name : Str) (idx : List (Expr2 F)) :
    depth2 fns n (.cell name idx) = depthArgs fns n idx := by rw [depth2]

theorem depthArgs_cons (fns : List (Str × FnDefSpec F)) (n : Nat) (e : Expr2 F) (es : List (Expr2 F)) :
    depthArgs fns n (e :: es) = max (depth2 fns n e + 1) (depthArgs fns n es) := by rw [depthArgs]

theorem depthArgs_pos (fns : List (Str × FnDefSpec F)) (n : Nat) (es : List (Expr2 F)) :
    1 ≤ depthArgs fns n es := by
  cases es with
  | nil => rw [depthArgs]; exact Nat.le_refl _
  | cons e es => rw [depthArgs_cons]; omega

theorem depth2_call_some (fns : List (Str × FnDefSpec F)) (n' : Nat) (g : Str) (args : List (Expr2 F))
    (d : FnDefSpec F) (h : alGet g fns = some d) :
    depth2 fns (n' + 1) (.call g args) = max (depthArgs fns (n' + 1) args) (depth2 fns n' d.body + 1) := by
  rw [depth2]; exact h

theorem depth2_call_ge (fns : List (Str × FnDefSpec F)) (n : Nat) (g : Str) (args : List (Expr2 F)) :
    depthArgs fns n args ≤ depth2 fns n (.call g args) := by
  rw [depth2.eq_def]; exact Nat.le_max_left _ _

def ArrLen (arrays : List (Str × ArrayV F)) : Prop :=
  ∀ name a, alGet name arrays = some a → a.cellCount = Props.C16.prod a.dims

structure Step (env env' : RefEnv F) : Prop where
  vars : env'.vars = env.vars
  frames : env'.frames = env.frames
  fns : env'.fns = env.fns
  arrs : ArrLen env.arrays → ArrLen env'.arrays
  rng : env.rng < Extracted.rngModulus → env'.rng < Extracted.rngModulus

theorem Step.refl (env : RefEnv F) : Step env env := ⟨rfl, rfl, rfl, id, id⟩

theorem Step.trans {a b c : RefEnv F} (h1 : Step a b) (h2 : Step b c) : Step a c :=
  ⟨h2.vars.trans h1.vars, h2.frames.trans h1.frames, h2.fns.trans h1.fns,
   fun h => h2.arrs (h1.arrs h), fun h => h2.rng (h1.rng h)⟩

theorem readCell_step (env env' : RefEnv F) (name : Str) (is : List Nat) (v : Value F)
    (h : readCell env name is = .ok (v, env')) : Step env env' := by
  unfold readCell at h
  split at h
  · split at h
    · cases h
    · cases h; exact Step.refl _
  · split at h
    · cases h
    · rename_i hget a hc
      split at h
      · cases h
      · cases h
        refine ⟨rfl, rfl, rfl, fun hl n' a' hn' => ?_, id⟩
        by_cases hn : n' = name
        · subst hn
          rw [Props.C16.alGet_alSet_self] at hn'
          cases hn'
          exact (Props.C16.create_arrOk _ _ _ hc).cells_len
        · rw [Props.C16.alGet_alSet_ne _ _ _ _ hn] at hn'
          exact hl n' a' hn'

theorem rngStep_lt (s : Nat) : rngStep s < Extracted.rngModulus := by
  unfold rngStep
  exact Nat.mod_lt _ (by decide)

theorem rndStep_step (env env' : RefEnv F) (x : F) (v : Value F)
    (h : rndStep env x = .ok (v, env')) : Step env env' := by
  unfold rndStep at h
  split at h
  · cases h
  · split at h
    · cases h; exact Step.refl _
    · cases h
      exact ⟨rfl, rfl, rfl, id, fun _ => rngStep_lt _⟩

/-! ### the errors of the spec: never OUT OF FUEL (when the fuel exceeds the room
      left on the stack), never DATA TYPE MISMATCH -/

def GoodErr (x : Err) : Prop := x ≠ .outOfFuel ∧ x ≠ .dataTypeMismatch

theorem good_lit {x : Err} (h1 : x ≠ .outOfFuel := by simp) (h2 : x ≠ .dataTypeMismatch := by simp) :
    GoodErr x := ⟨h1, h2⟩

theorem unop_good (op : UnOp) (v : Value F) (x : Err) (h : op.eval v = .error x) : GoodErr x := by
  rw [ArrayL.unop_err h]; exact good_lit

theorem binop_good (op : BinOp) (a b : Value F) (x : Err) (h : op.eval a b = .error x) : GoodErr x := by
  rcases ArrayL.binop_err h with rfl | rfl <;> exact good_lit

theorem readAt_good (a : ArrayV F) (is : List Nat) (x : Err) (h : readAt a is = .error x) : GoodErr x := by
  unfold readAt at h
  split at h
  · rename_i e hl
    cases h
    rw [ArrayL.linearIndex_err hl]; exact good_lit
  · cases a <;> cases h

theorem create_good (name : Str) (idx : List Nat) (x : Err)
    (h : ArrayV.create (F := F) name idx = .error x) : GoodErr x := by
  rcases ArrayL.create_err h with rfl | rfl <;> exact good_lit

theorem readCell_good (env : RefEnv F) (name : Str) (is : List Nat) (x : Err)
    (h : readCell env name is = .error x) : GoodErr x := by
  unfold readCell at h
  split at h
  · split at h
    · rename_i e he
      cases h
      exact readAt_good _ _ _ he
    · cases h
  · split at h
    · rename_i e he
      cases h
      exact create_good _ _ _ he
    · split at h
      · rename_i e he
        cases h
        exact readAt_good _ _ _ he
      · cases h

theorem rndStep_good (env : RefEnv F) (y : F) (x : Err) (h : rndStep env y = .error x) : GoodErr x := by
  unfold rndStep at h
  split at h
  · cases h; exact good_lit
  · split at h <;> cases h

theorem subscript_good (v : Value F) (x : Err) (h : subscript v = .error x) : GoodErr x := by
  cases v with
  | str s => simp only [subscript] at h; cases h; exact good_lit
  | num z =>
    simp only [subscript] at h
    split at h
    · cases h; exact good_lit
    · cases h

def Framed {α : Type} (n : Nat) (env : RefEnv F) : Except Err (α × RefEnv F) → Prop
  | .ok p => Step env p.2
  | .error x => env.frames.length ≤ Extracted.stackLimit → Extracted.stackLimit < n + env.frames.length → GoodErr x

theorem Framed.cases {α : Type} {n : Nat} {env : RefEnv F} {r : Except Err (α × RefEnv F)} (h : Framed n env r) :
    (∃ x, r = .error x ∧ Framed (α := α) n env (.error x)) ∨ ∃ a env1, r = .ok (a, env1) ∧ Step env env1 := by
  cases r with
  | error x => exact .inl ⟨x, rfl, h⟩
  | ok p => exact .inr ⟨p.1, p.2, rfl, h⟩

theorem Framed.of {α : Type} {n : Nat} {env : RefEnv F} {r : Except Err (α × RefEnv F)}
    (hs : ∀ a env', r = .ok (a, env') → Step env env') (hg : ∀ x, r = .error x → GoodErr x) : Framed n env r := by
  cases r with
  | error x => exact fun _ _ => hg x rfl
  | ok p => exact hs p.1 p.2 rfl

theorem Framed.of_good {α : Type} {n : Nat} {env : RefEnv F} {x : Err} (h : GoodErr x) :
    Framed (α := α) n env (.error x) := fun _ _ => h

theorem Framed.after {α : Type} {n : Nat} {env env1 : RefEnv F} {r : Except Err (α × RefEnv F)}
    (hs : Step env env1) (h : Framed n env1 r) : Framed n env r := by
  cases r with
  | error x => exact fun h1 h2 => h (hs.frames ▸ h1) (hs.frames ▸ h2)
  | ok p => exact hs.trans h

def BodiesFramed (F : Type) [NumOps F] (n : Nat) : Prop :=
  ∀ n' < n, ∀ (e : Expr2 F) (env : RefEnv F), Framed n' env (fold2 n' env e)

/- Induction on the tree for fixed fuel `n`; a call evaluates the body with fuel `n - 1`: `ih`. -/
mutual
theorem fold2_framed_tree : ∀ (e : Expr2 F) (n : Nat) (_ : BodiesFramed F n) (env : RefEnv F),
    Framed n env (fold2 n env e)
  | .num _, n, ih, env | .str _, n, ih, env | .var _, n, ih, env => by rw [fold2]; exact Step.refl _
  | .paren e, n, ih, env => by rw [fold2]; exact fold2_framed_tree e n ih env
  | .un op e, n, ih, env => by
    rcases (fold2_framed_tree e n ih env).cases with ⟨x, h1, hx⟩ | ⟨v, env1, h1, hs⟩ <;> simp only [fold2, h1]
    · exact hx
    · cases hu : op.eval v with
      | error x => exact .of_good (unop_good _ _ _ hu)
      | ok w => exact hs
  | .bin op l r, n, ih, env => by
    rcases (fold2_framed_tree l n ih env).cases with ⟨x, h1, hx⟩ | ⟨a, env1, h1, hs⟩ <;> simp only [fold2, h1]
    · exact hx
    refine .after hs ?_
    rcases (fold2_framed_tree r n ih env1).cases with ⟨x, h2, hx⟩ | ⟨b, env2, h2, hs2⟩ <;> simp only [h2]
    · exact hx
    · cases hu : op.eval a b with
      | error x => exact .of_good (binop_good _ _ _ _ hu)
      | ok w => exact hs2
  | .abs e, n, ih, env | .int e, n, ih, env => by
    rcases (fold2_framed_tree e n ih env).cases with ⟨x, h1, hx⟩ | ⟨v, env1, h1, hs⟩ <;> simp only [fold2, h1]
    · exact hx
    · cases v with
      | str s => exact .of_good good_lit
      | num y => exact hs
  | .rnd e, n, ih, env => by
    rcases (fold2_framed_tree e n ih env).cases with ⟨x, h1, hx⟩ | ⟨v, env1, h1, hs⟩ <;> simp only [fold2, h1]
    · exact hx
    · cases v with
      | str s => exact .of_good good_lit
      | num y => exact .after hs (.of (fun v env' => rndStep_step env1 env' y v) (rndStep_good env1 y))
  | .cell name idx, n, ih, env => by
    rcases (foldIdx_framed_tree idx n ih env).cases with ⟨x, h1, hx⟩ | ⟨is, env1, h1, hs⟩ <;> simp only [fold2, h1]
    · exact hx
    · exact .after hs (.of (fun v env' => readCell_step env1 env' name is v) (readCell_good env1 name is))
  | .call g args, n, ih, env => by
    rw [fold2]
    split
    · rcases (foldIdx_framed_tree args n ih env).cases with ⟨x, h1, hx⟩ | ⟨is, env1, h1, hs⟩ <;> simp only [h1]
      · exact hx
      · exact .after hs (.of (fun v env' => readCell_step env1 env' g is v) (readCell_good env1 g is))
    next d _ =>
      rcases (bindArgs2_framed_tree args n ih env d.params []).cases with ⟨x, h1, hx⟩ | ⟨b, env1, h1, hs⟩ <;>
        simp only [h1]
      · exact hx
      refine .after hs ?_
      split
      · exact .of_good good_lit
      next hl =>
        have hne : env1.frames.length ≠ Extracted.stackLimit := by simpa using hl
        cases n with
        | zero => exact fun _ _ => by omega
        | succ n' =>
          -- the body runs in the frame of its arguments; the caller's frames come back afterwards
          rcases (ih n' (Nat.lt_succ_self n') d.body { env1 with frames := b :: env1.frames }).cases with
            ⟨x, h2, hx⟩ | ⟨v, env2, h2, hs2⟩ <;> simp only [h2]
          · exact fun _ _ => hx (by simp only [List.length_cons]; omega) (by simp only [List.length_cons]; omega)
          · exact ⟨hs2.vars, rfl, hs2.fns, hs2.arrs, hs2.rng⟩
theorem foldIdx_framed_tree : ∀ (es : List (Expr2 F)) (n : Nat) (_ : BodiesFramed F n) (env : RefEnv F),
    Framed n env (foldIdx n env es)
  | [], n, ih, env => by rw [foldIdx]; exact .of_good good_lit
  | e :: es, n, ih, env => by
    rcases (fold2_framed_tree e n ih env).cases with ⟨x, h1, hx⟩ | ⟨v, env1, h1, hs⟩ <;> rw [foldIdx, h1]
    · exact hx
    simp only
    cases hsub : subscript v with
    | error x => exact .of_good (subscript_good _ _ hsub)
    | ok i =>
      cases es with
      | nil => exact hs
      | cons e' es' =>
        refine .after hs ?_
        rcases (foldIdx_framed_tree (e' :: es') n ih env1).cases with ⟨x, h2, hx⟩ | ⟨is, env2, h2, hs2⟩ <;>
          simp only [h2]
        · exact hx
        · exact hs2
theorem bindArgs2_framed_tree : ∀ (as : List (Expr2 F)) (n : Nat) (_ : BodiesFramed F n) (env : RefEnv F)
    (ps : List Str) (acc : List (Str × Value F)), Framed n env (bindArgs2 n env ps as acc)
  | [], n, ih, env, [], acc => by rw [bindArgs2]; exact Step.refl _
  | [], n, ih, env, p :: ps, [] | [], n, ih, env, p :: ps, _ :: _ | a :: as, n, ih, env, [], acc => by
    rw [bindArgs2]; exact .of_good good_lit
  | a :: as, n, ih, env, p :: ps, acc => by
    rcases (fold2_framed_tree a n ih env).cases with ⟨x, h1, hx⟩ | ⟨v, env1, h1, hs⟩ <;> simp only [bindArgs2, h1]
    · exact hx
    split
    · exact .after hs (bindArgs2_framed_tree as n ih env1 ps _)
    · exact .of_good good_lit
end

theorem fold2_framed (n : Nat) : ∀ (e : Expr2 F) (env : RefEnv F), Framed n env (fold2 n env e) := by
  induction n using Nat.strongRecOn with
  | _ n ih => exact fun e => fold2_framed_tree e n ih

theorem foldIdx_framed (n : Nat) (es : List (Expr2 F)) (env : RefEnv F) : Framed n env (foldIdx n env es) :=
  foldIdx_framed_tree es n (fun n' _ => fold2_framed n') env

theorem bindArgs2_framed (n : Nat) (as : List (Expr2 F)) (env : RefEnv F) (ps : List Str)
    (acc : List (Str × Value F)) : Framed n env (bindArgs2 n env ps as acc) :=
  bindArgs2_framed_tree as n (fun n' _ => fold2_framed n') env ps acc

theorem fold2_step (n : Nat) (e : Expr2 F) (env env' : RefEnv F) (v : Value F)
    (h : fold2 n env e = .ok (v, env')) : Step env env' := by
  have := fold2_framed n e env; rwa [h] at this

theorem foldIdx_step (n : Nat) (es : List (Expr2 F)) (env env' : RefEnv F) (is : List Nat)
    (h : foldIdx n env es = .ok (is, env')) : Step env env' := by
  have := foldIdx_framed n es env; rwa [h] at this

theorem bindArgs2_step (n : Nat) (as : List (Expr2 F)) (env env' : RefEnv F) (ps : List Str)
    (acc b : List (Str × Value F)) (h : bindArgs2 n env ps as acc = .ok (b, env')) : Step env env' := by
  have := bindArgs2_framed n as env ps acc; rwa [h] at this

theorem fold2_good (k : Nat) (e : Expr2 F) (env : RefEnv F) (x : Err)
    (h1 : env.frames.length ≤ Extracted.stackLimit) (h2 : Extracted.stackLimit < k + env.frames.length)
    (h : fold2 k env e = .error x) : GoodErr x := by
  have := fold2_framed k e env; rw [h] at this; exact this h1 h2

theorem foldIdx_good (k : Nat) (es : List (Expr2 F)) (env : RefEnv F) (x : Err)
    (h1 : env.frames.length ≤ Extracted.stackLimit) (h2 : Extracted.stackLimit < k + env.frames.length)
    (h : foldIdx k env es = .error x) : GoodErr x := by
  have := foldIdx_framed k es env; rw [h] at this; exact this h1 h2

def numOf {E : Type} : Value F × E → Except Err (F × E)
  | (.str _, _) => .error .typeMismatch
  | (.num y, env1) => .ok (y, env1)

def numArg {E : Type} (ev : Except Err (Value F × E)) : Except Err (F × E) := ev >>= numOf

theorem numArg_eq {E : Type} (ev : Except Err (Value F × E)) : numArg ev = ev >>= numOf := rfl

theorem findInStack_eq (name : Str) (stack : List (Frame F)) :
    findInStack name stack = lookupFrames name (stack.map (·.vars)) := by
  induction stack with
  | nil => rfl
  | cons fr rest ih =>
    simp only [findInStack, List.map_cons, lookupFrames, ih]
    cases alGet name fr.vars <;> rfl

theorem rnd_pos (x : F) (s : St F) (hs : s.rng < Extracted.rngModulus)
    (hneg : NumOps.lt x NumOps.zero = false) (hz : NumOps.eq x NumOps.zero = false) :
    rnd x s = .ok (rngValue (rngStep s.rng)) { s with rng := rngStep s.rng } := by
  have hs' : s.rng < 2 ^ 33 := Props.C18.constants.1 ▸ hs
  rw [Props.C18.rnd_positive x s hs' hneg hz, ← Props.C18.step_is_lcg]

theorem expr_rparen (f : Nat) (σ : St F) (pre rest : List (Token F)) (hf : 1 ≤ f)
    (hn : σ.nesting < Extracted.nestingLimit) (hAt : At σ pre (.kw .RightParen :: rest)) :
    ∃ te σ', (evalN f).expr σ = .err te σ' ∧ te.err = .syntax .unexpectedToken ∧ Keeps σ te σ' := by
  obtain ⟨f', rfl⟩ : ∃ f', f = f' + 1 := ⟨f - 1, by omega⟩
  have key : ∀ τ : St F, At τ pre (.kw .RightParen :: rest) →
      unaryExpr (evalN f') τ = .err { err := .syntax .unexpectedToken } (mv τ 1 (τ.reads + 1 + 1 + 1)) := by
    intro τ hτ
    unfold unaryExpr
    rw [bind_ok (tryNext_none hτ (fun t' ht' => by
      simp only [List.head?_cons, Option.some.injEq] at ht'; subst ht'; rfl))]
    have hτ1 := at_mv0 hτ (τ.reads + 1)
    refine bind_err ?_
    unfold parenExpr
    rw [bind_ok (accept_false hτ1 rfl)]
    simp only [Bool.false_eq_true, ↓reduceIte]
    unfold term
    rw [bind_ok (nextUnwrapped_eq (at_mv0 hτ1 _)), mv_mv, mv_mv]
    rfl
  exact ⟨_, _, expr_err_of_unary f' σ _ _ hn rfl (key _ (at_nest hAt _)), rfl, rfl, rfl, rfl, Or.inl rfl⟩

theorem parenExpr_named (ev : Evals F) {σ : St F} {pre rest : List (Token F)} {name : Str}
    (hAt : At σ pre (.symbol name :: .kw .LeftParen :: rest)) :
    parenExpr ev σ = (do
      match ← functionCall ev name with
      | some v => pure v
      | none =>
        let idx ← arrayIndex ev
        warnUndeclaredArray name
        arrayGet name idx : M F (Value F)) (mv σ 1 (σ.reads + 1 + 1 + 1)) := by
  unfold parenExpr
  rw [bind_ok (accept_false hAt rfl)]
  simp only [Bool.false_eq_true, ↓reduceIte]
  unfold term
  rw [bind_ok (nextUnwrapped_eq (at_mv0 hAt _)), mv_mv]
  simp only [mv_reads, Nat.zero_add]
  rw [bind_ok (peekIsKw_cons .LeftParen (at_mv1 hAt _)), mv_mv]
  rfl

theorem functionCall_unreserved (ev : Evals F) (name : Str) (h : reserved name = false) :
    functionCall ev name = userFunctionCall ev name := by
  unfold reserved at h
  simp only [Bool.or_eq_false_iff] at h
  unfold functionCall
  simp only [h.1.1, h.1.2, h.2, Bool.false_eq_true, ↓reduceIte]

variable [NumOps F]

theorem bindArgs2_good : ∀ (k : Nat) (as : List (Expr2 F)) (env : RefEnv F) (ps : List Str)
    (acc : List (Str × Value F)) (x : Err),
    env.frames.length ≤ Extracted.stackLimit → Extracted.stackLimit < k + env.frames.length →
    bindArgs2 k env ps as acc = .error x → GoodErr x := fun k as env ps acc x h1 h2 h => by
  have := bindArgs2_framed k as env ps acc; rw [h] at this; exact this h1 h2

end Abasic.ExprL2

namespace Abasic.Props.C06
open Abasic Abasic.Ref Abasic.ExprL Abasic.ExprL2

variable {F : Type}

/-- the trees of `Expr` among those of the full language `Expr2` -/
def emb : Expr F → Expr2 F
  | .num x => .num x
  | .str s => .str s
  | .var n => .var n
  | .un op e => .un op (emb e)
  | .bin op l r => .bin op (emb l) (emb r)
  | .paren e => .paren (emb e)
  | .abs e => .abs (emb e)
  | .int e => .int (emb e)

theorem prec_emb (e : Expr F) : (emb e).prec = e.prec := by
  cases e <;> rfl

theorem fixP2_emb (p : Nat) (e : Expr F) : fixP2 p (emb e) = emb (fixP p e) := by
  unfold fixP2 fixP
  rw [prec_emb]
  split <;> rfl

theorem render2_emb (e : Expr F) : render2 (emb e) = render e := by
  have fix : ∀ (p : Nat) (x : Expr F), render2 (emb x) = render x →
      render2 (fixP2 p (emb x)) = render (fixP p x) := by
    intro p x ih
    unfold fixP2 fixP
    rw [prec_emb]
    split
    · rw [render2_paren, render_paren, ih]
    · exact ih
  induction e with
  | num x => rw [emb, render2_num, render_num]
  | str s => rw [emb, render2_str, render_str]
  | var n => rw [emb, render2_var, render_var]
  | un op e ih => rw [emb, render2_un, render_un, fix 8 e ih]
  | bin op l r ihl ihr => rw [emb, render2_bin, render_bin, fix _ l ihl, fix _ r ihr]
  | paren e ih => rw [emb, render2_paren, render_paren, ih]
  | abs e ih => rw [emb, render2_abs, render_abs, ih]
  | int e ih => rw [emb, render2_int, render_int, ih]

theorem depth2_emb (fns : List (Str × FnDefSpec F)) (n : Nat) (e : Expr F) : depth2 fns n (emb e) = depth e := by
  induction e with
  | un op e ih => simp only [emb, depth2, depth, prec_emb, ih]
  | bin op l r ihl ihr => simp only [emb, depth2, depth, prec_emb, ihl, ihr]
  | _ => simp only [emb, depth2, depth, *]

theorem fold2_emb [NumOps F] (n : Nat) (env : RefEnv F) : ∀ e : Expr F,
    fold2 n env (emb e) = (foldE env.lookup e).map fun v => (v, env)
  | .num x => by simp only [emb, fold2, foldE, Except.map]
  | .str s => by simp only [emb, fold2, foldE, Except.map]
  | .var x => by simp only [emb, fold2, foldE, Except.map]
  | .un op e => by
    simp only [emb, fold2, foldE, fold2_emb n env e]
    cases foldE env.lookup e with
    | error err => rfl
    | ok v => simp only [Except.map]; cases op.eval v <;> rfl
  | .bin op l r => by
    simp only [emb, fold2, foldE, fold2_emb n env l]
    cases foldE env.lookup l with
    | error err => rfl
    | ok a =>
      simp only [Except.map, fold2_emb n env r]
      cases foldE env.lookup r with
      | error err => rfl
      | ok b => dsimp only; cases op.eval a b <;> rfl
  | .paren e => by simp only [emb, fold2, foldE, fold2_emb n env e]
  | .abs e => by
    simp only [emb, fold2, foldE, fold2_emb n env e]
    cases foldE env.lookup e with
    | error err => rfl
    | ok v => cases v <;> rfl
  | .int e => by
    simp only [emb, fold2, foldE, fold2_emb n env e]
    cases foldE env.lookup e with
    | error err => rfl
    | ok v => cases v <;> rfl

theorem resolved_emb (fns : List (Str × FnDefSpec F)) (e : Expr F) : Resolved fns (emb e) := by
  induction e with
  | bin op l r ihl ihr => exact ⟨ihl, ihr⟩
  | _ => simp only [emb, Resolved, *]

theorem resolvedL_emb (fns : List (Str × FnDefSpec F)) : ∀ es : List (Expr F), ResolvedL fns (es.map emb)
  | [] => trivial
  | e :: es => ⟨resolved_emb fns e, resolvedL_emb fns es⟩

theorem depthArgs_emb [NumOps F] (fns : List (Str × FnDefSpec F)) (n m : Nat) (hm : 1 ≤ m) :
    ∀ es : List (Expr F), (∀ e ∈ es, depth e + 1 ≤ m) → depthArgs fns n (es.map emb) ≤ m
  | [], _ => by rw [List.map_nil, depthArgs]; exact hm
  | e :: es, h => by
    rw [List.map_cons, depthArgs_cons, depth2_emb]
    exact Nat.max_le.mpr ⟨h e List.mem_cons_self, depthArgs_emb fns n m hm es fun x hx => h x (List.mem_cons_of_mem _ hx)⟩

end Abasic.Props.C06
