import Abasic.Proofs.LNorm
import Abasic.Proofs.CommuteLift
/-
  `lnormN` is a lawful normaliser (no query of the store sees the order of its token map),
  so the theorems of Proofs/CommuteLift.lean apply at `N := lnormN`; `C14.lsim_call` takes the host calls
  from them (storing a numbered line edits the store, so it does not commute with `lnorm`).  Stated here in
  the vocabulary of LNorm.lean: `lcomm_warn` only.
-/
namespace Abasic.Hoare
open Abasic M

variable {F : Type} [NumOps F]

instance : (lnormN (F := F)).KeepsImm := ⟨fun _ => rfl⟩

instance : (lnormN (F := F)).Lawful where
  get := Lines.canon_get
  has := Lines.canon_has
  after := Lines.canon_after
  first := Lines.canon_first
  dataChunks := Lines.canon_dataChunks
  list := Lines.canon_list
  set_congr := Lines.canon_set_congr
  out_append _ _ _ := rfl
  reads_add _ _ := rfl
  warn_out b _ _ _ := by cases b <;> rfl
  trace_out b _ _ := by cases b <;> rfl

omit [NumOps F] in
theorem lcomm_warn (msg : Str) : LComm (warn (F := F) msg) := commutes_warn (N := lnormN) msg

end Abasic.Hoare
