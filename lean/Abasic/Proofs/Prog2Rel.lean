import Abasic.Proofs.Prog2Store
import Abasic.Props.C03
import Abasic.Proofs.DataIter
/-
  C03, control stack and DATA — how a reference state (`RState2`) and a model
  state (`St`) correspond while a program runs:

  * `AddrRel`  — a stored reference position `(n, j)` (the statement after a
                 GOSUB / FOR) against the token position the model stored (the
                 cursor right behind that statement: on the colon, or at the end
                 of the line);
  * `DataRel`  — the DATA cursor against the model's iterator (`none` after RUN
                 and RESTORE; otherwise the items the iterator has not yet
                 yielded are the items from the cursor on);
  * `Env`      — what does not change during a run (store, flags, nesting 0);
  * `RInv`     — invariants of the reference state (variables have the kind
                 their name demands; arrays have as many cells as their
                 dimensions say);
  * `Outcome`  — what one activation of the statement evaluator has to do for
                 each `Ctl2` of the reference step.
-/

namespace Abasic.Prog2L
open Abasic Abasic.Ref Abasic.ExprL Abasic.StmtL Abasic.ProgL M

variable {F : Type} [NumOps F]

inductive Rel2 {α β : Type} (R : α → β → Prop) : List α → List β → Prop where
  | nil : Rel2 R [] []
  | cons {a : α} {b : β} {as : List α} {bs : List β} : R a b → Rel2 R as bs → Rel2 R (a :: as) (b :: bs)

omit [NumOps F] in
theorem Rel2.length {α β : Type} {R : α → β → Prop} {as : List α} {bs : List β} (h : Rel2 R as bs) :
    as.length = bs.length := by
  induction h with
  | nil => rfl
  | cons _ _ ih => simp only [List.length_cons, ih]

def AddrRel (p : RProgram2 F) (n j : Nat) (loc : Loc) : Prop :=
  ∃ ss j0 s, p.line n = some ss ∧ j = j0 + 1 ∧ ss[j0]? = some s ∧
    loc = { line := some n, idx := (preToks2 ss j0).length + (renderS2 s).length }

def RetRel (p : RProgram2 F) (a : Nat × Nat) (f : Frame F) : Prop :=
  f.vars = [] ∧ AddrRel p a.1 a.2 f.ret

def LoopRel (p : RProgram2 F) (l : RLoop F) (i : LoopInfo F) : Prop :=
  i.sym = l.var ∧ i.toV = l.limit ∧ i.stepV = l.step ∧ AddrRel p l.line l.idx i.loc

/-- the DATA chunks of a program, as `Lines.dataChunks` computes them from its store -/
def progChunks (p : RProgram2 F) : List (Loc × List (DataElement F)) :=
  p.flatMap fun l => Props.C03.lineChunks (l.1, renderLine2 l.2)

def DataRel (p : RProgram2 F) (c : Nat) : Option (DataIter F) → Prop
  | none => c = 0
  | some it => it.chunks = progChunks p ∧
      remItems it = ((allData p).drop c).map fun x => (some x.1, x.2)

structure Mem (p : RProgram2 F) (r : RState2 F) (σ : St F) : Prop where
  vars : σ.vars = r.vars
  arrays : σ.arrays = r.arrays
  loops : Rel2 (LoopRel p) r.loops σ.loops
  stack : Rel2 (RetRel p) r.rets σ.stack
  data : DataRel p r.data σ.data
  out : σ.out = outRecs r.out

structure Env (p : RProgram2 F) (σ : St F) : Prop where
  lines : Holds σ.lines p
  warnings : σ.warnings = false
  tracing : σ.tracing = false
  nesting : σ.nesting = 0
  fns : σ.fns = []

structure RInv (r : RState2 F) : Prop where
  typed : ∀ k v, alGet k r.vars = some v → v.matchesName k = true
  arrs : ∀ k a, alGet k r.arrays = some a → a.cellCount = Props.C16.prod a.dims

structure Kept (σ σ' : St F) : Prop where
  lines : σ'.lines = σ.lines
  warnings : σ'.warnings = σ.warnings
  tracing : σ'.tracing = σ.tracing
  nesting : σ'.nesting = σ.nesting
  fns : σ'.fns = σ.fns
  state : σ'.state = σ.state

theorem Kept.env {p : RProgram2 F} {σ σ' : St F} (h : Kept σ σ') (he : Env p σ) : Env p σ' :=
  ⟨by rw [h.lines]; exact he.lines, by rw [h.warnings]; exact he.warnings, by rw [h.tracing]; exact he.tracing,
   by rw [h.nesting]; exact he.nesting, by rw [h.fns]; exact he.fns⟩

/-- The run `res` of one statement activation from `σ` (cursor on line `n`)
    against the reference result `(r', ctl)`.  `after`: the cursor position just
    behind the statement, `eol`: the length of the line. -/
def Outcome (p : RProgram2 F) (σ : St F) (n after eol : Nat) (res : Res F Unit) (r' : RState2 F) : Ctl2 → Prop
  | .next => ∃ σ', res = .ok () σ' ∧ Kept σ σ' ∧ Mem p r' σ' ∧ σ'.loc = { line := some n, idx := after }
  | .skipLine => ∃ σ', res = .ok () σ' ∧ Kept σ σ' ∧ Mem p r' σ' ∧ σ'.loc = { line := some n, idx := eol }
  | .jump m =>
    (σ.lines.has m = true →
      ∃ σ', res = .ok () σ' ∧ Kept σ σ' ∧ Mem p r' σ' ∧ σ'.loc = { line := some m, idx := 0 }) ∧
    (σ.lines.has m = false →
      ∃ σ', res = .err { err := .undefinedStatement } σ' ∧ σ'.loc.line = some n ∧ σ'.out = σ.out)
  | .stop => ∃ σ', res = .ok () σ' ∧ Kept σ σ' ∧ σ'.vars = r'.vars ∧ σ'.arrays = r'.arrays ∧
      σ'.out = outRecs r'.out ∧ σ'.loc = {} ∧ σ'.imm = []
  | .resume m k => ∃ σ', res = .ok () σ' ∧ Kept σ σ' ∧ Mem p r' σ' ∧ AddrRel p m k σ'.loc
  | .error e => e ≠ .dataTypeMismatch ∧
      ∃ σ', res = .err { err := e } σ' ∧ σ'.loc.line = some n ∧ σ'.out = σ.out
  | .errorAt e ln => e = .dataTypeMismatch ∧
      ∃ σ' i, res = .err { err := e } σ' ∧ σ'.dataLoc = some { line := some ln, idx := i } ∧ σ'.out = σ.out

/-! ### the stack is invisible to variable look-up -/

theorem findInStack_rets {p : RProgram2 F} {rets : List (Nat × Nat)} {stack : List (Frame F)}
    (h : Rel2 (RetRel p) rets stack) (sym : Str) : findInStack sym stack = none := by
  induction h with
  | nil => rfl
  | cons hd _ ih =>
    simp only [findInStack, hd.1, alGet]
    exact ih

end Abasic.Prog2L
