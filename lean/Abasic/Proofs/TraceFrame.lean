import Abasic.Proofs.Step
import Abasic.Proofs.CallBody
/-
  Frames for C17 (trace records):

  * `traces q` : the line numbers of the `Out.trace` records of a queue, in queue
    order (the queue is newest-first);
  * `RX` : tracing flag, program lines, trace records, GOSUB/function stack and
    the *line* of the cursor are unchanged — respected by the whole expression
    evaluator (on both the success and the error path: a user-function call
    pushes a frame, moves the cursor to the DEF line and pops it again);
  * `NT` : tracing flag, program lines and trace records unchanged — respected
    by every statement except the nested activation under IF;
  * `Rep u` : the trace records grow by some number of copies of `u`.
-/

namespace Abasic.Trace
open Abasic M Abasic.Hoare

variable {F : Type}

def traceOf : Out → Option Nat
  | .trace n => some n
  | _ => none

def traces (q : List Out) : List Nat := q.filterMap traceOf

theorem traces_nil : traces [] = [] := rfl
theorem traces_append (a b : List Out) : traces (a ++ b) = traces a ++ traces b := by
  unfold traces; exact List.filterMap_append
theorem traces_cons_trace (n : Nat) (q : List Out) : traces (.trace n :: q) = n :: traces q := rfl
theorem traces_map_trace (u : List Nat) : traces (u.map Out.trace) = u := by
  induction u with
  | nil => rfl
  | cons a r ih => rw [List.map_cons, traces_cons_trace, ih]

def rep (k : Nat) (u : List Nat) : List Nat := (List.replicate k u).flatten

theorem rep_zero (u : List Nat) : rep 0 u = [] := rfl
theorem rep_succ (k : Nat) (u : List Nat) : rep (k + 1) u = u ++ rep k u := by
  unfold rep; rw [List.replicate_succ, List.flatten_cons]
theorem rep_add (a b : Nat) (u : List Nat) : rep (a + b) u = rep a u ++ rep b u := by
  induction a with
  | zero => rw [Nat.zero_add, rep_zero, List.nil_append]
  | succ a ih => rw [Nat.add_right_comm, rep_succ, rep_succ, ih, List.append_assoc]
theorem rep_nil (k : Nat) : rep k [] = [] := by
  induction k with
  | zero => rfl
  | succ k ih => rw [rep_succ, ih]; rfl
theorem rep_singleton (k n : Nat) : rep k [n] = List.replicate k n := by
  induction k with
  | zero => rfl
  | succ k ih => rw [rep_succ, ih, List.replicate_succ]; rfl
theorem rep_one (u : List Nat) : rep 1 u = u := by
  rw [rep_succ, rep_zero, List.append_nil]
theorem rep_succ' (k : Nat) (u : List Nat) : rep (k + 1) u = rep k u ++ u := by
  rw [rep_add, rep_one]

def RX (σ σ' : St F) : Prop :=
  σ'.tracing = σ.tracing ∧ σ'.lines = σ.lines ∧ traces σ'.out = traces σ.out ∧
  σ'.stack = σ.stack ∧ σ'.loc.line = σ.loc.line

def NT (σ σ' : St F) : Prop :=
  σ'.tracing = σ.tracing ∧ σ'.lines = σ.lines ∧ traces σ'.out = traces σ.out

def Rep (u : List Nat) (σ σ' : St F) : Prop :=
  σ'.tracing = σ.tracing ∧ σ'.lines = σ.lines ∧ ∃ k, traces σ'.out = rep k u ++ traces σ.out

instance : IsFrame (RX (F := F)) where
  refl _ := ⟨rfl, rfl, rfl, rfl, rfl⟩
  trans h1 h2 := ⟨h2.1.trans h1.1, h2.2.1.trans h1.2.1, h2.2.2.1.trans h1.2.2.1,
    h2.2.2.2.1.trans h1.2.2.2.1, h2.2.2.2.2.trans h1.2.2.2.2⟩

instance : IsFrame (NT (F := F)) where
  refl _ := ⟨rfl, rfl, rfl⟩
  trans h1 h2 := ⟨h2.1.trans h1.1, h2.2.1.trans h1.2.1, h2.2.2.trans h1.2.2⟩

instance (u : List Nat) : IsFrame (Rep (F := F) u) where
  refl _ := ⟨rfl, rfl, 0, rfl⟩
  trans := by
    intro a b c h1 h2
    obtain ⟨t1, l1, k1, e1⟩ := h1
    obtain ⟨t2, l2, k2, e2⟩ := h2
    exact ⟨t2.trans t1, l2.trans l1, k2 + k1, by rw [e2, e1, rep_add, List.append_assoc]⟩

theorem rx_sub_nt {σ σ' : St F} (h : RX σ σ') : NT σ σ' := ⟨h.1, h.2.1, h.2.2.1⟩
theorem nt_sub_rep (u : List Nat) {σ σ' : St F} (h : NT σ σ') : Rep u σ σ' :=
  ⟨h.1, h.2.1, 0, by rw [h.2.2]; rfl⟩

/-- the block a statement activation that starts in `σ` puts on the queue -/
def here (σ : St F) : List Nat :=
  match σ.tracing, σ.loc.line with
  | true, some n => [n]
  | _, _ => []

theorem here_of_rx {σ σ' : St F} (h : RX σ σ') : here σ' = here σ := by
  unfold here; rw [h.1, h.2.2.2.2]

namespace Lift
scoped macro_rules | `(tactic| respects_leaf) => `(tactic| (first | exact (⟨rfl, rfl, rfl, rfl, rfl⟩ : RX _ _) | exact (⟨rfl, rfl, rfl⟩ : NT _ _)))

theorem rx_cstep {σ σ' : St F} (h : CStep σ σ') : RX σ σ' := by
  cases h <;> exact ⟨rfl, rfl, rfl, rfl, rfl⟩

def cursor : CursorWalk F := cursorOf rx_cstep

theorem rx_peek : Respects RX (peek (F := F)) := cursor.peek

theorem rx_discardRemaining : Respects RX (discardRemaining (F := F)) := by
  unfold discardRemaining; respects_tac

theorem rx_next : Respects RX (next (F := F)) := walk_next cursor
theorem rx_hasNext : Respects RX (hasNext (F := F)) := walk_hasNext cursor
theorem rx_peekIsKw (k : Kw) : Respects RX (peekIsKw (F := F) k) := walk_peekIsKw cursor k

theorem nt_setImmediate (ts : List (Token F)) : Respects NT (setImmediate ts) := by
  unfold setImmediate St.setImmediate; respects_tac

theorem nt_nextLine : Respects NT (nextLine (F := F)) := by
  unfold nextLine; respects_tac

theorem nt_returnToIdle : Respects NT (returnToIdle (F := F)) := by
  unfold returnToIdle; respects_tac

theorem nt_breakAtCurrentLocation : Respects NT (breakAtCurrentLocation (F := F)) := by
  unfold breakAtCurrentLocation St.progBreak St.setImmediate; respects_tac

theorem nt_nested {α : Type} {m : M F α} (hm : Respects NT m) : Respects NT (nested m) := by
  exact nested_of_blind (fun _ _ => ⟨rfl, rfl, rfl⟩) hm

variable [NumOps F]

/-- push the frame, evaluate the body, pop the frame: the body restores the stack (`RX`), so stack and cursor
    line of the start are put back on both paths -/
theorem rx_callBody (ev : Evals F) (name : Str) (b : List (Str × Value F)) (he : Respects RX ev.expr) :
    Respects RX (Proofs.XF.callBody ev name b) :=
  Proofs.XF.callBody_of_restore (·.2.2.2.1) (fun _ _ _ _ h => ⟨h.1, h.2.1, h.2.2.1, rfl, rfl⟩) ev name b he

instance : ExprFrame (RX (F := F)) where
  vstep h := by cases h <;> exact ⟨rfl, rfl, rfl, rfl, rfl⟩
  cstep := rx_cstep
  nested := nested_of_blind fun _ _ => ⟨rfl, rfl, rfl, rfl, rfl⟩
  call ev name d he := call_of_body rx_cstep ev he name d fun b => rx_callBody ev name b he

def walk : ExprWalk F := ExprFrame.walk RX

/-- no statement other than the activation itself (`traceHere`) queues a Trace record -/
instance : StmtFrame (NT (F := F)) where
  vstep h := by cases h <;> exact ⟨rfl, rfl, rfl⟩
  cstep h := rx_sub_nt (rx_cstep h)
  nested := nt_nested
  call := call_of_blind (fun h => rx_sub_nt (rx_cstep h)) fun _ _ _ => ⟨rfl, rfl, rfl⟩
  idx _ _ _ := ⟨rfl, rfl, rfl⟩
  dstep h := by
    cases h with
    | emit o ho => cases o <;> first | exact ⟨rfl, rfl, rfl⟩ | cases ho
    | _ => exact ⟨rfl, rfl, rfl⟩
  gstep h := by cases h <;> exact ⟨rfl, rfl, rfl⟩

theorem nt_gotoStatement : Respects NT (gotoStatement (F := F)) := walk_gotoStatement (StmtFrame.walk NT)

end Lift
end Abasic.Trace
