import Abasic.Proofs.Step
import Abasic.Props.C16
/-
  The frame of an expression evaluation (used by C07 `inspect_pure` and by the
  invariant `NumInv.Live` / `Dead` of Proofs/NumberedInv.lean):

  `RX σ σ'` — everything the interrupted program can observe is the same in
  `σ'` as in `σ`, except

    * the token index of the cursor (the line is the same), the read counter,
      the nesting counter, the output queue, the generator state (RND), and
    * the array table, which may have GROWN by automatically created default
      arrays (a read of an undeclared array creates it): `ArrExt`.

  `RX` is a frame of expression evaluation (`ExprFrame`, Proofs/Step.lean) —
  user function calls included: the frame pushed by the call is popped on both
  paths — and PRINT respects it.
-/

namespace Abasic.Proofs.XF
open Abasic Abasic.Hoare M

variable {F : Type} [NumOps F]

/-- every array of `a` is in `a'` with the same contents; every array of `a'`
    is one of `a`, or a freshly auto-created default array under a new name -/
def ArrExt (a a' : List (Str × ArrayV F)) : Prop :=
  (∀ name v, alGet name a = some v → alGet name a' = some v) ∧
  (∀ name v, alGet name a' = some v → alGet name a = some v ∨
    (alGet name a = none ∧
      ∃ k, ArrayV.create (F := F) name (List.replicate k Extracted.defaultArraySize) = .ok v))

theorem ArrExt.refl (a : List (Str × ArrayV F)) : ArrExt a a :=
  ⟨fun _ _ h => h, fun _ _ h => Or.inl h⟩

theorem ArrExt.trans {a b c : List (Str × ArrayV F)} (h1 : ArrExt a b) (h2 : ArrExt b c) : ArrExt a c := by
  refine ⟨fun n v h => h2.1 n v (h1.1 n v h), fun n v h => ?_⟩
  rcases h2.2 n v h with hb | ⟨hb, k, hk⟩
  · exact h1.2 n v hb
  · right
    refine ⟨?_, k, hk⟩
    cases ha : alGet n a with
    | none => rfl
    | some w => rw [h1.1 n w ha] at hb; cases hb

theorem arrExt_add (a : List (Str × ArrayV F)) (name : Str) (k : Nat) (v : ArrayV F)
    (hnew : alHas name a = false)
    (hv : ArrayV.create (F := F) name (List.replicate k Extracted.defaultArraySize) = .ok v) :
    ArrExt a (alSet name v a) := by
  have hnone : alGet name a = none := by
    unfold alHas at hnew
    cases h : alGet name a with
    | none => rfl
    | some w => rw [h] at hnew; cases hnew
  refine ⟨fun n w h => ?_, fun n w h => ?_⟩
  · by_cases hn : n = name
    · subst hn; rw [hnone] at h; cases h
    · rw [Props.C16.alGet_alSet_ne _ _ _ _ hn]; exact h
  · by_cases hn : n = name
    · subst hn
      rw [Props.C16.alGet_alSet_self] at h
      cases h
      exact Or.inr ⟨hnone, k, hv⟩
    · rw [Props.C16.alGet_alSet_ne _ _ _ _ hn] at h; exact Or.inl h

structure RX (σ σ' : St F) : Prop where
  lines : σ'.lines = σ.lines
  imm : σ'.imm = σ.imm
  line : σ'.loc.line = σ.loc.line
  bp : σ'.bp = σ.bp
  stack : σ'.stack = σ.stack
  loops : σ'.loops = σ.loops
  data : σ'.data = σ.data
  fns : σ'.fns = σ.fns
  vars : σ'.vars = σ.vars
  input : σ'.input = σ.input
  state : σ'.state = σ.state
  warnings : σ'.warnings = σ.warnings
  tracing : σ'.tracing = σ.tracing
  arrays : ArrExt σ.arrays σ'.arrays

theorem rx_same {σ σ' : St F} (h1 : σ'.lines = σ.lines) (h2 : σ'.imm = σ.imm)
    (h3 : σ'.loc.line = σ.loc.line) (h4 : σ'.bp = σ.bp) (h5 : σ'.stack = σ.stack)
    (h6 : σ'.loops = σ.loops) (h7 : σ'.data = σ.data) (h8 : σ'.fns = σ.fns) (h9 : σ'.vars = σ.vars)
    (h10 : σ'.input = σ.input) (h11 : σ'.state = σ.state) (h12 : σ'.warnings = σ.warnings)
    (h13 : σ'.tracing = σ.tracing) (h14 : σ'.arrays = σ.arrays) : RX σ σ' :=
  ⟨h1, h2, h3, h4, h5, h6, h7, h8, h9, h10, h11, h12, h13, by rw [h14]; exact ArrExt.refl _⟩

instance : IsFrame (RX (F := F)) where
  refl _ := rx_same rfl rfl rfl rfl rfl rfl rfl rfl rfl rfl rfl rfl rfl rfl
  trans h1 h2 :=
    ⟨h2.lines.trans h1.lines, h2.imm.trans h1.imm, h2.line.trans h1.line, h2.bp.trans h1.bp,
     h2.stack.trans h1.stack, h2.loops.trans h1.loops, h2.data.trans h1.data, h2.fns.trans h1.fns,
     h2.vars.trans h1.vars, h2.input.trans h1.input, h2.state.trans h1.state,
     h2.warnings.trans h1.warnings, h2.tracing.trans h1.tracing, h1.arrays.trans h2.arrays⟩

macro_rules | `(tactic| respects_leaf) => `(tactic| exact rx_same rfl rfl rfl rfl rfl rfl rfl rfl rfl rfl rfl rfl rfl rfl)

theorem rx_vstep {σ σ' : St F} (h : VStep σ σ') : RX σ σ' := by
  cases h with
  | newArray name k a hnew hv =>
    exact ⟨rfl, rfl, rfl, rfl, rfl, rfl, rfl, rfl, rfl, rfl, rfl, rfl, rfl, arrExt_add _ name k a hnew hv⟩
  | _ => exact rx_same rfl rfl rfl rfl rfl rfl rfl rfl rfl rfl rfl rfl rfl rfl

theorem rx_cstep {σ σ' : St F} (h : CStep σ σ') : RX σ σ' := by
  cases h <;> exact rx_same rfl rfl rfl rfl rfl rfl rfl rfl rfl rfl rfl rfl rfl rfl

/-- the call proper: the body restores the stack (`RX.stack`), so the frame popped is the one pushed -/
theorem rx_callBody (ev : Evals F) (name : Str) (b : List (Str × Value F)) (he : Respects RX ev.expr) :
    Respects RX (callBody ev name b) :=
  callBody_of_restore (·.stack) (fun _ _ _ _ hx => ⟨hx.lines, hx.imm, rfl, hx.bp, rfl, hx.loops, hx.data, hx.fns,
    hx.vars, hx.input, hx.state, hx.warnings, hx.tracing, hx.arrays⟩) ev name b he

instance : ExprFrame (RX (F := F)) where
  vstep := rx_vstep
  cstep := rx_cstep
  nested := nested_of_blind fun _ _ => rx_same rfl rfl rfl rfl rfl rfl rfl rfl rfl rfl rfl rfl rfl rfl
  call ev name d he := call_of_body rx_cstep ev he name d fun b => rx_callBody ev name b he

theorem rx_discardRemaining : Respects RX (discardRemaining (F := F)) := by
  unfold discardRemaining
  respects_tac

theorem rx_printStatement (ev : Evals F) (he : Respects RX ev.expr) : Respects RX (printStatement ev) :=
  fr_printStatement ev he fun _ _ => rx_same rfl rfl rfl rfl rfl rfl rfl rfl rfl rfl rfl rfl rfl rfl

theorem rx_evalN_expr (n : Nat) : Respects RX (evalN (F := F) n).expr := fr_evalN_expr n

end Abasic.Proofs.XF
