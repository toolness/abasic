import Abasic.Proofs.ExprCursor
/-
  For the host-level C11 probes and the RND runs of Proofs/RngRun.lean: an expression whose first unary
  operand is followed by nothing an operator tier would consume evaluates to
  that operand, with an explicit final state (for ANY state: warnings on or
  off, any arrays, any read counter).
-/
namespace Abasic.Proofs.C11Eval
open Abasic Abasic.ExprL M

variable {F : Type} [NumOps F]

theorem tier_lift (ev : Evals F) (σ σ1 : St F) (v : Value F) (pre rest : List (Token F))
    (h0 : unaryExpr ev σ = .ok v σ1) (hAt : At σ1 pre rest) (hE : Ends 6 rest) :
    ∀ j, j ≤ 6 → tier ev j σ = .ok v (mv σ1 0 (σ1.reads + j)) := by
  intro j
  induction j with
  | zero => intro _; exact h0
  | succ j ih =>
    intro hj
    have ih' := ih (by omega)
    have hA := at_mv0 hAt (σ1.reads + j)
    simp only [tier, level]
    rw [bind_ok ih', bind_ok (lineBudget_eq hA.1), levelLoop_stop hA (hE.mono hj)]
    rfl

theorem exprBody_of_unary (ev : Evals F) (σ σ1 : St F) (v : Value F) (pre rest : List (Token F))
    (hn : σ.nesting < Extracted.nestingLimit)
    (h0 : unaryExpr ev (nest σ (σ.nesting + 1)) = .ok v σ1) (hn1 : σ1.nesting = σ.nesting + 1)
    (hAt : At σ1 pre rest) (hE : Ends 6 rest) :
    exprBody ev σ = .ok v (nest (mv σ1 0 (σ1.reads + 6)) σ.nesting) := by
  unfold exprBody
  rw [← tier_six]
  exact nested_ok hn (tier_lift ev _ σ1 v pre rest h0 hAt hE 6 (Nat.le_refl 6)) hn1

omit [NumOps F] in
theorem ends_nil (j : Nat) : Ends (F := F) j [] := by
  intro t ht; cases ht

theorem unary_num (ev : Evals F) (s : St F) (pre rest : List (Token F)) (x : F)
    (hAt : At s pre (.num x :: rest)) :
    unaryExpr ev s = .ok (.num x) (mv s 1 (s.reads + 3)) := by
  unfold unaryExpr
  rw [bind_ok (tryNext_none hAt (by intro t ht; simp only [List.head?_cons, Option.some.injEq] at ht; subst ht; rfl))]
  rw [bind_ok (parenExpr_num ev (at_mv0 hAt (s.reads + 1))), mv_mv]
  rfl

theorem expr_num (ev : Evals F) (s : St F) (pre rest : List (Token F)) (x : F)
    (hAt : At s pre (.num x :: rest)) (hE : Ends 6 rest) (hn : s.nesting < Extracted.nestingLimit) :
    exprBody ev s = .ok (.num x) (mv s 1 (s.reads + 9)) := by
  have h0 := unary_num ev (nest s (s.nesting + 1)) pre rest x (at_nest hAt _)
  rw [exprBody_of_unary ev s _ _ (pre ++ [.num x]) rest hn h0 rfl (at_mv1 (at_nest hAt _) _) hE]
  rfl

end Abasic.Proofs.C11Eval
