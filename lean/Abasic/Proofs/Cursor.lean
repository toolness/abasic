import Abasic.Expr
/-
  The token cursor of Program.lean, described once.

  `toks σ` is the line the cursor is on (`Budget.toks`, `ExprL.lineToks`, `Trace.lineOf` are the same function,
  by `rfl`, under the names the theorems of their files are stated with).  The eight cursor operations
  (`peek`, `next`, `hasNext`, `nextUnwrapped`, `expect`, `accept`, `peekIsKw`, `tryNext`) are one operation,
  `curOp f`: count a read; then the result and the decision to step over the token are functions of that
  token (`f`; the cursor itself is only quoted in an error).  `Op f` says that `f` steps only over a token
  that is there and fails only with one of the two errors of Program.lean.  The invariants and the budgets
  have one lemma each about `curOp f` (`WF.Good.curOp`, `AInv.Good.curOp`, `Budget.wp_curOp`, `AKeep.keeps_curOp`)
  and read their eight off it; the read costs (Proofs/Cost.lean) are counted through `peek` and `advance`.
-/
namespace Abasic.Cur
open Abasic M

variable {F : Type}

def toks (σ : St F) : Option (List (Token F)) :=
  match σ.loc.line with
  | none => some σ.imm
  | some n => σ.lines.get n

def rd (σ : St F) : St F := { σ with reads := σ.reads + 1 }

def adv (σ : St F) : St F := { σ with loc := { σ.loc with idx := σ.loc.idx + 1 } }

/-- `tokens_for_line` panics on a numbered line that is not stored -/
def noLine : TErr := { err := .panic "tokens_for_line: unwrap on None" }

theorem tokens_eq (σ : St F) : tokens σ = match toks σ with
    | some ts => .ok ts σ
    | none => .err noLine σ := by
  unfold tokens tokensForLine toks
  cases σ.loc.line with
  | none => rfl
  | some n => dsimp only; cases σ.lines.get n <;> rfl

theorem toks_of_tokens {σ σ' : St F} {ts : List (Token F)} (h : tokens σ = .ok ts σ') : toks σ = some ts := by
  rw [tokens_eq] at h
  cases ht : toks σ with
  | none => rw [ht] at h; cases h
  | some ts' => rw [ht] at h; cases h; rfl

theorem lineBudget_eq (σ : St F) : lineBudget σ = match toks σ with
    | some ts => .ok (ts.length + 1) σ
    | none => .err noLine σ := by
  simp only [lineBudget, bind, M.bindM, tokens_eq]
  cases toks σ <;> rfl

theorem discardRemaining_eq (σ : St F) : discardRemaining σ = match toks σ with
    | some ts => .ok () { σ with loc := { σ.loc with idx := ts.length } }
    | none => .err noLine σ := by
  simp only [discardRemaining, bind, M.bindM, tokens_eq]
  cases toks σ <;> rfl

theorem nextLine_eq (σ : St F) : nextLine σ = match σ.loc.line.bind σ.lines.after with
    | some m => .ok true { σ with loc := { line := some m, idx := 0 } }
    | none => .ok false σ := by
  simp only [nextLine, bind, M.bindM, M.get]
  cases σ.loc.line with
  | none => rfl
  | some n => dsimp only [Option.bind]; cases σ.lines.after n <;> rfl

def curOp {α : Type} (f : Loc → Option (Token F) → Bool × Except TErr α) : M F α := fun σ =>
  match toks σ with
  | none => .err noLine (rd σ)
  | some ts =>
    match f σ.loc ts[σ.loc.idx]? with
    | (mv, .ok a) => .ok a (if mv then adv (rd σ) else rd σ)
    | (mv, .error e) => .err e (if mv then adv (rd σ) else rd σ)

theorem curOp_none {α : Type} (f : Loc → Option (Token F) → Bool × Except TErr α) {σ : St F}
    (h : toks σ = none) : curOp f σ = .err noLine (rd σ) := by
  unfold curOp; rw [h]

theorem curOp_some {α : Type} (f : Loc → Option (Token F) → Bool × Except TErr α) {σ : St F}
    {ts : List (Token F)} (h : toks σ = some ts) :
    curOp f σ = match f σ.loc ts[σ.loc.idx]? with
      | (mv, .ok a) => .ok a (if mv then adv (rd σ) else rd σ)
      | (mv, .error e) => .err e (if mv then adv (rd σ) else rd σ) := by
  unfold curOp; rw [h]

theorem curOp_ok {α : Type} {f : Loc → Option (Token F) → Bool × Except TErr α} {σ σ' : St F} {a : α}
    (h : curOp f σ = .ok a σ') : ∃ ts, toks σ = some ts ∧ (f σ.loc ts[σ.loc.idx]?).2 = .ok a := by
  unfold curOp at h
  cases ht : toks σ with
  | none => rw [ht] at h; cases h
  | some ts =>
    rw [ht] at h
    refine ⟨ts, rfl, ?_⟩
    dsimp only at h
    split at h <;> simp_all

def unexpectedEnd (l : Loc) : TErr := { err := .syntax .unexpectedEnd, loc := some l }

structure Op {α : Type} (f : Loc → Option (Token F) → Bool × Except TErr α) : Prop where
  some_of_step : ∀ l c r, f l c = (true, r) → c.isSome = true
  err : ∀ l c mv e, f l c = (mv, .error e) → e = unexpectedEnd l ∨ ∃ k, e = { err := .syntax (.expectedToken k) }

def peekF : Loc → Option (Token F) → Bool × Except TErr (Option (Token F)) := fun _ c => (false, .ok c)
def nextF : Loc → Option (Token F) → Bool × Except TErr (Option (Token F)) := fun _ c => (c.isSome, .ok c)
def hasNextF : Loc → Option (Token F) → Bool × Except TErr Bool := fun _ c => (false, .ok c.isSome)
def nextUnwrappedF : Loc → Option (Token F) → Bool × Except TErr (Token F) := fun l c =>
  match c with
  | some t => (true, .ok t)
  | none => (false, .error (unexpectedEnd l))
def expectF (k : Kw) : Loc → Option (Token F) → Bool × Except TErr Unit := fun l c =>
  match c with
  | some t => (true, if t.isKw k then .ok () else .error { err := .syntax (.expectedToken k) })
  | none => (false, .error (unexpectedEnd l))
def acceptF (k : Kw) : Loc → Option (Token F) → Bool × Except TErr Bool := fun _ c =>
  match c with
  | some t => if t.isKw k then (true, .ok true) else (false, .ok false)
  | none => (false, .ok false)
def peekIsKwF (k : Kw) : Loc → Option (Token F) → Bool × Except TErr Bool := fun _ c =>
  (false, .ok (match c with | some t => t.isKw k | none => false))
def tryNextF {α : Type} (g : Token F → Option α) : Loc → Option (Token F) → Bool × Except TErr (Option α) :=
  fun _ c =>
  match c.bind g with
  | some a => (true, .ok (some a))
  | none => (false, .ok none)

theorem peek_eq : peek (F := F) = curOp peekF := by
  funext σ
  have h := tokens_eq (rd σ)
  have ht : toks (rd σ) = toks σ := rfl
  rw [ht] at h
  unfold rd at h
  simp only [peek, bind, M.bindM, M.modify, M.get, pure, M.pureM]
  rw [h]
  unfold curOp
  cases toks σ <;> rfl

theorem bind_peek {β : Type} (g : Option (Token F) → M F β) (σ : St F) :
    (peek >>= g) σ = match toks σ with
      | none => .err noLine (rd σ)
      | some ts => g ts[σ.loc.idx]? (rd σ) := by
  show M.bindM peek g σ = _
  unfold M.bindM
  rw [peek_eq]
  unfold curOp
  cases toks σ <;> rfl

theorem next_eq : next (F := F) = curOp nextF := by
  funext σ
  unfold next curOp
  rw [bind_peek]
  cases toks σ with
  | none => rfl
  | some ts => dsimp only; cases ts[σ.loc.idx]? <;> rfl

theorem hasNext_eq : hasNext (F := F) = curOp hasNextF := by
  funext σ
  unfold hasNext curOp
  rw [bind_peek]
  cases toks σ <;> rfl

theorem nextUnwrapped_eq : nextUnwrapped (F := F) = curOp nextUnwrappedF := by
  funext σ
  unfold nextUnwrapped
  show M.bindM next _ σ = _
  unfold M.bindM
  rw [next_eq]
  unfold curOp
  cases toks σ with
  | none => rfl
  | some ts => dsimp only; cases ts[σ.loc.idx]? <;> rfl

theorem expect_eq (k : Kw) : expect (F := F) k = curOp (expectF k) := by
  funext σ
  unfold expect
  show M.bindM nextUnwrapped _ σ = _
  unfold M.bindM
  rw [nextUnwrapped_eq]
  unfold curOp
  cases toks σ with
  | none => rfl
  | some ts =>
    dsimp only
    cases ts[σ.loc.idx]? with
    | none => rfl
    | some t => dsimp only [nextUnwrappedF, expectF]; cases t.isKw k <;> rfl

theorem accept_eq (k : Kw) : accept (F := F) k = curOp (acceptF k) := by
  funext σ
  unfold accept curOp
  rw [bind_peek]
  cases toks σ with
  | none => rfl
  | some ts =>
    dsimp only
    cases ts[σ.loc.idx]? with
    | none => rfl
    | some t => dsimp only [acceptF]; cases t.isKw k <;> rfl

theorem peekIsKw_eq (k : Kw) : peekIsKw (F := F) k = curOp (peekIsKwF k) := by
  funext σ
  unfold peekIsKw curOp
  rw [bind_peek]
  cases toks σ with
  | none => rfl
  | some ts => dsimp only; cases ts[σ.loc.idx]? <;> rfl

theorem tryNext_eq {α : Type} (g : Token F → Option α) : tryNext g = curOp (tryNextF g) := by
  funext σ
  unfold tryNext curOp
  rw [bind_peek]
  cases toks σ with
  | none => rfl
  | some ts =>
    dsimp only
    cases ts[σ.loc.idx]? with
    | none => rfl
    | some t => dsimp only [tryNextF, Option.bind]; cases g t <;> rfl

theorem op_peek : Op (peekF (F := F)) := by
  refine ⟨fun _ _ _ h => ?_, fun _ _ _ _ h => ?_⟩ <;> cases h

theorem op_next : Op (nextF (F := F)) := ⟨fun _ _ _ h => (Prod.mk.inj h).1, fun _ _ _ _ h => by cases h⟩

theorem op_hasNext : Op (hasNextF (F := F)) := by
  refine ⟨fun _ _ _ h => ?_, fun _ _ _ _ h => ?_⟩ <;> cases h

theorem op_nextUnwrapped : Op (nextUnwrappedF (F := F)) := by
  refine ⟨fun _ c _ h => ?_, fun _ c _ _ h => ?_⟩
  · cases c <;> cases h; rfl
  · cases c <;> cases h; exact .inl rfl

theorem op_expect (k : Kw) : Op (expectF (F := F) k) := by
  refine ⟨fun _ c _ h => ?_, fun _ c _ e h => ?_⟩
  · cases c <;> cases h; rfl
  cases c with
  | none => cases h; exact .inl rfl
  | some t =>
    dsimp only [expectF] at h
    split at h <;> cases (Prod.mk.inj h).2
    exact .inr ⟨k, rfl⟩

theorem op_accept (k : Kw) : Op (acceptF (F := F) k) := by
  refine ⟨fun _ c _ h => ?_, fun _ c _ e h => ?_⟩
  · cases c <;> first | cases h | rfl
  cases c with
  | none => cases h
  | some t => dsimp only [acceptF] at h; split at h <;> cases h

theorem op_peekIsKw (k : Kw) : Op (peekIsKwF (F := F) k) := by
  refine ⟨fun _ _ _ h => ?_, fun _ _ _ _ h => ?_⟩ <;> cases h

theorem op_tryNext {α : Type} (g : Token F → Option α) : Op (tryNextF g) := by
  refine ⟨fun _ c _ h => ?_, fun _ c _ e h => ?_⟩
  · cases c <;> first | cases h | rfl
  dsimp only [tryNextF] at h
  split at h <;> cases h

end Abasic.Cur
