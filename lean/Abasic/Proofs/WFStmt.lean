import Abasic.Proofs.WFLift
import Abasic.Proofs.DataRoundTrip
import Abasic.Proofs.Walk
/-
  `Good` lifted through Stmt.lean (statements are `Good SR`; the expression level is
  Proofs/WFLift.lean), and the knot `evalN`.  Two proofs look at states: `inputStatement` (the INPUT
  token is before the cursor when the statement rewinds) and `dispatch` (which establishes that).
-/
set_option linter.unusedSectionVars false

namespace Abasic.WF
open Abasic M
open Abasic.Hoare (IsFrame)

variable {F : Type} [NumOps F] {ev : Evals F}

@[good] theorem good_optionalArrayIndex (hev : Good ER T ev.expr) : Good ER T (optionalArrayIndex ev) := by
  unfold optionalArrayIndex
  good_auto

@[good] theorem good_assignValue (lv : LValue) (v : Value F) : Good ER T (assignValue lv v) := by
  unfold assignValue
  good_auto

@[good] theorem good_assignmentStatement (hev : Good ER T ev.expr) (name : Str) :
    Good ER T (assignmentStatement ev name) := by
  unfold assignmentStatement
  good_auto

@[good] theorem good_letStatement (hev : Good ER T ev.expr) : Good ER T (letStatement ev) := by
  unfold letStatement
  good_auto

@[good] theorem good_parseLValue (hev : Good ER T ev.expr) : Good ER T (parseLValue ev) := by
  unfold parseLValue
  good_auto

@[good] theorem good_gotoStatement : Good SR T (gotoStatement : M F Unit) := by
  unfold gotoStatement
  good_auto

@[good] theorem good_gosubStatement : Good SR T (gosubStatement : M F Unit) := by
  unfold gosubStatement
  good_auto

@[good] theorem good_statementOrGoto (hst : Good SR T ev.stmt) : Good SR T (statementOrGoto ev) := by
  unfold statementOrGoto
  good_auto

@[good] theorem good_ifSkipLoop (hst : Good SR T ev.stmt) (n : Nat) : Good SR T (ifSkipLoop ev n) := by
  induction n with
  | zero => exact Good.fail rfl
  | succ n ih =>
    unfold ifSkipLoop
    good_auto

@[good] theorem good_ifStatement (hev : Good ER T ev.expr) (hst : Good SR T ev.stmt) : Good SR T (ifStatement ev) := by
  unfold ifStatement
  good_auto

@[good] theorem good_readLoop (hev : Good ER T ev.expr) (n : Nat) : Good SR T (readLoop ev n) := by
  induction n with
  | zero => exact Good.fail rfl
  | succ n ih =>
    unfold readLoop
    good_auto

@[good] theorem good_readStatement (hev : Good ER T ev.expr) : Good SR T (readStatement ev) := by
  unfold readStatement
  good_auto

theorem good_takeInput :
    Good ER (fun r : Option (List (DataElement F) × Bool) => ∀ items l, r = some (items, l) → items ≠ [])
      (takeInput (F := F)) := by
  unfold takeInput
  refine Good.get_bind' fun s0 hs0 => ?_
  split
  · exact GoodAt.pure hs0 (IsFrame.refl _) (fun _ _ h => by cases h)
  · rename_i text _
    refine GoodAt.bind (Q := T) (GoodAt.set { hs0 with }
      (er_same rfl rfl rfl rfl rfl rfl)) fun _ s1 hw hr _ _ => ?_
    have hne := (DataRT.parseData_spec (F := F) text).1
    generalize parseData (F := F) text = p at hne
    obtain ⟨items, n⟩ := p
    refine GoodAt.pure hw hr ?_
    intro items' l h
    simp only [Option.some.injEq, Prod.mk.injEq] at h
    rw [← h.1]
    exact hne

theorem rewindAndAwaitInput_post {s0 s : St F} (hs : WFσ s) (hr : SR s0 s) (hb : TokBefore s (.kw .Input)) :
    GoodAt SR T (rewindAndAwaitInput : M F Unit) s0 s := by
  unfold rewindAndAwaitInput
  refine GoodAt.bind (rewindBeforeInput_post hs hr hb) fun _ s1 hw1 hr1 _ _ => ?_
  exact GoodAt.modify { hw1 with } ⟨hr1.nesting, hr1.lines⟩

/-- run an `ER` step inside an `SR` proof, keeping the `ER` fact for the continuation -/
theorem GoodAt.bind_er {α β : Type} {Q : α → Prop} {Q' : β → Prop} {m : M F α} {f : α → M F β}
    {s0 s : St F} (hm : Good ER Q m) (hs : WFσ s) (h0 : SR s0 s)
    (hf : ∀ a s1, WFσ s1 → ER s s1 → Q a → GoodAt SR Q' (f a) s0 s1) :
    GoodAt SR Q' (m >>= f) s0 s := by
  have h1 := hm s hs
  show Post SR Q' s0 (M.bindM m f s)
  unfold M.bindM
  cases hms : m s with
  | ok a s1 =>
    rw [hms] at h1
    exact hf a s1 h1.1 h1.2.1 h1.2.2
  | err e s1 =>
    rw [hms] at h1
    exact ⟨h1.1, IsFrame.trans h0 (er_sr h1.2.1), h1.2.2⟩

/-- `evaluate_input_statement`, entered with the INPUT token just passed -/
theorem inputStatement_post (hev : Good ER T ev.expr) {s0 s : St F} (hs : WFσ s) (hr : SR s0 s)
    (hb : TokBefore s (.kw .Input)) : GoodAt SR T (inputStatement ev) s0 s := by
  unfold inputStatement
  refine GoodAt.bind_er good_takeInput hs hr fun r s1 hw1 hr1 hq => ?_
  have hb1 := tokBefore_er hr1 hb
  have h01 : SR s0 s1 := IsFrame.trans hr (er_sr hr1)
  split
  · rename_i items leftover
    refine GoodAt.bind_er (good_parseLValue hev) hw1 h01 fun lv s2 hw2 hr2 _ => ?_
    have hb2 := tokBefore_er hr2 hb1
    have h02 : SR s0 s2 := IsFrame.trans h01 (er_sr hr2)
    split
    · exact absurd rfl (hq _ _ rfl)
    · rename_i first rest
      dsimp only
      split
      · refine Good.gat ?_ hw2 h02
        good_auto
      · refine GoodAt.bind_er (good_emit .reenter) hw2 h02 fun _ s3 hw3 hr3 _ => ?_
        exact rewindAndAwaitInput_post hw3 (IsFrame.trans h02 (er_sr hr3)) (tokBefore_er hr3 hb2)
      · rename_i e _ he
        exact GoodAt.fail hw2 h02 (by rw [ArrayL.coerce_err he]; rfl)
  · exact rewindAndAwaitInput_post hw1 h01 hb1

@[good] theorem good_dimStatement (hev : Good ER T ev.expr) : Good SR T (dimStatement ev) := by
  unfold dimStatement
  good_auto

@[good] theorem good_printLoop (hev : Good ER T ev.expr) (n : Nat) (semi : Bool) (acc : Str) :
    Good SR T (printLoop ev n semi acc) := by
  induction n generalizing semi acc with
  | zero => exact Good.fail rfl
  | succ n ih =>
    unfold printLoop
    good_auto

@[good] theorem good_printStatement (hev : Good ER T ev.expr) : Good SR T (printStatement ev) := by
  unfold printStatement
  good_auto

@[good] theorem good_forStatement (hev : Good ER T ev.expr) : Good SR T (forStatement ev) := by
  unfold forStatement
  good_auto

@[good] theorem good_nextStatement : Good SR T (nextStatement : M F Unit) := by
  unfold nextStatement
  good_auto

@[good] theorem good_defArgsLoop (n : Nat) (acc : List Str) : Good SR T (defArgsLoop n acc : M F (List Str)) := by
  induction n generalizing acc with
  | zero => exact Good.fail rfl
  | succ n ih =>
    unfold defArgsLoop
    good_auto

@[good] theorem good_skipToColonLoop (n : Nat) : Good SR T (skipToColonLoop n : M F Unit) := by
  induction n with
  | zero => exact Good.fail rfl
  | succ n ih =>
    unfold skipToColonLoop
    good_auto

@[good] theorem good_defStatement : Good SR T (defStatement : M F Unit) := by
  unfold defStatement
  good_auto

@[good] theorem good_breakAtCurrentLocation : Good SR T (breakAtCurrentLocation : M F Unit) := by
  intro s hs
  refine GoodAt.modify (s0 := s) (wf_progBreak { hs with }) ⟨rfl, rfl⟩

@[good] theorem good_traceHere : Good ER T (traceHere : M F Unit) := by
  unfold traceHere
  good_auto

@[good] theorem good_restore : Good SR T (M.modify fun s : St F => { s with data := none }) := fun s hs =>
  GoodAt.modify (s0 := s) { hs with data := by intro _ h; cases h } ⟨rfl, rfl⟩

/-- the continuation of `next` finds the token it was given just before the cursor -/
theorem Good.next_bind {β : Type} {Q : β → Prop} {f : Option (Token F) → M F β}
    (hf : ∀ t s0 s, WFσ s → SR s0 s → (∀ t', t = some t' → TokBefore s t') → GoodAt SR Q (f t) s0 s) :
    Good SR Q (next >>= f) := by
  intro s hs
  simp only [Bind.bind, M.bindM, next_eq hs]
  cases htok : (curToks s)[s.loc.idx]? with
  | none => exact hf _ _ _ (hs.reads _) ⟨rfl, rfl⟩ (fun _ h => by cases h)
  | some t =>
    refine hf _ _ _ (hs.adv htok _) ⟨rfl, rfl⟩ fun t' h => ?_
    cases h
    exact ⟨s.loc.idx, Nat.lt_succ_self _, htok⟩

/-- the `match self.program().next_token()` of `evaluate_statement`: INPUT is entered with its own
    token just passed -/
@[good] theorem good_dispatch (hev : Good ER T ev.expr) (hst : Good SR T ev.stmt) : Good SR T (dispatch ev) := by
  unfold dispatch
  refine Good.next_bind fun t s0 s hw hr hb => ?_
  split
  case h_5 k =>
    split
    case h_5 => exact inputStatement_post hev hw hr (hb _ rfl)
    all_goals
      refine Good.gat ?_ hw hr
      good_auto
  all_goals
    refine Good.gat ?_ hw hr
    good_auto

@[good] theorem good_stmtBody (hev : Good ER T ev.expr) (hst : Good SR T ev.stmt) : Good SR T (stmtBody ev) := by
  unfold stmtBody
  good_auto

theorem good_evalN (n : Nat) : Good ER T (evalN (F := F) n).expr ∧ Good SR T (evalN (F := F) n).stmt := by
  induction n with
  | zero => exact ⟨Good.fail rfl, Good.fail rfl⟩
  | succ n ih => exact ⟨good_exprBody ih.1, good_stmtBody ih.1 ih.2⟩

end Abasic.WF
