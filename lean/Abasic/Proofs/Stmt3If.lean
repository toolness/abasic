import Abasic.Proofs.Stmt3Base
/-
  C03, the statement evaluator on the statements of Ref/Stmt3.lean: the branch of an IF (`statementOrGoto`: a line
  number, or a nested activation of the statement evaluator) and IF itself, for arbitrary branches.
-/
set_option linter.unusedSectionVars false

namespace Abasic.Stmt3L
open Abasic Abasic.Ref Abasic.ExprL Abasic.ExprL2 Abasic.StmtL Abasic.ProgL Abasic.Prog3L Abasic.Hoare M
open Abasic.Prog2L (Rel2)

variable {F : Type} [NumOps F]

theorem renderS3_head_nonnum (s : RStmt3 F) (h : s.isLine = false) :
    ∃ t ts, renderS3 s = t :: ts ∧ ∀ x, t ≠ .num x := by
  cases s with
  | lineS m => cases h
  | ifS c t e => cases e <;> exact ⟨_, _, by rw [renderS3], fun x hx => by cases hx⟩
  | forS v a b c => cases c <;> exact ⟨_, _, by rw [renderS3], fun x hx => by cases hx⟩
  | _ => exact ⟨_, _, by rw [renderS3], fun x hx => by cases hx⟩

theorem statementOrGoto_other {ev : Evals F} {σ : St F} {pre post : List (Token F)} {t : Token F}
    (h : At σ pre (t :: post)) (ht : ∀ x, t ≠ .num x) :
    ∃ k, statementOrGoto ev σ = nested ev.stmt (mv σ 0 k) := by
  refine ⟨σ.reads + 1, ?_⟩
  unfold statementOrGoto
  rw [bind_ok (peek_eq h)]
  simp only [List.head?_cons]
  cases t with
  | num x => exact absurd rfl (ht x)
  | _ => rfl

theorem statementOrGoto_num {ev : Evals F} {σ : St F} {pre post : List (Token F)} {x : F}
    (h : At σ pre (.num x :: post)) :
    ∃ k, statementOrGoto ev σ = gotoStatement (mv σ 0 k) := by
  refine ⟨σ.reads + 1, ?_⟩
  unfold statementOrGoto
  rw [bind_ok (peek_eq h)]
  rfl

variable {n j : Nat}

theorem lineEnd3_else_false {rest : List (Token F)} (h : LineEnd3 (.kw .Else :: rest)) : False := by
  rcases h with h | ⟨t, ts, h, _⟩ <;> cases h

end Abasic.Stmt3L

namespace Abasic.Stmt3V
open Abasic.Props.C06 (embS)
open Abasic Abasic.Ref Abasic.ExprL Abasic.ExprL2 Abasic.StmtL Abasic.ProgL Abasic.Prog3L Abasic.Stmt3L Abasic.Hoare M
open Abasic.Prog2L (Rel2)

variable {F : Type} [NumOps F]

section stmts
variable {p : ProgView F} {n j : Nat}

theorem branch_of_stmt (s : RStmt3 F) (h : s.isLine = false → StmtOK p n j s) : BranchOK p n j s := by
  intro fuel σ r pre rest after eol hS hL hP hE hcov hres hd hn
  cases hl : s.isLine with
  | true =>
    obtain ⟨m, rfl⟩ : ∃ m, s = .lineS m := by
      cases s <;> first | exact ⟨_, rfl⟩ | cases hl
    have h0 : Mid p σ r r σ pre (.num (NumOps.ofNat m) :: rest) :=
      .ofSync hS (by simpa only [renderS3, List.cons_append, List.nil_append] using hP.cur)
    obtain ⟨k1, h1⟩ := statementOrGoto_num (ev := evalN fuel) h0.cur
    obtain ⟨k2, h2, m2⟩ := (h0.mv0 k1).tok
    rw [h1]
    unfold gotoStatement
    rw [bind_ok h2]
    simp only [show NumOps.toU64 (NumOps.ofNat m : F) = m from hcov]
    exact gotoLine_outcome m2 _ _ _
  | false =>
    obtain ⟨f', rfl⟩ : ∃ f', fuel = f' + 1 := ⟨fuel - 1, by omega⟩
    obtain ⟨t, ts, hhead, hnn⟩ := renderS3_head_nonnum s hl
    have hAt0 : At σ pre (t :: (ts ++ rest)) := by
      have := hP.cur
      rwa [hhead] at this
    obtain ⟨k1, h1⟩ := statementOrGoto_other (ev := evalN (f' + 1)) hAt0 hnn
    rw [h1]
    show Outcome3 p σ n after eol (nested (stmtBody (evalN f')) (mv σ 0 k1)) _ _
    refine outcome_start (outcome_nested (by show σ.nesting < _; omega) ?_) (start_mv σ 0 k1)
    refine h hl f' (nest (mv σ 0 k1) ((mv σ 0 k1).nesting + 1)) r pre rest after eol ((hS.mv _ _).nest _) hL ?_ hE hl hcov hres
      (by omega) (by show σ.nesting + 1 + _ ≤ _; omega)
    exact ⟨hP.locline, at_nest (at_mv0 hP.cur _) _, hP.hafter, hP.heol, hP.addr⟩

theorem if_cond3 {σ : St F} {r : RState3 F} (hS : Sync p r σ) (hfull : p.full = true) (c : Expr2 F) (fuel : Nat) (pre post : List (Token F))
    (hAt : At σ pre (.kw .If :: (render2 c ++ .kw .Then :: post))) (hres : Resolved r.fns c)
    (hd : edepth r.fns c ≤ fuel) (hn : σ.nesting + edepth r.fns c ≤ Extracted.nestingLimit) :
    Tracks p σ r (stmtBody (evalN fuel) σ) (evalE r c) (pre ++ [Token.kw Kw.If] ++ render2 c ++ [Token.kw Kw.Then]) post
      (fun v => ifRest (evalN fuel) v.toBool) := by
  obtain ⟨k1, (hrun : _ = ifStatement (evalN fuel) (mv σ 1 k1)), m1⟩ := (Mid.ofSync hS hAt).body (ev := evalN fuel) rfl
  rw [hrun]
  unfold ifStatement
  refine (m1.expr fuel (.inl hfull) hres hd hn (ends_then 6 post) _).andThen (fun _ hx => hx) fun v r1 τ hx hτ => ?_
  obtain ⟨k2, h2, m2⟩ := hτ.expectKw (k := .Then) rfl
  rw [hx]
  refine ⟨_, ?_, m2⟩
  rw [bind_ok h2]
  show _ = ifRest (evalN fuel) v.toBool _
  cases v.toBool <;> rfl

theorem if_ok (c : Expr2 F) (t : RStmt3 F) (eo : Option (RStmt3 F)) (ht : BranchOK p n j t)
    (he : ∀ e, eo = some e → BranchOK p n j e) : StmtOK p n j (.ifS c t eo) := by
  intro fuel σ r pre rest after eol hS hL hP hE _ hcov hres hd hn
  have hLE : LineEnd3 rest := hE.lineEnd3 rfl
  have hfull := hL.full fun s2 h => by cases s2 <;> simp [embS] at h
  cases eo with
  | none =>
    obtain ⟨helse, hcovt⟩ : t.elseFree = true ∧ t.CoveredB := hcov
    obtain ⟨hresc, hrest⟩ : Resolved r.fns c ∧ ResolvedS r.fns t := hres
    simp only [sdepth3, Nat.max_le, ← Nat.add_max_add_left] at hd hn
    have hAt0 : At σ pre (.kw .If :: (render2 c ++ .kw .Then :: (renderS3 t ++ rest))) := by
      simpa only [renderS3, List.cons_append, List.append_assoc] using hP.cur
    refine (if_cond3 hS hfull c fuel pre _ hAt0 hresc (by omega) (by omega)).outcome
      (fun err hx => by simp only [RStmt3.exec, hx]) fun v r1 τ hx hτ => ?_
    cases hb : v.toBool with
    | true =>
      have hex : (RStmt3.ifS c t none).exec (p.data) n j r = t.exec (p.data) n j r1 := by
        simp only [RStmt3.exec, hx, hb, ↓reduceIte]
      rw [hex]
      show Outcome3 p σ n after eol ((statementOrGoto (evalN fuel) >>= fun _ => tailElse) τ) _ _
      rw [bind_andThen]
      have hPt := hτ.posEnd hP
      have hB := ht fuel τ r1 _ rest after eol hτ.sync (.inl hfull) hPt (Or.inl hLE) hcovt (by rw [hτ.fns]; exact hrest)
        (by rw [hτ.fns]; omega) (by rw [hτ.fns, hτ.nesting]; omega)
      refine outcome_start ?_ hτ.start
      exact tail_line (by rw [hτ.kept.lines]; exact hS.env.lines) hS.wf hPt hLE hB
    | false =>
      have hex : (RStmt3.ifS c t none).exec (p.data) n j r = (r1, .skipLine) := by
        simp only [RStmt3.exec, hx, hb, Bool.false_eq_true, ↓reduceIte]
      rw [hex]
      show Outcome3 p σ n after eol ((lineBudget >>= fun b => ifSkipLoop (evalN fuel) b) τ) _ _
      rw [bind_ok (lineBudget_eq hτ.cur.1)]
      -- `List.length (…)`: as `(…).length` the `++` chain is elaborated again each time the field access is postponed
      obtain ⟨k, hk⟩ : ∃ k, List.length (pre ++ [Token.kw Kw.If] ++ render2 c ++ [Token.kw Kw.Then] ++ (renderS3 t ++ rest)) + 1
          = (k + 1 + 1) + (renderS3 t).length :=
        ⟨pre.length + (render2 c).length + rest.length + 1, by
          simp only [List.length_append, List.length_cons, List.length_nil]; omega⟩
      rw [hk, ifSkipLoop_skip _ (renderS3 t) (k + 1 + 1) _ _ rest hτ.cur (renderS3_tokens t helse)]
      have hAt4 := at_mv hτ.cur (τ.reads + (renderS3 t).length)
      have heol : eol = ((pre ++ [Token.kw Kw.If] ++ render2 c ++ [Token.kw Kw.Then] ++ renderS3 t) ++ rest).length := by
        rw [hP.heol, ← hτ.line hP]; simp only [List.append_assoc]
      obtain ⟨k', _, hskip⟩ := ifSkipLoop_lineEnd (ev := evalN fuel) (k := k) hAt4 hLE.lineEnd
      rw [hskip]
      refine ⟨_, rfl, ?_, (hτ.sync.mem.congr rfl rfl rfl rfl rfl rfl rfl rfl rfl), ?_⟩
      · exact ⟨hτ.kept.lines, hτ.kept.warnings, hτ.kept.tracing, hτ.kept.nesting, hτ.kept.state⟩
      · show ({ line := τ.loc.line, idx := _ } : Loc) = _
        rw [hτ.start.line, hP.locline, heol]
  | some e =>
    obtain ⟨hcl, hcovt, hcove⟩ : t.closes = true ∧ t.CoveredB ∧ e.CoveredB := hcov
    obtain ⟨hresc, hrest, hrese⟩ : Resolved r.fns c ∧ ResolvedS r.fns t ∧ ResolvedS r.fns e := hres
    simp only [sdepth3, Nat.max_le, ← Nat.add_max_add_left] at hd hn
    have hAt0 : At σ pre (.kw .If :: (render2 c ++ .kw .Then :: (renderS3 t ++ .kw .Else :: (renderS3 e ++ rest)))) := by
      simpa only [renderS3, List.cons_append, List.append_assoc] using hP.cur
    refine (if_cond3 hS hfull c fuel pre _ hAt0 hresc (by omega) (by omega)).outcome
      (fun err hx => by simp only [RStmt3.exec, hx]) fun v r1 τ hx hτ => ?_
    cases hb : v.toBool with
    | true =>
      have hex : (RStmt3.ifS c t (some e)).exec (p.data) n j r =
          closeLine3 ((t.exec (p.data) n j r1).1, (t.exec (p.data) n j r1).2) := by
        simp only [RStmt3.exec, hx, hb, ↓reduceIte]
      rw [hex]
      show Outcome3 p σ n after eol ((statementOrGoto (evalN fuel) >>= fun _ => tailElse) τ) _ _
      rw [bind_andThen]
      have hPt := hτ.pos (t := t) (rest' := .kw .Else :: (renderS3 e ++ rest)) hP fun h => (lineEnd3_else_false h).elim
      have hB := ht fuel τ r1 _ _ _ eol hτ.sync (.inl hfull) hPt (Or.inr ⟨hcl, _, rfl⟩) hcovt (by rw [hτ.fns]; exact hrest)
        (by rw [hτ.fns]; omega) (by rw [hτ.fns, hτ.nesting]; omega)
      refine outcome_start ?_ hτ.start
      exact tail_else (by rw [hτ.kept.lines]; exact hS.env.lines) hS.wf hPt hB
    | false =>
      have hex : (RStmt3.ifS c t (some e)).exec (p.data) n j r = e.exec (p.data) n j r1 := by
        simp only [RStmt3.exec, hx, hb, Bool.false_eq_true, ↓reduceIte]
      rw [hex]
      show Outcome3 p σ n after eol ((lineBudget >>= fun b => ifSkipLoop (evalN fuel) b) τ) _ _
      rw [bind_ok (lineBudget_eq hτ.cur.1)]
      obtain ⟨k, hk⟩ : ∃ k, List.length (pre ++ [Token.kw Kw.If] ++ render2 c ++ [Token.kw Kw.Then] ++
          (renderS3 t ++ Token.kw Kw.Else :: (renderS3 e ++ rest))) + 1
          = (k + 1) + (renderS3 t).length :=
        ⟨pre.length + (render2 c).length + (renderS3 e).length + rest.length + 2 + 1, by
          simp only [List.length_append, List.length_cons, List.length_nil]; omega⟩
      rw [hk, ifSkipLoop_skip _ (renderS3 t) (k + 1) _ _ _ hτ.cur (renderS3_tokens t (closes_elseFree t hcl))]
      have m4 := hτ.past (a := renderS3 t) (τ.reads + (renderS3 t).length)
      rw [ifSkipLoop_else m4.cur]
      have m5 := m4.mv1 ((mv τ (renderS3 t).length (τ.reads + (renderS3 t).length)).reads + 1)
      have hPe := m5.posEnd hP
      have hB := he e rfl fuel _ r1 _ rest after eol m5.sync (.inl hfull) hPe (Or.inl hLE) hcove (by rw [hτ.fns]; exact hrese)
        (by rw [hτ.fns]; omega) (by rw [hτ.fns, m5.nesting]; omega)
      exact outcome_start hB m5.start

end stmts

end Abasic.Stmt3V
