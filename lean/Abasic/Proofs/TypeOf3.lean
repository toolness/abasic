import Abasic.Proofs.TypeOf2
import Abasic.Ref.Stmt3
/-
  C06 for the whole statement language `RStmt3`, spec side: the DEFINITIONS of the static check of
  one statement (what the analyzer side, Proofs/Analyzer3.lean, compares its runs with; what is
  proved of the check is in Proofs/Typing3.lean, but for `seq_ok_iff₃`: two checks in sequence succeed iff both do).

  * `sigAfterS sig s` — the signatures after the analyzer has walked `s`.
  * `typeOfS3 sig le s` — the static check of one statement relative to the
      signatures `sig` and the existing line numbers `le`; `Typed3` the same as a
      judgement (`typeOfS3_ok_iff`).
      RESTRICTION: the THEN branch of an IF that has an ELSE branch must not
      contain a DEF (`defFree`); then both branches are checked w.r.t.
      the same `sig` (the analyzer checks the ELSE branch w.r.t.
      `sigAfterS sig thenBranch`, which is `sig` for a DEF-free branch:
      `sigAfterS_defFree`).  `RStmt3.closes`, which `RStmt3.Covered` demands of
      such a branch, implies it (`defFree_of_closes`).  The check answers
      `.syntax .unexpectedToken` for a tree that violates the restriction.
      READ t₁, …: the subscripts of every cell target are numbers (`typeTargets`);
      scalar targets need no check (the item is coerced by the name).
  * `typeOfS3A` — the check exactly as the analyzer walks an IF; equal to
      `typeOfS3` on covered statements (`typeOfS3A_covered`).
-/

namespace Abasic.Props.C06
open Abasic Abasic.Ref

variable {F : Type} [NumOps F]

def sigAfterS : Sig → RStmt3 F → Sig
  | sig, .defS f ps _ => fun g => if g = f then some (ps.map VT.ofName, VT.ofName f) else sig g
  | sig, .ifS _ a none => sigAfterS sig a
  | sig, .ifS _ a (some b) => sigAfterS (sigAfterS sig a) b
  | sig, _ => sig

def defFree : RStmt3 F → Bool
  | .defS _ _ _ => false
  | .ifS _ a none => defFree a
  | .ifS _ a (some b) => defFree a && defFree b
  | _ => true

def typeAny (sig : Sig) (e : Expr2 F) : Except Err Unit :=
  match typeOf2 sig e with
  | .error x => .error x
  | .ok _ => .ok ()

def typeAs (sig : Sig) (t : VT) (e : Expr2 F) : Except Err Unit :=
  match typeOf2 sig e with
  | .error x => .error x
  | .ok t' => if t' = t then .ok () else .error .typeMismatch

def typeStep2 (sig : Sig) : Option (Expr2 F) → Except Err Unit
  | none => .ok ()
  | some c => typeAs sig .num c

def typeItems3 (sig : Sig) : List (PItem3 F) → Except Err Unit
  | [] => .ok ()
  | .expr e :: rest =>
    match typeAny sig e with
    | .error x => .error x
    | .ok _ => typeItems3 sig rest
  | _ :: rest => typeItems3 sig rest

def typeTargets (sig : Sig) : List (RTarget F) → Except Err Unit
  | [] => .ok ()
  | .scalar _ :: rest => typeTargets sig rest
  | .cell _ idx :: rest =>
    match typeIdx sig idx with
    | .error x => .error x
    | .ok _ => typeTargets sig rest

def lineOK (le : Nat → Bool) (n : Nat) : Except Err Unit :=
  if le n then .ok () else .error .undefinedStatement

/-- What the analyzer checks on a statement of `RStmt3` when `sig` are the
    definitions it has seen; the first error in token order. -/
def typeOfS3 (sig : Sig) (le : Nat → Bool) : RStmt3 F → Except Err Unit
  | .letS v e => typeAs sig (VT.ofName v) e
  | .printS items => typeItems3 sig items
  | .gotoS n => lineOK le n
  | .gosubS n => lineOK le n
  | .lineS n => lineOK le n
  | .endS => .ok ()
  | .returnS => .ok ()
  | .readS ts => typeTargets sig ts
  | .dataS _ => .ok ()
  | .restoreS => .ok ()
  | .ifS c a none =>
    match typeAny sig c with
    | .error x => .error x
    | .ok _ => typeOfS3 sig le a
  | .ifS c a (some b) =>
    match typeAny sig c with
    | .error x => .error x
    | .ok _ =>
      match typeOfS3 sig le a with
      | .error x => .error x
      | .ok _ => if defFree a then typeOfS3 sig le b else .error (.syntax .unexpectedToken)
  | .forS v a b c =>
    if VT.ofName v = .num then
      match typeAs sig .num a with
      | .error x => .error x
      | .ok _ =>
        match typeAs sig .num b with
        | .error x => .error x
        | .ok _ => typeStep2 sig c
    else .error .typeMismatch
  | .nextS v => if VT.ofName v = .num then .ok () else .error .typeMismatch
  | .dimS _ idx => typeIdx sig idx
  | .letCellS name idx e =>
    match typeIdx sig idx with
    | .error x => .error x
    | .ok _ => typeAs sig (VT.ofName name) e
  | .defS f ps body =>
    typeAs (fun g => if g = f then some (ps.map VT.ofName, VT.ofName f) else sig g) (VT.ofName f) body

def Typed3 (sig : Sig) (le : Nat → Bool) : RStmt3 F → Prop
  | .letS v e => typeOf2 sig e = .ok (VT.ofName v)
  | .printS items => ∀ e, PItem3.expr e ∈ items → ∃ t, typeOf2 sig e = .ok t
  | .gotoS n => le n = true
  | .gosubS n => le n = true
  | .lineS n => le n = true
  | .ifS c a none => (∃ t, typeOf2 sig c = .ok t) ∧ Typed3 sig le a
  | .ifS c a (some b) => (∃ t, typeOf2 sig c = .ok t) ∧ Typed3 sig le a ∧ defFree a = true ∧ Typed3 sig le b
  | .forS v a b c =>
    VT.ofName v = .num ∧ typeOf2 sig a = .ok .num ∧ typeOf2 sig b = .ok .num ∧
      ∀ e, c = some e → typeOf2 sig e = .ok .num
  | .nextS v => VT.ofName v = .num
  | .readS ts => ∀ name idx, RTarget.cell name idx ∈ ts → typeIdx sig idx = .ok ()
  | .dimS _ idx => typeIdx sig idx = .ok ()
  | .letCellS name idx e => typeIdx sig idx = .ok () ∧ typeOf2 sig e = .ok (VT.ofName name)
  | .defS f ps body => typeOf2 (sigAfterS sig (.defS f ps body)) body = .ok (VT.ofName f)
  | _ => True

/-- the check exactly as the analyzer walks an IF: the ELSE branch w.r.t. the
    signatures after the THEN branch, no restriction on the THEN branch -/
def typeOfS3A (le : Nat → Bool) : Sig → RStmt3 F → Except Err Unit
  | sig, .ifS c a none =>
    match typeAny sig c with
    | .error x => .error x
    | .ok _ => typeOfS3A le sig a
  | sig, .ifS c a (some b) =>
    match typeAny sig c with
    | .error x => .error x
    | .ok _ =>
      match typeOfS3A le sig a with
      | .error x => .error x
      | .ok _ => typeOfS3A le (sigAfterS sig a) b
  | sig, s => typeOfS3 sig le s

/- `seq_ok_iff` of LoopsTyping.lean stated against the `match` as it is elaborated in this file: as a rewrite
   rule a lemma finds only the `match` of the file it is stated in. -/
theorem seq_ok_iff₃ {a b : Except Err Unit} :
    (match a with | .error x => .error x | .ok _ => b : Except Err Unit) = .ok () ↔ a = .ok () ∧ b = .ok () := by
  cases a <;> simp

end Abasic.Props.C06
