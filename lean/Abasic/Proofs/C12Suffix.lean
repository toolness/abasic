import Abasic.Props.C13
/-
  What a matcher leaves is a suffix of what it was given.
-/
namespace Abasic.Props.C12
open Abasic

theorem skipWs_suffix (cs : Str) : skipWs cs <:+ cs :=
  let ⟨pre, h, _⟩ := C13.skipWs_suffix cs; ⟨pre, h.symm⟩

theorem chompKeyword_suffix (kw cs r : Str) (h : chompKeyword kw cs = some r) : r <:+ cs :=
  let ⟨pre, e⟩ := C13.chompKeyword_suffix kw cs r h; ⟨pre, e.symm⟩

theorem dropBytes_suffix (n : Nat) (cs : Str) : dropBytes n cs <:+ cs :=
  let ⟨pre, e⟩ := C13.dropBytes_suffix n cs; ⟨pre, e.symm⟩

variable {F : Type} [NumOps F]

theorem nextToken_suffix (c : Char) (t : Str) (tk : Token F) (rest : Str)
    (h : nextToken (F := F) (c :: t) = .tok tk rest) : rest <:+ c :: t :=
  let ⟨pre, _, e⟩ := C13.nextToken_cases_consumes _ tk rest h; ⟨pre, e.symm⟩

end Abasic.Props.C12
