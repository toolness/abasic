import Abasic.Proofs.Stmt3Base
/-
  C03, full statement language — the statement evaluator on the statements of Ref/Stmt3.lean:
  DIM, assignment to an array cell, READ (scalar and cell targets):
  first what does not depend on the program (the model's READ round `readBody` / `readItem`,
  `TargetOK`, the control results of the READ specs), then the statement lemmas for a `ProgView`.
-/
set_option linter.unusedSectionVars false

namespace Abasic.Stmt3L
open Abasic Abasic.Ref Abasic.ExprL Abasic.ExprL2 Abasic.StmtL Abasic.ProgL Abasic.Prog3L Abasic.Hoare M
open Abasic.Prog2L (Rel2)
open Abasic.Stmt2L (optionalArrayIndex_none')

variable {F : Type} [NumOps F]

theorem stmtEnd_not {rest : List (Token F)} (h : StmtEnd rest) {k : Kw} (hk : k ≠ .Colon) (hk' : k ≠ .Else) :
    ∀ t, rest.head? = some t → t.isKw k = false := by
  intro t ht
  rcases h t ht with rfl | rfl
  · show (k == Kw.Colon) = false
    simp only [beq_eq_false_iff_ne, ne_eq]; exact hk
  · show (k == Kw.Else) = false
    simp only [beq_eq_false_iff_ne, ne_eq]; exact hk'

theorem put_arrays (r : RState3 F) (env : RefEnv F) : (r.put env).arrays = env.arrays := rfl

/-! ### READ

  READ OFF THE CODE (`readLoop`, Stmt.lean): for each target, in this order,
    1. the target is parsed — `parseLValue`: the name and, behind `(`, the
       subscripts, which are EVALUATED NOW;
    2. the next DATA item is consumed (OUT OF DATA when there is none);
    3. the item is coerced to the kind of the target's NAME;
    4. the value is stored — `assignValue`, the same store as LET.
  `readCellSpec` / `readScalarSpec` / `readTargetsSpec` (Ref/Stmt3.lean) are that. -/

/-- one round of the READ loop, with what follows it as a parameter -/
def readBody (ev : Evals F) (K : M F Unit) : M F Unit := do
  let lv ← parseLValue ev
  match ← nextDataElement with
  | none => fail .outOfData
  | some e =>
    let v ← liftE (Value.coerceFromData lv.name e)
    assignValue lv v
    K

/-- a READ round behind its target `lv`: steps 2 to 4 -/
def readItem (lv : LValue) (K : M F Unit) : M F Unit := do
  match ← nextDataElement with
  | none => fail .outOfData
  | some e =>
    let v ← liftE (Value.coerceFromData lv.name e)
    assignValue lv v
    K

theorem readBody_eq (ev : Evals F) (K : M F Unit) : readBody ev K = parseLValue ev >>= fun lv => readItem lv K := rfl

theorem readLoop_body (ev : Evals F) (k : Nat) :
    readLoop ev (k + 1) = readBody ev (accept .Comma >>= fun b => if b then readLoop ev k else pure ()) := rfl

theorem start_data {σ τ : St F} (h : Start σ τ) (d : Option (DataIter F)) : Start σ { τ with data := d } :=
  ⟨⟨h.kept.lines, h.kept.warnings, h.kept.tracing, h.kept.nesting, h.kept.state⟩, h.out, h.fns, h.line⟩

theorem readCellSpec_ctl (items : List (Nat × DataElement F)) (r : RState3 F) (name : Str) (idx : List (Expr2 F)) :
    (readCellSpec items r name idx).2 = .next ∨ (∃ e, (readCellSpec items r name idx).2 = .error e) ∨
      ∃ e ln, (readCellSpec items r name idx).2 = .errorAt e ln := by
  unfold readCellSpec
  cases evalIdx r idx with
  | error err => exact Or.inr (Or.inl ⟨err, rfl⟩)
  | ok q =>
    obtain ⟨index, r1⟩ := q
    dsimp only
    cases items[r1.data]? with
    | none => exact Or.inr (Or.inl ⟨_, rfl⟩)
    | some lnd =>
      obtain ⟨ln, d⟩ := lnd
      dsimp only
      cases Value.coerceFromData name d with
      | error e => exact Or.inr (Or.inr ⟨e, ln, rfl⟩)
      | ok v =>
        dsimp only
        cases storeCell name index v r1.arrays with
        | error err => exact Or.inr (Or.inl ⟨err, rfl⟩)
        | ok arrs => exact Or.inl rfl

def TargetOK (fns : List (Str × FnDefSpec F)) (fuel nesting : Nat) : RTarget F → Prop
  | .scalar _ => True
  | .cell _ idx => ResolvedL fns idx ∧ depthArgs fns callFuel idx ≤ fuel ∧
      nesting + depthArgs fns callFuel idx ≤ Extracted.nestingLimit

theorem readTargetsSpec_cons_next {items : List (Nat × DataElement F)} {r : RState3 F} {t : RTarget F}
    (rest : List (RTarget F)) (h : (readTargetSpec items r t).2 = .next) :
    readTargetsSpec items r (t :: rest) = readTargetsSpec items (readTargetSpec items r t).1 rest := by
  show (match readTargetSpec items r t with | (r', .next) => readTargetsSpec items r' rest | x => x) = _
  generalize readTargetSpec items r t = R at h
  obtain ⟨r1, c⟩ := R
  cases h
  rfl

theorem readTargetsSpec_cons_stop {items : List (Nat × DataElement F)} {r : RState3 F} {t : RTarget F}
    (rest : List (RTarget F)) (h : (readTargetSpec items r t).2 ≠ .next) :
    readTargetsSpec items r (t :: rest) = readTargetSpec items r t := by
  show (match readTargetSpec items r t with | (r', .next) => readTargetsSpec items r' rest | x => x) = _
  generalize readTargetSpec items r t = R at h
  obtain ⟨r1, c⟩ := R
  cases c <;> first | rfl | exact absurd rfl h

theorem readTargetsSpec_keeps {P : RState3 F → Prop} (items : List (Nat × DataElement F))
    (h1 : ∀ r t, P r → P (readTargetSpec items r t).1) : ∀ (ts : List (RTarget F)) (r : RState3 F),
    P r → P (readTargetsSpec items r ts).1
  | [], r, h => h
  | t :: rest, r, h => by
    by_cases hc : (readTargetSpec items r t).2 = .next
    · rw [readTargetsSpec_cons_next rest hc]; exact readTargetsSpec_keeps items h1 rest _ (h1 r t h)
    · rw [readTargetsSpec_cons_stop rest hc]; exact h1 r t h

theorem toks_head_ne_paren (_t : RTarget F) (tl : List (Token F)) :
    ∀ t', (Token.kw (F := F) .Comma :: tl).head? = some t' → t'.isKw .LeftParen = false := by
  intro t' ht'
  simp only [List.head?_cons, Option.some.injEq] at ht'
  subst ht'
  rfl

theorem readScalarSpec_ctl (items : List (Nat × DataElement F)) (r : RState3 F) (name : Str) :
    (readScalarSpec items r name).2 = .next ∨ (∃ e, (readScalarSpec items r name).2 = .error e) ∨
      ∃ e ln, (readScalarSpec items r name).2 = .errorAt e ln := by
  unfold readScalarSpec
  cases items[r.data]? with
  | none => exact Or.inr (Or.inl ⟨_, rfl⟩)
  | some lnd =>
    obtain ⟨ln, d⟩ := lnd
    dsimp only
    cases Value.coerceFromData name d with
    | error e => exact Or.inr (Or.inr ⟨e, ln, rfl⟩)
    | ok v => exact Or.inl rfl

theorem readTargetSpec_ctl (items : List (Nat × DataElement F)) (r : RState3 F) (t : RTarget F) :
    (readTargetSpec items r t).2 = .next ∨ (∃ e, (readTargetSpec items r t).2 = .error e) ∨
      ∃ e ln, (readTargetSpec items r t).2 = .errorAt e ln := by
  cases t with
  | scalar x => exact readScalarSpec_ctl items r x
  | cell name idx => exact readCellSpec_ctl items r name idx

theorem readTargetsSpec_ctl (items : List (Nat × DataElement F)) : ∀ (ts : List (RTarget F)) (r : RState3 F),
    (readTargetsSpec items r ts).2 = .next ∨ (∃ e, (readTargetsSpec items r ts).2 = .error e) ∨
      ∃ e ln, (readTargetsSpec items r ts).2 = .errorAt e ln
  | [], r => Or.inl rfl
  | t :: rest, r => by
    by_cases hc : (readTargetSpec items r t).2 = .next
    · rw [readTargetsSpec_cons_next rest hc]; exact readTargetsSpec_ctl items rest _
    · rw [readTargetsSpec_cons_stop rest hc]; exact readTargetSpec_ctl items r t

theorem targetsOK_of {fns : List (Str × FnDefSpec F)} {fuel nesting : Nat} : ∀ (ts : List (RTarget F)),
    ResolvedTargets fns ts → targetsDepth fns ts ≤ fuel → nesting + targetsDepth fns ts ≤ Extracted.nestingLimit →
    ∀ t ∈ ts, TargetOK fns fuel nesting t
  | [], _, _, _ => fun t ht => by cases ht
  | t0 :: rest, hres, hd, hn => by
    intro t ht
    simp only [targetsDepth] at hd hn
    rcases List.mem_cons.mp ht with rfl | ht
    · cases t with
      | scalar x => trivial
      | cell name idx =>
        have h1 : ResolvedL fns idx := hres.1
        have h2 : (RTarget.cell name idx).depth fns = depthArgs fns callFuel idx := rfl
        exact ⟨h1, by omega, by omega⟩
    · exact targetsOK_of rest hres.2 (by omega) (by omega) t ht

end Abasic.Stmt3L

namespace Abasic.Stmt3V
open Abasic Abasic.Ref Abasic.ExprL Abasic.ExprL2 Abasic.StmtL Abasic.ProgL Abasic.Prog3L Abasic.Stmt3L Abasic.Hoare M
open Abasic.Prog2L (Rel2)
open Abasic.Stmt2L (optionalArrayIndex_none')

variable {F : Type} [NumOps F]

theorem readItem_run {p : ProgView F} (hwf : p.WF) {σ : St F} (hh : p.Holds σ.lines) {c : Nat} (hd : p.Data c σ.data)
    (lv : LValue) (K : M F Unit) :
    match (p.data)[c]? with
    | none => ErrFrom σ .outOfData (readItem lv K σ)
    | some (ln, d) =>
      match Value.coerceFromData lv.name d with
      | .error e => e = .dataTypeMismatch ∧ ∃ σ' i, readItem lv K σ = .err { err := e } σ' ∧
          σ'.dataLoc = some { line := some ln, idx := i } ∧ σ'.out = σ.out ∧ σ'.nesting = σ.nesting
      | .ok v => ∃ it', p.Data (c + 1) (some it') ∧ v.matchesName lv.name = true ∧
          readItem lv K σ = (assignValue lv v >>= fun _ => K) { σ with data := some it' } := by
  cases hc : (p.data)[c]? with
  | none =>
    obtain ⟨it', hnd⟩ := nextData_none hh hwf hd hc
    refine errFrom_at (start_data (Start.refl σ) (some it')) ?_
    unfold readItem
    rw [bind_ok hnd]
    rfl
  | some lnd =>
    obtain ⟨ln, d⟩ := lnd
    obtain ⟨it', i, hnd, hrel, hdl⟩ := nextData_some hh hwf hd hc
    dsimp only
    cases hco : Value.coerceFromData lv.name d with
    | error e =>
      refine ⟨ArrayL.coerce_err hco, _, i, ?_, hdl, rfl, rfl⟩
      unfold readItem
      rw [bind_ok hnd]
      simp only [hco, liftE]
      rfl
    | ok v =>
      refine ⟨it', hrel, ArrayL.coerce_matches hco, ?_⟩
      unfold readItem
      rw [bind_ok hnd]
      simp only [hco, liftE]
      rfl

theorem Sync.data {p : ProgView F} {σ : St F} {r : RState3 F} (hS : Sync p r σ) {c : Nat} {it : DataIter F}
    (hd : p.Data c (some it)) : Sync p { r with data := c } { σ with data := some it } where
  wf := hS.wf
  env := ⟨hS.env.lines, hS.env.warnings, hS.env.tracing⟩
  mem := { hS.mem with data := hd, fns := ⟨hS.mem.fns.undef, hS.mem.fns.defd⟩ }
  typed := hS.typed
  arrs := hS.arrs
  exprs := fun hf => (hS.exprs hf).congr rfl rfl rfl

section
variable {p : ProgView F} {σ τ : St F} {r0 r : RState3 F} {pre rest : List (Token F)}

theorem Mid.data (h : Mid p σ r0 r τ pre rest) {c : Nat} {it : DataIter F} (hd : p.Data c (some it)) :
    Mid p σ r0 { r with data := c } { τ with data := some it } pre rest :=
  ⟨h.sync.data hd, h.fns, start_data h.start _, h.cur.1, h.cur.2⟩

theorem Mid.assignCell (h : Mid p σ r0 r τ pre rest) (name : Str) (is : List Nat) (v : Value F)
    {x : Except Err (List (Str × ArrayV F))} (hx : storeCell name is v r.arrays = x) :
    match x with
    | .error err => err ≠ .dataTypeMismatch ∧ ErrFrom σ err (assignValue { name := name, index := some is } v τ)
    | .ok arrs => assignValue { name := name, index := some is } v τ = .ok () { τ with arrays := arrs } ∧
        Mid p σ r0 { r with arrays := arrs } { τ with arrays := arrs } pre rest := by
  have hS := h.sync
  have hav : assignValue (F := F) { name := name, index := some is } v τ = arraySet name is v τ := by
    show (warnUndeclaredArray name >>= fun _ => arraySet name is v) _ = _
    rw [bind_ok (Stmt2L.warnUndeclared_off name _ hS.env.warnings)]
  have hA := Stmt2L.arraySet_run name is v τ (by rw [hS.mem.arrays]; exact hS.arrs)
  rw [hS.mem.arrays] at hA
  rw [hav]
  rw [hx] at hA
  cases x with
  | error err =>
    obtain ⟨hnd, σ', hσ', hl, ho⟩ := hA
    exact ⟨hnd, ErrFrom.start ⟨_, σ', hσ', rfl, ho, by rw [hl], (((rns_arraySet name is v).at _).2 _ _ hσ').1, Or.inl rfl⟩
      h.start⟩
  | ok arrs =>
    refine ⟨hA, ?_, h.fns, h.start.trans ⟨⟨rfl, rfl, rfl, rfl, rfl⟩, rfl, rfl, rfl⟩, h.cur.1, h.cur.2⟩
    exact {
      wf := hS.wf
      env := ⟨hS.env.lines, hS.env.warnings, hS.env.tracing⟩
      mem := { hS.mem with arrays := rfl, fns := ⟨hS.mem.fns.undef, hS.mem.fns.defd⟩ }
      typed := hS.typed
      arrs := Stmt2L.storeCell_all Stmt2L.sized hx hS.arrs
      exprs := fun hf => (hS.exprs hf).congr rfl rfl rfl }

end

section stmts
variable {p : ProgView F} {n j : Nat}

theorem dim_ok (name : Str) (dims : List (Expr2 F)) : StmtOK p n j (.dimS name dims) := by
  intro fuel σ r pre rest after eol hS hL hP _ _ _ hres hd hn
  have h0 : Mid p σ r r σ pre
      (.kw .Dim :: .symbol name :: .kw .LeftParen :: (renderArgs dims ++ (.kw .RightParen :: rest))) :=
    .ofSync hS (by simpa only [renderS3, List.cons_append, List.append_assoc, List.nil_append] using hP.cur)
  obtain ⟨k1, h1, m1⟩ := h0.body (ev := evalN fuel) rfl
  obtain ⟨k2, h2, m2⟩ := m1.tok
  rw [h1]
  show Outcome3 p σ n after eol (dimStatement (evalN fuel) _) _ _
  unfold dimStatement parseLValue
  rw [ExprL.bind_assoc', bind_ok h2]
  show Outcome3 p σ n after eol (((optionalArrayIndex (evalN fuel) >>= fun idx =>
    pure ({ name := name, index := idx } : LValue)) >>= _) _) _ _
  rw [ExprL.bind_assoc']
  refine (m2.optIdx fuel hL.dimS hres hd hn _).outcome (fun err hx => by simp only [RStmt3.exec, hx]) fun is r1 τ hx hτ => ?_
  show Outcome3 p σ n after eol (arrayCreate name is τ) _ _
  have hM := hτ.sync.mem
  have harr := hM.arrays
  cases hhas : alHas name r1.arrays with
  | true =>
    have hex : (RStmt3.dimS name dims).exec (p.data) n j r = (r1, .error .redimensionedArray) := by
      simp only [RStmt3.exec, hx, hhas, ↓reduceIte]
    rw [hex]
    refine ⟨by simp, hτ.fails (.refl τ) ?_⟩
    simp only [arrayCreate, bind, M.bindM, M.get, harr, hhas, ↓reduceIte, M.fail]
  | false =>
    cases hcr : ArrayV.create (F := F) name is with
    | error err =>
      have hex : (RStmt3.dimS name dims).exec (p.data) n j r = (r1, .error err) := by
        simp only [RStmt3.exec, hx, hhas, Bool.false_eq_true, ↓reduceIte, hcr]
      rw [hex]
      refine ⟨Stmt2L.create_nd hcr, hτ.fails (.refl τ) ?_⟩
      simp only [arrayCreate, bind, M.bindM, M.get, harr, hhas, Bool.false_eq_true, ↓reduceIte, hcr, M.fail]
    | ok a =>
      have hex : (RStmt3.dimS name dims).exec (p.data) n j r =
          ({ r1 with arrays := alSet name a r1.arrays }, .next) := by
        simp only [RStmt3.exec, hx, hhas, Bool.false_eq_true, ↓reduceIte, hcr]
      have hcre : arrayCreate name is τ = .ok () { τ with arrays := alSet name a r1.arrays } := by
        simp only [arrayCreate, bind, M.bindM, M.get, harr, hhas, Bool.false_eq_true, ↓reduceIte, hcr, M.set]
      rw [hex, hcre]
      have hk := hτ.kept
      refine outcome_next hP ⟨hk.lines, hk.warnings, hk.tracing, hk.nesting, hk.state⟩ hτ.start.line ?_
        ⟨hτ.cur.1, hτ.cur.2⟩
      exact { hM with arrays := rfl, fns := ⟨hM.fns.undef, hM.fns.defd⟩ }

theorem letCell_ok (name : Str) (idx : List (Expr2 F)) (e : Expr2 F) : StmtOK p n j (.letCellS name idx e) := by
  intro fuel σ r pre rest after eol hS hL hP hE _ _ hres hd hn
  obtain ⟨hri, hre⟩ : ResolvedL r.fns idx ∧ Resolved r.fns e := hres
  simp only [sdepth3] at hd hn
  have h0 : Mid p σ r r σ pre (.kw .Let :: .symbol name :: .kw .LeftParen ::
      (renderArgs idx ++ (.kw .RightParen :: (.kw .Equals :: (render2 e ++ rest))))) :=
    .ofSync hS (by simpa only [renderS3, List.cons_append, List.append_assoc, List.nil_append] using hP.cur)
  obtain ⟨k1, h1, m1⟩ := h0.body (ev := evalN fuel) rfl
  obtain ⟨k2, h2, m2⟩ := m1.tok
  rw [h1]
  show Outcome3 p σ n after eol (letStatement (evalN fuel) _) _ _
  unfold letStatement
  rw [bind_ok h2]
  show Outcome3 p σ n after eol (assignmentStatement (evalN fuel) name _) _ _
  unfold assignmentStatement
  refine (m2.optIdx fuel hL.letCellS.1 hri (by omega) (by omega) _).outcome
    (fun err hx => by simp only [RStmt3.exec, hx]) fun is r1 τ hx hτ => ?_
  obtain ⟨k3, h3, m3⟩ := hτ.expectKw (k := .Equals) rfl
  rw [bind_ok h3]
  refine (m3.expr fuel hL.letCellS.2 hre (by omega) (by omega) (hE.ends 6) _).outcome
    (fun err hx2 => by simp only [RStmt3.exec, hx, hx2]) fun v r2 τ2 hx2 hτ2 => ?_
  show Outcome3 p σ n after eol (assignValue { name := name, index := some is } v τ2) _ _
  cases hcs : storeCell name is v r2.arrays with
  | error err =>
    have hC := hτ2.assignCell name is v hcs
    have hex : (RStmt3.letCellS name idx e).exec (p.data) n j r = (r2, .error err) := by
      simp only [RStmt3.exec, hx, hx2, hcs]
    rw [hex]
    exact hC
  | ok arrs =>
    have hC := hτ2.assignCell name is v hcs
    have hex : (RStmt3.letCellS name idx e).exec (p.data) n j r = ({ r2 with arrays := arrs }, .next) := by
      simp only [RStmt3.exec, hx, hx2, hcs]
    rw [hex, hC.1]
    exact hC.2.done hP

theorem readItem_store {σ τ : St F} {r0 r : RState3 F} {pf rest : List (Token F)} (h : Mid p σ r0 r τ pf rest)
    (name : Str) (ix : Option (List Nat)) (K : M F Unit) {R : RState3 F × Ctl2}
    (hR : R = match (p.data)[r.data]? with
      | none => (r, .error .outOfData)
      | some (ln, d) =>
        match Value.coerceFromData name d with
        | .error e => ({ r with data := r.data + 1 }, .errorAt e ln)
        | .ok v =>
          match ix with
          | none => ({ r with data := r.data + 1, vars := alSet name v r.vars }, .next)
          | some is =>
            match storeCell name is v r.arrays with
            | .error err => ({ r with data := r.data + 1 }, .error err)
            | .ok arrs => ({ r with data := r.data + 1, arrays := arrs }, .next)) :
    Follows p σ r0 (readItem { name := name, index := ix } K τ) pf rest K R := by
  subst hR
  have hI := readItem_run h.sync.wf h.sync.env.lines (c := r.data) h.sync.mem.data { name := name, index := ix } K
  cases hc : (p.data)[r.data]? with
  | none =>
    rw [hc] at hI
    exact ⟨by simp, hI.start h.start⟩
  | some lnd =>
    obtain ⟨ln, d⟩ := lnd
    rw [hc] at hI
    dsimp only at hI ⊢
    cases hco : Value.coerceFromData name d with
    | error e =>
      rw [hco] at hI
      obtain ⟨he, σ', i, h1, h2, h3, h4⟩ := hI
      exact ⟨he, σ', i, h1, h2, h3.trans h.start.out, h4.trans h.nesting⟩
    | ok v =>
      rw [hco] at hI
      obtain ⟨it', hrel, hm, hrun⟩ := hI
      rw [hrun]
      have m2 := h.data hrel
      cases ix with
      | none =>
        obtain ⟨hset, m3⟩ := m2.assignVar name hm
        exact ⟨_, bind_ok hset, m3⟩
      | some is =>
        dsimp only
        cases hcs : storeCell name is v r.arrays with
        | error err =>
          have hC := m2.assignCell name is v hcs
          exact ⟨hC.1, hC.2.bind⟩
        | ok arrs =>
          have hC := m2.assignCell name is v hcs
          exact ⟨_, bind_ok hC.1, hC.2⟩

theorem read_cell_follows {σ τ : St F} {r0 r : RState3 F} (fuel : Nat) (name : Str) (idx : List (Expr2 F))
    {pre rest : List (Token F)}
    (h : Mid p σ r0 r τ pre (.symbol name :: .kw .LeftParen :: (renderArgs idx ++ (.kw .RightParen :: rest))))
    (hfull : p.full = true) (hres : ResolvedL r0.fns idx) (hd : depthArgs r0.fns callFuel idx ≤ fuel)
    (hn : σ.nesting + depthArgs r0.fns callFuel idx ≤ Extracted.nestingLimit) (K : M F Unit) :
    Follows p σ r0 (readBody (evalN fuel) K τ) (pre ++ cellToks name idx) rest K (readCellSpec (p.data) r name idx) := by
  have hrun : readBody (evalN fuel) K τ =
      (optionalArrayIndex (evalN fuel) >>= fun ix => readItem { name := name, index := ix } K)
        (mv τ 1 (τ.reads + 1)) := by
    rw [readBody_eq]
    unfold parseLValue
    rw [ExprL.bind_assoc', bind_ok (next_eq h.cur)]
    show ((optionalArrayIndex (evalN fuel) >>= fun ix => pure ({ name := name, index := ix } : LValue)) >>= _) _ = _
    rw [ExprL.bind_assoc']
    rfl
  rw [hrun]
  refine ((h.mv1 (τ.reads + 1)).optIdx fuel (.inl hfull) hres hd hn _).follows (fun err hx => by simp only [readCellSpec, hx])
    fun is r1 τ1 hx hτ => ?_
  refine readItem_store (pf := pre ++ cellToks name idx) (hτ.at ?_) name (some is) K ?_
  · simpa only [cellToks, List.append_assoc, List.cons_append, List.nil_append] using hτ.cur
  · simp only [readCellSpec, hx]
    cases (p.data)[r1.data]? with
    | none => rfl
    | some lnd =>
      obtain ⟨ln, d⟩ := lnd
      dsimp only
      cases Value.coerceFromData name d with
      | error e => rfl
      | ok v => dsimp only; cases storeCell name is v r1.arrays <;> rfl

theorem read_target_follows {σ τ : St F} {r0 r : RState3 F} (fuel : Nat) (t : RTarget F) {pre rest : List (Token F)}
    (h : Mid p σ r0 r τ pre (t.toks ++ rest)) (hLt : p.full = true ∨ ∃ x, t = .scalar x)
    (hok : TargetOK r0.fns fuel σ.nesting t)
    (hpost : ∀ t', rest.head? = some t' → t'.isKw .LeftParen = false) (K : M F Unit) :
    Follows p σ r0 (readBody (evalN fuel) K τ) (pre ++ t.toks) rest K (readTargetSpec (p.data) r t) := by
  cases t with
  | cell name idx =>
    refine read_cell_follows fuel name idx (h.at ?_) (hLt.elim id fun ⟨x, hx⟩ => by cases hx) hok.1 hok.2.1 hok.2.2 K
    simpa only [RTarget.toks, cellToks, List.cons_append, List.append_assoc, List.nil_append] using h.cur
  | scalar x =>
    have h0 : Mid p σ r0 r τ pre (.symbol x :: rest) := h
    have hpl : parseLValue (evalN fuel) τ = .ok { name := x, index := none } (mv τ 1 (τ.reads + 1 + 1)) := by
      unfold parseLValue
      rw [bind_ok (next_eq h0.cur)]
      simp only
      rw [bind_ok (optionalArrayIndex_none' (h0.mv1 _).cur hpost), mv_mv]
      rfl
    rw [readBody_eq, bind_ok hpl]
    exact readItem_store (h0.mv1 (τ.reads + 1 + 1)) x none K (by
      simp only [readTargetSpec, readScalarSpec]
      cases (p.data)[r.data]? with
      | none => rfl
      | some lnd => obtain ⟨ln, d⟩ := lnd; dsimp only; cases Value.coerceFromData x d <;> rfl)

theorem read_targets_follows {σ : St F} {r0 : RState3 F} (fuel : Nat) (rest : List (Token F)) (hE : StmtEnd rest) :
    ∀ (ts : List (RTarget F)), ts ≠ [] → ∀ (k : Nat) (τ : St F) (r : RState3 F) (pre : List (Token F)),
      Mid p σ r0 r τ pre (renderRTargets ts ++ rest) → (∀ t ∈ ts, p.full = true ∨ ∃ x, t = .scalar x) →
      (∀ t ∈ ts, TargetOK r0.fns fuel σ.nesting t) →
      (renderRTargets ts).length < k →
      Follows p σ r0 (readLoop (evalN fuel) k τ) (pre ++ renderRTargets ts) rest (pure ())
        (readTargetsSpec (p.data) r ts) := by
  intro ts
  induction ts with
  | nil => intro h; exact absurd rfl h
  | cons t ts' ih =>
    intro _ k τ r pre hm hLs hok hk
    obtain ⟨k', rfl⟩ : ∃ k', k = k' + 1 := ⟨k - 1, by omega⟩
    rw [readLoop_body]
    have hokt := hok t List.mem_cons_self
    have hLt := hLs t List.mem_cons_self
    cases ts' with
    | nil =>
      have hm0 : Mid p σ r0 r τ pre (t.toks ++ rest) := hm
      refine (read_target_follows fuel t hm0 hLt hokt (Stmt3L.stmtEnd_not hE (by decide) (by decide)) _).andThen
        (readTargetsSpec_cons_stop []) fun τ1 hnx hτ1 => ?_
      obtain ⟨c, hacc, m1⟩ := hτ1.acceptNone (k := .Comma) (Stmt3L.stmtEnd_not hE (by decide) (by decide))
      rw [readTargetsSpec_cons_next [] hnx]
      exact ⟨_, by rw [bind_ok hacc]; rfl, m1⟩
    | cons t' ts'' =>
      have hm0 : Mid p σ r0 r τ pre (t.toks ++ (.kw .Comma :: (renderRTargets (t' :: ts'') ++ rest))) :=
        hm.at (by simpa only [renderRTargets, List.append_assoc, List.cons_append] using hm.cur)
      have hlen : (renderRTargets (t :: t' :: ts'')).length =
          t.toks.length + 1 + (renderRTargets (t' :: ts'')).length := by
        simp only [renderRTargets, List.length_append, List.length_cons]
        omega
      refine (read_target_follows fuel t hm0 hLt hokt (toks_head_ne_paren t _) _).andThen
        (readTargetsSpec_cons_stop _) fun τ1 hnx hτ1 => ?_
      obtain ⟨c, hacc, m1⟩ := hτ1.acceptKw (k := .Comma) rfl
      rw [readTargetsSpec_cons_next _ hnx, bind_ok hacc]
      have := ih (by simp) k' _ _ _ m1 (fun x hx => hLs x (List.mem_cons_of_mem _ hx))
        (fun x hx => hok x (List.mem_cons_of_mem _ hx)) (by rw [hlen] at hk; omega)
      simpa only [renderRTargets, List.append_assoc, List.cons_append, List.nil_append, ↓reduceIte] using this

theorem read_ok (ts : List (RTarget F)) : StmtOK p n j (.readS ts) := by
  intro fuel σ r pre rest after eol hS hL hP hE _ hcov hres hd hn
  have h0 : Mid p σ r r σ pre (.kw .Read :: (renderRTargets ts ++ rest)) :=
    .ofSync hS (by simpa only [renderS3, List.cons_append] using hP.cur)
  obtain ⟨k1, h1, m1⟩ := h0.body (ev := evalN fuel) rfl
  rw [h1]
  show Outcome3 p σ n after eol (readStatement (evalN fuel) _) _ _
  unfold readStatement
  rw [bind_ok (lineBudget_eq m1.cur.1)]
  exact (read_targets_follows fuel rest hE.stmtEnd ts hcov _ _ r _ m1 hL.readS (targetsOK_of ts hres hd hn)
    (by simp only [List.length_append]; omega)).outcome (readTargetsSpec_ctl (p.data) ts r)
    fun τ _ hτ => hτ.done hP

end stmts

end Abasic.Stmt3V
