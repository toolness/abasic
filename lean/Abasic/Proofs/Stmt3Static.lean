import Abasic.Proofs.Stmt3Arr
import Abasic.Proofs.Stmt3Ctl
/-
  C03, full statement language — what ONE reference step does to the reference state, proved once for
  every statement (`exec_footprint`), and what is read off it: the step keeps the invariants `RInv3`
  (`exec3_inv`); every entry of the function table was put there by a DEF statement of the program (`exec_fns`,
  `TableOf`, by induction along the reference run).  The latter turns side conditions "for every function table
  the run reaches" into conditions on the program text.
  (The frame `C06.exec_frame` of Proofs/DefsFirst.lean is the third reading.)
-/
set_option linter.unusedSectionVars false

namespace Abasic.Props.C06
open Abasic Abasic.Ref

variable {F : Type} [NumOps F]

/-- the line numbers a statement may jump to: GOTO, GOSUB, `THEN n` / `ELSE n` (in the branches of an IF, too) -/
def targets : RStmt3 F → List Nat
  | .gotoS m => [m]
  | .lineS m => [m]
  | .gosubS m => [m]
  | .ifS _ t none => targets t
  | .ifS _ t (some e) => targets t ++ targets e
  | _ => []

def Ctl2.stays : Ctl2 → Prop
  | .jump _ => False
  | .resume _ _ => False
  | _ => True

theorem findLoop_mem {v : Str} : ∀ {loops : List (RLoop F)} {l : RLoop F} {rest : List (RLoop F)},
    findLoop v loops = some (l, rest) → l ∈ loops ∧ ∀ x ∈ rest, x ∈ loops
  | [], _, _, h => by simp [findLoop] at h
  | l0 :: rest0, l, rest, h => by
    simp only [findLoop] at h
    by_cases hv : (l0.var == v) = true
    · rw [if_pos hv] at h
      simp only [Option.some.injEq, Prod.mk.injEq] at h
      obtain ⟨rfl, rfl⟩ := h
      exact ⟨List.mem_cons_self, fun x hx => List.mem_cons_of_mem _ hx⟩
    · rw [if_neg hv] at h
      obtain ⟨h1, h2⟩ := findLoop_mem h
      exact ⟨List.mem_cons_of_mem _ h1, fun x hx => List.mem_cons_of_mem _ (h2 x hx)⟩

theorem keptLoops_mem {v : Str} {loops : List (RLoop F)} : ∀ x ∈ keptLoops v loops, x ∈ loops := by
  unfold keptLoops
  cases h : findLoop v loops with
  | none => exact fun x hx => hx
  | some lr =>
    obtain ⟨l, rest⟩ := lr
    exact (findLoop_mem h).2

end Abasic.Props.C06

namespace Abasic.Stmt3L
open Abasic Abasic.Ref Abasic.ExprL2 Abasic.Prog3L Abasic.Props.C06

variable {F : Type} [NumOps F]

/-- `s` is (or contains, in a branch of an IF) `DEF name(d.params) = d.body` -/
def Defines : RStmt3 F → Str → FnDefSpec F → Prop
  | .defS f ps body, name, d => name = f ∧ d = { params := ps, body := body }
  | .ifS _ t none, name, d => Defines t name d
  | .ifS _ t (some e), name, d => Defines t name d ∨ Defines e name d
  | _, _, _ => False

def DefAt (p : RProgram3 F) (m : Nat) (name : Str) (d : FnDefSpec F) : Prop :=
  ∃ ss s, p.line m = some ss ∧ s ∈ ss ∧ Defines s name d

def FnsOf (p : RProgram3 F) (fns : List (Str × FnDefSpec F)) : Prop :=
  ∀ name d, alGet name fns = some d → ∃ m, DefAt p m name d

theorem fnsOf_mem {p : RProgram3 F} {fns : List (Str × FnDefSpec F)} (h : FnsOf p fns) {name : Str} {d : FnDefSpec F}
    (hg : alGet name fns = some d) : ∃ l ∈ p, ∃ s ∈ l.2, Defines s name d :=
  let ⟨m, ss, s, hl, hs, hd⟩ := h name d hg
  ⟨(m, ss), line_mem hl, s, hs, hd⟩

def LinesOf (p : RProgram3 F) (fnLines : List (Str × Nat)) : Prop :=
  ∀ name m, alGet name fnLines = some m → ∃ d, DefAt p m name d

/-- A change of the state that touches neither the function table nor the stacks, and what moves stays
    well-formed; every evaluation (`Quiet.of_put`) and every target of a READ is such a change. -/
structure Quiet (r r1 : RState3 F) : Prop where
  vars : Stmt2L.Typed r.vars → Stmt2L.Typed r1.vars
  arrs : ArrLen r.arrays → ArrLen r1.arrays
  rng : r.rng < Extracted.rngModulus → r1.rng < Extracted.rngModulus
  fns : r1.fns = r.fns
  fnLines : r1.fnLines = r.fnLines
  rets : r1.rets = r.rets
  loops : r1.loops = r.loops

theorem Quiet.refl (r : RState3 F) : Quiet r r := ⟨id, id, id, rfl, rfl, rfl, rfl⟩

theorem Quiet.trans {a b c : RState3 F} (h1 : Quiet a b) (h2 : Quiet b c) : Quiet a c :=
  ⟨h2.vars ∘ h1.vars, h2.arrs ∘ h1.arrs, h2.rng ∘ h1.rng, h2.fns.trans h1.fns,
    h2.fnLines.trans h1.fnLines, h2.rets.trans h1.rets, h2.loops.trans h1.loops⟩

theorem Quiet.of_put {r r1 : RState3 F} (h : ∃ env', Step r.env env' ∧ r1 = r.put env') : Quiet r r1 := by
  obtain ⟨env', hs, rfl⟩ := h
  exact ⟨id, hs.arrs, hs.rng, rfl, rfl, rfl, rfl⟩

/-- only `data` and `out` differ -/
theorem Quiet.same {r r1 : RState3 F} (h1 : r1.vars = r.vars) (h2 : r1.arrays = r.arrays) (h3 : r1.rng = r.rng)
    (h4 : r1.fns = r.fns) (h5 : r1.fnLines = r.fnLines) (h6 : r1.rets = r.rets) (h7 : r1.loops = r.loops) : Quiet r r1 :=
  ⟨fun h => h1 ▸ h, fun h => h2 ▸ h, fun h => h3 ▸ h, h4, h5, h6, h7⟩

theorem Quiet.setVar {r : RState3 F} {x : Str} {v : Value F} (hm : v.matchesName x = true) :
    Quiet r { r with vars := alSet x v r.vars } := ⟨fun h => Stmt2L.typed_alSet h hm, id, id, rfl, rfl, rfl, rfl⟩

theorem Quiet.setArrays {r : RState3 F} {a : List (Str × ArrayV F)} (h : ArrLen r.arrays → ArrLen a) :
    Quiet r { r with arrays := a } := ⟨id, h, id, rfl, rfl, rfl, rfl⟩

/-- What one reference step of the statement at `(n, j)` does to the state (`data`, `out`, `pc` apart)
    and where it may send the program counter. -/
structure Footprint (n j : Nat) (s : RStmt3 F) (r : RState3 F) (res : RState3 F × Ctl2) : Prop where
  vars : Stmt2L.Typed r.vars → Stmt2L.Typed res.1.vars
  arrs : ArrLen r.arrays → ArrLen res.1.arrays
  rng : r.rng < Extracted.rngModulus → res.1.rng < Extracted.rngModulus
  tables : (res.1.fns = r.fns ∧ res.1.fnLines = r.fnLines) ∨
    ∃ f d, Defines s f d ∧ res.1.fns = alSet f d r.fns ∧ res.1.fnLines = alSet f n r.fnLines
  rets : res.1.rets = r.rets ∨ (res.1.rets = (n, j + 1) :: r.rets ∧ r.rets.length ≠ Extracted.stackLimit) ∨
    ∃ e, r.rets = e :: res.1.rets
  loops : ∀ l ∈ res.1.loops, l ∈ r.loops ∨ (l.line = n ∧ l.idx = j + 1)
  jump : ∀ m, res.2 = .jump m → m ∈ targets s
  resume : ∀ m k, res.2 = .resume m k → (m, k) ∈ r.rets ∨ ∃ l ∈ r.loops, l.line = m ∧ l.idx = k

variable {n j : Nat} {s : RStmt3 F} {r r1 : RState3 F}

theorem Quiet.stays (h : Quiet r r1) {c : Ctl2} (hc : Ctl2.stays c) : Footprint n j s r (r1, c) :=
  ⟨h.vars, h.arrs, h.rng, .inl ⟨h.fns, h.fnLines⟩, .inl h.rets, fun l hl => .inl (h.loops ▸ hl),
    fun m hm => by cases (hm : c = _); exact hc.elim, fun m k hm => by cases (hm : c = _); exact hc.elim⟩

theorem Footprint.after {res : RState3 F × Ctl2} (h : Quiet r r1) (hf : Footprint n j s r1 res) :
    Footprint n j s r res where
  vars := hf.vars ∘ h.vars
  arrs := hf.arrs ∘ h.arrs
  rng := hf.rng ∘ h.rng
  tables := by rw [← h.fns, ← h.fnLines]; exact hf.tables
  rets := by rw [← h.rets]; exact hf.rets
  loops := by rw [← h.loops]; exact hf.loops
  jump := hf.jump
  resume := by rw [← h.rets, ← h.loops]; exact hf.resume

theorem Footprint.of_branch {t : RStmt3 F} {res : RState3 F × Ctl2} (h : Footprint n j t r res)
    (hd : ∀ f d, Defines t f d → Defines s f d) (ht : ∀ m ∈ targets t, m ∈ targets s) : Footprint n j s r res :=
  { h with tables := h.tables.imp_right fun ⟨f, d, h1, h2⟩ => ⟨f, d, hd f d h1, h2⟩, jump := fun m hm => ht m (h.jump m hm) }

theorem Footprint.closeLine3 {x : RState3 F × Ctl2} (h : Footprint n j s r x) : Footprint n j s r (closeLine3 x) := by
  obtain ⟨r1, c⟩ := x
  cases c <;> first | exact h | exact { h with jump := nofun, resume := nofun }

theorem forPush3_footprint (v : Str) (x y z : F) : Footprint n j s r (forPush3 n j r v x y z) := by
  unfold forPush3
  split
  · exact (Quiet.refl r).stays (by trivial)
  · split
    · exact (Quiet.refl r).stays (by trivial)
    next hd =>
      refine ⟨fun h => Stmt2L.typed_alSet h (v := .num x) (by simp [Value.matchesName, hd]), id, id, .inl ⟨rfl, rfl⟩, .inl rfl, fun l hl => ?_, nofun, nofun⟩
      exact (List.mem_cons.1 hl).elim (fun h => .inr (h ▸ ⟨rfl, rfl⟩)) (fun h => .inl (keptLoops_mem l h))

theorem readTargetSpec_quiet (items : List (Nat × DataElement F)) (r : RState3 F) (t : RTarget F) :
    Quiet r (readTargetSpec items r t).1 := by
  cases t with
  | scalar x =>
    simp only [readTargetSpec, readScalarSpec]
    split
    · exact .refl r
    · split
      · exact .same rfl rfl rfl rfl rfl rfl rfl
      next hco => exact ⟨fun h => Stmt2L.typed_alSet h (ArrayL.coerce_matches hco), id, id, rfl, rfl, rfl, rfl⟩
  | cell name idx =>
    simp only [readTargetSpec, readCellSpec]
    split
    · exact .refl r
    next hfi =>
      refine (Quiet.of_put (evalIdx_put hfi)).trans ?_
      split
      · exact .refl _
      · split
        · exact .same rfl rfl rfl rfl rfl rfl rfl
        · split
          · exact .same rfl rfl rfl rfl rfl rfl rfl
          next hcs => exact ⟨id, Stmt2L.storeCell_all Stmt2L.sized hcs, id, rfl, rfl, rfl, rfl⟩

-- Every failed evaluation, and every statement that only evaluates and stores (LET, PRINT, READ, RESTORE, DIM,
-- the cell LET; END and DATA do nothing), is a `Quiet` change whose control stays: one `Quiet.stays` each.
-- The fields of `Footprint` are filled by hand only where a stack, a table or the counter moves: FOR and NEXT
-- (the loop stack), GOSUB and RETURN (the return stack), DEF (the tables), GOTO (the jump); an IF hands the
-- footprint of its branch up (`of_branch`), after the `Quiet` evaluation of the condition.
theorem exec_footprint (items : List (Nat × DataElement F)) (n j : Nat) :
    ∀ (s : RStmt3 F) (r : RState3 F), Footprint n j s r (s.exec items n j r)
  | .letS x e, r => by
    simp only [RStmt3.exec]
    split
    · exact (Quiet.refl r).stays (by trivial)
    next hev =>
      split
      next hm => exact ((Quiet.of_put (evalE_put hev)).trans (.setVar hm)).stays (by trivial)
      · exact (Quiet.of_put (evalE_put hev)).stays (by trivial)
  | .printS items', r => by
    simp only [RStmt3.exec]
    split
    · exact (Quiet.refl r).stays (by trivial)
    next hp =>
      exact ((Quiet.of_put (printText3_put _ hp)).trans (by exact .same rfl rfl rfl rfl rfl rfl rfl)).stays (by trivial)
  | .gotoS m, r | .lineS m, r =>
    { (Quiet.refl r).stays (c := .next) trivial with jump := fun m' hm => by cases hm; simp [targets], resume := nofun }
  | .endS, r | .dataS _, r => (Quiet.refl r).stays (by trivial)
  | .ifS c t none, r => by
    simp only [RStmt3.exec]
    split
    · exact (Quiet.refl r).stays (by trivial)
    next v r1 hev =>
      split
      · exact ((exec_footprint items n j t r1).of_branch (s := .ifS c t none) (fun _ _ h => h) (fun _ h => h)).after
          (.of_put (evalE_put hev))
      · exact (Quiet.of_put (evalE_put hev)).stays (by trivial)
  | .ifS c t (some e), r => by
    simp only [RStmt3.exec]
    split
    · exact (Quiet.refl r).stays (by trivial)
    next v r1 hev =>
      split
      · exact ((exec_footprint items n j t r1).of_branch (s := .ifS c t (some e)) (fun _ _ h => .inl h)
          (fun _ h => List.mem_append_left _ h)).closeLine3.after (.of_put (evalE_put hev))
      · exact ((exec_footprint items n j e r1).of_branch (s := .ifS c t (some e)) (fun _ _ h => .inr h)
          (fun _ h => List.mem_append_right _ h)).after (.of_put (evalE_put hev))
  | .forS v a b c, r => by
    simp only [RStmt3.exec]
    split
    · exact (Quiet.refl r).stays (by trivial)
    next hna =>
      split
      · exact (Quiet.refl r).stays (by trivial)
      next hnb =>
        split
        · exact (Quiet.refl r).stays (by trivial)
        next hnc =>
          exact (forPush3_footprint v _ _ _).after
            (((Quiet.of_put (numE3_put hna)).trans (.of_put (numE3_put hnb))).trans (.of_put (stepE3_put hnc)))
  | .nextS v, r => by
    cases hv : envOf r.vars v with
    | str x => simp only [RStmt3.exec, hv]; exact (Quiet.refl r).stays (by trivial)
    | num cur =>
      cases hf : findLoop v r.loops with
      | none => simp only [RStmt3.exec, hv, hf]; exact (Quiet.refl r).stays (by trivial)
      | some lr =>
        obtain ⟨l, rest⟩ := lr
        obtain ⟨hl, hrest⟩ := findLoop_mem hf
        have hv' (y : F) (h : Stmt2L.Typed r.vars) : Stmt2L.Typed (alSet v (.num y) r.vars) :=
          Stmt2L.typed_alSet h (by simp only [Value.matchesName, Stmt2L.envOf_num_name h hv, Bool.not_false])
        have hA (y : F) : Footprint n j (.nextS v) r
            ({ r with vars := alSet v (.num y) r.vars, loops := l :: rest }, .resume l.line l.idx) :=
          ⟨hv' y, id, id, .inl ⟨rfl, rfl⟩, .inl rfl, fun l' hl' => .inl ((List.mem_cons.1 hl').elim (· ▸ hl) (hrest l')),
            nofun, fun m k hm => by cases hm; exact .inr ⟨l, hl, rfl, rfl⟩⟩
        have hB (y : F) : Footprint n j (.nextS v) r ({ r with vars := alSet v (.num y) r.vars, loops := rest }, .next) :=
          ⟨hv' y, id, id, .inl ⟨rfl, rfl⟩, .inl rfl, fun l' hl' => .inl (hrest l' hl'), nofun, nofun⟩
        simp only [RStmt3.exec, hv, hf]
        split <;> split <;> first | exact hA _ | exact hB _
  | .gosubS m, r => by
    simp only [RStmt3.exec]
    split
    · exact (Quiet.refl r).stays (by trivial)
    next hc =>
      exact ⟨id, id, id, .inl ⟨rfl, rfl⟩, .inr (.inl ⟨rfl, by simpa using hc⟩), fun l hl => .inl hl,
        fun m' hm => by cases hm; simp [targets], nofun⟩
  | .returnS, r => by
    simp only [RStmt3.exec]
    split
    · exact (Quiet.refl r).stays (by trivial)
    next ln k rest hr =>
      exact ⟨id, id, id, .inl ⟨rfl, rfl⟩, .inr (.inr ⟨_, hr⟩), fun l hl => .inl hl, nofun,
        fun m k' hm => by cases hm; rw [hr]; exact .inl List.mem_cons_self⟩
  | .readS ts, r => by
    have hq := readTargetsSpec_keeps (P := Quiet r) items (fun r' t h => h.trans (readTargetSpec_quiet items r' t)) ts r (.refl r)
    have hc := readTargetsSpec_ctl items ts r
    simp only [RStmt3.exec]
    generalize readTargetsSpec items r ts = res at hq hc
    obtain ⟨r1, c⟩ := res
    refine hq.stays ?_
    rcases hc with h | ⟨_, h⟩ | ⟨_, _, h⟩ <;> cases (h : c = _) <;> trivial
  | .restoreS, r => by
    simp only [RStmt3.exec]
    exact Quiet.stays (by exact .same rfl rfl rfl rfl rfl rfl rfl) (by trivial)
  | .dimS name dims, r => by
    simp only [RStmt3.exec]
    split
    · exact (Quiet.refl r).stays (by trivial)
    next hfi =>
      have h1 := Quiet.of_put (evalIdx_put hfi)
      split
      · exact h1.stays (by trivial)
      · split
        · exact h1.stays (by trivial)
        next a hcr =>
          exact (h1.trans (.setArrays fun ha => Props.C16.alSet_all ha (Stmt2L.sized.create hcr))).stays
            (by trivial)
  | .letCellS name idx e, r => by
    simp only [RStmt3.exec]
    split
    · exact (Quiet.refl r).stays (by trivial)
    next hfi =>
      split
      · exact (Quiet.refl r).stays (by trivial)
      next hev =>
        have h2 := (Quiet.of_put (evalIdx_put hfi)).trans (.of_put (evalE_put hev))
        split
        · exact h2.stays (by trivial)
        next hcs => exact (h2.trans (.setArrays (Stmt2L.storeCell_all Stmt2L.sized hcs))).stays (by trivial)
  | .defS f ps body, r =>
    ⟨id, id, id, .inr ⟨f, _, ⟨rfl, rfl⟩, rfl, rfl⟩, .inl rfl, fun l hl => .inl hl, nofun, nofun⟩

theorem exec3_inv (items : List (Nat × DataElement F)) (n j : Nat) :
    ∀ (s : RStmt3 F) (r : RState3 F), RInv3 r → RInv3 (s.exec items n j r).1 := by
  intro s r h
  have fp := exec_footprint items n j s r
  refine ⟨fp.vars h.typed, fp.arrs h.arrs, fp.rng h.rng, ?_⟩
  -- a GOSUB pushes only onto a stack that is not full
  have := h.rets
  rcases fp.rets with h1 | ⟨h1, h2⟩ | ⟨e, h1⟩
  · rw [h1]; exact this
  · rw [h1, List.length_cons]; omega
  · rw [h1, List.length_cons] at this; omega

theorem exec_fns (items : List (Nat × DataElement F)) (n j : Nat) :
    ∀ (s : RStmt3 F) (r : RState3 F),
      (∀ name d, alGet name (s.exec items n j r).1.fns = some d → alGet name r.fns = some d ∨ Defines s name d) ∧
      (∀ name m, alGet name (s.exec items n j r).1.fnLines = some m →
        alGet name r.fnLines = some m ∨ (m = n ∧ ∃ d, Defines s name d)) := by
  intro s r
  rcases (exec_footprint items n j s r).tables with ⟨h1, h2⟩ | ⟨f, d, hd, h1, h2⟩
  · exact ⟨fun _ _ h => .inl (h1 ▸ h), fun _ _ h => .inl (h2 ▸ h)⟩
  · rw [h1, h2]
    refine ⟨fun name d' h => ?_, fun name m h => ?_⟩ <;> rw [Props.C16.alGet_alSet] at h <;> split at h
    · cases h; subst_vars; exact .inr hd
    · exact .inl h
    · cases h; subst_vars; exact .inr ⟨rfl, d, hd⟩
    · exact .inl h

def TableOf (p : RProgram3 F) (r : RState3 F) : Prop := FnsOf p r.fns ∧ LinesOf p r.fnLines

theorem tableOf_exec {p : RProgram3 F} {r : RState3 F} (h : TableOf p r) {n j : Nat} {ss : List (RStmt3 F)}
    {s : RStmt3 F} (hl : p.line n = some ss) (hs : ss[j]? = some s) (items : List (Nat × DataElement F)) :
    TableOf p (s.exec items n j r).1 := by
  have hmem : s ∈ ss := List.mem_of_getElem? hs
  obtain ⟨h1, h2⟩ := exec_fns items n j s r
  refine ⟨fun name d hd => ?_, fun name m hm => ?_⟩
  · rcases h1 name d hd with h' | h'
    · exact h.1 name d h'
    · exact ⟨n, ss, s, hl, hmem, h'⟩
  · rcases h2 name m hm with h' | ⟨rfl, d, h'⟩
    · exact h.2 name m h'
    · exact ⟨d, ss, s, hl, hmem, h'⟩

theorem tableOf_step {p : RProgram3 F} {r r' : RState3 F} (h : TableOf p r) (hs : RStep3 p r = .inl r') :
    TableOf p r' := by
  rcases rstep_inl hs with rfl | rfl | ⟨n, j, ss, s, X, -, hl, hsj, -, rfl⟩
  · exact h
  · exact h
  · exact tableOf_exec h hl hsj (allData3 p)

theorem tableOf_steps {p : RProgram3 F} (m : Nat) (r r' : RState3 F) : TableOf p r → RSteps3 p m r = .inl r' →
    TableOf p r' :=
  (Props.C03.rsteps3_iterates p).keeps (fun _ _ => tableOf_step) m r r'

theorem tableOf_start (p : RProgram3 F) (g : Nat) : TableOf p (p.start g) :=
  ⟨fun name d h => (by cases h), fun name m h => (by cases h)⟩

end Abasic.Stmt3L
