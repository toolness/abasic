import Abasic.Proofs.Host
import Abasic.Proofs.Walk
/-
  What the evaluator can do to the state, and the frames that tolerate it.

  Every state update that the primitives of Program.lean, Arrays.lean and Stmt.lean make, each under the
  guard the code has checked before it, sorted by what it is about: `VStep` (what the evaluation of a value
  leaves behind: the generator, a Warning record, a default array), `CStep` (the token cursor: a read, a
  step to the right), `DStep` (the store: variables, array cells, DIM, the loop stack, DATA, the reply,
  output), `GStep` (control: NEXT's way back, GOTO, GOSUB, RETURN, DEF, the breakpoint), `TStep` (what only
  a whole statement activation or `run_next_statement` makes: a Trace record, END, STOP, the state, the
  next line), `HStep` (the host API).  Two things the evaluator does are not single updates but brackets,
  undone on both paths: `nested` (the nesting counter) and the call of a user function (the frame on the
  stack and the cursor).

  A frame `R` that contains some of these is respected by every primitive that makes only those (`fr_*`,
  each stated for the smallest class and proved once): `ValFrame ⊂ StoreFrame ⊂ QuietFrame` (everything but
  the cursor), `ExprFrame` (values, cursor, the two brackets), `StmtFrame` (both, and the jump of the index
  within a line), `TopFrame`, `HostFrame`; hence — the walk of Proofs/Walk.lean — by every function of the
  evaluator.  To make a relation an instance, split the step into its cases: the updates of the fields the
  relation does not look at are one wildcard arm.
-/
set_option linter.unusedSectionVars false

namespace Abasic.Hoare
open Abasic M Abasic.Proofs.XF

variable {F : Type} [NumOps F]

inductive VStep : St F → St F → Prop
  | rnd (σ : St F) (r : Nat) : r = rngStep σ.rng → VStep σ { σ with rng := r }
  | warning (σ : St F) (msg : Str) : σ.warnings = true →
      VStep σ { σ with out := .warning msg σ.loc.line :: σ.out }
  | newArray (σ : St F) (name : Str) (k : Nat) (a : ArrayV F) : alHas name σ.arrays = false →
      ArrayV.create (F := F) name (List.replicate k Extracted.defaultArraySize) = .ok a →
      VStep σ { σ with arrays := alSet name a σ.arrays }

inductive CStep : St F → St F → Prop
  | reads (σ : St F) : CStep σ { σ with reads := σ.reads + 1 }
  | advance (σ : St F) : CStep σ { σ with loc := { σ.loc with idx := σ.loc.idx + 1 } }

inductive DStep : St F → St F → Prop
  | setVar (σ : St F) (name : Str) (v : Value F) : v.matchesName name = true →
      DStep σ { σ with vars := alSet name v σ.vars }
  | setStr (σ : St F) (name : Str) (dims : List Nat) (cells : List Str) (i : Nat) (x : Str) :
      alGet name σ.arrays = some (.strs dims cells) → i < cells.length →
      DStep σ { σ with arrays := alSet name (.strs dims (cells.set i x)) σ.arrays }
  | setNum (σ : St F) (name : Str) (dims : List Nat) (cells : List F) (i : Nat) (x : F) :
      alGet name σ.arrays = some (.nums dims cells) → i < cells.length →
      DStep σ { σ with arrays := alSet name (.nums dims (cells.set i x)) σ.arrays }
  | dim (σ : St F) (name : Str) (l : List Nat) (a : ArrayV F) : alHas name σ.arrays = false →
      ArrayV.create (F := F) name l = .ok a → DStep σ { σ with arrays := alSet name a σ.arrays }
  | dropLoop (σ : St F) (sym : Str) (x : LoopInfo F) (rest : List (LoopInfo F)) :
      removeLoop sym σ.loops = some (x, rest) → DStep σ { σ with loops := rest }
  | pushLoop (σ : St F) (sym : Str) (toV stepV : F) : σ.loops.length ≠ Extracted.stackLimit →
      DStep σ { σ with loops := { loc := σ.loc, sym := sym, toV := toV, stepV := stepV } :: σ.loops }
  | data (σ : St F) (d : Option (DataIter F)) : DStep σ { σ with data := d }
  | takeInput (σ : St F) : DStep σ { σ with input := none }
  | await (σ : St F) : DStep σ { σ with state := .awaitingInput }
  | emit (σ : St F) (o : Out) : keepOut o = true → DStep σ { σ with out := o :: σ.out }

inductive GStep : St F → St F → Prop
  | loopBack (σ : St F) (sym : Str) (x : LoopInfo F) (rest : List (LoopInfo F)) :
      removeLoop sym σ.loops = some (x, rest) → GStep σ { σ with loops := x :: rest, loc := x.loc }
  | clearBp (σ : St F) : GStep σ { σ with bp := none }
  | goto (σ : St F) (n : Nat) : σ.lines.has n = true → GStep σ { σ with loc := { line := some n, idx := 0 } }
  | gosub (σ : St F) (n : Nat) : σ.stack.length ≠ Extracted.stackLimit → σ.lines.has n = true →
      GStep σ { σ with bp := none, loc := { line := some n, idx := 0 },
                       stack := { ret := σ.loc, vars := [] } :: σ.stack }
  | ret (σ : St F) (f : Frame F) (rest : List (Frame F)) : σ.stack = f :: rest →
      GStep σ { σ with bp := none, stack := rest, loc := f.ret }
  | defFn (σ : St F) (name : Str) (args : List Str) (n : Nat) : σ.loc.line = some n →
      GStep σ { σ with fns := alSet name { args := args, line := n, idx := σ.loc.idx } σ.fns }

inductive TStep : St F → St F → Prop
  | trace (σ : St F) (n : Nat) : σ.tracing = true → σ.loc.line = some n →
      TStep σ { σ with out := .trace n :: σ.out }
  | setImmediate (σ : St F) (ts : List (Token F)) : TStep σ (σ.setImmediate ts)
  | brk (σ : St F) : TStep σ ({ σ with state := .idle, out := .brk σ.loc.line :: σ.out }).progBreak
  | state (σ : St F) (st : IState) : TStep σ { σ with state := st }
  | nextLine (σ : St F) (n m : Nat) : σ.loc.line = some n → σ.lines.after n = some m →
      TStep σ { σ with loc := { line := some m, idx := 0 } }

class ValFrame (R : St F → St F → Prop) : Prop extends IsFrame R where
  vstep : ∀ {σ σ'}, VStep σ σ' → R σ σ'

class StoreFrame (R : St F → St F → Prop) : Prop extends ValFrame R where
  dstep : ∀ {σ σ'}, DStep σ σ' → R σ σ'

class QuietFrame (R : St F → St F → Prop) : Prop extends StoreFrame R where
  gstep : ∀ {σ σ'}, GStep σ σ' → R σ σ'

class ExprFrame (R : St F → St F → Prop) : Prop extends ValFrame R where
  cstep : ∀ {σ σ'}, CStep σ σ' → R σ σ'
  nested : ∀ {α : Type} {m : M F α}, Respects R m → Respects R (Abasic.nested m)
  call : ∀ (ev : Evals F) (name : Str) (d : FnDef), Respects R ev.expr → Respects R (callArgs ev name d)

/-- a frame of every statement but END and STOP (and of an IF whose clause is such a statement);
    `idx`: the rest of a line is skipped, INPUT steps back to its own token, counting the tokens as reads -/
class StmtFrame (R : St F → St F → Prop) : Prop extends ExprFrame R, QuietFrame R where
  idx : ∀ (σ : St F) (i k : Nat), R σ { σ with loc := { σ.loc with idx := i }, reads := σ.reads + k }

/-- a frame of the evaluator and of `run_next_statement` -/
class TopFrame (R : St F → St F → Prop) : Prop extends StmtFrame R where
  tstep : ∀ {σ σ'}, TStep σ σ' → R σ σ'

variable {R : St F → St F → Prop}

section blind
variable [IsFrame R] (h : ∀ (σ : St F) (n : Nat), R σ { σ with nesting := n })
include h

omit [NumOps F] in
theorem enterNested_of_blind : Respects R (enterNested (F := F)) := by
  unfold enterNested
  refine respects_get_bind fun σ => respectsAt_ite (fun _ => (respects_fail _).at σ) fun _ => ?_
  exact respectsAt_set (h σ _)

omit [NumOps F] in
theorem exitNested_of_blind : Respects R (exitNested (F := F)) := by
  unfold exitNested
  refine respects_get_bind fun σ => ?_
  cases σ.nesting with
  | zero => exact (respects_rpanic _).at σ
  | succ n => exact respectsAt_set (h σ n)

omit [NumOps F] in
theorem nested_of_blind {α : Type} {m : M F α} (hm : Respects R m) : Respects R (nested m) := by
  unfold nested
  exact respects_bind (enterNested_of_blind h) fun _ => respects_bind (respects_attempt hm) fun r =>
    respects_bind (exitNested_of_blind h) fun _ => respects_ofExcept r

end blind

section val
variable [ValFrame R]

@[walk] theorem fr_warn (msg : Str) : Respects R (warn (F := F) msg) := by
  unfold warn emit
  refine respects_get_bind fun σ => ?_
  cases hw : σ.warnings with
  | true => exact respectsAt_modify (ValFrame.vstep (R := R) (.warning σ msg hw))
  | false => exact (respects_pure ()).at σ

@[walk] theorem fr_warnUndeclaredArray (name : Str) : Respects R (warnUndeclaredArray (F := F) name) := by
  unfold warnUndeclaredArray
  refine respects_get_bind fun σ => respectsAt_ite (fun _ => (fr_warn (R := R) _).at σ) fun _ => (respects_pure _).at σ

@[walk] theorem fr_ensureArray (name : Str) (k : Nat) : Respects R (ensureArray (F := F) name k) := by
  unfold ensureArray
  refine respects_get_bind fun σ => ?_
  cases hh : alHas name σ.arrays with
  | true => exact (respects_pure _).at σ
  | false =>
    cases hc : ArrayV.create (F := F) name (List.replicate k Extracted.defaultArraySize) with
    | error e => exact (respects_fail _).at σ
    | ok a => exact respectsAt_set (ValFrame.vstep (R := R) (.newArray σ name _ a hh hc))

@[walk] theorem fr_arrayGet (name : Str) (idx : List Nat) : Respects R (arrayGet (F := F) name idx) := by
  unfold arrayGet
  have := fr_ensureArray (R := R) (F := F)
  respects_tac

@[walk] theorem fr_rnd (x : F) : Respects R (rnd x) := by
  unfold rnd
  refine respects_get_bind fun σ => ?_
  refine respectsAt_ite (fun _ => (respects_fail _).at σ) fun _ =>
    respectsAt_ite (fun _ => (respects_pure _).at σ) fun _ =>
    respectsAt_ite (fun _ => (respects_rpanic _).at σ) fun _ => ?_
  exact respectsAt_bind (respectsAt_set (ValFrame.vstep (R := R) (.rnd σ _ rfl))) fun _ => respects_pure _

theorem fr_fnDef (name : Str) : Respects R (fnDef (F := F) name) := by
  unfold fnDef; respects_tac

theorem fr_varRef (sym : Str) : Respects R (varRef (F := F) sym) := by
  unfold varRef
  have := fr_warn (R := R) (F := F)
  respects_tac

end val

section store
variable [StoreFrame R]

@[walk] theorem fr_setVar (name : Str) (v : Value F) : Respects R (setVar name v) := by
  unfold setVar
  refine respects_ite (fun hm => respects_modify fun σ => StoreFrame.dstep (R := R) (.setVar σ name v hm)) fun _ => respects_fail _

@[walk] theorem fr_startLoop (sym : Str) (a b c : F) : Respects R (startLoop sym a b c) := by
  unfold startLoop
  refine respects_bind (respects_modify fun σ => ?_) fun _ => respects_get_bind fun σ => ?_
  · split
    · rename_i x rest heq; exact StoreFrame.dstep (R := R) (.dropLoop σ sym x rest heq)
    · exact IsFrame.refl σ
  · by_cases hc : (σ.loops.length == Extracted.stackLimit) = true
    · rw [if_pos hc]; exact (respects_fail _).at σ
    · rw [if_neg hc]
      exact respectsAt_bind (respectsAt_set (StoreFrame.dstep (R := R) (.pushLoop σ sym b c (by simpa using hc))))
        fun _ => fr_setVar (R := R) _ _

@[walk] theorem fr_nextDataElement : Respects R (nextDataElement (F := F)) := by
  unfold nextDataElement
  have : ∀ d, Respects R (M.modify fun s : St F => { s with data := d }) :=
    fun d => respects_modify fun σ => StoreFrame.dstep (R := R) (.data σ d)
  respects_tac

theorem fr_emit (o : Out) (h : keepOut o = true) : Respects R (emit (F := F) o) :=
  respects_modify fun σ => StoreFrame.dstep (R := R) (.emit σ o h)

@[walk] theorem fr_arraySet (name : Str) (idx : List Nat) (v : Value F) : Respects R (arraySet name idx v) := by
  unfold arraySet
  refine respects_ite (fun _ => respects_fail _) fun _ => respects_bind (fr_ensureArray (R := R) _ _) fun _ =>
    respects_get_bind fun σ => ?_
  cases hg : alGet name σ.arrays with
  | none => exact (respects_rpanic _).at σ
  | some a =>
    cases a with
    | strs dims cells =>
      cases v with
      | str x =>
        dsimp only
        cases linearIndex idx dims with
        | error e => exact (respects_fail _).at σ
        | ok i =>
          exact respectsAt_ite (fun hi => respectsAt_set (StoreFrame.dstep (R := R) (.setStr σ name dims cells i x hg hi)))
            fun _ => (respects_rpanic _).at σ
      | num x => exact (respects_fail _).at σ
    | nums dims cells =>
      cases v with
      | num x =>
        dsimp only
        cases linearIndex idx dims with
        | error e => exact (respects_fail _).at σ
        | ok i =>
          exact respectsAt_ite (fun hi => respectsAt_set (StoreFrame.dstep (R := R) (.setNum σ name dims cells i x hg hi)))
            fun _ => (respects_rpanic _).at σ
      | str x => exact (respects_fail _).at σ

@[walk] theorem fr_arrayCreate (name : Str) (idx : List Nat) : Respects R (arrayCreate (F := F) name idx) := by
  unfold arrayCreate
  refine respects_get_bind fun σ => ?_
  cases hh : alHas name σ.arrays with
  | true => exact (respects_fail _).at σ
  | false =>
    cases hc : ArrayV.create (F := F) name idx with
    | error e => exact (respects_fail _).at σ
    | ok a => exact respectsAt_set (StoreFrame.dstep (R := R) (.dim σ name _ a hh hc))

@[walk] theorem fr_takeInput : Respects R (takeInput (F := F)) := by
  unfold takeInput
  refine respects_get_bind fun σ => ?_
  cases σ.input with
  | none => exact (respects_pure _).at σ
  | some text => exact respectsAt_bind (respectsAt_set (StoreFrame.dstep (R := R) (.takeInput σ))) fun _ => respects_pure _

end store

section quiet
variable [QuietFrame R]

@[walk] theorem fr_endLoop (sym : Str) : Respects R (endLoop (F := F) sym) := by
  unfold endLoop
  refine respects_get_bind fun σ => ?_
  dsimp only
  split
  · exact (respects_fail _).at σ
  · split
    · exact (respects_fail _).at σ
    · rename_i info rest heq
      exact respectsAt_ite
        (fun _ => respectsAt_bind (respectsAt_set (QuietFrame.gstep (R := R) (.loopBack σ sym info rest heq)))
          fun _ => fr_setVar (R := R) _ _)
        (fun _ => respectsAt_bind (respectsAt_set (StoreFrame.dstep (R := R) (.dropLoop σ sym info rest heq)))
          fun _ => fr_setVar (R := R) _ _)

@[walk] theorem fr_gotoLine (n : Nat) : Respects R (gotoLine (F := F) n) := by
  unfold gotoLine
  refine respects_bind (respects_modify fun σ => QuietFrame.gstep (R := R) (.clearBp σ)) fun _ => respects_get_bind fun σ => ?_
  exact respectsAt_ite (fun h => respectsAt_set (QuietFrame.gstep (R := R) (.goto σ n h))) fun _ => (respects_fail _).at σ

omit [NumOps F] in
theorem gosubLine_eq (n : Nat) (σ : St F) : gosubLine n σ =
    if (σ.stack.length == Extracted.stackLimit) = true then .err { err := .oomStack } σ
    else if σ.lines.has n = true then
      .ok () { σ with bp := none, loc := { line := some n, idx := 0 }, stack := { ret := σ.loc, vars := [] } :: σ.stack }
    else .err { err := .undefinedStatement } { σ with bp := none } := by
  by_cases hl : (σ.stack.length == Extracted.stackLimit) = true
  · simp [gosubLine, bind, M.bindM, M.get, hl, M.fail]
  · by_cases hh : σ.lines.has n = true
    · simp [gosubLine, bind, M.bindM, M.get, hl, gotoLine, M.modify, M.set, hh]
    · simp [gosubLine, bind, M.bindM, M.get, hl, gotoLine, M.modify, M.fail, hh]

@[walk] theorem fr_gosubLine (n : Nat) : Respects R (gosubLine (F := F) n) :=
  respects_of_final fun σ => by
    rw [gosubLine_eq]
    by_cases hl : (σ.stack.length == Extracted.stackLimit) = true
    · rw [if_pos hl]; exact IsFrame.refl σ
    · rw [if_neg hl]
      by_cases hh : σ.lines.has n = true
      · rw [if_pos hh]; exact QuietFrame.gstep (R := R) (.gosub σ n (by simpa using hl) hh)
      · rw [if_neg hh]; exact QuietFrame.gstep (R := R) (.clearBp σ)

omit [NumOps F] in
theorem returnFromGosub_eq (σ : St F) : returnFromGosub σ =
    match σ.stack with
    | [] => .err { err := .returnWithoutGosub } { σ with bp := none }
    | f :: rest => .ok () { σ with bp := none, stack := rest, loc := f.ret } := by
  simp only [returnFromGosub, bind, M.bindM, M.modify, M.get]
  cases σ.stack <;> rfl

@[walk] theorem fr_returnFromGosub : Respects R (returnFromGosub (F := F)) :=
  respects_of_final fun σ => by
    rw [returnFromGosub_eq]
    split
    · exact QuietFrame.gstep (R := R) (.clearBp σ)
    · rename_i f rest hs
      exact QuietFrame.gstep (R := R) (.ret σ f rest hs)

@[walk] theorem fr_defineFunction (name : Str) (args : List Str) : Respects R (defineFunction (F := F) name args) := by
  unfold defineFunction
  refine respects_get_bind fun σ => ?_
  cases hl : σ.loc.line with
  | none => exact (respects_fail _).at σ
  | some n => exact respectsAt_set (QuietFrame.gstep (R := R) (.defFn σ name args n hl))

end quiet

section cursor

section base
variable [IsFrame R] (hs : ∀ {σ σ' : St F}, CStep σ σ' → R σ σ')
include hs

omit [NumOps F] in
theorem peek_of_cstep : Respects R (peek (F := F)) := by
  unfold peek
  exact respects_bind (respects_modify fun σ => hs (.reads σ)) fun _ =>
    respects_bind ep_tokens fun _ => respects_bind respects_get fun _ => respects_pure _

omit [NumOps F] in
def cursorOf : CursorWalk F where
  toRules := Rules.ofFrame R
  tokens := ep_tokens
  peek := peek_of_cstep hs
  advance := respects_modify fun σ => hs (.advance σ)
  endOfLine := respects_get_bind fun σ => (respects_throw _).at σ

theorem call_of_body (ev : Evals F) (he : Respects R ev.expr) (name : Str) (d : FnDef)
    (h : ∀ b, Respects R (callBody ev name b)) : Respects R (callArgs ev name d) :=
  walk_callArgs (cursorOf hs) ev he h d

omit [NumOps F] hs in
theorem respects_push (b : List (Str × Value F))
    (hpush : ∀ (σ : St F) (d : FnDef), σ.stack.length ≠ Extracted.stackLimit →
      R σ { σ with stack := { ret := σ.loc, vars := b } :: σ.stack, loc := { line := some d.line, idx := d.idx } })
    (name : Str) : Respects R (pushFunctionCall (F := F) name b) := by
  unfold pushFunctionCall
  refine respects_get_bind fun σ => respectsAt_ite (fun _ => (respects_fail _).at σ) fun hc => ?_
  split
  · exact (respects_rpanic _).at σ
  · rename_i d _
    exact respectsAt_set (hpush σ d (by simpa using hc))

omit [NumOps F] hs in
theorem respects_pop
    (hpop : ∀ (σ : St F) (f : Frame F) (rest : List (Frame F)), σ.stack = f :: rest →
      R σ { σ with stack := rest, loc := f.ret }) : Respects R (popFunctionCall (F := F)) := by
  unfold popFunctionCall
  refine respects_get_bind fun σ => ?_
  split
  · exact (respects_rpanic _).at σ
  · rename_i f rest hst
    exact respectsAt_set (hpop σ f rest hst)

omit hs in
theorem respects_callBody {ev : Evals F} {name : Str} {b : List (Str × Value F)} (he : Respects R ev.expr)
    (hpush : Respects R (pushFunctionCall name b)) (hpop : Respects R (popFunctionCall (F := F))) :
    Respects R (callBody ev name b) := by
  unfold callBody
  respects_tac

theorem call_of_push_pop
    (hpush : ∀ (σ : St F) (b : List (Str × Value F)) (d : FnDef), σ.stack.length ≠ Extracted.stackLimit →
      R σ { σ with stack := { ret := σ.loc, vars := b } :: σ.stack, loc := { line := some d.line, idx := d.idx } })
    (hpop : ∀ (σ : St F) (f : Frame F) (rest : List (Frame F)), σ.stack = f :: rest →
      R σ { σ with stack := rest, loc := f.ret })
    (ev : Evals F) (name : Str) (d : FnDef) (he : Respects R ev.expr) : Respects R (callArgs ev name d) :=
  call_of_body hs ev he name d fun b =>
    respects_callBody he (respects_push b (fun σ d => hpush σ b d) name) (respects_pop hpop)

theorem call_of_blind (h : ∀ (σ : St F) (s : List (Frame F)) (l : Loc), R σ { σ with stack := s, loc := l })
    (ev : Evals F) (name : Str) (d : FnDef) (he : Respects R ev.expr) : Respects R (callArgs ev name d) :=
  call_of_push_pop hs (fun σ _ _ _ => h σ _ _) (fun σ _ _ _ => h σ _ _) ev name d he

end base

variable [ExprFrame R]

@[walk] theorem fr_peek : Respects R (peek (F := F)) := peek_of_cstep ExprFrame.cstep

@[walk] theorem fr_advance : Respects R (advance (F := F)) :=
  respects_modify fun σ => ExprFrame.cstep (R := R) (.advance σ)

variable (R) in
def ExprFrame.cursor : CursorWalk F := cursorOf (R := R) ExprFrame.cstep

variable (R) in
def ExprFrame.walk : ExprWalk F where
  toCursorWalk := ExprFrame.cursor R
  nested := ExprFrame.nested
  warnUndeclaredArray := fr_warnUndeclaredArray
  arrayGet := fr_arrayGet
  rnd := fr_rnd
  fnDef := fr_fnDef
  varRef := fr_varRef
  call ev name d he := ExprFrame.call ev name d he

/-! what `respects_tac` looks up when it meets one of these in another computation -/

@[walk] theorem fr_next : Respects R (next (F := F)) := walk_next (ExprFrame.cursor R)
@[walk] theorem fr_hasNext : Respects R (hasNext (F := F)) := walk_hasNext (ExprFrame.cursor R)
@[walk] theorem fr_nextUnwrapped : Respects R (nextUnwrapped (F := F)) := walk_nextUnwrapped (ExprFrame.cursor R)
@[walk] theorem fr_expect (k : Kw) : Respects R (expect (F := F) k) := walk_expect (ExprFrame.cursor R) k
@[walk] theorem fr_accept (k : Kw) : Respects R (accept (F := F) k) := walk_accept (ExprFrame.cursor R) k
@[walk] theorem fr_peekIsKw (k : Kw) : Respects R (peekIsKw (F := F) k) := walk_peekIsKw (ExprFrame.cursor R) k
@[walk] theorem fr_tryNext {α : Type} (f : Token F → Option α) : Respects R (tryNext f) := walk_tryNext (ExprFrame.cursor R) f
@[walk] theorem fr_lineBudget : Respects R (lineBudget (F := F)) := walk_lineBudget (ExprFrame.cursor R)


section evaluator
variable (ev : Evals F) (he : Respects R ev.expr)
include he

theorem fr_arrayIndex : Respects R (arrayIndex ev) := walk_arrayIndex (ExprFrame.walk R) ev he

theorem fr_userFunctionCall (name : Str) : Respects R (userFunctionCall ev name) :=
  walk_userFunctionCall (ExprFrame.walk R) ev he name

theorem fr_printLoop (n : Nat) (semi : Bool) (acc : Str) : Respects R (printLoop ev n semi acc) :=
  walk_printLoop (ExprFrame.walk R) ev he n semi acc

theorem fr_printStatement (hp : ∀ (σ : St F) (s : Str), R σ { σ with out := .print s :: σ.out }) :
    Respects R (printStatement ev) := by
  unfold printStatement emit
  exact respects_bind fr_lineBudget fun _ => respects_bind (fr_printLoop ev he _ _ _) fun _ =>
    respects_modify fun σ => hp σ _

end evaluator

theorem fr_evalN_expr (n : Nat) : Respects R (evalN (F := F) n).expr := walk_evalN_expr (ExprFrame.walk R) n

end cursor

section stmt
variable [StmtFrame R]

@[walk] theorem fr_discardRemaining : Respects R (discardRemaining (F := F)) := by
  unfold discardRemaining
  exact respects_bind ep_tokens fun ts => respects_modify fun σ => StmtFrame.idx (R := R) σ ts.length 0

@[walk] theorem fr_rewindBeforeInput : Respects R (rewindBeforeInput (F := F)) := by
  unfold rewindBeforeInput
  refine respects_bind ep_tokens fun ts => respects_get_bind fun σ => ?_
  dsimp only
  split
  · exact respectsAt_set (StmtFrame.idx (R := R) σ _ _)
  · exact (respects_rpanic _).at σ

@[walk] theorem fr_rewindAndAwaitInput : Respects R (rewindAndAwaitInput (F := F)) := by
  unfold rewindAndAwaitInput
  exact respects_bind (fr_rewindBeforeInput (R := R)) fun _ => respects_modify fun σ => StoreFrame.dstep (R := R) (.await σ)

variable (R) in
def StmtFrame.walk : StmtWalk F where
  toExprWalk := ExprFrame.walk R
  discardRemaining := fr_discardRemaining
  setVar := fr_setVar
  arraySet := fr_arraySet
  arrayCreate := fr_arrayCreate
  gotoLine := fr_gotoLine
  gosubLine := fr_gosubLine
  returnFromGosub := fr_returnFromGosub
  startLoop := fr_startLoop
  endLoop := fr_endLoop
  defineFunction := fr_defineFunction
  nextDataElement := fr_nextDataElement
  restoreData := respects_modify fun σ => StoreFrame.dstep (R := R) (.data σ none)
  takeInput := fr_takeInput
  rewindAndAwaitInput := fr_rewindAndAwaitInput
  emit := fr_emit

theorem fr_dispatchK (ev : Evals F) (he : Respects R ev.expr) (t : Option (Token F))
    (hif : t ≠ some (.kw .If)) (hend : t ≠ some (.kw .End)) (hstop : t ≠ some (.kw .Stop)) :
    Respects R (Indep.dispatchK ev t) :=
  walk_dispatchK (StmtFrame.walk R) ev he t hif (fun h => absurd h hend) (fun h => absurd h hstop)

end stmt

section top
variable [TopFrame R]

@[walk] theorem fr_traceHere : Respects R (traceHere (F := F)) := by
  unfold traceHere emit
  refine respects_get_bind fun σ => ?_
  cases ht : σ.tracing with
  | false => exact (respects_pure _).at σ
  | true =>
    cases hl : σ.loc.line with
    | none => exact (respects_pure _).at σ
    | some n => exact respectsAt_modify (TopFrame.tstep (R := R) (.trace σ n ht hl))

@[walk] theorem fr_nextLine : Respects R (nextLine (F := F)) := by
  unfold nextLine
  refine respects_get_bind fun σ => ?_
  cases hl : σ.loc.line with
  | none => exact (respects_pure _).at σ
  | some n =>
    dsimp only
    cases ha : σ.lines.after n with
    | none => exact (respects_pure _).at σ
    | some m => exact respectsAt_bind (respectsAt_set (TopFrame.tstep (R := R) (.nextLine σ n m hl ha))) fun _ => respects_pure _

@[walk] theorem fr_setImmediate (ts : List (Token F)) : Respects R (setImmediate ts) :=
  respects_modify fun σ => TopFrame.tstep (R := R) (.setImmediate σ ts)

@[walk] theorem fr_breakAtCurrentLocation : Respects R (breakAtCurrentLocation (F := F)) :=
  respects_modify fun σ => TopFrame.tstep (R := R) (.brk σ)

@[walk] theorem fr_returnToIdle : Respects R (returnToIdle (F := F)) :=
  respects_modify fun σ => TopFrame.tstep (R := R) (.state σ .idle)

variable (R) in
def TopFrame.walk : Walk F where
  toStmtWalk := StmtFrame.walk R
  setImmediate := fr_setImmediate
  breakAtCurrentLocation := fr_breakAtCurrentLocation
  traceHere := fr_traceHere
  setRunning := respects_modify fun σ => TopFrame.tstep (R := R) (.state σ .running)
  nextLine := fr_nextLine
  returnToIdle := fr_returnToIdle

theorem fr_evalN (n : Nat) : Respects R (evalN (F := F) n).expr ∧ Respects R (evalN (F := F) n).stmt :=
  walk_evalN (TopFrame.walk R) n

theorem fr_runNextStatement (fuel : Nat) : Respects R (runNextStatement (F := F) fuel) :=
  walk_runNextStatement (TopFrame.walk R) fuel

end top

/-- what the commands, a stored line and a reply do to the state beyond running statements -/
inductive HStep : St F → St F → Prop
  | reset (σ : St F) : HStep σ ({ σ with input := none, vars := [], arrays := [] }).runFromFirst
  | store (σ : St F) (n : Nat) (ts : List (Token F)) : HStep σ (σ.setNumberedLine n ts)
  | list (σ : St F) (ls : List Str) : σ.lines.list = some ls →
      HStep σ { σ with out := (ls.map Out.print).reverse ++ σ.out }
  | tracing (σ : St F) (b : Bool) : HStep σ { σ with tracing := b }
  | cont (σ : St F) (n i : Nat) : σ.bp = some (n, i) →
      HStep σ { σ with loc := { line := some n, idx := i }, bp := none }
  | reply (σ : St F) (text : Str) : HStep σ { σ with input := some text, state := .running }

class HostFrame (R : St F → St F → Prop) : Prop extends TopFrame R where
  hstep : ∀ {σ σ'}, HStep σ σ' → R σ σ'

section host
variable [HostFrame R]

variable (R) in
def HostFrame.walk (fuel : Nat) : HostWalk F fuel where
  P m := Respects R m
  pure := respects_pure
  bind := respects_bind
  turn := fr_runNextStatement fuel
  continueFromBreakpoint := by
    unfold continueFromBreakpoint
    refine respects_bind (fr_setImmediate _) fun _ => respects_get_bind fun σ => ?_
    cases hb : σ.bp with
    | none => exact (respects_fail _).at σ
    | some p => exact respectsAt_set (HostFrame.hstep (R := R) (.cont σ p.1 p.2 hb))
  emitOpaque := fr_emit _ rfl
  resetForRun := respects_modify fun σ => HostFrame.hstep (R := R) (.reset σ)
  list := by
    unfold listCommand
    refine respects_get_bind fun σ => ?_
    cases hl : σ.lines.list with
    | none => exact (respects_rpanic _).at σ
    | some ls => exact respectsAt_set (HostFrame.hstep (R := R) (.list σ ls hl))
  newRequested := respects_modify fun σ => TopFrame.tstep (R := R) (.state σ .newRequested)
  setTracing b := respects_modify fun σ => HostFrame.hstep (R := R) (.tracing σ b)
  fail := respects_fail
  inState st msg _ hm := by
    unfold inState
    exact respects_get_bind fun σ => respectsAt_ite (fun _ => (respects_rpanic _).at σ) fun _ => hm.at σ
  postprocess hm := respects_postprocess (fun σ => TopFrame.tstep (R := R) (.state σ .idle)) hm
  setImmediate := fr_setImmediate
  setNumberedLine n ts := respects_modify fun σ => HostFrame.hstep (R := R) (.store σ n ts)
  provideInput text := by
    unfold provideInput
    exact respects_get_bind fun σ => respectsAt_ite (fun _ => (respects_rpanic _).at σ) fun _ =>
      respectsAt_set (HostFrame.hstep (R := R) (.reply σ text))

theorem fr_startEvaluating (fuel : Nat) (line : Str) : Respects R (startEvaluating (F := F) fuel line) :=
  walk_startEvaluating (HostFrame.walk R fuel) line

theorem fr_continueEvaluating (fuel : Nat) : Respects R (continueEvaluating (F := F) fuel) :=
  walk_continueEvaluating (HostFrame.walk R fuel)

theorem fr_provideInput (text : Str) : Respects R (provideInput (F := F) text) :=
  (HostFrame.walk R 0).provideInput text

end host

end Abasic.Hoare
