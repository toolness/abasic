import Abasic.Props.C06
import Abasic.Proofs.ExprCursor
/-
  Helper lemmas for C06 (`amain2`, Abasic/Proofs/Analyzer2.lean): the
  analyzer's expression tiers on the token cursor.

  The analyzer walks the same cursor with the same primitives as the evaluator,
  so the cursor equations of ExprCursor.lean (`At`, `mv`, `peek_eq`, `tryNext_some`,
  `accept_true`, `expect_eq`, `nested_ok`, …) apply to the analyzer as they stand.  This file adds:

  * `lg σ a` — `σ` with the symbol accesses `a` appended to the log;
    the canonical result state of an analyzer run is `lg (mv σ n r) a`;
  * `AAgrees` — agreement of a run with a spec result `Except Err β`;
  * `Runs c off C m ts ty acc k` — the judgment in which the lemmas about the analyzer are stated: `m`, started
    at token index `off` in front of the tokens `ts` (what follows them satisfies `C`) in any state of the run
    `c` (`Ctx`: function table, line number, nesting counter, length of the line, stored line numbers — what
    the analyzer leaves alone on a line), agrees with `ty`, stops behind `ts` having logged `acc`, and goes on as `k`.  Its rules put runs in
    sequence (`bind`, `trans`, `map`), step over a token (`tok`, `accept`, `expect`, `tryNext`), look ahead
    (`look`, `stop`), read the state (`get`, `budget`) and log (`log`, `logFirst`); the state, its read counter
    and the arithmetic of positions are in the proofs of the rules and nowhere else.  `Runs.run` is the way
    back to one state;
  * `atier ev k` — the analyzer tiers (`atier ev 0 = aUnary ev`, `atier ev 6 = aOrExpr ev`)
    with their rule kinds `kindAt k`, and the loop of a tier as an equation of programs (`aLevelLoop_succ`).
-/
set_option linter.unusedSectionVars false

namespace Abasic.AnaL
open Abasic Abasic.Ref Abasic.ExprL M Abasic.Props.C06

variable {F : Type}

/-- one entry of the symbol-access log: symbol, line, token index, kind -/
abbrev Acc := Str × Nat × Nat × Access

def lg (σ : St F) (a : List Acc) : St F := { σ with accesses := σ.accesses ++ a }

@[simp] theorem lg_reads (σ : St F) (a : List Acc) : (lg σ a).reads = σ.reads := rfl
@[simp] theorem lg_nesting (σ : St F) (a : List Acc) : (lg σ a).nesting = σ.nesting := rfl
@[simp] theorem lg_idx (σ : St F) (a : List Acc) : (lg σ a).loc.idx = σ.loc.idx := rfl
@[simp] theorem lg_line (σ : St F) (a : List Acc) : (lg σ a).loc.line = σ.loc.line := rfl
@[simp] theorem lg_loc (σ : St F) (a : List Acc) : (lg σ a).loc = σ.loc := rfl
@[simp] theorem lg_accesses (σ : St F) (a : List Acc) : (lg σ a).accesses = σ.accesses ++ a := rfl
@[simp] theorem lineToks_lg (σ : St F) (a : List Acc) : lineToks (lg σ a) = lineToks σ := rfl

theorem mv_lg (σ : St F) (a : List Acc) (n r : Nat) : mv (lg σ a) n r = lg (mv σ n r) a := rfl
theorem nest_lg (σ : St F) (a : List Acc) (k : Nat) : nest (lg σ a) k = lg (nest σ k) a := rfl

theorem lg_lg (σ : St F) (a b : List Acc) : lg (lg σ a) b = lg σ (a ++ b) := by
  simp only [lg, List.append_assoc]

theorem lg_nil (σ : St F) : lg σ [] = σ := by
  simp only [lg, List.append_nil]

theorem at_lg {σ : St F} {pre post : List (Token F)} (h : At σ pre post) (a : List Acc) :
    At (lg σ a) pre post := ⟨h.1, h.2⟩

/-- two runs in sequence -/
theorem fin_fin (σ : St F) (n r m r' : Nat) (a b : List Acc) :
    lg (mv (lg (mv σ n r) a) m r') b = lg (mv σ (n + m) r') (a ++ b) := by
  rw [mv_lg, mv_mv, lg_lg]

/-- agreement of an analyzer run with the spec's static result: on a result, the
    run is the continuation `k` applied to it and to some larger read counter; on
    an error, the run fails with that error and leaves the nesting counter alone. -/
def AAgrees {α β : Type} (res : Res F α) (ty : Except Err β) (σ : St F)
    (k : β → Nat → Res F α) : Prop :=
  match ty with
  | .ok t => ∃ r, σ.reads < r ∧ res = k t r
  | .error x => ∃ σ', res = .err { err := x } σ' ∧ σ'.nesting = σ.nesting

section
variable {α β γ δ : Type} {ty : Except Err β} {σ : St F}

theorem AAgrees.bind {m : M F α} {g : α → M F γ} {v : β → α} {S : β → Nat → St F}
    (h : AAgrees (m σ) ty σ fun t r => .ok (v t) (S t r)) :
    AAgrees ((m >>= g) σ) ty σ fun t r => g (v t) (S t r) := by
  cases ty with
  | error x =>
    obtain ⟨σ', hσ', hn⟩ := h
    exact ⟨σ', bind_err hσ', hn⟩
  | ok t =>
    obtain ⟨r, hr, hσ'⟩ := h
    exact ⟨r, hr, bind_ok hσ'⟩

/-- the run may have started in `S`, a later state of a run from `σ` -/
theorem AAgrees.from {res : Res F α} {S : St F} {k : β → Nat → Res F α} (h : AAgrees res ty S k) (σ : St F)
    (hr : σ.reads ≤ S.reads) (hn : S.nesting = σ.nesting) : AAgrees res ty σ k := by
  cases ty with
  | error x =>
    obtain ⟨σ', hσ', hn'⟩ := h
    exact ⟨σ', hσ', hn'.trans hn⟩
  | ok t =>
    obtain ⟨r, hr', hσ'⟩ := h
    exact ⟨r, Nat.lt_of_le_of_lt hr hr', hσ'⟩

/-- the continuation of the run agrees with the rest of the check -/
theorem AAgrees.trans {res : Res F α} {f : β → Except Err δ} {k : β → Nat → Res F α} {k' : δ → Nat → Res F α}
    (h : AAgrees res ty σ k) (hk : ∀ t r, ty = .ok t → σ.reads < r → AAgrees (k t r) (f t) σ k') :
    AAgrees res (ty >>= f) σ k' := by
  cases ty with
  | error x => exact h
  | ok t =>
    obtain ⟨r, hr, hσ'⟩ := h
    rw [hσ']
    exact hk t r rfl hr

/-- the continuation of the run is a later outcome of the same check -/
theorem AAgrees.mono {res : Res F α} {k k' : β → Nat → Res F α}
    (h : AAgrees res ty σ k) (hk : ∀ t r, σ.reads < r → ∃ r', r ≤ r' ∧ k t r = k' t r') :
    AAgrees res ty σ k' := by
  cases ty with
  | error x => exact h
  | ok t =>
    obtain ⟨r, hr, hσ'⟩ := h
    obtain ⟨r', hr', hkk⟩ := hk t r hr
    exact ⟨r', Nat.lt_of_lt_of_le hr hr', hσ'.trans hkk⟩

theorem AAgrees.congr {res : Res F α} {k k' : β → Nat → Res F α}
    (h : AAgrees res ty σ k) (hk : ∀ t r, k t r = k' t r) : AAgrees res ty σ k' :=
  h.mono fun t r _ => ⟨r, Nat.le_refl r, hk t r⟩

/-- an agreement whose continuation is the canonical final state, as the two clauses of
    `analyze_render` -/
theorem AAgrees.final {α : Type} {res : Res F α} {ty : Except Err α} {σ : St F}
    {pre : List (Token F)} {len : Nat} {a : List Acc}
    (h : AAgrees res ty σ fun t r => .ok t (lg (mv σ len r) a)) (hidx : σ.loc.idx = pre.length) :
    (∀ t, ty = .ok t → ∃ r, σ.reads < r ∧
      res = .ok t { σ with loc := { σ.loc with idx := pre.length + len }, reads := r,
                           accesses := σ.accesses ++ a }) ∧
    (∀ x, ty = .error x → ∃ σ', res = .err { err := x } σ' ∧ σ'.nesting = σ.nesting) := by
  constructor
  · intro t ht
    rw [ht] at h
    obtain ⟨r, hr, hσ⟩ := h
    exact ⟨r, hr, hσ.trans (by simp only [lg, mv, hidx])⟩
  · intro x hx
    rw [hx] at h
    exact h

end

variable [NumOps F]

structure Ctx where
  fns : List (Str × FnDef)
  ln : Nat
  nest : Nat
  len : Nat
  has : Nat → Bool

/-- `σ` is a state of the run `c` -/
def Ctx.Of (c : Ctx) (σ : St F) : Prop :=
  σ.loc.line = some c.ln ∧ σ.fns = c.fns ∧ σ.nesting = c.nest ∧
    (lineToks σ).map List.length = some c.len ∧ σ.lines.has = c.has

def Ctx.at (σ : St F) (ln : Nat) : Ctx :=
  ⟨σ.fns, ln, σ.nesting, ((lineToks σ).map List.length).getD 0, σ.lines.has⟩

theorem Ctx.of_at {σ : St F} {pre post : List (Token F)} {ln : Nat} (hAt : At σ pre post)
    (hl : σ.loc.line = some ln) : (Ctx.at σ ln).Of σ :=
  ⟨hl, rfl, rfl, by simp only [Ctx.at, hAt.1, Option.map_some, Option.getD_some], rfl⟩

theorem Ctx.Of.fin {c : Ctx} {σ : St F} (h : c.Of σ) (n r : Nat) (a : List Acc) : c.Of (lg (mv σ n r) a) := h

theorem Ctx.Of.lineBudget {c : Ctx} {σ : St F} (h : c.Of σ) : lineBudget σ = .ok (c.len + 1) σ := by
  obtain ⟨_, _, _, h, _⟩ := h
  cases hl : lineToks σ with
  | none => rw [hl] at h; cases h
  | some l =>
    rw [hl] at h
    rw [lineBudget_eq hl, ← Option.some.inj h]

def Runs {α β : Type} (c : Ctx) (off : Nat) (C : List (Token F) → Prop) (m : M F α) (ts : List (Token F))
    (ty : Except Err β) (acc : List Acc) (k : β → M F α) : Prop :=
  ∀ (σ : St F) (pre rest : List (Token F)), c.Of σ → C rest → At σ pre (ts ++ rest) → pre.length = off →
    AAgrees (m σ) ty σ fun t r => k t (lg (mv σ ts.length r) acc)

section rules
variable {α β γ δ : Type} {c : Ctx} {off : Nat} {C C' : List (Token F) → Prop} {ts ts' : List (Token F)}
  {ty : Except Err β} {acc acc' : List Acc}

theorem Runs.run {σ : St F} {pre rest : List (Token F)} {ln : Nat} {m : M F α} {k : β → M F α}
    (h : Runs (Ctx.at σ ln) pre.length C m ts ty acc k) (hAt : At σ pre (ts ++ rest)) (hl : σ.loc.line = some ln)
    (hC : C rest) : AAgrees (m σ) ty σ fun t r => k t (lg (mv σ ts.length r) acc) :=
  h σ pre rest (Ctx.of_at hAt hl) hC hAt rfl

theorem Runs.bind {m : M F α} {g : α → M F γ} {v : β → α}
    (h : Runs c off C m ts ty acc fun t => pure (v t)) : Runs c off C (m >>= g) ts ty acc fun t => g (v t) :=
  fun σ pre rest hc hC hAt ho => (h σ pre rest hc hC hAt ho).bind

theorem Runs.trans {m : M F α} {k : β → M F α} {f : β → Except Err δ} {k' : δ → M F α}
    (h : Runs c off C m ts ty acc k) (hC : ∀ rest, C' rest → C (ts' ++ rest))
    (hk : ∀ t, Runs c (off + ts.length) C' (k t) ts' (f t) acc' k') :
    Runs c off C' m (ts ++ ts') (ty >>= f) (acc ++ acc') k' := by
  intro σ pre rest hc hC' hAt ho
  have hAt' : At σ pre (ts ++ (ts' ++ rest)) := by rwa [List.append_assoc] at hAt
  refine (h σ pre _ hc (hC _ hC') hAt' ho).trans fun t r _ hr => ?_
  refine ((hk t _ (pre ++ ts) rest (hc.fin ..) hC' (at_lg (at_mv hAt' r) _)
    (by rw [List.length_append, ho])).from σ (Nat.le_of_lt hr) rfl).congr fun u r' => ?_
  rw [fin_fin, List.length_append]

/-- a tail that logs nothing and leaves the result alone -/
theorem Runs.andThen {m : M F α} {k : β → M F α} {k' : β → M F α}
    (h : Runs c off C m ts ty acc k) (hC : ∀ rest, C' rest → C (ts' ++ rest))
    (hk : ∀ t, Runs c (off + ts.length) C' (k t) ts' (.ok ()) [] fun _ => k' t) :
    Runs c off C' m (ts ++ ts') ty acc k' := by
  intro σ pre rest hc hC' hAt ho
  have hAt' : At σ pre (ts ++ (ts' ++ rest)) := by rwa [List.append_assoc] at hAt
  refine (h σ pre _ hc (hC _ hC') hAt' ho).mono fun t r hr => ?_
  obtain ⟨r', hr', h'⟩ := hk t _ (pre ++ ts) rest (hc.fin ..) hC' (at_lg (at_mv hAt' r) _)
    (by rw [List.length_append, ho])
  refine ⟨r', Nat.le_of_lt hr', h'.trans ?_⟩
  dsimp only
  rw [fin_fin, List.length_append, List.append_nil]

/-- a pure last step of the check -/
theorem Runs.map {m : M F α} {k : β → M F α} {f : β → Except Err δ} {k' : δ → M F α}
    (h : Runs c off C m ts ty acc k)
    (hk : ∀ t, match f t with
      | .ok u => k t = k' u
      | .error x => k t = fail x) :
    Runs c off C m ts (ty >>= f) acc k' := by
  intro σ pre rest hc hC hAt ho
  refine (h σ pre rest hc hC hAt ho).trans fun t r _ hr => ?_
  have := hk t
  cases hf : f t with
  | ok u => rw [hf] at this; exact ⟨r, hr, by rw [this]⟩
  | error x => rw [hf] at this; exact ⟨lg (mv σ ts.length r) acc, by rw [this]; rfl, rfl⟩

theorem Runs.weaken {m : M F α} {k : β → M F α} (h : Runs c off C m ts ty acc k) (hC : ∀ rest, C' rest → C rest) :
    Runs c off C' m ts ty acc k :=
  fun σ pre rest hc hC' hAt ho => h σ pre rest hc (hC _ hC') hAt ho

/-- the tokens of the run are on the line -/
theorem Runs.fits {m : M F α} {k : β → M F α} (h : off + ts.length ≤ c.len → Runs c off C m ts ty acc k) :
    Runs c off C m ts ty acc k := by
  intro σ pre rest hc hC hAt ho
  refine h ?_ σ pre rest hc hC hAt ho
  have := hc.2.2.2.1
  rw [hAt.1] at this
  rw [← Option.some.inj this, ← ho]
  simp only [List.length_append]
  omega

/-- the continuation, as far as the states of the run can tell -/
theorem Runs.congr {m : M F α} {k k' : β → M F α} (h : Runs c off C m ts ty acc k)
    (hk : ∀ t (S : St F), c.Of S → k t S = k' t S) : Runs c off C m ts ty acc k' :=
  fun σ pre rest hc hC hAt ho => (h σ pre rest hc hC hAt ho).congr fun t _ => hk t _ (hc.fin ..)

/-- the program, as far as the states of the run can tell -/
theorem Runs.of_eq {m m' : M F α} {k : β → M F α} (hm : ∀ (S : St F), c.Of S → m S = m' S)
    (h : Runs c off C m' ts ty acc k) : Runs c off C m ts ty acc k :=
  fun σ pre rest hc hC hAt ho => (hm σ hc).symm ▸ h σ pre rest hc hC hAt ho

theorem Runs.fail {x : Err} {k : β → M F α} : Runs c off C (M.fail x) ts (.error x) acc k :=
  fun σ _ _ _ _ _ _ => ⟨σ, rfl, rfl⟩

theorem Runs.err {m : M F α} {x : Err} {k : β → M F α}
    (hm : ∀ {σ : St F} {pre rest : List (Token F)}, At σ pre (ts ++ rest) →
      ∃ σ', m σ = .err { err := x } σ' ∧ σ'.nesting = σ.nesting) :
    Runs c off C m ts (.error x) acc k :=
  fun _ _ _ _ _ hAt _ => hm hAt

theorem isKw_self (kw : Kw) : (Token.kw (F := F) kw).isKw kw = true := beq_self_eq_true kw

theorem Runs.tok {m : M F α} {g : α → M F γ} {v : α} {t : Token F} {k' : β → M F γ}
    (hm : ∀ {σ : St F} {pre rest : List (Token F)}, At σ pre (t :: rest) → m σ = .ok v (mv σ 1 (σ.reads + 1)))
    (hk : Runs c (off + 1) C (g v) ts ty acc k') :
    Runs c off C (m >>= g) (t :: ts) ty acc k' := by
  intro σ pre rest hc hC hAt ho
  rw [bind_ok (hm hAt)]
  refine ((hk (mv σ 1 (σ.reads + 1)) (pre ++ [t]) rest hc hC (at_mv1 hAt _)
    (by rw [List.length_append, ho]; rfl)).from σ (Nat.le_succ _) rfl).congr fun u r => ?_
  rw [mv_mv, Nat.add_comm]; rfl

theorem Runs.accept {kw : Kw} {g : Bool → M F γ} {k' : β → M F γ} (hk : Runs c (off + 1) C (g true) ts ty acc k') :
    Runs c off C (accept kw >>= g) (.kw kw :: ts) ty acc k' :=
  Runs.tok (fun hAt => accept_true hAt (isKw_self kw)) hk

theorem Runs.expect {kw : Kw} {g : Unit → M F γ} {k' : β → M F γ} (hk : Runs c (off + 1) C (g ()) ts ty acc k') :
    Runs c off C (expect kw >>= g) (.kw kw :: ts) ty acc k' :=
  Runs.tok (fun hAt => expect_eq hAt (isKw_self kw)) hk

theorem Runs.tryNext {t : Token F} {f : Token F → Option δ} {a : δ} {g : Option δ → M F γ} {k' : β → M F γ}
    (hf : f t = some a) (hk : Runs c (off + 1) C (g (some a)) ts ty acc k') :
    Runs c off C (tryNext f >>= g) (t :: ts) ty acc k' :=
  Runs.tok (fun hAt => tryNext_some hAt hf) hk

theorem Runs.one {m : M F α} {v : α} {t : Token F}
    (hm : ∀ {σ : St F} {pre rest : List (Token F)}, At σ pre (t :: rest) → m σ = .ok v (mv σ 1 (σ.reads + 1))) :
    Runs c off C m [t] (.ok ()) [] fun _ => pure v :=
  fun σ _ _ _ _ hAt _ => ⟨σ.reads + 1, Nat.lt_succ_self _, (hm hAt).trans (congrArg _ (lg_nil _).symm)⟩

theorem Runs.looks {m : M F α} {v : α}
    (hm : ∀ {σ : St F} {pre rest : List (Token F)}, C rest → At σ pre rest → m σ = .ok v (mv σ 0 (σ.reads + 1))) :
    Runs c off C m [] (.ok ()) [] fun _ => pure v :=
  fun σ _ _ _ hC hAt _ => ⟨σ.reads + 1, Nat.lt_succ_self _, (hm hC hAt).trans (congrArg _ (lg_nil _).symm)⟩

theorem Runs.last {m : M F α} {k : β → M F α} {k' : β → M F α} {t : Token F}
    (h : Runs c off C m ts ty acc k) (hC : ∀ rest, C (t :: rest))
    (hk : ∀ u {σ : St F} {pre rest : List (Token F)}, At σ pre (t :: rest) → k u σ = k' u (mv σ 1 (σ.reads + 1))) :
    Runs c off C' m (ts ++ [t]) ty acc k' :=
  h.andThen (fun _ _ => hC _) fun u σ _ _ _ _ hAt _ =>
    ⟨σ.reads + 1, Nat.lt_succ_self _, (hk u hAt).trans (congrArg _ (lg_nil _).symm)⟩

theorem Runs.look {m : M F α} {g : α → M F γ} {v : α} {k' : β → M F γ}
    (hm : ∀ {σ : St F} {pre rest : List (Token F)}, C rest → At σ pre (ts ++ rest) →
      m σ = .ok v (mv σ 0 (σ.reads + 1)))
    (hk : Runs c off C (g v) ts ty acc k') :
    Runs c off C (m >>= g) ts ty acc k' := by
  intro σ pre rest hc hC hAt ho
  rw [bind_ok (hm hC hAt)]
  refine ((hk (mv σ 0 (σ.reads + 1)) pre rest hc hC (at_mv0 hAt _) ho).from σ (Nat.le_succ _) rfl).congr
    fun u r => ?_
  rw [mv_mv, Nat.zero_add]

theorem Runs.stop {m : M F α} {k k' : β → M F α} (h : Runs c off C m ts ty acc k)
    (hk : ∀ u {σ : St F} {pre rest : List (Token F)}, C rest → At σ pre rest → k u σ = k' u (mv σ 0 (σ.reads + 1))) :
    Runs c off C m ts ty acc k' := by
  intro σ pre rest hc hC hAt ho
  refine (h σ pre rest hc hC hAt ho).mono fun t r _ => ⟨r + 1, Nat.le_succ _, ?_⟩
  rw [hk t hC (at_lg (at_mv hAt r) _), mv_lg, mv_mv]; rfl

theorem Runs.get {m : M F α} {g : α → M F γ} {v : α} {k' : β → M F γ}
    (hm : ∀ {S : St F}, c.Of S → S.loc.idx = off → m S = .ok v S)
    (hk : Runs c off C (g v) ts ty acc k') : Runs c off C (m >>= g) ts ty acc k' := by
  intro σ pre rest hc hC hAt ho
  rw [bind_ok (hm hc (hAt.2.trans ho))]
  exact hk σ pre rest hc hC hAt ho

theorem Runs.budget {g : Nat → M F γ} {k' : β → M F γ} (hk : Runs c off C (g (c.len + 1)) ts ty acc k') :
    Runs c off C (lineBudget >>= g) ts ty acc k' :=
  Runs.get (fun hS _ => hS.lineBudget) hk

theorem Runs.logFirst {m : M F α} {g : α → M F γ} {v : α} {a : List Acc} {k' : β → M F γ}
    (hm : ∀ (S : St F), m S = .ok v (lg S a)) (hk : Runs c off C (g v) ts ty acc k') :
    Runs c off C (m >>= g) ts ty (a ++ acc) k' := by
  intro σ pre rest hc hC hAt ho
  rw [bind_ok (hm σ)]
  refine ((hk (lg σ a) pre rest hc hC (at_lg hAt a) ho).from σ (Nat.le_refl _) rfl).congr fun u r => ?_
  rw [mv_lg, lg_lg]

theorem Runs.log {m : M F α} {k k' : β → M F α} {a : List Acc} (h : Runs c off C m ts ty acc k)
    (hk : ∀ t (S : St F), c.Of S → k t S = k' t (lg S a)) : Runs c off C m ts ty (acc ++ a) k' :=
  fun σ pre rest hc hC hAt ho =>
    (h σ pre rest hc hC hAt ho).congr fun t r => (hk t _ (hc.fin ..)).trans (by rw [lg_lg])

/-- one nesting level deeper, restored on both ways out -/
theorem Runs.nested {m : M F α} {ty : Except Err α} (hn : c.nest < Extracted.nestingLimit)
    (h : Runs { c with nest := c.nest + 1 } off C m ts ty acc pure) : Runs c off C (nested m) ts ty acc pure := by
  intro σ pre rest hc hC hAt ho
  obtain ⟨hl, hf, hν, hlen, hh⟩ := hc
  have hn' : σ.nesting < Extracted.nestingLimit := by rw [hν]; exact hn
  have h' := h (nest σ (σ.nesting + 1)) pre rest ⟨hl, hf, by rw [nest_nesting, hν], hlen, hh⟩ hC (at_nest hAt _) ho
  cases ty with
  | error e =>
    obtain ⟨σ', hσ', hσn⟩ := h'
    exact ⟨nest σ' σ.nesting, nested_err hn' hσ' hσn, rfl⟩
  | ok v =>
    obtain ⟨r, hr, hσ'⟩ := h'
    exact ⟨r, hr, nested_ok hn' hσ' rfl⟩

end rules

theorem checkNumber_num (σ : St F) : VT.checkNumber (F := F) .num σ = .ok .num σ := rfl
theorem checkNumber_str (σ : St F) :
    VT.checkNumber (F := F) .str σ = .err { err := .typeMismatch } σ := rfl
theorem check_same (a : VT) (σ : St F) : VT.check (F := F) a a σ = .ok a σ := by
  cases a <;> rfl
theorem check_diff {a b : VT} (h : a ≠ b) (σ : St F) :
    VT.check (F := F) a b σ = .err { err := .typeMismatch } σ := by
  cases a <;> cases b <;> first | rfl | exact absurd rfl h

theorem check_self (a : VT) : VT.check (F := F) a a = pure a := by
  cases a <;> rfl
theorem check_ne {a b : VT} (h : a ≠ b) : VT.check (F := F) a b = fail .typeMismatch := by
  cases a <;> cases b <;> first | rfl | exact absurd rfl h

theorem pure_bind' {α β : Type} (a : α) (f : α → M F β) : (pure a >>= f) = f a := rfl

def kindAt : Nat → ATier
  | 0 => .arith
  | 1 => .arith
  | 2 => .arith
  | 3 => .cmp
  | _ => .logic

def atier (ev : AEvals F) : Nat → M F VT
  | 0 => aUnary ev
  | k + 1 => aLevel (atier ev k) (opsAt k) (kindAt k)

theorem atier_six (ev : AEvals F) : atier ev 6 = aOrExpr ev := rfl

theorem kindAt_op (op : BinOp) : kindAt (6 - BinOp.prec op) = tierOf op := by
  cases op <;> rfl

theorem aLevelLoop_stop {sub : M F VT} {k n : Nat} {tk : ATier} {v : VT} {σ : St F}
    {pre rest : List (Token F)} (h : At σ pre rest) (hE : Ends (k + 1) rest) :
    aLevelLoop sub (opsAt k) tk (n + 1) v σ = .ok v (mv σ 0 (σ.reads + 1)) := by
  unfold aLevelLoop
  rw [bind_ok (tryNext_none h (fun t ht => (hE t ht).2 k (Nat.lt_succ_self k)))]
  rfl

theorem aLevelLoop_succ (sub : M F VT) (ops : Token F → Option BinOp) (tk : ATier) (n : Nat) (v : VT) :
    aLevelLoop sub ops tk (n + 1) v = tryNext ops >>= fun o =>
      match o with
      | none => pure v
      | some _ => sub >>= fun r =>
        match tierRule tk v r with
        | some t => aLevelLoop sub ops tk n t
        | none => fail .typeMismatch := by
  rw [aLevelLoop]
  refine congrArg _ (funext fun o => ?_)
  cases o with
  | none => rfl
  | some _ =>
    show (sub >>= _) = (sub >>= _)
    refine congrArg _ (funext fun r => ?_)
    cases tk <;> cases v <;> cases r <;> rfl

/-- a result of tier `i` at a looser tier `j ≥ i` when no operator of the tiers in between follows -/
theorem Runs.lift {ev : AEvals F} {c : Ctx} {off i j : Nat} {ts : List (Token F)} {ty : Except Err VT} {acc : List Acc}
    (hij : i ≤ j) (h : Runs c off (Ends i) (atier ev i) ts ty acc pure) :
    Runs c off (Ends j) (atier ev j) ts ty acc pure := by
  induction j with
  | zero => obtain rfl : i = 0 := by omega
            exact h
  | succ j ih =>
    by_cases hi : i = j + 1
    · subst hi; exact h
    · exact (((ih (by omega)).weaken fun _ hE => hE.mono (Nat.le_succ j)).bind.congr
        fun t S hS => bind_ok hS.lineBudget).stop fun t _ _ _ hE hAt => aLevelLoop_stop hAt hE

end Abasic.AnaL

namespace Abasic.Props.C06
open Abasic Abasic.ExprL Abasic.AnaL M

variable {F : Type} [NumOps F]

theorem prevLoc_eq {σ : St F} {ln i : Nat} (hl : σ.loc.line = some ln) (hi : σ.loc.idx = i + 1) :
    prevLoc σ = .ok { line := some ln, idx := i } σ := by
  simp only [prevLoc, bind, M.bindM, M.get, pure, M.pureM, St.prevLoc, hl, hi, Nat.add_sub_cancel]

theorem logAccess_eq (sym : Str) (ln i : Nat) (a : Access) (σ : St F) :
    logAccess sym { line := some ln, idx := i } a σ = .ok () (lg σ [(sym, ln, i, a)]) := rfl

end Abasic.Props.C06
