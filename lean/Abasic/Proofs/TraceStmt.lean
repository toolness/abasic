import Abasic.Proofs.TraceFrame
import Abasic.Proofs.Cursor
/-
  C17 (trace records): the statement evaluator (the frames are in Proofs/TraceFrame.lean).

  How many records an IF adds is Props/C17Count.lean.
  `HoldsFrom u m` : started in a state whose trace block (`here σ`) is `u`, the action `m` adds some number
  of copies of `u` to the trace records and nothing else (`Rep u`).
-/

namespace Abasic.Trace
open Abasic M Abasic.Hoare
open Abasic.Trace.Lift

variable {F : Type}

def HoldsFrom {α : Type} (u : List Nat) (m : M F α) : Prop :=
  ∀ σ, here σ = u → RespectsAt (Rep u) m σ

theorem hf_of_rx {α : Type} {u : List Nat} {m : M F α} (h : Respects RX m) : HoldsFrom u m :=
  fun σ _ => (h.mono (fun _ _ h => nt_sub_rep u (rx_sub_nt h))).at σ

variable [NumOps F]

/-- every case of `dispatch` (`Indep.dispatch_eq`: `next`, then `dispatchK` on the token) but `IF`
    adds no trace record -/
theorem nt_dispatchK (ev : Evals F) (he : Respects RX ev.expr) (t : Option (Token F))
    (ht : t ≠ some (.kw .If)) : Respects NT (Indep.dispatchK ev t) :=
  walk_dispatchK (StmtFrame.walk NT) ev (he.mono fun _ _ => rx_sub_nt) t ht
    (fun _ => nt_setImmediate _) (fun _ => nt_breakAtCurrentLocation)

omit [NumOps F] in
theorem traceHere_eq (σ : St F) :
    traceHere σ = .ok () { σ with out := (here σ).map Out.trace ++ σ.out } := by
  obtain ⟨lines, imm, ⟨line, idx⟩, bp, stack, loops, data, fns, nesting, input, out, state, rng, vars, arrays,
    warnings, tracing, accesses, reads⟩ := σ
  cases tracing <;> cases line <;>
    simp [here, traceHere, bind, M.bindM, M.get, emit, M.modify, pure, M.pureM]

def lineOf (σ : St F) : Option (List (Token F)) :=
  match σ.loc.line with
  | none => some σ.imm
  | some n => σ.lines.get n

def curTok (σ : St F) : Option (Token F) := (lineOf σ).bind (·[σ.loc.idx]?)

omit [NumOps F] in
theorem peek_tok {σ σ1 : St F} {t : Option (Token F)} (h : peek σ = .ok t σ1) : t = curTok σ := by
  rw [Cur.peek_eq] at h
  obtain ⟨ts, ht, hf⟩ := Cur.curOp_ok h
  show t = (Cur.toks σ).bind _
  rw [ht]
  exact (Except.ok.inj hf).symm

omit [NumOps F] in
theorem next_tok {σ σ1 : St F} {t : Option (Token F)} (h : next σ = .ok t σ1) : t = curTok σ := by
  rw [Cur.next_eq] at h
  obtain ⟨ts, ht, hf⟩ := Cur.curOp_ok h
  show t = (Cur.toks σ).bind _
  rw [ht]
  exact (Except.ok.inj hf).symm

end Abasic.Trace
