import Abasic.Ref.Expr2
/-
  Warnings inside expressions, spec side.

  `warnsOf` lists the warning records an evaluation of a tree emits, in
  evaluation order, by recursion on the tree alongside `fold2` (the
  intermediate environments are those of `fold2`).

  `fold3` is `fold2` with the output queue threaded through (a writer on top of
  `fold2`): its environment `WEnv` extends `RefEnv` by the queue `out`, the
  warnings flag, the current line (the line a warning record carries — inside
  the body of a user function it is the line of the DEF) and the state's
  function table (for the lines of the definitions).  `fold3_eq` : `fold3`
  is `fold2` and `warnsOf` side by side.  The induction of
  Proofs/Expr2WarnInd.lean relates the evaluator to `fold3`.
-/
set_option linter.unusedSectionVars false

namespace Abasic.Names
open Abasic Abasic.Ref

variable {F : Type}

def undeclVarMsg (name : Str) : Str := "Use of undeclared variable '".toList ++ name ++ "'.".toList
def undeclArrMsg (name : Str) : Str := "Use of undeclared array '".toList ++ name ++ "'.".toList

structure WEnv (F : Type) extends RefEnv F where
  /-- the output queue, newest first -/
  out : List Out
  warn : Bool
  line : Option Nat
  sfns : List (Str × FnDef)

def WEnv.lift {α : Type} (w : WEnv F) : Except Err (α × RefEnv F) → Except Err (α × WEnv F)
  | .error e => .error e
  | .ok (a, r) => .ok (a, { w with toRefEnv := r })

def defLine (sfns : List (Str × FnDef)) (f : Str) : Option Nat := (alGet f sfns).map (·.line)

variable [NumOps F]

def readVar3 (w : WEnv F) (name : Str) : Value F × WEnv F :=
  (w.toRefEnv.lookup name,
   if (lookupFrames name w.frames).isNone && (w.warn && !alHas name w.vars) then
     { w with out := .warning (undeclVarMsg name) w.line :: w.out }
   else w)

/-- the warning about an undeclared array (before the read creates it) -/
def warnArr (w : WEnv F) (name : Str) : WEnv F :=
  if w.warn && !alHas name w.arrays then { w with out := .warning (undeclArrMsg name) w.line :: w.out } else w

def readCell3 (w : WEnv F) (name : Str) (idx : List Nat) : Except Err (Value F × WEnv F) :=
  (warnArr w name).lift (readCell (warnArr w name).toRefEnv name idx)

def rndStep3 (w : WEnv F) (x : F) : Except Err (Value F × WEnv F) := w.lift (rndStep w.toRefEnv x)

mutual
def fold3 : Nat → WEnv F → Expr2 F → Except Err (Value F × WEnv F)
  | _, env, .num x => .ok (.num x, env)
  | _, env, .str s => .ok (.str s, env)
  | _, env, .var n => .ok (readVar3 env n)
  | n, env, .un op e =>
    match fold3 n env e with
    | .error err => .error err
    | .ok (v, env1) =>
      match op.eval v with
      | .error err => .error err
      | .ok w => .ok (w, env1)
  | n, env, .bin op l r =>
    match fold3 n env l with
    | .error err => .error err
    | .ok (a, env1) =>
      match fold3 n env1 r with
      | .error err => .error err
      | .ok (b, env2) =>
        match op.eval a b with
        | .error err => .error err
        | .ok w => .ok (w, env2)
  | n, env, .paren e => fold3 n env e
  | n, env, .abs e =>
    match fold3 n env e with
    | .error err => .error err
    | .ok (.str _, _) => .error .typeMismatch
    | .ok (.num x, env1) => .ok (.num (NumOps.abs x), env1)
  | n, env, .int e =>
    match fold3 n env e with
    | .error err => .error err
    | .ok (.str _, _) => .error .typeMismatch
    | .ok (.num x, env1) => .ok (.num (NumOps.floor x), env1)
  | n, env, .rnd e =>
    match fold3 n env e with
    | .error err => .error err
    | .ok (.str _, _) => .error .typeMismatch
    | .ok (.num x, env1) => rndStep3 env1 x
  | n, env, .cell name idx =>
    match foldIdx3 n env idx with
    | .error err => .error err
    | .ok (is, env1) => readCell3 env1 name is
  | n, env, .call f args =>
    match alGet f env.fns with
    | none =>
      match foldIdx3 n env args with
      | .error err => .error err
      | .ok (is, env1) => readCell3 env1 f is
    | some d =>
      match bindArgs3 n env d.params args [] with
      | .error err => .error err
      | .ok (b, env1) =>
        if env1.frames.length == Extracted.stackLimit then .error .oomStack
        else
          match n with
          | 0 => .error .outOfFuel
          | n' + 1 =>
            match fold3 n' { env1 with frames := b :: env1.frames, line := defLine env1.sfns f } d.body with
            | .error err => .error err
            | .ok (v, env2) => .ok (v, { env2 with frames := env1.frames, line := env1.line })
termination_by n _ e => (n, sizeOf e)
def foldIdx3 : Nat → WEnv F → List (Expr2 F) → Except Err (List Nat × WEnv F)
  | _, _, [] => .error (.syntax .unexpectedToken)
  | n, env, e :: es =>
    match fold3 n env e with
    | .error err => .error err
    | .ok (v, env1) =>
      match subscript v with
      | .error err => .error err
      | .ok i =>
        match es with
        | [] => .ok ([i], env1)
        | e' :: es' =>
          match foldIdx3 n env1 (e' :: es') with
          | .error err => .error err
          | .ok (is, env2) => .ok (i :: is, env2)
termination_by n _ es => (n, sizeOf es)
def bindArgs3 : Nat → WEnv F → List Str → List (Expr2 F) → List (Str × Value F) →
    Except Err (List (Str × Value F) × WEnv F)
  | _, env, [], [], acc => .ok (acc, env)
  | _, _, [], _ :: _, _ => .error (.syntax (.expectedToken .RightParen))
  | _, _, _ :: _, [], [] => .error (.syntax .unexpectedToken)
  | _, _, _ :: _, [], _ :: _ => .error (.syntax (.expectedToken .Comma))
  | n, env, p :: ps, a :: as, acc =>
    match fold3 n env a with
    | .error err => .error err
    | .ok (v, env1) =>
      if v.matchesName p then bindArgs3 n env1 ps as (alSet p v acc) else .error .typeMismatch
termination_by n _ _ as _ => (n, sizeOf as)
end

def warnVar (w : Bool) (line : Option Nat) (env : RefEnv F) (name : Str) : List Out :=
  if (lookupFrames name env.frames).isNone && (w && !alHas name env.vars) then
    [.warning (undeclVarMsg name) line] else []

def warnCell (w : Bool) (line : Option Nat) (env : RefEnv F) (name : Str) : List Out :=
  if w && !alHas name env.arrays then [.warning (undeclArrMsg name) line] else []

mutual
/-- The warning records emitted while `e` is evaluated in `env` on line `line`,
    oldest first; `w` is the warnings flag, `sfns` the state's function table,
    the first `Nat` the fuel of `fold2`.  Evaluation stops at the first error:
    what follows it emits nothing. -/
def warnsOf (w : Bool) (sfns : List (Str × FnDef)) : Nat → Option Nat → RefEnv F → Expr2 F → List Out
  | _, _, _, .num _ => []
  | _, _, _, .str _ => []
  | _, line, env, .var n => warnVar w line env n
  | n, line, env, .un _ e => warnsOf w sfns n line env e
  | n, line, env, .bin _ l r =>
    warnsOf w sfns n line env l ++
      (match fold2 n env l with
       | .error _ => []
       | .ok (_, env1) => warnsOf w sfns n line env1 r)
  | n, line, env, .paren e => warnsOf w sfns n line env e
  | n, line, env, .abs e => warnsOf w sfns n line env e
  | n, line, env, .int e => warnsOf w sfns n line env e
  | n, line, env, .rnd e => warnsOf w sfns n line env e
  | n, line, env, .cell name idx =>
    warnsIdx w sfns n line env idx ++
      (match foldIdx n env idx with
       | .error _ => []
       | .ok (_, env1) => warnCell w line env1 name)
  | n, line, env, .call f args =>
    match alGet f env.fns with
    | none =>
      warnsIdx w sfns n line env args ++
        (match foldIdx n env args with
         | .error _ => []
         | .ok (_, env1) => warnCell w line env1 f)
    | some d =>
      warnsArgs w sfns n line env d.params args ++
        (match bindArgs2 n env d.params args [] with
         | .error _ => []
         | .ok (b, env1) =>
           if env1.frames.length == Extracted.stackLimit then []
           else
             match n with
             | 0 => []
             | n' + 1 => warnsOf w sfns n' (defLine sfns f) { env1 with frames := b :: env1.frames } d.body)
termination_by n _ _ e => (n, sizeOf e)
def warnsIdx (w : Bool) (sfns : List (Str × FnDef)) : Nat → Option Nat → RefEnv F → List (Expr2 F) → List Out
  | _, _, _, [] => []
  | n, line, env, e :: es =>
    warnsOf w sfns n line env e ++
      (match fold2 n env e with
       | .error _ => []
       | .ok (v, env1) =>
         match subscript v with
         | .error _ => []
         | .ok _ =>
           match es with
           | [] => []
           | e' :: es' => warnsIdx w sfns n line env1 (e' :: es'))
termination_by n _ _ es => (n, sizeOf es)
def warnsArgs (w : Bool) (sfns : List (Str × FnDef)) : Nat → Option Nat → RefEnv F → List Str → List (Expr2 F) →
    List Out
  | n, line, env, p :: ps, a :: as =>
    warnsOf w sfns n line env a ++
      (match fold2 n env a with
       | .error _ => []
       | .ok (v, env1) =>
         if v.matchesName p then warnsArgs w sfns n line env1 ps as else [])
  | _, _, _, _, _ => []
termination_by n _ _ _ as => (n, sizeOf as)
end

/-- `w` after an evaluation that left the reference environment `r` and emitted `ws` (oldest first) -/
def WEnv.put (w : WEnv F) (r : RefEnv F) (ws : List Out) : WEnv F :=
  { w with toRefEnv := r, out := ws.reverse ++ w.out }

@[simp] theorem put_toRefEnv (w : WEnv F) (r : RefEnv F) (ws : List Out) : (w.put r ws).toRefEnv = r := rfl
@[simp] theorem put_warn (w : WEnv F) (r : RefEnv F) (ws : List Out) : (w.put r ws).warn = w.warn := rfl
@[simp] theorem put_line (w : WEnv F) (r : RefEnv F) (ws : List Out) : (w.put r ws).line = w.line := rfl
@[simp] theorem put_sfns (w : WEnv F) (r : RefEnv F) (ws : List Out) : (w.put r ws).sfns = w.sfns := rfl
@[simp] theorem put_out (w : WEnv F) (r : RefEnv F) (ws : List Out) : (w.put r ws).out = ws.reverse ++ w.out := rfl
@[simp] theorem put_put (w : WEnv F) (r r' : RefEnv F) (ws ws' : List Out) :
    (w.put r ws).put r' ws' = w.put r' (ws ++ ws') := by
  simp only [WEnv.put, List.reverse_append, List.append_assoc]
theorem put_nil (w : WEnv F) : w.put w.toRefEnv [] = w := rfl

/-- a result of `fold2` and the records emitted on the way, as a result of `fold3` -/
def pair {α : Type} (w : WEnv F) (res : Except Err (α × RefEnv F)) (ws : List Out) : Except Err (α × WEnv F) :=
  match res with
  | .error e => .error e
  | .ok (a, r) => .ok (a, w.put r ws)

theorem readVar3_eq (w : WEnv F) (name : Str) :
    readVar3 w name = (w.toRefEnv.lookup name, w.put w.toRefEnv (warnVar w.warn w.line w.toRefEnv name)) := by
  unfold readVar3 warnVar
  split <;> rfl

theorem warnArr_eq (w : WEnv F) (name : Str) :
    warnArr w name = w.put w.toRefEnv (warnCell w.warn w.line w.toRefEnv name) := by
  unfold warnArr warnCell
  split <;> rfl

theorem readCell3_eq (w : WEnv F) (name : Str) (idx : List Nat) :
    readCell3 w name idx = pair w (readCell w.toRefEnv name idx) (warnCell w.warn w.line w.toRefEnv name) := by
  unfold readCell3
  rw [warnArr_eq]
  simp only [put_toRefEnv]
  cases readCell w.toRefEnv name idx with
  | error e => rfl
  | ok p => obtain ⟨v, r⟩ := p; rfl

/-- reading a cell after the subscripts -/
theorem readCell3_pair (w : WEnv F) (res : Except Err (List Nat × RefEnv F)) (name : Str) (ws : List Out) :
    (match pair w res ws with
     | .error err => .error err
     | .ok (is, env1) => readCell3 env1 name is) =
    pair w (match res with
      | .error err => .error err
      | .ok (is, env1) => readCell env1 name is)
      (ws ++ match res with
        | .error _ => []
        | .ok (_, env1) => warnCell w.warn w.line env1 name) := by
  cases res with
  | error x => rfl
  | ok p =>
    obtain ⟨is, r⟩ := p
    simp only [pair]
    rw [readCell3_eq]
    simp only [put_toRefEnv, put_warn, put_line]
    cases readCell r name is with
    | error x => rfl
    | ok q => obtain ⟨v', r'⟩ := q; simp only [pair, put_put]

theorem rndStep3_eq (w : WEnv F) (x : F) : rndStep3 w x = pair w (rndStep w.toRefEnv x) [] := by
  unfold rndStep3
  cases rndStep w.toRefEnv x with
  | error e => rfl
  | ok p => obtain ⟨v, r⟩ := p; rfl

/- Induction on the tree for fixed fuel `n`; a call evaluates the body with fuel `n - 1`: `ih`. -/
mutual
theorem fold3_eq_tree : ∀ (e : Expr2 F) (n : Nat)
    (_ : ∀ n' < n, ∀ (e : Expr2 F) (w : WEnv F),
      fold3 n' w e = pair w (fold2 n' w.toRefEnv e) (warnsOf w.warn w.sfns n' w.line w.toRefEnv e)) (w : WEnv F),
    fold3 n w e = pair w (fold2 n w.toRefEnv e) (warnsOf w.warn w.sfns n w.line w.toRefEnv e)
  | .num x, n, ih, w | .str x, n, ih, w => by rw [fold3, fold2, warnsOf]; rfl
  | .var s, n, ih, w => by rw [fold3, fold2, warnsOf, readVar3_eq]; rfl
  | .paren e, n, ih, w => by rw [fold3, fold2, warnsOf]; exact fold3_eq_tree e n ih w
  | .un op e, n, ih, w => by
    rw [fold3, fold2, warnsOf, fold3_eq_tree e n ih w]
    cases fold2 n w.toRefEnv e with
    | error x => rfl
    | ok p =>
      obtain ⟨v, r⟩ := p
      simp only [pair]
      cases op.eval v <;> rfl
  | .bin op l r, n, ih, w => by
    rw [fold3, fold2, warnsOf, fold3_eq_tree l n ih w]
    cases fold2 n w.toRefEnv l with
    | error x => rfl
    | ok p =>
      obtain ⟨a, r1⟩ := p
      simp only [pair]
      rw [fold3_eq_tree r n ih]
      simp only [put_toRefEnv, put_warn, put_sfns, put_line]
      cases fold2 n r1 r with
      | error x => rfl
      | ok q =>
        obtain ⟨b, r2⟩ := q
        simp only [pair, put_put]
        cases op.eval a b <;> rfl
  | .abs e, n, ih, w | .int e, n, ih, w => by
    rw [fold3, fold2, warnsOf, fold3_eq_tree e n ih w]
    cases fold2 n w.toRefEnv e with
    | error x => rfl
    | ok p => obtain ⟨v, r⟩ := p; cases v <;> rfl
  | .rnd e, n, ih, w => by
    rw [fold3, fold2, warnsOf, fold3_eq_tree e n ih w]
    cases fold2 n w.toRefEnv e with
    | error x => rfl
    | ok p =>
      obtain ⟨v, r⟩ := p
      cases v with
      | str s => rfl
      | num x =>
        simp only [pair]
        rw [rndStep3_eq]
        simp only [put_toRefEnv]
        cases rndStep r x with
        | error x => rfl
        | ok q => obtain ⟨v', r'⟩ := q; simp only [pair, put_put, List.append_nil]
  | .cell name idx, n, ih, w => by
    rw [fold3, fold2, warnsOf, foldIdx3_eq_tree idx n ih w]
    exact readCell3_pair w _ name _
  | .call f args, n, ih, w => by
    rw [fold3, fold2, warnsOf]
    cases hd : alGet f w.toRefEnv.fns with
    | none =>
      simp only
      rw [foldIdx3_eq_tree args n ih w]
      exact readCell3_pair w _ f _
    | some d =>
      -- The one case that uses `ih`, and the one where the environment changes other than by `put`: the body
      -- runs with a frame pushed and on the line of the DEF; both are restored after it, which makes the
      -- result a `put` on `w` again (up to the association of the queue: the last `simp only`).
      simp only
      rw [bindArgs3_eq_tree args n ih w]
      cases bindArgs2 n w.toRefEnv d.params args [] with
      | error x => rfl
      | ok p =>
        obtain ⟨b, r1⟩ := p
        simp only [pair, put_toRefEnv]
        by_cases hl : (r1.frames.length == Extracted.stackLimit) = true
        · simp only [hl, ↓reduceIte]
        · simp only [hl, ↓reduceIte, Bool.false_eq_true]
          cases n with
          | zero => rfl
          | succ n' =>
            simp only
            rw [ih n' (Nat.lt_succ_self n') d.body]
            simp only [put_sfns, put_warn]
            show (match pair _ (fold2 n' { r1 with frames := b :: r1.frames } d.body) _ with
              | .error err => Except.error err
              | .ok (v, env2) => Except.ok (v, { env2 with frames := r1.frames, line := w.line })) = _
            cases fold2 n' { r1 with frames := b :: r1.frames } d.body with
            | error x => rfl
            | ok q =>
              obtain ⟨v', r'⟩ := q
              simp only [pair]
              congr 2
              simp only [WEnv.put, List.reverse_append, List.append_assoc]
theorem foldIdx3_eq_tree : ∀ (es : List (Expr2 F)) (n : Nat)
    (_ : ∀ n' < n, ∀ (e : Expr2 F) (w : WEnv F),
      fold3 n' w e = pair w (fold2 n' w.toRefEnv e) (warnsOf w.warn w.sfns n' w.line w.toRefEnv e)) (w : WEnv F),
    foldIdx3 n w es = pair w (foldIdx n w.toRefEnv es) (warnsIdx w.warn w.sfns n w.line w.toRefEnv es)
  | [], n, ih, w => by rw [foldIdx3, foldIdx]; rfl
  | e :: es, n, ih, w => by
    rw [foldIdx3, foldIdx, warnsIdx, fold3_eq_tree e n ih w]
    cases fold2 n w.toRefEnv e with
    | error x => rfl
    | ok p =>
      obtain ⟨v, r1⟩ := p
      simp only [pair]
      cases subscript v with
      | error x => rfl
      | ok i =>
        simp only
        cases es with
        | nil => simp only [List.append_nil]
        | cons e' es' =>
          simp only
          rw [foldIdx3_eq_tree (e' :: es') n ih]
          simp only [put_toRefEnv, put_warn, put_sfns, put_line]
          cases foldIdx n r1 (e' :: es') with
          | error x => rfl
          | ok q => obtain ⟨is, r2⟩ := q; simp only [pair, put_put]
theorem bindArgs3_eq_tree : ∀ (as : List (Expr2 F)) (n : Nat)
    (_ : ∀ n' < n, ∀ (e : Expr2 F) (w : WEnv F),
      fold3 n' w e = pair w (fold2 n' w.toRefEnv e) (warnsOf w.warn w.sfns n' w.line w.toRefEnv e)) (w : WEnv F)
    (ps : List Str) (acc : List (Str × Value F)),
    bindArgs3 n w ps as acc =
      pair w (bindArgs2 n w.toRefEnv ps as acc) (warnsArgs w.warn w.sfns n w.line w.toRefEnv ps as)
  | [], n, ih, w, [], acc => by
    have h : warnsArgs w.warn w.sfns n w.line w.toRefEnv [] ([] : List (Expr2 F)) = [] := by simp [warnsArgs]
    rw [bindArgs3, bindArgs2, h]; rfl
  | [], n, ih, w, p :: ps, [] | [], n, ih, w, p :: ps, _ :: _ | a :: as, n, ih, w, [], acc => by
    rw [bindArgs3, bindArgs2]; rfl
  | a :: as, n, ih, w, p :: ps, acc => by
    rw [bindArgs3, bindArgs2, warnsArgs, fold3_eq_tree a n ih w]
    cases fold2 n w.toRefEnv a with
    | error x => rfl
    | ok q =>
      obtain ⟨v, r1⟩ := q
      simp only [pair]
      cases hm : v.matchesName p with
      | false => simp only [Bool.false_eq_true, ↓reduceIte]
      | true =>
        simp only [↓reduceIte]
        rw [bindArgs3_eq_tree as n ih]
        simp only [put_toRefEnv, put_warn, put_sfns, put_line]
        cases bindArgs2 n r1 ps as (alSet p v acc) with
        | error x => rfl
        | ok q => obtain ⟨b, r2⟩ := q; simp only [pair, put_put]
end

theorem fold3_eq : ∀ (n : Nat) (e : Expr2 F) (w : WEnv F),
    fold3 n w e = pair w (fold2 n w.toRefEnv e) (warnsOf w.warn w.sfns n w.line w.toRefEnv e) := fun n => by
  induction n using Nat.strongRecOn with
  | _ n ih => exact fun e => fold3_eq_tree e n ih

theorem foldIdx3_eq (n : Nat) (es : List (Expr2 F)) (w : WEnv F) :
    foldIdx3 n w es = pair w (foldIdx n w.toRefEnv es) (warnsIdx w.warn w.sfns n w.line w.toRefEnv es) :=
  foldIdx3_eq_tree es n (fun n' _ => fold3_eq n') w

theorem bindArgs3_eq (n : Nat) (as : List (Expr2 F)) (w : WEnv F) (ps : List Str) (acc : List (Str × Value F)) :
    bindArgs3 n w ps as acc =
      pair w (bindArgs2 n w.toRefEnv ps as acc) (warnsArgs w.warn w.sfns n w.line w.toRefEnv ps as) :=
  bindArgs3_eq_tree as n (fun n' _ => fold3_eq n') w ps acc

theorem rndStep3_neg (w : WEnv F) (y : F) (hneg : NumOps.lt y (NumOps.zero : F) = true) :
    rndStep3 w y = .error .unimplemented := by
  unfold rndStep3 rndStep
  simp only [hneg, ↓reduceIte, WEnv.lift]

theorem rndStep3_zero (w : WEnv F) (y : F) (hneg : NumOps.lt y (NumOps.zero : F) = false)
    (hz : NumOps.eq y (NumOps.zero : F) = true) :
    rndStep3 w y = .ok (.num (rngValue w.rng), w) := by
  unfold rndStep3 rndStep
  simp only [hneg, hz, Bool.false_eq_true, ↓reduceIte, WEnv.lift]

theorem rndStep3_pos (w : WEnv F) (y : F) (hneg : NumOps.lt y (NumOps.zero : F) = false)
    (hz : NumOps.eq y (NumOps.zero : F) = false) :
    rndStep3 w y = .ok (.num (rngValue (rngStep w.rng)), { w with rng := rngStep w.rng }) := by
  unfold rndStep3 rndStep
  simp only [hneg, hz, Bool.false_eq_true, ↓reduceIte, WEnv.lift]

/-! ### with the flag off nothing is emitted -/

mutual
theorem warnsOf_off_tree (sfns : List (Str × FnDef)) : ∀ (e : Expr2 F) (n : Nat)
    (_ : ∀ n' < n, ∀ line env (e : Expr2 F), warnsOf false sfns n' line env e = []) (line : Option Nat)
    (env : RefEnv F), warnsOf false sfns n line env e = []
  | .num x, n, ih, line, env | .str x, n, ih, line, env => by rw [warnsOf]
  | .var v, n, ih, line, env => by rw [warnsOf]; simp [warnVar]
  | .un _ e, n, ih, line, env | .paren e, n, ih, line, env | .abs e, n, ih, line, env
  | .int e, n, ih, line, env | .rnd e, n, ih, line, env => by
    rw [warnsOf]; exact warnsOf_off_tree sfns e n ih line env
  | .bin op l r, n, ih, line, env => by
    rw [warnsOf, warnsOf_off_tree sfns l n ih line env]
    cases fold2 n env l with
    | error x => rfl
    | ok p => exact warnsOf_off_tree sfns r n ih line p.2
  | .cell name idx, n, ih, line, env => by
    rw [warnsOf, warnsIdx_off_tree sfns idx n ih line env]
    cases foldIdx n env idx with
    | error x => rfl
    | ok p => simp [warnCell]
  | .call f args, n, ih, line, env => by
    rw [warnsOf]
    cases hd : alGet f env.fns with
    | none =>
      simp only
      rw [warnsIdx_off_tree sfns args n ih line env]
      cases foldIdx n env args with
      | error x => rfl
      | ok p => simp [warnCell]
    | some d =>
      simp only
      rw [warnsArgs_off_tree sfns args n ih line env d.params]
      cases bindArgs2 n env d.params args [] with
      | error x => rfl
      | ok p =>
        simp only [List.nil_append]
        split
        · rfl
        · cases n with
          | zero => rfl
          | succ n' => exact ih n' (Nat.lt_succ_self n') _ _ d.body
theorem warnsIdx_off_tree (sfns : List (Str × FnDef)) : ∀ (es : List (Expr2 F)) (n : Nat)
    (_ : ∀ n' < n, ∀ line env (e : Expr2 F), warnsOf false sfns n' line env e = []) (line : Option Nat)
    (env : RefEnv F), warnsIdx false sfns n line env es = []
  | [], n, ih, line, env => by rw [warnsIdx]
  | e :: es, n, ih, line, env => by
    rw [warnsIdx, warnsOf_off_tree sfns e n ih line env]
    cases fold2 n env e with
    | error x => rfl
    | ok p =>
      simp only [List.nil_append]
      cases subscript p.1 with
      | error x => rfl
      | ok i =>
        cases es with
        | nil => rfl
        | cons e' es' => exact warnsIdx_off_tree sfns (e' :: es') n ih line p.2
theorem warnsArgs_off_tree (sfns : List (Str × FnDef)) : ∀ (as : List (Expr2 F)) (n : Nat)
    (_ : ∀ n' < n, ∀ line env (e : Expr2 F), warnsOf false sfns n' line env e = []) (line : Option Nat)
    (env : RefEnv F) (ps : List Str), warnsArgs false sfns n line env ps as = []
  | as, n, ih, line, env, [] | [], n, ih, line, env, p :: ps => by simp [warnsArgs]
  | a :: as, n, ih, line, env, p :: ps => by
    rw [warnsArgs, warnsOf_off_tree sfns a n ih line env]
    cases fold2 n env a with
    | error x => rfl
    | ok q =>
      simp only [List.nil_append]
      split
      · exact warnsArgs_off_tree sfns as n ih line q.2 ps
      · rfl
end

theorem warnsOf_off (sfns : List (Str × FnDef)) (n : Nat) :
    ∀ (line : Option Nat) (env : RefEnv F) (e : Expr2 F), warnsOf false sfns n line env e = [] := by
  induction n using Nat.strongRecOn with
  | _ n ih => exact fun line env e => warnsOf_off_tree sfns e n ih line env

theorem warnsIdx_off (sfns : List (Str × FnDef)) : ∀ (n : Nat) (line : Option Nat) (env : RefEnv F)
    (es : List (Expr2 F)), warnsIdx false sfns n line env es = [] :=
  fun n line env es => warnsIdx_off_tree sfns es n (fun n' _ => warnsOf_off sfns n') line env

theorem warnsArgs_off (sfns : List (Str × FnDef)) : ∀ (n : Nat) (line : Option Nat) (env : RefEnv F)
    (ps : List Str) (as : List (Expr2 F)), warnsArgs false sfns n line env ps as = [] :=
  fun n line env ps as => warnsArgs_off_tree sfns as n (fun n' _ => warnsOf_off sfns n') line env ps

theorem fold3_off (n : Nat) (e : Expr2 F) (w : WEnv F) (hw : w.warn = false) :
    fold3 n w e = pair w (fold2 n w.toRefEnv e) [] := by
  rw [fold3_eq, hw, warnsOf_off]

theorem foldIdx3_off (n : Nat) (es : List (Expr2 F)) (w : WEnv F) (hw : w.warn = false) :
    foldIdx3 n w es = pair w (foldIdx n w.toRefEnv es) [] := by
  rw [foldIdx3_eq, hw, warnsIdx_off]

end Abasic.Names
