import Abasic.Stmt
/-
  Where the evaluator uses its two recursive entry points.

  Every function of Expr.lean and Stmt.lean takes the pair `ev : Evals F`
  (`ev.expr` = `evaluate_expression`, `ev.stmt` = `evaluate_statement`, the two
  places where the Rust code recurses on the native stack).  Every function of Expr.lean, and every statement
  function other than `statementOrGoto`, `ifSkipLoop`, `ifStatement`, `dispatch`, `stmtBody`, depends on `ev`
  only through `ev.expr`: it never calls the statement evaluator (`*_congr`, by unfolding each definition once,
  the loops by induction on their counter).  `dispatch` is `next` followed by a case split on the token
  (`dispatchK`), of which every case but IF is independent of `ev.stmt`; `statementOrGoto ev` uses `ev.stmt`
  only as `nested ev.stmt`.  How the remaining five functions reach `statementOrGoto` is Proofs/StmtHead.lean.
-/
set_option linter.unusedSectionVars false

namespace Abasic.Indep
open Abasic M

variable {F : Type} [NumOps F] {ev ev' : Evals F}

theorem arrayIndexLoop_congr (h : ev.expr = ev'.expr) : arrayIndexLoop ev = arrayIndexLoop ev' := by
  funext n
  induction n with
  | zero => funext acc; simp only [arrayIndexLoop]
  | succ n ih => funext acc; simp only [arrayIndexLoop, h, ih]

theorem arrayIndex_congr (h : ev.expr = ev'.expr) : arrayIndex ev = arrayIndex ev' := by
  unfold arrayIndex
  rw [arrayIndexLoop_congr h]

theorem numberFunctionArg_congr (h : ev.expr = ev'.expr) : numberFunctionArg ev = numberFunctionArg ev' := by
  unfold numberFunctionArg
  rw [h]

theorem bindArgs_congr (h : ev.expr = ev'.expr) : bindArgs ev = bindArgs ev' := by
  funext arity args
  induction args with
  | nil => funext i acc; simp only [bindArgs]
  | cons a rest ih => funext i acc; simp only [bindArgs, h, ih]

theorem userFunctionCall_congr (h : ev.expr = ev'.expr) : userFunctionCall ev = userFunctionCall ev' := by
  funext name
  unfold userFunctionCall
  rw [bindArgs_congr h, h]

theorem functionCall_congr (h : ev.expr = ev'.expr) : functionCall ev = functionCall ev' := by
  funext name
  unfold functionCall
  rw [numberFunctionArg_congr h, userFunctionCall_congr h]

theorem term_congr (h : ev.expr = ev'.expr) : term ev = term ev' := by
  unfold term
  rw [functionCall_congr h, arrayIndex_congr h]

theorem parenExpr_congr (h : ev.expr = ev'.expr) : parenExpr ev = parenExpr ev' := by
  unfold parenExpr
  rw [term_congr h, h]

theorem unaryExpr_congr (h : ev.expr = ev'.expr) : unaryExpr ev = unaryExpr ev' := by
  unfold unaryExpr
  rw [parenExpr_congr h]

theorem orExpr_congr (h : ev.expr = ev'.expr) : orExpr ev = orExpr ev' := by
  unfold orExpr
  rw [unaryExpr_congr h]

theorem exprBody_congr (h : ev.expr = ev'.expr) : exprBody ev = exprBody ev' := by
  unfold exprBody
  rw [orExpr_congr h]

theorem optionalArrayIndex_congr (h : ev.expr = ev'.expr) : optionalArrayIndex ev = optionalArrayIndex ev' := by
  unfold optionalArrayIndex
  rw [arrayIndex_congr h]

theorem assignmentStatement_congr (h : ev.expr = ev'.expr) : assignmentStatement ev = assignmentStatement ev' := by
  funext name
  unfold assignmentStatement
  rw [optionalArrayIndex_congr h, h]

theorem letStatement_congr (h : ev.expr = ev'.expr) : letStatement ev = letStatement ev' := by
  unfold letStatement
  rw [assignmentStatement_congr h]

theorem parseLValue_congr (h : ev.expr = ev'.expr) : parseLValue ev = parseLValue ev' := by
  unfold parseLValue
  rw [optionalArrayIndex_congr h]

theorem readLoop_congr (h : ev.expr = ev'.expr) : readLoop ev = readLoop ev' := by
  funext n
  induction n with
  | zero => simp only [readLoop]
  | succ n ih => simp only [readLoop, parseLValue_congr h, ih]

theorem readStatement_congr (h : ev.expr = ev'.expr) : readStatement ev = readStatement ev' := by
  unfold readStatement
  rw [readLoop_congr h]

theorem inputStatement_congr (h : ev.expr = ev'.expr) : inputStatement ev = inputStatement ev' := by
  unfold inputStatement
  rw [parseLValue_congr h]

theorem dimStatement_congr (h : ev.expr = ev'.expr) : dimStatement ev = dimStatement ev' := by
  unfold dimStatement
  rw [parseLValue_congr h]

theorem printLoop_congr (h : ev.expr = ev'.expr) : printLoop ev = printLoop ev' := by
  funext n
  induction n with
  | zero => funext semi acc; simp only [printLoop]
  | succ n ih => funext semi acc; simp only [printLoop, h, ih]

theorem printStatement_congr (h : ev.expr = ev'.expr) : printStatement ev = printStatement ev' := by
  unfold printStatement
  rw [printLoop_congr h]

theorem forStatement_congr (h : ev.expr = ev'.expr) : forStatement ev = forStatement ev' := by
  unfold forStatement
  rw [h]

/-- the case split of `dispatch` on the token `next` returned -/
def dispatchK (ev : Evals F) : Option (Token F) → M F Unit
  | none => pure ()
  | some (.remark _) => pure ()
  | some (.data _) => pure ()
  | some (.symbol name) => assignmentStatement ev name
  | some (.kw k) =>
    match k with
    | .Stop => breakAtCurrentLocation
    | .Dim => dimStatement ev
    | .Print => printStatement ev
    | .QuestionMark => printStatement ev
    | .Input => inputStatement ev
    | .If => ifStatement ev
    | .Goto => gotoStatement
    | .Gosub => gosubStatement
    | .Return => returnFromGosub
    | .End => setImmediate []
    | .For => forStatement ev
    | .Next => nextStatement
    | .Restore => modify fun s => { s with data := none }
    | .Def => defStatement
    | .Read => readStatement ev
    | .Colon => pure ()
    | .Let => letStatement ev
    | _ => fail (.syntax .unexpectedToken)
  | some _ => fail (.syntax .unexpectedToken)

theorem dispatch_eq (ev : Evals F) : dispatch ev = (next >>= dispatchK ev) := by
  unfold dispatch
  congr 1

theorem dispatchK_if (ev : Evals F) : dispatchK ev (some (.kw .If)) = ifStatement ev := rfl

theorem dispatchK_congr (h : ev.expr = ev'.expr) (t : Option (Token F)) (ht : t ≠ some (.kw .If)) :
    dispatchK ev t = dispatchK ev' t := by
  unfold dispatchK
  rw [assignmentStatement_congr h, dimStatement_congr h, printStatement_congr h, inputStatement_congr h,
    forStatement_congr h, readStatement_congr h, letStatement_congr h]
  split
  · rfl
  · rfl
  · rfl
  · rfl
  · split <;> first | rfl | exact absurd rfl ht
  · rfl

theorem statementOrGoto_congr (hs : nested ev.stmt = nested ev'.stmt) :
    statementOrGoto ev = statementOrGoto ev' := by
  unfold statementOrGoto
  rw [hs]

end Abasic.Indep
