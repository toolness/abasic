import Abasic.Program
/-
  `DataIterator::next` in terms of the items not yet yielded (`remItems`): it yields the first of them and keeps
  the rest (`next_spec`).  Nothing here looks at a program or at the interpreter beyond its DATA cursor.
-/
namespace Abasic.Prog2L
open Abasic

variable {F : Type}

def flatItems (chunks : List (Loc × List (DataElement F))) : List (Option Nat × DataElement F) :=
  chunks.flatMap fun c => c.2.map fun d => (c.1.line, d)

def remItems (it : DataIter F) : List (Option Nat × DataElement F) :=
  match it.chunks.drop it.ci with
  | [] => []
  | ch :: more => (ch.2.drop it.ii).map (fun d => (ch.1.line, d)) ++ flatItems more

theorem remItems_of_drop {it : DataIter F} {ch : Loc × List (DataElement F)}
    {more : List (Loc × List (DataElement F))} (h : it.chunks.drop it.ci = ch :: more) :
    remItems it = (ch.2.drop it.ii).map (fun d => (ch.1.line, d)) ++ flatItems more := by
  unfold remItems; rw [h]

theorem remItems_of_nil {it : DataIter F} (h : it.chunks.drop it.ci = []) : remItems it = [] := by
  unfold remItems; rw [h]

theorem remItems_fresh (chunks : List (Loc × List (DataElement F))) (k : Nat) :
    remItems ({ chunks := chunks, ci := k, ii := 0 } : DataIter F) = flatItems (chunks.drop k) := by
  unfold remItems
  show (match chunks.drop k with | [] => [] | ch :: more => _) = _
  cases chunks.drop k with
  | nil => rfl
  | cons ch more => simp only [List.drop_zero, flatItems, List.flatMap_cons]

/-- last conjunct: afterwards the current chunk is the one the item came from -/
theorem next_spec : ∀ (fuel : Nat) (it : DataIter F), it.chunks.length - it.ci < fuel →
    (it.next fuel).2.chunks = it.chunks ∧
    (remItems it = [] → (it.next fuel).1 = none ∧ remItems (it.next fuel).2 = []) ∧
    (∀ ln d tl, remItems it = (ln, d) :: tl →
      (it.next fuel).1 = some d ∧ remItems (it.next fuel).2 = tl ∧
      ((it.next fuel).2.chunks[(it.next fuel).2.ci]?).map (·.1.line) = some ln)
  | 0, it, h => absurd h (Nat.not_lt_zero _)
  | fuel + 1, it, h => by
    cases hc : it.chunks[it.ci]? with
    | none =>
      have hres : it.next (fuel + 1) = (none, it) := by simp only [DataIter.next, hc]
      have hle : it.chunks.length ≤ it.ci := List.getElem?_eq_none_iff.mp hc
      have hrem : remItems it = [] := remItems_of_nil (List.drop_eq_nil_of_le hle)
      rw [hres]
      exact ⟨rfl, fun _ => ⟨rfl, hrem⟩, fun ln d tl h' => by rw [hrem] at h'; cases h'⟩
    | some ch =>
      obtain ⟨loc, items⟩ := ch
      obtain ⟨hlt, hget⟩ := List.getElem?_eq_some_iff.mp hc
      have hdrop : it.chunks.drop it.ci = (loc, items) :: it.chunks.drop (it.ci + 1) := by
        rw [List.drop_eq_getElem_cons hlt, hget]
      have hrem := remItems_of_drop hdrop
      simp only at hrem
      cases hi : items[it.ii]? with
      | some e =>
        have hres : it.next (fuel + 1) = (some e, { it with ii := it.ii + 1 }) := by
          simp only [DataIter.next, hc, hi]
        obtain ⟨hilt, higet⟩ := List.getElem?_eq_some_iff.mp hi
        have hd : items.drop it.ii = e :: items.drop (it.ii + 1) := by
          rw [List.drop_eq_getElem_cons hilt, higet]
        rw [hd] at hrem
        have hrem' : remItems ({ it with ii := it.ii + 1 } : DataIter F) =
            (items.drop (it.ii + 1)).map (fun d => (loc.line, d)) ++ flatItems (it.chunks.drop (it.ci + 1)) :=
          remItems_of_drop (it := { it with ii := it.ii + 1 }) hdrop
        rw [hres]
        refine ⟨rfl, fun h' => (by rw [hrem] at h'; cases h'), fun ln d tl h' => ?_⟩
        rw [hrem] at h'
        simp only [List.map_cons, List.cons_append, List.cons.injEq, Prod.mk.injEq] at h'
        obtain ⟨⟨h1, h2⟩, h3⟩ := h'
        refine ⟨by rw [h2], by rw [hrem', h3], ?_⟩
        show (it.chunks[it.ci]?).map _ = _
        rw [hc, ← h1]
        rfl
      | none =>
        have hres : it.next (fuel + 1) = DataIter.next { it with ii := 0, ci := it.ci + 1 } fuel := by
          simp only [DataIter.next, hc, hi]
        have hile : items.length ≤ it.ii := List.getElem?_eq_none_iff.mp hi
        rw [List.drop_eq_nil_of_le hile] at hrem
        simp only [List.map_nil, List.nil_append] at hrem
        have hrem' : remItems ({ it with ii := 0, ci := it.ci + 1 } : DataIter F) = remItems it := by
          rw [hrem]
          exact remItems_fresh it.chunks (it.ci + 1)
        have ih := next_spec fuel { it with ii := 0, ci := it.ci + 1 } (by show it.chunks.length - (it.ci + 1) < fuel; omega)
        rw [hres]
        rw [hrem'] at ih
        exact ih

end Abasic.Prog2L
