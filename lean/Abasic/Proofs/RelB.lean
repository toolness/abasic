import Abasic.Proofs.Prims
import Abasic.Proofs.Step
/-
  Relation B: the GOSUB / function-call stack stays within its cap.
-/
namespace Abasic.Hoare
open Abasic M

variable {F : Type}

def RB (σ σ' : St F) : Prop :=
  σ.stack.length ≤ Extracted.stackLimit → σ'.stack.length ≤ Extracted.stackLimit

instance : IsFrame (RB (F := F)) where
  refl _ := id
  trans h1 h2 := fun h => h2 (h1 h)

theorem rns_sub_RB {σ σ' : St F} (h : RNS σ σ') : RB σ σ' := by
  intro hl; rw [h.2.1]; exact hl

theorem rb_of_stack_eq {σ σ' : St F} (h : σ'.stack = σ.stack) : RB σ σ' := by
  intro hl; rw [h]; exact hl

theorem rb_of_stack_nil {σ σ' : St F} (h : σ'.stack = []) : RB σ σ' := by
  intro _; rw [h]; exact Nat.zero_le _

theorem rb_of_le {σ σ' : St F} (h : σ'.stack.length ≤ σ.stack.length) : RB σ σ' := by
  intro hl; exact Nat.le_trans h hl

namespace RelB

theorem setImmediate_stack_le (σ : St F) (ts : List (Token F)) :
    (σ.setImmediate ts).stack.length ≤ σ.stack.length := by
  unfold St.setImmediate
  dsimp only
  split
  · exact Nat.zero_le _
  · exact Nat.le_refl _

theorem rb_gosubLine (n : Nat) : Respects RB (gosubLine (F := F) n) :=
  respects_of_final fun σ hl => by
    rw [gosubLine_eq]
    by_cases hcap : (σ.stack.length == Extracted.stackLimit) = true
    · rw [if_pos hcap]; exact hl
    · rw [if_neg hcap]
      split
      · exact Nat.succ_le_of_lt (Nat.lt_of_le_of_ne hl (by simpa using hcap))
      · exact hl

theorem rb_returnFromGosub : Respects RB (returnFromGosub (F := F)) :=
  respects_of_final fun σ => by
    rw [returnFromGosub_eq]
    split
    · exact rb_of_stack_eq rfl
    · rename_i hs; exact rb_of_le (by rw [hs]; exact Nat.le_succ _)

end RelB

open RelB in
/-- the push is refused at the cap; everything else leaves the stack alone, shortens it or empties it -/
instance : HostPrims (RB (F := F)) where
  sub := rns_sub_RB
  nested := nested_of_blind fun _ _ => rb_of_stack_eq rfl
  setImmediate ts := respects_modify fun σ => rb_of_le (setImmediate_stack_le σ ts)
  gosubLine := rb_gosubLine
  returnFromGosub := rb_returnFromGosub
  pushFunctionCall name b := respects_push b (fun _ _ hc hl => Nat.succ_le_of_lt (Nat.lt_of_le_of_ne hl hc)) name
  popFunctionCall := respects_pop fun _ _ _ hs => rb_of_le (by rw [hs]; exact Nat.le_succ _)
  progBreak _ := rb_of_le (setImmediate_stack_le _ _)
  runFromFirst _ := rb_of_stack_nil (by rw [St.runFromFirst_eq]; rfl)
  setNumberedLine _ _ _ := rb_of_stack_nil (by unfold St.setNumberedLine St.setImmediate; rfl)

end Abasic.Hoare
