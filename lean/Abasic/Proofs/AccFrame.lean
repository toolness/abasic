import Abasic.Proofs.CommuteLift
/-
  Frame lemma for the interpreter's accumulators (used by C07, C09, C15 and C17): the
  not-yet-taken output queue, the read counter of the verification hooks and the
  analyzer's access log are write-only for everything a running program does.
  `T d s` is `s` with older output `d.out` under its queue, `d.reads` more reads
  and `d.accesses` more log entries; `Comm d m` says that `m` commutes with `T d`:
  running `m` from `T d s` gives exactly the result of running it from `s`, with
  `T d` applied to the resulting state — same value, same error, same new output.
  `T d` is the field-wise normaliser `addN d`, and `Comm d` is `Commutes (T d)`
  (Proofs/Commute.lean): every evaluator function has it, hence so do
  `runNextStatement` and `continueEvaluating` (Proofs/CommuteLift.lean).
-/
namespace Abasic.Acc
open Abasic M Abasic.Hoare

variable {F : Type}

structure Add where
  out : List Out := []
  reads : Nat := 0
  accesses : List (Str × Nat × Nat × Access) := []

def T (d : Add) (s : St F) : St F :=
  { s with out := s.out ++ d.out, reads := d.reads + s.reads, accesses := s.accesses ++ d.accesses }

def addN (d : Add) : Norm F :=
  { out := (· ++ d.out), reads := (d.reads + ·), accesses := (· ++ d.accesses) }

theorem T_eq_app (d : Add) : T (F := F) d = (addN d).app := rfl

instance (d : Add) : (addN (F := F) d).KeepsImm := ⟨fun _ => rfl⟩

instance (d : Add) : (addN (F := F) d).Lawful where
  get _ _ := rfl
  has _ _ := rfl
  after _ _ := rfl
  first _ := rfl
  dataChunks _ := rfl
  list _ := rfl
  set_congr _ _ h n ts := congrArg (fun l : Lines F => l.set n ts) h
  out_append l₁ l _ := List.append_assoc l₁ l d.out
  reads_add r k := (Nat.add_assoc d.reads r k).symm
  warn_out b _ _ _ := by cases b <;> rfl
  trace_out b _ _ := by cases b <;> rfl

theorem T_lines (d : Add) (s : St F) : (T d s).lines = s.lines := rfl
theorem T_imm (d : Add) (s : St F) : (T d s).imm = s.imm := rfl
theorem T_loc (d : Add) (s : St F) : (T d s).loc = s.loc := rfl
theorem T_bp (d : Add) (s : St F) : (T d s).bp = s.bp := rfl
theorem T_stack (d : Add) (s : St F) : (T d s).stack = s.stack := rfl
theorem T_loops (d : Add) (s : St F) : (T d s).loops = s.loops := rfl
theorem T_data (d : Add) (s : St F) : (T d s).data = s.data := rfl
theorem T_fns (d : Add) (s : St F) : (T d s).fns = s.fns := rfl
theorem T_nesting (d : Add) (s : St F) : (T d s).nesting = s.nesting := rfl
theorem T_input (d : Add) (s : St F) : (T d s).input = s.input := rfl
theorem T_state (d : Add) (s : St F) : (T d s).state = s.state := rfl
theorem T_rng (d : Add) (s : St F) : (T d s).rng = s.rng := rfl
theorem T_vars (d : Add) (s : St F) : (T d s).vars = s.vars := rfl
theorem T_arrays (d : Add) (s : St F) : (T d s).arrays = s.arrays := rfl
theorem T_warnings (d : Add) (s : St F) : (T d s).warnings = s.warnings := rfl
theorem T_tracing (d : Add) (s : St F) : (T d s).tracing = s.tracing := rfl

def mapRes {α : Type} (g : St F → St F) : Res F α → Res F α
  | .ok a s => .ok a (g s)
  | .err e s => .err e (g s)

theorem mapRes_eq {α : Type} (g : St F → St F) (r : Res F α) : mapRes g r = r.mapSt g := by
  cases r <;> rfl

structure Comm (d : Add) {α : Type} (m : M F α) : Prop where
  h : ∀ s, m (T d s) = mapRes (T d) (m s)

variable {d : Add}

theorem Comm.of {α : Type} {m : M F α} (h : Commutes (T d) m) : Comm d m :=
  ⟨fun s => (h s).trans (mapRes_eq _ _).symm⟩

theorem Comm.commutes {α : Type} {m : M F α} (h : Comm d m) : Commutes (T d) m :=
  fun s => (h.h s).trans (mapRes_eq _ _)

theorem Comm.pure {α : Type} (a : α) : Comm d (pure a : M F α) := .of (commutes_pure a)

theorem Comm.bind {α β : Type} {m : M F α} {f : α → M F β} (hm : Comm d m) (hf : ∀ a, Comm d (f a)) :
    Comm d (m >>= f) :=
  .of (commutes_bind hm.commutes fun a => (hf a).commutes)

theorem Comm.rpanic {α : Type} (x : String) : Comm d (M.rpanic x : M F α) := .of (commutes_rpanic x)

theorem Comm.get_bind_ro {α : Type} {f : St F → M F α} (hf : ∀ s, Comm d (f s)) (h : ∀ s, f (T d s) = f s) :
    Comm d (M.get >>= f) :=
  .of (commutes_get_bind fun s => by rw [h s]; exact (hf s).commutes s)

theorem Comm.modify {f : St F → St F} (h : ∀ s, f (T d s) = T d (f s)) : Comm d (M.modify f) :=
  .of (commutes_modify h)

theorem Comm.ofExcept {α : Type} (r : Except TErr α) : Comm d (M.ofExcept r : M F α) := .of (commutes_ofExcept r)

variable [NumOps F]

theorem comm_peekIsKw (k : Kw) : Comm d (peekIsKw k : M F _) := .of (commutes_peekIsKw (N := addN d) k)

theorem comm_hasNext : Comm d (hasNext : M F _) := .of (commutes_hasNext (N := addN d))

theorem comm_setImmediate (ts : List (Token F)) : Comm d (setImmediate ts : M F _) :=
  .of (commutes_setImmediate (N := addN d) ts)

theorem comm_nextLine : Comm d (nextLine : M F _) := .of (commutes_nextLine (N := addN d))

theorem comm_discardRemaining : Comm d (discardRemaining : M F _) := .of (commutes_discardRemaining (N := addN d))

theorem comm_continueFromBreakpoint : Comm d (continueFromBreakpoint : M F _) :=
  .of (commutes_continueFromBreakpoint (N := addN d))

theorem comm_exitNested : Comm d (exitNested : M F _) := .of (commutes_exitNested (N := addN d))

theorem comm_dispatch (ev : Evals F) (he : Comm d ev.expr) (hs : Comm d ev.stmt) : Comm d (dispatch ev) :=
  .of (commutes_dispatch (N := addN d) ev he.commutes hs.commutes)

theorem comm_evalN (n : Nat) : Comm d (evalN (F := F) n).expr ∧ Comm d (evalN (F := F) n).stmt :=
  ⟨.of (commutes_evalN (N := addN d) n).1, .of (commutes_evalN (N := addN d) n).2⟩

theorem comm_runNextStatement (fuel : Nat) : Comm d (runNextStatement (F := F) fuel) :=
  .of (commutes_runNextStatement (N := addN d) fuel)

theorem comm_postprocess {α : Type} {m : M F α} (hm : Comm d m) : Comm d (postprocess m) :=
  .of (commutes_postprocess (N := addN d) hm.commutes)

theorem comm_continueEvaluating (fuel : Nat) : Comm d (continueEvaluating (F := F) fuel) :=
  .of (commutes_continueEvaluating (N := addN d) fuel)

end Abasic.Acc

/-! `accOf` is the vocabulary of C15's statements; it stands here because `Comm.run_eq` is about it. -/

namespace Abasic.Props.C15
open Abasic
variable {F : Type}

def accOf (s : St F) : Acc.Add := { out := s.out, reads := s.reads, accesses := s.accesses }

def bare (s : St F) : St F := { s with out := [], reads := 0, accesses := [] }

theorem T_bare (s : St F) : Acc.T (accOf s) (bare s) = s := rfl

end Abasic.Props.C15

namespace Abasic.Acc
open Abasic Abasic.Props.C15
variable {F : Type}

/-- An action that commutes with every addition under the accumulators is determined by what it does from
    the bare state: its run from `s` is that run, on top of the accumulators of `s`. -/
theorem Comm.run_eq {α : Type} {m : M F α} (hm : ∀ d, Comm d m) (s : St F) :
    m s = mapRes (T (accOf s)) (m (bare s)) := (hm (accOf s)).h (bare s)

end Abasic.Acc
