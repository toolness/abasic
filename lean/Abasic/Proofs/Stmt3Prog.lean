import Abasic.Proofs.Stmt3All
/-
  C03, full statement language — the reference machine of Ref/Prog3.lean as an instance of
  Proofs/SeqLTurn.lean: `Core3` and `Final3` are a `SeqL.Frame` (`frame`), `Sim3` is `SeqL.Lands` for them
  (`sim3_lands`), and what the statement theorems give (`Outcome3`) is what the turn needs (`outcome_seq`).
  Beyond Proofs/Prog2Lemmas.lean: an error may already be located on the line of a function definition
  (`DefLine`, `fails_seq`).
-/
set_option linter.unusedSectionVars false

namespace Abasic.Prog3L
open Abasic Abasic.Ref Abasic.ExprL Abasic.ExprL2 Abasic.StmtL Abasic.ProgL Abasic.Stmt3L M
open Abasic.Props
open Abasic.Prog2L (Rel2)

variable {F : Type} [NumOps F]

/-- what the model state shares with the reference state, cursor and run state apart -/
structure Core3 (p : RProgram3 F) (r : RState3 F) (σ : St F) : Prop where
  env : Env3 p σ
  mem : Mem3 p r σ
  inv : RInv3 r
  nesting : σ.nesting = 0

def Final3 (r : RState3 F) (σ : St F) : Prop :=
  σ.state = .idle ∧ σ.vars = r.vars ∧ σ.arrays = r.arrays ∧ σ.out = outRecs r.out

/-- the cursor against the program counter `(n, j)`: running on line `n`, at the
    first token of statement `j` or (when `j > 0`) on the colon in front of it -/
def Pos3 (p : RProgram3 F) (n j : Nat) (σ : St F) : Prop :=
  σ.state = .running ∧ σ.loc.line = some n ∧
    ∃ ss, p.line n = some ss ∧ j < ss.length ∧
      (σ.loc.idx = (preToks3 ss j).length ∨ (0 < j ∧ σ.loc.idx + 1 = (preToks3 ss j).length))

/-- The simulation relation between the reference machine and the model. -/
def Sim3 (p : RProgram3 F) (r : RState3 F) (σ : St F) : Prop :=
  match r.pc with
  | none => Final3 r σ
  | some (n, j) => Core3 p r σ ∧ Pos3 p n j σ

theorem Mem3.pc {p : RProgram3 F} {r : RState3 F} {σ : St F} (h : Mem3 p r σ) (x : Option (Nat × Nat)) :
    Mem3 p { r with pc := x } σ :=
  ⟨h.vars, h.arrays, h.rng, h.loops, h.stack, h.data, h.out, h.fns, h.fnLines⟩

theorem RInv3.pc {r : RState3 F} (h : RInv3 r) (x : Option (Nat × Nat)) : RInv3 { r with pc := x } :=
  ⟨h.typed, h.arrs, h.rng, h.rets⟩

theorem Core3.pc {p : RProgram3 F} {r : RState3 F} {σ : St F} (h : Core3 p r σ) (x : Option (Nat × Nat)) :
    Core3 p { r with pc := x } σ := ⟨h.env, h.mem.pc x, h.inv.pc x, h.nesting⟩

theorem Core3.move {p : RProgram3 F} {r : RState3 F} {σ : St F} (h : Core3 p r σ) (loc : Loc) (k : Nat) (st : IState) :
    Core3 p r { σ with loc := loc, reads := k, state := st } :=
  ⟨⟨h.env.lines, h.env.warnings, h.env.tracing⟩, h.mem.congr rfl rfl rfl rfl rfl rfl rfl rfl rfl, h.inv, h.nesting⟩

theorem frame (p : RProgram3 F) (r : RState3 F) : SeqL.Frame lang p (Core3 p r) (Final3 r) where
  holds h := h.env.lines.seq
  tracing h := h.env.tracing
  move k loc h := h.move loc k _
  fin _ h := ⟨rfl, h.mem.vars, h.mem.arrays, h.mem.out⟩

theorem sim3_lands {p : RProgram3 F} {r : RState3 F} {σ : St F} :
    Sim3 p r σ ↔ SeqL.Lands lang p (Core3 p r) (Final3 r) r.pc σ := by
  unfold Sim3 SeqL.Lands
  cases r.pc <;> exact Iff.rfl

/-- the lines an error may be located on besides that of the statement: those of the definitions so far -/
def DefLine (r : RState3 F) (m : Nat) : Prop := ∃ name, alGet name r.fnLines = some m

theorem fails_seq {α : Type} {r : RState3 F} {σ : St F} {e : Err} {res : Res F α}
    (hfl : ∀ name fd, alGet name σ.fns = some fd → alGet name r.fnLines = some fd.line) (h : ErrFrom σ e res) :
    SeqL.Fails (DefLine r) σ e res := by
  obtain ⟨te, σ', h1, h2, h3, h4, _, h6⟩ := h
  exact ⟨te, σ', h1, h2, h3, h4, h6.imp_right fun ⟨l, name, fd, a, b, c⟩ => ⟨l, fd.line, a, c, name, hfl name fd b⟩⟩

end Abasic.Prog3L

namespace Abasic.Stmt3V
open Abasic Abasic.Ref Abasic.ExprL Abasic.StmtL Abasic.Prog3L M

variable {F : Type} [NumOps F]

theorem outcome_seq {S : Type} {L : SeqL.Lang F S} {q : SeqL.Prog S} {V : ProgView F}
    (hA : ∀ {m k : Nat} {loc : Loc}, V.Addr m k loc → SeqL.Addr L q m k loc) {r : RState3 F} {σ : St F}
    (hfl : ∀ name fd, alGet name σ.fns = some fd → alGet name r.fnLines = some fd.line)
    {n after eol : Nat} {res : Res F Unit} {r' : RState3 F} :
    ∀ {c : Ctl2}, Outcome3 V σ n after eol res r' c →
      SeqL.Outcome L q (fun σ' => Kept σ σ' ∧ Mem3 V r' σ')
        (fun σ' => σ'.state = .idle ∧ σ'.vars = r'.vars ∧ σ'.arrays = r'.arrays ∧ σ'.out = outRecs r'.out ++ V.base)
        (DefLine r) σ n after eol res c := by
  intro c h
  cases c with
  | next =>
    obtain ⟨σ', h1, hk, hm, hl, hi⟩ := h
    exact ⟨σ', h1, ⟨hk, hm⟩, hl, hi.imp_right fun ⟨a, b, _⟩ => ⟨a, b⟩⟩
  | skipLine => obtain ⟨σ', h1, hk, hm, hloc⟩ := h; exact ⟨σ', h1, ⟨hk, hm⟩, hloc⟩
  | jump m =>
    exact ⟨fun hh => let ⟨σ', h1, hk, hm, hloc⟩ := h.1 hh; ⟨σ', h1, ⟨hk, hm⟩, hloc⟩,
      fun hh => fails_seq hfl (h.2 hh)⟩
  | stop => obtain ⟨σ', h1, _, hv, ha, ho, hloc, himm, _⟩ := h; exact ⟨σ', h1, fun _ => ⟨rfl, hv, ha, ho⟩, hloc, himm⟩
  | resume m k => obtain ⟨σ', h1, hk, hm, ha⟩ := h; exact ⟨σ', h1, ⟨hk, hm⟩, hA ha⟩
  | error e => exact ⟨h.1, fails_seq hfl h.2⟩
  | errorAt e ln => obtain ⟨he, σ', i, h1, h2, h3, _⟩ := h; exact ⟨he, σ', i, h1, h2, h3⟩

end Abasic.Stmt3V

namespace Abasic.Prog3L
open Abasic Abasic.Ref Abasic.ExprL Abasic.StmtL Abasic.Stmt3L M

variable {F : Type} [NumOps F]

theorem outcome_seq {p : RProgram3 F} {r : RState3 F} {σ : St F} (henv : Env3 p σ) (hmem : Mem3 p r σ)
    (hnest : σ.nesting = 0) (hrun : σ.state = .running)
    {n after eol : Nat} {res : Res F Unit} {r' : RState3 F} (hI : RInv3 r') {c : Ctl2}
    (h : Outcome3 p σ n after eol res r' c) :
    SeqL.Outcome lang p (fun σ' => Core3 p r' σ' ∧ σ'.state = .running) (Final3 r') (DefLine r)
      σ n after eol res c :=
  (Stmt3V.outcome_seq (L := lang) (q := p) id hmem.fnLines (outcome_view.2 h)).mono
    (fun _ ⟨hk, hm⟩ => ⟨⟨hk.env henv, mem_view.1 hm, hI, hk.nesting.trans hnest⟩, hk.state.trans hrun⟩)
    (fun _ ⟨h1, h2, h3, h4⟩ => ⟨h1, h2, h3, h4.trans (List.append_nil _)⟩) (fun _ => id)

end Abasic.Prog3L
