import Abasic.Proofs.Prims
import Abasic.Proofs.Expr2Warn
import Abasic.Proofs.Builtins
import Abasic.Props.C17
/-
  The evaluator on `render2 e` against `fold3` (Proofs/Expr2Warn.lean), by
  induction on the fuel of `fold3` (`main3`; the body of a call is evaluated
  with one unit less) with the recursion on the tree inside (`main3_step`): the
  warnings flag of the state is arbitrary, and the output queue is tracked exactly.

  Three statements are proved together: `AStmt2` (atoms through `parenExpr`),
  `PStmt2` (every tier at or below the strength of `e` parses `render2 e` when
  no operator of those tiers and no `(` follows) and `SStmt2` (the left spine of
  a left-associative tier with an exact iteration budget; the budget read by
  `lineBudget` is passed through an arbitrary `g`).  One lemma per constructor,
  each a chain of `Agrees2.seq` / `.andThen` / `.mono` against the equation of
  `fold3` written with `>>=`.

  The induction is over an invariant `Inv`.  `Inv.full n` (`Rel n`) carries
  every tree: `main3`.  `Inv.plain` asks nothing of the state:
  Proofs/ExprLemmasG.lean obtains the statements for the trees of `Ref.Expr`
  from it.
-/
set_option linter.unusedSectionVars false

namespace Abasic.ExprL3
open Abasic Abasic.Ref M Abasic.ExprL Abasic.ExprL2 Abasic.Names
export Abasic.ExprL2 (Keeps)

variable {F : Type}

section spec
variable [NumOps F]

theorem fold3_paren (n : Nat) (env : WEnv F) (e : Expr2 F) : fold3 n env (.paren e) = fold3 n env e := by
  rw [fold3]

theorem fold3_fixP2 (n : Nat) (env : WEnv F) (p : Nat) (e : Expr2 F) :
    fold3 n env (fixP2 p e) = fold3 n env e := by
  unfold fixP2; split
  · exact fold3_paren n env e
  · rfl

/-- `fold3` on the operator nodes, written with `>>=` (what `Agrees2.andThen` is applied to) -/
theorem fold3_un (n : Nat) (env : WEnv F) (op : UnOp) (e : Expr2 F) :
    fold3 n env (.un op e) = fold3 n env e >>= fun p => (op.eval p.1).map (·, p.2) := by
  rw [fold3]
  cases fold3 n env e with
  | error x => rfl
  | ok p => obtain ⟨v, env1⟩ := p; dsimp only [bind, Except.bind]; cases op.eval v <;> rfl

theorem fold3_bin (n : Nat) (env : WEnv F) (op : BinOp) (l r : Expr2 F) :
    fold3 n env (.bin op l r) =
      fold3 n env l >>= fun p => fold3 n p.2 r >>= fun q => (op.eval p.1 q.1).map (·, q.2) := by
  rw [fold3]
  cases fold3 n env l with
  | error x => rfl
  | ok p =>
    obtain ⟨a, env1⟩ := p
    dsimp only [bind, Except.bind]
    cases fold3 n env1 r with
    | error x => rfl
    | ok q => obtain ⟨b, env2⟩ := q; dsimp only; cases op.eval a b <;> rfl

/-- what a built-in returns on its numeric argument -/
def post : Builtin → WEnv F → F → Except Err (Value F × WEnv F)
  | .abs, env, y => .ok (.num (NumOps.abs y), env)
  | .int, env, y => .ok (.num (NumOps.floor y), env)
  | .rnd, env, y => rndStep3 env y

theorem fold3_node (n : Nat) (env : WEnv F) (b : Builtin) (x : Expr2 F) :
    fold3 n env (b.node x) = numArg (fold3 n env x) >>= fun q => post b q.2 q.1 := by
  cases b <;>
  · rw [Builtin.node, fold3]
    cases fold3 n env x with
    | error e => rfl
    | ok p => obtain ⟨v, e1⟩ := p; cases v <;> rfl

theorem depth2_node (fns : List (Str × FnDefSpec F)) (n : Nat) (b : Builtin) (x : Expr2 F) :
    depth2 fns n (b.node x) = depth2 fns n x + 1 := by
  cases b <;> rw [Builtin.node, depth2]

theorem resolved_node (fns : List (Str × FnDefSpec F)) (b : Builtin) (x : Expr2 F) :
    Resolved fns (b.node x) ↔ Resolved fns x := by
  cases b <;> simp only [Builtin.node, Resolved]

theorem foldIdx3_cons (n : Nat) (env : WEnv F) (e : Expr2 F) (es : List (Expr2 F)) :
    foldIdx3 n env (e :: es) = fold3 n env e >>= fun p => subscript p.1 >>= fun i =>
      match es with
      | [] => .ok ([i], p.2)
      | e' :: es' => foldIdx3 n p.2 (e' :: es') >>= fun q => .ok (i :: q.1, q.2) := by
  rw [foldIdx3]
  cases fold3 n env e with
  | error x => rfl
  | ok p =>
    obtain ⟨v, env1⟩ := p
    dsimp only [bind, Except.bind]
    cases subscript v with
    | error x => rfl
    | ok i =>
      cases es with
      | nil => rfl
      | cons e' es' => dsimp only; cases foldIdx3 n env1 (e' :: es') <;> rfl

theorem fold3_cell (n : Nat) (env : WEnv F) (name : Str) (idx : List (Expr2 F)) :
    fold3 n env (.cell name idx) = foldIdx3 n env idx >>= fun p => readCell3 p.2 name p.1 := by
  rw [fold3]
  cases foldIdx3 n env idx with
  | error x => rfl
  | ok p => obtain ⟨is, env1⟩ := p; rfl

/-- a call of an undefined function is a cell -/
theorem fold3_call_none (n : Nat) (env : WEnv F) (g : Str) (args : List (Expr2 F)) (h : alGet g env.fns = none) :
    fold3 n env (.call g args) = foldIdx3 n env args >>= fun p => readCell3 p.2 g p.1 := by
  rw [fold3]
  simp only [h]
  cases foldIdx3 n env args with
  | error x => rfl
  | ok p => obtain ⟨is, env1⟩ := p; rfl

theorem bindArgs3_cons (n : Nat) (env : WEnv F) (p : Str) (ps : List Str) (a : Expr2 F) (as : List (Expr2 F))
    (acc : List (Str × Value F)) :
    bindArgs3 n env (p :: ps) (a :: as) acc = fold3 n env a >>= fun q =>
      if q.1.matchesName p then bindArgs3 n q.2 ps as (alSet p q.1 acc) else .error .typeMismatch := by
  rw [bindArgs3]
  cases fold3 n env a with
  | error x => rfl
  | ok q => obtain ⟨v, env1⟩ := q; rfl

/-- the body of `f` (defined as `d`) evaluated with the frame `b` on top, the caller's frames and line put back -/
def bodySpec (n' : Nat) (env : WEnv F) (f : Str) (d : FnDefSpec F) (b : List (Str × Value F)) :
    Except Err (Value F × WEnv F) :=
  if env.frames.length == Extracted.stackLimit then .error .oomStack
  else match fold3 n' { env with frames := b :: env.frames, line := defLine env.sfns f } d.body with
    | .error e => .error e
    | .ok q => .ok (q.1, { q.2 with frames := env.frames, line := env.line })

theorem fold3_call_some (n' : Nat) (env : WEnv F) (g : Str) (args : List (Expr2 F)) (d : FnDefSpec F)
    (h : alGet g env.fns = some d) :
    fold3 (n' + 1) env (.call g args) =
      bindArgs3 (n' + 1) env d.params args [] >>= fun p => bodySpec n' p.2 g d p.1 := by
  rw [fold3]
  simp only [h]
  cases bindArgs3 (n' + 1) env d.params args [] with
  | error x => rfl
  | ok p =>
    obtain ⟨b, env1⟩ := p
    dsimp only [bind, Except.bind, bodySpec]
    split
    · rfl
    · cases fold3 n' { env1 with frames := b :: env1.frames, line := defLine env1.sfns g } d.body <;> rfl

/-- what an evaluation does to the environment -/
structure Step (env env' : WEnv F) : Prop where
  vars : env'.vars = env.vars
  frames : env'.frames = env.frames
  fns : env'.fns = env.fns
  arrs : ArrLen env.arrays → ArrLen env'.arrays
  rng : env.rng < Extracted.rngModulus → env'.rng < Extracted.rngModulus
  warn : env'.warn = env.warn
  line : env'.line = env.line
  sfns : env'.sfns = env.sfns

theorem Step.refl (env : WEnv F) : Step env env := ⟨rfl, rfl, rfl, id, id, rfl, rfl, rfl⟩

theorem Step.trans {a b c : WEnv F} (h1 : Step a b) (h2 : Step b c) : Step a c :=
  ⟨h2.vars.trans h1.vars, h2.frames.trans h1.frames, h2.fns.trans h1.fns,
   fun h => h2.arrs (h1.arrs h), fun h => h2.rng (h1.rng h), h2.warn.trans h1.warn, h2.line.trans h1.line,
   h2.sfns.trans h1.sfns⟩

theorem step_put (w : WEnv F) (r : RefEnv F) (ws : List Out) (h : ExprL2.Step w.toRefEnv r) : Step w (w.put r ws) :=
  ⟨h.vars, h.frames, h.fns, h.arrs, h.rng, rfl, rfl, rfl⟩

theorem step_of_pair {α : Type} {w w' : WEnv F} {res : Except Err (α × RefEnv F)} {ws : List Out} {a : α}
    (hs : ∀ a r, res = .ok (a, r) → ExprL2.Step w.toRefEnv r) (h : pair w res ws = .ok (a, w')) : Step w w' := by
  cases res with
  | error e => cases h
  | ok p =>
    obtain ⟨a', r⟩ := p
    simp only [pair, Except.ok.injEq, Prod.mk.injEq] at h
    rw [← h.2]
    exact step_put w r ws (hs a' r rfl)

theorem fold3_step (n : Nat) (e : Expr2 F) (env env' : WEnv F) (v : Value F)
    (h : fold3 n env e = .ok (v, env')) : Step env env' := by
  rw [fold3_eq] at h
  exact step_of_pair (fun a r hr => ExprL2.fold2_step n e _ r a hr) h

theorem foldIdx3_step (n : Nat) (es : List (Expr2 F)) (env env' : WEnv F) (is : List Nat)
    (h : foldIdx3 n env es = .ok (is, env')) : Step env env' := by
  rw [foldIdx3_eq] at h
  exact step_of_pair (fun a r hr => ExprL2.foldIdx_step n es _ r a hr) h

theorem bindArgs3_step (n : Nat) (as : List (Expr2 F)) (env env' : WEnv F) (ps : List Str)
    (acc b : List (Str × Value F)) (h : bindArgs3 n env ps as acc = .ok (b, env')) : Step env env' := by
  rw [bindArgs3_eq] at h
  exact step_of_pair (fun a r hr => ExprL2.bindArgs2_step n as _ r ps acc a hr) h

end spec

variable [NumOps F]

/-- `σ` with the cursor `n` tokens further, `r` reads, and the arrays,
    generator state and output queue of `env` -/
def upd (σ : St F) (n r : Nat) (env : WEnv F) : St F :=
  { σ with loc := { σ.loc with idx := σ.loc.idx + n }, reads := r, arrays := env.arrays, rng := env.rng, out := env.out }

@[simp] theorem upd_reads (σ : St F) (n r : Nat) (env : WEnv F) : (upd σ n r env).reads = r := rfl
@[simp] theorem upd_nesting (σ : St F) (n r : Nat) (env : WEnv F) : (upd σ n r env).nesting = σ.nesting := rfl
@[simp] theorem upd_stack (σ : St F) (n r : Nat) (env : WEnv F) : (upd σ n r env).stack = σ.stack := rfl
@[simp] theorem upd_warnings (σ : St F) (n r : Nat) (env : WEnv F) : (upd σ n r env).warnings = σ.warnings := rfl
@[simp] theorem upd_vars (σ : St F) (n r : Nat) (env : WEnv F) : (upd σ n r env).vars = σ.vars := rfl
@[simp] theorem upd_fns (σ : St F) (n r : Nat) (env : WEnv F) : (upd σ n r env).fns = σ.fns := rfl
@[simp] theorem upd_lines (σ : St F) (n r : Nat) (env : WEnv F) : (upd σ n r env).lines = σ.lines := rfl
@[simp] theorem upd_arrays (σ : St F) (n r : Nat) (env : WEnv F) : (upd σ n r env).arrays = env.arrays := rfl
@[simp] theorem upd_rng (σ : St F) (n r : Nat) (env : WEnv F) : (upd σ n r env).rng = env.rng := rfl
@[simp] theorem upd_out (σ : St F) (n r : Nat) (env : WEnv F) : (upd σ n r env).out = env.out := rfl
@[simp] theorem upd_idx (σ : St F) (n r : Nat) (env : WEnv F) : (upd σ n r env).loc.idx = σ.loc.idx + n := rfl
@[simp] theorem upd_line (σ : St F) (n r : Nat) (env : WEnv F) : (upd σ n r env).loc.line = σ.loc.line := rfl
@[simp] theorem lineToks_upd (σ : St F) (n r : Nat) (env : WEnv F) : lineToks (upd σ n r env) = lineToks σ := rfl

theorem mv_upd (σ : St F) (a r b r' : Nat) (env : WEnv F) :
    mv (upd σ a r env) b r' = upd σ (a + b) r' env := by
  simp only [mv, upd, Nat.add_assoc]

theorem upd_mv (σ : St F) (a r b r' : Nat) (env : WEnv F) :
    upd (mv σ a r) b r' env = upd σ (a + b) r' env := by
  simp only [mv, upd, Nat.add_assoc]

theorem upd_upd (σ : St F) (a r b r' : Nat) (env env' : WEnv F) :
    upd (upd σ a r env) b r' env' = upd σ (a + b) r' env' := by
  simp only [upd, Nat.add_assoc]

theorem upd_congr (σ : St F) {a b : Nat} (r : Nat) (env : WEnv F) (h : a = b) :
    upd σ a r env = upd σ b r env := by
  subst h; rfl

theorem nest_upd (σ : St F) (k n r : Nat) (env : WEnv F) : nest (upd σ n r env) k = upd (nest σ k) n r env := rfl

theorem at_upd {σ : St F} {pre a b : List (Token F)} (h : At σ pre (a ++ b)) (r : Nat) (env : WEnv F) :
    At (upd σ a.length r env) (pre ++ a) b := by
  obtain ⟨h1, h2⟩ := h
  refine ⟨?_, ?_⟩
  · rw [lineToks_upd, h1, List.append_assoc]
  · rw [upd_idx, h2, List.length_append]

theorem at_upd_mv {σ : St F} {pre a b : List (Token F)} {m r₀ : Nat} (h : At (mv σ m r₀) pre (a ++ b))
    (r : Nat) (env : WEnv F) : At (upd σ (m + a.length) r env) (pre ++ a) b :=
  upd_mv σ m r₀ a.length r env ▸ at_upd h r env

/-- the state's function table points at the spec's definitions: each defined
    function is stored with its parameter list, on a line whose tokens from the
    recorded index are the rendering of the body followed by something that
    ends an expression -/
structure FnsLink (σ : St F) (fns : List (Str × FnDefSpec F)) : Prop where
  undef : ∀ name, alGet name fns = none → alGet name σ.fns = none
  defd : ∀ name d, alGet name fns = some d → ∃ (fd : FnDef) (pre tail : List (Token F)),
    alGet name σ.fns = some fd ∧ fd.args = d.params ∧
    σ.lines.get fd.line = some (pre ++ (render2 d.body ++ tail)) ∧ fd.idx = pre.length ∧ Ends 6 tail

/-- the interpreter state `σ` and the reference environment `env`, with `n`
    units of fuel on the spec side -/
structure Rel (n : Nat) (σ : St F) (env : WEnv F) : Prop where
  vars : σ.vars = env.vars
  frames : σ.stack.map (·.vars) = env.frames
  arrays : σ.arrays = env.arrays
  rng : σ.rng = env.rng
  out : σ.out = env.out
  warn : σ.warnings = env.warn
  line : σ.loc.line = env.line
  sfns : σ.fns = env.sfns
  fns : FnsLink σ env.fns
  cap : σ.stack.length ≤ Extracted.stackLimit
  fuel : Extracted.stackLimit < n + σ.stack.length
  arrs_ok : ArrLen env.arrays
  rng_ok : env.rng < Extracted.rngModulus
  bodies : ∀ name d, alGet name env.fns = some d → Resolved env.fns d.body

theorem Rel.mv {n : Nat} {σ : St F} {env : WEnv F} (h : Rel n σ env) (a r : Nat) : Rel n (ExprL.mv σ a r) env :=
  ⟨h.vars, h.frames, h.arrays, h.rng, h.out, h.warn, h.line, h.sfns, ⟨h.fns.undef, h.fns.defd⟩, h.cap, h.fuel, h.arrs_ok, h.rng_ok, h.bodies⟩

theorem Rel.nest {n : Nat} {σ : St F} {env : WEnv F} (h : Rel n σ env) (k : Nat) : Rel n (ExprL.nest σ k) env :=
  ⟨h.vars, h.frames, h.arrays, h.rng, h.out, h.warn, h.line, h.sfns, ⟨h.fns.undef, h.fns.defd⟩, h.cap, h.fuel, h.arrs_ok, h.rng_ok, h.bodies⟩

theorem Rel.upd {n : Nat} {σ : St F} {env env' : WEnv F} (h : Rel n σ env) (hs : Step env env') (a r : Nat) :
    Rel n (ExprL3.upd σ a r env') env' :=
  ⟨h.vars.trans hs.vars.symm, h.frames.trans hs.frames.symm, rfl, rfl, rfl, h.warn.trans hs.warn.symm,
   h.line.trans hs.line.symm, h.sfns.trans hs.sfns.symm,
   ⟨by rw [hs.fns]; exact h.fns.undef, by rw [hs.fns]; exact h.fns.defd⟩, h.cap, h.fuel,
   hs.arrs h.arrs_ok, hs.rng h.rng_ok, by rw [hs.fns]; exact h.bodies⟩


/-- the state's data is the environment's: what `Rel` says apart from the function table and well-formedness -/
structure Tracks (σ : St F) (env : WEnv F) : Prop where
  vars : σ.vars = env.vars
  frames : σ.stack.map (·.vars) = env.frames
  arrays : σ.arrays = env.arrays
  rng : σ.rng = env.rng
  out : σ.out = env.out
  warn : σ.warnings = env.warn
  line : σ.loc.line = env.line
  sfns : σ.fns = env.sfns

theorem Rel.tracks {n : Nat} {σ : St F} {env : WEnv F} (h : Rel n σ env) : Tracks σ env :=
  ⟨h.vars, h.frames, h.arrays, h.rng, h.out, h.warn, h.line, h.sfns⟩

theorem Tracks.upd_eq {σ : St F} {env : WEnv F} (h : Tracks σ env) (a r : Nat) :
    ExprL3.upd σ a r env = ExprL.mv σ a r := by
  simp only [ExprL3.upd, ExprL.mv, ← h.arrays, ← h.rng, ← h.out]

theorem Tracks.same {σ τ : St F} {env : WEnv F} (h : Tracks σ env) (h1 : τ.vars = σ.vars) (h2 : τ.stack = σ.stack)
    (h3 : τ.arrays = σ.arrays) (h4 : τ.rng = σ.rng) (h5 : τ.out = σ.out) (h6 : τ.warnings = σ.warnings)
    (h7 : τ.loc.line = σ.loc.line) (h8 : τ.fns = σ.fns) : Tracks τ env :=
  ⟨h1.trans h.vars, by rw [h2]; exact h.frames, h3.trans h.arrays, h4.trans h.rng, h5.trans h.out, h6.trans h.warn,
   h7.trans h.line, h8.trans h.sfns⟩

theorem Tracks.upd {σ : St F} {env env' : WEnv F} (h : Tracks σ env) (hs : Step env env') (a r : Nat) :
    Tracks (ExprL3.upd σ a r env') env' :=
  ⟨h.vars.trans hs.vars.symm, h.frames.trans hs.frames.symm, rfl, rfl, rfl, h.warn.trans hs.warn.symm,
   h.line.trans hs.line.symm, h.sfns.trans hs.sfns.symm⟩

/-- The link `rel` between state and environment that the induction carries along, and what it claims (`err`) of the
    state a failing run ends in.  The tiers, parentheses, literals, variables, ABS and INT need no more of the two than
    that the state's data is the environment's (`tracks`) and that both survive a move of the cursor, a change of the
    nesting counter and the arrays, generator state and queue of a later environment.  RND, cells and calls need
    `Rel` (`Inv.full`); without them any state will do (`Inv.plain`). -/
structure Inv (F : Type) [NumOps F] where
  rel : St F → WEnv F → Prop
  err : St F → TErr → St F → Prop
  tracks : ∀ {σ env}, rel σ env → Tracks σ env
  mv : ∀ {σ env}, rel σ env → ∀ a r, rel (ExprL.mv σ a r) env
  nest : ∀ {σ env}, rel σ env → ∀ k, rel (ExprL.nest σ k) env
  upd : ∀ {σ env env'}, rel σ env → Step env env' → ∀ a r, rel (ExprL3.upd σ a r env') env'
  /-- an error raised on the spot -/
  fail : ∀ {σ σ' : St F} (x : Err), σ'.nesting = σ.nesting → σ'.stack = σ.stack → σ'.loc.line = σ.loc.line →
    err σ { err := x } σ'
  /-- the run may have started in `τ`, a later state of the run from `σ` -/
  start : ∀ {σ τ σ' : St F} {te : TErr}, err τ te σ' → τ.nesting = σ.nesting → τ.stack = σ.stack →
    τ.loc.line = σ.loc.line → τ.fns = σ.fns → err σ te σ'
  /-- … or one nesting level deeper -/
  nested : ∀ {σ σ' : St F} {te : TErr} {k : Nat}, err (ExprL.nest σ k) te σ' →
    σ'.nesting = k ∧ err σ te (ExprL.nest σ' σ.nesting)

/-- every tree, on a state related to the environment by `Rel n` -/
def Inv.full (n : Nat) : Inv F where
  rel := Rel n
  err := Keeps
  tracks h := h.tracks
  mv h := h.mv
  nest h := h.nest
  upd h hs := h.upd hs
  fail _ h1 h2 h3 := ⟨h1, h2, h3, Or.inl rfl⟩
  start h h1 h2 h3 h4 := ⟨h.1.trans h1, h.2.1.trans h2, h.2.2.1.trans h3, by
    rcases h.2.2.2 with h | h | ⟨l, nm, fd, a, b, c⟩
    · exact Or.inl h
    · exact Or.inr (Or.inl h)
    · exact Or.inr (Or.inr ⟨l, nm, fd, a, h4 ▸ b, c⟩)⟩
  nested h := ⟨h.1, rfl, h.2.1, h.2.2.1, h.2.2.2⟩

/-- the trees without RND, cells and calls, on any state: an error is raised on the spot -/
def Inv.plain : Inv F where
  rel := Tracks
  err σ te σ' := te.loc = none ∧ σ'.nesting = σ.nesting
  tracks h := h
  mv h _ _ := h.same rfl rfl rfl rfl rfl rfl rfl rfl
  nest h _ := h.same rfl rfl rfl rfl rfl rfl rfl rfl
  upd h hs := h.upd hs
  fail _ h1 _ _ := ⟨rfl, h1⟩
  start h h1 _ _ _ := ⟨h.1, h.2.trans h1⟩
  nested h := ⟨h.2, h.1, rfl⟩

section tiers
variable (I : Inv F)

/-- an error raised on the spot: the final state differs from `σ` in cursor, counters and data only -/
theorem Inv.failed {α β E : Type} {res : Res F α} {σ σ' : St F} {x : Err} {k : β → E → Nat → Res F α}
    (h : res = .err { err := x } σ') (hn : σ'.nesting = σ.nesting := by rfl) (hs : σ'.stack = σ.stack := by rfl)
    (hl : σ'.loc.line = σ.loc.line := by rfl) : Agrees2 I.err res (.error x : Except Err (β × E)) σ k :=
  ⟨_, σ', h, rfl, I.fail x hn hs hl⟩

/-- a pure last step: the operator applied to the values -/
theorem Inv.liftE (e : Except Err (Value F)) (env : WEnv F) {σ : St F} (n : Nat) {r : Nat} (hr : σ.reads < r) :
    Agrees2 I.err (liftE e (ExprL3.upd σ n r env)) (e.map (·, env)) σ
      (fun v env' r' => .ok v (ExprL3.upd σ n r' env')) := by
  cases e with
  | error x => exact I.failed rfl
  | ok v => exact ⟨r, hr, rfl⟩

theorem lift_level2 {ev : Evals F} {res : Except Err (Value F × WEnv F)} {σ : St F}
    {pre toks rest : List (Token F)} {i j : Nat} (hij : i ≤ j) (hE : Ends j rest)
    (hAt : At σ pre (toks ++ rest))
    (h : Agrees2 I.err (tier ev i σ) res σ (fun v env r => .ok v (upd σ toks.length r env))) :
    Agrees2 I.err (tier ev j σ) res σ (fun v env r => .ok v (upd σ toks.length r env)) := by
  induction j with
  | zero =>
    have : i = 0 := by omega
    subst this; exact h
  | succ j ih =>
    by_cases hi : i = j + 1
    · subst hi; exact h
    · refine (ih (by omega) (hE.mono (Nat.le_succ j))).seq.mono (fun h => h) fun v env r _ hr => ⟨r + 1, by omega, ?_⟩
      have hAt' := at_upd hAt r env
      rw [bind_ok (lineBudget_eq hAt'.1), levelLoop_stop hAt' hE, mv_upd]
      rfl

/-- atoms, parsed by `parenExpr` -/
def AStmt2 (n : Nat) (e : Expr2 F) : Prop :=
  ∀ (f : Nat) (σ : St F) (env : WEnv F) (pre rest : List (Token F)),
    depth2 env.fns n e ≤ f → σ.nesting + depth2 env.fns n e ≤ Extracted.nestingLimit → e.prec = 8 →
    Ends 0 rest → At σ pre (render2 e ++ rest) → I.rel σ env → Resolved env.fns e →
    Agrees2 I.err (parenExpr (evalN f) σ) (fold3 n env e) σ
      (fun v env' r => .ok v (upd σ (render2 e).length r env'))

/-- any tier at or below the strength of `e` parses `render2 e` -/
def PStmt2 (n : Nat) (e : Expr2 F) : Prop :=
  ∀ (f j : Nat) (σ : St F) (env : WEnv F) (pre rest : List (Token F)),
    depth2 env.fns n e ≤ f → σ.nesting + depth2 env.fns n e ≤ Extracted.nestingLimit → lv2 e ≤ j → j ≤ 6 →
    Ends j rest → At σ pre (render2 e ++ rest) → I.rel σ env → Resolved env.fns e →
    Agrees2 I.err (tier (evalN f) j σ) (fold3 n env e) σ
      (fun v env' r => .ok v (upd σ (render2 e).length r env'))

/-- spine statement (see `SStmt`) -/
def SStmt2 (n : Nat) (e : Expr2 F) : Prop :=
  ∀ (f k m : Nat) (g : Nat → Nat) (σ : St F) (env : WEnv F) (pre rest : List (Token F)),
    depth2 env.fns n e ≤ f → σ.nesting + depth2 env.fns n e ≤ Extracted.nestingLimit → lv2 e ≤ k + 1 → k < 6 →
    Ends k rest → At σ pre (render2 e ++ rest) → I.rel σ env → Resolved env.fns e →
    g ((pre ++ (render2 e ++ rest)).length + 1) = m + spine2 k e →
    Agrees2 I.err ((tier (evalN f) k >>= fun v => lineBudget >>= fun b =>
              levelLoop (tier (evalN f) k) (opsAt k) (g b) v) σ)
      (fold3 n env e) σ
      (fun v env' r => levelLoop (tier (evalN f) k) (opsAt k) m v (upd σ (render2 e).length r env'))

/-- the recursive entry `ev.expr`, one nesting level and one unit of fuel deeper -/
theorem expr_eq2 (n : Nat) (x : Expr2 F) (hx : PStmt2 I n x) (f : Nat) (σ : St F) (env : WEnv F)
    (pre rest : List (Token F))
    (hd : depth2 env.fns n x + 1 ≤ f) (hn : σ.nesting + (depth2 env.fns n x + 1) ≤ Extracted.nestingLimit)
    (hE : Ends 6 rest) (hAt : At σ pre (render2 x ++ rest)) (hR : I.rel σ env) (hres : Resolved env.fns x) :
    Agrees2 I.err ((evalN f).expr σ) (fold3 n env x) σ
      (fun v env' r => .ok v (upd σ (render2 x).length r env')) := by
  obtain ⟨f', rfl⟩ : ∃ f', f = f' + 1 := ⟨f - 1, by omega⟩
  have hP := hx f' 6 (nest σ (σ.nesting + 1)) env pre rest (by omega) (by simp only [nest_nesting]; omega)
      (by have := prec2_bounds x; unfold lv2; omega) (Nat.le_refl _) hE (at_nest hAt _) (I.nest hR _) hres
  show Agrees2 I.err (nested (tier (evalN f') 6) σ) _ _ _
  cases hev : fold3 n env x with
  | error e =>
    rw [hev] at hP
    obtain ⟨te, σ', hσ', hx', hk⟩ := hP
    obtain ⟨hk1, hk2⟩ := I.nested hk
    exact ⟨te, nest σ' σ.nesting, nested_err (by omega) hσ' hk1, hx', hk2⟩
  | ok p =>
    rw [hev] at hP
    obtain ⟨r, hr, hσ'⟩ := hP
    exact ⟨r, hr, nested_ok (by omega) hσ' rfl⟩

theorem A2_num (n : Nat) (x : F) : AStmt2 I n (.num x : Expr2 F) := by
  intro f σ env pre rest _ _ _ _ hAt hR _
  rw [render2_num] at hAt ⊢
  have hAt : At σ pre (.num x :: rest) := hAt
  rw [fold3]
  refine ⟨σ.reads + 1 + 1, by omega, ?_⟩
  unfold parenExpr
  rw [bind_ok (accept_false hAt rfl)]
  simp only [Bool.false_eq_true, ↓reduceIte]
  unfold term
  rw [bind_ok (nextUnwrapped_eq (at_mv0 hAt _)), mv_mv, (I.tracks hR).upd_eq]
  rfl

theorem A2_str (n : Nat) (s : Str) : AStmt2 I n (.str s : Expr2 F) := by
  intro f σ env pre rest _ _ _ _ hAt hR _
  rw [render2_str] at hAt ⊢
  have hAt : At σ pre (.str s :: rest) := hAt
  rw [fold3]
  refine ⟨σ.reads + 1 + 1, by omega, ?_⟩
  unfold parenExpr
  rw [bind_ok (accept_false hAt rfl)]
  simp only [Bool.false_eq_true, ↓reduceIte]
  unfold term
  rw [bind_ok (nextUnwrapped_eq (at_mv0 hAt _)), mv_mv, (I.tracks hR).upd_eq]
  rfl

theorem lookup_eq {σ : St F} {env : WEnv F} (hR : Tracks σ env) (name : Str) :
    env.lookup name = match findInStack name σ.stack with
      | some v => v
      | none => getVar σ name := by
  unfold RefEnv.lookup getVar
  rw [findInStack_eq, hR.frames, hR.vars]
  cases lookupFrames name env.frames with
  | some v => rfl
  | none => dsimp only; cases alGet name env.vars <;> rfl

theorem warn_state {σ : St F} {env : WEnv F} (hR : Tracks σ env) (msg : Str) (a r : Nat)
    (hw : env.warn = true) :
    warn msg (mv σ a r) = .ok () (upd σ a r { env with out := .warning msg env.line :: env.out }) := by
  have hwt : (mv σ a r).warnings = true := by rw [mv_warnings, hR.warn, hw]
  rw [Props.C17.warn_effect, if_pos hwt]
  congr 1
  simp only [upd, mv, ← hR.arrays, ← hR.rng, ← hR.out, ← hR.line]

theorem A2_var (n : Nat) (name : Str) : AStmt2 I n (.var name : Expr2 F) := by
  intro f σ env pre rest _ _ _ hE hAt hR _
  replace hR := I.tracks hR
  rw [render2_var] at hAt ⊢
  have hAt : At σ pre (.symbol name :: rest) := hAt
  rw [fold3]
  refine ⟨σ.reads + 1 + 1 + 1, by omega, ?_⟩
  unfold parenExpr
  rw [bind_ok (accept_false hAt rfl)]
  simp only [Bool.false_eq_true, ↓reduceIte]
  unfold term
  rw [bind_ok (nextUnwrapped_eq (at_mv0 hAt _)), mv_mv]
  simp only [mv_reads, Nat.zero_add]
  have hAt2 := at_mv1 hAt (σ.reads + 1 + 1)
  rw [bind_ok (peekIsKw_false .LeftParen hAt2 (fun t ht => (hE t ht).1)), mv_mv]
  have hfs : findInStack name σ.stack = lookupFrames name env.frames := by rw [findInStack_eq, hR.frames]
  simp only [mv_reads, Nat.add_zero, Bool.false_eq_true, ↓reduceIte, bind, M.bindM, M.get, mv_stack, mv_warnings,
    mv_vars, hfs, hR.warn, hR.vars]
  unfold readVar3
  rw [lookup_eq hR, hfs]
  cases hl : lookupFrames name env.frames with
  | some v =>
    simp only [Option.isNone_some, Bool.false_and, Bool.false_eq_true, ↓reduceIte, hR.upd_eq]
    rfl
  | none =>
    cases hc : (env.warn && !alHas name env.vars) with
    | false =>
      simp only [Option.isNone_none, Bool.true_and, Bool.false_eq_true, ↓reduceIte, hR.upd_eq]
      rfl
    | true =>
      have hw := warn_state hR (undeclVarMsg name) 1 (σ.reads + 1 + 1 + 1) (Bool.and_eq_true _ _ ▸ hc).1
      unfold undeclVarMsg at hw
      simp only [Option.isNone_none, Bool.and_self, ↓reduceIte, M.bindM, hw]
      rfl

theorem A2_paren (n : Nat) (x : Expr2 F) (hx : PStmt2 I n x) : AStmt2 I n (.paren x) := by
  intro f σ env pre rest hd hn _ _ hAt hR hres
  rw [render2_paren] at hAt ⊢
  have hAt : At σ pre (.kw .LeftParen :: (render2 x ++ (.kw .RightParen :: rest))) := by
    simpa only [List.cons_append, List.append_assoc, List.nil_append] using hAt
  rw [depth2_paren] at hd hn
  have hres' : Resolved env.fns x := by simpa only [Resolved] using hres
  have hAt1 := at_mv1 hAt (σ.reads + 1)
  have hX := expr_eq2 I n x hx f (mv σ 1 (σ.reads + 1)) env _ _ hd hn (ends_rparen 6 rest) hAt1 (I.mv hR _ _) hres'
  unfold parenExpr
  rw [bind_ok (accept_true hAt rfl)]
  simp only [↓reduceIte]
  rw [fold3_paren]
  refine hX.seq.mono (fun h => I.start h rfl rfl rfl rfl) fun v env1 r _ hr =>
    ⟨r + 1, by simp only [mv_reads] at hr; omega, ?_⟩
  rw [upd_mv, bind_ok (expect_eq (at_upd_mv hAt1 r env1) rfl), mv_upd]
  exact congrArg (Res.ok v) (upd_congr _ _ _ (by
    simp only [List.length_cons, List.length_append, List.length_nil]; omega))

theorem P2_atom (n : Nat) (e : Expr2 F) (ha : AStmt2 I n e) (he : e.prec = 8) : PStmt2 I n e := by
  intro f j σ env pre rest hd hn _ _ hE hAt hR hres
  obtain ⟨t, ts, hts, hun⟩ := atom_head2 e he
  have hAt0 : At σ pre (t :: (ts ++ rest)) := by rw [hts] at hAt; exact hAt
  have hA := ha f (mv σ 0 (σ.reads + 1)) env pre rest hd hn he (hE.mono (Nat.zero_le _)) (at_mv0 hAt _)
    (I.mv hR _ _) hres
  refine lift_level2 I (Nat.zero_le _) hE hAt ?_
  show Agrees2 I.err (unaryExpr (evalN f) σ) _ _ _
  unfold unaryExpr
  rw [bind_ok (tryNext_none hAt0 (fun t' ht' => by
    simp only [List.head?_cons, Option.some.injEq] at ht'; subst ht'; exact hun))]
  exact hA.seq.mono (fun h => I.start h rfl rfl rfl rfl) fun v env1 r _ hr =>
    ⟨r, Nat.lt_of_succ_lt hr, by rw [upd_mv, Nat.zero_add]; rfl⟩

/-- the spine statement from the tier statement when `e` has no operator of tier `k+1` on top -/
theorem S2_of_P (n : Nat) (e : Expr2 F) (hP : PStmt2 I n e) (f k m : Nat) (g : Nat → Nat) (σ : St F)
    (env : WEnv F) (pre rest : List (Token F))
    (hd : depth2 env.fns n e ≤ f) (hn : σ.nesting + depth2 env.fns n e ≤ Extracted.nestingLimit)
    (hlv : lv2 e ≤ k) (hk : k < 6)
    (hE : Ends k rest) (hAt : At σ pre (render2 e ++ rest)) (hR : I.rel σ env) (hres : Resolved env.fns e)
    (hg : g ((pre ++ (render2 e ++ rest)).length + 1) = m + spine2 k e) :
    Agrees2 I.err ((tier (evalN f) k >>= fun v => lineBudget >>= fun b =>
              levelLoop (tier (evalN f) k) (opsAt k) (g b) v) σ)
      (fold3 n env e) σ
      (fun v env' r => levelLoop (tier (evalN f) k) (opsAt k) m v (upd σ (render2 e).length r env')) := by
  have h := hP f k σ env pre rest hd hn hlv (Nat.le_of_lt hk) hE hAt hR hres
  rw [spine2_zero hlv, Nat.add_zero] at hg
  refine h.seq.mono (fun h => h) fun v env1 r _ hr => ⟨r, hr, ?_⟩
  rw [bind_ok (lineBudget_eq (σ := upd σ (render2 e).length r env1) hAt.1), hg]
  rfl

theorem P2_paren (n : Nat) (x : Expr2 F) (hx : PStmt2 I n x) : PStmt2 I n (.paren x) :=
  P2_atom I n _ (A2_paren I n x hx) rfl

theorem P2_fixP (n p : Nat) (x : Expr2 F) (hx : PStmt2 I n x) : PStmt2 I n (fixP2 p x) := by
  unfold fixP2; split
  · exact P2_paren I n x hx
  · exact hx

theorem S2_paren (n : Nat) (x : Expr2 F) (hx : PStmt2 I n x) : SStmt2 I n (.paren x) := by
  intro f k m g σ env pre rest hd hn _ hk hE hAt hR hres hg
  exact S2_of_P I n _ (P2_paren I n x hx) f k m g σ env pre rest hd hn (Nat.zero_le _) hk hE hAt hR hres hg

theorem S2_fixP (n p : Nat) (x : Expr2 F) (hP : PStmt2 I n x) (hS : SStmt2 I n x) : SStmt2 I n (fixP2 p x) := by
  unfold fixP2; split
  · exact S2_paren I n x hP
  · exact hS

/-- the spine case: `bin op l r` read by the loop of the tier of `op` -/
theorem S2_bin_same (n : Nat) (op : BinOp) (l r : Expr2 F) (hPl : PStmt2 I n l) (hSl : SStmt2 I n l)
    (hPr : PStmt2 I n r)
    (f m : Nat) (g : Nat → Nat) (σ : St F) (env : WEnv F) (pre rest : List (Token F))
    (hd : depth2 env.fns n (.bin op l r) ≤ f)
    (hn : σ.nesting + depth2 env.fns n (.bin op l r) ≤ Extracted.nestingLimit)
    (hE : Ends (6 - BinOp.prec op) rest) (hAt : At σ pre (render2 (.bin op l r) ++ rest))
    (hR : I.rel σ env) (hres : Resolved env.fns (.bin op l r))
    (hg : g ((pre ++ (render2 (.bin op l r) ++ rest)).length + 1)
      = m + spine2 (6 - BinOp.prec op) (.bin op l r)) :
    Agrees2 I.err ((tier (evalN f) (6 - BinOp.prec op) >>= fun v => lineBudget >>= fun b =>
              levelLoop (tier (evalN f) (6 - BinOp.prec op)) (opsAt (6 - BinOp.prec op)) (g b) v) σ)
      (fold3 n env (.bin op l r)) σ
      (fun v env' r' => levelLoop (tier (evalN f) (6 - BinOp.prec op)) (opsAt (6 - BinOp.prec op)) m v
        (upd σ (render2 (.bin op l r)).length r' env')) := by
  have hb := prec_op_bounds op
  generalize hk : 6 - BinOp.prec op = k at *
  have hk6 : k < 6 := by omega
  rw [depth2_bin] at hd hn
  have hres2 : Resolved env.fns l ∧ Resolved env.fns r := by simpa only [Resolved] using hres
  have hresL : Resolved env.fns (fixP2 (BinOp.prec op) l) := (resolved_fixP2 _ _ _).mpr hres2.1
  have hresR : Resolved env.fns (fixP2 (BinOp.prec op + 1) r) := (resolved_fixP2 _ _ _).mpr hres2.2
  have hfL : ∀ env', fold3 n env' (fixP2 (BinOp.prec op) l) = fold3 n env' l := fun _ => fold3_fixP2 _ _ _ _
  have hfR : ∀ env', fold3 n env' (fixP2 (BinOp.prec op + 1) r) = fold3 n env' r := fun _ => fold3_fixP2 _ _ _ _
  rw [render2_bin] at hAt hg ⊢
  generalize hL : fixP2 (BinOp.prec op) l = L at *
  generalize hR' : fixP2 (BinOp.prec op + 1) r = R at *
  have hAtL : At σ pre (render2 L ++ (.kw (BinOp.token op) :: (render2 R ++ rest))) := by
    simpa only [List.append_assoc, List.cons_append] using hAt
  have hEL : Ends k (.kw (BinOp.token op) :: (render2 R ++ rest)) := hk ▸ ends_op op _
  have hlvL : lv2 L ≤ k + 1 := by rw [← hL, ← hk]; exact lv_fixP2_left op l
  have hlvR : lv2 R ≤ k := by rw [← hR', ← hk]; exact lv_fixP2_right op r
  have hspL : spine2 k L = spine2 k l := by rw [← hL, ← hk]; exact spine2_fixP2 op l
  have hsp : spine2 k (.bin op l r) = spine2 k l + 1 := by simp only [spine2, hk, if_true]
  have hSL : SStmt2 I n L := hL ▸ S2_fixP I n _ l hPl hSl
  have hPR : PStmt2 I n R := hR' ▸ P2_fixP I n _ r hPr
  -- the left operand, with one more iteration in hand
  have hLres := hSL f k (m + 1) g σ env pre _ (by omega) (by omega) hlvL hk6 hEL hAtL hR hresL
    (by rw [hspL]
        have : pre ++ (render2 L ++ Token.kw (BinOp.token op) :: (render2 R ++ rest))
            = pre ++ (render2 L ++ Token.kw (BinOp.token op) :: render2 R ++ rest) := by
          simp only [List.append_assoc, List.cons_append]
        rw [this, hg, hsp]; omega)
  rw [hfL] at hLres
  rw [fold3_bin]
  refine hLres.andThen (fun h => h) fun a env1 r1 hel hr1 => ?_
  have hs1 : Step env env1 := fold3_step n l env env1 a hel
  -- one iteration of the loop
  have hAt1 : At (upd σ (render2 L).length r1 env1) (pre ++ render2 L)
      (.kw (BinOp.token op) :: (render2 R ++ rest)) := at_upd hAtL r1 env1
  have hop : opsAt (F := F) k (.kw (BinOp.token op)) = some op := by
    rw [opsAt_token, if_pos hk.symm]
  have hRres := hPR f k (mv (upd σ (render2 L).length r1 env1) 1 (r1 + 1)) env1 _ rest
    (by rw [hs1.fns]; omega) (by rw [hs1.fns, mv_nesting, upd_nesting]; omega) hlvR
    (Nat.le_of_lt hk6) hE (at_mv1 hAt1 (r1 + 1)) (I.mv (I.upd hR hs1 _ _) _ _) (by rw [hs1.fns]; exact hresR)
  rw [hfR] at hRres
  rw [levelLoop_step hAt1 hop]
  refine hRres.seq.andThen (fun h => I.start h rfl rfl rfl rfl) fun b env2 r2 _ hr2 => ?_
  have hr : σ.reads < r2 := Nat.lt_trans hr1 (Nat.lt_of_succ_lt hr2)
  rw [upd_mv, upd_upd, ← List.length_singleton (a := Token.kw (BinOp.token op)), ← List.length_append,
    ← List.length_append]
  simpa only [List.append_assoc, List.singleton_append] using (I.liftE (op.eval a b) env2 _ hr).seq

/-- the tier statement of a binary node from its spine statement -/
theorem P2_bin (n : Nat) (op : BinOp) (l r : Expr2 F) (hPl : PStmt2 I n l) (hSl : SStmt2 I n l)
    (hPr : PStmt2 I n r) : PStmt2 I n (.bin op l r) := by
  intro f j σ env pre rest hd hn hlv hj hE hAt hR hres
  have hb := prec_op_bounds op
  have hkj : 6 - BinOp.prec op + 1 ≤ j := by simp only [lv2, Expr2.prec] at hlv; omega
  have hsp := spine2_le (6 - BinOp.prec op) (.bin op l r)
  have hlen : (render2 (.bin op l r)).length ≤ (pre ++ (render2 (.bin op l r) ++ rest)).length := by
    simp only [List.length_append]; omega
  obtain ⟨m, hm'⟩ : ∃ m, (pre ++ (render2 (.bin op l r) ++ rest)).length + 1
      = (m + 1) + spine2 (6 - BinOp.prec op) (.bin op l r) :=
    ⟨(pre ++ (render2 (.bin op l r) ++ rest)).length - spine2 (6 - BinOp.prec op) (.bin op l r), by omega⟩
  have h := S2_bin_same I n op l r hPl hSl hPr f (m + 1) id σ env pre rest hd hn (hE.mono (by omega)) hAt hR hres hm'
  refine lift_level2 I hkj hE hAt ?_
  exact h.mono (fun h => h) fun v env1 r1 _ hr1 => ⟨r1 + 1, Nat.lt_succ_of_lt hr1, by
    rw [levelLoop_stop (at_upd hAt r1 env1) (hE.mono hkj), mv_upd]; rfl⟩

theorem S2_bin (n : Nat) (op : BinOp) (l r : Expr2 F) (hPl : PStmt2 I n l) (hSl : SStmt2 I n l)
    (hPr : PStmt2 I n r) : SStmt2 I n (.bin op l r) := by
  intro f k m g σ env pre rest hd hn hlv hk hE hAt hR hres hg
  by_cases hkk : 6 - BinOp.prec op = k
  · subst hkk
    exact S2_bin_same I n op l r hPl hSl hPr f m g σ env pre rest hd hn hE hAt hR hres hg
  · have hlv' : lv2 (.bin op l r) ≤ k := by
      simp only [lv2, Expr2.prec] at hlv ⊢; omega
    exact S2_of_P I n _ (P2_bin I n op l r hPl hSl hPr) f k m g σ env pre rest hd hn hlv' hk hE hAt hR hres hg

theorem S2_atom (n : Nat) (e : Expr2 F) (hP : PStmt2 I n e) (he : lv2 e = 0) : SStmt2 I n e := by
  intro f k m g σ env pre rest hd hn _ hk hE hAt hR hres hg
  exact S2_of_P I n _ hP f k m g σ env pre rest hd hn (by omega) hk hE hAt hR hres hg

theorem A2_fixP8 (n : Nat) (x : Expr2 F) (hP : PStmt2 I n x) (hA : AStmt2 I n x) : AStmt2 I n (fixP2 8 x) := by
  unfold fixP2; split
  · exact A2_paren I n x hP
  · exact hA

theorem P2_un (n : Nat) (op : UnOp) (x : Expr2 F) (hP : PStmt2 I n x) (hA : AStmt2 I n x) :
    PStmt2 I n (.un op x) := by
  intro f j σ env pre rest hd hn _ _ hE hAt hR hres
  rw [depth2_un] at hd hn
  have hAt0 : At σ pre (.kw (UnOp.token op) :: (render2 (fixP2 8 x) ++ rest)) := by
    rw [render2_un] at hAt; exact hAt
  have hAt1 := at_mv1 hAt0 (σ.reads + 1)
  have hres' : Resolved env.fns (fixP2 8 x) :=
    (resolved_fixP2 _ _ _).mpr (by simpa only [Resolved] using hres)
  have hX := A2_fixP8 I n x hP hA f (mv σ 1 (σ.reads + 1)) env _ rest hd hn (prec_fixP2_8 x)
    (hE.mono (Nat.zero_le _)) hAt1 (I.mv hR _ _) hres'
  rw [fold3_fixP2] at hX
  refine lift_level2 I (Nat.zero_le _) hE hAt ?_
  show Agrees2 I.err (unaryExpr (evalN f) σ) _ _ _
  unfold unaryExpr
  rw [bind_ok (tryNext_some hAt0 (unop_ofToken op)), fold3_un, render2_un, List.length_cons,
    Nat.add_comm (List.length _)]
  refine hX.seq.andThen (fun h => I.start h rfl rfl rfl rfl) fun v env1 r _ hr => ?_
  rw [upd_mv]
  exact I.liftE (op.eval v) env1 _ (Nat.lt_of_succ_lt hr)

theorem A2_un (n : Nat) (op : UnOp) (x : Expr2 F) : AStmt2 I n (.un op x) := by
  intro f σ env pre rest _ _ he
  simp [Expr2.prec] at he

theorem A2_bin (n : Nat) (op : BinOp) (l r : Expr2 F) : AStmt2 I n (.bin op l r) := by
  intro f σ env pre rest _ _ he
  have := prec_op_bounds op
  simp only [Expr2.prec] at he
  omega

theorem numberFunctionArg_eq2 (n : Nat) (x : Expr2 F) (hx : PStmt2 I n x) (f : Nat) (σ : St F) (env : WEnv F)
    (pre rest : List (Token F))
    (hd : depth2 env.fns n x + 1 ≤ f) (hn : σ.nesting + (depth2 env.fns n x + 1) ≤ Extracted.nestingLimit)
    (hAt : At σ pre (.kw .LeftParen :: (render2 x ++ (.kw .RightParen :: rest)))) (hR : I.rel σ env)
    (hres : Resolved env.fns x) :
    Agrees2 I.err (numberFunctionArg (evalN f) σ) (numArg (fold3 n env x)) σ
      (fun y env' r => .ok y (upd σ ((render2 x).length + 2) r env')) := by
  have hAt1 := at_mv1 hAt (σ.reads + 1)
  have hX := expr_eq2 I n x hx f (mv σ 1 (σ.reads + 1)) env _ _ hd hn (ends_rparen 6 rest) hAt1 (I.mv hR _ _) hres
  unfold numberFunctionArg
  rw [bind_ok (expect_eq hAt rfl), numArg_eq]
  refine hX.seq.andThen (fun h => I.start h rfl rfl rfl rfl) fun v env1 r _ hr => ?_
  rw [upd_mv]
  cases v with
  | str s => exact I.failed rfl
  | num y =>
    refine ⟨r + 1, by simp only [mv_reads] at hr; omega, ?_⟩
    show (expect .RightParen >>= fun _ => pure y) _ = _
    rw [bind_ok (expect_eq (at_upd_mv hAt1 r env1) rfl), mv_upd]
    exact congrArg (Res.ok y) (upd_congr _ _ _ (by omega))

theorem numArg_step {n : Nat} {env : WEnv F} {x : Expr2 F} {y : F} {env1 : WEnv F}
    (h : numArg (fold3 n env x) = .ok (y, env1)) : Step env env1 := by
  cases hev : fold3 n env x with
  | error e => rw [hev] at h; cases h
  | ok p =>
    obtain ⟨v, e1⟩ := p
    rw [hev] at h
    cases v with
    | str s => cases h
    | num z => cases h; exact fold3_step n x env _ _ hev

/-- a built-in applied to its argument: the argument, then what `hK` says the built-in does with the number -/
theorem A2_builtin (n : Nat) (b : Builtin)
    (hK : ∀ (y : F) (σ' : St F) (env1 : WEnv F), I.rel σ' env1 →
      match post b env1 y with
      | .ok q => b.after y σ' = .ok q.1 (upd σ' 0 σ'.reads q.2)
      | .error e => b.after y σ' = .err { err := e } σ')
    (x : Expr2 F) (hx : PStmt2 I n x) : AStmt2 I n (b.node x) := by
  intro f σ env pre rest hd hn _ _ hAt hR hres
  rw [b.render2_node] at hAt ⊢
  have hAt : At σ pre (.symbol b.name :: .kw .LeftParen :: (render2 x ++ (.kw .RightParen :: rest))) := by
    simpa only [List.cons_append, List.append_assoc, List.nil_append] using hAt
  rw [depth2_node] at hd hn
  have hAt1 := at_mv1 hAt (σ.reads + 1 + 1)
  have hAt2 := at_mv0 hAt1 (σ.reads + 1 + 1 + 1)
  rw [mv_mv, Nat.add_zero] at hAt2
  have hN := numberFunctionArg_eq2 I n x hx f (mv σ 1 (σ.reads + 1 + 1 + 1)) env _ _ hd hn hAt2 (I.mv hR _ _)
    ((resolved_node _ b x).1 hres)
  rw [parenExpr_named _ hAt, functionCall_name, fold3_node, bind_bind]
  refine hN.seq.andThen (fun h => I.start h rfl rfl rfl rfl) fun y env1 r hev hr => ?_
  rw [upd_mv, bind_bind]
  have hKy := hK y _ env1 (I.upd hR (numArg_step hev) (1 + ((render2 x).length + 2)) r)
  cases hp : post b env1 y with
  | error err =>
    rw [hp] at hKy
    exact I.failed (bind_err hKy)
  | ok q =>
    rw [hp] at hKy
    refine ⟨r, by simp only [mv_reads] at hr; omega, ?_⟩
    rw [bind_ok hKy, upd_upd]
    exact congrArg (Res.ok q.1) (upd_congr _ _ _ (by
      simp only [List.length_cons, List.length_append, List.length_nil]; omega))

theorem upd_zero_self {σ : St F} {env : WEnv F} (h : Tracks σ env) : upd σ 0 σ.reads env = σ := by
  rw [h.upd_eq]; rfl

theorem A2_abs (n : Nat) (x : Expr2 F) (hx : PStmt2 I n x) : AStmt2 I n (.abs x) :=
  A2_builtin I n .abs (fun y σ' env1 hR1 => by simp only [post, upd_zero_self (I.tracks hR1)]; rfl) x hx

theorem A2_int (n : Nat) (x : Expr2 F) (hx : PStmt2 I n x) : AStmt2 I n (.int x) :=
  A2_builtin I n .int (fun y σ' env1 hR1 => by simp only [post, upd_zero_self (I.tracks hR1)]; rfl) x hx

end tiers

/-! ### RND, cells and calls: states related by `Rel` -/

theorem upd_rng_eq {n : Nat} {σ : St F} {env : WEnv F} (h : Rel n σ env) (s : Nat) :
    upd σ 0 σ.reads { env with rng := s } = { σ with rng := s } := by
  simp only [upd, ← h.arrays, ← h.out, Nat.add_zero]

theorem A2_rnd (n : Nat) (x : Expr2 F) (hx : PStmt2 (.full n) n x) : AStmt2 (.full n) n (.rnd x) := by
  refine A2_builtin (.full n) n .rnd ?_ x hx
  · intro y σ' env1 hR1
    show match rndStep3 env1 y with
      | .ok q => (rnd y >>= fun r => pure (Value.num r)) σ' = .ok q.1 (upd σ' 0 σ'.reads q.2)
      | .error e => (rnd y >>= fun r => pure (Value.num r)) σ' = .err { err := e } σ'
    cases hneg : NumOps.lt y (NumOps.zero : F) with
    | true =>
      rw [rndStep3_neg env1 y hneg]
      simp only
      rw [bind_err (Props.C18.rnd_negative y σ' hneg)]
    | false =>
      cases hz : NumOps.eq y (NumOps.zero : F) with
      | true =>
        rw [rndStep3_zero env1 y hneg hz]
        simp only
        rw [bind_ok (Props.C18.rnd_zero y σ' hneg hz), upd_zero_self (Rel.tracks hR1), hR1.rng]
        rfl
      | false =>
        rw [rndStep3_pos env1 y hneg hz]
        simp only
        rw [bind_ok (rnd_pos y σ' (by rw [hR1.rng]; exact hR1.rng_ok) hneg hz), hR1.rng]
        generalize rngStep env1.rng = s
        generalize (rngValue s : F) = vv
        rw [upd_rng_eq hR1]
        rfl

/-- `arrayIndexLoop` on `e₁ , … , eₖ )`; the loop asks of the invariant its laws only -/
theorem idx_loop (I : Inv F) (n : Nat) : ∀ (es : List (Expr2 F)), es ≠ [] → (∀ x ∈ es, PStmt2 I n x) →
    ∀ (f b : Nat) (acc : List Nat) (σ : St F) (env : WEnv F) (pre rest : List (Token F)),
    depthArgs env.fns n es ≤ f → σ.nesting + depthArgs env.fns n es ≤ Extracted.nestingLimit →
    es.length ≤ b → At σ pre (renderArgs es ++ (.kw .RightParen :: rest)) → I.rel σ env →
    ResolvedL env.fns es →
    Agrees2 I.err (arrayIndexLoop (evalN f) b acc σ) (foldIdx3 n env es) σ
      (fun is env' r => .ok (acc ++ is) (upd σ (renderArgs es).length r env')) := by
  intro es
  induction es with
  | nil => intro h; exact absurd rfl h
  | cons x es ih =>
    intro _ hP f b acc σ env pre rest hd hn hb hAt hR hres
    obtain ⟨b', rfl⟩ : ∃ b', b = b' + 1 := ⟨b - 1, by simp only [List.length_cons] at hb; omega⟩
    rw [depthArgs_cons] at hd hn
    simp only [ResolvedL] at hres
    rw [foldIdx3_cons, arrayIndexLoop, renderArgs_eq]
    rw [renderArgs_eq, List.append_assoc] at hAt
    have hX := expr_eq2 I n x (hP x (List.mem_cons_self ..)) f σ env pre _ (by omega) (by omega)
      (ends_argsTail es rest) hAt hR hres.1
    refine hX.seq.andThen id fun v env1 r hev hr => ?_
    have hAt1 := at_upd hAt r env1
    cases v with
    | str s => exact I.failed rfl
    | num z =>
      simp only [subscript]
      by_cases hneg : NumOps.toI64 z < 0
      · simp only [hneg, ↓reduceIte]
        exact I.failed rfl
      · simp only [hneg, ↓reduceIte]
        cases es with
        | nil =>
          refine ⟨r + 1, by omega, ?_⟩
          rw [bind_ok (accept_false hAt1 rfl), mv_upd]
          simp only [Bool.false_eq_true, ↓reduceIte, upd_reads, pure_eq, Nat.add_zero, argsTail, List.append_nil]
        | cons y ys =>
          have hs1 : Step env env1 := fold3_step n x env env1 _ hev
          rw [bind_ok (accept_true hAt1 rfl)]
          refine (ih (by simp) (fun z hz => hP z (List.mem_cons_of_mem _ hz)) f b'
            (acc ++ [(NumOps.toI64 z).toNat]) (mv (upd σ (render2 x).length r env1) 1 (r + 1)) env1 _ rest
            (by rw [hs1.fns]; omega) (by rw [hs1.fns, mv_nesting, upd_nesting]; omega)
            (by simp only [List.length_cons] at hb ⊢; omega) (at_mv1 hAt1 (r + 1)) (I.mv (I.upd hR hs1 _ _) _ _)
            (by rw [hs1.fns]; exact hres.2)).andThen (fun h => I.start h rfl rfl rfl rfl) fun is env2 r2 _ hr2 => ⟨r2, by simp only [mv_reads] at hr2; omega, ?_⟩
          rw [upd_mv, upd_upd, List.append_assoc]
          exact congrArg (Res.ok _) (upd_congr _ _ _ (by
            simp only [argsTail, List.length_append, List.length_cons]; omega))

theorem arrayGet_eq (n : Nat) (name : Str) (is : List Nat) (σ : St F) (env : WEnv F) (hR : Rel n σ env) :
    match readCell env.toRefEnv name is with
    | .ok q => arrayGet name is σ = .ok q.1 (upd σ 0 σ.reads { env with toRefEnv := q.2 })
    | .error e => ∃ σ', arrayGet name is σ = .err { err := e } σ' ∧ Keeps σ { err := e } σ' := by
  unfold readCell
  rw [ArrayL.arrayGet_def]
  cases hg : alGet name env.arrays with
  | some a =>
    have hhas : alHas name σ.arrays = true := by unfold alHas; rw [hR.arrays, hg]; rfl
    have h1 : ensureArray name is.length σ = .ok () σ := by
      simp only [ensureArray, bind, M.bindM, M.get, hhas, ↓reduceIte]; rfl
    have hg' : alGet name σ.arrays = some a := by rw [hR.arrays]; exact hg
    rw [bind_ok h1]
    simp only [bind, M.bindM, M.get, hg']
    rw [ArrayL.cellM_eq a is (hR.arrs_ok name a hg)]
    cases readAt a is with
    | error e => exact ⟨σ, rfl, Keeps.refl _ _⟩
    | ok v => simp only [upd_zero_self hR.tracks]
  | none =>
    have hhas : alHas name σ.arrays = false := by unfold alHas; rw [hR.arrays, hg]; rfl
    cases hc : ArrayV.create (F := F) name (List.replicate is.length Extracted.defaultArraySize) with
    | error e =>
      refine ⟨σ, ?_, Keeps.refl _ _⟩
      have h1 : ensureArray name is.length σ = .err { err := e } σ := by
        simp only [ensureArray, bind, M.bindM, M.get, hhas, Bool.false_eq_true, ↓reduceIte, hc]; rfl
      rw [bind_err h1]
    | ok a =>
      have h1 : ensureArray name is.length σ = .ok () { σ with arrays := alSet name a σ.arrays } := by
        simp only [ensureArray, bind, M.bindM, M.get, hhas, Bool.false_eq_true, ↓reduceIte, hc]; rfl
      rw [bind_ok h1]
      simp only [bind, M.bindM, M.get, Props.C16.alGet_alSet_self]
      rw [ArrayL.cellM_eq a is (Props.C16.create_arrOk _ _ _ hc).cells_len]
      cases readAt a is with
      | error e => exact ⟨_, rfl, rfl, rfl, rfl, Or.inl rfl⟩
      | ok v =>
        simp only
        congr 1
        simp only [upd, ← hR.arrays, ← hR.rng, ← hR.out, Nat.add_zero]

theorem step_warnArr (env : WEnv F) (name : Str) : Step env (warnArr env name) := by
  unfold warnArr
  split
  · exact ⟨rfl, rfl, rfl, id, id, rfl, rfl, rfl⟩
  · exact Step.refl _

theorem warnUndeclaredArray_eq (n : Nat) (name : Str) (σ : St F) (env : WEnv F) (hR : Rel n σ env) :
    warnUndeclaredArray name σ = .ok () (upd σ 0 σ.reads (warnArr env name)) := by
  unfold warnArr
  simp only [warnUndeclaredArray, bind, M.bindM, M.get, hR.warn, hR.arrays]
  cases hc : (env.warn && !alHas name env.arrays) with
  | false =>
    simp only [Bool.false_eq_true, ↓reduceIte]
    rw [upd_zero_self hR.tracks]
    rfl
  | true =>
    simp only [↓reduceIte]
    have hwarn : env.warn = true := (Bool.and_eq_true _ _ ▸ hc).1
    exact warn_state hR.tracks (undeclArrMsg name) 0 σ.reads hwarn

theorem arrayIndex_cons (I : Inv F) (n : Nat) (x : Expr2 F) (xs : List (Expr2 F)) (hP : ∀ y ∈ x :: xs, PStmt2 I n y)
    (f : Nat) (σ : St F) (env : WEnv F) (pre rest : List (Token F))
    (hd : depthArgs env.fns n (x :: xs) ≤ f)
    (hn : σ.nesting + depthArgs env.fns n (x :: xs) ≤ Extracted.nestingLimit)
    (hAt : At σ pre (.kw .LeftParen :: (renderArgs (x :: xs) ++ (.kw .RightParen :: rest))))
    (hR : I.rel σ env) (hres : ResolvedL env.fns (x :: xs)) :
    Agrees2 I.err (arrayIndex (evalN f) σ) (foldIdx3 n env (x :: xs)) σ
      (fun is env' r => .ok is (upd σ ((renderArgs (x :: xs)).length + 2) r env')) := by
  have hAt3 := at_mv1 hAt (σ.reads + 1)
  unfold arrayIndex
  rw [bind_ok (expect_eq hAt rfl), bind_ok (lineBudget_eq hAt3.1)]
  have hb : (x :: xs).length ≤ ((pre ++ [Token.kw Kw.LeftParen]) ++
      (renderArgs (x :: xs) ++ Token.kw Kw.RightParen :: rest)).length + 1 := by
    have := renderArgs_length (x :: xs)
    simp only [List.length_append] at this ⊢
    omega
  have hL := idx_loop I n (x :: xs) (by simp) hP f _ [] (mv σ 1 (σ.reads + 1)) env _ rest
    hd (by simpa only [mv_nesting] using hn) hb hAt3 (I.mv hR _ _) hres
  refine hL.seq.mono (fun h => I.start h rfl rfl rfl rfl) fun is env1 r _ hr => ⟨r + 1, by simp only [mv_reads] at hr; omega, ?_⟩
  rw [upd_mv, bind_ok (expect_eq (at_upd_mv hAt3 r env1) rfl), mv_upd]
  exact congrArg (Res.ok _) (upd_congr _ _ _ (by omega))

/-- `arrayIndex` on `( e₁ , … , eₖ )`, the empty list `( )` included -/
theorem arrayIndex_agree (n : Nat) (idx : List (Expr2 F)) (hP : ∀ x ∈ idx, PStmt2 (.full n) n x)
    (f : Nat) (σ : St F) (env : WEnv F) (pre rest : List (Token F))
    (hd : depthArgs env.fns n idx ≤ f) (hn : σ.nesting + depthArgs env.fns n idx ≤ Extracted.nestingLimit)
    (hAt : At σ pre (.kw .LeftParen :: (renderArgs idx ++ (.kw .RightParen :: rest))))
    (hR : Rel n σ env) (hres : ResolvedL env.fns idx) :
    Agrees2 Keeps (arrayIndex (evalN f) σ) (foldIdx3 n env idx) σ
      (fun is env' r => .ok is (upd σ ((renderArgs idx).length + 2) r env')) := by
  cases idx with
  | cons x xs => exact arrayIndex_cons (.full n) n x xs hP f σ env pre rest hd hn hAt hR hres
  | nil =>
    have hAt3 := at_mv1 hAt (σ.reads + 1)
    unfold arrayIndex
    rw [bind_ok (expect_eq hAt rfl), bind_ok (lineBudget_eq hAt3.1), foldIdx3]
    rw [renderArgs_nil] at hAt3
    obtain ⟨te, σ', hσ', hx', hk'⟩ := expr_rparen f (mv σ 1 (σ.reads + 1)) _ rest
      (by have := depthArgs_pos env.fns n ([] : List (Expr2 F)); omega)
      (by have := depthArgs_pos env.fns n ([] : List (Expr2 F)); simp only [mv_nesting]; unfold Extracted.nestingLimit at *; omega)
      hAt3
    refine ⟨te, σ', ?_, hx', hk'⟩
    rw [arrayIndexLoop]
    exact bind_err (bind_err hσ')

/-- `name ( e₁ , … , eₖ )` where `name` is neither a built-in nor a defined function -/
theorem cell_core (n : Nat) (name : Str) (idx : List (Expr2 F)) (hP : ∀ x ∈ idx, PStmt2 (.full n) n x)
    (f : Nat) (σ : St F) (env : WEnv F) (pre rest : List (Token F))
    (hd : depthArgs env.fns n idx ≤ f) (hn : σ.nesting + depthArgs env.fns n idx ≤ Extracted.nestingLimit)
    (hAt : At σ pre (.symbol name :: .kw .LeftParen :: (renderArgs idx ++ (.kw .RightParen :: rest))))
    (hR : Rel n σ env) (hrv : reserved name = false) (hnf : alGet name env.fns = none)
    (hres : ResolvedL env.fns idx) :
    Agrees2 Keeps (parenExpr (evalN f) σ) (foldIdx3 n env idx >>= fun p => readCell3 p.2 name p.1) σ
      (fun v env' r => .ok v (upd σ ((renderArgs idx).length + 3) r env')) := by
  have hAt1 := at_mv1 hAt (σ.reads + 1 + 1)
  have hAt2 := at_mv0 hAt1 (σ.reads + 1 + 1 + 1)
  rw [mv_mv, Nat.add_zero] at hAt2
  rw [parenExpr_named _ hAt]
  have hfc : functionCall (evalN f) name (mv σ 1 (σ.reads + 1 + 1 + 1))
      = .ok none (mv σ 1 (σ.reads + 1 + 1 + 1)) := by
    rw [functionCall_unreserved _ _ hrv]
    simp only [userFunctionCall, bind, M.bindM, M.get, mv, hR.fns.undef name hnf]
    rfl
  rw [bind_ok hfc]
  simp only
  have hL := arrayIndex_agree n idx hP f (mv σ 1 (σ.reads + 1 + 1 + 1)) env _ rest hd
    (by simpa only [mv_nesting] using hn) hAt2 (hR.mv _ _) hres
  refine hL.seq.andThen id fun is env1 r hev hr => ?_
  rw [upd_mv]
  have hs1 : Step env env1 := foldIdx3_step n _ env env1 is hev
  rw [bind_ok (warnUndeclaredArray_eq n name _ env1 (hR.upd hs1 _ _))]
  simp only [upd_reads, upd_upd]
  have hG := arrayGet_eq n name is _ _ (hR.upd (hs1.trans (step_warnArr env1 name))
    (1 + ((renderArgs idx).length + 2) + 0) r)
  unfold readCell3
  cases hrc : readCell (warnArr env1 name).toRefEnv name is with
  | error e =>
    rw [hrc] at hG
    obtain ⟨σ', hσ2, hk'⟩ := hG
    exact ⟨_, σ', hσ2, rfl, hk'⟩
  | ok q =>
    rw [hrc] at hG
    simp only [upd_reads, upd_upd] at hG
    exact ⟨r, by simp only [mv_reads] at hr; omega, hG.trans (congrArg (Res.ok _) (upd_congr _ _ _ (by omega)))⟩

theorem A2_cell (n : Nat) (name : Str) (idx : List (Expr2 F)) (hP : ∀ x ∈ idx, PStmt2 (.full n) n x) :
    AStmt2 (.full n) n (.cell name idx) := by
  intro f σ env pre rest hd hn _ _ hAt hR hres
  rw [render2_cell] at hAt ⊢
  rw [depth2_cell] at hd hn
  simp only [Resolved] at hres
  have hAt' : At σ pre (.symbol name :: .kw .LeftParen :: (renderArgs idx ++ (.kw .RightParen :: rest))) := by
    simpa only [List.cons_append, List.append_assoc, List.nil_append] using hAt
  rw [fold3_cell, length_call_tokens]
  exact cell_core n name idx hP f σ env pre rest hd hn hAt' hR hres.1 hres.2.1 hres.2.2

/-- `bindArgs` (followed by the closing parenthesis and any continuation `K`) on
    `a₁ , … , aₖ )`, with at least one parameter left and at least one argument -/
theorem bind_loop {α : Type} (n : Nat) (K : List (Str × Value F) → M F α) :
    ∀ (as : List (Expr2 F)), as ≠ [] → (∀ x ∈ as, PStmt2 (.full n) n x) →
    ∀ (ps : List Str), ps ≠ [] →
    ∀ (f arity i : Nat) (acc : List (Str × Value F)) (σ : St F) (env : WEnv F) (pre rest : List (Token F)),
    arity = i + ps.length →
    depthArgs env.fns n as ≤ f → σ.nesting + depthArgs env.fns n as ≤ Extracted.nestingLimit →
    At σ pre (renderArgs as ++ (.kw .RightParen :: rest)) → Rel n σ env → ResolvedL env.fns as →
    Agrees2 Keeps ((bindArgs (evalN f) arity ps i acc >>= fun b => expect .RightParen >>= fun _ => K b) σ)
      (bindArgs3 n env ps as acc) σ
      (fun b env' r => K b (upd σ ((renderArgs as).length + 1) r env')) := by
  intro as
  -- Induction on the arguments, with all that a round changes (`ps`, `i`, `acc`, `σ`, `env`) left general. The invariant
  -- `arity = i + ps.length` turns the interpreter's test `i + 1 < arity` (a comma is due) into `ps' ≠ []`.
  induction as with
  | nil => intro h; exact absurd rfl h
  | cons a as ih =>
    intro _ hP ps hps f arity i acc σ env pre rest har hd hn hAt hR hres
    obtain ⟨p, ps', rfl⟩ : ∃ p ps', ps = p :: ps' := by
      cases ps with
      | nil => exact absurd rfl hps
      | cons p ps' => exact ⟨p, ps', rfl⟩
    rw [depthArgs_cons] at hd hn
    simp only [ResolvedL] at hres
    rw [bindArgs3_cons, bindArgs, bind_assoc', renderArgs_eq]
    rw [renderArgs_eq, List.append_assoc] at hAt
    have hX := expr_eq2 (.full n) n a (hP a (List.mem_cons_self ..)) f σ env pre _ (by omega) (by omega)
      (ends_argsTail as rest) hAt hR hres.1
    refine hX.seq.andThen id fun v env1 r hev hr => ?_
    have hAt1 := at_upd hAt r env1
    cases hm : v.matchesName p with
    | false =>
      simp only [Bool.not_false, ↓reduceIte, Bool.false_eq_true]
      exact .fail rfl
    | true =>
      simp only [Bool.not_true, Bool.false_eq_true, ↓reduceIte]
      -- parameters left × arguments left. Both run out: the `)` is read; neither does: the comma, then `ih`. In the two
      -- mixed cases the interpreter fails at `expect` on the token it meets, `bindArgs3` by its clause for that shape.
      cases ps' with
      | nil =>
        have hlt : ¬ (i + 1 < arity) := by simp only [List.length_cons, List.length_nil] at har; omega
        simp only [hlt, ↓reduceIte]
        rw [bindArgs]
        have h2 : (pure (alSet p v acc) : M F _) (upd σ (render2 a).length r env1)
            = .ok (alSet p v acc) (upd σ (render2 a).length r env1) := rfl
        rw [bind_ok h2]
        cases as with
        | nil =>
          rw [bindArgs3]
          refine ⟨r + 1, by omega, ?_⟩
          rw [bind_ok (expect_eq hAt1 rfl), mv_upd]
          simp only [argsTail, List.append_nil, upd_reads]
        | cons a' as' =>
          rw [bindArgs3]
          exact .fail (bind_err (expect_fail hAt1 rfl))
      | cons p' ps'' =>
        have hlt : i + 1 < arity := by simp only [List.length_cons] at har; omega
        simp only [hlt, ↓reduceIte]
        rw [bind_assoc']
        cases as with
        | nil =>
          -- that clause of `bindArgs3` wants `acc` visibly a cons (with `[]` it is `unexpectedToken`: see `call_args`)
          obtain ⟨y, ys, hys⟩ := alSet_cons p v acc
          rw [hys, bindArgs3]
          exact .fail (bind_err (expect_fail hAt1 rfl))
        | cons a' as' =>
          have hs1 : Step env env1 := fold3_step n a env env1 v hev
          rw [bind_ok (expect_eq hAt1 rfl)]
          refine (ih (by simp) (fun z hz => hP z (List.mem_cons_of_mem _ hz)) (p' :: ps'') (by simp)
            f arity (i + 1) (alSet p v acc) (mv (upd σ (render2 a).length r env1) 1 (r + 1)) env1 _ rest
            (by simp only [List.length_cons] at har ⊢; omega)
            (by rw [hs1.fns]; omega) (by rw [hs1.fns, mv_nesting, upd_nesting]; omega)
            (at_mv1 hAt1 (r + 1)) ((hR.upd hs1 _ _).mv _ _) (by rw [hs1.fns]; exact hres.2)).mono id
            fun b env2 r2 _ hr2 => ⟨r2, by simp only [mv_reads] at hr2; omega, ?_⟩
          rw [upd_mv, upd_upd]
          exact congrArg (K b) (upd_congr _ _ _ (by
            simp only [argsTail, List.length_append, List.length_cons]; omega))

/-- all four shapes of parameter list × argument list -/
theorem call_args {α : Type} (n : Nat) (K : List (Str × Value F) → M F α)
    (as : List (Expr2 F)) (hP : ∀ x ∈ as, PStmt2 (.full n) n x) (ps : List Str)
    (f : Nat) (σ : St F) (env : WEnv F) (pre rest : List (Token F))
    (hd : depthArgs env.fns n as ≤ f) (hn : σ.nesting + depthArgs env.fns n as ≤ Extracted.nestingLimit)
    (hAt : At σ pre (renderArgs as ++ (.kw .RightParen :: rest))) (hR : Rel n σ env)
    (hres : ResolvedL env.fns as) :
    Agrees2 Keeps ((bindArgs (evalN f) ps.length ps 0 [] >>= fun b => expect .RightParen >>= fun _ => K b) σ)
      (bindArgs3 n env ps as []) σ
      (fun b env' r => K b (upd σ ((renderArgs as).length + 1) r env')) := by
  cases as with
  | nil =>
    rw [renderArgs_nil] at hAt ⊢
    have hAt : At σ pre (.kw .RightParen :: rest) := hAt
    cases ps with
    | nil =>
      rw [bindArgs3, bindArgs]
      refine ⟨σ.reads + 1, by omega, ?_⟩
      have h2 : (pure [] : M F (List (Str × Value F))) σ = .ok [] σ := rfl
      rw [bind_ok h2, bind_ok (expect_eq hAt rfl)]
      show K [] _ = K [] (upd σ (0 + 1) (σ.reads + 1) env)
      rw [hR.tracks.upd_eq]
    | cons p ps' =>
      rw [bindArgs3, bindArgs, bind_assoc']
      obtain ⟨te, σ', hσ', hx', hk'⟩ := expr_rparen f σ _ rest
        (by have := depthArgs_pos env.fns n ([] : List (Expr2 F)); omega)
        (by have := depthArgs_pos env.fns n ([] : List (Expr2 F)); unfold Extracted.nestingLimit at *; omega)
        hAt
      exact ⟨te, σ', bind_err hσ', hx', hk'⟩
  | cons a as' =>
    cases ps with
    | nil =>
      rw [bindArgs3, bindArgs]
      have h2 : (pure [] : M F (List (Str × Value F))) σ = .ok [] σ := rfl
      rw [bind_ok h2]
      obtain ⟨t, ts, hts, ht⟩ := render2_head a
      rw [renderArgs_eq, hts] at hAt
      exact .fail (bind_err (expect_fail hAt ht))
    | cons p ps' =>
      exact bind_loop n K (a :: as') (by simp) hP (p :: ps') (by simp) f _ 0 [] σ env pre rest
        (by simp) hd hn hAt hR hres

/-- `callBody`: the body of `fname` runs on its stored line with one more frame -/
theorem callBody_agree (n' : Nat) (hbody : ∀ e : Expr2 F, PStmt2 (.full n') n' e) (fname : Str) (d : FnDefSpec F)
    (f : Nat) (σ : St F) (env : WEnv F) (b : List (Str × Value F))
    (hR : Rel (n' + 1) σ env) (hd : alGet fname env.fns = some d)
    (hdep : depth2 env.fns n' d.body + 1 ≤ f)
    (hn : σ.nesting + (depth2 env.fns n' d.body + 1) ≤ Extracted.nestingLimit) :
    Agrees2 Keeps (Proofs.XF.callBody (evalN f) fname b σ) (bodySpec n' env fname d b) σ
      (fun v env' r => .ok (some v) (upd σ 0 r env')) := by
  unfold bodySpec
  obtain ⟨fd, pre_d, tail, hfd, _, hline, hidx, hE⟩ := hR.fns.defd fname d hd
  have hlen : σ.stack.length = env.frames.length := by rw [← hR.frames, List.length_map]
  rw [Proofs.XF.callBody_eq, hlen]
  by_cases hl : (env.frames.length == Extracted.stackLimit) = true
  · rw [if_pos hl, if_pos hl]
    exact .fail rfl
  · rw [if_neg hl, if_neg hl]
    simp only [hfd]
    have hcap : σ.stack.length + 1 ≤ Extracted.stackLimit := by
      have := hR.cap
      have : σ.stack.length ≠ Extracted.stackLimit := by
        rw [hlen]; simpa using hl
      omega
    have hdl : defLine env.sfns fname = some fd.line := by
      unfold defLine
      rw [← hR.sfns, hfd]
      rfl
    -- the frame pushed pays for the unit of fuel: `Rel.fuel` bounds fuel plus stack height from below, so `n'` on a stack
    -- one higher is `n' + 1` on that of `σ`; `Rel.cap` for the higher stack is the stack check just passed (`hcap`)
    have hRp : Rel n' (pushed σ b fd.line fd.idx)
        { env with frames := b :: env.frames, line := defLine env.sfns fname } := by
      refine ⟨hR.vars, ?_, hR.arrays, hR.rng, hR.out, hR.warn, hdl.symm, hR.sfns, ⟨hR.fns.undef, hR.fns.defd⟩, hcap, ?_,
        hR.arrs_ok, hR.rng_ok, hR.bodies⟩
      · simp only [List.map_cons, hR.frames]
      · have := hR.fuel
        simp only [List.length_cons]
        omega
    have hAtp : At (pushed σ b fd.line fd.idx) pre_d (render2 d.body ++ tail) :=
      ⟨by simp only [lineToks, hline], hidx⟩
    have hX := expr_eq2 (.full n') n' d.body (hbody _) f (pushed σ b fd.line fd.idx)
      { env with frames := b :: env.frames, line := defLine env.sfns fname } pre_d tail hdep hn hE hAtp hRp
      (hR.bodies fname d hd)
    cases hev : fold3 n' { env with frames := b :: env.frames, line := defLine env.sfns fname } d.body with
    | error e =>
      rw [hev] at hX
      obtain ⟨te, s, hs, hx', hk⟩ := hX
      rw [hs]
      have hst : s.stack = { ret := σ.loc, vars := b } :: σ.stack := hk.2.1
      simp only [hst]
      -- the call locates the error (`St.populate`) before it pops the frame: one that has a location (from a deeper
      -- call) keeps it; one without gets `s.prevLoc`, and `Keeps` has `s` on the line of the body: the third case of `LocOK`
      have hloc : LocOK σ (s.populate te) := by
        unfold St.populate
        split
        · exact hk.2.2.2
        · split
          · rename_i herr
            exact Or.inr (Or.inl herr)
          · exact Or.inr (Or.inr ⟨s.prevLoc, fname, fd, rfl, hfd, hk.2.2.1⟩)
      exact ⟨_, _, rfl, by rw [St.populate_err]; exact hx', hk.1, rfl, rfl, hloc⟩
    | ok q =>
      obtain ⟨v, env2⟩ := q
      rw [hev] at hX
      obtain ⟨r, hr, hs⟩ := hX
      rw [hs]
      exact ⟨r, hr, rfl⟩

omit [NumOps F] in
theorem rel_zero_false {σ : St F} {env : WEnv F} (h : Rel 0 σ env) : False := by
  have := h.cap
  have := h.fuel
  omega

theorem A2_call (n' : Nat) (hbody : ∀ e : Expr2 F, PStmt2 (.full n') n' e) (g : Str) (args : List (Expr2 F))
    (hP : ∀ x ∈ args, PStmt2 (.full (n' + 1)) (n' + 1) x) : AStmt2 (.full (n' + 1)) (n' + 1) (.call g args) := by
  intro f σ env pre rest hd hn _ _ hAt hR hres
  rw [render2_call] at hAt ⊢
  simp only [Resolved] at hres
  have hAt' : At σ pre (.symbol g :: .kw .LeftParen :: (renderArgs args ++ (.kw .RightParen :: rest))) := by
    simpa only [List.cons_append, List.append_assoc, List.nil_append] using hAt
  rw [length_call_tokens]
  cases hdf : alGet g env.fns with
  | none =>
    have hge := depth2_call_ge env.fns (n' + 1) g args
    rw [fold3_call_none _ _ _ _ hdf]
    exact cell_core (n' + 1) g args hP f σ env pre rest (by omega) (by omega) hAt' hR hres.1 hdf hres.2
  | some d =>
    rw [depth2_call_some _ _ _ _ _ hdf] at hd hn
    obtain ⟨fd, pre_d, tail, hfd, hargs, _, _, _⟩ := hR.fns.defd g d hdf
    have hAt1 := at_mv1 hAt' (σ.reads + 1 + 1)
    have hAt2 := at_mv0 hAt1 (σ.reads + 1 + 1 + 1)
    rw [mv_mv, Nat.add_zero] at hAt2
    have hAt3 := at_mv1 hAt2 (σ.reads + 1 + 1 + 1 + 1)
    rw [mv_mv] at hAt3
    rw [parenExpr_named _ hAt']
    rw [functionCall_unreserved _ _ hres.1]
    have huf : userFunctionCall (evalN f) g (mv σ 1 (σ.reads + 1 + 1 + 1)) =
        (do
          expect .LeftParen
          let bindings ← bindArgs (evalN f) fd.args.length fd.args 0 []
          expect .RightParen
          Proofs.XF.callBody (evalN f) g bindings : M F (Option (Value F))) (mv σ 1 (σ.reads + 1 + 1 + 1)) := by
      have hget : (M.get : M F (St F)) (mv σ 1 (σ.reads + 1 + 1 + 1))
          = .ok (mv σ 1 (σ.reads + 1 + 1 + 1)) (mv σ 1 (σ.reads + 1 + 1 + 1)) := rfl
      have hfd' : alGet g (mv σ 1 (σ.reads + 1 + 1 + 1)).fns = some fd := hfd
      rw [Proofs.XF.userFunctionCall_eq, bind_ok hget]
      simp only [hfd']
    have hcall : Agrees2 Keeps (userFunctionCall (evalN f) g (mv σ 1 (σ.reads + 1 + 1 + 1)))
        (fold3 (n' + 1) env (.call g args)) σ
        (fun v env' r => .ok (some v) (upd σ ((renderArgs args).length + 3) r env')) := by
      rw [huf, bind_ok (expect_eq hAt2 rfl), mv_mv, hargs]
      simp only [mv_reads]
      have hA := call_args (n' + 1) (fun b => Proofs.XF.callBody (evalN f) g b) args hP d.params f
        (mv σ (1 + 1) (σ.reads + 1 + 1 + 1 + 1)) env _ rest
        (by omega) (by simp only [mv_nesting]; omega)
        hAt3 (hR.mv _ _) hres.2
      rw [fold3_call_some _ _ _ _ _ hdf]
      refine hA.andThen id fun b env1 r hb hr => ?_
      rw [upd_mv]
      have hs1 : Step env env1 := bindArgs3_step _ _ _ _ _ _ _ hb
      exact (callBody_agree n' hbody g d f _ env1 b (hR.upd hs1 _ _) (by rw [hs1.fns]; exact hdf)
        (by rw [hs1.fns]; omega) (by rw [hs1.fns, upd_nesting]; omega)).mono id fun v env2 r2 _ hr2 =>
          ⟨r2, by simp only [upd_reads, mv_reads] at hr hr2; omega, by
            rw [upd_upd]; exact congrArg (Res.ok _) (upd_congr _ _ _ (by omega))⟩
    exact hcall.seq

theorem main3_zero (e : Expr2 F) : PStmt2 (.full 0) 0 e ∧ SStmt2 (.full 0) 0 e ∧ AStmt2 (.full 0) 0 e :=
  ⟨fun _ _ _ _ _ _ _ _ _ _ _ _ hR _ => (rel_zero_false hR).elim,
   fun _ _ _ _ _ _ _ _ _ _ _ _ _ _ hR _ _ => (rel_zero_false hR).elim,
   fun _ _ _ _ _ _ _ _ _ _ hR _ => (rel_zero_false hR).elim⟩

theorem main3_atom (I : Inv F) {n : Nat} {e : Expr2 F} (hA : AStmt2 I n e) (hp : e.prec = 8) :
    PStmt2 I n e ∧ SStmt2 I n e ∧ AStmt2 I n e :=
  ⟨P2_atom I _ _ hA hp, S2_atom I _ _ (P2_atom I _ _ hA hp) (by unfold lv2; omega), hA⟩

mutual
theorem main3_step (n' : Nat) (hbody : ∀ e : Expr2 F, PStmt2 (.full n') n' e) :
    ∀ e : Expr2 F, PStmt2 (.full (n' + 1)) (n' + 1) e ∧ SStmt2 (.full (n' + 1)) (n' + 1) e ∧
      AStmt2 (.full (n' + 1)) (n' + 1) e
  | .num x => main3_atom _ (A2_num _ _ x) rfl
  | .str s => main3_atom _ (A2_str _ _ s) rfl
  | .var v => main3_atom _ (A2_var _ _ v) rfl
  | .paren x =>
    have hx := main3_step n' hbody x
    ⟨P2_paren _ _ x hx.1, S2_paren _ _ x hx.1, A2_paren _ _ x hx.1⟩
  | .bin op l r =>
    have hl := main3_step n' hbody l
    have hr := main3_step n' hbody r
    ⟨P2_bin _ _ op l r hl.1 hl.2.1 hr.1, S2_bin _ _ op l r hl.1 hl.2.1 hr.1, A2_bin _ _ op l r⟩
  | .un op x =>
    have hx := main3_step n' hbody x
    have hP := P2_un _ _ op x hx.1 hx.2.2
    ⟨hP, S2_atom _ _ _ hP rfl, A2_un _ _ op x⟩
  | .abs x => main3_atom _ (A2_abs _ _ x (main3_step n' hbody x).1) rfl
  | .int x => main3_atom _ (A2_int _ _ x (main3_step n' hbody x).1) rfl
  | .rnd x => main3_atom _ (A2_rnd _ x (main3_step n' hbody x).1) rfl
  | .cell name idx => main3_atom _ (A2_cell _ name idx (main3_list n' hbody idx)) rfl
  | .call g args => main3_atom _ (A2_call n' hbody g args (main3_list n' hbody args)) rfl
theorem main3_list (n' : Nat) (hbody : ∀ e : Expr2 F, PStmt2 (.full n') n' e) :
    ∀ es : List (Expr2 F), ∀ x ∈ es, PStmt2 (.full (n' + 1)) (n' + 1) x
  | [], _, h => nomatch h
  | e :: es, x, h =>
    (List.mem_cons.1 h).elim (fun hx => hx ▸ (main3_step n' hbody e).1) (main3_list n' hbody es x)
end

theorem main3 (n : Nat) (e : Expr2 F) : PStmt2 (.full n) n e ∧ SStmt2 (.full n) n e ∧ AStmt2 (.full n) n e := by
  -- Induction on the fuel outside, recursion on the tree inside (`main3_step`): the body of a called function is no
  -- subtree, but it runs with a frame more, and there `Rel` holds with a unit of fuel less (`hRp` in `callBody_agree`).
  induction n generalizing e with
  -- vacuous: `Rel 0` has no instance (`rel_zero_false`: its `cap` and `fuel` contradict each other)
  | zero => exact main3_zero e
  | succ n' ih => exact main3_step n' (fun e => (ih e).1) e

end Abasic.ExprL3
