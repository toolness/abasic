import Abasic.Proofs.Stmt3Seq
import Abasic.Proofs.Stmt2All
import Abasic.Proofs.Stmt3Toks
/-
  C03, full statement language — the statement evaluator on the statements of Ref/Stmt3.lean:
  cursor primitives with the read counter left open, the separators of
  PRINT items, what an evaluation does to the reference state (`evalE_put` …), then, for a
  `ProgView`: `StmtOK` / `BranchOK` (what the statement theorem says about one
  statement, as a statement of a line and as the branch of an IF), and LET,
  PRINT, GOTO, END, `THEN n`.
-/
set_option linter.unusedSectionVars false

namespace Abasic.Stmt3L
open Abasic Abasic.Ref Abasic.ExprL Abasic.ExprL2 Abasic.StmtL Abasic.ProgL Abasic.Prog3L Abasic.Hoare M
open Abasic.Prog2L (Rel2)

variable {F : Type} [NumOps F]

/-! ### cursor primitives, the read counter left open -/

theorem next_ex {σ : St F} {pre post : List (Token F)} {t : Token F} (h : At σ pre (t :: post)) :
    ∃ k, next σ = .ok (some t) (mv σ 1 k) := ⟨_, next_eq h⟩

theorem expect_ex {σ : St F} {pre post : List (Token F)} {t : Token F} {k : Kw}
    (h : At σ pre (t :: post)) (hk : t.isKw k = true) : ∃ c, expect k σ = .ok () (mv σ 1 c) := ⟨_, expect_eq h hk⟩

theorem optIdx_none_ex {ev : Evals F} {σ : St F} {pre post : List (Token F)}
    (h : At σ pre post) (ht : ∀ t, post.head? = some t → t.isKw .LeftParen = false) :
    ∃ c, optionalArrayIndex ev σ = .ok none (mv σ 0 c) := ⟨_, Stmt2L.optionalArrayIndex_none' h ht⟩

theorem peek_ex {σ : St F} {pre post : List (Token F)} (h : At σ pre post) :
    ∃ c, peek σ = .ok post.head? (mv σ 0 c) := ⟨_, peek_eq h⟩

theorem peekIsKw_cons_ex {σ : St F} {pre post : List (Token F)} {t : Token F} (k : Kw)
    (h : At σ pre (t :: post)) : ∃ c, peekIsKw k σ = .ok (t.isKw k) (mv σ 0 c) := ⟨_, peekIsKw_cons k h⟩

theorem head_cons_ne {t : Token F} {post : List (Token F)} {P : Token F → Bool} (h : P t = false) :
    ∀ t', (t :: post).head? = some t' → P t' = false := by
  intro t' ht'
  simp only [List.head?_cons, Option.some.injEq] at ht'
  subst ht'
  exact h

theorem sep3_tail (i : PItem3 F) (r : List (PItem3 F)) (h : separated3 (i :: r) = true) :
    separated3 r = true := by
  cases i with
  | semi => exact h
  | comma => exact h
  | expr e =>
    cases r with
    | nil => rfl
    | cons j r' =>
      cases j with
      | expr e' => exact absurd h (by simp [separated3])
      | semi => exact h
      | comma => exact h

theorem sep3_follow (e : Expr2 F) (r : List (PItem3 F)) (rest : List (Token F))
    (h : separated3 (.expr e :: r) = true) (hE : StmtEnd rest) :
    Ends 6 (renderItems3 r ++ rest) := by
  cases r with
  | nil => exact ends_of_stmtEnd hE 6
  | cons j r' =>
    cases j with
    | expr e' => exact absurd h (by simp [separated3])
    | semi => exact ends_semi 6 _
    | comma => exact ExprL2.ends_comma 6 _

/-! ### what an evaluation does to the reference state

Only arrays and generator state move, by a `Step` of the environment; every
other field of the state is that of `r.put env'` by `rfl`. -/

theorem evalE_put {r r1 : RState3 F} {e : Expr2 F} {v : Value F} (he : evalE r e = .ok (v, r1)) :
    ∃ env', Step r.env env' ∧ r1 = r.put env' := by
  unfold evalE at he
  split at he
  · cases he
  · next v' env' hev => cases he; exact ⟨env', fold2_step _ _ _ _ _ hev, rfl⟩

theorem numE3_put {r r1 : RState3 F} {e : Expr2 F} {x : F} (he : numE3 r e = .ok (x, r1)) :
    ∃ env', Step r.env env' ∧ r1 = r.put env' := by
  unfold numE3 at he
  split at he
  · cases he
  · cases he
  · next hev => cases he; exact evalE_put hev

theorem stepE3_put {r r1 : RState3 F} {c : Option (Expr2 F)} {x : F} (he : stepE3 r c = .ok (x, r1)) :
    ∃ env', Step r.env env' ∧ r1 = r.put env' := by
  cases c with
  | none => cases he; exact ⟨r.env, Step.refl _, rfl⟩
  | some c => exact numE3_put he

theorem evalIdx_put {r r1 : RState3 F} {idx : List (Expr2 F)} {is : List Nat} (he : evalIdx r idx = .ok (is, r1)) :
    ∃ env', Step r.env env' ∧ r1 = r.put env' := by
  unfold evalIdx at he
  split at he
  · cases he
  · next is' env' hev => cases he; exact ⟨env', foldIdx_step _ _ _ _ _ hev, rfl⟩

theorem put_put {r : RState3 F} {e1 e2 : RefEnv F} (h1 : Step r.env e1) (h2 : Step (r.put e1).env e2) :
    Step r.env e2 :=
  ⟨h2.vars, h2.frames, h2.fns, fun h => h2.arrs (h1.arrs h), fun h => h2.rng (h1.rng h)⟩

theorem printText3_put : ∀ (items : List (PItem3 F)) {r r' : RState3 F} {semi : Bool} {acc text : Str},
    printText3 r items semi acc = .ok (text, r') → ∃ env', Step r.env env' ∧ r' = r.put env'
  | [], r, r', semi, acc, text, h => by
    cases h; exact ⟨r.env, Step.refl _, rfl⟩
  | .semi :: rest, r, r', semi, acc, text, h => printText3_put rest (by simpa only [printText3] using h)
  | .comma :: rest, r, r', semi, acc, text, h => printText3_put rest (by simpa only [printText3] using h)
  | .expr e :: rest, r, r', semi, acc, text, h => by
    simp only [printText3] at h
    split at h
    · next v r1 hev =>
      obtain ⟨e1, s1, rfl⟩ := evalE_put hev
      obtain ⟨e2, s2, rfl⟩ := printText3_put rest h
      exact ⟨e2, put_put s1 s2, rfl⟩
    · cases h

end Abasic.Stmt3L

namespace Abasic.Stmt3V
open Abasic Abasic.Ref Abasic.ExprL Abasic.ExprL2 Abasic.StmtL Abasic.ProgL Abasic.Prog3L Abasic.Stmt3L Abasic.Hoare M
open Abasic.Prog2L (Rel2)
open Abasic.Props.C06 (embS)

variable {F : Type} [NumOps F]

/-- What the statement theorem says about `s` standing on line `n` as (part of) statement `j`: one activation
    of the statement evaluator realises the reference step. -/
def StmtOK (p : ProgView F) (n j : Nat) (s : RStmt3 F) : Prop :=
  ∀ (fuel : Nat) (σ : St F) (r : RState3 F) (pre rest : List (Token F)) (after eol : Nat),
    Sync p r σ → InLang p r s → Pos p σ n j s pre rest after eol → EndFor3 s rest → s.isLine = false → s.CoveredB →
    ResolvedS r.fns s → sdepth3 r.fns s ≤ fuel → σ.nesting + sdepth3 r.fns s ≤ Extracted.nestingLimit →
    Outcome3 p σ n after eol (stmtBody (evalN fuel) σ) (s.exec (p.data) n j r).1 (s.exec (p.data) n j r).2

/-- the same for `s` as the branch of an IF (`statementOrGoto`: one nesting level deeper) -/
def BranchOK (p : ProgView F) (n j : Nat) (s : RStmt3 F) : Prop :=
  ∀ (fuel : Nat) (σ : St F) (r : RState3 F) (pre rest : List (Token F)) (after eol : Nat),
    Sync p r σ → InLang p r s → Pos p σ n j s pre rest after eol → EndFor3 s rest → s.CoveredB →
    ResolvedS r.fns s → sdepth3 r.fns s + 1 ≤ fuel → σ.nesting + (sdepth3 r.fns s + 1) ≤ Extracted.nestingLimit →
    Outcome3 p σ n after eol (statementOrGoto (evalN fuel) σ) (s.exec (p.data) n j r).1
      (s.exec (p.data) n j r).2

section stmts
variable {p : ProgView F} {n j : Nat}

theorem Mid.assignVar {σ τ : St F} {r0 r : RState3 F} {pre rest : List (Token F)} (h : Mid p σ r0 r τ pre rest)
    (x : Str) {v : Value F} (hm : v.matchesName x = true) :
    assignValue { name := x, index := none } v τ = .ok () { τ with vars := alSet x v τ.vars } ∧
      Mid p σ r0 { r with vars := alSet x v r.vars } { τ with vars := alSet x v τ.vars } pre rest := by
  have hS := h.sync
  refine ⟨?_, ?_, h.fns, h.start.trans ⟨⟨rfl, rfl, rfl, rfl, rfl⟩, rfl, rfl, rfl⟩, h.cur.1, h.cur.2⟩
  · simp only [assignValue, setVar, hm, ↓reduceIte, M.modify]
  · exact {
      wf := hS.wf
      env := ⟨hS.env.lines, hS.env.warnings, hS.env.tracing⟩
      mem := { hS.mem with
        vars := by show alSet x v τ.vars = alSet x v r.vars; rw [hS.mem.vars]
        fns := ⟨hS.mem.fns.undef, hS.mem.fns.defd⟩ }
      typed := Stmt2L.typed_alSet hS.typed hm
      arrs := hS.arrs
      exprs := fun hf => (hS.exprs hf).congr rfl rfl rfl }

theorem gotoLine_outcome {σ τ : St F} {r0 r : RState3 F} {pf rest : List (Token F)} (h : Mid p σ r0 r τ pf rest)
    (after eol m : Nat) : Outcome3 p σ n after eol (gotoLine m τ) r (.jump m) := by
  refine outcome_start ?_ h.start
  rw [gotoLine_eq]
  refine ⟨fun hh => ?_, fun hh => ?_⟩
  · rw [if_pos hh]
    exact ⟨_, rfl, ⟨rfl, rfl, rfl, rfl, rfl⟩, h.sync.mem.congr rfl rfl rfl rfl rfl rfl rfl rfl rfl, rfl⟩
  · rw [if_neg (by rw [hh]; simp)]
    exact errFrom_fail rfl rfl rfl rfl

theorem goto_ok (m : Nat) : StmtOK p n j (.gotoS m) := by
  intro fuel σ r pre rest after eol hS hL hP _ _ hcov _ _ _
  have h0 : Mid p σ r r σ pre (.kw .Goto :: .num (NumOps.ofNat m) :: rest) :=
    .ofSync hS (by simpa only [renderS3, List.cons_append, List.nil_append] using hP.cur)
  obtain ⟨k1, h1, m1⟩ := h0.body (ev := evalN fuel) rfl
  obtain ⟨k2, h2, m2⟩ := m1.tok
  rw [h1]
  show Outcome3 p σ n after eol (gotoStatement _) _ _
  unfold gotoStatement
  rw [bind_ok h2]
  simp only [show NumOps.toU64 (NumOps.ofNat m : F) = m from hcov]
  exact gotoLine_outcome m2 _ _ _

theorem end_ok : StmtOK p n j (.endS) := by
  intro fuel σ r pre rest after eol hS hL hP _ _ _ _ _ _
  have h0 : Mid p σ r r σ pre (.kw .End :: rest) :=
    .ofSync hS (by simpa only [renderS3, List.cons_append, List.nil_append] using hP.cur)
  obtain ⟨k1, (h1 : _ = setImmediate [] (mv σ 1 k1)), -⟩ := h0.body (ev := evalN fuel) rfl
  rw [h1]
  exact ⟨_, rfl, ⟨rfl, rfl, rfl, rfl, rfl⟩, hS.mem.vars, hS.mem.arrays, hS.mem.out, rfl, rfl, fun _ => rfl⟩

theorem let_ok (x : Str) (e : Expr2 F) : StmtOK p n j (.letS x e) := by
  intro fuel σ r pre rest after eol hS hL hP hE _ _ hres hd hn
  have h0 : Mid p σ r r σ pre (.kw .Let :: .symbol x :: .kw .Equals :: (render2 e ++ rest)) :=
    .ofSync hS (by simpa only [renderS3, List.cons_append] using hP.cur)
  obtain ⟨k1, h1, m1⟩ := h0.body (ev := evalN fuel) rfl
  obtain ⟨k2, h2, m2⟩ := m1.tok
  obtain ⟨k3, h3⟩ := optIdx_none_ex (ev := evalN fuel) m2.cur (head_cons_ne rfl)
  obtain ⟨k4, h4, m4⟩ := (m2.mv0 k3).expectKw (k := .Equals) rfl
  rw [h1]
  show Outcome3 p σ n after eol (letStatement (evalN fuel) _) _ _
  unfold letStatement
  rw [bind_ok h2]
  show Outcome3 p σ n after eol (assignmentStatement (evalN fuel) x _) _ _
  unfold assignmentStatement
  rw [bind_ok h3, bind_ok h4]
  have hfull := hL.full fun s2 h => by cases s2 <;> simp [embS] at h
  refine (m4.expr fuel (.inl hfull) hres hd hn (hE.ends 6) _).outcome (fun err hx => by simp only [RStmt3.exec, hx])
    fun v r1 τ hx hτ => ?_
  cases hm : v.matchesName x with
  | false =>
    have hex : (RStmt3.letS x e).exec (p.data) n j r = (r1, .error .typeMismatch) := by
      simp only [RStmt3.exec, hx, hm, Bool.false_eq_true, ↓reduceIte]
    rw [hex]
    exact ⟨by simp, hτ.fails (.refl τ) (by simp only [assignValue, setVar, hm, Bool.false_eq_true, ↓reduceIte, M.fail])⟩
  | true =>
    have hex : (RStmt3.letS x e).exec (p.data) n j r = ({ r1 with vars := alSet x v r1.vars }, .next) := by
      simp only [RStmt3.exec, hx, hm, ↓reduceIte]
    obtain ⟨hset, m5⟩ := hτ.assignVar x hm
    rw [hex, hset]
    exact m5.done hP

theorem printLoop3_run {σ : St F} {r0 : RState3 F} {α : Type} (fuel : Nat) (rest : List (Token F)) (hE : StmtEnd rest)
    (K : Str → M F α) (items : List (PItem3 F)) :
    ∀ (k : Nat) (τ : St F) (r : RState3 F) (pre : List (Token F)) (semi : Bool) (acc : Str),
      Mid p σ r0 r τ pre (renderItems3 items ++ rest) → p.full = true → ResolvedItems r0.fns items →
      itemsDepth3 r0.fns items ≤ fuel → σ.nesting + itemsDepth3 r0.fns items ≤ Extracted.nestingLimit →
      separated3 items = true → (renderItems3 items).length < k →
      Tracks p σ r0 ((printLoop (evalN fuel) k semi acc >>= fun q => K (if q.1 then q.2 else q.2 ++ ['\n'])) τ)
        (printText3 r items semi acc) (pre ++ renderItems3 items) rest K := by
  induction items with
  | nil =>
    intro k τ r pre semi acc hm _ _ _ _ _ hk
    obtain ⟨k', rfl⟩ : ∃ k', k = k' + 1 := ⟨k - 1, by omega⟩
    have hAt' : At τ pre rest := hm.cur
    refine ⟨_, bind_ok (printLoop_stop hAt' hE), ?_⟩
    show Mid p σ r0 r (mv τ 0 _) (pre ++ []) rest
    rw [List.append_nil]
    exact hm.mv0 _
  | cons i items' ih =>
    intro k τ r pre semi acc hm hfull hres hd hn hsep hk
    obtain ⟨k', rfl⟩ : ∃ k', k = k' + 1 := ⟨k - 1, by omega⟩
    have hsep' := sep3_tail i items' hsep
    cases i with
    | semi =>
      have hm0 : Mid p σ r0 r τ pre (.kw .Semicolon :: (renderItems3 items' ++ rest)) := hm
      have hlen : (renderItems3 (PItem3.semi :: items')).length = 1 + (renderItems3 items').length := by
        simp only [renderItems3, PItem3.render, List.length_append, List.length_cons, List.length_nil]
      rw [bind_at (printLoop_semi hm0.cur)]
      have := ih k' _ r _ true acc (hm0.mv1 (τ.reads + 1 + 1)) hfull hres hd hn hsep' (by rw [hlen] at hk; omega)
      rwa [List.append_assoc] at this
    | comma =>
      have hm0 : Mid p σ r0 r τ pre (.kw .Comma :: (renderItems3 items' ++ rest)) := hm
      have hlen : (renderItems3 (PItem3.comma :: items')).length = 1 + (renderItems3 items').length := by
        simp only [renderItems3, PItem3.render, List.length_append, List.length_cons, List.length_nil]
      rw [bind_at (printLoop_comma hm0.cur)]
      have := ih k' _ r _ false (acc ++ ['\t']) (hm0.mv1 (τ.reads + 1 + 1)) hfull hres hd hn hsep' (by rw [hlen] at hk; omega)
      rwa [List.append_assoc] at this
    | expr e =>
      have hm0 : Mid p σ r0 r τ pre (render2 e ++ (renderItems3 items' ++ rest)) :=
        hm.at (by simpa only [renderItems3, PItem3.render, List.append_assoc] using hm.cur)
      have hlen : (renderItems3 (PItem3.expr e :: items')).length = (render2 e).length + (renderItems3 items').length := by
        simp only [renderItems3, PItem3.render, List.length_append]
      simp only [ResolvedItems] at hres
      simp only [itemsDepth3] at hd hn
      obtain ⟨t, ts, hts, hpl⟩ := render2_head_plain e
      have hAt1 : At τ pre (t :: (ts ++ (renderItems3 items' ++ rest))) := by rw [← List.cons_append, ← hts]; exact hm0.cur
      rw [bind_at (printLoop_expr hAt1 hpl), ExprL.bind_assoc']
      refine ((hm0.mv0 _).expr fuel (.inl hfull) hres.1 (by omega) (by omega) (sep3_follow e items' rest hsep hE) _).andThen
        (fun err hx => by simp only [printText3, hx]) fun v r1 τ1 hx hτ1 => ?_
      have hsp : printText3 r (.expr e :: items') semi acc = printText3 r1 items' false (acc ++ valueText v) := by
        simp only [printText3, hx]
      rw [hsp]
      have := ih k' τ1 r1 _ false (acc ++ valueText v) hτ1 hfull hres.2 (by omega) (by omega) hsep'
        (by have := render2_pos e; rw [hlen] at hk; omega)
      rwa [List.append_assoc] at this

theorem print_ok (items : List (PItem3 F)) : StmtOK p n j (.printS items) := by
  intro fuel σ r pre rest after eol hS hL hP hE _ hcov hres hd hn
  have h0 : Mid p σ r r σ pre (.kw .Print :: (renderItems3 items ++ rest)) :=
    .ofSync hS (by simpa only [renderS3, List.cons_append] using hP.cur)
  obtain ⟨k1, h1, m1⟩ := h0.body (ev := evalN fuel) rfl
  rw [h1]
  show Outcome3 p σ n after eol (printStatement (evalN fuel) _) _ _
  unfold printStatement
  rw [bind_ok (lineBudget_eq m1.cur.1)]
  refine (printLoop3_run fuel rest hE.stmtEnd (fun text => emit (.print text)) items _ _ r _ false [] m1 (hL.full fun s2 h => by cases s2 <;> simp [embS] at h) hres hd hn hcov
    (by simp only [List.length_append]; omega)).outcome (fun err hx => by simp only [RStmt3.exec, hx])
    fun text r1 τ hx hτ => ?_
  have hex : (RStmt3.printS items).exec (p.data) n j r = ({ r1 with out := r1.out ++ [text] }, .next) := by
    simp only [RStmt3.exec, hx]
  rw [hex]
  have hk := hτ.kept
  refine outcome_next (τ := { τ with out := .print text :: τ.out }) hP
    ⟨hk.lines, hk.warnings, hk.tracing, hk.nesting, hk.state⟩ hτ.start.line ?_ ⟨hτ.cur.1, hτ.cur.2⟩
  exact { hτ.sync.mem with
    fns := ⟨hτ.sync.mem.fns.undef, hτ.sync.mem.fns.defd⟩
    out := by
      show Out.print text :: τ.out = outRecs (r1.out ++ [text]) ++ p.base
      rw [outRecs_append, hτ.sync.mem.out]; rfl }

end stmts

end Abasic.Stmt3V
