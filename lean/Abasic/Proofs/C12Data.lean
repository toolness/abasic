import Abasic.Proofs.DataLemmas
import Abasic.Proofs.DataRun
/-
  Helper lemmas for C12Close.lean and Proofs/DataRoundTrip.lean: where the payload of a DATA statement ends
  (`dataRest`), and that a blank outside quotes never moves that end (`dataRest_blank`).
-/
namespace Abasic
open Props.C14 (AllWs allWs_append allWs_singleton trim_eq_nil_iff trim_append_ws)
variable {F : Type} [NumOps F]

theorem trim_isEmpty_iff (a : Str) : (trim a).isEmpty = true ↔ AllWs a := by
  rw [List.isEmpty_iff]
  exact trim_eq_nil_iff a

theorem allWs_snoc (a : Str) (c : Char) : AllWs (a ++ [c]) ↔ AllWs a ∧ isUnicodeWs c = true :=
  ⟨fun h => ⟨fun x hx => h x (List.mem_append_left _ hx), h c (by simp)⟩,
   fun ⟨h1, h2⟩ => allWs_append h1 (allWs_singleton h2)⟩

/-- whether an item is blank so far depends, after one more character, only on whether it
    was blank before -/
theorem trim_isEmpty_snoc (a b : Str) (c : Char) (h : (trim a).isEmpty = (trim b).isEmpty) :
    (trim (a ++ [c])).isEmpty = (trim (b ++ [c])).isEmpty := by
  rw [Bool.eq_iff_iff] at h ⊢
  rw [trim_isEmpty_iff, trim_isEmpty_iff] at h
  rw [trim_isEmpty_iff, trim_isEmpty_iff, allWs_snoc, allWs_snoc, h]

/-- What `chomp_next_token` leaves after a DATA statement with the text `pl` behind the
    keyword: `parse_data_until_colon` reports the number of bytes it consumed. -/
def dataRest (F : Type) [NumOps F] (pl : Str) : Str := dropBytes (parseData (F := F) pl).2 pl

theorem dataRest_unfinished (s : Str) (h : (DataParser.run ({} : DataParser F) s).finished = false) :
    dataRest F s = [] := by
  have := (DataParser.Cut.mk h (.inl rfl)).rest
  rwa [List.append_nil] at this

theorem dataRest_colon (a x : Str) (hf : (DataParser.run ({} : DataParser F) a).finished = false)
    (hq : (DataParser.run ({} : DataParser F) a).inQuote = false) :
    dataRest F (a ++ ':' :: x) = ':' :: x :=
  (DataParser.Cut.mk hf (.inr ⟨hq, x, rfl⟩)).rest

theorem dataRest_nil_or_colon (pl : Str) : dataRest F pl = [] ∨ ∃ r, dataRest F pl = ':' :: r := by
  obtain ⟨a, stop, rfl, hc⟩ := DataParser.cut_exists ({} : DataParser F) rfl pl
  rw [show dataRest F (a ++ stop) = stop from hc.rest]
  exact hc.stop.imp id fun h => h.2

namespace DataParser

/-- Two unfinished parser states that agree on what decides how the text is cut up:
    inside/outside quotes, and whether the current item is blank so far. -/
def Shape (p p' : DataParser F) : Prop :=
  p.finished = false ∧ p'.finished = false ∧ p.inQuote = p'.inQuote ∧
  (trim p.cur).isEmpty = (trim p'.cur).isEmpty

theorem Shape.parseChar {p p' : DataParser F} (h : Shape p p') (c : Char) :
    ((p.parseChar c).finished = true ∧ (p'.parseChar c).finished = true) ∨
    Shape (p.parseChar c) (p'.parseChar c) := by
  by_cases hcol : p.inQuote = false ∧ c = ':'
  · obtain ⟨hq, hc⟩ := hcol
    subst hc
    left
    rw [parseChar_colon p hq, parseChar_colon p' (h.2.2.1 ▸ hq)]
    exact ⟨finish_finished _, finish_finished _⟩
  · right
    have hcol' : ¬ (p'.inQuote = false ∧ c = ':') := by rw [← h.2.2.1]; exact hcol
    refine ⟨(parseChar_unfinished p c h.1 hcol).1, (parseChar_unfinished p' c h.2.1 hcol').1, ?_⟩
    obtain ⟨q, els, ch, cur, fin⟩ := p
    obtain ⟨q', els', ch', cur', fin'⟩ := p'
    obtain ⟨h1, h2, h3, h4⟩ := h
    simp only at h1 h2 h3 h4 hcol
    subst h1; subst h2; subst h3
    have hsn := trim_isEmpty_snoc cur cur' c h4
    have hnil : trim ([] : Str) = [] := rfl
    cases q with
    | true =>
      unfold DataParser.parseChar
      by_cases h3 : (c == '"') = true <;> simp [h3, pushCurrent, hnil, hsn]
    | false =>
      have hc : (c == ':') = false := by
        apply beq_false_of_ne; intro e; exact hcol ⟨rfl, e⟩
      unfold DataParser.parseChar
      cases he : (trim cur).isEmpty <;> (have he' := h4.symm; rw [he] at he') <;>
      by_cases h2 : (c == ',') = true <;> by_cases h3 : (c == '"') = true <;>
      simp [hc, h2, h3, pushCurrent, hnil, hsn, he, he']

theorem Shape.run (s : Str) : ∀ {p p' : DataParser F}, Shape p p' → (run p s).finished = false →
    Shape (run p s) (run p' s) := by
  induction s with
  | nil => intro p p' h _; exact h
  | cons c cs ih =>
    intro p p' h hf
    rw [run_cons] at hf ⊢
    rw [run_cons]
    rcases h.parseChar c with ⟨h1, _⟩ | hs
    · rw [if_pos h1] at hf; rw [h1] at hf; cases hf
    · have h1 : ¬ (p.parseChar c).finished = true := by rw [hs.1]; simp
      have h2 : ¬ (p'.parseChar c).finished = true := by rw [hs.2.1]; simp
      rw [if_neg h1] at hf
      rw [if_neg h1, if_neg h2]
      exact ih hs hf

theorem shape_blank (p : DataParser F) (w : Char) (hw : isBasicWs w = true) (hq : p.inQuote = false)
    (hf : p.finished = false) : Shape p (p.parseChar w) := by
  rw [parseChar_blank p w hw hq hf]
  refine ⟨hf, hf, rfl, ?_⟩
  simp only
  rw [trim_append_ws p.cur w (isUnicodeWs_of_isBasicWs w hw)]

theorem Cut.shape {p p' : DataParser F} {a stop : Str} (hs : Shape p p') (h : Cut p a stop) : Cut p' a stop :=
  have hr := Shape.run a hs h.unfinished
  ⟨hr.2.1, h.stop.imp id fun h => ⟨hr.2.2.1 ▸ h.1, h.2⟩⟩

end DataParser

theorem dataRest_blank (a s : Str) (w : Char) (hw : isBasicWs w = true)
    (hf : (DataParser.run ({} : DataParser F) a).finished = false)
    (hq : (DataParser.run ({} : DataParser F) a).inQuote = false) :
    dataRest F (a ++ w :: s) = dataRest F (a ++ s) := by
  have hsh := DataParser.shape_blank _ w hw hq hf
  obtain ⟨b, stop, rfl, hc⟩ := DataParser.cut_exists _ hf s
  have e : DataParser.run ({} : DataParser F) (a ++ [w]) = (DataParser.run ({} : DataParser F) a).parseChar w := by
    rw [DataParser.run_append a _ hf, DataParser.run_cons, hsh.2.1]; rfl
  have c1 := DataParser.Cut.append hf hc
  have c2 := DataParser.Cut.append (e ▸ hsh.2.1) (e ▸ hc.shape hsh)
  rw [← List.append_assoc, show dataRest F (a ++ b ++ stop) = stop from c1.rest,
    show a ++ w :: (b ++ stop) = (a ++ [w] ++ b) ++ stop by simp]
  exact c2.rest

end Abasic
