import Abasic.Tokenizer
/-
  One `chomp_next_token` as a relation.

  `NextTok cs x`: on the text `cs` the step has the outcome `x`, with the alternative that fired,
  what it matched, and that the alternatives tried before it failed (`Plain`, `Word`).  `nextTok`
  and `NextTok.eq` say that this is the graph of `nextToken`; a hypothesis
  `h : nextToken cs = .tok t r` is taken apart by `cases nextTok_of h`, which leaves exactly the
  alternatives that can produce `t`, and an outcome is established by a constructor and `.eq`.
-/
namespace Abasic
variable {F : Type} [NumOps F]

/-- what `chomp_next_token` does once keyword, operator and string have been ruled out -/
def afterQuote (cs : Str) : Chomp F :=
  match numLoop cs with
  | (c :: d, r) =>
    (match NumOps.parse (F := F) (c :: d) with
     | some x => if NumOps.isFinite x then .tok (.num x) r else .invalidNumber r
     | none => .invalidNumber r)
  | ([], _) =>
  match chompKeyword Extracted.remKeyword.toList cs with
  | some r => .tok (.remark r) []
  | none =>
  match chompKeyword Extracted.dataKeyword.toList cs with
  | some r =>
    let (items, n) := parseData (F := F) r
    .tok (.data items) (dropBytes n r)
  | none =>
  match symLoop true cs with
  | (c :: d, r) => .tok (.symbol (c :: d)) r
  | ([], _) => .illegalChar

structure NextTok.Plain (cs : Str) : Prop where
  kw : chompAnyKeyword cs = none
  op : chompOneOrTwo cs = none
  quote : ∀ q, cs ≠ '"' :: q

structure NextTok.Word (cs : Str) : Prop extends NextTok.Plain cs where
  num : (numLoop cs).1 = []
  rem : chompKeyword Extracted.remKeyword.toList cs = none
  data : chompKeyword Extracted.dataKeyword.toList cs = none

theorem NextTok.Plain.nextToken_eq {cs : Str} (p : NextTok.Plain cs) :
    nextToken (F := F) cs = afterQuote cs := by
  unfold nextToken afterQuote
  simp only [p.kw, p.op]
  split
  · exact absurd rfl (p.quote _)
  · rfl

inductive NextTok (cs : Str) : Chomp F → Prop
  | kw {k : Kw} {r : Str} : chompAnyKeyword cs = some (k, r) → NextTok cs (.tok (.kw k) r)
  | op {k : Kw} {r : Str} : chompAnyKeyword cs = none → chompOneOrTwo cs = some (k, r) →
      NextTok cs (.tok (.kw k) r)
  | str {q s r : Str} : chompAnyKeyword cs = none → chompOneOrTwo cs = none → cs = '"' :: q →
      splitAtQuote q = some (s, r) → NextTok cs (.tok (.str s) r)
  | unterminated {q : Str} : chompAnyKeyword cs = none → chompOneOrTwo cs = none → cs = '"' :: q →
      splitAtQuote q = none → NextTok cs .unterminated
  | num {d r : Str} {v : F} : NextTok.Plain cs → numLoop cs = (d, r) → d ≠ [] →
      NumOps.parse (F := F) d = some v → NumOps.isFinite v = true → NextTok cs (.tok (.num v) r)
  | badNum {d r : Str} : NextTok.Plain cs → numLoop cs = (d, r) → d ≠ [] →
      (∀ v, NumOps.parse (F := F) d = some v → NumOps.isFinite v = false) → NextTok cs (.invalidNumber r)
  | remark {r : Str} : NextTok.Plain cs → (numLoop cs).1 = [] →
      chompKeyword Extracted.remKeyword.toList cs = some r → NextTok cs (.tok (.remark r) [])
  | data {r : Str} : NextTok.Plain cs → (numLoop cs).1 = [] →
      chompKeyword Extracted.remKeyword.toList cs = none →
      chompKeyword Extracted.dataKeyword.toList cs = some r →
      NextTok cs (.tok (.data (parseData (F := F) r).1) (dropBytes (parseData (F := F) r).2 r))
  | symbol {s r : Str} : NextTok.Word cs → symLoop true cs = (s, r) → s ≠ [] → NextTok cs (.tok (.symbol s) r)
  | illegal : NextTok.Word cs → (symLoop true cs).1 = [] → NextTok cs .illegalChar

theorem NextTok.eq {cs : Str} {x : Chomp F} (h : NextTok cs x) : nextToken (F := F) cs = x := by
  cases h with
  | kw h => unfold nextToken; simp only [h]
  | op h1 h2 => unfold nextToken; simp only [h1, h2]
  | str h1 h2 e h3 => subst e; unfold nextToken; simp only [h1, h2, h3]
  | unterminated h1 h2 e h3 => subst e; unfold nextToken; simp only [h1, h2, h3]
  | @num d r v p hn hd hp hf =>
    rw [p.nextToken_eq]; unfold afterQuote
    cases d with
    | nil => exact absurd rfl hd
    | cons x d => simp only [hn, hp, hf, if_true]
  | @badNum d r p hn hd hp =>
    rw [p.nextToken_eq]; unfold afterQuote
    cases d with
    | nil => exact absurd rfl hd
    | cons x d =>
      simp only [hn]
      cases hv : NumOps.parse (F := F) (x :: d) with
      | none => rfl
      | some v => simp only [hp v hv]; rfl
  | remark p hn hr =>
    rw [p.nextToken_eq]; unfold afterQuote
    generalize numLoop cs = a at hn
    obtain ⟨d, r0⟩ := a
    cases hn
    simp only [hr]
  | data p hn hr hd =>
    rw [p.nextToken_eq]; unfold afterQuote
    generalize numLoop cs = a at hn
    obtain ⟨d, r0⟩ := a
    cases hn
    simp only [hr, hd]
  | @symbol s r w hs hne =>
    rw [w.toPlain.nextToken_eq]; unfold afterQuote
    have hn := w.num
    generalize numLoop cs = a at hn
    obtain ⟨d, r0⟩ := a
    cases hn
    cases s with
    | nil => exact absurd rfl hne
    | cons y s => simp only [w.rem, w.data, hs]
  | illegal w hs =>
    rw [w.toPlain.nextToken_eq]; unfold afterQuote
    have hn := w.num
    generalize numLoop cs = a at hn hs
    obtain ⟨d, r0⟩ := a
    cases hn
    generalize symLoop true cs = b at hs
    obtain ⟨s, u⟩ := b
    cases hs
    simp only [w.rem, w.data]

theorem nextTok (cs : Str) : NextTok cs (nextToken (F := F) cs) := by
  cases k1 : chompAnyKeyword cs with
  | some p => rw [(NextTok.kw k1).eq]; exact .kw k1
  | none =>
  cases o1 : chompOneOrTwo cs with
  | some p => rw [(NextTok.op k1 o1).eq]; exact .op k1 o1
  | none =>
  by_cases hq : ∃ q, cs = '"' :: q
  · obtain ⟨q, rfl⟩ := hq
    cases hs : splitAtQuote q with
    | none => rw [(NextTok.unterminated k1 o1 rfl hs).eq]; exact .unterminated k1 o1 rfl hs
    | some p => rw [(NextTok.str k1 o1 rfl hs).eq]; exact .str k1 o1 rfl hs
  · have p : NextTok.Plain cs := ⟨k1, o1, fun q e => hq ⟨q, e⟩⟩
    rw [p.nextToken_eq]
    unfold afterQuote
    generalize hnl : numLoop cs = a
    obtain ⟨ds, rr⟩ := a
    cases ds with
    | cons x d =>
      dsimp only
      cases hp : NumOps.parse (F := F) (x :: d) with
      | none => exact .badNum p hnl (List.cons_ne_nil _ _) (fun v hv => by rw [hp] at hv; cases hv)
      | some v =>
        dsimp only
        by_cases hf : NumOps.isFinite v = true
        · rw [if_pos hf]; exact .num p hnl (List.cons_ne_nil _ _) hp hf
        · rw [if_neg hf]
          exact .badNum p hnl (List.cons_ne_nil _ _) (fun v' hv => by
            rw [hp] at hv; cases hv; simpa using hf)
    | nil =>
      have hn1 : (numLoop cs).1 = [] := by rw [hnl]
      dsimp only
      cases h1 : chompKeyword Extracted.remKeyword.toList cs with
      | some s => exact .remark p hn1 h1
      | none =>
        dsimp only
        cases h2 : chompKeyword Extracted.dataKeyword.toList cs with
        | some s => exact .data p hn1 h1 h2
        | none =>
          dsimp only
          generalize hsl : symLoop true cs = b
          obtain ⟨ss, u⟩ := b
          cases ss with
          | nil => exact .illegal ⟨p, hn1, h1, h2⟩ (by rw [hsl])
          | cons y e => exact .symbol ⟨p, hn1, h1, h2⟩ hsl (List.cons_ne_nil _ _)

theorem nextTok_of {cs : Str} {x : Chomp F} (h : nextToken (F := F) cs = x) : NextTok cs x := h ▸ nextTok cs

end Abasic
