import Abasic.Proofs.After3
import Abasic.Proofs.Typing3
/-
  C06 — a static sufficient condition for the dynamic side condition `DefsAgree`
  ("function definitions are each unique and executed before any use"): the program begins with its DEFs
  (`DefsFirst`).  `fnsAt p n j`, the table of the DEFs that stand before a position in the text, mirrors the
  analyzer's signatures `sigAt p n j`; the static type of a tree depends only on the signatures of the names
  in it (`typeOf2_congr`), so in a checked program with DEFs at top level only and no body mentioning a name
  defined later that table is typed at every position (`fnsTyped_at`).  A run of such a program keeps its
  function table equal to `fnsAt` at the program counter (`DFInv`); Props/C06Defs.lean draws `DefsAgree` from it.
-/
set_option linter.unusedSectionVars false

namespace Abasic.Props.C06
open Abasic Abasic.Ref Abasic.ExprL Abasic.ExprL2 Abasic.Stmt3L

variable {F : Type} [NumOps F]

mutual
/-- the names that occur in front of a `(`: called functions and array cells -/
def exprNames : Expr2 F → List Str
  | .num _ => []
  | .str _ => []
  | .var _ => []
  | .un _ e => exprNames e
  | .bin _ l r => exprNames l ++ exprNames r
  | .paren e => exprNames e
  | .abs e => exprNames e
  | .int e => exprNames e
  | .rnd e => exprNames e
  | .cell name idx => name :: exprNamesL idx
  | .call f args => f :: exprNamesL args
def exprNamesL : List (Expr2 F) → List Str
  | [] => []
  | e :: es => exprNames e ++ exprNamesL es
end

mutual
theorem typeOf2_congr (sig sig' : Sig) : ∀ (e : Expr2 F), (∀ g ∈ exprNames e, sig g = sig' g) →
    typeOf2 sig e = typeOf2 sig' e
  | .num _, _ | .str _, _ | .var _, _ => by simp only [typeOf2]
  | .un _ e, h | .paren e, h | .abs e, h | .int e, h | .rnd e, h => by
    simp only [typeOf2, typeOf2_congr sig sig' e h]
  | .bin op l r, h => by
    simp only [exprNames, List.mem_append] at h
    simp only [typeOf2, typeOf2_congr sig sig' l (fun g hg => h g (.inl hg)),
      typeOf2_congr sig sig' r (fun g hg => h g (.inr hg))]
  | .cell name idx, h => by
    simp only [exprNames, List.mem_cons] at h
    simp only [typeOf2, typeIdx_congr sig sig' idx (fun g hg => h g (.inr hg))]
  | .call f args, h => by
    simp only [exprNames, List.mem_cons] at h
    have hargs : ∀ g ∈ exprNamesL args, sig g = sig' g := fun g hg => h g (.inr hg)
    simp only [typeOf2, ← h f (.inl rfl)]
    cases sig f with
    | none => simp only; rw [typeIdx_congr sig sig' args hargs]
    | some s => simp only; rw [typeArgs_congr sig sig' true s.1 args hargs]
theorem typeIdx_congr (sig sig' : Sig) : ∀ (es : List (Expr2 F)), (∀ g ∈ exprNamesL es, sig g = sig' g) →
    typeIdx sig es = typeIdx sig' es
  | [], _ => by simp only [typeIdx]
  | e :: es, h => by
    simp only [exprNamesL, List.mem_append] at h
    rw [typeIdx_cons, typeIdx_cons, typeOf2_congr sig sig' e (fun g hg => h g (.inl hg))]
    cases es with
    | nil => rfl
    | cons e' es' => simp only [typeIdx_congr sig sig' (e' :: es') (fun g hg => h g (.inr hg))]
theorem typeArgs_congr (sig sig' : Sig) : ∀ (first : Bool) (ps : List VT) (as : List (Expr2 F)),
    (∀ g ∈ exprNamesL as, sig g = sig' g) → typeArgs sig first ps as = typeArgs sig' first ps as
  | first, [], [], _ | first, [], _ :: _, _ | first, _ :: _, [], _ => by simp only [typeArgs]
  | first, p :: ps, a :: as, h => by
    simp only [exprNamesL, List.mem_append] at h
    simp only [typeArgs, typeOf2_congr sig sig' a (fun g hg => h g (.inl hg)),
      typeArgs_congr sig sig' false ps as (fun g hg => h g (.inr hg))]
end

/-- under (iv) of `DefsFirstAt`, earlier bodies stay typed when later DEFs are added -/
theorem typeOf2_sigAfterS_def (sig : Sig) (f : Str) (ps : List Str) (body e : Expr2 F) (h : f ∉ exprNames e) :
    typeOf2 (sigAfterS sig (.defS f ps body)) e = typeOf2 sig e := by
  apply typeOf2_congr
  intro g hg
  have hne : g ≠ f := fun he => h (he ▸ hg)
  simp only [sigAfterS, if_neg hne]

abbrev FnTable (F : Type) := List (Str × FnDefSpec F)

/-- the table after the statement has been walked (as `sigAfterS`) -/
def fnsAfterS : FnTable F → RStmt3 F → FnTable F
  | t, .defS f ps body => alSet f { params := ps, body := body } t
  | t, .ifS _ a none => fnsAfterS t a
  | t, .ifS _ a (some b) => fnsAfterS (fnsAfterS t a) b
  | t, _ => t

def fnsAfterStmts : FnTable F → List (RStmt3 F) → FnTable F
  | t, [] => t
  | t, s :: rest => fnsAfterStmts (fnsAfterS t s) rest

theorem sigOfSpec_nil : sigOfSpec ([] : FnTable F) = fun _ => none := rfl

theorem sigOfSpec_alSet (t : FnTable F) (f : Str) (ps : List Str) (body : Expr2 F) :
    sigOfSpec (alSet f { params := ps, body := body } t) =
      fun g => if g = f then some (ps.map VT.ofName, VT.ofName f) else sigOfSpec t g := by
  funext g
  unfold sigOfSpec
  rw [Props.C16.alGet_alSet]
  by_cases hg : g = f
  · subst hg; simp only [if_true]
  · simp only [if_neg hg]

theorem sigOfSpec_fnsAfterS (s : RStmt3 F) (t : FnTable F) :
    sigOfSpec (fnsAfterS t s) = sigAfterS (sigOfSpec t) s := by
  fun_induction fnsAfterS t s <;> simp_all [sigAfterS, sigOfSpec_alSet]

theorem sigOfSpec_fnsAfterStmts : ∀ (ss : List (RStmt3 F)) (t : FnTable F),
    sigOfSpec (fnsAfterStmts t ss) = sigAfterStmts (sigOfSpec t) ss
  | [], _ => rfl
  | s :: rest, t => by
    simp only [fnsAfterStmts, sigAfterStmts]
    rw [sigOfSpec_fnsAfterStmts rest, sigOfSpec_fnsAfterS]

theorem fnsAfterS_defFree : ∀ (s : RStmt3 F) (t : FnTable F), defFree s = true → fnsAfterS t s = t
  | .defS _ _ _, _, h => nomatch h
  | .ifS _ a none, t, h => fnsAfterS_defFree a t h
  | .ifS _ a (some b), t, h => by
    rw [defFree, Bool.and_eq_true] at h
    rw [fnsAfterS, fnsAfterS_defFree a t h.1, fnsAfterS_defFree b t h.2]
  | .letS _ _, _, _ | .printS _, _, _ | .gotoS _, _, _ | .endS, _, _ | .lineS _, _, _ | .forS _ _ _ _, _, _
  | .nextS _, _, _ | .gosubS _, _, _ | .returnS, _, _ | .readS _, _, _ | .dataS _, _, _ | .restoreS, _, _
  | .dimS _ _, _, _ | .letCellS _ _ _, _, _ => rfl

theorem fnsAfterStmts_append : ∀ (a b : List (RStmt3 F)) (t : FnTable F),
    fnsAfterStmts t (a ++ b) = fnsAfterStmts (fnsAfterStmts t a) b
  | [], _, _ => rfl
  | s :: a, b, t => by simp only [List.cons_append, fnsAfterStmts]; exact fnsAfterStmts_append a b _

theorem sigAfterStmts_append : ∀ (a b : List (RStmt3 F)) (sig : Sig),
    sigAfterStmts sig (a ++ b) = sigAfterStmts (sigAfterStmts sig a) b
  | [], _, _ => rfl
  | s :: a, b, sig => by simp only [List.cons_append, sigAfterStmts]; exact sigAfterStmts_append a b _

theorem fnsAfterStmts_defFree : ∀ (ss : List (RStmt3 F)) (t : FnTable F), (∀ s ∈ ss, defFree s = true) →
    fnsAfterStmts t ss = t
  | [], _, _ => rfl
  | s :: rest, t, h => by
    simp only [fnsAfterStmts]
    rw [fnsAfterS_defFree s t (h s List.mem_cons_self)]
    exact fnsAfterStmts_defFree rest t (fun s' hs' => h s' (List.mem_cons_of_mem _ hs'))

/-- the statements that stand before statement `j` of line `n` in the text (all statements, if there is
    no line `n`) -/
def beforeL : RProgram3 F → Nat → Nat → List (RStmt3 F)
  | [], _, _ => []
  | (k, ss) :: rest, n, j => if k == n then ss.take j else ss ++ beforeL rest n j

def flatP (p : RProgram3 F) : List (RStmt3 F) := p.flatMap (·.2)

theorem flatP_cons (l : Nat × List (RStmt3 F)) (p : RProgram3 F) : flatP (l :: p) = l.2 ++ flatP p := by
  simp [flatP]

theorem flatP_append (a b : RProgram3 F) : flatP (a ++ b) = flatP a ++ flatP b := by
  simp [flatP]

theorem forall_mem_flatP {p : RProgram3 F} {P : RStmt3 F → Prop} :
    (∀ s ∈ flatP p, P s) ↔ ∀ l ∈ p, ∀ s ∈ l.2, P s := by
  simp only [flatP, List.mem_flatMap]
  exact ⟨fun h l hl s hs => h s ⟨l, hl, hs⟩, fun h s ⟨l, hl, hs⟩ => h l hl s hs⟩

theorem sigAtL_before : ∀ (p : RProgram3 F) (sig : Sig) (n j : Nat),
    sigAtL sig p n j = sigAfterStmts sig (beforeL p n j)
  | [], _, _, _ => rfl
  | (k, ss) :: rest, sig, n, j => by
    simp only [sigAtL, beforeL]
    by_cases hk : (k == n) = true
    · rw [if_pos hk, if_pos hk]
    · rw [if_neg hk, if_neg hk, sigAfterStmts_append]
      exact sigAtL_before rest _ n j

theorem beforeL_prefix : ∀ (p : RProgram3 F) (n j : Nat), ∃ ys, flatP p = beforeL p n j ++ ys
  | [], _, _ => ⟨[], rfl⟩
  | (k, ss) :: rest, n, j => by
    simp only [beforeL, flatP_cons]
    by_cases hk : (k == n) = true
    · rw [if_pos hk]
      exact ⟨ss.drop j ++ flatP rest, by rw [← List.append_assoc, List.take_append_drop]⟩
    · rw [if_neg hk]
      obtain ⟨ys, hys⟩ := beforeL_prefix rest n j
      exact ⟨ys, by rw [hys, List.append_assoc]⟩

/-- the DEFs that stand before statement `j` of line `n`: the table that mirrors `sigAt p n j` -/
def fnsAt (p : RProgram3 F) (n j : Nat) : FnTable F := fnsAfterStmts [] (beforeL p n j)

theorem sigAt_eq (p : RProgram3 F) (n j : Nat) : sigAt p n j = sigOfSpec (fnsAt p n j) := by
  unfold sigAt fnsAt
  rw [sigAtL_before, sigOfSpec_fnsAfterStmts]
  rfl

def TypedTable (t : FnTable F) : Prop := ∀ f d, alGet f t = some d → typeOf2 (sigOfSpec t) d.body = .ok (VT.ofName f)

/-- the judgement behind `typeOfStmts3`, without line numbers -/
def StmtsTyped (le : Nat → Bool) : Sig → List (RStmt3 F) → Prop
  | _, [] => True
  | sig, s :: rest => typeOfS3 sig le s = .ok () ∧ StmtsTyped le (sigAfterS sig s) rest

theorem stmtsTyped_append (le : Nat → Bool) : ∀ (a b : List (RStmt3 F)) (sig : Sig),
    StmtsTyped le sig a → StmtsTyped le (sigAfterStmts sig a) b → StmtsTyped le sig (a ++ b)
  | [], _, _, _, hb => hb
  | _ :: a, b, _, ha, hb => ⟨ha.1, stmtsTyped_append le a b _ ha.2 hb⟩

theorem stmtsTyped_of_stmts (le : Nat → Bool) (ln : Nat) : ∀ (ss : List (RStmt3 F)) (sig : Sig),
    typeOfStmts3 le ln sig ss = .ok () → StmtsTyped le sig ss
  | [], _, _ => trivial
  | _ :: rest, _, h =>
    have h := typeOfStmts3_cons_ok.1 h
    ⟨h.1, stmtsTyped_of_stmts le ln rest _ h.2⟩

theorem stmtsTyped_of_lines (le : Nat → Bool) : ∀ (p : RProgram3 F) (sig : Sig),
    typeOfLines3 le sig p = .ok () → StmtsTyped le sig (flatP p)
  | [], _, _ => trivial
  | l :: rest, sig, h => by
    have h := typeOfLines3_cons_ok.1 h
    rw [flatP_cons]
    exact stmtsTyped_append le _ _ sig (stmtsTyped_of_stmts le l.1 l.2 sig h.1) (stmtsTyped_of_lines le rest _ h.2)

def defName? : RStmt3 F → Option Str
  | .defS f _ _ => some f
  | _ => none

def bodyNames : RStmt3 F → List Str
  | .defS _ _ body => exprNames body
  | _ => []

/-- no DEF under an IF -/
def topDef : RStmt3 F → Bool
  | .defS _ _ _ => true
  | s => defFree s

def laterOK (s s' : RStmt3 F) : Bool :=
  match defName? s' with
  | none => true
  | some f => !(bodyNames s).contains f

/-- (iv) of `DefsFirstAt` -/
def NoLaterUse (ss : List (RStmt3 F)) : Prop := ss.Pairwise (fun s s' => laterOK s s' = true)

theorem laterOK_spec {s s' : RStmt3 F} (h : laterOK s s' = true) {f : Str} (hf : defName? s' = some f) :
    f ∉ bodyNames s := by
  unfold laterOK at h
  rw [hf] at h
  simpa using h

theorem topDef_cases {s : RStmt3 F} (h : topDef s = true) :
    defFree s = true ∨ ∃ f ps body, s = .defS f ps body := by
  cases s with
  | defS f ps body => exact .inr ⟨f, ps, body, rfl⟩
  | _ => exact .inl h

theorem defName?_defFree {s : RStmt3 F} (h : defFree s = true) : defName? s = none := by
  cases s with
  | defS f ps body => simp [defFree] at h
  | _ => rfl

/-- stated for any typed starting table `t` none of whose bodies mentions a name defined in `xs ++ ys`: the
    induction over `xs` needs that -/
theorem typedTable_prefix (le : Nat → Bool) : ∀ (xs ys : List (RStmt3 F)) (t : FnTable F),
    TypedTable t → StmtsTyped le (sigOfSpec t) (xs ++ ys) → (∀ s ∈ xs ++ ys, topDef s = true) →
    NoLaterUse (xs ++ ys) →
    (∀ g d, alGet g t = some d → ∀ s ∈ xs ++ ys, ∀ f, defName? s = some f → f ∉ exprNames d.body) →
    TypedTable (fnsAfterStmts t xs)
  | [], _, _, ht, _, _, _, _ => ht
  | x :: xs, ys, t, ht, hty, htop, hnl, hold => by
    simp only [List.cons_append] at hty htop hnl hold
    simp only [fnsAfterStmts]
    obtain ⟨hx, hrest⟩ := hty
    have hnl' := List.pairwise_cons.mp hnl
    rcases topDef_cases (htop x List.mem_cons_self) with hdf | ⟨f, ps, body, rfl⟩
    · rw [fnsAfterS_defFree x t hdf]
      rw [sigAfterS_defFree x _ hdf] at hrest
      exact typedTable_prefix le xs ys t ht hrest (fun s hs => htop s (List.mem_cons_of_mem _ hs)) hnl'.2
        (fun g d hg s hs => hold g d hg s (List.mem_cons_of_mem _ hs))
    · have hsig := sigOfSpec_fnsAfterS (.defS f ps body) t
      have hent : ∀ g d, alGet g (fnsAfterS t (.defS f ps body)) = some d →
          (g = f ∧ d.body = body) ∨ alGet g t = some d := by
        intro g d hg
        simp only [fnsAfterS, Props.C16.alGet_alSet] at hg
        split at hg
        next hgf => cases hg; exact .inl ⟨hgf, rfl⟩
        · exact .inr hg
      refine typedTable_prefix le xs ys _ (fun g d hg => ?_) (by rw [hsig]; exact hrest)
        (fun s hs => htop s (List.mem_cons_of_mem _ hs)) hnl'.2 (fun g d hg s hs f' hf' => ?_)
      · rw [hsig]
        rcases hent g d hg with ⟨rfl, rfl⟩ | hg
        · exact (typeOfS3_ok_iff _ le _).1 hx
        · rw [typeOf2_sigAfterS_def _ f ps body d.body (hold g d hg _ List.mem_cons_self f rfl)]
          exact ht g d hg
      · rcases hent g d hg with ⟨_, rfl⟩ | hg
        · exact laterOK_spec (hnl'.1 s hs) hf'
        · exact hold g d hg s (List.mem_cons_of_mem _ hs) f' hf'

theorem typedTable_nil : TypedTable ([] : FnTable F) := fun f d h => by simp [alGet] at h

theorem fnsTyped_at {p : RProgram3 F} (hty : typeOfP3 p = .ok ()) (htop : ∀ s ∈ flatP p, topDef s = true)
    (hnl : NoLaterUse (flatP p)) (n j : Nat) : FnsTyped (sigAt p n j) (fnsAt p n j) := by
  rw [sigAt_eq, fnsTyped_sigOfSpec]
  obtain ⟨ys, hys⟩ := beforeL_prefix p n j
  have hst := stmtsTyped_of_lines p.hasLine p _ hty
  rw [hys] at hst htop hnl
  exact typedTable_prefix p.hasLine (beforeL p n j) ys [] typedTable_nil hst htop hnl
    (fun g d hg => by simp [alGet] at hg)

/-- what one reference step of the statement at `(n, j)` does to the function table, the stacks and the
    program counter -/
structure ExecFrame (n j : Nat) (s : RStmt3 F) (r : RState3 F) (res : RState3 F × Ctl2) : Prop where
  fns : defFree s = true → res.1.fns = r.fns
  rets : ∀ e ∈ res.1.rets, e ∈ r.rets ∨ e = (n, j + 1)
  loops : ∀ l ∈ res.1.loops, l ∈ r.loops ∨ (l.line = n ∧ l.idx = j + 1)
  jump : ∀ m, res.2 = .jump m → m ∈ targets s
  resume : ∀ m k, res.2 = .resume m k → (m, k) ∈ r.rets ∨ ∃ l ∈ r.loops, l.line = m ∧ l.idx = k

theorem exec_frame (items : List (Nat × DataElement F)) (n j : Nat) (s : RStmt3 F) (r : RState3 F) :
    ExecFrame n j s r (s.exec items n j r) := by
  have fp := exec_footprint items n j s r
  refine ⟨fun hd => ?_, fun e he => ?_, fp.loops, fp.jump, fp.resume⟩
  · rcases fp.tables with ⟨h1, _⟩ | ⟨f, d, hdef, _⟩
    · exact h1
    · exact absurd hdef (not_defines_of_defFree s f d hd)
  · rcases fp.rets with h1 | ⟨h1, _⟩ | ⟨e', h1⟩
    · exact .inl (h1 ▸ he)
    · rw [h1] at he; exact (List.mem_cons.1 he).elim .inr .inl
    · rw [h1]; exact .inl (List.mem_cons_of_mem _ he)

theorem line_append_right {pre post : RProgram3 F} {n : Nat} (h : n ∉ pre.map (·.1)) :
    RProgram3.line (pre ++ post) n = RProgram3.line post n := by
  induction pre with
  | nil => rfl
  | cons l pre ih =>
    obtain ⟨k, ss⟩ := l
    simp only [List.map_cons, List.mem_cons, not_or] at h
    have hb : (k == n) = false := by simp only [beq_eq_false_iff_ne, ne_eq]; exact fun he => h.1 he.symm
    simp only [List.cons_append, RProgram3.line, hb, Bool.false_eq_true, ↓reduceIte]
    exact ih h.2

theorem after_spec {p : RProgram3 F} {n m : Nat} (h : p.after n = some m) : n < m ∧ m ∈ p.map (·.1) := by
  unfold RProgram3.after at h
  exact ⟨by simpa using List.find?_some h, List.mem_of_find?_eq_some h⟩

theorem resume_spec {p : RProgram3 F} {n j n' j' : Nat} (h : p.resume n j = some (n', j')) :
    (n' = n ∧ j' = j) ∨ (p.after n = some n' ∧ j' = 0) := by
  have key : (p.after n).map (fun m => (m, 0)) = some (n', j') → p.after n = some n' ∧ j' = 0 := fun h' => by
    obtain ⟨m, ha, hm⟩ := Option.map_eq_some_iff.1 h'
    cases hm
    exact ⟨ha, rfl⟩
  unfold RProgram3.resume at h
  split at h
  · split at h
    · cases h; exact .inl ⟨rfl, rfl⟩
    · exact .inr (key h)
  · exact .inr (key h)

def PostNum (pre : RProgram3 F) (m : Nat) : Prop := ∀ x ∈ pre.map (·.1), x < m

theorem PostNum.mono {pre : RProgram3 F} {m m' : Nat} (h : PostNum pre m) (hm : m ≤ m') : PostNum pre m' :=
  fun x hx => Nat.lt_of_lt_of_le (h x hx) hm

theorem PostNum.not_mem {pre : RProgram3 F} {m : Nat} (h : PostNum pre m) : m ∉ pre.map (·.1) :=
  fun hm => Nat.lt_irrefl m (h m hm)

theorem PostNum.after {pre : RProgram3 F} {p : RProgram3 F} {m m' : Nat} (h : PostNum pre m) (ha : p.after m = some m') :
    PostNum pre m' :=
  h.mono (Nat.le_of_lt (after_spec ha).1)

theorem PostNum.resume {pre : RProgram3 F} {p : RProgram3 F} {m k n' j' : Nat} (h : PostNum pre m)
    (hr : p.resume m k = some (n', j')) : PostNum pre n' := by
  rcases resume_spec hr with ⟨rfl, _⟩ | ⟨ha, _⟩
  · exact h
  · exact h.after ha

theorem postNum_of_mem {pre post : RProgram3 F} (hasc : ((pre ++ post).map (·.1)).Pairwise (· < ·)) {m : Nat}
    (hm : m ∈ post.map (·.1)) : PostNum pre m := by
  rw [List.map_append, List.pairwise_append] at hasc
  exact fun x hx => hasc.2.2 x hx m hm

theorem region_of_mem {pre post : RProgram3 F} (hasc : ((pre ++ post).map (·.1)).Pairwise (· < ·)) {m : Nat}
    (hm : m ∈ (pre ++ post).map (·.1)) : m ∈ pre.map (·.1) ∨ PostNum pre m := by
  rw [List.map_append, List.mem_append] at hm
  rcases hm with hm | hm
  · exact .inl hm
  · exact .inr (postNum_of_mem hasc hm)

theorem beforeL_append {pre post : RProgram3 F} {n : Nat} (h : n ∉ pre.map (·.1)) (j : Nat) :
    beforeL (pre ++ post) n j = flatP pre ++ beforeL post n j := by
  induction pre with
  | nil => simp [flatP]
  | cons l pre ih =>
    obtain ⟨k, ss⟩ := l
    simp only [List.map_cons, List.mem_cons, not_or] at h
    have hb : (k == n) = false := by simp only [beq_eq_false_iff_ne, ne_eq]; exact fun he => h.1 he.symm
    simp only [List.cons_append, beforeL, hb, Bool.false_eq_true, ↓reduceIte, flatP_cons, List.append_assoc]
    rw [ih h.2]

theorem fnsAt_post {pre post : RProgram3 F} (hpost : ∀ l ∈ post, ∀ s ∈ l.2, defFree s = true) {n : Nat}
    (h : n ∉ pre.map (·.1)) (j : Nat) : fnsAt (pre ++ post) n j = fnsAfterStmts [] (flatP pre) := by
  unfold fnsAt
  rw [beforeL_append h, fnsAfterStmts_append]
  obtain ⟨ys, hys⟩ := beforeL_prefix post n j
  exact fnsAfterStmts_defFree _ _ fun s hs => forall_mem_flatP.2 hpost s (hys ▸ List.mem_append_left _ hs)

theorem line_split : ∀ {p : RProgram3 F} {n : Nat} {ss : List (RStmt3 F)}, p.line n = some ss →
    ∃ done q, p = done ++ (n, ss) :: q ∧ n ∉ done.map (·.1)
  | [], _, _, h => by simp [RProgram3.line] at h
  | (k, ss0) :: rest, n, ss, h => by
    simp only [RProgram3.line] at h
    by_cases hk : (k == n) = true
    · rw [if_pos hk] at h
      simp only [Option.some.injEq] at h
      have : k = n := by simpa using hk
      subst this; subst h
      exact ⟨[], rest, rfl, by simp⟩
    · rw [if_neg hk] at h
      obtain ⟨done, q, hp, hn⟩ := line_split h
      refine ⟨(k, ss0) :: done, q, by rw [hp]; rfl, ?_⟩
      simp only [List.map_cons, List.mem_cons, not_or]
      exact ⟨fun he => hk (by simp [he]), hn⟩

theorem beforeL_at {done q : RProgram3 F} {n : Nat} {ss : List (RStmt3 F)} (h : n ∉ done.map (·.1)) (j : Nat) :
    beforeL (done ++ (n, ss) :: q) n j = flatP done ++ ss.take j := by
  rw [beforeL_append h]
  simp only [beforeL, beq_self_eq_true, ↓reduceIte]

theorem beforeL_succ {p : RProgram3 F} (hasc : (p.map (·.1)).Pairwise (· < ·)) {n j n' j' : Nat} {ss : List (RStmt3 F)}
    {s : RStmt3 F} (hl : p.line n = some ss) (hs : ss[j]? = some s) (hr : p.resume n (j + 1) = some (n', j')) :
    beforeL p n' j' = beforeL p n j ++ [s] := by
  obtain ⟨done, q, rfl, hn⟩ := line_split hl
  have htake : ss.take (j + 1) = ss.take j ++ [s] := by rw [List.take_add_one, hs]; rfl
  unfold RProgram3.resume at hr
  rw [hl] at hr
  simp only at hr
  split at hr
  · cases hr
    rw [beforeL_at hn, beforeL_at hn, htake, List.append_assoc]
  next hj =>
    rw [after_at3 hasc] at hr
    cases q with
    | nil => simp at hr
    | cons l q' =>
      obtain ⟨m, ss'⟩ := l
      simp only [List.head?_cons, Option.map_some, Option.some.injEq, Prod.mk.injEq] at hr
      obtain ⟨rfl, rfl⟩ := hr
      have hp' : done ++ (n, ss) :: (m, ss') :: q' = (done ++ [(n, ss)]) ++ (m, ss') :: q' := by simp
      have hm : m ∉ (done ++ [(n, ss)]).map (·.1) := (postNum_of_mem (hp' ▸ hasc) (by simp)).not_mem
      have hfull : ss.take j ++ [s] = ss := by
        rw [← htake]
        exact List.take_of_length_le (by omega)
      rw [hp', beforeL_at hm, ← hp', beforeL_at hn, List.take_zero, List.append_nil, flatP_append,
        List.append_assoc, hfull]
      simp [flatP]

def isDefOrData : RStmt3 F → Bool
  | .defS _ _ _ => true
  | .dataS _ => true
  | _ => false

def defNames (ss : List (RStmt3 F)) : List Str := ss.filterMap defName?

/-- **The static criterion, for a given length `k` of the definition prefix.**
    (i)   every statement of the first `k` lines is a DEF or a DATA statement, and no statement of the
          later lines contains a DEF (not even under an IF);
    (ii)  every function name is defined at most once;
    (iii) no target of a GOTO, GOSUB, `THEN n`, `ELSE n` is one of the first `k` lines;
    (iv)  no body of a DEF mentions — as call or as cell name — a function defined LATER in the text
          (it mentions only functions defined earlier, or itself). -/
def DefsFirstAt (p : RProgram3 F) (k : Nat) : Prop :=
  (∀ l ∈ p.take k, ∀ s ∈ l.2, isDefOrData s = true) ∧
  (∀ l ∈ p.drop k, ∀ s ∈ l.2, defFree s = true) ∧
  (defNames (flatP (p.take k))).Nodup ∧
  (∀ l ∈ p.drop k, ∀ s ∈ l.2, ∀ m ∈ targets s, m ∉ (p.take k).map (·.1)) ∧
  NoLaterUse (flatP (p.take k))

instance (p : RProgram3 F) (k : Nat) : Decidable (DefsFirstAt p k) := by
  unfold DefsFirstAt NoLaterUse
  infer_instance

/-- the program begins with its function definitions; syntactic and decidable -/
def DefsFirst (p : RProgram3 F) : Prop := ∃ k, k ≤ p.length ∧ DefsFirstAt p k

instance (p : RProgram3 F) : Decidable (DefsFirst p) := by
  unfold DefsFirst
  exact Nat.decidableExistsLE p.length

def defsFirstB (p : RProgram3 F) : Bool := decide (DefsFirst p)

theorem defsFirstB_iff (p : RProgram3 F) : defsFirstB p = true ↔ DefsFirst p := by
  unfold defsFirstB; exact decide_eq_true_iff

theorem topDef_of_defOrData {s : RStmt3 F} (h : isDefOrData s = true) : topDef s = true := by
  cases s <;> first | rfl | (simp [isDefOrData] at h)

theorem topDef_of_defFree {s : RStmt3 F} (h : defFree s = true) : topDef s = true := by
  cases s with
  | defS f ps body => rfl
  | _ => exact h

theorem noLaterUse_append {xs ys : List (RStmt3 F)} (hx : NoLaterUse xs) (hy : ∀ s ∈ ys, defFree s = true) :
    NoLaterUse (xs ++ ys) := by
  have hl : ∀ (s s' : RStmt3 F), s' ∈ ys → laterOK s s' = true := fun s s' hs' => by
    unfold laterOK
    rw [defName?_defFree (hy s' hs')]
  exact List.pairwise_append.2
    ⟨hx, List.pairwise_of_forall_mem_list fun a _ b hb => hl a b hb, fun a _ b hb => hl a b hb⟩

theorem exec_defOrData (items : List (Nat × DataElement F)) (n j : Nat) :
    ∀ {s : RStmt3 F}, isDefOrData s = true → ∀ (r : RState3 F),
      (s.exec items n j r).2 = .next ∧ (s.exec items n j r).1.fns = fnsAfterS r.fns s ∧
        (s.exec items n j r).1.rets = r.rets ∧ (s.exec items n j r).1.loops = r.loops
  | .defS _ _ _, _, _ | .dataS _, _, _ => ⟨rfl, rfl, rfl, rfl⟩

/-- **The invariant**: the stack entries point behind the definition prefix; the program counter is in
    the prefix or behind it, and the function table holds exactly the DEFs that stand before it in the text
    (behind the prefix: all of them, `fnsAt_post`). -/
structure DFInv (pre post : RProgram3 F) (r : RState3 F) : Prop where
  rets : ∀ e ∈ r.rets, PostNum pre e.1
  loops : ∀ l ∈ r.loops, PostNum pre l.line
  pc : ∀ n j, r.pc = some (n, j) → r.fns = fnsAt (pre ++ post) n j ∧ (n ∈ pre.map (·.1) ∨ PostNum pre n)

theorem dfInv_start {pre post : RProgram3 F} (hasc : ((pre ++ post).map (·.1)).Pairwise (· < ·)) (g : Nat) :
    DFInv pre post ((pre ++ post).start g) where
  rets := fun e he => by simp [RProgram3.start] at he
  loops := fun l hl => by simp [RProgram3.start] at hl
  pc := fun n j hpc => by
    cases hp : pre ++ post with
    | nil => rw [hp] at hpc; simp [RProgram3.start, RProgram3.first] at hpc
    | cons l q =>
      obtain ⟨k, ss⟩ := l
      have hpc' : ((pre ++ post).start g).pc = some (n, j) := hpc
      rw [hp] at hpc'
      simp only [RProgram3.start, RProgram3.first, List.head?_cons, Option.map_some, Option.some.injEq,
        Prod.mk.injEq] at hpc'
      obtain ⟨rfl, rfl⟩ := hpc'
      refine ⟨?_, region_of_mem hasc (by rw [hp]; simp)⟩
      show ([] : FnTable F) = fnsAt ((k, ss) :: q) k 0
      simp [fnsAt, beforeL, fnsAfterStmts]

theorem dfInv_post {pre post : RProgram3 F} (hpost : ∀ l ∈ post, ∀ s ∈ l.2, defFree s = true) {r1 : RState3 F}
    (hrets : ∀ e ∈ r1.rets, PostNum pre e.1) (hloops : ∀ l ∈ r1.loops, PostNum pre l.line)
    (hfns : r1.fns = fnsAfterStmts [] (flatP pre)) {X : Option (Nat × Nat)}
    (hX : ∀ n j, X = some (n, j) → PostNum pre n) : DFInv pre post { r1 with pc := X } where
  rets := hrets
  loops := hloops
  pc := fun n j hpc => by
    have hn := hX n j hpc
    exact ⟨by show r1.fns = _; rw [hfns, fnsAt_post hpost hn.not_mem], .inr hn⟩

theorem dfInv_step {pre post : RProgram3 F} (hasc : ((pre ++ post).map (·.1)).Pairwise (· < ·))
    (hpre : ∀ l ∈ pre, ∀ s ∈ l.2, isDefOrData s = true) (hpost : ∀ l ∈ post, ∀ s ∈ l.2, defFree s = true)
    (htg : ∀ l ∈ post, ∀ s ∈ l.2, ∀ m ∈ targets s, m ∉ pre.map (·.1))
    {r r' : RState3 F} (h : DFInv pre post r) (hs : RStep3 (pre ++ post) r = .inl r') : DFInv pre post r' := by
  rcases Prog3L.rstep_inl hs with rfl | rfl | ⟨n, j, ss, s, X, hpc, hl, hsj, hX, rfl⟩
  · exact h
  · exact ⟨h.rets, h.loops, nofun⟩
  obtain ⟨hfns, hreg⟩ := h.pc n j hpc
  have hmem : (n, ss) ∈ pre ++ post := Prog3L.line_mem hl
  have hsmem : s ∈ ss := List.mem_of_getElem? hsj
  rcases hreg with hreg | hreg
  · -- in the prefix: a DEF or a DATA statement
    have hin : (n, ss) ∈ pre := (List.mem_append.mp hmem).resolve_right fun hm =>
      (postNum_of_mem hasc (List.mem_map_of_mem (f := (·.1)) hm)).not_mem hreg
    obtain ⟨hnext, hf, hrt, hlp⟩ := exec_defOrData (allData3 (pre ++ post)) n j (hpre _ hin s hsmem) r
    rw [hnext] at hX
    cases hX
    refine ⟨fun e he => h.rets e (hrt ▸ he), fun l hl' => h.loops l (hlp ▸ hl'), fun n' j' hX => ⟨?_, ?_⟩⟩ <;>
      rw [← Prog3L.resume_eq] at hX
    · show (s.exec (allData3 (pre ++ post)) n j r).1.fns = _
      rw [hf, hfns]
      unfold fnsAt
      rw [beforeL_succ hasc hl hsj hX, fnsAfterStmts_append]
      rfl
    · rcases resume_spec hX with ⟨rfl, _⟩ | ⟨ha, _⟩
      · exact .inl hreg
      · exact region_of_mem hasc (after_spec ha).2
  · -- behind the prefix: a statement without DEF
    have hin : (n, ss) ∈ post := (List.mem_append.mp hmem).resolve_left fun hm => hreg.not_mem (List.mem_map_of_mem (f := (·.1)) hm)
    have hfr := exec_frame (allData3 (pre ++ post)) n j s r
    refine dfInv_post hpost (fun e he => ?_) (fun l hl' => ?_) ?_ (fun n' j' hn => ?_)
    · exact (hfr.rets e he).elim (h.rets e) (· ▸ hreg)
    · exact (hfr.loops l hl').elim (h.loops l) (fun hl' => hl'.1 ▸ hreg)
    · rw [hfr.fns (hpost _ hin s hsmem), hfns, fnsAt_post hpost hreg.not_mem]
    · -- where the program counter goes: it stays behind the prefix
      generalize hc : (RStmt3.exec (allData3 (pre ++ post)) n j r s).2 = c at hX
      cases hX with
      | next => rw [← Prog3L.resume_eq] at hn; exact hreg.resume hn
      | skipLine =>
        obtain ⟨m, ha, hm⟩ := Option.map_eq_some_iff.1 hn
        cases hm
        exact hreg.after ha
      | jump hh =>
        cases hn
        exact (region_of_mem hasc ((SeqL.mem_keys_iff (L := Prog3L.lang) _ _).2 hh)).resolve_left (htg _ hin s hsmem _ (hfr.jump _ hc))
      | stop => cases hn
      | @resume m k =>
        rw [← Prog3L.resume_eq] at hn
        refine PostNum.resume ?_ hn
        rcases hfr.resume m k hc with he | ⟨l, hl', hlm, _⟩
        · exact h.rets (m, k) he
        · rw [← hlm]; exact h.loops l hl'

theorem dfInv_typed {pre post : RProgram3 F} (hty : typeOfP3 (pre ++ post) = .ok ())
    (hpre : ∀ l ∈ pre, ∀ s ∈ l.2, isDefOrData s = true) (hpost : ∀ l ∈ post, ∀ s ∈ l.2, defFree s = true)
    (hnl : NoLaterUse (flatP pre)) {r : RState3 F} (h : DFInv pre post r) {n j : Nat} (hpc : r.pc = some (n, j)) :
    FnsTyped (sigAt (pre ++ post) n j) r.fns := by
  rw [(h.pc n j hpc).1]
  refine fnsTyped_at hty (fun s hs => ?_) ?_ n j
  · rw [flatP_append, List.mem_append] at hs
    rcases hs with hs | hs
    · exact topDef_of_defOrData (forall_mem_flatP.2 hpre s hs)
    · exact topDef_of_defFree (forall_mem_flatP.2 hpost s hs)
  · rw [flatP_append]
    exact noLaterUse_append hnl (forall_mem_flatP.2 hpost)

end Abasic.Props.C06
