import Abasic.Ref.Prog3
import Abasic.Proofs.SeqLang
import Abasic.Proofs.RunSim
import Abasic.Proofs.ProgLemmas
/-
  C03, full statement language — the programs of Ref/Prog3.lean as a language of numbered lines (`lang`,
  Proofs/SeqLang.lean): the store of a compiled `RProgram3` and where a statement stands on its line are the
  facts proved there.  Also the reference machine itself: a step `RStep3` is the statement's `exec`, then
  `SeqL.seq` (`rstep_seq`), and `RSteps3` iterates it (`C03.rsteps3_iterates`, for Proofs/RunSim.lean).
-/
set_option linter.unusedSectionVars false

namespace Abasic.Prog3L
open Abasic Abasic.Ref Abasic.ExprL Abasic.StmtL Abasic.ProgL M

variable {F : Type} [NumOps F]

theorem renderS3_head (s : RStmt3 F) :
    ∃ t ts, renderS3 s = t :: ts ∧ t.isKw .Else = false ∧ t.isKw .Colon = false := by
  cases s with
  | ifS c t e => cases e <;> exact ⟨_, _, by rw [renderS3], rfl, rfl⟩
  | forS v a b c => cases c <;> exact ⟨_, _, by rw [renderS3], rfl, rfl⟩
  | _ => exact ⟨_, _, by rw [renderS3], rfl, rfl⟩

/-- as `ProgL.preToks`, for `RProgram3` -/
def preToks3 : List (RStmt3 F) → Nat → List (Token F)
  | _, 0 => []
  | [], _ + 1 => []
  | s :: rest, j + 1 => renderS3 s ++ .kw .Colon :: preToks3 rest j

theorem renderTail3_cons (s : RStmt3 F) (rest : List (RStmt3 F)) :
    renderTail3 (s :: rest) = .kw .Colon :: renderLine3 (s :: rest) := rfl

theorem preToks3_zero (ss : List (RStmt3 F)) : preToks3 ss 0 = [] := by
  cases ss <;> rfl

@[reducible] def lang : SeqL.Lang F (RStmt3 F) where
  render := renderS3
  line := RProgram3.line
  tail := renderTail3
  rline := renderLine3
  pre := preToks3
  line_nil _ := rfl
  line_cons _ _ _ _ := rfl
  tail_nil := rfl
  tail_cons _ _ := rfl
  rline_nil := rfl
  rline_cons _ _ := rfl
  pre_zero := preToks3_zero
  pre_nil _ := rfl
  pre_cons _ _ _ := rfl
  head := renderS3_head

/-- as `ProgL.Holds`, for `RProgram3` -/
structure Holds (l : Lines F) (p : RProgram3 F) : Prop where
  get : ∀ n, l.get n = (p.line n).map renderLine3
  sorted : l.sorted = p.map (·.1)

theorem Holds.seq {l : Lines F} {p : RProgram3 F} (h : Holds l p) : SeqL.Holds lang l p := ⟨h.get, h.sorted⟩

theorem holds_of_seq {l : Lines F} {p : RProgram3 F} (h : SeqL.Holds lang l p) : Holds l p := ⟨h.get, h.sorted⟩

theorem _root_.Abasic.Ref.RProgram3.WF.seq {p : RProgram3 F} (h : p.WF) : SeqL.WF p := ⟨h.ascending, h.nonempty⟩

theorem compile_get (p : RProgram3 F) (n : Nat) : (compileP3 p).get n = (p.line n).map renderLine3 :=
  SeqL.compile_get (L := lang) p n

theorem holds_compile (p : RProgram3 F) : Holds (compileP3 p) p := ⟨compile_get p, rfl⟩

/-! ### the facts of Proofs/SeqLang.lean about `Holds` and the functions of Ref/Prog3.lean, under the names their
  users know -/

theorem line_mem {p : RProgram3 F} {n : Nat} {ss : List (RStmt3 F)} (h : p.line n = some ss) : (n, ss) ∈ p :=
  SeqL.line_mem (L := lang) h

theorem holds_has {l : Lines F} {p : RProgram3 F} (h : Holds l p) (n : Nat) : l.has n = p.hasLine n :=
  SeqL.holds_has h.seq n

theorem holds_after {l : Lines F} {p : RProgram3 F} (h : Holds l p) (n : Nat) : l.after n = p.after n :=
  SeqL.holds_after h.seq n

theorem holds_first {l : Lines F} {p : RProgram3 F} (h : Holds l p) : l.first = p.first :=
  SeqL.holds_first h.seq

theorem holds_of_wf {l : Lines F} {p : RProgram3 F} (hl : Props.C04.WF l) (hp : p.WF)
    (hget : ∀ n, l.get n = (p.line n).map renderLine3) : Holds l p :=
  holds_of_seq (SeqL.holds_of_wf (L := lang) hl hp.seq hget)

theorem holds_load (p : RProgram3 F) (hp : p.WF) :
    Holds ((p.map fun e => (e.1, renderLine3 e.2)).foldl (fun l e => l.set e.1 e.2) ({} : Lines F)) p :=
  holds_of_seq (SeqL.holds_load (L := lang) p hp.seq)

theorem line_split (ss : List (RStmt3 F)) (j : Nat) (s : RStmt3 F) (h : ss[j]? = some s) :
    renderLine3 ss = preToks3 ss j ++ (renderS3 s ++ renderTail3 (ss.drop (j + 1))) :=
  SeqL.line_split (L := lang) ss j s h

theorem compile_has (p : RProgram3 F) (n : Nat) : (compileP3 p).has n = p.hasLine n :=
  holds_has (holds_compile p) n

theorem compile_after (p : RProgram3 F) (n : Nat) : (compileP3 p).after n = p.after n :=
  holds_after (holds_compile p) n

theorem compile_first (p : RProgram3 F) : (compileP3 p).first = p.first :=
  holds_first (holds_compile p)

theorem resume_eq (p : RProgram3 F) (n j : Nat) : p.resume n j = SeqL.resume lang p n j := by
  unfold RProgram3.resume SeqL.resume
  rw [show lang.line p n = p.line n from rfl]
  cases p.line n <;> rfl

/-- The reference machine is `exec`, then `seq`. -/
theorem rstep_seq {p : RProgram3 F} {r : RState3 F} {n j : Nat} {ss : List (RStmt3 F)} {s : RStmt3 F}
    (hpc : r.pc = some (n, j)) (hl : p.line n = some ss) (hs : ss[j]? = some s) :
    RStep3 p r = (SeqL.seq lang p n j (s.exec (allData3 p) n j r).2).map
      (fun pc => { (s.exec (allData3 p) n j r).1 with pc := pc }) id := by
  simp only [RStep3, hpc, hl, hs]
  cases (s.exec (allData3 p) n j r).2 <;> simp only [SeqL.seq, Sum.map_inl, Sum.map_inr, id, resume_eq] <;> try rfl
  rename_i m
  show _ = Sum.map _ id (if p.hasLine m = true then _ else _)
  split <;> rfl

theorem rstep_inl {p : RProgram3 F} {r r' : RState3 F} (h : RStep3 p r = .inl r') :
    r' = r ∨ r' = { r with pc := none } ∨
    ∃ n j ss s X, r.pc = some (n, j) ∧ p.line n = some ss ∧ ss[j]? = some s ∧
      SeqL.PcAfter lang p n j (s.exec (allData3 p) n j r).2 X ∧ r' = { (s.exec (allData3 p) n j r).1 with pc := X } := by
  cases hpc : r.pc with
  | none => simp only [RStep3, hpc] at h; cases h; exact .inl rfl
  | some nj =>
    obtain ⟨n, j⟩ := nj
    cases hl : p.line n with
    | none => simp only [RStep3, hpc, hl] at h; cases h; exact .inr (.inl rfl)
    | some ss =>
      cases hs : ss[j]? with
      | none => simp only [RStep3, hpc, hl, hs] at h; cases h; exact .inr (.inl rfl)
      | some s =>
        rw [rstep_seq hpc hl hs] at h
        cases hq : SeqL.seq lang p n j (s.exec (allData3 p) n j r).2 with
        | inl X => rw [hq] at h; cases h; exact .inr (.inr ⟨n, j, ss, s, X, rfl, hl, hs, SeqL.seq_inl hq, rfl⟩)
        | inr x => rw [hq] at h; cases h

theorem rstep_inr {p : RProgram3 F} {r : RState3 F} {e : Err} {ln : Nat} (h : RStep3 p r = .inr (e, ln)) :
    ∃ n j ss s, r.pc = some (n, j) ∧ p.line n = some ss ∧ ss[j]? = some s ∧
      (((s.exec (allData3 p) n j r).2 = .error e ∧ ln = n) ∨ (s.exec (allData3 p) n j r).2 = .errorAt e ln ∨
        ∃ m, (s.exec (allData3 p) n j r).2 = .jump m ∧ p.hasLine m = false ∧ e = .undefinedStatement ∧ ln = n) := by
  cases hpc : r.pc with
  | none => simp only [RStep3, hpc] at h; cases h
  | some nj =>
    obtain ⟨n, j⟩ := nj
    cases hl : p.line n with
    | none => simp only [RStep3, hpc, hl] at h; cases h
    | some ss =>
      cases hs : ss[j]? with
      | none => simp only [RStep3, hpc, hl, hs] at h; cases h
      | some s =>
        rw [rstep_seq hpc hl hs] at h
        cases hq : SeqL.seq lang p n j (s.exec (allData3 p) n j r).2 with
        | inl X => rw [hq] at h; cases h
        | inr x => rw [hq] at h; cases h; exact ⟨n, j, ss, s, rfl, hl, hs, SeqL.seq_inr hq⟩

end Abasic.Prog3L

namespace Abasic.Props.C03
open Abasic Abasic.Ref

variable {F : Type} [NumOps F]

theorem rsteps3_ok {p : RProgram3 F} {r r' : RState3 F} (n : Nat) (h : RStep3 p r = .inl r') :
    RSteps3 p (n + 1) r = RSteps3 p n r' := by
  simp only [RSteps3, h]

theorem rsteps3_err {p : RProgram3 F} {r : RState3 F} {e : Err} {ln : Nat} (n : Nat)
    (h : RStep3 p r = .inr (e, ln)) : RSteps3 p (n + 1) r = .inr (e, ln, r.out) := by
  simp only [RSteps3, h]

theorem rsteps3_iterates (p : RProgram3 F) : RunSim.Iterates (RStep3 p) (fun r x => (x.1, x.2, r.out)) (RSteps3 p) :=
  ⟨fun _ => rfl, fun k _ _ h => rsteps3_ok k h, fun k _ x h => rsteps3_err k (e := x.1) (ln := x.2) h⟩

end Abasic.Props.C03
