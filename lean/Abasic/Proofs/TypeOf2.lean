import Abasic.Props.C06
import Abasic.Ref.Expr2
/-
  The static typing of the FULL expression language (`Ref.Expr2`: array cells,
  RND, calls of user-defined functions).

  * `typeOf2 sig e` — the static type of a tree, relative to the signatures
      `sig : name → Option (parameter kinds × result kind)` of the functions the
      analyzer has seen a DEF of.  A cell `A(i₁,…,iₙ)`: at least one subscript,
      all numbers; the kind is that of the name.  ABS / INT / RND: a numeric
      argument, a number.  `F(a₁,…,aₙ)` with `sig F = none` is read as an array
      cell (analyzer and interpreter both do that); with `sig F = some (ps, _)`
      the arguments are checked one at a time against `ps` (too few / too many
      arguments are the syntax errors of the missing `,` resp. `)`), the kind
      is that of the name `F`.
  * `sigOf fns` — the signatures recorded in a function table of the
      interpreter / analyzer state (`St.fns`); `sigOfSpec` the same for the table
      of a reference environment.
  * the equations of `typeOf2` / `typeIdx` / `typeArgs` with `>>=`, the form in
      which a run of the analyzer is compared with them step by step.
-/
set_option linter.unusedSectionVars false

namespace Abasic.Props.C06
open Abasic Abasic.Ref

variable {F : Type} [NumOps F]

/-- signatures: parameter kinds and result kind of the functions defined so far -/
abbrev Sig := Str → Option (List VT × VT)

/-- the argument of ABS / INT / RND must be a number; so is the result -/
def numArgT : Except Err VT → Except Err VT
  | .ok .num => .ok .num
  | .ok .str => .error .typeMismatch
  | .error x => .error x

mutual
def typeOf2 (sig : Sig) : Expr2 F → Except Err VT
  | .num _ => .ok .num
  | .str _ => .ok .str
  | .var n => .ok (VT.ofName n)
  | .un op e =>
    match typeOf2 sig e with
    | .error x => .error x
    | .ok t =>
      match unaryRule op t with
      | some t' => .ok t'
      | none => .error .typeMismatch
  | .bin op l r =>
    match typeOf2 sig l with
    | .error x => .error x
    | .ok a =>
      match typeOf2 sig r with
      | .error x => .error x
      | .ok b =>
        match tierRule (tierOf op) a b with
        | some t => .ok t
        | none => .error .typeMismatch
  | .paren e => typeOf2 sig e
  | .abs e => numArgT (typeOf2 sig e)
  | .int e => numArgT (typeOf2 sig e)
  | .rnd e => numArgT (typeOf2 sig e)
  | .cell name idx =>
    match typeIdx sig idx with
    | .error x => .error x
    | .ok _ => .ok (VT.ofName name)
  | .call f args =>
    match sig f with
    | none =>
      match typeIdx sig args with
      | .error x => .error x
      | .ok _ => .ok (VT.ofName f)
    | some s =>
      match typeArgs sig true s.1 args with
      | .error x => .error x
      | .ok _ => .ok (VT.ofName f)
termination_by e => sizeOf e
def typeIdx (sig : Sig) : List (Expr2 F) → Except Err Unit
  | [] => .error (.syntax .unexpectedToken)
  | e :: es =>
    match typeOf2 sig e with
    | .error x => .error x
    | .ok .str => .error .typeMismatch
    | .ok .num =>
      match es with
      | [] => .ok ()
      | e' :: es' => typeIdx sig (e' :: es')
termination_by es => sizeOf es
/-- arguments against parameter kinds, one at a time (`first`: no argument has been read yet) -/
def typeArgs (sig : Sig) (first : Bool) : List VT → List (Expr2 F) → Except Err Unit
  | [], [] => .ok ()
  | [], _ :: _ => .error (.syntax (.expectedToken .RightParen))
  | _ :: _, [] => if first then .error (.syntax .unexpectedToken) else .error (.syntax (.expectedToken .Comma))
  | p :: ps, a :: as =>
    match typeOf2 sig a with
    | .error x => .error x
    | .ok t => if t == p then typeArgs sig false ps as else .error .typeMismatch
termination_by _ as => sizeOf as
end

def sigOf (fns : List (Str × FnDef)) : Sig := fun f =>
  match alGet f fns with
  | none => none
  | some d => some (d.args.map VT.ofName, VT.ofName f)

def sigOfSpec (fns : List (Str × FnDefSpec F)) : Sig := fun f =>
  match alGet f fns with
  | none => none
  | some d => some (d.params.map VT.ofName, VT.ofName f)

theorem typeOf2_paren (sig : Sig) (e : Expr2 F) : typeOf2 sig (.paren e) = typeOf2 sig e := by
  rw [typeOf2]

theorem typeOf2_bin (sig : Sig) (op : BinOp) (l r : Expr2 F) :
    typeOf2 sig (.bin op l r) =
      typeOf2 sig l >>= fun a => typeOf2 sig r >>= fun b =>
        match tierRule (tierOf op) a b with
        | some t => .ok t
        | none => .error .typeMismatch := by
  rw [typeOf2]
  cases typeOf2 sig l with
  | error x => rfl
  | ok a =>
    cases typeOf2 sig r with
    | error x => rfl
    | ok b => cases tierRule (tierOf op) a b <;> rfl

theorem typeOf2_un (sig : Sig) (op : UnOp) (e : Expr2 F) :
    typeOf2 sig (.un op e) =
      typeOf2 sig e >>= fun t =>
        match unaryRule op t with
        | some t' => .ok t'
        | none => .error .typeMismatch := by
  rw [typeOf2]
  cases typeOf2 sig e with
  | error x => rfl
  | ok t => cases unaryRule op t <;> rfl

theorem typeOf2_abs (sig : Sig) (e : Expr2 F) : typeOf2 sig (.abs e) = numArgT (typeOf2 sig e) := by rw [typeOf2]

theorem typeOf2_int (sig : Sig) (e : Expr2 F) : typeOf2 sig (.int e) = numArgT (typeOf2 sig e) := by rw [typeOf2]

theorem typeOf2_rnd (sig : Sig) (e : Expr2 F) : typeOf2 sig (.rnd e) = numArgT (typeOf2 sig e) := by rw [typeOf2]

theorem numArgT_bind (ty : Except Err VT) :
    numArgT ty = ty >>= fun t => match t with | .num => .ok .num | .str => .error .typeMismatch := by
  cases ty with
  | error x => rfl
  | ok t => cases t <;> rfl

theorem typeIdx_nil (sig : Sig) : typeIdx sig ([] : List (Expr2 F)) = .error (.syntax .unexpectedToken) := by
  rw [typeIdx]

theorem typeIdx_cons (sig : Sig) (e : Expr2 F) (es : List (Expr2 F)) :
    typeIdx sig (e :: es) =
      match typeOf2 sig e with
      | .error x => .error x
      | .ok .str => .error .typeMismatch
      | .ok .num =>
        match es with
        | [] => .ok ()
        | e' :: es' => typeIdx sig (e' :: es') := by
  rw [typeIdx.eq_def]

theorem typeIdx_cons_bind (sig : Sig) (x : Expr2 F) (es : List (Expr2 F)) :
    typeIdx sig (x :: es) =
      typeOf2 sig x >>= fun t =>
        match t, es with
        | .str, _ => .error .typeMismatch
        | .num, [] => .ok ()
        | .num, _ :: _ => typeIdx sig es := by
  rw [typeIdx_cons]
  cases typeOf2 sig x with
  | error e => rfl
  | ok t => cases t <;> cases es <;> rfl

theorem typeOf2_cell_bind (sig : Sig) (name : Str) (idx : List (Expr2 F)) :
    typeOf2 sig (.cell name idx) = typeIdx sig idx >>= fun _ => .ok (VT.ofName name) := by
  rw [typeOf2]
  cases typeIdx sig idx <;> rfl

theorem typeOf2_call_none_bind (sig : Sig) (g : Str) (args : List (Expr2 F)) (hs : sig g = none) :
    typeOf2 sig (.call g args) = typeIdx sig args >>= fun _ => .ok (VT.ofName g) := by
  rw [typeOf2, hs]
  dsimp only
  cases typeIdx sig args <;> rfl

theorem typeOf2_call_some_bind (sig : Sig) (g : Str) (args : List (Expr2 F)) {s : List VT × VT} (hs : sig g = some s) :
    typeOf2 sig (.call g args) = typeArgs sig true s.1 args >>= fun _ => .ok (VT.ofName g) := by
  rw [typeOf2, hs]
  dsimp only
  cases typeArgs sig true s.1 args <;> rfl

theorem typeArgs_nil_nil (sig : Sig) (fst : Bool) : typeArgs sig fst [] ([] : List (Expr2 F)) = .ok () := by
  rw [typeArgs]

theorem typeArgs_nil_cons (sig : Sig) (fst : Bool) (a : Expr2 F) (as : List (Expr2 F)) :
    typeArgs sig fst [] (a :: as) = .error (.syntax (.expectedToken .RightParen)) := by rw [typeArgs]

theorem typeArgs_cons_nil_first (sig : Sig) (p : VT) (ps : List VT) :
    typeArgs sig true (p :: ps) ([] : List (Expr2 F)) = .error (.syntax .unexpectedToken) := by
  rw [typeArgs]; rfl

theorem typeArgs_cons_nil (sig : Sig) (p : VT) (ps : List VT) :
    typeArgs sig false (p :: ps) ([] : List (Expr2 F)) = .error (.syntax (.expectedToken .Comma)) := by
  rw [typeArgs]; rfl

theorem typeArgs_cons_bind (sig : Sig) (fst : Bool) (p : VT) (ps : List VT) (a : Expr2 F) (as : List (Expr2 F)) :
    typeArgs sig fst (p :: ps) (a :: as) =
      typeOf2 sig a >>= fun t => if t == p then typeArgs sig false ps as else .error .typeMismatch := by
  rw [typeArgs]
  cases typeOf2 sig a <;> rfl

end Abasic.Props.C06
