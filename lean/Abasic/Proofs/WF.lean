import Abasic.Props.C04
import Abasic.Props.C16
import Abasic.Props.C18
import Abasic.Proofs.ArrayCells
import Abasic.Proofs.Cursor
import Abasic.Proofs.WFAttr
/-
  The well-formedness invariant of interpreter states (helper for C01:
  Abasic/Props/C01WF.lean; also used by C11Host, C14Run).

  * `LocOk L loc`   — a location on a numbered line names a stored line of `L` and
                      is at most one past its last token (an immediate location is
                      always ok: see `Props.C01.immediate_idx_not_invariant`);
  * `WFσ s`         — the two indexes of the line store agree, and the cursor, the
                      breakpoint, every GOSUB/FN frame, every open loop, every
                      function definition and every DATA chunk is `LocOk`; every
                      array has as many cells as its dimensions say; the RNG state
                      is reduced; the nesting counter is within its cap;
  * `EOk L e`       — the error is neither a panic nor a tokenization error and its
                      location (if set) is `LocOk`;
  * `Good R Q m`    — from a state with `WFσ`, `m` ends (on both paths) in a state
                      with `WFσ` related to the initial one by the frame `R`; a
                      value satisfies `Q`, an error `EOk`.
  Two frames: `ER` (expression evaluation: nesting counter, stack, functions,
  store, immediate line and the cursor's line unchanged, the cursor's index not
  smaller) and `SR` (statements: nesting counter and store unchanged).
-/
namespace Abasic.WF
open Abasic M
open Abasic.Hoare (IsFrame)

variable {F : Type}

def LocOk (L : Lines F) (loc : Loc) : Prop :=
  ∀ n, loc.line = some n → ∃ ts, L.get n = some ts ∧ loc.idx ≤ ts.length

abbrev LocOkS (s : St F) (loc : Loc) : Prop := LocOk s.lines loc

structure WFσ (s : St F) : Prop where
  lines : Props.C04.WF s.lines
  loc : LocOk s.lines s.loc
  bp : ∀ n i, s.bp = some (n, i) → LocOk s.lines { line := some n, idx := i }
  stack : ∀ f ∈ s.stack, LocOk s.lines f.ret
  loops : ∀ l ∈ s.loops, LocOk s.lines l.loc
  fns : ∀ p ∈ s.fns, LocOk s.lines { line := some p.2.line, idx := p.2.idx }
  data : ∀ it, s.data = some it → ∀ c ∈ it.chunks, LocOk s.lines c.1
  arrays : ∀ p ∈ s.arrays, p.2.cellCount = Props.C16.prod p.2.dims
  rng : s.rng < 2 ^ 33
  nest : s.nesting ≤ Extracted.nestingLimit

/-- errors the evaluator may raise -/
def plain : Err → Bool
  | .panic _ => false
  | .syntax (.tokenization _) => false
  | _ => true

theorem plain_not_panic {e : Err} (h : plain e = true) : e.isPanic = false := by
  cases e <;> first | rfl | (simp [plain] at h)

structure EOk (L : Lines F) (e : TErr) : Prop where
  plain : plain e.err = true
  loc : ∀ loc, e.loc = some loc → LocOk L loc

structure ER (s s' : St F) : Prop where
  nesting : s'.nesting = s.nesting
  stack : s'.stack = s.stack
  fns : s'.fns = s.fns
  lines : s'.lines = s.lines
  imm : s'.imm = s.imm
  line : s'.loc.line = s.loc.line
  idx : s.loc.idx ≤ s'.loc.idx

structure SR (s s' : St F) : Prop where
  nesting : s'.nesting = s.nesting
  lines : s'.lines = s.lines

instance : IsFrame (ER (F := F)) where
  refl _ := ⟨rfl, rfl, rfl, rfl, rfl, rfl, Nat.le_refl _⟩
  trans h1 h2 := ⟨h2.nesting.trans h1.nesting, h2.stack.trans h1.stack, h2.fns.trans h1.fns,
    h2.lines.trans h1.lines, h2.imm.trans h1.imm, h2.line.trans h1.line, Nat.le_trans h1.idx h2.idx⟩

instance : IsFrame (SR (F := F)) where
  refl _ := ⟨rfl, rfl⟩
  trans h1 h2 := ⟨h2.nesting.trans h1.nesting, h2.lines.trans h1.lines⟩

theorem er_sr {s s' : St F} (h : ER s s') : SR s s' := ⟨h.nesting, h.lines⟩

def Post (R : St F → St F → Prop) {α : Type} (Q : α → Prop) (s0 : St F) : Res F α → Prop
  | .ok a s' => WFσ s' ∧ R s0 s' ∧ Q a
  | .err e s' => WFσ s' ∧ R s0 s' ∧ EOk s'.lines e

def Good (R : St F → St F → Prop) {α : Type} (Q : α → Prop) (m : M F α) : Prop :=
  ∀ s, WFσ s → Post R Q s (m s)

abbrev T {α : Type} : α → Prop := fun _ => True

section
variable {R R' : St F → St F → Prop} {α β : Type}

theorem Post.mono {Q : α → Prop} {s0 : St F} {r : Res F α} (hsub : ∀ a b, R a b → R' a b)
    (h : Post R Q s0 r) : Post R' Q s0 r := by
  cases r with
  | ok a s' => exact ⟨h.1, hsub _ _ h.2.1, h.2.2⟩
  | err e s' => exact ⟨h.1, hsub _ _ h.2.1, h.2.2⟩

theorem Post.weaken {Q Q' : α → Prop} {s0 : St F} {r : Res F α} (hq : ∀ a, Q a → Q' a)
    (h : Post R Q s0 r) : Post R Q' s0 r := by
  cases r with
  | ok a s' => exact ⟨h.1, h.2.1, hq a h.2.2⟩
  | err e s' => exact h

theorem Post.from [IsFrame R] {Q : α → Prop} {s0 s1 : St F} {r : Res F α} (hr : R s0 s1)
    (h : Post R Q s1 r) : Post R Q s0 r := by
  cases r with
  | ok a s' => exact ⟨h.1, IsFrame.trans hr h.2.1, h.2.2⟩
  | err e s' => exact ⟨h.1, IsFrame.trans hr h.2.1, h.2.2⟩

theorem Post.bind [IsFrame R] {Q : α → Prop} {Q' : β → Prop} {m : M F α} {f : α → M F β} {s0 s : St F}
    (hm : Post R Q s0 (m s))
    (hf : ∀ a s1, WFσ s1 → R s0 s1 → Q a → m s = .ok a s1 → Post R Q' s0 (f a s1)) :
    Post R Q' s0 ((m >>= f) s) := by
  show Post R Q' s0 (M.bindM m f s)
  unfold M.bindM
  cases hms : m s with
  | ok a s1 =>
    rw [hms] at hm
    exact hf a s1 hm.1 hm.2.1 hm.2.2 hms
  | err e s1 =>
    rw [hms] at hm
    exact hm

theorem Good.at [IsFrame R] {Q : α → Prop} {m : M F α} (hg : Good R Q m) {s0 s1 : St F}
    (hw : WFσ s1) (hr : R s0 s1) : Post R Q s0 (m s1) :=
  Post.from hr (hg s1 hw)

theorem Good.mono {Q : α → Prop} {m : M F α} (hsub : ∀ a b, R a b → R' a b) (h : Good R Q m) :
    Good R' Q m :=
  fun s hs => (h s hs).mono hsub

@[good] theorem Good.sr {Q : α → Prop} {m : M F α} (h : Good ER Q m) : Good SR Q m :=
  h.mono fun _ _ => er_sr

theorem Good.pure [IsFrame R] {Q : α → Prop} {a : α} (h : Q a) : Good R Q (pure a : M F α) :=
  fun s hs => ⟨hs, IsFrame.refl s, h⟩

theorem Good.bind [IsFrame R] {Q : α → Prop} {Q' : β → Prop} {m : M F α} {f : α → M F β}
    (hm : Good R Q m) (hf : ∀ a, Q a → Good R Q' (f a)) : Good R Q' (m >>= f) :=
  fun s hs => Post.bind (hm s hs) fun a _ hw hr hq _ => (hf a hq).at hw hr

theorem Good.weaken {Q Q' : α → Prop} {m : M F α} (hm : Good R Q m) (h : ∀ a, Q a → Q' a) :
    Good R Q' m :=
  fun s hs => (hm s hs).weaken h

theorem Good.triv {Q : α → Prop} {m : M F α} (hm : Good R Q m) : Good R T m :=
  hm.weaken fun _ _ => trivial

theorem eok_fail {L : Lines F} {e : Err} (h : plain e = true) : EOk L { err := e } :=
  ⟨h, by intro loc hl; cases hl⟩

theorem Good.fail [IsFrame R] {Q : α → Prop} {e : Err} (h : plain e = true) : Good R Q (M.fail e : M F α) :=
  fun s hs => ⟨hs, IsFrame.refl s, eok_fail h⟩

theorem Good.get_bind {Q : β → Prop} {f : St F → M F β} (hf : ∀ s0, WFσ s0 → Post R Q s0 (f s0 s0)) :
    Good R Q (M.get >>= f) :=
  fun s hs => hf s hs

theorem Good.liftE [IsFrame R] {r : Except Err α} (h : ∀ e, r = .error e → plain e = true) :
    Good R T (liftE r : M F α) := by
  cases r with
  | ok a => exact Good.pure trivial
  | error e => exact Good.fail (h e rfl)

/-- `m` run from `s`, measured against the base state `s0` (lets a proof look through
    `let s ← get; … set { s with … }`) -/
def GoodAt (R : St F → St F → Prop) (Q : α → Prop) (m : M F α) (s0 s : St F) : Prop :=
  Post R Q s0 (m s)

theorem Good.get_bind' {Q : β → Prop} {f : St F → M F β} (hf : ∀ s, WFσ s → GoodAt R Q (f s) s s) :
    Good R Q (M.get >>= f) :=
  fun s hs => hf s hs

theorem GoodAt.get_bind {Q : β → Prop} {f : St F → M F β} {s0 s : St F} (hf : GoodAt R Q (f s) s0 s) :
    GoodAt R Q (M.get >>= f) s0 s := hf

theorem Good.gat [IsFrame R] {Q : α → Prop} {m : M F α} (hg : Good R Q m) {s0 s1 : St F}
    (hw : WFσ s1) (hr : R s0 s1) : GoodAt R Q m s0 s1 :=
  hg.at hw hr

theorem GoodAt.bind [IsFrame R] {Q : α → Prop} {Q' : β → Prop} {m : M F α} {f : α → M F β} {s0 s : St F}
    (hm : GoodAt R Q m s0 s)
    (hf : ∀ a s1, WFσ s1 → R s0 s1 → Q a → m s = .ok a s1 → GoodAt R Q' (f a) s0 s1) :
    GoodAt R Q' (m >>= f) s0 s :=
  Post.bind hm hf

theorem GoodAt.set {s0 s s' : St F} (hw : WFσ s') (hr : R s0 s') : GoodAt R T (M.set s') s0 s :=
  ⟨hw, hr, trivial⟩

theorem GoodAt.modify {s0 s : St F} {f : St F → St F} (hw : WFσ (f s)) (hr : R s0 (f s)) :
    GoodAt R T (M.modify f) s0 s :=
  ⟨hw, hr, trivial⟩

theorem GoodAt.pure {Q : α → Prop} {a : α} {s0 s : St F} (hw : WFσ s) (hr : R s0 s) (hq : Q a) :
    GoodAt R Q (pure a : M F α) s0 s :=
  ⟨hw, hr, hq⟩

theorem GoodAt.fail {Q : α → Prop} {e : Err} {s0 s : St F} (hw : WFσ s) (hr : R s0 s) (h : plain e = true) :
    GoodAt R Q (M.fail e : M F α) s0 s :=
  ⟨hw, hr, eok_fail h⟩

theorem GoodAt.weaken {Q Q' : α → Prop} {m : M F α} {s0 s : St F} (hm : GoodAt R Q m s0 s)
    (h : ∀ a, Q a → Q' a) : GoodAt R Q' m s0 s :=
  Post.weaken h hm

end

section
variable {R : St F → St F → Prop} {α : Type}

theorem WFσ.same {s s' : St F} (hs : WFσ s) (h1 : s'.lines = s.lines) (h2 : s'.loc = s.loc)
    (h3 : s'.bp = s.bp) (h4 : s'.stack = s.stack) (h5 : s'.loops = s.loops) (h6 : s'.fns = s.fns)
    (h7 : s'.data = s.data) (h8 : s'.arrays = s.arrays) (h9 : s'.rng = s.rng)
    (h10 : s'.nesting = s.nesting) : WFσ s' := by
  refine ⟨?_, ?_, ?_, ?_, ?_, ?_, ?_, ?_, ?_, ?_⟩
  · rw [h1]; exact hs.lines
  · rw [h1, h2]; exact hs.loc
  · rw [h1, h3]; exact hs.bp
  · rw [h1, h4]; exact hs.stack
  · rw [h1, h5]; exact hs.loops
  · rw [h1, h6]; exact hs.fns
  · rw [h1, h7]; exact hs.data
  · rw [h8]; exact hs.arrays
  · rw [h9]; exact hs.rng
  · rw [h10]; exact hs.nest

theorem er_same {s s' : St F} (h1 : s'.nesting = s.nesting) (h2 : s'.stack = s.stack) (h3 : s'.fns = s.fns)
    (h4 : s'.lines = s.lines) (h5 : s'.imm = s.imm) (h6 : s'.loc = s.loc) : ER s s' :=
  ⟨h1, h2, h3, h4, h5, by rw [h6], by rw [h6]; exact Nat.le_refl _⟩

def curToks (s : St F) : List (Token F) :=
  match s.loc.line with
  | none => s.imm
  | some n => (s.lines.get n).getD []

theorem curToks_er {s s' : St F} (h : ER s s') : curToks s' = curToks s := by
  unfold curToks
  rw [h.line, h.imm, h.lines]

theorem WFσ.cur {s : St F} (hs : WFσ s) {n : Nat} (hl : s.loc.line = some n) :
    ∃ ts, s.lines.get n = some ts ∧ curToks s = ts ∧ s.loc.idx ≤ ts.length := by
  obtain ⟨ts, hg, hi⟩ := hs.loc n hl
  exact ⟨ts, hg, by simp only [curToks, hl, hg, Option.getD_some], hi⟩

theorem WFσ.toks {s : St F} (hs : WFσ s) : Cur.toks s = some (curToks s) := by
  unfold Cur.toks curToks
  cases hl : s.loc.line with
  | none => rfl
  | some n =>
    obtain ⟨ts, hg, _⟩ := hs.loc n hl
    simp only [hg, Option.getD_some]

theorem tokens_eq {s : St F} (hs : WFσ s) : tokens s = .ok (curToks s) s := by
  rw [Cur.tokens_eq, hs.toks]

theorem locOk_adv {s : St F} (hs : WFσ s) {t : Token F} (h : (curToks s)[s.loc.idx]? = some t) :
    LocOk s.lines { s.loc with idx := s.loc.idx + 1 } := by
  intro n hl
  obtain ⟨ts, hg, hc, _⟩ := hs.cur hl
  rw [hc] at h
  exact ⟨ts, hg, (List.getElem?_eq_some_iff.mp h).1⟩

theorem WFσ.adv {s : St F} (hs : WFσ s) {t : Token F} (h : (curToks s)[s.loc.idx]? = some t) (r : Nat) :
    WFσ { s with reads := r, loc := { s.loc with idx := s.loc.idx + 1 } } :=
  { hs with loc := locOk_adv hs h }

theorem WFσ.reads {s : St F} (hs : WFσ s) (r : Nat) : WFσ { s with reads := r } :=
  { hs with }

theorem er_reads (s : St F) (r : Nat) : ER s { s with reads := r } :=
  er_same rfl rfl rfl rfl rfl rfl

theorem er_adv (s : St F) (r : Nat) :
    ER s { s with reads := r, loc := { s.loc with idx := s.loc.idx + 1 } } :=
  ⟨rfl, rfl, rfl, rfl, rfl, rfl, Nat.le_succ _⟩

@[good] theorem good_tokens : Good ER T (tokens : M F (List (Token F))) := by
  intro s hs
  rw [tokens_eq hs]
  exact ⟨hs, IsFrame.refl s, trivial⟩

/-- a cursor operation (Proofs/Cursor.lean): the step is over a token of the line, an error is at the cursor -/
theorem Good.curOp {Q : α → Prop} {f : Loc → Option (Token F) → Bool × Except TErr α} (hf : Cur.Op f)
    (hq : ∀ l c mv a, f l c = (mv, .ok a) → Q a) : Good ER Q (Cur.curOp f) := by
  intro s hs
  rw [Cur.curOp_some f hs.toks]
  have hstate : ∀ mv r, f s.loc (curToks s)[s.loc.idx]? = (mv, r) →
      WFσ (if mv = true then Cur.adv (Cur.rd s) else Cur.rd s) ∧
      ER s (if mv = true then Cur.adv (Cur.rd s) else Cur.rd s) := by
    intro mv r h
    cases mv with
    | false => exact ⟨hs.reads _, er_reads s _⟩
    | true =>
      obtain ⟨t, ht⟩ := Option.isSome_iff_exists.mp (hf.some_of_step _ _ _ h)
      exact ⟨hs.adv ht _, er_adv s _⟩
  cases h : f s.loc (curToks s)[s.loc.idx]? with
  | mk mv r =>
    obtain ⟨hw, hr⟩ := hstate _ _ h
    cases r with
    | ok a => exact ⟨hw, hr, hq _ _ _ _ h⟩
    | error e =>
      refine ⟨hw, hr, ?_⟩
      rcases hf.err _ _ _ _ h with rfl | ⟨k, rfl⟩
      · refine ⟨rfl, fun l hl => ?_⟩
        cases hl
        rw [hr.lines]
        exact hs.loc
      · exact eok_fail rfl

@[good] theorem good_peek : Good ER T (peek : M F (Option (Token F))) :=
  Cur.peek_eq ▸ Good.curOp Cur.op_peek fun _ _ _ _ _ => trivial

theorem next_eq {s : St F} (hs : WFσ s) :
    next s = .ok (curToks s)[s.loc.idx]?
      (match (curToks s)[s.loc.idx]? with
       | some _ => { s with reads := s.reads + 1, loc := { s.loc with idx := s.loc.idx + 1 } }
       | none => { s with reads := s.reads + 1 }) := by
  rw [Cur.next_eq, Cur.curOp_some _ hs.toks]
  dsimp only [Cur.nextF]
  cases (curToks s)[s.loc.idx]? <;> rfl

@[good] theorem good_next : Good ER T (next : M F (Option (Token F))) :=
  Cur.next_eq ▸ Good.curOp Cur.op_next fun _ _ _ _ _ => trivial

@[good] theorem good_hasNext : Good ER T (hasNext : M F Bool) :=
  Cur.hasNext_eq ▸ Good.curOp Cur.op_hasNext fun _ _ _ _ _ => trivial

@[good] theorem good_nextUnwrapped : Good ER T (nextUnwrapped : M F (Token F)) :=
  Cur.nextUnwrapped_eq ▸ Good.curOp Cur.op_nextUnwrapped fun _ _ _ _ _ => trivial

@[good] theorem good_expect (k : Kw) : Good ER T (expect k : M F Unit) :=
  Cur.expect_eq k ▸ Good.curOp (Cur.op_expect k) fun _ _ _ _ _ => trivial

@[good] theorem good_accept (k : Kw) : Good ER T (accept k : M F Bool) :=
  Cur.accept_eq k ▸ Good.curOp (Cur.op_accept k) fun _ _ _ _ _ => trivial

@[good] theorem good_peekIsKw (k : Kw) : Good ER T (peekIsKw k : M F Bool) :=
  Cur.peekIsKw_eq k ▸ Good.curOp (Cur.op_peekIsKw k) fun _ _ _ _ _ => trivial

@[good] theorem good_tryNext {γ : Type} (f : Token F → Option γ) : Good ER T (tryNext f : M F (Option γ)) :=
  Cur.tryNext_eq f ▸ Good.curOp (Cur.op_tryNext f) fun _ _ _ _ _ => trivial

@[good] theorem good_lineBudget : Good ER T (lineBudget : M F Nat) :=
  Good.bind good_tokens fun _ _ => Good.pure trivial

/-- `discard_remaining_tokens` (the index can go DOWN on a stale immediate location) -/
@[good] theorem good_discardRemaining : Good SR T (discardRemaining : M F Unit) := by
  intro s hs
  simp only [discardRemaining, Bind.bind, M.bindM, tokens_eq hs, M.modify]
  refine ⟨{ hs with loc := ?_ }, ⟨rfl, rfl⟩, trivial⟩
  intro n hl
  obtain ⟨ts, hg, hc, _⟩ := hs.cur hl
  exact ⟨ts, hg, Nat.le_of_eq (congrArg List.length hc)⟩

end

open Abasic.Props.C16 (mem_alSet alGet_mem alGet_alSet_self)

theorem removeLoop_sub {sym : Str} {l : List (LoopInfo F)} {info : LoopInfo F} {rest : List (LoopInfo F)}
    (h : removeLoop sym l = some (info, rest)) : info ∈ l ∧ ∀ x ∈ rest, x ∈ l := by
  obtain ⟨_, inner, hl, _⟩ := Props.C16.removeLoop_some sym l info rest h
  subst hl
  exact ⟨by simp, fun x hx => by simp [hx]⟩

theorem dataIter_next_chunks (it : DataIter F) (fuel : Nat) : (it.next fuel).2.chunks = it.chunks := by
  induction fuel generalizing it with
  | zero => rfl
  | succ n ih =>
    unfold DataIter.next
    split
    · rfl
    · split
      · rfl
      · rw [ih]

theorem dataChunks_locOk [NumOps F] {L : Lines F} (hwf : Props.C04.WF L) :
    ∃ chunks, L.dataChunks = some chunks ∧ ∀ c ∈ chunks, LocOk L c.1 := by
  obtain ⟨entries, he, _, hg⟩ := Props.C04.list_sorted L hwf
  refine ⟨_, by unfold Lines.dataChunks; rw [he]; rfl, ?_⟩
  intro c hc
  simp only [List.mem_flatMap, List.mem_filterMap] at hc
  obtain ⟨⟨n, ts⟩, hmem, ⟨t, i⟩, hti, hsome⟩ := hc
  have hget : L.get n = some ts := hg (n, ts) hmem
  have hi : i < ts.length := by
    have := List.mem_zipIdx hti
    simp only at this
    omega
  cases t with
  | data items =>
    simp only [Option.some.injEq] at hsome
    subst hsome
    intro m hm
    simp only [Option.some.injEq] at hm
    subst hm
    exact ⟨ts, hget, Nat.le_of_lt hi⟩
  | _ => simp at hsome

theorem findInputBefore_some (ts : List (Token F)) (k i : Nat) (t : Token F) (hi : i < k)
    (ht : ts[i]? = some t) (hk : t.isKw .Input = true) : ∃ j, findInputBefore ts k = some j ∧ j < k := by
  induction k with
  | zero => omega
  | succ k ih =>
    unfold findInputBefore
    by_cases hik : i = k
    · subst hik
      simp only [ht, hk, if_true]
      exact ⟨i, rfl, Nat.lt_succ_self _⟩
    · have hlt : i < k := by omega
      obtain ⟨j, hj, hjk⟩ := ih hlt
      cases hts : ts[k]? with
      | none => simp only; exact ⟨j, hj, by omega⟩
      | some t' =>
        simp only
        split
        · exact ⟨k, rfl, Nat.lt_succ_self _⟩
        · exact ⟨j, hj, by omega⟩

section

theorem locOk_imm (L : Lines F) (i : Nat) : LocOk L { line := none, idx := i } := by
  intro n hl; cases hl

theorem locOk_mk {L : Lines F} {n i : Nat} {ts : List (Token F)} (hg : L.get n = some ts) (hi : i ≤ ts.length) :
    LocOk L { line := some n, idx := i } := by
  intro m hm
  simp only [Option.some.injEq] at hm
  subst hm
  exact ⟨ts, hg, hi⟩

theorem locOk_start {L : Lines F} {n : Nat} (h : (L.get n).isSome = true) : LocOk L { line := some n, idx := 0 } := by
  obtain ⟨ts, hts⟩ := Option.isSome_iff_exists.mp h
  exact locOk_mk hts (Nat.zero_le _)

theorem wf_setImmediate {s : St F} (hs : WFσ s) (ts : List (Token F)) : WFσ (s.setImmediate ts) := by
  unfold St.setImmediate
  refine { hs with loc := locOk_imm _ _, stack := ?_ }
  intro f hf
  by_cases hb : s.bp.isNone = true
  · simp only [hb, if_true] at hf
    cases hf
  · simp only [hb] at hf
    exact hs.stack f hf

@[good] theorem good_setImmediate (ts : List (Token F)) : Good SR T (setImmediate ts : M F Unit) :=
  fun s hs => show Post SR T s (.ok () (s.setImmediate ts)) from ⟨wf_setImmediate hs ts, ⟨rfl, rfl⟩, trivial⟩

theorem wf_progBreak {s : St F} (hs : WFσ s) : WFσ s.progBreak := by
  unfold St.progBreak
  apply wf_setImmediate
  refine { hs with bp := ?_ }
  intro n i h
  cases hl : s.loc.line with
  | none => simp only [hl] at h; cases h
  | some m =>
    simp only [hl, Option.some.injEq, Prod.mk.injEq] at h
    obtain ⟨h1, h2⟩ := h
    subst h1 h2
    obtain ⟨ts, hg, hi⟩ := hs.loc m hl
    exact locOk_mk hg hi

@[good] theorem good_continueFromBreakpoint : Good SR T (continueFromBreakpoint : M F Unit) := by
  unfold continueFromBreakpoint
  refine Good.bind (good_setImmediate []) fun _ _ => Good.get_bind' fun s0 hs0 => ?_
  split
  · exact GoodAt.fail hs0 (IsFrame.refl _) rfl
  · rename_i n i hb
    exact GoodAt.set { hs0 with loc := hs0.bp n i hb, bp := by intro _ _ h; cases h } ⟨rfl, rfl⟩

@[good] theorem good_setVar [NumOps F] (name : Str) (v : Value F) : Good ER T (setVar name v) := by
  unfold setVar
  split
  · intro s hs
    exact ⟨{ hs with }, er_same rfl rfl rfl rfl rfl rfl, trivial⟩
  · exact Good.fail rfl

@[good] theorem good_emit (o : Out) : Good ER T (emit o : M F Unit) := by
  intro s hs
  exact ⟨{ hs with }, er_same rfl rfl rfl rfl rfl rfl, trivial⟩

@[good] theorem good_startLoop [NumOps F] (sym : Str) (a b c : F) : Good SR T (startLoop sym a b c) := by
  unfold startLoop
  have h1 : Good SR T (M.modify fun s : St F =>
      match removeLoop sym s.loops with
      | some (_, rest) => { s with loops := rest }
      | none => s) := by
    intro s hs
    cases heq : removeLoop sym s.loops with
    | none =>
      refine GoodAt.modify (s0 := s) ?_ ?_ <;> simp only [heq]
      · exact hs
      · exact ⟨rfl, rfl⟩
    | some p =>
      obtain ⟨x, rest⟩ := p
      refine GoodAt.modify (s0 := s) ?_ ?_ <;> simp only [heq]
      · exact { hs with loops := fun l hl => hs.loops l ((removeLoop_sub heq).2 l hl) }
      · exact ⟨rfl, rfl⟩
  refine Good.bind h1 fun _ _ => Good.get_bind' fun s0 hs0 => ?_
  split
  · exact GoodAt.fail hs0 (IsFrame.refl _) rfl
  · refine GoodAt.bind (Q := T) (GoodAt.set ?_ ⟨rfl, rfl⟩) fun _ s1 hw hr _ _ => (good_setVar sym (.num a)).sr.gat hw hr
    exact { hs0 with loops := List.forall_mem_cons.mpr ⟨hs0.loc, hs0.loops⟩ }

@[good] theorem good_endLoop [NumOps F] (sym : Str) : Good SR T (endLoop (F := F) sym) := by
  unfold endLoop
  refine Good.get_bind' fun s0 hs0 => ?_
  split
  · exact GoodAt.fail hs0 (IsFrame.refl _) rfl
  · split
    · exact GoodAt.fail hs0 (IsFrame.refl _) rfl
    · rename_i info rest heq
      have hsub := removeLoop_sub heq
      have key : ∀ (c : Bool) (v : Value F), GoodAt SR T
          (if c = true then (do M.set { s0 with loops := info :: rest, loc := info.loc }; setVar sym v)
           else (do M.set { s0 with loops := rest }; setVar sym v)) s0 s0 := by
        intro c v
        split
        · refine GoodAt.bind (Q := T) (GoodAt.set ?_ ⟨rfl, rfl⟩)
            fun _ s1 hw hr _ _ => (good_setVar (F := F) sym _).sr.gat hw hr
          exact { hs0 with
            loops := List.forall_mem_cons.mpr ⟨hs0.loops _ hsub.1, fun l hl => hs0.loops l (hsub.2 l hl)⟩
            loc := hs0.loops _ hsub.1 }
        · refine GoodAt.bind (Q := T) (GoodAt.set ?_ ⟨rfl, rfl⟩)
            fun _ s1 hw hr _ _ => (good_setVar (F := F) sym _).sr.gat hw hr
          exact { hs0 with loops := fun l hl => hs0.loops l (hsub.2 l hl) }
      exact key _ _

theorem wf_resetRuntime {s : St F} (hs : WFσ s) : WFσ s.resetRuntime := by
  unfold St.resetRuntime
  apply wf_setImmediate
  exact { hs with
    bp := by intro _ _ h; cases h
    data := by intro _ h; cases h
    fns := by intro _ h; cases h
    stack := by intro _ h; cases h
    loops := by intro _ h; cases h }

theorem wf_runFromFirst {s : St F} (hs : WFσ s) : WFσ s.runFromFirst := by
  have hr := wf_resetRuntime hs
  have hlines : s.resetRuntime.lines = s.lines := rfl
  unfold St.runFromFirst
  simp only
  split
  · rename_i n hf
    refine { hr with loc := ?_ }
    rw [hlines] at hf
    have hmem : n ∈ s.lines.sorted := by
      unfold Lines.first at hf
      exact List.mem_of_mem_head? (by rw [hf]; rfl)
    exact locOk_start (L := s.lines) ((hs.lines.agree n).mp hmem)
  · exact hr

theorem wf_setNumberedLine {s : St F} (hs : WFσ s) (n : Nat) (ts : List (Token F)) :
    WFσ (s.setNumberedLine n ts) := by
  unfold St.setNumberedLine St.setImmediate
  exact {
    lines := Props.C04.wf_set _ hs.lines n ts
    loc := locOk_imm _ _
    bp := by intro _ _ h; cases h
    data := by intro _ h; cases h
    fns := by intro _ h; cases h
    stack := by intro _ h; simp at h
    loops := by intro _ h; cases h
    arrays := hs.arrays
    rng := hs.rng
    nest := hs.nest }

theorem good_clearBp : Good SR T (M.modify fun s : St F => { s with bp := none }) := fun s hs =>
  GoodAt.modify (s0 := s) { hs with bp := by intro _ _ h; cases h } ⟨rfl, rfl⟩

@[good] theorem good_gotoLine (n : Nat) : Good SR T (gotoLine n : M F Unit) := by
  unfold gotoLine
  refine Good.bind good_clearBp fun _ _ => Good.get_bind' fun s0 hs0 => ?_
  split
  · rename_i hhas
    exact GoodAt.set { hs0 with loc := locOk_start hhas } ⟨rfl, rfl⟩
  · exact GoodAt.fail hs0 (IsFrame.refl _) rfl

@[good] theorem good_gosubLine (n : Nat) : Good SR T (gosubLine n : M F Unit) := by
  unfold gosubLine
  refine Good.get_bind' fun s0 hs0 => ?_
  split
  · exact GoodAt.fail hs0 (IsFrame.refl _) rfl
  · refine GoodAt.bind (Q := T) ((good_gotoLine n).gat hs0 (IsFrame.refl _)) fun _ s1 hw hr _ _ => ?_
    refine GoodAt.modify { hw with stack := ?_ } ⟨hr.nesting, hr.lines⟩
    intro f hf
    rcases List.mem_cons.mp hf with rfl | hf
    · show LocOk s1.lines s0.loc
      rw [hr.lines]; exact hs0.loc
    · exact hw.stack f hf

@[good] theorem good_returnFromGosub : Good SR T (returnFromGosub : M F Unit) := by
  unfold returnFromGosub
  refine Good.bind good_clearBp fun _ _ => Good.get_bind' fun s0 hs0 => ?_
  split
  · exact GoodAt.fail hs0 (IsFrame.refl _) rfl
  · rename_i f rest hst
    refine GoodAt.set { hs0 with stack := ?_, loc := ?_ } ⟨rfl, rfl⟩
    · exact hs0.stack f (by rw [hst]; exact List.mem_cons_self ..)
    · intro g hg
      exact hs0.stack g (by rw [hst]; exact List.mem_cons_of_mem _ hg)

@[good] theorem good_defineFunction (name : Str) (args : List Str) : Good SR T (defineFunction name args : M F Unit) := by
  unfold defineFunction
  refine Good.get_bind' fun s0 hs0 => ?_
  split
  · exact GoodAt.fail hs0 (IsFrame.refl _) rfl
  · rename_i n hl
    refine GoodAt.set { hs0 with fns := ?_ } ⟨rfl, rfl⟩
    intro p hp
    rcases mem_alSet hp with rfl | hp
    · obtain ⟨ts, hg, hi⟩ := hs0.loc n hl
      exact locOk_mk hg hi
    · exact hs0.fns p hp

@[good] theorem good_nextLine : Good SR T (nextLine : M F Bool) := by
  unfold nextLine
  refine Good.get_bind' fun s0 hs0 => ?_
  split
  · exact GoodAt.pure hs0 (IsFrame.refl _) trivial
  · rename_i n hl
    split
    · rename_i m ha
      have hmem := ((Props.C04.after_least s0.lines hs0.lines n).1 m ha).1
      refine GoodAt.bind (Q := T) (GoodAt.set { hs0 with loc := locOk_start ((hs0.lines.agree m).mp hmem) } ⟨rfl, rfl⟩)
        fun _ s1 hw hr _ _ => GoodAt.pure hw hr trivial
    · exact GoodAt.pure hs0 (IsFrame.refl _) trivial

@[good] theorem good_nextDataElement [NumOps F] : Good ER T (nextDataElement : M F (Option (DataElement F))) := by
  unfold nextDataElement
  refine Good.get_bind' fun s0 hs0 => ?_
  have h1 : GoodAt ER (fun it : DataIter F => ∀ c ∈ it.chunks, LocOk s0.lines c.1)
      (match s0.data with
        | some it => pure it
        | none =>
          match s0.lines.dataChunks with
          | some chunks => pure ({ chunks := chunks } : DataIter F)
          | none => rpanic "data_iterator: unwrap on None") s0 s0 := by
    split
    · rename_i it hd
      exact GoodAt.pure hs0 (IsFrame.refl _) (hs0.data it hd)
    · obtain ⟨chunks, hc, hok⟩ := dataChunks_locOk hs0.lines
      simp only [hc]
      exact GoodAt.pure hs0 (IsFrame.refl _) hok
  refine GoodAt.bind h1 fun it s1 hw hr hit _ => ?_
  have hc := dataIter_next_chunks it (it.chunks.length + 1)
  generalize it.next (it.chunks.length + 1) = p at hc
  obtain ⟨e, it'⟩ := p
  dsimp only
  refine GoodAt.bind (Q := T) (GoodAt.modify ?_ ?_) fun _ s2 hw2 hr2 _ _ => GoodAt.pure hw2 hr2 trivial
  · refine { hw with data := ?_ }
    intro it2 h2 c hcm
    simp only [Option.some.injEq] at h2
    subst h2
    rw [hr.lines]
    exact hit c (by rw [← hc]; exact hcm)
  · exact ⟨hr.nesting, hr.stack, hr.fns, hr.lines, hr.imm, hr.line, hr.idx⟩

/-- frames that `nested` respects -/
class NestFr (R : St F → St F → Prop) : Prop extends IsFrame R where
  nest_eq : ∀ {a b}, R a b → b.nesting = a.nesting
  nest_out : ∀ {s s' : St F}, R { s with nesting := s.nesting + 1 } s' → R s { s' with nesting := s.nesting }

instance : NestFr (ER (F := F)) where
  nest_eq h := h.nesting
  nest_out h := ⟨rfl, h.stack, h.fns, h.lines, h.imm, h.line, h.idx⟩

instance : NestFr (SR (F := F)) where
  nest_eq h := h.nesting
  nest_out h := ⟨rfl, h.lines⟩

theorem WFσ.nesting {s : St F} (hs : WFσ s) {k : Nat} (hk : k ≤ Extracted.nestingLimit) :
    WFσ { s with nesting := k } :=
  { hs with nest := hk }

/-- `nested` restores the nesting counter, so `exit_nested` cannot underflow -/
@[good] theorem good_nested {R : St F → St F → Prop} [NestFr R] {α : Type} {Q : α → Prop} {m : M F α}
    (hm : Good R Q m) : Good R Q (nested m) := by
  intro s hs
  by_cases hcap : s.nesting = Extracted.nestingLimit
  · rw [Props.C01.nested_at_cap hcap]
    exact ⟨hs, IsFrame.refl s, eok_fail rfl⟩
  · have h1 := hm _ (hs.nesting (Nat.lt_of_le_of_ne hs.nest hcap))
    cases hms : m { s with nesting := s.nesting + 1 } with
    | ok a s' =>
      rw [hms] at h1
      rw [Props.C01.nested_of_ok hcap hms (NestFr.nest_eq h1.2.1)]
      exact ⟨h1.1.nesting hs.nest, NestFr.nest_out h1.2.1, h1.2.2⟩
    | err e s' =>
      rw [hms] at h1
      rw [Props.C01.nested_of_err hcap hms (NestFr.nest_eq h1.2.1)]
      exact ⟨h1.1.nesting hs.nest, NestFr.nest_out h1.2.1, h1.2.2⟩

def TokBefore (s : St F) (t : Token F) : Prop := ∃ i, i < s.loc.idx ∧ (curToks s)[i]? = some t

theorem tokBefore_er {s s' : St F} {t : Token F} (h : ER s s') (hb : TokBefore s t) : TokBefore s' t := by
  obtain ⟨i, hi, ht⟩ := hb
  exact ⟨i, Nat.lt_of_lt_of_le hi h.idx, by rw [curToks_er h]; exact ht⟩

/-- `rewind_before_token(Token::Input)` finds its token when the cursor has passed one -/
theorem rewindBeforeInput_post {s0 s : St F} (hs : WFσ s) (hr : SR s0 s) (hb : TokBefore s (.kw .Input)) :
    GoodAt SR T (rewindBeforeInput : M F Unit) s0 s := by
  obtain ⟨i, hi, ht⟩ := hb
  obtain ⟨j, hj, hjk⟩ := findInputBefore_some (curToks s) s.loc.idx i _ hi ht rfl
  unfold GoodAt
  simp only [rewindBeforeInput, Bind.bind, M.bindM, tokens_eq hs, M.get, hj, M.set]
  refine ⟨{ hs with loc := ?_ }, ⟨hr.nesting, hr.lines⟩, trivial⟩
  intro n hl
  obtain ⟨ts, hg, hle⟩ := hs.loc n hl
  exact ⟨ts, hg, by show j ≤ ts.length; omega⟩

end

section
variable [NumOps F]

theorem create_err_plain (name : Str) (idx : List Nat) (e : Err)
    (h : ArrayV.create (F := F) name idx = .error e) : plain e = true := by
  rcases ArrayL.create_err h with rfl | rfl <;> rfl

theorem linearIndex_err (index dims : List Nat) (e : Err) (h : linearIndex index dims = .error e) :
    plain e = true := by
  rw [ArrayL.linearIndex_err h]; rfl

theorem WFσ.setArray {s : St F} (hs : WFσ s) (name : Str) {a : ArrayV F}
    (ha : a.cellCount = Props.C16.prod a.dims) : WFσ { s with arrays := alSet name a s.arrays } := by
  refine { hs with arrays := ?_ }
  intro p hp
  rcases mem_alSet hp with rfl | hp
  · exact ha
  · exact hs.arrays p hp

/-- `maybe_create_default_array`: afterwards the array exists -/
theorem ensureArray_spec (name : Str) (arity : Nat) {s : St F} (hs : WFσ s) :
    (∃ e, plain e = true ∧ ensureArray name arity s = .err { err := e } s) ∨
    (∃ s', ensureArray name arity s = .ok () s' ∧ WFσ s' ∧ ER s s' ∧ (alGet name s'.arrays).isSome = true) := by
  simp only [ensureArray, Bind.bind, M.bindM, M.get]
  by_cases hh : alHas name s.arrays = true
  · right
    rw [if_pos hh]
    exact ⟨s, rfl, hs, IsFrame.refl _, hh⟩
  · rw [if_neg hh]
    cases hc : ArrayV.create (F := F) name (List.replicate arity Extracted.defaultArraySize) with
    | error e => left; exact ⟨e, create_err_plain _ _ _ hc, rfl⟩
    | ok a =>
      right
      refine ⟨_, rfl, hs.setArray name (Props.C16.create_spec _ _ _ hc).1, er_same rfl rfl rfl rfl rfl rfl, ?_⟩
      show (alGet name (alSet name a s.arrays)).isSome = true
      rw [alGet_alSet_self]; rfl

@[good] theorem good_ensureArray (name : Str) (arity : Nat) : Good ER T (ensureArray (F := F) name arity) := by
  intro s hs
  rcases ensureArray_spec name arity hs with ⟨e, he, h⟩ | ⟨s', h, hw, hr, _⟩
  · rw [h]; exact ⟨hs, IsFrame.refl _, eok_fail he⟩
  · rw [h]; exact ⟨hw, hr, trivial⟩

@[good] theorem good_arrayGet (name : Str) (index : List Nat) : Good ER T (arrayGet (F := F) name index) := by
  intro s hs
  rw [ArrayL.arrayGet_def]
  simp only [Bind.bind, M.bindM]
  rcases ensureArray_spec name index.length hs with ⟨e, he, h⟩ | ⟨s', h, hw, hr, hsome⟩
  · rw [h]; exact ⟨hs, IsFrame.refl _, eok_fail he⟩
  · rw [h]
    obtain ⟨a, ha⟩ := Option.isSome_iff_exists.mp hsome
    simp only [M.get, ha, ArrayL.cellM_eq a index (hw.arrays _ (alGet_mem _ _ _ ha))]
    cases hra : Ref.readAt a index with
    | ok v => exact ⟨hw, hr, trivial⟩
    | error e =>
      refine ⟨hw, hr, eok_fail ?_⟩
      unfold Ref.readAt at hra
      split at hra
      next hl => cases hra; exact linearIndex_err _ _ _ hl
      · split at hra <;> cases hra

@[good] theorem good_arraySet (name : Str) (index : List Nat) (v : Value F) : Good ER T (arraySet name index v) := by
  intro s hs
  rw [ArrayL.arraySet_eq]
  split
  · exact ⟨hs, IsFrame.refl _, eok_fail rfl⟩
  · simp only [Bind.bind, M.bindM]
    rcases ensureArray_spec name index.length hs with ⟨e, he, h⟩ | ⟨s', h, hw, hr, hsome⟩
    · rw [h]; exact ⟨hs, IsFrame.refl _, eok_fail he⟩
    · rw [h]
      obtain ⟨a, ha⟩ := Option.isSome_iff_exists.mp hsome
      have hcount := hw.arrays _ (alGet_mem _ _ _ ha)
      have hT := ArrayL.arraySetTail_run name index v s' a ha hcount
      cases hcs : Ref.cellSet a index v with
      | ok a' =>
        rw [hcs] at hT
        simp only [hT]
        exact ⟨hw.setArray name (ArrayL.cellSet_ok hcs hcount),
          ⟨hr.nesting, hr.stack, hr.fns, hr.lines, hr.imm, hr.line, hr.idx⟩, trivial⟩
      | error e =>
        rw [hcs] at hT
        simp only [hT]
        exact ⟨hw, hr, eok_fail (by rcases ArrayL.cellSet_errs hcs with rfl | rfl <;> rfl)⟩

@[good] theorem good_arrayCreate (name : Str) (idx : List Nat) : Good ER T (arrayCreate (F := F) name idx) := by
  unfold arrayCreate
  refine Good.get_bind' fun s0 hs0 => ?_
  split
  · exact GoodAt.fail hs0 (IsFrame.refl _) rfl
  · split
    · rename_i a hc
      exact GoodAt.set (hs0.setArray name (Props.C16.create_spec _ _ _ hc).1) (er_same rfl rfl rfl rfl rfl rfl)
    · rename_i e hc
      exact GoodAt.fail hs0 (IsFrame.refl _) (create_err_plain _ _ _ hc)

omit [NumOps F] in
theorem WFσ.setRng {s : St F} (hs : WFσ s) {k : Nat} (hk : k < 2 ^ 33) : WFσ { s with rng := k } :=
  { hs with rng := hk }

@[good] theorem good_rnd (x : F) : Good ER T (rnd x) := by
  intro s hs
  cases hneg : NumOps.lt x (NumOps.zero : F)
  · cases hz : NumOps.eq x (NumOps.zero : F)
    · rw [Props.C18.rnd_positive x s hs.rng hneg hz]
      exact ⟨hs.setRng (Props.C18.lcg_lt s.rng), er_same rfl rfl rfl rfl rfl rfl, trivial⟩
    · rw [Props.C18.rnd_zero x s hneg hz]
      exact ⟨hs, IsFrame.refl _, trivial⟩
  · rw [Props.C18.rnd_negative x s hneg]
    exact ⟨hs, IsFrame.refl _, eok_fail rfl⟩

end

end Abasic.WF
