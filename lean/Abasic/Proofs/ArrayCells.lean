import Abasic.Props.C16
import Abasic.Ref.Stmt2
import Abasic.Ref.Expr2
import Abasic.Proofs.ArrayLemmas
/-
  The cell of an array, read and written, when the array has as many cells as its dimensions say
  (`cellCount = C16.prod dims`: `WFσ.arrays`, `StoreOk`, `RInv.arrs`).

  A linear index that `linearIndex` returns is below the product of the dimensions (`linearIndex_bound`),
  so under that invariant the bounds check of Arrays.lean behind it cannot fail, and what `arrayGet` and
  `arraySet` do once `ensureArray` has run and the array is found (`cellM`, `arraySetTail`) is the pure
  `Ref.readAt` / `Ref.cellSet` of the reference semantics (`cellM_eq`, `arraySetTail_run`).  `cellSet`
  keeps the invariant (`cellSet_ok`) and fails with one of two errors (`cellSet_errs`).
-/
namespace Abasic.ArrayL
open Abasic M Ref

variable {F : Type}

theorem linearIndexAux_bound (is ds : List Nat) (lin stride r : Nat)
    (h : linearIndexAux is ds lin stride = .ok r) : r + stride ≤ lin + stride * Props.C16.prod ds := by
  induction is generalizing ds lin stride with
  | nil =>
    cases ds with
    | nil =>
      simp only [linearIndexAux, Except.ok.injEq] at h
      subst h
      simp [Props.C16.prod]
    | cons d ds => simp [linearIndexAux] at h
  | cons i is ih =>
    cases ds with
    | nil => simp [linearIndexAux] at h
    | cons d ds =>
      simp only [linearIndexAux] at h
      split at h
      · cases h
      · rename_i hid
        have hlt : i < d := by omega
        have h1 := ih ds _ _ h
        have h2 : i * stride + stride ≤ stride * d := by
          have : (i + 1) * stride ≤ d * stride := Nat.mul_le_mul_right _ hlt
          rw [Nat.mul_comm d stride] at this
          rw [Nat.succ_mul] at this
          exact this
        have h3 : stride * Props.C16.prod (d :: ds) = stride * d * Props.C16.prod ds := by
          simp only [Props.C16.prod, Nat.mul_assoc]
        rw [h3]
        omega

theorem linearIndex_bound (index dims : List Nat) (i : Nat) (h : linearIndex index dims = .ok i) :
    i < Props.C16.prod dims := by
  unfold linearIndex at h
  split at h
  · cases h
  · have := linearIndexAux_bound _ _ _ _ _ h
    omega

def arraySetTail (name : Str) (index : List Nat) (v : Value F) : M F Unit := do
  let s ← M.get
  match alGet name s.arrays with
  | none => M.rpanic "arrays: unwrap on None"
  | some a =>
    match a, v with
    | .strs dims cells, .str x =>
      (match linearIndex index dims with
       | .error e => M.fail e
       | .ok i =>
         if i < cells.length then M.set { s with arrays := alSet name (.strs dims (cells.set i x)) s.arrays }
         else M.rpanic "arrays: index out of bounds")
    | .nums dims cells, .num x =>
      (match linearIndex index dims with
       | .error e => M.fail e
       | .ok i =>
         if i < cells.length then M.set { s with arrays := alSet name (.nums dims (cells.set i x)) s.arrays }
         else M.rpanic "arrays: index out of bounds")
    | _, _ => M.fail .typeMismatch

theorem arraySetTail_run (name : Str) (index : List Nat) (v : Value F) (σ : St F) (a : ArrayV F)
    (hget : alGet name σ.arrays = some a) (hwf : a.cellCount = Props.C16.prod a.dims) :
    match cellSet a index v with
    | .ok a' => arraySetTail name index v σ = .ok () { σ with arrays := alSet name a' σ.arrays }
    | .error e => arraySetTail name index v σ = .err { err := e } σ := by
  unfold arraySetTail
  simp only [bind, M.bindM, M.get, hget]
  cases a with
  | strs dims cells =>
    cases v with
    | str x =>
      simp only [cellSet]
      cases hl : linearIndex index dims with
      | error e => rfl
      | ok i =>
        have hb := linearIndex_bound index dims i hl
        have hlt : i < cells.length := by
          have : cells.length = Props.C16.prod dims := hwf
          omega
        simp only [hlt, ↓reduceIte]
        rfl
    | num x => rfl
  | nums dims cells =>
    cases v with
    | num x =>
      simp only [cellSet]
      cases hl : linearIndex index dims with
      | error e => rfl
      | ok i =>
        have hb := linearIndex_bound index dims i hl
        have hlt : i < cells.length := by
          have : cells.length = Props.C16.prod dims := hwf
          omega
        simp only [hlt, ↓reduceIte]
        rfl
    | str x => rfl

theorem cellSet_ok {a a' : ArrayV F} {index : List Nat} {v : Value F} (h : cellSet a index v = .ok a')
    (ha : a.cellCount = Props.C16.prod a.dims) : a'.cellCount = Props.C16.prod a'.dims := by
  unfold cellSet at h
  split at h
  · split at h
    · cases h
    · cases h; simpa [ArrayV.cellCount, ArrayV.dims] using ha
  · split at h
    · cases h
    · cases h; simpa [ArrayV.cellCount, ArrayV.dims] using ha
  · cases h

theorem cellSet_errs {a : ArrayV F} {index : List Nat} {v : Value F} {e : Err}
    (h : cellSet a index v = .error e) : e = .typeMismatch ∨ e = .badSubscript := by
  unfold cellSet at h
  split at h
  · split at h
    next hl => cases h; exact .inr (linearIndex_err hl)
    · cases h
  · split at h
    next hl => cases h; exact .inr (linearIndex_err hl)
    · cases h
  · cases h; exact .inl rfl

variable [NumOps F]

theorem arraySet_eq (name : Str) (index : List Nat) (v : Value F) :
    arraySet name index v =
      (if !v.matchesName name then M.fail .typeMismatch
       else ensureArray name index.length >>= fun _ => arraySetTail name index v) := rfl

def cellM (a : ArrayV F) (index : List Nat) : M F (Value F) :=
  match linearIndex index a.dims with
  | .error e => fail e
  | .ok i =>
    match a with
    | .strs _ cells =>
      (match cells[i]? with
       | some v => pure (.str v)
       | none => rpanic "arrays: index out of bounds")
    | .nums _ cells =>
      (match cells[i]? with
       | some v => pure (.num v)
       | none => rpanic "arrays: index out of bounds")

theorem arrayGet_def (name : Str) (index : List Nat) :
    arrayGet (F := F) name index = (do
      ensureArray name index.length
      let s ← get
      match alGet name s.arrays with
      | none => rpanic "arrays: unwrap on None"
      | some a => cellM a index) := rfl

theorem cellM_eq (a : ArrayV F) (is : List Nat) (hlen : a.cellCount = Props.C16.prod a.dims) (s : St F) :
    cellM a is s = match readAt a is with
      | .ok v => .ok v s
      | .error e => .err { err := e } s := by
  unfold cellM readAt
  cases hl : linearIndex is a.dims with
  | error e => rfl
  | ok i =>
    have hb := linearIndex_bound _ _ _ hl
    cases a with
    | strs d cells =>
      have hi : i < cells.length := by
        simp only [ArrayV.cellCount, ArrayV.dims] at hlen hb; omega
      simp only [List.getElem?_eq_getElem hi, List.getD_eq_getElem?_getD, Option.getD_some]
      rfl
    | nums d cells =>
      have hi : i < cells.length := by
        simp only [ArrayV.cellCount, ArrayV.dims] at hlen hb; omega
      simp only [List.getElem?_eq_getElem hi, List.getD_eq_getElem?_getD, Option.getD_some]
      rfl

end Abasic.ArrayL
