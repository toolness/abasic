import Abasic.Ref.Stmt
import Abasic.Proofs.Expr2Spec
import Abasic.Proofs.StmtHead
/-
  The vocabulary of the statement-level refinement (C03): which tokens a rendered
  statement consists of and what may follow it, the relation `Refines` between a run
  of the model and a result of the reference semantics, and what the single steps of
  `printLoop`, `ifSkipLoop` and the ELSE check do with the cursor in front of given tokens.
-/
namespace Abasic.StmtL
open Abasic Abasic.Ref Abasic.ExprL M
export Abasic.Indep (tailElse)

variable {F : Type}

theorem _root_.Abasic.isKw_eq {t : Token F} {k : Kw} (h : t.isKw k = true) : t = .kw k := by
  cases t with
  | kw k' => simp only [Token.isKw, beq_iff_eq] at h; rw [h]
  | _ => simp [Token.isKw] at h

/-- a token that neither ends a statement nor separates PRINT items -/
def Plain (t : Token F) : Prop :=
  t.isKw .Colon = false ∧ t.isKw .Else = false ∧ t.isKw .Semicolon = false ∧ t.isKw .Comma = false

theorem plain_binop (op : BinOp) : Plain (Token.kw (F := F) (BinOp.token op)) := by
  cases op with
  | cmp c => cases c <;> exact ⟨rfl, rfl, rfl, rfl⟩
  | _ => exact ⟨rfl, rfl, rfl, rfl⟩

theorem plain_unop (op : UnOp) : Plain (Token.kw (F := F) (UnOp.token op)) := by
  cases op <;> exact ⟨rfl, rfl, rfl, rfl⟩

/-- Token-wise induction over a rendered expression: literals, names (among them
    `ABS` and `INT`), brackets and the operator keywords are all there is. -/
theorem render_forall {P : Token F → Prop} (hnum : ∀ x, P (.num x)) (hstr : ∀ s, P (.str s))
    (hvar : ∀ n, P (.symbol n)) (hlp : P (.kw .LeftParen)) (hrp : P (.kw .RightParen))
    (hun : ∀ op, P (.kw (UnOp.token op))) (hbin : ∀ op, P (.kw (BinOp.token op))) :
    ∀ (e : Expr F), ∀ t ∈ render e, P t := by
  have hparen : ∀ x : Expr F, (∀ t ∈ render x, P t) →
      ∀ t ∈ (Token.kw .LeftParen :: (render x ++ [Token.kw .RightParen])), P t := by
    intro x ih t ht
    simp only [List.mem_cons, List.mem_append, List.not_mem_nil, or_false] at ht
    rcases ht with rfl | ht | rfl
    · exact hlp
    · exact ih t ht
    · exact hrp
  have hfix : ∀ (p : Nat) (x : Expr F), (∀ t ∈ render x, P t) → ∀ t ∈ render (fixP p x), P t := by
    intro p x ih
    unfold fixP; split
    · rw [render_paren]; exact hparen x ih
    · exact ih
  intro e
  induction e with
  | num x => intro t ht; rw [render_num, List.mem_singleton] at ht; subst ht; exact hnum x
  | str s => intro t ht; rw [render_str, List.mem_singleton] at ht; subst ht; exact hstr s
  | var n => intro t ht; rw [render_var, List.mem_singleton] at ht; subst ht; exact hvar n
  | paren x ih => rw [render_paren]; exact hparen x ih
  | abs x ih =>
    rw [render_abs]; intro t ht
    rcases List.mem_cons.mp ht with rfl | ht
    · exact hvar _
    · exact hparen x ih t ht
  | int x ih =>
    rw [render_int]; intro t ht
    rcases List.mem_cons.mp ht with rfl | ht
    · exact hvar _
    · exact hparen x ih t ht
  | un op x ih =>
    rw [render_un]; intro t ht
    rcases List.mem_cons.mp ht with rfl | ht
    · exact hun op
    · exact hfix 8 x ih t ht
  | bin op l r ihl ihr =>
    rw [render_bin]; intro t ht
    rcases List.mem_append.mp ht with ht | ht
    · exact hfix _ l ihl t ht
    · rcases List.mem_cons.mp ht with rfl | ht
      · exact hbin op
      · exact hfix _ r ihr t ht

theorem plain_render : ∀ (e : Expr F), ∀ t ∈ render e, Plain t :=
  render_forall (fun _ => ⟨rfl, rfl, rfl, rfl⟩) (fun _ => ⟨rfl, rfl, rfl, rfl⟩) (fun _ => ⟨rfl, rfl, rfl, rfl⟩)
    ⟨rfl, rfl, rfl, rfl⟩ ⟨rfl, rfl, rfl, rfl⟩ plain_unop plain_binop

theorem render_pos (e : Expr F) : 0 < (render e).length := by
  cases e with
  | num x => rw [render_num]; exact Nat.zero_lt_one
  | str s => rw [render_str]; exact Nat.zero_lt_one
  | var n => rw [render_var]; exact Nat.zero_lt_one
  | paren x => rw [render_paren]; exact Nat.succ_pos _
  | abs x => rw [render_abs]; exact Nat.succ_pos _
  | int x => rw [render_int]; exact Nat.succ_pos _
  | un op x => rw [render_un]; exact Nat.succ_pos _
  | bin op l r => rw [render_bin, List.length_append, List.length_cons]; omega

theorem render_head (e : Expr F) : ∃ t ts, render e = t :: ts ∧ Plain t := by
  cases h : render e with
  | nil => have := render_pos e; rw [h] at this; exact absurd this (Nat.lt_irrefl _)
  | cons t ts => exact ⟨t, ts, rfl, plain_render e t (by rw [h]; exact List.mem_cons_self)⟩

/-- end of line, `:` or `ELSE` -/
def StmtEnd (rest : List (Token F)) : Prop :=
  ∀ t, rest.head? = some t → t = .kw .Colon ∨ t = .kw .Else

/-- end of line or `:` -/
def LineEnd (rest : List (Token F)) : Prop :=
  ∀ t, rest.head? = some t → t = .kw .Colon

theorem LineEnd.stmtEnd {rest : List (Token F)} (h : LineEnd rest) : StmtEnd rest :=
  fun t ht => Or.inl (h t ht)

theorem stmtEnd_else (rest : List (Token F)) : StmtEnd (.kw .Else :: rest) := by
  intro t ht
  simp only [List.head?_cons, Option.some.injEq] at ht
  exact Or.inr ht.symm

theorem opsAt_colon (i : Nat) : opsAt (F := F) i (.kw .Colon) = none := by
  rcases i with _ | _ | _ | _ | _ | _ | j <;> rfl
theorem opsAt_else (i : Nat) : opsAt (F := F) i (.kw .Else) = none := by
  rcases i with _ | _ | _ | _ | _ | _ | j <;> rfl
theorem opsAt_semi (i : Nat) : opsAt (F := F) i (.kw .Semicolon) = none := by
  rcases i with _ | _ | _ | _ | _ | _ | j <;> rfl
theorem opsAt_then (i : Nat) : opsAt (F := F) i (.kw .Then) = none := by
  rcases i with _ | _ | _ | _ | _ | _ | j <;> rfl

theorem ends_of_stmtEnd {rest : List (Token F)} (h : StmtEnd rest) (j : Nat) : Ends j rest := by
  intro t ht
  rcases h t ht with rfl | rfl
  · exact ⟨rfl, fun i _ => opsAt_colon i⟩
  · exact ⟨rfl, fun i _ => opsAt_else i⟩

theorem ends_then (j : Nat) (rest : List (Token F)) : Ends j (.kw .Then :: rest) := by
  intro t ht
  simp only [List.head?_cons, Option.some.injEq] at ht
  subst ht
  exact ⟨rfl, fun i _ => opsAt_then i⟩

theorem ends_semi (j : Nat) (rest : List (Token F)) : Ends j (.kw .Semicolon :: rest) := by
  intro t ht
  simp only [List.head?_cons, Option.some.injEq] at ht
  subst ht
  exact ⟨rfl, fun i _ => opsAt_semi i⟩

/-- PRINT records as they sit in `St.out` (newest first) -/
def outRecs (out : List Str) : List Out := (out.map Out.print).reverse

/-- A run `res` of the model from `σ` realises the reference result `r`.
    `after` is the cursor position just behind the statement, `eol` the length
    of the line.  Nothing but the named fields changes; `reads` grows. -/
def Refines (res : Res F Unit) (σ : St F) (after eol : Nat) (r : RResult F) : Prop :=
  match r.ctl with
  | .next => ∃ k, σ.reads < k ∧ res = .ok ()
      { σ with vars := r.vars, out := outRecs r.out ++ σ.out, loc := { σ.loc with idx := after }, reads := k }
  | .skipLine => ∃ k, σ.reads < k ∧ res = .ok ()
      { σ with vars := r.vars, out := outRecs r.out ++ σ.out, loc := { σ.loc with idx := eol }, reads := k }
  | .jump n =>
    (σ.lines.has n = true → ∃ k, σ.reads < k ∧ res = .ok ()
      { σ with vars := r.vars, out := outRecs r.out ++ σ.out, bp := none,
               loc := { line := some n, idx := 0 }, reads := k }) ∧
    (σ.lines.has n = false →
      ∃ σ', res = .err { err := .undefinedStatement } σ' ∧ σ'.nesting = σ.nesting)
  | .stop => ∃ k, σ.reads < k ∧ res = .ok ()
      { σ with vars := r.vars, out := outRecs r.out ++ σ.out, imm := [], loc := {}, reads := k }
  | .error x => ∃ σ', res = .err { err := x } σ' ∧ σ'.nesting = σ.nesting

variable [NumOps F]

theorem getVar_eq_envOf (σ : St F) : getVar σ = envOf σ.vars := rfl

omit [NumOps F] in
theorem traceHere_off {σ : St F} (h : σ.tracing = false) : traceHere σ = .ok () σ := by
  simp [traceHere, bind, M.bindM, M.get, h, pure, M.pureM]

/-- A statement with tracing off and its first token `t` under the cursor: what
    `dispatch` does with `t` (`k`, found by `rfl`), behind `t`. -/
theorem stmtBody_tok {ev : Evals F} {σ : St F} {pre post : List (Token F)} {t : Token F}
    (h : At σ pre (t :: post)) (htr : σ.tracing = false) {k : Option (Token F) → M F Unit}
    (hk : dispatch ev = next >>= k) : stmtBody ev σ = k (some t) (mv σ 1 (σ.reads + 1)) := by
  unfold stmtBody
  rw [bind_ok (traceHere_off htr), hk, bind_ok (next_eq h)]

theorem optionalArrayIndex_none {ev : Evals F} {σ : St F} {pre post : List (Token F)} {t : Token F}
    (h : At σ pre (t :: post)) (ht : t.isKw .LeftParen = false) :
    optionalArrayIndex ev σ = .ok none (mv σ 0 (σ.reads + 1)) := by
  unfold optionalArrayIndex
  rw [bind_ok (peekIsKw_cons .LeftParen h)]
  simp only [ht, Bool.false_eq_true, ↓reduceIte]
  rfl

omit [NumOps F] in
theorem gotoLine_eq (m : Nat) (σ : St F) :
    gotoLine m σ =
      if σ.lines.has m then .ok () { σ with bp := none, loc := { line := some m, idx := 0 } }
      else .err { err := .undefinedStatement } { σ with bp := none } := by
  cases hh : σ.lines.has m <;>
    simp [gotoLine, bind, M.bindM, M.modify, M.get, M.set, M.fail, hh]

theorem printLoop_semi {ev : Evals F} {k : Nat} {semi : Bool} {acc : Str} {σ : St F}
    {pre post : List (Token F)} (h : At σ pre (.kw .Semicolon :: post)) :
    printLoop ev (k + 1) semi acc σ = printLoop ev k true acc (mv σ 1 (σ.reads + 1 + 1)) := by
  have h1 : (Token.kw (F := F) .Semicolon).isKw .Colon = false := rfl
  have h2 : (Token.kw (F := F) .Semicolon).isKw .Else = false := rfl
  have h3 : (Token.kw (F := F) .Semicolon).isKw .Semicolon = true := rfl
  rw [printLoop]
  rw [bind_ok (peek_eq h)]
  simp only [List.head?_cons, h1, h2, h3, Bool.or_false, Bool.false_eq_true, ↓reduceIte]
  rw [bind_ok (next_eq (at_mv0 h _)), mv_mv]
  rfl

theorem printLoop_comma {ev : Evals F} {k : Nat} {semi : Bool} {acc : Str} {σ : St F}
    {pre post : List (Token F)} (h : At σ pre (.kw .Comma :: post)) :
    printLoop ev (k + 1) semi acc σ = printLoop ev k false (acc ++ ['\t']) (mv σ 1 (σ.reads + 1 + 1)) := by
  have h1 : (Token.kw (F := F) .Comma).isKw .Colon = false := rfl
  have h2 : (Token.kw (F := F) .Comma).isKw .Else = false := rfl
  have h3 : (Token.kw (F := F) .Comma).isKw .Semicolon = false := rfl
  have h4 : (Token.kw (F := F) .Comma).isKw .Comma = true := rfl
  rw [printLoop]
  rw [bind_ok (peek_eq h)]
  simp only [List.head?_cons, h1, h2, h3, h4, Bool.or_false, Bool.false_eq_true, ↓reduceIte]
  rw [bind_ok (next_eq (at_mv0 h _)), mv_mv]
  rfl

theorem printLoop_expr {ev : Evals F} {k : Nat} {semi : Bool} {acc : Str} {σ : St F}
    {pre post : List (Token F)} {t : Token F} (h : At σ pre (t :: post)) (hp : Plain t) :
    printLoop ev (k + 1) semi acc σ =
      (ev.expr >>= fun v => printLoop ev k false (acc ++ valueText v)) (mv σ 0 (σ.reads + 1)) := by
  obtain ⟨h1, h2, h3, h4⟩ := hp
  rw [printLoop]
  rw [bind_ok (peek_eq h)]
  simp only [List.head?_cons, h1, h2, h3, h4, Bool.or_false, Bool.false_eq_true, ↓reduceIte]

theorem printLoop_stop {ev : Evals F} {k : Nat} {semi : Bool} {acc : Str} {σ : St F}
    {pre rest : List (Token F)} (h : At σ pre rest) (hE : StmtEnd rest) :
    printLoop ev (k + 1) semi acc σ = .ok (semi, acc) (mv σ 0 (σ.reads + 1)) := by
  rw [printLoop]
  rw [bind_ok (peek_eq h)]
  cases hr : rest.head? with
  | none => rfl
  | some t =>
    rcases hE t hr with rfl | rfl
    · rfl
    · rfl

/-- nesting / fuel needed by the expressions of a PRINT list -/
def itemsDepth : List (PItem F) → Nat
  | [] => 0
  | .expr e :: rest => max (depth e + 1) (itemsDepth rest)
  | _ :: rest => itemsDepth rest

omit [NumOps F] in
theorem sep_tail (i : PItem F) (r : List (PItem F)) (h : separated (i :: r) = true) :
    separated r = true := by
  cases i with
  | semi => exact h
  | comma => exact h
  | expr e =>
    cases r with
    | nil => rfl
    | cons j r' =>
      cases j with
      | expr e' => exact absurd h (by simp [separated])
      | semi => exact h
      | comma => exact h

omit [NumOps F] in
theorem sep_follow (e : Expr F) (r : List (PItem F)) (rest : List (Token F))
    (h : separated (.expr e :: r) = true) (hE : StmtEnd rest) :
    Ends 6 (renderItems r ++ rest) := by
  cases r with
  | nil => exact ends_of_stmtEnd hE 6
  | cons j r' =>
    cases j with
    | expr e' => exact absurd h (by simp [separated])
    | semi => exact ends_semi 6 _
    | comma => exact ExprL2.ends_comma 6 _

def andThen (res : Res F Unit) (f : M F Unit) : Res F Unit :=
  match res with
  | .ok _ s => f s
  | .err e s => .err e s

omit [NumOps F] in
theorem bind_andThen (m f : M F Unit) (σ : St F) : (m >>= fun _ => f) σ = andThen (m σ) f := by
  cases h : m σ <;> simp only [bind, M.bindM, andThen, h]

def NoElseLine (σ : St F) : Prop :=
  ∀ n ts, σ.lines.get n = some ts → ∀ t, ts.head? = some t → t.isKw .Else = false

omit [NumOps F] in
theorem discardRemaining_eq {σ : St F} {ts : List (Token F)} (h : lineToks σ = some ts) :
    discardRemaining σ = .ok () { σ with loc := { σ.loc with idx := ts.length } } := by
  unfold discardRemaining
  rw [bind_ok (tokens_eq h)]
  rfl

omit [NumOps F] in
theorem tailElse_no {σ : St F} {pre post : List (Token F)} (h : At σ pre post)
    (hk : ∀ t, post.head? = some t → t.isKw .Else = false) :
    tailElse σ = .ok () (mv σ 0 (σ.reads + 1)) := by
  unfold tailElse
  rw [bind_ok (peekIsKw_false .Else h hk)]
  rfl

omit [NumOps F] in
theorem tailElse_yes {σ : St F} {pre post : List (Token F)} (h : At σ pre (.kw .Else :: post)) :
    tailElse σ = .ok ()
      { σ with loc := { σ.loc with idx := (pre ++ .kw .Else :: post).length }, reads := σ.reads + 1 } := by
  unfold tailElse
  rw [bind_ok (peekIsKw_cons .Else h)]
  have hk : (Token.kw (F := F) .Else).isKw .Else = true := rfl
  simp only [hk, ↓reduceIte]
  rw [discardRemaining_eq (ts := pre ++ .kw .Else :: post) (by rw [lineToks_mv]; exact h.1)]
  rfl

omit [NumOps F] in
theorem closeLine_next {r : RResult F} (hc : r.ctl = .next) : r.closeLine = { r with ctl := .skipLine } := by
  unfold RResult.closeLine; rw [hc]

omit [NumOps F] in
theorem closeLine_other {r : RResult F} (hc : r.ctl ≠ .next) : r.closeLine = r := by
  unfold RResult.closeLine
  cases h : r.ctl with
  | next => exact absurd h hc
  | _ => rfl

omit [NumOps F] in
theorem closeLine_error (r : RResult F) (x : Err) (h : r.closeLine.ctl = .error x) : r.ctl = .error x := by
  by_cases hc : r.ctl = .next
  · rw [closeLine_next hc] at h; cases h
  · rw [closeLine_other hc] at h; exact h

omit [NumOps F] in
theorem next_none {σ : St F} {pre : List (Token F)} (h : At σ pre []) :
    next σ = .ok none (mv σ 0 (σ.reads + 1)) := by
  unfold next
  rw [bind_ok (peek_eq h)]
  rfl

theorem statementOrGoto_kw {ev : Evals F} {σ : St F} {pre post : List (Token F)} {k : Kw}
    (h : At σ pre (.kw k :: post)) :
    statementOrGoto ev σ = nested ev.stmt (mv σ 0 (σ.reads + 1)) := by
  unfold statementOrGoto
  rw [bind_ok (peek_eq h)]
  rfl

theorem ifSkipLoop_skip (ev : Evals F) (mid : List (Token F)) :
    ∀ (k : Nat) (σ : St F) (pre post : List (Token F)), At σ pre (mid ++ post) →
      (∀ t ∈ mid, t.isKw .Colon = false ∧ t.isKw .Else = false) →
      ifSkipLoop ev (k + mid.length) σ = ifSkipLoop ev k (mv σ mid.length (σ.reads + mid.length)) := by
  induction mid with
  | nil => intro k σ pre post _ _; rfl
  | cons t mid ih =>
    intro k σ pre post hAt hp
    have hAt0 : At σ pre (t :: (mid ++ post)) := hAt
    obtain ⟨h1, h2⟩ := hp t List.mem_cons_self
    show ifSkipLoop ev (k + mid.length + 1) σ = _
    rw [ifSkipLoop, bind_ok (next_eq hAt0)]
    simp only [h1, h2, Bool.false_eq_true, ↓reduceIte]
    rw [ih k _ _ post (at_mv1 hAt0 _) (fun t' ht' => hp t' (List.mem_cons_of_mem _ ht')), mv_mv]
    simp only [mv_reads, List.length_cons]
    congr 1
    simp only [mv]
    congr 1
    · congr 1; omega
    · omega

theorem ifSkipLoop_end {ev : Evals F} {k : Nat} {σ : St F} {pre : List (Token F)} (h : At σ pre []) :
    ifSkipLoop ev (k + 1) σ = .ok () (mv σ 0 (σ.reads + 1)) := by
  rw [ifSkipLoop, bind_ok (next_none h)]
  rfl

theorem ifSkipLoop_colon {ev : Evals F} {k : Nat} {σ : St F} {pre post : List (Token F)}
    (h : At σ pre (.kw .Colon :: post)) :
    ifSkipLoop ev (k + 1 + 1) σ = .ok ()
      { σ with loc := { σ.loc with idx := (pre ++ .kw .Colon :: post).length }, reads := σ.reads + 1 + 1 } := by
  have hk : (Token.kw (F := F) .Colon).isKw .Colon = true := rfl
  rw [ifSkipLoop, bind_ok (next_eq h)]
  simp only [hk, ↓reduceIte]
  rw [bind_ok (discardRemaining_eq (ts := pre ++ .kw .Colon :: post) (by rw [lineToks_mv]; exact h.1))]
  rw [ifSkipLoop_end (pre := pre ++ .kw .Colon :: post)
    ⟨by show lineToks σ = _; rw [List.append_nil]; exact h.1, rfl⟩]
  rfl

theorem ifSkipLoop_lineEnd {ev : Evals F} {k : Nat} {σ : St F} {pre rest : List (Token F)}
    (h : At σ pre rest) (hE : LineEnd rest) :
    ∃ r, σ.reads < r ∧ ifSkipLoop ev (k + 1 + 1) σ = .ok ()
      { σ with loc := { σ.loc with idx := (pre ++ rest).length }, reads := r } := by
  cases rest with
  | nil =>
    refine ⟨σ.reads + 1, by omega, ?_⟩
    rw [ifSkipLoop_end h, List.append_nil, ← h.2]
    rfl
  | cons t post =>
    obtain rfl := hE t rfl
    exact ⟨_, by omega, ifSkipLoop_colon h⟩

theorem ifSkipLoop_else {ev : Evals F} {k : Nat} {σ : St F} {pre post : List (Token F)}
    (h : At σ pre (.kw .Else :: post)) :
    ifSkipLoop ev (k + 1) σ = statementOrGoto ev (mv σ 1 (σ.reads + 1)) := by
  have h1 : (Token.kw (F := F) .Else).isKw .Colon = false := rfl
  have h2 : (Token.kw (F := F) .Else).isKw .Else = true := rfl
  rw [ifSkipLoop, bind_ok (next_eq h)]
  simp only [h1, h2, Bool.false_eq_true, ↓reduceIte]

/-- nesting levels / recursion fuel a statement needs: one per parenthesis level
    of an expression plus one for the expression itself, one per IF -/
def sdepth : RStmt F → Nat
  | .letS _ e => depth e + 1
  | .printS items => itemsDepth items
  | .gotoS _ => 0
  | .endS => 0
  | .ifS c t none => max (depth c + 1) (sdepth t + 1)
  | .ifS c t (some e) => max (depth c + 1) (max (sdepth t + 1) (sdepth e + 1))

theorem renderS_head' (s : RStmt F) : ∃ k ts, renderS s = .kw k :: ts ∧ k ≠ .Else ∧ k ≠ .Colon := by
  match s with
  | .letS _ _ => exact ⟨_, _, by rw [renderS], by decide, by decide⟩
  | .printS _ => exact ⟨_, _, by rw [renderS], by decide, by decide⟩
  | .gotoS _ => exact ⟨_, _, by rw [renderS], by decide, by decide⟩
  | .endS => exact ⟨_, _, by rw [renderS], by decide, by decide⟩
  | .ifS _ _ none => exact ⟨_, _, by rw [renderS], by decide, by decide⟩
  | .ifS _ _ (some _) => exact ⟨_, _, by rw [renderS], by decide, by decide⟩

theorem renderS_head (s : RStmt F) : ∃ k ts, renderS s = .kw k :: ts :=
  let ⟨k, ts, h, _⟩ := renderS_head' s
  ⟨k, ts, h⟩

omit [NumOps F] in
theorem simple_elseFree (s : RStmt F) (h : s.simple = true) : s.elseFree = true := by
  match s with
  | .letS _ _ => rfl
  | .printS _ => rfl
  | .gotoS _ => rfl
  | .endS => rfl
  | .ifS _ _ none => simp [RStmt.simple] at h
  | .ifS _ _ (some _) => simp [RStmt.simple] at h

omit [NumOps F] in
theorem items_forall {P : Token F → Prop} (hexpr : ∀ (e : Expr F), ∀ t ∈ render e, P t)
    (hsemi : P (.kw .Semicolon)) (hcomma : P (.kw .Comma)) :
    ∀ (items : List (PItem F)), ∀ t ∈ renderItems items, P t := by
  intro items
  induction items with
  | nil => intro t ht; simp [renderItems] at ht
  | cons i r ih =>
    intro t ht
    rw [renderItems] at ht
    rcases List.mem_append.mp ht with ht | ht
    · cases i with
      | expr e => exact hexpr e t ht
      | semi => rw [PItem.render, List.mem_singleton] at ht; subst ht; exact hsemi
      | comma => rw [PItem.render, List.mem_singleton] at ht; subst ht; exact hcomma
    · exact ih t ht

omit [NumOps F] in
theorem items_tokens : ∀ (items : List (PItem F)),
    ∀ t ∈ renderItems items, t.isKw .Colon = false ∧ t.isKw .Else = false :=
  items_forall (fun e t ht => ⟨(plain_render e t ht).1, (plain_render e t ht).2.1⟩) ⟨rfl, rfl⟩ ⟨rfl, rfl⟩

theorem renderS_tokens : ∀ (s : RStmt F), s.elseFree = true →
    ∀ t ∈ renderS s, t.isKw .Colon = false ∧ t.isKw .Else = false
  | .letS x e, _ => by
    intro t ht
    simp only [renderS, List.mem_cons] at ht
    rcases ht with rfl | rfl | rfl | ht
    · exact ⟨rfl, rfl⟩
    · exact ⟨rfl, rfl⟩
    · exact ⟨rfl, rfl⟩
    · exact ⟨(plain_render e t ht).1, (plain_render e t ht).2.1⟩
  | .printS items, _ => by
    intro t ht
    simp only [renderS, List.mem_cons] at ht
    rcases ht with rfl | ht
    · exact ⟨rfl, rfl⟩
    · exact items_tokens items t ht
  | .gotoS n, _ => by
    intro t ht
    simp only [renderS, List.mem_cons, List.not_mem_nil, or_false] at ht
    rcases ht with rfl | rfl
    · exact ⟨rfl, rfl⟩
    · exact ⟨rfl, rfl⟩
  | .endS, _ => by
    intro t ht
    simp only [renderS, List.mem_cons, List.not_mem_nil, or_false] at ht
    subst ht
    exact ⟨rfl, rfl⟩
  | .ifS c s' none, h => by
    intro t ht
    simp only [renderS, List.mem_cons, List.mem_append] at ht
    rcases ht with rfl | ht | rfl | ht
    · exact ⟨rfl, rfl⟩
    · exact ⟨(plain_render c t ht).1, (plain_render c t ht).2.1⟩
    · exact ⟨rfl, rfl⟩
    · exact renderS_tokens s' (by simpa only [RStmt.elseFree] using h) t ht
  | .ifS _ _ (some _), h => by simp [RStmt.elseFree] at h

/-- what may follow a statement: end of line or `:`; after a statement that is not an IF also `ELSE` -/
def EndFor (s : RStmt F) (rest : List (Token F)) : Prop :=
  LineEnd rest ∨ (s.simple = true ∧ StmtEnd rest)

omit [NumOps F] in
theorem EndFor.stmtEnd {s : RStmt F} {rest : List (Token F)} (h : EndFor s rest) : StmtEnd rest := by
  rcases h with h | h
  · exact h.stmtEnd
  · exact h.2

omit [NumOps F] in
theorem EndFor.of_if {c : Expr F} {t : RStmt F} {e : Option (RStmt F)} {rest : List (Token F)}
    (h : EndFor (.ifS c t e) rest) : LineEnd rest :=
  h.elim id fun h => absurd h.1 (by simp [RStmt.simple])

omit [NumOps F] in
theorem closeLine_ctl (r : RResult F) : r.closeLine.ctl ≠ .next := by
  cases hc : r.ctl with
  | next => rw [closeLine_next hc]; exact fun h => by cases h
  | _ => rw [closeLine_other (by rw [hc]; exact fun h => by cases h), hc]; exact fun h => by cases h

omit [NumOps F] in
theorem if_at {σ : St F} {pre post : List (Token F)} (c : Expr F)
    (hAt : At σ pre (.kw .If :: (render c ++ .kw .Then :: post))) (r : Nat) :
    At (mv σ (1 + (render c).length + 1) r) (pre ++ [.kw .If] ++ render c ++ [.kw .Then]) post := by
  have h1 := at_mv1 hAt r
  have h2 := at_mv h1 r
  have h3 := at_mv1 h2 r
  rw [mv_mv, mv_mv] at h3
  exact h3

/-- the two branches of `ifStatement` after the condition and THEN -/
def ifRest (ev : Evals F) (b : Bool) : M F Unit :=
  if b then statementOrGoto ev >>= fun _ => tailElse
  else lineBudget >>= fun b => ifSkipLoop ev b

end Abasic.StmtL
