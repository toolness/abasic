import Abasic.Proofs.Host
import Abasic.Proofs.TokFast
/-
  `start_evaluating` for evaluation.

  A checked session pays, at every line typed, for the string literals of the model: the eight command
  words of `Command.ofWord` and the keyword table of the tokenizer.  `startC` is `startEvaluating` with the
  command words written out in characters and `Fast.tokenizeC` for the tokenizer; `start_eq` says so, by
  rewriting with the equations that take the entry point apart (`evaluateImpl_eq`, `maybeProcessCommand_eq`)
  and `Fast.tokenize_eq`.  A demonstration rewrites with `start_eq` (or `ofWord_eq`) and then evaluates;
  nothing else is to be proved about these copies.
-/
namespace Abasic.Fast
open Abasic M
variable {F : Type} [NumOps F]

def ofWordC (w : Str) : Option Command :=
  if w == ['R','U','N'] then some .run
  else if w == ['L','I','S','T'] then some .list
  else if w == ['N','E','W'] then some .new
  else if w == ['C','O','N','T'] then some .cont
  else if w == ['T','R','A','C','E'] then some .trace
  else if w == ['N','O','T','R','A','C','E'] then some .notrace
  else if w == ['I','N','T','E','R','N','A','L','S'] then some .internals
  else if w == ['S','T','A','T','S'] then some .stats
  else none

theorem ofWord_eq : Command.ofWord = ofWordC := by
  funext w
  unfold Command.ofWord ofWordC
  literal_chars

def enterLineC (fuel : Nat) (line : Str) : M F Unit :=
  let (num, skip) : Option Nat × Nat :=
    match parseLineNumber line with
    | some (n, e) => (some n, e)
    | none => (none, 0)
  match tokenizeC (F := F) line skip with
  | .error e => fail (.syntax (.tokenization e))
  | .ok ts =>
    match num with
    | some n => modify fun s => s.setNumberedLine n ts
    | none => do
      setImmediate ts
      runNextStatement fuel

theorem enterLine_eq (fuel : Nat) (line : Str) : enterLine (F := F) fuel line = enterLineC fuel line := by
  unfold enterLine enterLineC
  simp only [tokenize_eq]
  rfl

def startC (fuel : Nat) (line : Str) : M F Unit :=
  postprocess (inState .idle "assertion failed: state == Idle" (do
    setImmediate []
    if ← (match (commandWord line).bind ofWordC with
      | none => pure false
      | some c => (do c.act fuel; pure true)) then pure () else enterLineC fuel line))

theorem start_eq (fuel : Nat) (line : Str) : startEvaluating (F := F) fuel line = startC fuel line := by
  unfold startEvaluating startC
  rw [evaluateImpl_eq, maybeProcessCommand_eq, ofWord_eq, enterLine_eq]
  rfl

end Abasic.Fast
