import Abasic.Proofs.Stmt3Base
/-
  C03, the statement evaluator on the statements of Ref/Stmt3.lean: GOSUB, RETURN, DATA, RESTORE, NEXT, FOR.
-/

namespace Abasic.Stmt3L
open Abasic Abasic.Ref Abasic.ExprL Abasic.ExprL2 Abasic.StmtL Abasic.ProgL Abasic.Prog3L Abasic.Hoare M
open Abasic.Prog2L (Rel2)

variable {F : Type} [NumOps F]

/-- what `forStatement` does after start and limit -/
def forTail (ev : Evals F) (v : Str) (x y : F) : M F Unit := do
  if ← accept .Step then
    match ← ev.expr with
    | .str _ => fail .typeMismatch
    | .num stepV => startLoop v x y stepV
  else startLoop v x y NumOps.one

end Abasic.Stmt3L

namespace Abasic.Stmt3V
open Abasic Abasic.Ref Abasic.ExprL Abasic.ExprL2 Abasic.StmtL Abasic.ProgL Abasic.Prog3L Abasic.Stmt3L Abasic.Hoare M
open Abasic.Prog2L (Rel2)

variable {F : Type} [NumOps F]

section stmts
variable {p : ProgView F} {n j : Nat}

theorem gosub_ok (m : Nat) : StmtOK p n j (.gosubS m) := by
  intro fuel σ r pre rest after eol hS hL hP hE _ hcov _ _ _
  have h0 : Mid p σ r r σ pre (.kw .Gosub :: .num (NumOps.ofNat m) :: rest) :=
    .ofSync hS (by simpa only [renderS3, List.cons_append, List.nil_append] using hP.cur)
  obtain ⟨k1, h1, m1⟩ := h0.body (ev := evalN fuel) rfl
  obtain ⟨k2, h2, m2⟩ := m1.tok
  rw [h1]
  show Outcome3 p σ n after eol (gosubStatement _) _ _
  unfold gosubStatement
  rw [bind_ok h2]
  simp only [show NumOps.toU64 (NumOps.ofNat m : F) = m from hcov]
  -- the return address: the cursor behind the statement
  have haddr : p.Addr n (j + 1) (mv (mv σ 1 k1) 1 k2).loc := by
    have := hP.addr (hE.lineEnd3 rfl)
    rwa [hP.hafter, ← hP.cur.2, ← hP.locline] at this
  -- model and reference step ask the same question: is the stack full?
  rw [gosubLine_eq]
  simp only [RStmt3.exec, show r.rets.length = (mv (mv σ 1 k1) 1 k2).stack.length from hS.mem.stack.length]
  split
  · exact ⟨by simp, m2.fails (.refl _) rfl⟩
  · refine ⟨fun hh => ?_, fun hh => ?_⟩
    · rw [if_pos (show (mv (mv σ 1 k1) 1 k2).lines.has m = true from hh)]
      have hM := hS.mem
      exact ⟨_, rfl, ⟨rfl, rfl, rfl, rfl, rfl⟩,
        { hM with stack := Rel2.cons ⟨rfl, haddr⟩ hM.stack, fns := ⟨hM.fns.undef, hM.fns.defd⟩ }, rfl⟩
    · rw [if_neg (by simp [show (mv (mv σ 1 k1) 1 k2).lines.has m = false from hh])]
      exact m2.fails (τ' := { mv (mv σ 1 k1) 1 k2 with bp := none }) ⟨⟨rfl, rfl, rfl, rfl, rfl⟩, rfl, rfl, rfl⟩ rfl

theorem return_ok : StmtOK p n j (.returnS) := by
  intro fuel σ r pre rest after eol hS hL hP _ _ _ _ _ _
  have h0 : Mid p σ r r σ pre (.kw .Return :: rest) :=
    .ofSync hS (by simpa only [renderS3, List.cons_append, List.nil_append] using hP.cur)
  obtain ⟨k1, (h1 : _ = returnFromGosub (mv σ 1 k1)), m1⟩ := h0.body (ev := evalN fuel) rfl
  rw [h1, returnFromGosub_eq]
  have hM := hS.mem
  have hst : Rel2 (p.Ret) r.rets (mv σ 1 k1).stack := hM.stack
  simp only [RStmt3.exec]
  -- both stacks are empty, or both have a top
  generalize r.rets = rets, (mv σ 1 k1).stack = st at hst ⊢
  cases hst with
  | nil =>
    exact ⟨by simp, m1.fails (τ' := { mv σ 1 k1 with bp := none, stack := [] }) ⟨⟨rfl, rfl, rfl, rfl, rfl⟩, rfl, rfl, rfl⟩ rfl⟩
  | cons hd tl =>
    exact ⟨_, rfl, ⟨rfl, rfl, rfl, rfl, rfl⟩, { hM with stack := tl, fns := ⟨hM.fns.undef, hM.fns.defd⟩ }, hd.2⟩

theorem data_ok (items : List (DataElement F)) : StmtOK p n j (.dataS items) := by
  intro fuel σ r pre rest after eol hS hL hP _ _ _ _ _ _
  have h0 : Mid p σ r r σ pre (.data items :: rest) :=
    .ofSync hS (by simpa only [renderS3, List.cons_append, List.nil_append] using hP.cur)
  obtain ⟨k1, h1, m1⟩ := h0.body (ev := evalN fuel) rfl
  rw [h1]
  exact m1.done hP

theorem restore_ok : StmtOK p n j (.restoreS) := by
  intro fuel σ r pre rest after eol hS hL hP _ _ _ _ _ _
  have h0 : Mid p σ r r σ pre (.kw .Restore :: rest) :=
    .ofSync hS (by simpa only [renderS3, List.cons_append, List.nil_append] using hP.cur)
  obtain ⟨k1, h1, m1⟩ := h0.body (ev := evalN fuel) rfl
  have hAt1 := m1.cur
  rw [h1]
  refine outcome_next (τ := { mv σ 1 k1 with data := none }) (r' := { r with data := 0 }) hP ⟨rfl, rfl, rfl, rfl, rfl⟩ rfl
    ?_ ⟨hAt1.1, hAt1.2⟩
  exact { hS.mem with data := rfl, fns := ⟨hS.mem.fns.undef, hS.mem.fns.defd⟩ }

theorem next_ok (v : Str) : StmtOK p n j (.nextS v) := by
  intro fuel σ r pre rest after eol hS hL hP _ _ _ _ _ _
  have h0 : Mid p σ r r σ pre (.kw .Next :: .symbol v :: rest) :=
    .ofSync hS (by simpa only [renderS3, List.cons_append, List.nil_append] using hP.cur)
  obtain ⟨k1, h1, m1⟩ := h0.body (ev := evalN fuel) rfl
  obtain ⟨k2, h2, m2⟩ := m1.tok
  have hAt2 := m2.cur
  rw [h1]
  show Outcome3 p σ n after eol (nextStatement _) _ _
  unfold nextStatement
  rw [bind_ok h2]
  show Outcome3 p σ n after eol (endLoop v _) _ _
  have hst := m2.start
  have hM := hS.mem
  have hgv : getVar (mv (mv σ 1 k1) 1 k2) v = envOf r.vars v := by
    show getVar σ v = _
    rw [getVar_eq_envOf, hM.vars]
  cases hv : envOf r.vars v with
  | str x =>
    have hex : (RStmt3.nextS v : RStmt3 F).exec (p.data) n j r = (r, .error .typeMismatch) := by
      simp only [RStmt3.exec, hv]
    rw [hex]
    rw [hv] at hgv
    refine ⟨by simp, errFrom_at hst ?_⟩
    simp only [endLoop, bind, M.bindM, M.get, hgv, M.fail]
  | num cur =>
    rw [hv] at hgv
    -- `findLoop` on the reference stack and `removeLoop` on the model's fail together or find related entries
    -- and related rests: of the four combinations below the two mixed ones are `hrel.elim`
    have hrel := removeLoop_rel (v := v) hM.loops
    cases hf : findLoop v r.loops with
    | none =>
      have hex : (RStmt3.nextS v : RStmt3 F).exec (p.data) n j r = (r, .error .nextWithoutFor) := by
        simp only [RStmt3.exec, hv, hf]
      rw [hex]
      cases hr : removeLoop v σ.loops with
      | some x => rw [hf, hr] at hrel; exact hrel.elim
      | none =>
        have hr' : removeLoop v (mv (mv σ 1 k1) 1 k2).loops = none := hr
        refine ⟨by simp, errFrom_at hst ?_⟩
        simp only [endLoop, bind, M.bindM, M.get, hgv, hr', M.fail]
    | some lr =>
      obtain ⟨l, lrest⟩ := lr
      cases hr : removeLoop v σ.loops with
      | none => rw [hf, hr] at hrel; exact hrel.elim
      | some ir =>
        obtain ⟨info, mrest⟩ := ir
        rw [hf, hr] at hrel
        obtain ⟨hli, hrest⟩ := hrel
        obtain ⟨hsym, hto, hstep, haddr⟩ := hli
        have hr' : removeLoop v (mv (mv σ 1 k1) 1 k2).loops = some (info, mrest) := hr
        have hm : (Value.num (NumOps.add cur info.stepV) : Value F).matchesName v = true := by
          simp only [Value.matchesName, Stmt2L.envOf_num_name hS.typed hv, Bool.not_false]
        -- the model's test decides for both sides: related entries have the same step and limit (`hstep`, `hto`),
        -- so `hc` is the condition of the reference step as well
        cases hc : Props.C03.nextAgain cur info with
        | true =>
          have hex : (RStmt3.nextS v : RStmt3 F).exec (p.data) n j r =
              ({ r with vars := alSet v (.num (NumOps.add cur l.step)) r.vars, loops := l :: lrest },
                .resume l.line l.idx) := by
            have hc' := hc
            unfold Props.C03.nextAgain at hc'
            rw [hstep, hto] at hc'
            simp only [RStmt3.exec, hv, hf, hc', ↓reduceIte]
          rw [hex, Props.C03.next_uses_stored_again v _ cur info mrest hgv hr' hm hc]
          refine ⟨_, rfl, ⟨rfl, rfl, rfl, rfl, rfl⟩, ?_, haddr⟩
          exact { hM with
            vars := by show alSet v _ σ.vars = _; rw [hM.vars, hstep]
            loops := Rel2.cons ⟨hsym, hto, hstep, haddr⟩ hrest, fns := ⟨hM.fns.undef, hM.fns.defd⟩ }
        | false =>
          have hex : (RStmt3.nextS v : RStmt3 F).exec (p.data) n j r =
              ({ r with vars := alSet v (.num (NumOps.add cur l.step)) r.vars, loops := lrest }, .next) := by
            have hc' := hc
            unfold Props.C03.nextAgain at hc'
            rw [hstep, hto] at hc'
            simp only [RStmt3.exec, hv, hf, hc', Bool.false_eq_true, ↓reduceIte]
          rw [hex, Props.C03.next_uses_stored_done v _ cur info mrest hgv hr' hm hc]
          refine outcome_next hP ⟨rfl, rfl, rfl, rfl, rfl⟩ rfl ?_ ⟨hAt2.1, hAt2.2⟩
          exact { hM with
            vars := by show alSet v _ σ.vars = _; rw [hM.vars, hstep]
            loops := hrest, fns := ⟨hM.fns.undef, hM.fns.defd⟩ }

theorem startLoop_outcome {σ τ : St F} {r0 r : RState3 F} {s : RStmt3 F} {pre rest pf : List (Token F)} {after eol : Nat}
    (h : Mid p σ r0 r τ pf rest) (hP : Pos p σ n j s pre rest after eol) (hLE : LineEnd3 rest) (v : Str) (x y z : F) :
    Outcome3 p σ n after eol (startLoop v x y z τ) (forPush3 n j r v x y z).1 (forPush3 n j r v x y z).2 := by
  have hS := h.sync
  have hst := h.start
  have hline : τ.loc.line = some n := hst.line.trans hP.locline
  have hidx : τ.loc.idx = after := by
    rw [hP.hafter]
    exact h.idx hP.locline hP.cur
  have haddr : p.Addr n (j + 1) τ.loc := by
    have := hP.addr hLE
    rw [← hidx, ← hline] at this
    exact this
  refine outcome_start ?_ hst
  have hM := hS.mem
  have hrel := afterRemove_rel v hM.loops
  have hlen : (keptLoops v r.loops).length = (Props.C16.afterRemove v τ.loops).length := hrel.length
  rw [Props.C16.startLoop_eq]
  by_cases hcap : (Props.C16.afterRemove v τ.loops).length = Extracted.stackLimit
  · have hex : forPush3 n j r v x y z = (r, .error .oomStack) := by
      simp only [forPush3, hlen, hcap, beq_self_eq_true, ↓reduceIte]
    rw [hex, if_pos hcap]
    exact ⟨by simp, errFrom_fail rfl rfl rfl rfl⟩
  · have hb : ((Props.C16.afterRemove v τ.loops).length == Extracted.stackLimit) = false := by simpa using hcap
    rw [if_neg hcap]
    cases hd : endsWithDollar v with
    | true =>
      have hex : forPush3 n j r v x y z = (r, .error .typeMismatch) := by
        simp only [forPush3, hlen, hb, hd, Bool.false_eq_true, ↓reduceIte]
      have hm : ((Value.num x : Value F).matchesName v = true) = False := by
        simp only [Value.matchesName, hd, Bool.not_true, Bool.false_eq_true]
      rw [hex]
      simp only [hm, ↓reduceIte]
      exact ⟨by simp, errFrom_fail rfl rfl rfl rfl⟩
    | false =>
      have hex : forPush3 n j r v x y z =
          ({ r with vars := alSet v (.num x) r.vars,
                    loops := { var := v, line := n, idx := j + 1, limit := y, step := z } :: keptLoops v r.loops },
           .next) := by
        simp only [forPush3, hlen, hb, hd, Bool.false_eq_true, ↓reduceIte]
      have hm : ((Value.num x : Value F).matchesName v = true) = True := by
        simp only [Value.matchesName, hd, Bool.not_false]
      rw [hex]
      simp only [hm, ↓reduceIte]
      refine ⟨_, rfl, ⟨rfl, rfl, rfl, rfl, rfl⟩, ?_, hline, Or.inl hidx⟩
      exact { hM with
        vars := by show alSet v _ τ.vars = _; rw [hM.vars]
        loops := Rel2.cons ⟨rfl, rfl, rfl, haddr⟩ hrel, fns := ⟨hM.fns.undef, hM.fns.defd⟩ }

theorem for_ok (v : Str) (a b : Expr2 F) (c : Option (Expr2 F)) : StmtOK p n j (.forS v a b c) := by
  intro fuel σ r pre rest after eol hS hL hP hE _ _ hres hd hn
  have hLE : LineEnd3 rest := hE.lineEnd3 rfl
  obtain ⟨hLa, hLb, hLc⟩ := hL.forS
  -- both forms up to the limit: an error in a bound is the error of the statement
  have hcommon : ∀ (post : List (Token F)),
      At σ pre (.kw .For :: .symbol v :: .kw .Equals :: (render2 a ++ .kw .To :: (render2 b ++ post))) →
      Ends 6 post → Resolved r.fns a → Resolved r.fns b →
      edepth r.fns a ≤ fuel → edepth r.fns b ≤ fuel →
      σ.nesting + edepth r.fns a ≤ Extracted.nestingLimit → σ.nesting + edepth r.fns b ≤ Extracted.nestingLimit →
      ∀ {R : RState3 F × Ctl2}, (∀ err, numE3 r a = .error err → R.2 = .error err) →
        (∀ x r1 err, numE3 r a = .ok (x, r1) → numE3 r1 b = .error err → R.2 = .error err) →
        (∀ x r1 y r2 τ, numE3 r a = .ok (x, r1) → numE3 r1 b = .ok (y, r2) →
          Mid p σ r r2 τ (pre ++ [Token.kw Kw.For] ++ [Token.symbol v] ++ [Token.kw Kw.Equals] ++ render2 a ++
            [Token.kw Kw.To] ++ render2 b) post →
          Outcome3 p σ n after eol (forTail (evalN fuel) v x y τ) R.1 R.2) →
        Outcome3 p σ n after eol (stmtBody (evalN fuel) σ) R.1 R.2 := by
    intro post hAt0 hpost hra hrb hda hdb hna hnb R he1 he2 hok
    obtain ⟨k1, h1, m1⟩ := (Mid.ofSync hS hAt0).body (ev := evalN fuel) rfl
    obtain ⟨k2, h2, m2⟩ := m1.tok
    obtain ⟨k3, h3, m3⟩ := m2.expectKw (k := .Equals) rfl
    rw [h1]
    show Outcome3 p σ n after eol (forStatement (evalN fuel) _) _ _
    unfold forStatement
    rw [bind_ok h2]
    show Outcome3 p σ n after eol ((expect .Equals >>= fun _ => (evalN fuel).expr >>= Stmt2L.numK fun x => do
      expect .To
      (evalN fuel).expr >>= Stmt2L.numK fun y => forTail (evalN fuel) v x y) _) _ _
    rw [bind_ok h3]
    refine (m3.num fuel hLa hra hda hna (Stmt2L.ends_to 6 _) _).outcome he1
      fun x r1 τ1 hx1 hτ1 => ?_
    obtain ⟨k4, h4, m4⟩ := hτ1.expectKw (k := .To) rfl
    show Outcome3 p σ n after eol ((expect .To >>= fun _ => _) τ1) _ _
    rw [bind_ok h4]
    exact (m4.num fuel hLb hrb hdb hnb hpost _).outcome (fun err => he2 x r1 err hx1)
      fun y r2 τ2 hx2 hτ2 => hok x r1 y r2 τ2 hx1 hx2 hτ2
  cases c with
  | none =>
    obtain ⟨hra, hrb⟩ : Resolved r.fns a ∧ Resolved r.fns b := hres
    simp only [sdepth3, Nat.max_le, ← Nat.add_max_add_left] at hd hn
    refine hcommon rest (by simpa only [renderS3, List.cons_append, List.append_assoc] using hP.cur) (hE.ends 6)
      hra hrb hd.1 hd.2 hn.1 hn.2 (fun err hx => by simp only [RStmt3.exec, hx])
      (fun x r1 err hx1 hx2 => by simp only [RStmt3.exec, hx1, hx2]) fun x r1 y r2 τ hx1 hx2 hτ => ?_
    have hex : (RStmt3.forS v a b none).exec (p.data) n j r = forPush3 n j r2 v x y NumOps.one := by
      simp only [RStmt3.exec, hx1, hx2, stepE3]
    obtain ⟨k5, h5, m5⟩ := hτ.acceptNone (k := .Step) (Stmt2L.lineEnd_not hLE.lineEnd (by decide))
    have hft : forTail (evalN fuel) v x y τ = startLoop v x y NumOps.one (mv τ 0 k5) := by
      unfold forTail
      rw [bind_ok h5]
      rfl
    rw [hex, hft]
    exact startLoop_outcome m5 hP hLE v x y NumOps.one
  | some c =>
    obtain ⟨hra, hrb, hrc⟩ : Resolved r.fns a ∧ Resolved r.fns b ∧ Resolved r.fns c := hres
    simp only [sdepth3, Nat.max_le, ← Nat.add_max_add_left] at hd hn
    refine hcommon _ (by simpa only [renderS3, List.cons_append, List.append_assoc] using hP.cur) (Stmt2L.ends_step 6 _)
      hra hrb hd.1 hd.2.1 hn.1 hn.2.1 (fun err hx => by simp only [RStmt3.exec, hx])
      (fun x r1 err hx1 hx2 => by simp only [RStmt3.exec, hx1, hx2]) fun x r1 y r2 τ hx1 hx2 hτ => ?_
    obtain ⟨k5, h5, m5⟩ := hτ.acceptKw (k := .Step) rfl
    have hft : forTail (evalN fuel) v x y τ =
        ((evalN fuel).expr >>= Stmt2L.numK fun z => startLoop v x y z) (mv τ 1 k5) := by
      unfold forTail
      rw [bind_ok h5]
      rfl
    rw [hft]
    refine (m5.num fuel (hLc c rfl) hrc hd.2.2 hn.2.2 (hE.ends 6) _).outcome
      (fun err hx3 => by simp only [RStmt3.exec, hx1, hx2, stepE3, hx3]) fun z r3 τ3 hx3 hτ3 => ?_
    have hex : (RStmt3.forS v a b (some c)).exec (p.data) n j r = forPush3 n j r3 v x y z := by
      simp only [RStmt3.exec, hx1, hx2, stepE3, hx3]
    rw [hex]
    exact startLoop_outcome hτ3 hP hLE v x y z

end stmts

end Abasic.Stmt3V
