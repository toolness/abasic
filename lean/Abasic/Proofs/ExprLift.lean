import Abasic.Proofs.Hoare
import Abasic.Proofs.Walk
/-
  The conjunction of two frames (`Both`): a computation respects it iff it respects each.
-/
set_option linter.unusedSectionVars false

namespace Abasic.Hoare
open Abasic M Abasic.Proofs.XF

variable {F : Type} [NumOps F]

def Both (R S : St F → St F → Prop) (σ σ' : St F) : Prop := R σ σ' ∧ S σ σ'

instance {R S : St F → St F → Prop} [IsFrame R] [IsFrame S] : IsFrame (Both R S) where
  refl σ := ⟨IsFrame.refl σ, IsFrame.refl σ⟩
  trans h1 h2 := ⟨IsFrame.trans h1.1 h2.1, IsFrame.trans h1.2 h2.2⟩

theorem respects_both {R S : St F → St F → Prop} {α : Type} {m : M F α}
    (hr : Respects R m) (hs : Respects S m) : Respects (Both R S) m :=
  respects_of_final fun σ => ⟨hr.final σ, hs.final σ⟩

theorem Respects.snd {R S : St F → St F → Prop} {α : Type} {m : M F α} (h : Respects (Both R S) m) :
    Respects S m := h.mono fun _ _ h => h.2

end Abasic.Hoare
