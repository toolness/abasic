import Abasic.Ref.Expr
import Abasic.Props.C01
import Abasic.Proofs.Cursor
import Abasic.Proofs.Walk
import Abasic.Props.C17
/-
  The evaluator of Expr.lean stepped over a line of tokens: what the expression
  proofs (Proofs/Expr2WarnInd.lean, and C02 `eval_render` on top of it) and the
  statement-level proofs after them share, none of it depending on what is on the stack.
  On a state viewed as `At σ pre post` (line = pre ++ post, cursor = |pre|) each
  cursor primitive of Program.lean is an equation; the tiers of `orExpr` are
  `tier ev k`, with the follow condition `Ends` and the agreement predicate `Agrees`.
-/
namespace Abasic.ExprL
open Abasic Abasic.Ref M

variable {F : Type}

theorem bind_ok {α β : Type} {m : M F α} {f : α → M F β} {σ σ' : St F} {a : α}
    (h : m σ = .ok a σ') : (m >>= f) σ = f a σ' := by
  simp only [bind, M.bindM, h]

theorem bind_err {α β : Type} {m : M F α} {f : α → M F β} {σ σ' : St F} {e : TErr}
    (h : m σ = .err e σ') : (m >>= f) σ = .err e σ' := by
  simp only [bind, M.bindM, h]

theorem bind_assoc' {α β γ : Type} (m : M F α) (g : α → M F β) (h : β → M F γ) :
    (m >>= g) >>= h = m >>= fun a => g a >>= h := by
  funext σ
  simp only [bind, M.bindM]
  cases m σ <;> rfl

theorem bind_bind {α β γ : Type} (m : M F α) (f : α → M F β) (g : β → M F γ) (σ : St F) :
    ((m >>= f) >>= g) σ = (m >>= fun a => f a >>= g) σ :=
  congrFun (bind_assoc' m f g) σ

theorem pure_eq {α : Type} (a : α) (σ : St F) : (pure a : M F α) σ = .ok a σ := rfl

/-- the token list of the current line, when it exists -/
def lineToks (σ : St F) : Option (List (Token F)) :=
  match σ.loc.line with
  | none => some σ.imm
  | some n => σ.lines.get n

def mv (σ : St F) (n r : Nat) : St F :=
  { σ with loc := { σ.loc with idx := σ.loc.idx + n }, reads := r }

def nest (σ : St F) (k : Nat) : St F := { σ with nesting := k }

@[simp] theorem mv_reads (σ : St F) (n r : Nat) : (mv σ n r).reads = r := rfl
@[simp] theorem mv_nesting (σ : St F) (n r : Nat) : (mv σ n r).nesting = σ.nesting := rfl
@[simp] theorem mv_stack (σ : St F) (n r : Nat) : (mv σ n r).stack = σ.stack := rfl
@[simp] theorem mv_warnings (σ : St F) (n r : Nat) : (mv σ n r).warnings = σ.warnings := rfl
@[simp] theorem mv_vars (σ : St F) (n r : Nat) : (mv σ n r).vars = σ.vars := rfl
@[simp] theorem mv_idx (σ : St F) (n r : Nat) : (mv σ n r).loc.idx = σ.loc.idx + n := rfl
@[simp] theorem mv_line (σ : St F) (n r : Nat) : (mv σ n r).loc.line = σ.loc.line := rfl
@[simp] theorem lineToks_mv (σ : St F) (n r : Nat) : lineToks (mv σ n r) = lineToks σ := rfl
@[simp] theorem nest_reads (σ : St F) (k : Nat) : (nest σ k).reads = σ.reads := rfl
@[simp] theorem nest_nesting (σ : St F) (k : Nat) : (nest σ k).nesting = k := rfl
@[simp] theorem nest_stack (σ : St F) (k : Nat) : (nest σ k).stack = σ.stack := rfl
@[simp] theorem nest_warnings (σ : St F) (k : Nat) : (nest σ k).warnings = σ.warnings := rfl
@[simp] theorem lineToks_nest (σ : St F) (k : Nat) : lineToks (nest σ k) = lineToks σ := rfl
@[simp] theorem nest_idx (σ : St F) (k : Nat) : (nest σ k).loc.idx = σ.loc.idx := rfl

theorem mv_mv (σ : St F) (a r b r' : Nat) : mv (mv σ a r) b r' = mv σ (a + b) r' := by
  simp only [mv, Nat.add_assoc]

theorem mv_congr (σ : St F) {a b : Nat} (r : Nat) (h : a = b) : mv σ a r = mv σ b r := by
  subst h; rfl

theorem nest_mv (σ : St F) (k n r : Nat) : nest (mv σ n r) k = mv (nest σ k) n r := rfl
theorem nest_nest (σ : St F) (k k' : Nat) : nest (nest σ k) k' = nest σ k' := rfl
theorem nest_self (σ : St F) : nest σ σ.nesting = σ := rfl

/-- the current line is `pre ++ post` and the cursor stands between the two -/
def At (σ : St F) (pre post : List (Token F)) : Prop :=
  lineToks σ = some (pre ++ post) ∧ σ.loc.idx = pre.length

theorem at_mv {σ : St F} {pre a b : List (Token F)} (h : At σ pre (a ++ b)) (r : Nat) :
    At (mv σ a.length r) (pre ++ a) b := by
  obtain ⟨h1, h2⟩ := h
  refine ⟨?_, ?_⟩
  · rw [lineToks_mv, h1, List.append_assoc]
  · rw [mv_idx, h2, List.length_append]

theorem at_mv1 {σ : St F} {pre post : List (Token F)} {t : Token F} (h : At σ pre (t :: post)) (r : Nat) :
    At (mv σ 1 r) (pre ++ [t]) post :=
  at_mv (a := [t]) (b := post) h r

theorem at_mv0 {σ : St F} {pre post : List (Token F)} (h : At σ pre post) (r : Nat) :
    At (mv σ 0 r) pre post := ⟨h.1, h.2⟩

theorem at_nest {σ : St F} {pre post : List (Token F)} (h : At σ pre post) (k : Nat) :
    At (nest σ k) pre post := ⟨h.1, h.2⟩

theorem tokens_eq {σ : St F} {ts : List (Token F)} (h : lineToks σ = some ts) :
    tokens σ = .ok ts σ := by
  rw [Cur.tokens_eq, show Cur.toks σ = some ts from h]

theorem At.of_tokens {σ σ' : St F} {pre a rest : List (Token F)} (h : tokens σ = .ok (pre ++ a ++ rest) σ')
    (hi : σ.loc.idx = pre.length) : At σ pre (a ++ rest) :=
  ⟨by show Cur.toks σ = _; rw [Cur.toks_of_tokens h, List.append_assoc], hi⟩

theorem at_of_tokens {σ : St F} {ts : List (Token F)} (h : tokens σ = .ok ts σ) (hi : σ.loc.idx ≤ ts.length) :
    At σ (ts.take σ.loc.idx) (ts.drop σ.loc.idx) :=
  ⟨by rw [List.take_append_drop]; exact Cur.toks_of_tokens h, by rw [List.length_take]; omega⟩

theorem at_of_tokens_cons {σ : St F} {ts : List (Token F)} {t : Token F} (h : tokens σ = .ok ts σ)
    (ht : ts[σ.loc.idx]? = some t) :
    At σ (ts.take σ.loc.idx) (t :: ts.drop (σ.loc.idx + 1)) := by
  obtain ⟨hi, rfl⟩ := List.getElem?_eq_some_iff.mp ht
  rw [← List.drop_eq_getElem_cons hi]
  exact at_of_tokens h (Nat.le_of_lt hi)

theorem lineBudget_eq {σ : St F} {ts : List (Token F)} (h : lineToks σ = some ts) :
    lineBudget σ = .ok (ts.length + 1) σ := by
  unfold lineBudget
  rw [bind_ok (tokens_eq h)]
  rfl

/-- a cursor operation (Proofs/Cursor.lean) with `post` to the right of the cursor -/
theorem curOp_at {α : Type} (f : Loc → Option (Token F) → Bool × Except TErr α) {σ : St F}
    {pre post : List (Token F)} (h : At σ pre post) :
    Cur.curOp f σ = match f σ.loc post.head? with
      | (true, .ok a) => .ok a (mv σ 1 (σ.reads + 1))
      | (false, .ok a) => .ok a (mv σ 0 (σ.reads + 1))
      | (true, .error e) => .err e (mv σ 1 (σ.reads + 1))
      | (false, .error e) => .err e (mv σ 0 (σ.reads + 1)) := by
  rw [Cur.curOp_some _ (show Cur.toks σ = some (pre ++ post) from h.1), h.2,
    List.getElem?_append_right (Nat.le_refl _), Nat.sub_self, ← List.head?_eq_getElem?]
  rcases f σ.loc post.head? with ⟨_ | _, _ | _⟩ <;> rfl

theorem peek_eq {σ : St F} {pre post : List (Token F)} (h : At σ pre post) :
    peek σ = .ok post.head? (mv σ 0 (σ.reads + 1)) := by
  rw [Cur.peek_eq, curOp_at _ h]; rfl

theorem hasNext_eq {σ : St F} {pre post : List (Token F)} (h : At σ pre post) :
    hasNext σ = .ok post.head?.isSome (mv σ 0 (σ.reads + 1)) := by
  rw [Cur.hasNext_eq, curOp_at _ h]; rfl

theorem traceHere_imm (σ : St F) (h : σ.loc.line = none) : traceHere σ = .ok () σ := by
  simp only [traceHere, bind, M.bindM, M.get, h]
  cases σ.tracing <;> rfl

theorem advance_eq (σ : St F) : advance σ = .ok () (mv σ 1 σ.reads) := rfl

theorem tryNext_some {α : Type} {σ : St F} {pre post : List (Token F)} {t : Token F}
    {f : Token F → Option α} {a : α} (h : At σ pre (t :: post)) (hf : f t = some a) :
    tryNext f σ = .ok (some a) (mv σ 1 (σ.reads + 1)) := by
  rw [Cur.tryNext_eq, curOp_at _ h]; simp only [List.head?_cons, Cur.tryNextF, Option.bind_some, hf]

theorem tryNext_none {α : Type} {σ : St F} {pre post : List (Token F)}
    {f : Token F → Option α} (h : At σ pre post) (hf : ∀ t, post.head? = some t → f t = none) :
    tryNext f σ = .ok none (mv σ 0 (σ.reads + 1)) := by
  rw [Cur.tryNext_eq, curOp_at _ h]
  cases hp : post.head? with
  | none => rfl
  | some t => simp only [Cur.tryNextF, Option.bind_some, hf t hp]

theorem accept_true {σ : St F} {pre post : List (Token F)} {t : Token F} {k : Kw}
    (h : At σ pre (t :: post)) (hk : t.isKw k = true) :
    accept k σ = .ok true (mv σ 1 (σ.reads + 1)) := by
  rw [Cur.accept_eq, curOp_at _ h]; simp only [List.head?_cons, Cur.acceptF, hk]; rfl

theorem accept_false {σ : St F} {pre post : List (Token F)} {t : Token F} {k : Kw}
    (h : At σ pre (t :: post)) (hk : t.isKw k = false) :
    accept k σ = .ok false (mv σ 0 (σ.reads + 1)) := by
  rw [Cur.accept_eq, curOp_at _ h]; simp only [List.head?_cons, Cur.acceptF, hk]; rfl

theorem accept_end {σ : St F} {pre post : List (Token F)} {k : Kw}
    (h : At σ pre post) (hk : ∀ t, post.head? = some t → t.isKw k = false) :
    accept k σ = .ok false (mv σ 0 (σ.reads + 1)) := by
  rw [Cur.accept_eq, curOp_at _ h]
  cases hp : post.head? with
  | none => rfl
  | some t => simp only [Cur.acceptF, hk t hp]; rfl

theorem next_eq {σ : St F} {pre post : List (Token F)} {t : Token F}
    (h : At σ pre (t :: post)) :
    next σ = .ok (some t) (mv σ 1 (σ.reads + 1)) := by
  rw [Cur.next_eq, curOp_at _ h]; rfl

theorem nextUnwrapped_eq {σ : St F} {pre post : List (Token F)} {t : Token F}
    (h : At σ pre (t :: post)) :
    nextUnwrapped σ = .ok t (mv σ 1 (σ.reads + 1)) := by
  rw [Cur.nextUnwrapped_eq, curOp_at _ h]; rfl

theorem expect_eq {σ : St F} {pre post : List (Token F)} {t : Token F} {k : Kw}
    (h : At σ pre (t :: post)) (hk : t.isKw k = true) :
    expect k σ = .ok () (mv σ 1 (σ.reads + 1)) := by
  rw [Cur.expect_eq, curOp_at _ h]; simp only [List.head?_cons, Cur.expectF, hk]; rfl

theorem peekIsKw_cons {σ : St F} {pre post : List (Token F)} {t : Token F} (k : Kw)
    (h : At σ pre (t :: post)) :
    peekIsKw k σ = .ok (t.isKw k) (mv σ 0 (σ.reads + 1)) := by
  rw [Cur.peekIsKw_eq, curOp_at _ h]; rfl

theorem peekIsKw_false {σ : St F} {pre post : List (Token F)} (k : Kw)
    (h : At σ pre post) (hk : ∀ t, post.head? = some t → t.isKw k = false) :
    peekIsKw k σ = .ok false (mv σ 0 (σ.reads + 1)) := by
  unfold peekIsKw
  rw [bind_ok (peek_eq h)]
  cases hp : post.head? with
  | none => rfl
  | some t => simp only [pure_eq, hk t hp]

theorem nested_ok {α : Type} {m : M F α} {σ σ' : St F} {a : α}
    (hn : σ.nesting < Extracted.nestingLimit)
    (h : m (nest σ (σ.nesting + 1)) = .ok a σ') (hσ' : σ'.nesting = σ.nesting + 1) :
    nested m σ = .ok a (nest σ' σ.nesting) :=
  Props.C01.nested_of_ok (Nat.ne_of_lt hn) h hσ'

theorem nested_err {α : Type} {m : M F α} {σ σ' : St F} {e : TErr}
    (hn : σ.nesting < Extracted.nestingLimit)
    (h : m (nest σ (σ.nesting + 1)) = .err e σ') (hσ' : σ'.nesting = σ.nesting + 1) :
    nested m σ = .err e (nest σ' σ.nesting) :=
  Props.C01.nested_of_err (Nat.ne_of_lt hn) h hσ'

/-- what `renderAt p` renders: `e`, parenthesised when it binds less tightly than `p` -/
def fixP (p : Nat) (e : Expr F) : Expr F := if e.prec < p then .paren e else e

theorem render_paren (e : Expr F) :
    render (.paren e) = .kw .LeftParen :: (render e ++ [.kw .RightParen]) := by
  rw [render.eq_6]; rfl

theorem renderAt_eq (p : Nat) (e : Expr F) : renderAt p e = render (fixP p e) := by
  rw [renderAt.eq_1]; unfold fixP
  split
  · rw [render_paren]; rfl
  · rfl

theorem render_bin (op : BinOp) (l r : Expr F) :
    render (.bin op l r) =
      render (fixP (BinOp.prec op) l) ++ .kw (BinOp.token op) :: render (fixP (BinOp.prec op + 1) r) := by
  rw [render.eq_5, renderAt_eq, renderAt_eq]

theorem render_un (op : UnOp) (e : Expr F) :
    render (.un op e) = .kw (UnOp.token op) :: render (fixP 8 e) := by
  rw [render.eq_4, renderAt_eq]

theorem render_abs (e : Expr F) :
    render (.abs e) = .symbol Extracted.builtinAbs.toList :: .kw .LeftParen :: (render e ++ [.kw .RightParen]) := by
  rw [render.eq_7]; rfl

theorem render_int (e : Expr F) :
    render (.int e) = .symbol Extracted.builtinInt.toList :: .kw .LeftParen :: (render e ++ [.kw .RightParen]) := by
  rw [render.eq_8]; rfl

/-- parenthesis nesting of `render e` (explicit parentheses, the ones `renderAt`
    inserts, and those of ABS( ) / INT( )) -/
def depth : Expr F → Nat
  | .num _ => 0
  | .str _ => 0
  | .var _ => 0
  | .paren e => depth e + 1
  | .abs e => depth e + 1
  | .int e => depth e + 1
  | .un _ e => if e.prec < 8 then depth e + 1 else depth e
  | .bin op l r =>
    max (if l.prec < BinOp.prec op then depth l + 1 else depth l)
        (if r.prec < BinOp.prec op + 1 then depth r + 1 else depth r)

theorem depth_fixP (p : Nat) (e : Expr F) :
    depth (fixP p e) = if e.prec < p then depth e + 1 else depth e := by
  unfold fixP; split <;> simp [depth]

theorem depth_bin (op : BinOp) (l r : Expr F) :
    depth (.bin op l r) = max (depth (fixP (BinOp.prec op) l)) (depth (fixP (BinOp.prec op + 1) r)) := by
  rw [depth_fixP, depth_fixP]; rfl

theorem depth_un (op : UnOp) (e : Expr F) : depth (.un op e) = depth (fixP 8 e) := by
  rw [depth_fixP]; rfl

theorem prec_op_bounds (op : BinOp) : 1 ≤ BinOp.prec op ∧ BinOp.prec op ≤ 6 := by
  cases op <;> simp [BinOp.prec]

theorem prec_bounds (e : Expr F) : 1 ≤ e.prec ∧ e.prec ≤ 8 := by
  cases e <;> simp [Expr.prec]
  exact ⟨(prec_op_bounds _).1, by have := (prec_op_bounds ‹_›).2; omega⟩

/-- tier index of an expression: 0 for atoms and unary operators, `k+1` for a
    binary operator handled by the `k`-th tier above `unaryExpr` -/
def lv (e : Expr F) : Nat := 7 - e.prec

variable [NumOps F]

/-- operator table of the `k`-th tier above `unaryExpr` -/
def opsAt : Nat → Token F → Option BinOp
  | 0 => powOps
  | 1 => mulOps
  | 2 => addOps
  | 3 => cmpOps
  | 4 => andOps
  | 5 => orOps
  | _ => fun _ => none

/-- `tier ev 0 = unaryExpr ev`, …, `tier ev 6 = orExpr ev` -/
def tier (ev : Evals F) : Nat → M F (Value F)
  | 0 => unaryExpr ev
  | k + 1 => level (tier ev k) (opsAt k)

theorem tier_six (ev : Evals F) : tier ev 6 = orExpr ev := rfl

omit [NumOps F] in
theorem opsAt_token (op : BinOp) (i : Nat) :
    opsAt (F := F) i (.kw (BinOp.token op)) = if i = 6 - BinOp.prec op then some op else none := by
  rcases i with _ | _ | _ | _ | _ | _ | j
  iterate 6 (cases op with | cmp c => cases c <;> rfl | _ => rfl)
  have h7 : opsAt (F := F) (j + 6) (.kw (BinOp.token op)) = none := rfl
  rw [h7, if_neg]; have := prec_op_bounds op; omega

omit [NumOps F] in
theorem token_not_lparen (op : BinOp) : (Token.kw (F := F) (BinOp.token op)).isKw .LeftParen = false := by
  cases op with
  | cmp c => cases c <;> rfl
  | _ => rfl

omit [NumOps F] in
theorem opsAt_rparen (i : Nat) : opsAt (F := F) i (.kw .RightParen) = none := by
  rcases i with _ | _ | _ | _ | _ | _ | j <;> rfl

/-- what may follow an expression parsed by tier `j`: not `(`, and no operator of
    the tiers `1 … j` -/
def Ends (j : Nat) (rest : List (Token F)) : Prop :=
  ∀ t, rest.head? = some t → t.isKw .LeftParen = false ∧ ∀ i, i < j → opsAt i t = none

omit [NumOps F] in
theorem Ends.mono {i j : Nat} {rest : List (Token F)} (h : Ends j rest) (hij : i ≤ j) : Ends i rest :=
  fun t ht => ⟨(h t ht).1, fun i' hi' => (h t ht).2 i' (by omega)⟩

omit [NumOps F] in
theorem ends_rparen (j : Nat) (rest : List (Token F)) : Ends j (.kw .RightParen :: rest) := by
  intro t ht
  simp only [List.head?_cons, Option.some.injEq] at ht
  subst ht
  exact ⟨rfl, fun i _ => opsAt_rparen i⟩

omit [NumOps F] in
theorem ends_op (op : BinOp) (rest : List (Token F)) :
    Ends (6 - BinOp.prec op) (.kw (BinOp.token op) :: rest) := by
  intro t ht
  simp only [List.head?_cons, Option.some.injEq] at ht
  subst ht
  refine ⟨token_not_lparen op, fun i hi => ?_⟩
  rw [opsAt_token, if_neg]; omega

/-- agreement of a run with the spec's result: on a value, the run is the
    continuation `k` applied to it and to some larger read counter; on an error,
    the run fails with that error and leaves the nesting counter alone. -/
def Agrees {α : Type} (res : Res F α) (ev : Except Err (Value F)) (σ : St F)
    (k : Value F → Nat → Res F α) : Prop :=
  match ev with
  | .ok v => ∃ r, σ.reads < r ∧ res = k v r
  | .error x => ∃ σ', res = .err { err := x } σ' ∧ σ'.nesting = σ.nesting

theorem levelLoop_stop {sub : M F (Value F)} {k n : Nat} {v : Value F} {σ : St F}
    {pre rest : List (Token F)} (h : At σ pre rest) (hE : Ends (k + 1) rest) :
    levelLoop sub (opsAt k) (n + 1) v σ = .ok v (mv σ 0 (σ.reads + 1)) := by
  unfold levelLoop
  rw [bind_ok (tryNext_none h (fun t ht => (hE t ht).2 k (Nat.lt_succ_self k)))]
  rfl

theorem levelLoop_step {sub : M F (Value F)} {ops : Token F → Option BinOp} {n : Nat} {v : Value F} {σ : St F}
    {pre rest : List (Token F)} {t : Token F} {op : BinOp} (h : At σ pre (t :: rest)) (hop : ops t = some op) :
    levelLoop sub ops (n + 1) v σ =
      (sub >>= fun r => liftE (op.eval v r) >>= levelLoop sub ops n) (mv σ 1 (σ.reads + 1)) := by
  unfold levelLoop
  rw [bind_ok (tryNext_some h hop)]

omit [NumOps F] in
theorem lv_le_six (e : Expr F) : lv e ≤ 6 := by
  have := prec_bounds e; unfold lv; omega

/-- the recursive entry `ev.expr`: the loosest tier, one nesting level and one unit of fuel deeper -/
theorem expr_of_tier {f len : Nat} {σ : St F} {res : Except Err (Value F)}
    (hn : σ.nesting < Extracted.nestingLimit)
    (h : Agrees (tier (evalN f) 6 (nest σ (σ.nesting + 1))) res (nest σ (σ.nesting + 1))
      (fun v r => .ok v (mv (nest σ (σ.nesting + 1)) len r))) :
    Agrees ((evalN (f + 1)).expr σ) res σ (fun v r => .ok v (mv σ len r)) := by
  show Agrees (nested (tier (evalN f) 6) σ) _ _ _
  cases res with
  | error e =>
    obtain ⟨σ', hσ', hn'⟩ := h
    exact ⟨nest σ' σ.nesting, nested_err hn hσ' hn', rfl⟩
  | ok v =>
    obtain ⟨r, hr, hσ'⟩ := h
    exact ⟨r, hr, nested_ok hn hσ' rfl⟩

/-- an error at `unaryExpr`: every tier fails with it -/
theorem err_tiers (ev : Evals F) (σ σ' : St F) (e : TErr)
    (h : unaryExpr ev σ = .err e σ') : orExpr ev σ = .err e σ' := by
  have key : ∀ j, tier ev j σ = .err e σ' := by
    intro j
    induction j with
    | zero => exact h
    | succ j ih => simp only [tier, level]; rw [bind_err ih]
  have := key 6
  rw [tier_six] at this
  exact this

/-- … and so does `ev.expr`, with the nesting counter restored -/
theorem expr_err_of_unary (f : Nat) (σ σ' : St F) (e : TErr)
    (hn : σ.nesting < Extracted.nestingLimit) (hσ' : σ'.nesting = σ.nesting + 1)
    (h : unaryExpr (evalN f) (nest σ (σ.nesting + 1)) = .err e σ') :
    (evalN (f + 1)).expr σ = .err e (nest σ' σ.nesting) := by
  show nested (orExpr (evalN f)) σ = _
  exact nested_err hn (err_tiers _ _ _ _ h) hσ'

theorem parenExpr_num (ev : Evals F) {σ : St F} {pre rest : List (Token F)} {x : F}
    (hAt : At σ pre (.num x :: rest)) : parenExpr ev σ = .ok (.num x) (mv σ 1 (σ.reads + 1 + 1)) := by
  unfold parenExpr
  rw [bind_ok (accept_false hAt rfl)]
  simp only [Bool.false_eq_true, ↓reduceIte]
  unfold term
  rw [bind_ok (nextUnwrapped_eq (at_mv0 hAt _)), mv_mv]
  rfl

theorem term_var (ev : Evals F) {σ : St F} {pre rest : List (Token F)} {name : Str}
    (h : At σ pre (.symbol name :: rest)) (hnp : ∀ t, rest.head? = some t → t.isKw .LeftParen = false) :
    term ev σ = Hoare.varRef name (mv σ 1 (σ.reads + 2)) := by
  unfold term
  rw [bind_ok (nextUnwrapped_eq h)]
  simp only []
  rw [bind_ok (peekIsKw_false .LeftParen (at_mv1 h _) hnp), mv_mv]
  rfl

/-- the reference, whatever the stack: the innermost FN-frame binding, else the variable with the warning when
    warnings are on and it was never assigned -/
theorem varRef_eq (s : St F) (x : Str) :
    Hoare.varRef x s = .ok (match findInStack x s.stack with | some v => v | none => getVar s x)
      { s with out := if (s.warnings && (findInStack x s.stack).isNone && !alHas x s.vars) = true
                      then .warning ("Use of undeclared variable '".toList ++ x ++ "'.".toList) s.loc.line :: s.out
                      else s.out } := by
  unfold Hoare.varRef
  simp only [bind, M.bindM, M.get]
  cases findInStack x s.stack with
  | some v => simp only [Option.isNone_some, Bool.and_false, Bool.false_and, Bool.false_eq_true, ↓reduceIte]; rfl
  | none =>
    simp only [Option.isNone_none, Bool.and_true]
    by_cases hw : (s.warnings && !alHas x s.vars) = true
    · rw [if_pos hw, if_pos hw]
      simp only [M.bindM, Props.C17.warn_effect, (Bool.and_eq_true _ _ ▸ hw).1, ↓reduceIte]
      rfl
    · rw [if_neg hw, if_neg hw]; rfl

theorem getVar_mv (σ : St F) (n r : Nat) : getVar (mv σ n r) = getVar σ := rfl
theorem getVar_nest (σ : St F) (k : Nat) : getVar (nest σ k) = getVar σ := rfl

omit [NumOps F] in
theorem render_num (x : F) : render (.num x : Expr F) = [.num x] := render.eq_1 x
omit [NumOps F] in
theorem render_str (s : Str) : render (.str s : Expr F) = [.str s] := render.eq_2 s
omit [NumOps F] in
theorem render_var (n : Str) : render (.var n : Expr F) = [.symbol n] := render.eq_3 n

omit [NumOps F] in
theorem unop_ofToken (op : UnOp) : UnOp.ofToken (F := F) (.kw (UnOp.token op)) = some op := by
  cases op <;> rfl

omit [NumOps F] in
theorem lv_un (op : UnOp) (x : Expr F) : lv (.un op x) = 0 := rfl

end Abasic.ExprL
