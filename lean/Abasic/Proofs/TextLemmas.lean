import Abasic.Tokenizer
/-
  Byte counting: `len8` is additive, one-byte characters (ASCII blanks and digits) make it the
  length, and `dropBytes` undoes a prefix of known byte length.
-/
namespace Abasic

theorem len8_append (a b : Str) : len8 (a ++ b) = len8 a + len8 b := by
  induction a with
  | nil => simp [len8]
  | cons c cs ih => simp only [List.cons_append, len8, ih]; omega

theorem len8_eq_length (s : Str) (h : ∀ c ∈ s, c.utf8Size = 1) : len8 s = s.length := by
  induction s with
  | nil => rfl
  | cons c cs ih =>
    rw [len8, h c (List.mem_cons_self ..), ih (fun x hx => h x (List.mem_cons_of_mem _ hx)), List.length_cons]
    omega

theorem utf8Size_of_le {c : Char} (h : c.val ≤ 127) : c.utf8Size = 1 := by
  unfold Char.utf8Size
  have : c.val ≤ 0x7f := h
  simp [this]

theorem utf8Size_digit {c : Char} (h : isAsciiDigit c = true) : c.utf8Size = 1 := by
  apply utf8Size_of_le
  simp only [isAsciiDigit, Bool.and_eq_true, decide_eq_true_eq] at h
  have h2 : c.val ≤ '9'.val := h.2
  have : '9'.val = 57 := by decide
  rw [this] at h2
  exact Nat.le_trans (show c.val.toNat ≤ 57 from h2) (by decide)

theorem utf8Size_ws {c : Char} (h : isAsciiWs c = true) : c.utf8Size = 1 := by
  simp only [isAsciiWs, Bool.or_eq_true, beq_iff_eq] at h
  rcases h with (((h | h) | h) | h) | h <;> subst h <;> decide

theorem dropBytes_len8 (a x : Str) : dropBytes (len8 a) (a ++ x) = x := by
  induction a with
  | nil => cases x <;> simp [len8, dropBytes]
  | cons c cs ih =>
    have hpos : 0 < c.utf8Size := Char.utf8Size_pos c
    obtain ⟨n, hn⟩ : ∃ n, len8 (c :: cs) = n + 1 := ⟨len8 (c :: cs) - 1, by simp only [len8]; omega⟩
    rw [hn, List.cons_append, dropBytes]
    have : n + 1 - c.utf8Size = len8 cs := by simp only [len8] at hn; omega
    rw [this, ih]

end Abasic
