import Abasic.Proofs.Commute
import Abasic.Proofs.Host
/-
  `Commutes N.app` for the primitives, for every lawful field-wise normaliser `N`: first those that do not
  look at the immediate line (a normaliser may then do to it what it likes: Proofs/Transparency.lean lives
  on that), then the token cursor, END and STOP for a normaliser that leaves it alone (`Norm.KeepsImm`);
  hence (the walk of Proofs/Walk.lean at `Norm.walk N`) for every function of the evaluator;
  `SimBy N.app` for the host calls that edit the store or set a flag.
-/
set_option linter.unusedSectionVars false

namespace Abasic.Hoare
open Abasic M

variable {F : Type} [NumOps F] {N : Norm F} [N.Lawful]

@[walk] theorem commutes_advance : Commutes N.app (advance (F := F)) := by
  unfold advance
  commutes_tac

@[walk] theorem commutes_setVar (name : Str) (v : Value F) : Commutes N.app (setVar name v) := by
  unfold setVar
  commutes_tac

@[walk] theorem commutes_startLoop (sym : Str) (a b c : F) : Commutes N.app (startLoop sym a b c) := by
  unfold startLoop
  commutes_tac

@[walk] theorem commutes_endLoop (sym : Str) : Commutes N.app (endLoop (F := F) sym) := by
  unfold endLoop
  commutes_tac

@[walk] theorem commutes_gotoLine (n : Nat) : Commutes N.app (gotoLine (F := F) n) := by
  unfold gotoLine
  commutes_tac

@[walk] theorem commutes_gosubLine (n : Nat) : Commutes N.app (gosubLine (F := F) n) := by
  unfold gosubLine
  commutes_tac

@[walk] theorem commutes_returnFromGosub : Commutes N.app (returnFromGosub (F := F)) := by
  unfold returnFromGosub
  commutes_tac

@[walk] theorem commutes_defineFunction (name : Str) (args : List Str) : Commutes N.app (defineFunction (F := F) name args) := by
  unfold defineFunction
  commutes_tac

@[walk] theorem commutes_pushFunctionCall (name : Str) (b : List (Str × Value F)) : Commutes N.app (pushFunctionCall name b) := by
  unfold pushFunctionCall
  commutes_tac

@[walk] theorem commutes_popFunctionCall : Commutes N.app (popFunctionCall (F := F)) := by
  unfold popFunctionCall
  commutes_tac

@[walk] theorem commutes_nextDataElement : Commutes N.app (nextDataElement (F := F)) := by
  unfold nextDataElement
  commutes_tac

@[walk] theorem commutes_nextLine : Commutes N.app (nextLine (F := F)) := by
  unfold nextLine
  commutes_tac

@[walk] theorem commutes_enterNested : Commutes N.app (enterNested (F := F)) := by
  unfold enterNested
  commutes_tac

@[walk] theorem commutes_exitNested : Commutes N.app (exitNested (F := F)) := by
  unfold exitNested
  commutes_tac

@[walk] theorem commutes_nested {α : Type} {m : M F α} (hm : Commutes N.app m) : Commutes N.app (nested m) := by
  unfold nested
  commutes_tac

theorem Norm.out_cons (o : Out) (h : keepOut o = true) (l : List Out) : N.out (o :: l) = o :: N.out l :=
  Norm.Lawful.out_append [o] l (by simpa using h)

theorem commutes_emit (o : Out) (h : keepOut o = true) : Commutes N.app (emit (F := F) o) := by
  unfold emit
  refine commutes_modify fun σ => ?_
  show { N.app σ with out := o :: N.out σ.out } = N.app { σ with out := o :: σ.out }
  rw [← N.out_cons o h]; rfl

@[walk] theorem commutes_ensureArray (name : Str) (k : Nat) : Commutes N.app (ensureArray (F := F) name k) := by
  unfold ensureArray
  commutes_tac

@[walk] theorem commutes_arrayGet (name : Str) (idx : List Nat) : Commutes N.app (arrayGet (F := F) name idx) := by
  unfold arrayGet
  commutes_tac

@[walk] theorem commutes_arraySet (name : Str) (idx : List Nat) (v : Value F) : Commutes N.app (arraySet name idx v) := by
  unfold arraySet
  commutes_tac

@[walk] theorem commutes_arrayCreate (name : Str) (idx : List Nat) : Commutes N.app (arrayCreate (F := F) name idx) := by
  unfold arrayCreate
  commutes_tac

@[walk] theorem commutes_rnd (x : F) : Commutes N.app (rnd x) := by
  unfold rnd
  commutes_tac

omit [NumOps F] in
theorem warn_eq (msg : Str) (σ : St F) : warn msg σ =
    .ok () { σ with out := if σ.warnings then .warning msg σ.loc.line :: σ.out else σ.out } := by
  show (if σ.warnings = true then emit (.warning msg σ.loc.line) else pure ()) σ = _
  by_cases h : σ.warnings = true
  · rw [if_pos h, if_pos h]; rfl
  · rw [if_neg h, if_neg h]; rfl

omit [NumOps F] in
@[walk] theorem commutes_warn (msg : Str) : Commutes N.app (warn (F := F) msg) := by
  intro σ
  show warn msg (N.app σ) = (warn msg σ).mapSt N.app
  rw [warn_eq, warn_eq]
  show Res.ok () { N.app σ with out := if N.warnings σ.warnings then _ :: N.out σ.out else N.out σ.out } =
    Res.ok () { N.app σ with out := N.out (if σ.warnings then _ :: σ.out else σ.out) }
  rw [Norm.Lawful.warn_out]; rfl

omit [NumOps F] in
theorem warn_off (msg : Str) {σ : St F} (h : ¬ σ.warnings = true) : warn msg σ = .ok () σ := by
  rw [warn_eq, if_neg h]

/-- A guard that includes the warnings flag, around an action that does nothing more than
    the other branch when the flag is down, commutes although the two runs may take
    different branches. -/
theorem commAt_flag_guard {β : Type} (c : Bool) {t e : M F β} (ht : Commutes N.app t) (he : Commutes N.app e)
    (h : ∀ σ : St F, ¬ σ.warnings = true → t σ = e σ) (σ : St F) :
    CommAt N.app (if (N.warnings σ.warnings && c) = true then t else e)
      (if (σ.warnings && c) = true then t else e) σ := by
  have drop : ∀ σ : St F, (if (σ.warnings && c) = true then t else e) σ = (if c = true then t else e) σ := by
    intro σ
    cases c
    · rw [Bool.and_false]
    · rw [Bool.and_true]
      by_cases hw : σ.warnings = true
      · rw [if_pos hw]; rfl
      · rw [if_neg hw]; exact (h σ hw).symm
  show (if ((N.app σ).warnings && c) = true then t else e) (N.app σ) = Res.mapSt N.app _
  rw [drop, drop]
  cases c
  · exact he σ
  · exact ht σ

theorem commAt_warn_guard (c : Bool) (msg : Str) (σ : St F) :
    CommAt N.app (if (N.warnings σ.warnings && c) = true then warn msg else pure ())
      (if (σ.warnings && c) = true then warn msg else pure ()) σ :=
  commAt_flag_guard c (commutes_warn msg) (commutes_pure _) (fun _ h => warn_off msg h) σ

theorem commAt_warn_guard_bind {β : Type} (c : Bool) (msg : Str) {k : M F β} (hk : Commutes N.app k) (σ : St F) :
    CommAt N.app (if (N.warnings σ.warnings && c) = true then warn msg >>= fun _ => k else k)
      (if (σ.warnings && c) = true then warn msg >>= fun _ => k else k) σ := by
  refine commAt_flag_guard c (commutes_bind (commutes_warn msg) fun _ => hk) hk (fun σ h => ?_) σ
  show M.bindM (warn msg) (fun _ => k) σ = k σ
  unfold M.bindM
  rw [warn_off msg h]

@[walk] theorem commutes_warnUndeclaredArray (name : Str) : Commutes N.app (warnUndeclaredArray (F := F) name) :=
  commutes_get_bind fun σ => commAt_warn_guard _ _ σ

theorem traceHere_eq (σ : St F) : traceHere σ = .ok () { σ with out :=
    match σ.loc.line with
    | some n => if σ.tracing then .trace n :: σ.out else σ.out
    | none => σ.out } := by
  show (if σ.tracing = true then (match σ.loc.line with | some n => emit (.trace n) | none => pure ()) else pure ()) σ = _
  cases σ.loc.line <;> by_cases h : σ.tracing = true
  · rw [if_pos h]; rfl
  · rw [if_neg h]; rfl
  · dsimp only; rw [if_pos h, if_pos h]; rfl
  · dsimp only; rw [if_neg h, if_neg h]; rfl

@[walk] theorem commutes_traceHere : Commutes N.app (traceHere (F := F)) := by
  intro σ
  show traceHere (N.app σ) = (traceHere σ).mapSt N.app
  rw [traceHere_eq, traceHere_eq]
  show Res.ok () { N.app σ with out := match σ.loc.line with
      | some n => if N.tracing σ.tracing then _ :: N.out σ.out else N.out σ.out
      | none => N.out σ.out } =
    Res.ok () { N.app σ with out := N.out (match σ.loc.line with
      | some n => if σ.tracing then _ :: σ.out else σ.out
      | none => σ.out) }
  cases σ.loc.line
  · rfl
  · dsimp only; rw [Norm.Lawful.trace_out]

@[walk] theorem commutes_takeInput : Commutes N.app (takeInput (F := F)) := by
  unfold takeInput
  commutes_tac

theorem commutes_endOfLine : Commutes N.app (M.get >>= fun s : St F =>
    (M.throw { err := .syntax .unexpectedEnd, loc := some s.loc } : M F (Token F))) :=
  commutes_get_bind fun _ => commAt_throw _

theorem commutes_fnDef (name : Str) : Commutes N.app (fnDef (F := F) name) := by
  unfold fnDef
  commutes_tac

theorem commutes_varRef (sym : Str) : Commutes N.app (varRef (F := F) sym) := by
  unfold varRef
  commutes_tac
  exact commAt_warn_guard_bind _ _ (commutes_pure _) _

theorem commutes_callBody (ev : Evals F) (name : Str) (b : List (Str × Value F)) (he : Commutes N.app ev.expr) :
    Commutes N.app (Proofs.XF.callBody ev name b) := by
  unfold Proofs.XF.callBody
  commutes_tac

@[walk] theorem commutes_returnToIdle : Commutes N.app (returnToIdle (F := F)) := by
  unfold returnToIdle
  commutes_tac

theorem commutes_provideInput (text : Str) : Commutes N.app (provideInput (F := F) text) := by
  unfold provideInput
  commutes_tac

theorem commutes_randomize (seed : Nat) : Commutes N.app (randomize (F := F) seed) := by
  unfold randomize
  commutes_tac

variable [N.KeepsImm]

theorem commutes_tokensForLine (l : Option Nat) : Commutes N.app (tokensForLine (F := F) l) := by
  intro σ
  cases l with
  | none =>
    show Res.ok (N.imm σ.imm) (N.app σ) = Res.ok σ.imm (N.app σ)
    rw [Norm.KeepsImm.imm]
  | some n =>
    show tokensForLine (some n) (N.app σ) = (tokensForLine (some n) σ).mapSt N.app
    simp only [tokensForLine, app_lines, Norm.Lawful.get]
    cases σ.lines.get n <;> rfl

@[walk] theorem commutes_tokens : Commutes N.app (tokens (F := F)) := by
  intro σ
  exact commutes_tokensForLine σ.loc.line σ

@[walk] theorem commutes_peek : Commutes N.app (peek (F := F)) := by
  unfold peek
  refine commutes_bind (commutes_modify fun σ => ?_) ?_
  · show { N.app σ with reads := N.reads σ.reads + 1 } = N.app { σ with reads := σ.reads + 1 }
    rw [← Norm.Lawful.reads_add]; rfl
  · commutes_tac

@[walk] theorem commutes_discardRemaining : Commutes N.app (discardRemaining (F := F)) := by
  unfold discardRemaining
  commutes_tac

@[walk] theorem commutes_rewindBeforeInput : Commutes N.app (rewindBeforeInput (F := F)) := by
  unfold rewindBeforeInput
  refine commutes_bind commutes_tokens fun ts => commutes_get_bind fun σ => ?_
  dsimp only [app_loc, app_reads]
  split
  · refine commAt_set ?_
    rw [← Norm.Lawful.reads_add]; rfl
  · exact commAt_rpanic _

@[walk] theorem commutes_setImmediate (ts : List (Token F)) : Commutes N.app (setImmediate ts) := by
  unfold setImmediate
  refine commutes_modify fun σ => ?_
  simp only [St.setImmediate, Norm.app, Norm.KeepsImm.imm]

@[walk] theorem commutes_continueFromBreakpoint : Commutes N.app (continueFromBreakpoint (F := F)) := by
  unfold continueFromBreakpoint
  commutes_tac

@[walk] theorem commutes_rewindAndAwaitInput : Commutes N.app (rewindAndAwaitInput (F := F)) := by
  unfold rewindAndAwaitInput
  commutes_tac

theorem commutes_breakAtCurrentLocation : Commutes N.app (breakAtCurrentLocation (F := F)) := by
  unfold breakAtCurrentLocation
  refine commutes_modify fun σ => ?_
  show St.progBreak { N.app σ with state := .idle, out := .brk σ.loc.line :: N.out σ.out } = _
  rw [← N.out_cons _ rfl]
  simp only [St.progBreak, St.setImmediate, Norm.app, Norm.KeepsImm.imm]

variable (N) in
def Norm.cursor : CursorWalk F where
  toRules := Rules.ofMap N.app
  tokens := commutes_tokens
  peek := commutes_peek
  advance := commutes_advance
  endOfLine := commutes_endOfLine

variable (N) in
def Norm.walk : Walk F where
  toCursorWalk := Norm.cursor N
  nested := commutes_nested
  warnUndeclaredArray := commutes_warnUndeclaredArray
  arrayGet := commutes_arrayGet
  rnd := commutes_rnd
  fnDef := commutes_fnDef
  varRef := commutes_varRef
  call ev name d he := walk_callArgs (Norm.cursor N) ev he (fun b => commutes_callBody ev name b he) d
  discardRemaining := commutes_discardRemaining
  setVar := commutes_setVar
  arraySet := commutes_arraySet
  arrayCreate := commutes_arrayCreate
  gotoLine := commutes_gotoLine
  gosubLine := commutes_gosubLine
  returnFromGosub := commutes_returnFromGosub
  setImmediate := commutes_setImmediate
  startLoop := commutes_startLoop
  endLoop := commutes_endLoop
  defineFunction := commutes_defineFunction
  nextDataElement := commutes_nextDataElement
  restoreData := commutes_modify fun _ => rfl
  takeInput := commutes_takeInput
  rewindAndAwaitInput := commutes_rewindAndAwaitInput
  emit := commutes_emit
  breakAtCurrentLocation := commutes_breakAtCurrentLocation
  traceHere := commutes_traceHere
  setRunning := commutes_modify fun _ => rfl
  nextLine := commutes_nextLine
  returnToIdle := commutes_returnToIdle

theorem commutes_hasNext : Commutes N.app (hasNext (F := F)) := walk_hasNext (Norm.cursor N)

theorem commutes_peekIsKw (k : Kw) : Commutes N.app (peekIsKw (F := F) k) := walk_peekIsKw (Norm.cursor N) k

theorem commutes_dispatch (ev : Evals F) (he : Commutes N.app ev.expr) (hs : Commutes N.app ev.stmt) :
    Commutes N.app (dispatch ev) :=
  walk_dispatch (Norm.walk N) ev he hs

theorem commutes_evalN (n : Nat) :
    Commutes N.app (evalN (F := F) n).expr ∧ Commutes N.app (evalN (F := F) n).stmt :=
  walk_evalN (Norm.walk N) n

theorem commutes_runNextStatement (fuel : Nat) : Commutes N.app (runNextStatement (F := F) fuel) :=
  walk_runNextStatement (Norm.walk N) fuel

theorem commutes_postprocess {α : Type} {m : M F α} (hm : Commutes N.app m) : Commutes N.app (postprocess m) := by
  intro σ
  show postprocess m (N.app σ) = (postprocess m σ).mapSt N.app
  unfold postprocess
  have hm' : m (N.app σ) = (m σ).mapSt N.app := hm σ
  rw [hm']
  cases m σ <;> rfl

theorem commutes_continueEvaluating (fuel : Nat) : Commutes N.app (continueEvaluating (F := F) fuel) := by
  unfold continueEvaluating
  have := commutes_postprocess (commutes_runNextStatement (N := N) fuel)
  commutes_tac

/-- `postprocess` reads and writes only what every `N.app` keeps -/
theorem simBy_postprocess {α : Type} {m : M F α} (hm : SimBy N.app m) : SimBy N.app (postprocess m) := by
  intro σ₁ σ₂ he
  have h := hm σ₁ σ₂ he
  unfold postprocess
  cases h₁ : m σ₁ <;> cases h₂ : m σ₂ <;> rw [h₁, h₂] at h <;> dsimp only
  · exact h
  · cases h
  · cases h
  · rename_i e s e' t
    injection h with he' hs
    subst he'
    show Res.err ((N.app s).populate e) { N.app s with state := .idle } =
      Res.err ((N.app t).populate e) { N.app t with state := .idle }
    rw [hs]

theorem app_state_eq {σ₁ σ₂ : St F} (h : N.app σ₁ = N.app σ₂) : σ₁.state = σ₂.state :=
  show (N.app σ₁).state = (N.app σ₂).state from congrArg St.state h

theorem app_setNumberedLine_congr {σ₁ σ₂ : St F} (h : N.app σ₁ = N.app σ₂) (n : Nat) (ts : List (Token F)) :
    N.app (σ₁.setNumberedLine n ts) = N.app (σ₂.setNumberedLine n ts) := by
  have hs := Norm.Lawful.set_congr (N := N) _ _ (show (N.app σ₁).lines = (N.app σ₂).lines from congrArg St.lines h) n ts
  have e : ∀ σ : St F, N.app (σ.setNumberedLine n ts) =
      ({ N.app σ with lines := N.lines (σ.lines.set n ts), bp := none, data := none, fns := [], stack := [], loops := [] } : St F).setImmediate [] :=
    fun _ => by simp only [St.setNumberedLine, St.setImmediate, Norm.app, Norm.KeepsImm.imm]
  rw [e σ₁, e σ₂, h, hs]

variable (N) in
/-- the entry points of the host API (the walk of Proofs/Host.lean): TRACE / NOTRACE set a flag that `N`
    may hide, so they are only `SimBy`; everything else is `Commutes` -/
def Norm.hostWalk (fuel : Nat) : HostWalk F fuel where
  P m := SimBy N.app m
  pure := simBy_pure
  bind := simBy_bind
  turn := (commutes_runNextStatement fuel).simBy
  continueFromBreakpoint := commutes_continueFromBreakpoint.simBy
  emitOpaque := (commutes_emit _ rfl).simBy
  resetForRun := by
    refine (commutes_modify fun σ => ?_).simBy
    show St.runFromFirst _ = N.app (St.runFromFirst _)
    unfold St.runFromFirst
    dsimp only
    show (match (N.lines σ.lines).first with | some n => _ | none => _) = N.app (match σ.lines.first with | some n => _ | none => _)
    rw [Norm.Lawful.first]
    cases σ.lines.first <;> simp only [St.resetRuntime, St.setImmediate, Norm.app, Norm.KeepsImm.imm]
  list := by
    refine (commutes_get_bind fun σ => ?_).simBy
    dsimp only [app_lines]
    rw [Norm.Lawful.list]
    cases σ.lines.list with
    | none => exact commAt_rpanic _
    | some ls =>
      refine commAt_set ?_
      show { N.app σ with out := (ls.map Out.print).reverse ++ N.out σ.out } = _
      rw [← Norm.Lawful.out_append _ σ.out (by
        intro o ho
        simp only [List.mem_reverse, List.mem_map] at ho
        obtain ⟨x, _, rfl⟩ := ho
        rfl)]
      rfl
  newRequested := Commutes.simBy (g := N.app) (commutes_modify (f := fun s : St F => { s with state := .newRequested }) fun _ => rfl)
  setTracing b := simBy_modify fun _ _ h => congrArg (fun s : St F => { s with tracing := N.tracing b }) h
  fail := simBy_fail
  inState st msg _ hm := simBy_get_ite (fun σ₁ σ₂ h => by rw [app_state_eq h]) (simBy_rpanic _) hm
  postprocess := simBy_postprocess
  setImmediate ts := (commutes_setImmediate ts).simBy
  setNumberedLine n ts := simBy_modify fun _ _ h => app_setNumberedLine_congr h n ts
  provideInput text := (commutes_provideInput text).simBy

end Abasic.Hoare
