import Abasic.Proofs.Hoare
/-
  `RNS`: nesting counter and GOSUB/function stack unchanged, the FOR-loop stack within its cap.
  `Prims R` is the class of frames that contain `RNS` and are respected by the operations that do
  change the nesting counter or the stack; `HostPrims R` adds the two resets of the host API.
  Every state update of the evaluator that touches neither is an `RNS` step, so such a frame is a
  `TopFrame` (the instance: Proofs/Lift.lean) and is respected by the whole evaluator.
-/
namespace Abasic.Hoare
open Abasic M

variable {F : Type}

def RNS (σ σ' : St F) : Prop :=
  σ'.nesting = σ.nesting ∧ σ'.stack = σ.stack ∧
  (σ.loops.length ≤ Extracted.stackLimit → σ'.loops.length ≤ Extracted.stackLimit)

theorem rns_same {σ σ' : St F} (h1 : σ'.nesting = σ.nesting) (h2 : σ'.stack = σ.stack)
    (h3 : σ'.loops = σ.loops) : RNS σ σ' :=
  ⟨h1, h2, fun h => by rw [h3]; exact h⟩

instance : IsFrame (RNS (F := F)) where
  refl _ := rns_same rfl rfl rfl
  trans h1 h2 := ⟨h2.1.trans h1.1, h2.2.1.trans h1.2.1, fun h => h2.2.2 (h1.2.2 h)⟩

macro_rules | `(tactic| respects_leaf) => `(tactic| exact rns_same rfl rfl rfl)

theorem _root_.Abasic.St.populate_err (s : St F) (e : TErr) : (s.populate e).err = e.err := by
  unfold St.populate
  split
  · rfl
  · split <;> rfl

theorem _root_.Abasic.St.populate_located (s : St F) (e : TErr) (h : e.loc.isSome = true) : s.populate e = e := by
  unfold St.populate
  rw [if_pos h]

/-- DATA TYPE MISMATCH is excepted: it is located by the DATA cursor -/
theorem _root_.Abasic.St.populate_fresh (s : St F) (e : TErr) (h : e.loc = none) (hnd : e.err ≠ .dataTypeMismatch) :
    s.populate e = { err := e.err, loc := some { line := s.loc.line, idx := s.loc.idx - 1 } } := by
  obtain ⟨err, loc⟩ := e
  subst h
  cases err <;> first | rfl | exact absurd rfl hnd

theorem rns_restoreData : Respects RNS (M.modify fun s : St F => { s with data := none }) :=
  respects_modify fun _ => rns_same rfl rfl rfl

theorem rns_ensureArray [NumOps F] (name : Str) (k : Nat) : Respects RNS (ensureArray (F := F) name k) := by
  unfold ensureArray
  respects_tac

theorem rns_arraySet [NumOps F] (name : Str) (idx : List Nat) (v : Value F) : Respects RNS (arraySet name idx v) := by
  unfold arraySet
  have := rns_ensureArray (F := F)
  respects_tac

theorem rns_randomize (seed : Nat) : Respects RNS (randomize (F := F) seed) := by
  unfold randomize
  respects_tac

class Prims (R : St F → St F → Prop) : Prop extends IsFrame R where
  sub : ∀ {σ σ'}, RNS σ σ' → R σ σ'
  nested : ∀ {α : Type} {m : M F α}, Respects R m → Respects R (Abasic.nested m)
  setImmediate : ∀ ts, Respects R (Abasic.setImmediate ts)
  gosubLine : ∀ n, Respects R (Abasic.gosubLine n)
  returnFromGosub : Respects R Abasic.returnFromGosub
  pushFunctionCall : ∀ name b, Respects R (Abasic.pushFunctionCall name b)
  popFunctionCall : Respects R Abasic.popFunctionCall
  progBreak : ∀ σ : St F, R σ σ.progBreak

class HostPrims (R : St F → St F → Prop) : Prop extends Prims R where
  runFromFirst : ∀ σ : St F, R σ σ.runFromFirst
  setNumberedLine : ∀ (σ : St F) n ts, R σ (σ.setNumberedLine n ts)

end Abasic.Hoare
