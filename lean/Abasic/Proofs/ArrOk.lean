import Abasic.Props.C16
/-
  C16 — the store invariant `StoreOk`, as a predicate on states.

  `ArrOk a name`  : the array `a` stored under `name` has `∏ dims` cells, at
                    most `maxDimTotalElements`, every dimension ≥ 1, and the
                    kind (string / number) the `$` suffix of `name` demands.
  `StoreOk σ`     : every array of `σ` is `ArrOk`, array names are distinct,
                    every scalar variable and every binding of every FN frame
                    on the stack has the kind its name demands (and the keys
                    of those association lists are distinct, too).

  `StoreOk` is three association lists — arrays, variables, the bindings of each
  FN frame — each with distinct keys and a property of every binding
  (`Keyed P l`, kept by `alSet`): an update of the store rebuilds the invariant
  from its parts (`StoreOk.of_parts`) and touches one of them.

  Its lifting through the evaluator is Proofs/StoreInv.lean.
-/

namespace Abasic.Props.C16
open Abasic

variable {F : Type}

def cellValues : ArrayV F → List (Value F)
  | .strs _ c => c.map Value.str
  | .nums _ c => c.map Value.num

structure ArrOk (a : ArrayV F) (name : Str) : Prop where
  cells_len : a.cellCount = prod a.dims
  cap : prod a.dims ≤ Extracted.maxDimTotalElements
  /-- at least one dimension (`DIM A()` is BAD SUBSCRIPT) -/
  dims_ne : a.dims ≠ []
  /-- every dimension has at least one slot (`DIM A(n)` has `n + 1`) -/
  dims_pos : ∀ d ∈ a.dims, 1 ≤ d
  kind : isStr a = endsWithDollar name
  cells_typed : ∀ v ∈ cellValues a, v.matchesName name = true

theorem cells_typed_of_kind (a : ArrayV F) (name : Str) (h : isStr a = endsWithDollar name) :
    ∀ v ∈ cellValues a, v.matchesName name = true := by
  intro v hv
  cases a with
  | strs d c =>
    simp only [cellValues, List.mem_map] at hv
    obtain ⟨x, _, rfl⟩ := hv
    simp only [isStr] at h
    simp only [Value.matchesName, ← h]
  | nums d c =>
    simp only [cellValues, List.mem_map] at hv
    obtain ⟨x, _, rfl⟩ := hv
    simp only [isStr] at h
    simp only [Value.matchesName, ← h, Bool.not_false]

/-- the last field follows from the kind -/
theorem ArrOk.mk' {a : ArrayV F} {name : Str} (h1 : a.cellCount = prod a.dims)
    (h2 : prod a.dims ≤ Extracted.maxDimTotalElements) (h3 : a.dims ≠ []) (h4 : ∀ d ∈ a.dims, 1 ≤ d)
    (h5 : isStr a = endsWithDollar name) : ArrOk a name :=
  ⟨h1, h2, h3, h4, h5, cells_typed_of_kind a name h5⟩

section create
variable [NumOps F]

theorem create_dims (name : Str) (idx : List Nat) (a : ArrayV F) (h : ArrayV.create name idx = .ok a) :
    a.dims = idx.map (· + 1) ∧ idx ≠ [] := by
  obtain ⟨hne, total, _, _, rfl⟩ := ArrayL.create_ok h
  exact ⟨by split <;> rfl, hne⟩

/-- DIM / implicit creation yields a well-formed array. -/
theorem create_arrOk (name : Str) (idx : List Nat) (a : ArrayV F) (h : ArrayV.create name idx = .ok a) :
    ArrOk a name := by
  obtain ⟨h1, h2, h3⟩ := create_spec name idx a h
  obtain ⟨hd, hne⟩ := create_dims name idx a h
  refine ArrOk.mk' h1 (by rw [← h1]; exact h2) ?_ ?_ h3
  · rw [hd]
    intro hnil
    cases idx with
    | nil => exact hne rfl
    | cons x xs => simp at hnil
  · rw [hd]
    intro d hd'
    obtain ⟨m, _, rfl⟩ := List.mem_map.mp hd'
    omega

end create

theorem ArrOk.of_shape {a a' : ArrayV F} {name : Str} (h : ArrOk a name) (hd : a'.dims = a.dims)
    (hc : a'.cellCount = a.cellCount) (hk : isStr a' = isStr a) : ArrOk a' name :=
  .mk' (by rw [hc, hd]; exact h.cells_len) (hd ▸ h.cap) (hd ▸ h.dims_ne) (hd ▸ h.dims_pos) (hk ▸ h.kind)

def Typed (l : List (Str × Value F)) : Prop := ∀ name v, (name, v) ∈ l → v.matchesName name = true

structure StoreOk (σ : St F) : Prop where
  arrays_ok : ∀ name a, (name, a) ∈ σ.arrays → ArrOk a name
  arrays_nodup : (σ.arrays.map Prod.fst).Nodup
  vars_typed : Typed σ.vars
  vars_nodup : (σ.vars.map Prod.fst).Nodup
  frames_typed : ∀ f ∈ σ.stack, Typed f.vars
  frames_nodup : ∀ f ∈ σ.stack, (f.vars.map Prod.fst).Nodup

def Keyed {β : Type} (P : Str → β → Prop) (l : List (Str × β)) : Prop :=
  (∀ n v, (n, v) ∈ l → P n v) ∧ (l.map Prod.fst).Nodup

theorem Keyed.nil {β : Type} {P : Str → β → Prop} : Keyed P [] :=
  ⟨fun _ _ h => (nomatch h), List.nodup_nil⟩

theorem Keyed.alSet {β : Type} {P : Str → β → Prop} {l : List (Str × β)} {k : Str} {v : β} (h : Keyed P l)
    (hk : P k v) : Keyed P (alSet k v l) :=
  ⟨fun n w hw => (mem_alSet hw).elim (fun e => by cases e; exact hk) (h.1 n w), nodup_alSet k v l h.2⟩

abbrev Kind (n : Str) (v : Value F) : Prop := v.matchesName n = true

theorem StoreOk.arrays {σ : St F} (h : StoreOk σ) : Keyed (fun n a => ArrOk a n) σ.arrays := ⟨h.arrays_ok, h.arrays_nodup⟩

theorem StoreOk.vars {σ : St F} (h : StoreOk σ) : Keyed Kind σ.vars := ⟨h.vars_typed, h.vars_nodup⟩

theorem StoreOk.frames {σ : St F} (h : StoreOk σ) : ∀ f ∈ σ.stack, Keyed Kind f.vars :=
  fun f hf => ⟨h.frames_typed f hf, h.frames_nodup f hf⟩

theorem StoreOk.of_parts {σ : St F} (a : Keyed (fun n a => ArrOk a n) σ.arrays) (v : Keyed Kind σ.vars)
    (s : ∀ f ∈ σ.stack, Keyed Kind f.vars) : StoreOk σ :=
  ⟨a.1, a.2, v.1, v.2, fun f hf => (s f hf).1, fun f hf => (s f hf).2⟩

theorem storeOk_init : StoreOk ({} : St F) := .of_parts .nil .nil fun _ h => nomatch h

theorem StoreOk.transfer {σ σ' : St F} (h : StoreOk σ) (ha : σ'.arrays = σ.arrays)
    (hv : σ'.vars = σ.vars) (hs : ∀ f ∈ σ'.stack, f ∈ σ.stack) : StoreOk σ' :=
  .of_parts (ha ▸ h.arrays) (hv ▸ h.vars) fun f hf => h.frames f (hs f hf)

end Abasic.Props.C16
