import Abasic.Proofs.Budget
import Abasic.Proofs.Prims
import Abasic.Props.C01
import Abasic.Proofs.Walk
/-
  The interpreter's evaluator under the `wp`/`Sat` framework of
  Abasic/Proofs/Budget.lean.

  `EvOK d ev`: the assumption on the two recursive entry points —
  `ev.expr` keeps the frame, consumes a token, and (for nesting ≥ d - 1) does
  not run out of fuel; `ev.stmt` does not run out of fuel for nesting ≥ d.
  Under it every loop with a budget above `rem σ` is independent of the budget
  and never exhausts it (`…_wp2`), every function of Expr.lean keeps the frame
  and every statement keeps the nesting counter, without `outOfFuel`.
  `evOK_evalN`: the assumption holds of `evalN n`.  Last, the host API of Interp.lean
  (`sat_runNextStatement` … `sat_continueEvaluating`).
-/
set_option linter.unusedSectionVars false

namespace Abasic.Budget
open Abasic M

variable {F : Type} [NumOps F]

structure EvOK (d : Nat) (ev : Evals F) : Prop where
  expr : SatS (NF d) ev.expr
  stmt : Sat (NF (d + 1)) SN ev.stmt

@[sat] theorem EvOK.exprSat {d : Nat} {ev : Evals F} (h : EvOK d ev) : Sat (NF d) Fr ev.expr := h.expr.sat

theorem binop_err (op : BinOp) (l r : Value F) (e : Err) (h : op.eval l r = .error e) : e ≠ .outOfFuel := by
  rcases ArrayL.binop_err h with rfl | rfl <;> (intro h; cases h)

theorem unop_err (op : UnOp) (v : Value F) (e : Err) (h : op.eval v = .error e) : e ≠ .outOfFuel := by
  rw [ArrayL.unop_err h]; intro h; cases h

theorem coerce_err (name : Str) (x : DataElement F) (e : Err)
    (h : Value.coerceFromData name x = .error e) : e ≠ .outOfFuel := by
  rw [ArrayL.coerce_err h]; intro h; cases h

macro_rules | `(tactic| w_err) => `(tactic| exact coerce_err _ _ _ (by assumption))

section expr
variable {d : Nat} {ev : Evals F}

theorem arrayIndexLoop_wp2 (hev : EvOK d ev) : ∀ (n1 n2 : Nat) (acc : List Nat) (σ : St F),
    rem σ < n1 → rem σ < n2 →
    wp2 (NF d) (arrayIndexLoop ev n1 acc) (arrayIndexLoop ev n2 acc) (fun _ σ' => Fr σ σ') σ := by
  refine fuel_wp2 fun n1 n2 acc σ rec => ?_
  unfold arrayIndexLoop
  refine wp2_bind (R := Fr) (hev.expr σ) ?_
  intro v σ1 hs1
  refine ⟨hs1.1, ?_⟩
  cases v with
  | str s => exact wp2_refl (wp_fail (R := Fr) (by intro h; cases h))
  | num x =>
    dsimp only
    split
    · exact wp2_refl (wp_fail (R := Fr) (by intro h; cases h))
    · refine wp2_bind (R := Fr) (wp_accept _ σ1) ?_
      rintro b σ2 ⟨hf2, hlt2⟩
      refine ⟨hf2, ?_⟩
      cases b with
      | false =>
        simp only [Bool.false_eq_true, if_false]
        exact wp2_refl (wp_pure (hs1.1.trans hf2))
      | true =>
        simp only [if_true]
        have hlt := hlt2 rfl
        have := hs1.2
        exact rec _ σ2 (hs1.1.trans hf2) (by omega)

theorem satS_arrayIndex (hev : EvOK d ev) : SatS (NF d) (arrayIndex ev) := by
  intro σ
  unfold arrayIndex
  refine wp_bind (R := Fr) (wp_expect _ σ) ?_
  intro _ σ1 h1
  refine ⟨h1.1, ?_⟩
  refine wp_lineBudget_bind fun b hb => ?_
  refine wp_bind (R := Fr) (arrayIndexLoop_wp2 hev b b [] σ1 hb hb).2 ?_
  intro idx σ3 h3
  refine ⟨h3, ?_⟩
  refine wp_bind_sat (R := Fr) (sat_expect _) ?_
  intro _ σ4 h4
  exact wp_pure (h1.trans_fr (h3.trans h4))

@[sat] theorem sat_arrayIndex (hev : EvOK d ev) : Sat (NF d) Fr (arrayIndex ev) := (satS_arrayIndex hev).sat

@[sat] theorem sat_numberFunctionArg (hev : EvOK d ev) : Sat (NF d) Fr (numberFunctionArg ev) := by
  unfold numberFunctionArg; sat_start; w_auto

@[sat] theorem sat_bindArgs (hev : EvOK d ev) (arity : Nat) (args : List Str) :
    ∀ (i : Nat) (acc : List (Str × Value F)), Sat (NF d) Fr (bindArgs ev arity args i acc) := by
  induction args with
  | nil => intro i acc; unfold bindArgs; sat_start; w_auto
  | cons a rest ih => intro i acc; unfold bindArgs; sat_start; w_auto

/-- the call proper: the body keeps the stack, so the frame popped is the one pushed and the cursor is back -/
theorem wp_callBody (hev : EvOK d ev) (name : Str) (b : List (Str × Value F)) (σ : St F) :
    wp (NF d) (Proofs.XF.callBody ev name b) (fun _ σ' => Fr σ σ') σ := by
  unfold wp
  rw [Proofs.XF.callBody_eq]
  by_cases hcap : (σ.stack.length == Extracted.stackLimit) = true
  · rw [if_pos hcap]
    exact fun _ _ => by intro h; cases h
  · rw [if_neg hcap]
    cases alGet name σ.fns with
    | none => exact fun _ _ => by intro h; cases h
    | some fd =>
      dsimp only
      have hx := hev.expr { σ with stack := { ret := σ.loc, vars := b } :: σ.stack,
                                   loc := { line := some fd.line, idx := fd.idx } }
      cases hr : ev.expr { σ with stack := { ret := σ.loc, vars := b } :: σ.stack,
                                  loc := { line := some fd.line, idx := fd.idx } } with
      | ok v σ5 =>
        have hfr := (wp_ok hx hr).1
        have hst : σ5.stack = { ret := σ.loc, vars := b } :: σ.stack := hfr.stack
        simp only [hst]
        exact ⟨rfl, hfr.lines, hfr.imm, Nat.le_refl _, rfl, hfr.nesting⟩
      | err e σ5 =>
        have hnf := wp_err hx hr
        dsimp only
        cases σ5.stack with
        | nil => exact fun _ _ => by intro h; cases h
        | cons f rest =>
          intro h1 h2
          rw [St.populate_err]
          exact hnf h1 h2

@[sat] theorem sat_userFunctionCall (hev : EvOK d ev) (name : Str) : Sat (NF d) Fr (userFunctionCall ev name) := by
  rw [Proofs.XF.userFunctionCall_eq]
  sat_start
  refine W.run_bind rfl id ?_
  split
  · exact W.pure
  · refine W.bind (sat_expect _) fun _ _ => ?_
    refine W.bind (sat_bindArgs hev _ _ _ _) fun b _ => ?_
    refine W.bind (sat_expect _) fun _ σ3 => ?_
    exact W.of_wp (wp_callBody hev name b σ3)

@[sat] theorem sat_functionCall (hev : EvOK d ev) (name : Str) : Sat (NF d) Fr (functionCall ev name) := by
  unfold functionCall; sat_start; w_auto

theorem satS_term (hev : EvOK d ev) : SatS (NF d) (term ev) := by
  unfold term
  refine SatS.bind_left (fun σ => wp_nextUnwrapped σ) fun t => ?_
  sat_start; w_auto

theorem satS_parenExpr (hev : EvOK d ev) : SatS (NF d) (parenExpr ev) := by
  unfold parenExpr
  refine SatS.bind_right (sat_accept _) fun b => ?_
  split
  · refine SatS.bind_left hev.expr fun v => ?_
    sat_start; w_auto
  · exact satS_term hev

theorem satS_unaryExpr (hev : EvOK d ev) : SatS (NF d) (unaryExpr ev) := by
  unfold unaryExpr
  refine SatS.bind_right (sat_tryNext _) fun op => ?_
  refine SatS.bind_left (satS_parenExpr hev) fun v => ?_
  cases op with
  | none => exact Sat.pure v
  | some o => exact sat_liftE _ (unop_err o v)

end expr

section level
variable {E : EPost F} [Compat E Fr]

theorem levelLoop_wp2 {sub : M F (Value F)} (hsub : Sat E Fr sub) (ops : Token F → Option BinOp) :
    ∀ (n1 n2 : Nat) (v : Value F) (σ : St F), rem σ < n1 → rem σ < n2 →
    wp2 E (levelLoop sub ops n1 v) (levelLoop sub ops n2 v) (fun _ σ' => Fr σ σ') σ := by
  refine fuel_wp2 fun n1 n2 v σ rec => ?_
  unfold levelLoop
  refine wp2_bind (R := Fr) (wp_tryNext ops σ) ?_
  rintro o σ1 ⟨hf1, hlt1⟩
  refine ⟨hf1, ?_⟩
  cases o with
  | none => exact wp2_refl (wp_pure hf1)
  | some op =>
    dsimp only
    have hlt := hlt1 (by intro h; cases h)
    refine wp2_bind (R := Fr) (hsub σ1) ?_
    intro r σ2 hf2
    refine ⟨hf2, ?_⟩
    refine wp2_bind (R := Fr) (sat_liftE (R := Fr) _ (binop_err op v r) σ2) ?_
    intro v' σ3 hf3
    refine ⟨hf3, ?_⟩
    have := hf2.rem_le
    have := hf3.rem_le
    exact rec v' σ3 (hf1.trans (hf2.trans hf3)) (by omega)

theorem satS_level {sub : M F (Value F)} (hsub : SatS E sub) (ops : Token F → Option BinOp) :
    SatS E (level sub ops) :=
  SatS.bind_left hsub fun v σ => wp_lineBudget_bind fun b hb => (levelLoop_wp2 hsub.sat ops b b v σ hb hb).2

end level

section expr2
variable {d : Nat} {ev : Evals F}

theorem satS_orExpr (hev : EvOK d ev) : SatS (NF d) (orExpr ev) := by
  unfold orExpr
  exact satS_level (satS_level (satS_level (satS_level (satS_level (satS_level
    (satS_unaryExpr hev) _) _) _) _) _) _

/-! ### `nested`: one level deeper, one unit of fuel less -/

omit [NumOps F] in
theorem wp_nested {α : Type} {m : M F α} {Q : α → St F → Prop} {σ : St F}
    (h : wp (NF (d + 1)) m (fun a σ' => σ'.nesting = σ.nesting + 1 ∧ Q a { σ' with nesting := σ.nesting })
      { σ with nesting := σ.nesting + 1 }) : wp (NF d) (nested m) Q σ := by
  unfold wp
  rw [Props.C01.nested_eq]
  by_cases hcap : σ.nesting = Extracted.nestingLimit
  · rw [if_pos hcap]
    exact fun _ _ => by intro h; cases h
  · rw [if_neg hcap]
    cases hm : m { σ with nesting := σ.nesting + 1 } with
    | ok a σ' =>
      obtain ⟨hn, hq⟩ := wp_ok h hm
      simp only [hn]
      exact hq
    | err e σ' =>
      dsimp only
      cases σ'.nesting with
      | zero => exact fun _ _ => by intro h; cases h
      | succ k =>
        -- one level deeper the window of `NF (d + 1)` is that of `NF d` here
        intro h1 h2
        exact wp_err h hm (Nat.succ_le_succ h1) (Nat.lt_of_le_of_ne h2 hcap)

theorem satS_exprBody (hev : EvOK (d + 1) ev) : SatS (NF d) (exprBody ev) := by
  intro σ
  unfold exprBody
  refine wp_nested (wp_mono (satS_orExpr hev { σ with nesting := σ.nesting + 1 }) ?_)
  intro v σ' hs
  exact ⟨hs.1.nesting, hs.1.unnest, hs.2⟩

end expr2

/-! ### statements: primitives that move the cursor elsewhere (same nesting counter) -/

section stmtprims
variable {d : Nat}

omit [NumOps F] in
theorem wp_discardRemaining (σ : St F) :
    wp (NF d) discardRemaining (fun _ σ' => SN σ σ' ∧ rem σ' = 0) σ := by
  unfold wp
  rw [Cur.discardRemaining_eq]
  cases ht : Cur.toks σ with
  | none => exact fun _ _ => by intro h; cases h
  | some ts =>
    refine ⟨rfl, ?_⟩
    have h2 : toks { σ with loc := { σ.loc with idx := ts.length } } = Cur.toks σ := rfl
    unfold rem
    rw [h2, ht]
    exact Nat.sub_self _

omit [NumOps F] in
@[sat] theorem sat_discardRemaining : Sat (NF d) SN (discardRemaining (F := F)) :=
  fun σ => wp_mono (wp_discardRemaining σ) fun _ _ h => h.1

omit [NumOps F] in
@[sat] theorem sat_gotoLine (n : Nat) : Sat (NF d) SN (gotoLine (F := F) n) := by
  unfold gotoLine; sat_start; w_auto

omit [NumOps F] in
@[sat] theorem sat_gosubLine (n : Nat) : Sat (NF d) SN (gosubLine (F := F) n) := by
  unfold gosubLine; sat_start; w_auto

omit [NumOps F] in
@[sat] theorem sat_returnFromGosub : Sat (NF d) SN (returnFromGosub (F := F)) := by
  unfold returnFromGosub; sat_start; w_auto

omit [NumOps F] in
@[sat] theorem sat_setImmediate (ts : List (Token F)) : Sat (NF d) SN (setImmediate ts) := by
  unfold setImmediate; sat_start; w_auto

@[sat] theorem sat_endLoop (sym : Str) : Sat (NF d) SN (endLoop (F := F) sym) := by
  unfold endLoop; sat_start; w_auto

omit [NumOps F] in
@[sat] theorem sat_rewindBeforeInput : Sat (NF d) SN (rewindBeforeInput (F := F)) := by
  unfold rewindBeforeInput; sat_start; w_auto

omit [NumOps F] in
@[sat] theorem sat_rewindAndAwaitInput : Sat (NF d) SN (rewindAndAwaitInput (F := F)) := by
  unfold rewindAndAwaitInput; sat_start; w_auto

omit [NumOps F] in
@[sat] theorem sat_breakAtCurrentLocation : Sat (NF d) SN (breakAtCurrentLocation (F := F)) := by
  unfold breakAtCurrentLocation; sat_start; w_auto

end stmtprims

section stmt
variable {d : Nat} {ev : Evals F}

@[sat] theorem sat_optionalArrayIndex (hev : EvOK d ev) : Sat (NF d) Fr (optionalArrayIndex ev) := by
  unfold optionalArrayIndex; sat_start; w_auto

@[sat] theorem sat_assignValue (lv : LValue) (v : Value F) : Sat (NF d) Fr (assignValue lv v) := by
  unfold assignValue; sat_start; w_auto

@[sat] theorem sat_assignmentStatement (hev : EvOK d ev) (name : Str) :
    Sat (NF d) Fr (assignmentStatement ev name) := by
  unfold assignmentStatement; sat_start; w_auto

@[sat] theorem sat_letStatement (hev : EvOK d ev) : Sat (NF d) Fr (letStatement ev) := by
  unfold letStatement; sat_start; w_auto

@[sat] theorem sat_parseLValue (hev : EvOK d ev) : Sat (NF d) Fr (parseLValue ev) := by
  unfold parseLValue; sat_start; w_auto

@[sat] theorem sat_gotoStatement : Sat (NF d) SN (gotoStatement (F := F)) := by
  unfold gotoStatement; sat_start; w_auto

@[sat] theorem sat_gosubStatement : Sat (NF d) SN (gosubStatement (F := F)) := by
  unfold gosubStatement; sat_start; w_auto

@[sat] theorem sat_nestedStmt (hev : EvOK d ev) : Sat (NF d) SN (nested ev.stmt) := by
  intro σ
  refine wp_nested (wp_mono (hev.stmt { σ with nesting := σ.nesting + 1 }) ?_)
  intro _ σ' hs
  exact ⟨hs, rfl⟩

@[sat] theorem sat_statementOrGoto (hev : EvOK d ev) : Sat (NF d) SN (statementOrGoto ev) := by
  unfold statementOrGoto; sat_start; w_auto

theorem ifSkipLoop_wp2 (hev : EvOK d ev) : ∀ (n1 n2 : Nat) (σ : St F), rem σ < n1 → rem σ < n2 →
    wp2 (NF d) (ifSkipLoop ev n1) (ifSkipLoop ev n2) (fun _ σ' => SN σ σ') σ := by
  intro n1
  induction n1 with
  | zero => intro n2 σ h; omega
  | succ n1 ih =>
    intro n2 σ h1 h2
    cases n2 with
    | zero => omega
    | succ n2 =>
      unfold ifSkipLoop
      refine wp2_bind (R := SN) (wp_next σ) ?_
      rintro o σ1 ⟨hf1, _, hlt1⟩
      refine ⟨hf1.sn, ?_⟩
      cases o with
      | none => exact wp2_refl (wp_pure hf1.sn)
      | some t =>
        dsimp only
        have hlt := hlt1 (by intro h; cases h)
        split
        · refine wp2_bind (R := SN) (wp_discardRemaining σ1) ?_
          rintro _ σ2 ⟨hs2, hz⟩
          refine ⟨hs2, ?_⟩
          refine wp2_mono (ih n2 σ2 (by omega) (by omega)) ?_
          intro _ σ3 h3
          exact Eq.trans h3 (Eq.trans hs2 hf1.sn)
        · split
          · exact wp2_refl (wp_mono (sat_statementOrGoto hev σ1) fun _ σ2 h2 => Eq.trans h2 hf1.sn)
          · refine wp2_mono (ih n2 σ1 (by omega) (by omega)) ?_
            intro _ σ3 h3
            exact Eq.trans h3 hf1.sn

@[sat] theorem sat_ifSkip (hev : EvOK d ev) : Sat (NF d) SN (lineBudget >>= fun b => ifSkipLoop ev b) := by
  intro σ
  exact wp_lineBudget_bind fun b hb => (ifSkipLoop_wp2 hev b b σ hb hb).2

@[sat] theorem sat_ifStatement (hev : EvOK d ev) : Sat (NF d) SN (ifStatement ev) := by
  unfold ifStatement; sat_start; w_auto

theorem readLoop_wp2 (hev : EvOK d ev) : ∀ (n1 n2 : Nat) (σ : St F), rem σ < n1 → rem σ < n2 →
    wp2 (NF d) (readLoop ev n1) (readLoop ev n2) (fun _ σ' => Fr σ σ') σ := by
  intro n1 n2 σ
  refine fuel_wp2 (E := NF d) (loop := fun n (_ : Unit) => readLoop ev n) (fun n1 n2 _ σ rec => ?_) n1 n2 () σ
  unfold readLoop
  refine wp2_bind (R := Fr) (sat_parseLValue hev σ) ?_
  intro lv σ1 hf1
  refine ⟨hf1, ?_⟩
  refine wp2_bind (R := Fr) (sat_nextDataElement (E := NF d) σ1) ?_
  intro o σ2 hf2
  refine ⟨hf2, ?_⟩
  cases o with
  | none => exact wp2_refl (wp_fail (R := Fr) (by intro h; cases h))
  | some e =>
    dsimp only
    refine wp2_bind (R := Fr) (sat_liftE (R := Fr) _ (coerce_err lv.name e) σ2) ?_
    intro v σ3 hf3
    refine ⟨hf3, ?_⟩
    refine wp2_bind (R := Fr) (sat_assignValue lv v σ3) ?_
    intro _ σ4 hf4
    refine ⟨hf4, ?_⟩
    refine wp2_bind (R := Fr) (wp_accept _ σ4) ?_
    rintro b σ5 ⟨hf5, hlt5⟩
    refine ⟨hf5, ?_⟩
    have hall : Fr σ σ5 := hf1.trans (hf2.trans (hf3.trans (hf4.trans hf5)))
    cases b with
    | false =>
      simp only [Bool.false_eq_true, if_false]
      exact wp2_refl (wp_pure hall)
    | true =>
      simp only [if_true]
      have hlt := hlt5 rfl
      have := (hf1.trans (hf2.trans (hf3.trans hf4))).rem_le
      exact rec () σ5 hall (by omega)

@[sat] theorem sat_readStatement (hev : EvOK d ev) : Sat (NF d) Fr (readStatement ev) := by
  intro σ
  unfold readStatement
  exact wp_lineBudget_bind fun b hb => (readLoop_wp2 hev b b σ hb hb).2

@[sat] theorem sat_inputStatement (hev : EvOK d ev) : Sat (NF d) SN (inputStatement ev) := by
  unfold inputStatement; sat_start; w_auto

@[sat] theorem sat_dimStatement (hev : EvOK d ev) : Sat (NF d) Fr (dimStatement ev) := by
  unfold dimStatement; sat_start; w_auto

theorem printLoop_wp2 (hev : EvOK d ev) : ∀ (n1 n2 : Nat) (semi : Bool) (acc : Str) (σ : St F),
    rem σ < n1 → rem σ < n2 →
    wp2 (NF d) (printLoop ev n1 semi acc) (printLoop ev n2 semi acc) (fun _ σ' => Fr σ σ') σ := by
  intro n1
  induction n1 with
  | zero => intro n2 semi acc σ h; omega
  | succ n1 ih =>
    intro n2 semi acc σ h1 h2
    cases n2 with
    | zero => omega
    | succ n2 =>
      unfold printLoop
      refine wp2_bind (R := Fr) (wp_peek σ) ?_
      rintro o σ1 ⟨rfl, rfl⟩
      refine ⟨fr_rd σ, ?_⟩
      cases hc : cur σ with
      | none => exact wp2_refl (wp_pure (fr_rd σ))
      | some t =>
        dsimp only
        have hnext : ∀ (n1 n2 : Nat) (semi : Bool) (acc : Str), rem σ < n1 + 1 → rem σ < n2 + 1 →
            (∀ σ', rem σ' < n1 → rem σ' < n2 →
              wp2 (NF d) (printLoop ev n1 semi acc) (printLoop ev n2 semi acc) (fun _ σ'' => Fr σ' σ'') σ') →
            wp2 (NF d) (next >>= fun _ => printLoop ev n1 semi acc) (next >>= fun _ => printLoop ev n2 semi acc)
              (fun _ σ' => Fr σ σ') (Cur.rd σ) := by
          intro n1 n2 semi acc h1 h2 ih
          refine wp2_bind (R := Fr) (wp_next (Cur.rd σ)) ?_
          rintro o2 σ2 ⟨hf2, ho2, hlt2⟩
          refine ⟨hf2, ?_⟩
          have hlt : rem σ2 < rem σ := hlt2 (by rw [ho2, cur_rd, hc]; intro h; cases h)
          refine wp2_mono (ih σ2 (by omega) (by omega)) ?_
          intro _ σ3 h3
          exact (fr_rd σ).trans (hf2.trans h3)
        split
        · exact wp2_refl (wp_pure (fr_rd σ))
        · split
          · exact hnext n1 n2 true acc h1 h2 fun σ' a b => ih n2 true acc σ' a b
          · split
            · exact hnext n1 n2 false _ h1 h2 fun σ' a b => ih n2 false _ σ' a b
            · refine wp2_bind (R := Fr) (hev.expr (Cur.rd σ)) ?_
              intro v σ2 hs2
              refine ⟨hs2.1, ?_⟩
              have : rem σ2 < rem σ := hs2.2
              refine wp2_mono (ih n2 false _ σ2 (by omega) (by omega)) ?_
              intro _ σ3 h3
              exact (fr_rd σ).trans (hs2.1.trans h3)

@[sat] theorem sat_printStatement (hev : EvOK d ev) : Sat (NF d) Fr (printStatement ev) := by
  intro σ
  unfold printStatement
  refine wp_lineBudget_bind fun b hb => ?_
  refine wp_bind (R := Fr) (printLoop_wp2 hev b b false [] σ hb hb).2 ?_
  rintro ⟨semi, text⟩ σ2 h2
  refine ⟨h2, ?_⟩
  exact wp_mono (sat_emit (E := NF d) _ σ2) fun _ _ h3 => h2.trans h3

@[sat] theorem sat_forStatement (hev : EvOK d ev) : Sat (NF d) Fr (forStatement ev) := by
  unfold forStatement; sat_start; w_auto

@[sat] theorem sat_nextStatement : Sat (NF d) SN (nextStatement (F := F)) := by
  unfold nextStatement; sat_start; w_auto

end stmt

section defloops
variable {E : EPost F} [Compat E Fr]

omit [NumOps F] in
theorem defArgsLoop_wp2 : ∀ (n1 n2 : Nat) (acc : List Str) (σ : St F), rem σ < n1 → rem σ < n2 →
    wp2 E (defArgsLoop n1 acc) (defArgsLoop n2 acc) (fun _ σ' => Fr σ σ') σ := by
  refine fuel_wp2 fun n1 n2 acc σ rec => ?_
  unfold defArgsLoop
  refine wp2_bind (R := Fr) (wp_next σ) ?_
  rintro o σ1 ⟨hf1, _, hlt1⟩
  refine ⟨hf1, ?_⟩
  split
  · have hlt := hlt1 (by intro h; cases h)
    dsimp only
    refine wp2_bind (R := Fr) (wp_next σ1) ?_
    rintro o2 σ2 ⟨hf2, _, hlt2⟩
    refine ⟨hf2, ?_⟩
    cases o2 with
    | none => exact wp2_refl (wp_fail (R := Fr) (by intro h; cases h))
    | some t =>
      dsimp only
      have hlt' := hlt2 (by intro h; cases h)
      split
      · exact rec _ σ2 (hf1.trans hf2) (by omega)
      · split
        · exact wp2_refl (wp_pure (hf1.trans hf2))
        · exact wp2_refl (wp_fail (R := Fr) (by intro h; cases h))
  · exact wp2_refl (wp_fail (R := Fr) (by intro h; cases h))

omit [NumOps F] in
theorem skipToColonLoop_wp2 : ∀ (n1 n2 : Nat) (σ : St F), rem σ < n1 → rem σ < n2 →
    wp2 E (skipToColonLoop n1) (skipToColonLoop n2) (fun _ σ' => Fr σ σ') σ := by
  intro n1 n2 σ
  refine fuel_wp2 (E := E) (loop := fun n (_ : Unit) => skipToColonLoop n) (fun n1 n2 _ σ rec => ?_) n1 n2 () σ
  unfold skipToColonLoop
  refine wp2_bind (R := Fr) (wp_next σ) ?_
  rintro o σ1 ⟨hf1, _, hlt1⟩
  refine ⟨hf1, ?_⟩
  cases o with
  | none => exact wp2_refl (wp_pure hf1)
  | some t =>
    dsimp only
    have hlt := hlt1 (by intro h; cases h)
    split
    · exact wp2_refl (wp_pure hf1)
    · exact rec () σ1 hf1 (by omega)

omit [NumOps F] in
@[sat] theorem sat_defStatement : Sat E Fr (defStatement (F := F)) := by
  intro σ
  unfold defStatement
  refine wp_bind (R := Fr) (sat_next σ) ?_
  intro o σ1 hf1
  refine ⟨hf1, ?_⟩
  split
  · refine wp_bind (R := Fr) (sat_expect _ σ1) ?_
    intro _ σ2 hf2
    refine ⟨hf2, ?_⟩
    refine wp_lineBudget_bind fun b hb => ?_
    refine wp_bind (R := Fr) (defArgsLoop_wp2 b b [] σ2 hb hb).2 ?_
    intro args σ4 hf4
    refine ⟨hf4, ?_⟩
    refine wp_bind (R := Fr) (sat_expect _ σ4) ?_
    intro _ σ5 hf5
    refine ⟨hf5, ?_⟩
    refine wp_bind (R := Fr) (sat_defineFunction _ _ σ5) ?_
    intro _ σ6 hf6
    refine ⟨hf6, ?_⟩
    have := (hf4.trans (hf5.trans hf6)).rem_le
    refine wp_mono (skipToColonLoop_wp2 b b σ6 (by omega) (by omega)).2 ?_
    intro _ σ7 hf7
    exact hf1.trans (hf2.trans (hf4.trans (hf5.trans (hf6.trans hf7))))
  · exact wp_fail (R := Fr) (by intro h; cases h)

end defloops

section top
variable {d : Nat} {ev : Evals F}

@[sat] theorem sat_dispatch (hev : EvOK d ev) : Sat (NF d) SN (dispatch ev) := by
  unfold dispatch; sat_start; w_auto

@[sat] theorem sat_stmtBody (hev : EvOK d ev) : Sat (NF d) SN (stmtBody ev) := by
  unfold stmtBody; sat_start; w_auto

end top

omit [NumOps F] in
theorem nf_mono {d d' : Nat} (h : d ≤ d') {σ : St F} {e : TErr} {σ' : St F} (hn : NF d σ e σ') : NF d' σ e σ' :=
  fun h1 h2 => hn (Nat.le_trans h h1) h2

omit [NumOps F] in
theorem wp_mono_d {α : Type} {d d' : Nat} (h : d ≤ d') {m : M F α} {Q : α → St F → Prop} {σ : St F}
    (hw : wp (NF d) m Q σ) : wp (NF d') m Q σ := by
  unfold wp at hw ⊢
  cases hm : m σ with
  | ok a σ' => rw [hm] at hw; exact hw
  | err e σ' => rw [hm] at hw; exact nf_mono h hw

theorem EvOK.mono {d d' : Nat} {ev : Evals F} (h : d ≤ d') (hev : EvOK d ev) : EvOK d' ev :=
  ⟨fun σ => wp_mono_d h (hev.expr σ), fun σ => wp_mono_d (Nat.succ_le_succ h) (hev.stmt σ)⟩

/-- what is assumed of the recursive entry points when only the frame matters -/
theorem evOK_of_frame {ev : Evals F}
    (hexpr : ∀ σ v σ', ev.expr σ = .ok v σ' → Fr σ σ' ∧ rem σ' < rem σ)
    (hstmt : ∀ σ u σ', ev.stmt σ = .ok u σ' → σ'.nesting = σ.nesting) :
    EvOK (Extracted.nestingLimit + 2) ev := by
  constructor
  · intro σ
    unfold wp
    cases hm : ev.expr σ with
    | ok v σ' => exact hexpr σ v σ' hm
    | err e σ' => intro h1 h2; omega
  · intro σ
    unfold wp
    cases hm : ev.stmt σ with
    | ok v σ' => exact hstmt σ v σ' hm
    | err e σ' => intro h1 h2; omega

/-- **The invariant of the recursion fuel.**  `evalN n` is fine for nesting
    counters `k` with `nestingLimit + 1 ≤ n + k` (expressions) and
    `nestingLimit + 2 ≤ n + k` (statements): each recursive entry goes through
    `nested`, which raises the counter and refuses at the cap. -/
theorem evOK_evalN (n : Nat) : EvOK (Extracted.nestingLimit + 2 - n) (evalN (F := F) n) := by
  induction n with
  | zero =>
    constructor
    · intro σ h1 h2; omega
    · intro σ h1 h2; omega
  | succ n ih =>
    have ih' : EvOK (Extracted.nestingLimit + 2 - (n + 1) + 1) (evalN (F := F) n) := ih.mono (by omega)
    exact ⟨satS_exprBody ih', sat_stmtBody ih'⟩

section host
variable {d : Nat}

omit [NumOps F] in
@[sat] theorem sat_nextLine : Sat (NF d) SN (nextLine (F := F)) := by
  unfold nextLine; sat_start; w_auto

omit [NumOps F] in
@[sat] theorem sat_returnToIdle : Sat (NF d) SN (returnToIdle (F := F)) := by
  unfold returnToIdle; sat_start; w_auto

omit [NumOps F] in
@[sat] theorem sat_continueFromBreakpoint : Sat (NF d) SN (continueFromBreakpoint (F := F)) := by
  unfold continueFromBreakpoint; sat_start; w_auto

omit [NumOps F] in
theorem runFromFirst_nesting (s : St F) : s.runFromFirst.nesting = s.nesting := by
  unfold St.runFromFirst
  dsimp only
  split <;> rfl

@[sat] theorem sat_runNextStatement (fuel : Nat) (h : Extracted.nestingLimit + 2 - fuel ≤ d) :
    Sat (NF d) SN (runNextStatement (F := F) fuel) := by
  have := sat_stmtBody ((evOK_evalN (F := F) fuel).mono h)
  unfold runNextStatement; sat_start; w_auto

@[sat] theorem sat_maybeProcessCommand (fuel : Nat) (h : Extracted.nestingLimit + 2 - fuel ≤ d) (line : Str) :
    Sat (NF d) SN (maybeProcessCommand (F := F) fuel line) := by
  have hrun : Sat (NF d) SN (M.modify fun s : St F =>
      ({ s with input := none, vars := [], arrays := [] }).runFromFirst) := by
    sat_start
    exact W.run rfl fun h => Eq.trans (runFromFirst_nesting _) h
  unfold maybeProcessCommand; sat_start; w_auto

@[sat] theorem sat_evaluateImpl (fuel : Nat) (h : Extracted.nestingLimit + 2 - fuel ≤ d) (line : Str) :
    Sat (NF d) SN (evaluateImpl (F := F) fuel line) := by
  unfold evaluateImpl; sat_start; w_auto

omit [NumOps F] in
@[sat] theorem sat_postprocess {α : Type} {m : M F α} (hm : Sat (NF d) SN m) : Sat (NF d) SN (postprocess m) := by
  intro σ
  have h := hm σ
  unfold wp at h ⊢
  unfold postprocess
  cases hr : m σ with
  | ok a σ' => rw [hr] at h; exact h
  | err e σ' =>
    rw [hr] at h
    intro h1 h2
    rw [St.populate_err]
    exact h h1 h2

@[sat] theorem sat_startEvaluating (fuel : Nat) (h : Extracted.nestingLimit + 2 - fuel ≤ d) (line : Str) :
    Sat (NF d) SN (startEvaluating (F := F) fuel line) :=
  sat_postprocess (sat_evaluateImpl fuel h line)

@[sat] theorem sat_continueEvaluating (fuel : Nat) (h : Extracted.nestingLimit + 2 - fuel ≤ d) :
    Sat (NF d) SN (continueEvaluating (F := F) fuel) := by
  unfold continueEvaluating; sat_start; w_auto

end host

end Abasic.Budget
