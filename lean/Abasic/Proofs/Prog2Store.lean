import Abasic.Ref.Prog2
import Abasic.Proofs.ProgLemmas
/-
  C03, control stack and DATA — the programs of Ref/Prog2.lean as a language of numbered lines
  (`lang`, Proofs/SeqLang.lean): the store of a compiled `RProgram2` and where a statement stands on its
  line are the facts proved there.  The relation between a reference state and a model state is in
  Proofs/Prog2Rel.lean.
-/
set_option linter.unusedSectionVars false

namespace Abasic.Prog2L
open Abasic Abasic.Ref Abasic.ExprL Abasic.StmtL Abasic.ProgL M

variable {F : Type}

variable [NumOps F]

theorem renderS2_head (s : RStmt2 F) :
    ∃ t ts, renderS2 s = t :: ts ∧ t.isKw .Else = false ∧ t.isKw .Colon = false := by
  cases s with
  | base s =>
    obtain ⟨k, ts, hk, h1, h2⟩ := renderS_head' s
    refine ⟨.kw k, ts, hk, ?_, ?_⟩
    · show (Kw.Else == k) = false
      simp only [beq_eq_false_iff_ne, ne_eq]; exact fun h => h1 h.symm
    · show (Kw.Colon == k) = false
      simp only [beq_eq_false_iff_ne, ne_eq]; exact fun h => h2 h.symm
  | forS v a b c => cases c <;> exact ⟨_, _, by rw [renderS2], rfl, rfl⟩
  | nextS v => exact ⟨_, _, by rw [renderS2], rfl, rfl⟩
  | gosubS n => exact ⟨_, _, by rw [renderS2], rfl, rfl⟩
  | returnS => exact ⟨_, _, by rw [renderS2], rfl, rfl⟩
  | readS ts => exact ⟨_, _, by rw [renderS2], rfl, rfl⟩
  | dataS items => exact ⟨_, _, by rw [renderS2], rfl, rfl⟩
  | restoreS => exact ⟨_, _, by rw [renderS2], rfl, rfl⟩
  | dimS name dims => exact ⟨_, _, by rw [renderS2], rfl, rfl⟩
  | letCellS name idx e => exact ⟨_, _, by rw [renderS2], rfl, rfl⟩

/-- as `ProgL.preToks`, for `RProgram2` -/
def preToks2 : List (RStmt2 F) → Nat → List (Token F)
  | _, 0 => []
  | [], _ + 1 => []
  | s :: rest, j + 1 => renderS2 s ++ .kw .Colon :: preToks2 rest j

theorem renderTail2_cons (s : RStmt2 F) (rest : List (RStmt2 F)) :
    renderTail2 (s :: rest) = .kw .Colon :: renderLine2 (s :: rest) := rfl

theorem preToks2_zero (ss : List (RStmt2 F)) : preToks2 ss 0 = [] := by
  cases ss <;> rfl

@[reducible] def lang : SeqL.Lang F (RStmt2 F) where
  render := renderS2
  line := RProgram2.line
  tail := renderTail2
  rline := renderLine2
  pre := preToks2
  line_nil _ := rfl
  line_cons _ _ _ _ := rfl
  tail_nil := rfl
  tail_cons _ _ := rfl
  rline_nil := rfl
  rline_cons _ _ := rfl
  pre_zero := preToks2_zero
  pre_nil _ := rfl
  pre_cons _ _ _ := rfl
  head := renderS2_head

/-- as `ProgL.Holds`, for `RProgram2` -/
structure Holds (l : Lines F) (p : RProgram2 F) : Prop where
  get : ∀ n, l.get n = (p.line n).map renderLine2
  sorted : l.sorted = p.map (·.1)

theorem Holds.seq {l : Lines F} {p : RProgram2 F} (h : Holds l p) : SeqL.Holds lang l p := ⟨h.get, h.sorted⟩

theorem holds_of_seq {l : Lines F} {p : RProgram2 F} (h : SeqL.Holds lang l p) : Holds l p := ⟨h.get, h.sorted⟩

theorem _root_.Abasic.Ref.RProgram2.WF.seq {p : RProgram2 F} (h : p.WF) : SeqL.WF p := ⟨h.ascending, h.nonempty⟩

theorem compile_get (p : RProgram2 F) (n : Nat) : (compileP2 p).get n = (p.line n).map renderLine2 :=
  SeqL.compile_get (L := lang) p n

theorem holds_compile (p : RProgram2 F) : Holds (compileP2 p) p := ⟨compile_get p, rfl⟩

/-! ### the facts of Proofs/SeqLang.lean about `Holds` and the functions of Ref/Prog2.lean, under the names their
  users know -/

theorem line_mem {p : RProgram2 F} {n : Nat} {ss : List (RStmt2 F)} (h : p.line n = some ss) : (n, ss) ∈ p :=
  SeqL.line_mem (L := lang) h

theorem holds_has {l : Lines F} {p : RProgram2 F} (h : Holds l p) (n : Nat) : l.has n = p.hasLine n :=
  SeqL.holds_has h.seq n

theorem holds_after {l : Lines F} {p : RProgram2 F} (h : Holds l p) (n : Nat) : l.after n = p.after n :=
  SeqL.holds_after h.seq n

theorem holds_first {l : Lines F} {p : RProgram2 F} (h : Holds l p) : l.first = p.first :=
  SeqL.holds_first h.seq

theorem holds_of_wf {l : Lines F} {p : RProgram2 F} (hl : Props.C04.WF l) (hp : p.WF)
    (hget : ∀ n, l.get n = (p.line n).map renderLine2) : Holds l p :=
  holds_of_seq (SeqL.holds_of_wf (L := lang) hl hp.seq hget)

theorem holds_load (p : RProgram2 F) (hp : p.WF) :
    Holds ((p.map fun e => (e.1, renderLine2 e.2)).foldl (fun l e => l.set e.1 e.2) ({} : Lines F)) p :=
  holds_of_seq (SeqL.holds_load (L := lang) p hp.seq)

theorem line_split (ss : List (RStmt2 F)) (j : Nat) (s : RStmt2 F) (h : ss[j]? = some s) :
    renderLine2 ss = preToks2 ss j ++ (renderS2 s ++ renderTail2 (ss.drop (j + 1))) :=
  SeqL.line_split (L := lang) ss j s h

theorem noElse_compile2 {p : RProgram2 F} (hwf : p.WF) {σ : St F} (h : Holds σ.lines p) : NoElseLine σ :=
  SeqL.noElse hwf.seq h.seq

theorem lineToks_of {p : RProgram2 F} {σ : St F} (hh : Holds σ.lines p) {n : Nat} {ss : List (RStmt2 F)}
    (hl : p.line n = some ss) (hline : σ.loc.line = some n) : lineToks σ = some (renderLine2 ss) :=
  SeqL.lineToks_of hh.seq hl hline

theorem compile_has (p : RProgram2 F) (n : Nat) : (compileP2 p).has n = p.hasLine n :=
  holds_has (holds_compile p) n

theorem compile_after (p : RProgram2 F) (n : Nat) : (compileP2 p).after n = p.after n :=
  holds_after (holds_compile p) n

theorem compile_first (p : RProgram2 F) : (compileP2 p).first = p.first :=
  holds_first (holds_compile p)

theorem resume_eq (p : RProgram2 F) (n j : Nat) : p.resume n j = SeqL.resume lang p n j := by
  unfold RProgram2.resume SeqL.resume
  rw [show lang.line p n = p.line n from rfl]
  cases p.line n <;> rfl

/-- The reference machine is `exec`, then `seq`. -/
theorem rstep_seq {p : RProgram2 F} {r : RState2 F} {n j : Nat} {ss : List (RStmt2 F)} {s : RStmt2 F}
    (hpc : r.pc = some (n, j)) (hl : p.line n = some ss) (hs : ss[j]? = some s) :
    RStep2 p r = (SeqL.seq lang p n j (s.exec (allData p) n j r).2).map
      (fun pc => { (s.exec (allData p) n j r).1 with pc := pc }) id := by
  simp only [RStep2, hpc, hl, hs]
  cases (s.exec (allData p) n j r).2 <;> simp only [SeqL.seq, Sum.map_inl, Sum.map_inr, id, resume_eq] <;> try rfl
  rename_i m
  show _ = Sum.map _ id (if p.hasLine m = true then _ else _)
  split <;> rfl

theorem rstep_inl {p : RProgram2 F} {r r' : RState2 F} (h : RStep2 p r = .inl r') :
    r' = r ∨ r' = { r with pc := none } ∨
    ∃ n j ss s X, r.pc = some (n, j) ∧ p.line n = some ss ∧ ss[j]? = some s ∧
      SeqL.PcAfter lang p n j (s.exec (allData p) n j r).2 X ∧ r' = { (s.exec (allData p) n j r).1 with pc := X } := by
  cases hpc : r.pc with
  | none => simp only [RStep2, hpc] at h; cases h; exact .inl rfl
  | some nj =>
    obtain ⟨n, j⟩ := nj
    cases hl : p.line n with
    | none => simp only [RStep2, hpc, hl] at h; cases h; exact .inr (.inl rfl)
    | some ss =>
      cases hs : ss[j]? with
      | none => simp only [RStep2, hpc, hl, hs] at h; cases h; exact .inr (.inl rfl)
      | some s =>
        rw [rstep_seq hpc hl hs] at h
        cases hq : SeqL.seq lang p n j (s.exec (allData p) n j r).2 with
        | inl X => rw [hq] at h; cases h; exact .inr (.inr ⟨n, j, ss, s, X, rfl, hl, hs, SeqL.seq_inl hq, rfl⟩)
        | inr x => rw [hq] at h; cases h

theorem rstep_inr {p : RProgram2 F} {r : RState2 F} {e : Err} {ln : Nat} (h : RStep2 p r = .inr (e, ln)) :
    ∃ n j ss s, r.pc = some (n, j) ∧ p.line n = some ss ∧ ss[j]? = some s ∧
      (((s.exec (allData p) n j r).2 = .error e ∧ ln = n) ∨ (s.exec (allData p) n j r).2 = .errorAt e ln ∨
        ∃ m, (s.exec (allData p) n j r).2 = .jump m ∧ p.hasLine m = false ∧ e = .undefinedStatement ∧ ln = n) := by
  cases hpc : r.pc with
  | none => simp only [RStep2, hpc] at h; cases h
  | some nj =>
    obtain ⟨n, j⟩ := nj
    cases hl : p.line n with
    | none => simp only [RStep2, hpc, hl] at h; cases h
    | some ss =>
      cases hs : ss[j]? with
      | none => simp only [RStep2, hpc, hl, hs] at h; cases h
      | some s =>
        rw [rstep_seq hpc hl hs] at h
        cases hq : SeqL.seq lang p n j (s.exec (allData p) n j r).2 with
        | inl X => rw [hq] at h; cases h
        | inr x => rw [hq] at h; cases h; exact ⟨n, j, ss, s, rfl, hl, hs, SeqL.seq_inr hq⟩

end Abasic.Prog2L
