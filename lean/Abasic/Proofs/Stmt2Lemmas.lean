import Abasic.Proofs.Prog2Lemmas
import Abasic.Proofs.StmtLemmasG
/-
  C03, control stack and DATA — the statement evaluator on the statements of Ref/Stmt2.lean, concluding `Outcome`
  (Proofs/Prog2Rel.lean) for the reference step `RStmt2.exec`.

  The hypotheses are `SReady2`; the statements of Ref/Stmt.lean go by level 1's `StmtG.stmt_run` (`base_run`);
  the other statements are statements of the full language: Proofs/Stmt2Image.lean.
-/
set_option linter.unusedSectionVars false

namespace Abasic.Stmt2L
open Abasic Abasic.Ref Abasic.StmtL Abasic.ProgL Abasic.Prog2L Abasic.Hoare M
open Abasic.ExprL hiding Quiet
open Abasic.ExprG (Quiet)

variable {F : Type} [NumOps F]

/-- nesting levels / fuel the subscripts of an array need -/
def argsDepth : List (Expr F) → Nat
  | [] => 0
  | e :: rest => max (depth e + 1) (argsDepth rest)

/-- nesting levels / recursion fuel a statement needs -/
def sdepth2 : RStmt2 F → Nat
  | .base s => sdepth s
  | .forS _ a b none => max (depth a + 1) (depth b + 1)
  | .forS _ a b (some c) => max (depth a + 1) (max (depth b + 1) (depth c + 1))
  | .dimS _ dims => argsDepth dims
  | .letCellS _ idx e => max (argsDepth idx) (depth e + 1)
  | _ => 0

/-- The hypotheses of the statement lemmas: the model state `σ` corresponds to
    the reference state `r`, the cursor stands on statement `j` (= `s`) of line
    `n` of the program, and the statement fits the fuel and the nesting cap. -/
structure SReady2 (p : RProgram2 F) (r : RState2 F) (σ : St F) (n j : Nat) (ss : List (RStmt2 F))
    (s : RStmt2 F) (fuel : Nat) : Prop where
  wf : p.WF
  env : Env p σ
  mem : Mem p r σ
  inv : RInv r
  line : p.line n = some ss
  stmt : ss[j]? = some s
  locline : σ.loc.line = some n
  idx : σ.loc.idx = (preToks2 ss j).length
  fuel : sdepth2 s ≤ fuel
  nest : sdepth2 s ≤ Extracted.nestingLimit
  covered : s.Covered

section ready
variable {p : RProgram2 F} {r : RState2 F} {σ : St F} {n j : Nat} {ss : List (RStmt2 F)} {s : RStmt2 F} {fuel : Nat}

theorem SReady2.at (h : SReady2 p r σ n j ss s fuel) :
    At σ (preToks2 ss j) (renderS2 s ++ renderTail2 (ss.drop (j + 1))) :=
  ⟨by rw [lineToks_of h.env.lines h.line h.locline, line_split ss j s h.stmt], h.idx⟩

theorem SReady2.quiet (h : SReady2 p r σ n j ss s fuel) : Quiet σ :=
  ⟨findInStack_rets h.mem.stack, h.env.warnings⟩

theorem SReady2.lineEnd (_h : SReady2 p r σ n j ss s fuel) : LineEnd (renderTail2 (ss.drop (j + 1))) :=
  (SeqL.tail_lineEnd3 (L := Prog2L.lang) ss j).lineEnd

theorem SReady2.eol (h : SReady2 p r σ n j ss s fuel) :
    (preToks2 ss j ++ (renderS2 s ++ renderTail2 (ss.drop (j + 1)))).length = (renderLine2 ss).length := by
  rw [← line_split ss j s h.stmt]

theorem SReady2.addr (h : SReady2 p r σ n j ss s fuel) :
    AddrRel p n (j + 1) { line := some n, idx := (preToks2 ss j).length + (renderS2 s).length } :=
  ⟨ss, j, s, h.line, rfl, h.stmt, rfl⟩

end ready

theorem lineEnd_not {rest : List (Token F)} (h : LineEnd rest) {k : Kw} (hk : k ≠ .Colon) :
    ∀ t, rest.head? = some t → t.isKw k = false := by
  intro t ht
  rw [h t ht]
  show (k == Kw.Colon) = false
  simp only [beq_eq_false_iff_ne, ne_eq]
  exact hk

def numK {α : Type} (k : F → M F α) : Value F → M F α
  | .str _ => fail .typeMismatch
  | .num x => k x

theorem ofCtl_error {c : Ctl} {x : Err} (h : Ctl2.ofCtl c = .error x) : c = .error x := by
  cases c <;> simp [Ctl2.ofCtl] at h
  subst h; rfl

theorem base_run {p : RProgram2 F} {r : RState2 F} {σ : St F} {n j : Nat} {ss : List (RStmt2 F)} {s : RStmt F}
    {fuel : Nat} (h : SReady2 p r σ n j ss (.base s) fuel) :
    Outcome p σ n ((preToks2 ss j).length + (renderS2 (.base s)).length) (renderLine2 ss).length
      (stmtBody (evalN fuel) σ) ((RStmt2.base s).exec (allData p) n j r).1
      ((RStmt2.base s).exec (allData p) n j r).2 := by
  have hAt : At σ (preToks2 ss j) (renderS s ++ renderTail2 (ss.drop (j + 1))) := h.at
  have hNE := noElse_compile2 h.wf h.env.lines
  have hnest : σ.nesting + sdepth s ≤ Extracted.nestingLimit := by
    rw [h.env.nesting]; have := h.nest; simp only [sdepth2] at this; omega
  have hR := StmtG.stmt_run s fuel σ _ _ hAt h.quiet h.env.tracing hNE h.fuel hnest h.covered (Or.inl h.lineEnd)
  have hE : (preToks2 ss j ++ (renderS s ++ renderTail2 (ss.drop (j + 1)))).length = (renderLine2 ss).length := h.eol
  rw [hE, h.mem.vars] at hR
  show Outcome p σ n _ _ _ { r with vars := (RStmt.exec r.vars s).vars, out := r.out ++ (RStmt.exec r.vars s).out }
    (Ctl2.ofCtl (RStmt.exec r.vars s).ctl)
  have hmem : ∀ (loc : Loc) (bp : Option (Nat × Nat)) (k : Nat),
      Mem p { r with vars := (RStmt.exec r.vars s).vars, out := r.out ++ (RStmt.exec r.vars s).out }
        ({ σ with vars := (RStmt.exec r.vars s).vars, out := outRecs (RStmt.exec r.vars s).out ++ σ.out,
                  bp := bp, loc := loc, reads := k } : St F) := by
    intro loc bp k
    exact ⟨rfl, h.mem.arrays, h.mem.loops, h.mem.stack, h.mem.data,
      by show outRecs _ ++ σ.out = _; rw [h.mem.out, outRecs_append]⟩
  -- a failure of the statement is a failure on line `n`, nothing printed
  have hfail : ∀ {x}, FailsWith (stmtBody (evalN fuel) σ) σ x →
      ∃ σ', stmtBody (evalN fuel) σ = .err { err := x } σ' ∧ σ'.loc.line = some n ∧ σ'.out = σ.out :=
    fun ⟨σ', hres, _, hk⟩ => ⟨σ', hres, by rw [(hk h.env.fns).1, h.locline], (hk h.env.fns).2⟩
  unfold StmtG.Refines at hR
  cases hctl : (RStmt.exec r.vars s).ctl with
  | next =>
    rw [hctl] at hR
    obtain ⟨k, _, hres⟩ := hR
    refine ⟨_, hres, ⟨rfl, rfl, rfl, rfl, rfl, rfl⟩, hmem _ σ.bp k, ?_⟩
    show ({ line := σ.loc.line, idx := _ } : Loc) = _
    rw [h.locline]; rfl
  | skipLine =>
    rw [hctl] at hR
    obtain ⟨k, _, hres⟩ := hR
    refine ⟨_, hres, ⟨rfl, rfl, rfl, rfl, rfl, rfl⟩, hmem _ σ.bp k, ?_⟩
    show ({ line := σ.loc.line, idx := _ } : Loc) = _
    rw [h.locline]
  | jump m =>
    rw [hctl] at hR
    refine ⟨fun hh => ?_, fun hh => hfail (hR.2 hh)⟩
    obtain ⟨k, _, hres⟩ := hR.1 hh
    exact ⟨_, hres, ⟨rfl, rfl, rfl, rfl, rfl, rfl⟩, hmem _ none k, rfl⟩
  | stop =>
    rw [hctl] at hR
    obtain ⟨k, _, hres⟩ := hR
    exact ⟨_, hres, ⟨rfl, rfl, rfl, rfl, rfl, rfl⟩, rfl, h.mem.arrays,
      by show outRecs _ ++ σ.out = _; rw [h.mem.out, outRecs_append], rfl, rfl⟩
  | error x =>
    rw [hctl] at hR
    exact ⟨exec_nd r.vars s hctl, hfail hR⟩

theorem envOf_num_name {vars : List (Str × Value F)} (ht : ∀ k v, alGet k vars = some v → v.matchesName k = true)
    {v : Str} {cur : F} (h : envOf vars v = .num cur) : endsWithDollar v = false := by
  unfold envOf at h
  cases hg : alGet v vars with
  | some w =>
    rw [hg] at h
    simp only at h
    subst h
    have := ht v _ hg
    simpa [Value.matchesName] using this
  | none =>
    rw [hg] at h
    simp only [Value.defaultFor] at h
    cases hd : endsWithDollar v with
    | false => rfl
    | true => rw [hd] at h; simp at h


theorem ends_to (j : Nat) (rest : List (Token F)) : Ends j (.kw .To :: rest) := by
  intro t ht
  simp only [List.head?_cons, Option.some.injEq] at ht
  subst ht
  exact ⟨rfl, fun i _ => by rcases i with _ | _ | _ | _ | _ | _ | j <;> rfl⟩

theorem ends_step (j : Nat) (rest : List (Token F)) : Ends j (.kw .Step :: rest) := by
  intro t ht
  simp only [List.head?_cons, Option.some.injEq] at ht
  subst ht
  exact ⟨rfl, fun i _ => by rcases i with _ | _ | _ | _ | _ | _ | j <;> rfl⟩

/-- the last part of the reference step of FOR -/
def forPush (n j : Nat) (r : RState2 F) (v : Str) (x y z : F) : RState2 F × Ctl2 :=
  if (keptLoops v r.loops).length == Extracted.stackLimit then (r, .error .oomStack)
  else if endsWithDollar v then (r, .error .typeMismatch)
  else
    ({ r with vars := alSet v (.num x) r.vars,
              loops := { var := v, line := n, idx := j + 1, limit := y, step := z } :: keptLoops v r.loops },
     .next)

theorem exec_for {items : List (Nat × DataElement F)} {n j : Nat} {r : RState2 F} {v : Str} {a b : Expr F}
    {c : Option (Expr F)} {x y z : F} (ha : numE (envOf r.vars) a = .ok x) (hb : numE (envOf r.vars) b = .ok y)
    (hc : stepE (envOf r.vars) c = .ok z) :
    (RStmt2.forS v a b c).exec items n j r = forPush n j r v x y z := by
  simp only [RStmt2.exec, ha, hb, hc]
  rfl

theorem exec_for_err_a {items : List (Nat × DataElement F)} {n j : Nat} {r : RState2 F} {v : Str} {a b : Expr F}
    {c : Option (Expr F)} {err : Err} (ha : numE (envOf r.vars) a = .error err) :
    (RStmt2.forS v a b c).exec items n j r = (r, .error err) := by
  simp only [RStmt2.exec, ha]

theorem exec_for_err_b {items : List (Nat × DataElement F)} {n j : Nat} {r : RState2 F} {v : Str} {a b : Expr F}
    {c : Option (Expr F)} {x : F} {err : Err} (ha : numE (envOf r.vars) a = .ok x)
    (hb : numE (envOf r.vars) b = .error err) :
    (RStmt2.forS v a b c).exec items n j r = (r, .error err) := by
  simp only [RStmt2.exec, ha, hb]

theorem exec_for_err_c {items : List (Nat × DataElement F)} {n j : Nat} {r : RState2 F} {v : Str} {a b : Expr F}
    {c : Option (Expr F)} {x y : F} {err : Err} (ha : numE (envOf r.vars) a = .ok x)
    (hb : numE (envOf r.vars) b = .ok y) (hc : stepE (envOf r.vars) c = .error err) :
    (RStmt2.forS v a b c).exec items n j r = (r, .error err) := by
  simp only [RStmt2.exec, ha, hb, hc]

theorem optionalArrayIndex_none' {ev : Evals F} {σ : St F} {pre post : List (Token F)}
    (h : At σ pre post) (ht : ∀ t, post.head? = some t → t.isKw .LeftParen = false) :
    optionalArrayIndex ev σ = .ok none (mv σ 0 (σ.reads + 1)) := by
  unfold optionalArrayIndex
  rw [bind_ok (peekIsKw_false .LeftParen h ht)]
  rfl

theorem readLoop_unfold (ev : Evals F) (k : Nat) :
    readLoop ev (k + 1) = (do
      let lv ← parseLValue ev
      match ← nextDataElement with
      | none => fail .outOfData
      | some e =>
        let v ← liftE (Value.coerceFromData lv.name e)
        assignValue lv v
        (accept .Comma >>= fun b => if b then readLoop ev k else pure ())) := rfl

end Abasic.Stmt2L
