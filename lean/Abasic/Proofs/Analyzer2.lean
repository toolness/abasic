import Abasic.Proofs.TypeOf2
import Abasic.Proofs.AnalyzerLemmas
import Abasic.Proofs.Expr2Spec
/-
  C06 for the full expression language, analyzer side: the analyzer's
  expression pass (`aOrExpr (aEvalN n)`) on the rendering of an `Expr2` tree.

  The proof mirrors that of `eval_render2` (Props/C02Full.lean; its induction `AStmt2` / `PStmt2` /
  `SStmt2` is in Proofs/Expr2WarnInd.lean) — `AAStmt2`
  (atoms through `aParen`), `APStmt2` (tiers), `ASStmt2` (left spine of a tier with
  an exact iteration budget) — by induction on the size of the tree, with two loops:
  `aArrayIndexLoop` on `e₁ , … , eₖ )` (`aidx_loop`) and `aBindArgs` on the
  arguments of a call (`abind_iter`).  Every statement is a `Runs` (Proofs/AnalyzerLemmas.lean) on the
  tokens of the tree, from any index `off` of the line; a proof follows the text of the analyzer with the
  rules of `Runs`, against the typing equations written with `>>=` (`typeOf2_bin`, `typeIdx_cons_bind`, …).
  What the other files use is at the end: `atier_run`, `aexpr_run`, `aidx_run`.

  * `Resolved2 sig e` — names are used consistently with the signatures: a cell
      is not named like a built-in or like a function with a signature, a
      called function is not named like a built-in;
  * `adepth e` — the nesting levels of `evaluate_expression` the ANALYZER goes
      through on `render2 e` (`depth2` with an empty function table: the analyzer
      does not enter function bodies);
  * `accs2 sig ln off e` — the accesses it logs: a variable at its token, an
      array after its subscripts, a called function before its arguments.
-/
set_option linter.unusedSectionVars false

namespace Abasic.Props.C06
open Abasic Abasic.Ref Abasic.ExprL Abasic.ExprL2 Abasic.AnaL M

variable {F : Type} [NumOps F]

mutual
def Resolved2 (sig : Sig) : Expr2 F → Prop
  | .num _ => True
  | .str _ => True
  | .var _ => True
  | .un _ e => Resolved2 sig e
  | .bin _ l r => Resolved2 sig l ∧ Resolved2 sig r
  | .paren e => Resolved2 sig e
  | .abs e => Resolved2 sig e
  | .int e => Resolved2 sig e
  | .rnd e => Resolved2 sig e
  | .cell name idx => reserved name = false ∧ sig name = none ∧ Resolved2L sig idx
  | .call f args => reserved f = false ∧ Resolved2L sig args
def Resolved2L (sig : Sig) : List (Expr2 F) → Prop
  | [] => True
  | e :: es => Resolved2 sig e ∧ Resolved2L sig es
end

def adepth (e : Expr2 F) : Nat := depth2 ([] : List (Str × FnDefSpec F)) 0 e
def adepthArgs (es : List (Expr2 F)) : Nat := depthArgs ([] : List (Str × FnDefSpec F)) 0 es

mutual
def accs2 (sig : Sig) (ln : Nat) : Nat → Expr2 F → List Acc
  | _, .num _ => []
  | _, .str _ => []
  | off, .var n => [(n, ln, off, .read)]
  | off, .un _ e => accs2 sig ln (if e.prec < 8 then off + 1 + 1 else off + 1) e
  | off, .bin op l r =>
    accs2 sig ln (if l.prec < BinOp.prec op then off + 1 else off) l ++
    accs2 sig ln (if r.prec < BinOp.prec op + 1
              then off + (render2 (fixP2 (BinOp.prec op) l)).length + 1 + 1
              else off + (render2 (fixP2 (BinOp.prec op) l)).length + 1) r
  | off, .paren e => accs2 sig ln (off + 1) e
  | off, .abs e => accs2 sig ln (off + 2) e
  | off, .int e => accs2 sig ln (off + 2) e
  | off, .rnd e => accs2 sig ln (off + 2) e
  | off, .cell name idx => accsArgs sig ln (off + 2) idx ++ [(name, ln, off, .read)]
  | off, .call f args =>
    match sig f with
    | none => accsArgs sig ln (off + 2) args ++ [(f, ln, off, .read)]
    | some _ => (f, ln, off, .read) :: accsArgs sig ln (off + 2) args
def accsArgs (sig : Sig) (ln : Nat) : Nat → List (Expr2 F) → List Acc
  | _, [] => []
  | off, e :: es => accs2 sig ln off e ++ accsArgs sig ln (off + (render2 e).length + 1) es
end

theorem resolved2_fixP2 (sig : Sig) (p : Nat) (e : Expr2 F) :
    Resolved2 sig (fixP2 p e) ↔ Resolved2 sig e := by
  unfold fixP2; split
  · simp only [Resolved2]
  · exact Iff.rfl

theorem typeOf2_fixP2 (sig : Sig) (p : Nat) (e : Expr2 F) : typeOf2 sig (fixP2 p e) = typeOf2 sig e := by
  unfold fixP2; split
  · exact typeOf2_paren sig e
  · rfl

theorem accs2_paren (sig : Sig) (ln off : Nat) (e : Expr2 F) :
    accs2 sig ln off (.paren e) = accs2 sig ln (off + 1) e := by rw [accs2]

theorem accs2_fixP2 (sig : Sig) (ln off p : Nat) (e : Expr2 F) :
    accs2 sig ln off (fixP2 p e) = accs2 sig ln (if e.prec < p then off + 1 else off) e := by
  unfold fixP2; split
  · exact accs2_paren sig ln off e
  · rfl

theorem accs2_un (sig : Sig) (ln off : Nat) (op : UnOp) (e : Expr2 F) :
    accs2 sig ln off (.un op e) = accs2 sig ln (off + 1) (fixP2 8 e) := by
  rw [accs2_fixP2, accs2]

theorem accs2_bin (sig : Sig) (ln off : Nat) (op : BinOp) (l r : Expr2 F) :
    accs2 sig ln off (.bin op l r) =
      accs2 sig ln off (fixP2 (BinOp.prec op) l) ++
      accs2 sig ln (off + (render2 (fixP2 (BinOp.prec op) l)).length + 1) (fixP2 (BinOp.prec op + 1) r) := by
  rw [accs2_fixP2, accs2_fixP2, accs2]

theorem accs2_congr (sig : Sig) (ln : Nat) {a b : Nat} (e : Expr2 F) (h : a = b) :
    accs2 sig ln a e = accs2 sig ln b e := by
  subst h; rfl

theorem adepth_fixP2 (p : Nat) (e : Expr2 F) :
    adepth (fixP2 p e) = if e.prec < p then adepth e + 1 else adepth e := depth2_fixP2 _ _ _ _

theorem adepth_bin (op : BinOp) (l r : Expr2 F) :
    adepth (.bin op l r) = max (adepth (fixP2 (BinOp.prec op) l)) (adepth (fixP2 (BinOp.prec op + 1) r)) :=
  depth2_bin _ _ _ _ _

theorem adepth_un (op : UnOp) (e : Expr2 F) : adepth (.un op e) = adepth (fixP2 8 e) := depth2_un _ _ _ _
theorem adepth_paren (e : Expr2 F) : adepth (.paren e) = adepth e + 1 := depth2_paren _ _ _
theorem adepth_abs (e : Expr2 F) : adepth (.abs e) = adepth e + 1 := depth2_abs _ _ _
theorem adepth_int (e : Expr2 F) : adepth (.int e) = adepth e + 1 := depth2_int _ _ _
theorem adepth_rnd (e : Expr2 F) : adepth (.rnd e) = adepth e + 1 := depth2_rnd _ _ _
theorem adepth_cell (name : Str) (idx : List (Expr2 F)) : adepth (.cell name idx) = adepthArgs idx :=
  depth2_cell _ _ _ _
theorem adepth_call (f : Str) (args : List (Expr2 F)) : adepth (.call f args) = adepthArgs args := by
  unfold adepth adepthArgs
  rw [depth2]
  · exact Nat.max_eq_left (Nat.zero_le _)
  · intro d n' h; cases h
theorem adepthArgs_cons (e : Expr2 F) (es : List (Expr2 F)) :
    adepthArgs (e :: es) = max (adepth e + 1) (adepthArgs es) := depthArgs_cons _ _ _ _
theorem adepthArgs_pos (es : List (Expr2 F)) : 1 ≤ adepthArgs es := depthArgs_pos _ _ _

def _root_.Abasic.AnaL.Ctx.sig (c : Ctx) : Sig := sigOf c.fns

def AAStmt2 (e : Expr2 F) : Prop :=
  ∀ (c : Ctx) (off f : Nat), adepth e ≤ f → c.nest + adepth e ≤ Extracted.nestingLimit → e.prec = 8 →
    Resolved2 c.sig e →
    Runs c off (Ends 0) (aParen (aEvalN f)) (render2 e) (typeOf2 c.sig e) (accs2 c.sig c.ln off e) pure

/-- any tier at or below the strength of `e` analyzes `render2 e` -/
def APStmt2 (e : Expr2 F) : Prop :=
  ∀ (c : Ctx) (off f j : Nat), adepth e ≤ f → c.nest + adepth e ≤ Extracted.nestingLimit → lv2 e ≤ j → j ≤ 6 →
    Resolved2 c.sig e →
    Runs c off (Ends j) (atier (aEvalN f) j) (render2 e) (typeOf2 c.sig e) (accs2 c.sig c.ln off e) pure

/-- the loop of tier `k + 1` -/
abbrev aloop (f k : Nat) : Nat → VT → M F VT := aLevelLoop (atier (aEvalN f) k) (opsAt k) (kindAt k)

/-- spine statement: the loop of tier `k+1`, started with `spine2 k e` iterations
    more than `n`, is after `render2 e` the loop with `n` iterations left -/
def ASStmt2 (e : Expr2 F) : Prop :=
  ∀ (c : Ctx) (off f k n : Nat), adepth e ≤ f → c.nest + adepth e ≤ Extracted.nestingLimit → lv2 e ≤ k + 1 → k < 6 →
    Resolved2 c.sig e → c.len + 1 = n + spine2 k e →
    Runs c off (Ends k) (atier (aEvalN f) k >>= fun v => lineBudget >>= fun b => aloop f k b v)
      (render2 e) (typeOf2 c.sig e) (accs2 c.sig c.ln off e) (aloop f k n)

/-- the recursive entry `ev.expr`, one nesting level and one unit of fuel deeper -/
theorem aexpr_eq2 (x : Expr2 F) (hx : APStmt2 x) (c : Ctx) (off f : Nat)
    (hd : adepth x + 1 ≤ f) (hn : c.nest + (adepth x + 1) ≤ Extracted.nestingLimit) (hres : Resolved2 c.sig x) :
    Runs c off (Ends 6) (aEvalN f).expr (render2 x) (typeOf2 c.sig x) (accs2 c.sig c.ln off x) pure := by
  obtain ⟨f', rfl⟩ : ∃ f', f = f' + 1 := ⟨f - 1, by omega⟩
  exact .nested (by omega) (hx { c with nest := c.nest + 1 } off f' 6 (by omega) (by show c.nest + 1 + _ ≤ _; omega)
    (by have := prec2_bounds x; unfold lv2; omega) (Nat.le_refl _) hres)

/-- `aParen` on a token other than `(`: `aTerm` reads it and goes on with `K`, its own dispatch -/
theorem aParen_tok {ev : AEvals F} {σ : St F} {pre rest : List (Token F)} {t : Token F}
    {K : Token F → M F VT} (hK : aTerm ev = nextUnwrapped >>= K)
    (hAt : At σ pre (t :: rest)) (ht : t.isKw .LeftParen = false) :
    aParen ev σ = K t (mv σ 1 (σ.reads + 1 + 1)) := by
  unfold aParen
  rw [bind_ok (accept_false hAt ht)]
  simp only [Bool.false_eq_true, ↓reduceIte]
  rw [hK, bind_ok (nextUnwrapped_eq (at_mv0 hAt _)), mv_mv]
  rfl

theorem AA2_num (x : F) : AAStmt2 (.num x : Expr2 F) := by
  intro c off f _ _ _ _ σ pre rest _ _ hAt _
  rw [render2_num] at hAt ⊢
  rw [typeOf2, accs2, aParen_tok rfl hAt rfl]
  exact ⟨σ.reads + 1 + 1, by omega, congrArg (Res.ok VT.num) (lg_nil _).symm⟩

theorem AA2_str (s : Str) : AAStmt2 (.str s : Expr2 F) := by
  intro c off f _ _ _ _ σ pre rest _ _ hAt _
  rw [render2_str] at hAt ⊢
  rw [typeOf2, accs2, aParen_tok rfl hAt rfl]
  exact ⟨σ.reads + 1 + 1, by omega, congrArg (Res.ok VT.str) (lg_nil _).symm⟩

theorem AA2_var (n : Str) : AAStmt2 (.var n : Expr2 F) := by
  intro c off f _ _ _ _ σ pre rest hc hE hAt ho
  subst ho
  rw [render2_var] at hAt ⊢
  rw [typeOf2, accs2, aParen_tok rfl hAt rfl]
  refine ⟨σ.reads + 1 + 1 + 1, by omega, ?_⟩
  dsimp only
  rw [bind_ok (prevLoc_eq (ln := c.ln) (i := pre.length) (by rw [mv_line]; exact hc.1)
    (by rw [mv_idx, hAt.2]))]
  rw [bind_ok (peekIsKw_false .LeftParen (at_mv1 hAt (σ.reads + 1 + 1)) (fun t ht => (hE t ht).1)), mv_mv]
  simp only [Bool.false_eq_true, ↓reduceIte, mv_reads]
  rw [bind_ok (logAccess_eq _ _ _ _ _)]
  rfl

theorem AA2_paren (x : Expr2 F) (hx : APStmt2 x) : AAStmt2 (.paren x) := by
  intro c off f hd hn _ hres
  rw [adepth_paren] at hd hn
  rw [render2_paren, typeOf2_paren, accs2_paren]
  unfold aParen
  exact .accept ((aexpr_eq2 x hx c _ f hd hn (by simpa only [Resolved2] using hres)).bind.last (ends_rparen 6)
    fun t _ _ _ hAt => bind_ok (expect_eq hAt rfl))

theorem AP2_atom (e : Expr2 F) (ha : AAStmt2 e) (he : e.prec = 8) : APStmt2 e := by
  intro c off f j hd hn _ _ hres
  obtain ⟨t, ts, hts, hun⟩ := atom_head2 e he
  refine .lift (i := 0) (Nat.zero_le _) ?_
  show Runs c off (Ends 0) (aUnary (aEvalN f)) _ _ _ _
  unfold aUnary
  refine .look (v := none) (fun _ hAt => tryNext_none hAt fun t' ht' => ?_) (ha c off f hd hn he hres).bind
  rw [hts] at ht'; cases ht'; exact hun

/-- the spine statement from the tier statement when `e` has no operator of tier `k+1` on top -/
theorem AS2_of_P (e : Expr2 F) (hP : APStmt2 e) (c : Ctx) (off f k n : Nat)
    (hd : adepth e ≤ f) (hn : c.nest + adepth e ≤ Extracted.nestingLimit) (hlv : lv2 e ≤ k) (hk : k < 6)
    (hres : Resolved2 c.sig e) (hg : c.len + 1 = n + spine2 k e) :
    Runs c off (Ends k) (atier (aEvalN f) k >>= fun v => lineBudget >>= fun b => aloop f k b v)
      (render2 e) (typeOf2 c.sig e) (accs2 c.sig c.ln off e) (aloop f k n) := by
  rw [spine2_zero hlv] at hg
  exact (hP c off f k hd hn hlv (Nat.le_of_lt hk) hres).bind.congr fun t S hS => by
    rw [bind_ok hS.lineBudget, hg]; rfl

theorem AP2_paren (x : Expr2 F) (hx : APStmt2 x) : APStmt2 (.paren x) :=
  AP2_atom _ (AA2_paren x hx) rfl

theorem AP2_fixP (p : Nat) (x : Expr2 F) (hx : APStmt2 x) : APStmt2 (fixP2 p x) := by
  unfold fixP2; split
  · exact AP2_paren x hx
  · exact hx

theorem AS2_paren (x : Expr2 F) (hx : APStmt2 x) : ASStmt2 (.paren x) :=
  fun c off f k n hd hn _ hk hres hg => AS2_of_P _ (AP2_paren x hx) c off f k n hd hn (Nat.zero_le _) hk hres hg

theorem AS2_fixP (p : Nat) (x : Expr2 F) (hP : APStmt2 x) (hS : ASStmt2 x) : ASStmt2 (fixP2 p x) := by
  unfold fixP2; split
  · exact AS2_paren x hP
  · exact hS

/-- the spine case: `bin op l r` read by the loop of the tier of `op` -/
theorem AS2_bin_same (op : BinOp) (l r : Expr2 F) (hPl : APStmt2 l) (hSl : ASStmt2 l) (hPr : APStmt2 r)
    (c : Ctx) (off f n : Nat)
    (hd : adepth (.bin op l r) ≤ f) (hn : c.nest + adepth (.bin op l r) ≤ Extracted.nestingLimit)
    (hres : Resolved2 c.sig (.bin op l r)) (hg : c.len + 1 = n + spine2 (6 - BinOp.prec op) (.bin op l r)) :
    Runs c off (Ends (6 - BinOp.prec op))
      (atier (aEvalN f) (6 - BinOp.prec op) >>= fun v => lineBudget >>= fun b => aloop f (6 - BinOp.prec op) b v)
      (render2 (.bin op l r)) (typeOf2 c.sig (.bin op l r)) (accs2 c.sig c.ln off (.bin op l r))
      (aloop f (6 - BinOp.prec op) n) := by
  have hb := prec_op_bounds op
  have hkind := kindAt_op op
  have hsp : spine2 (6 - BinOp.prec op) (.bin op l r) = spine2 (6 - BinOp.prec op) (fixP2 (BinOp.prec op) l) + 1 := by
    rw [spine2_fixP2]; simp only [spine2, if_true]
  have hlvL := lv_fixP2_left op l
  have hlvR := lv_fixP2_right op r
  have hops : opsAt (F := F) (6 - BinOp.prec op) (.kw (BinOp.token op)) = some op := by rw [opsAt_token, if_pos rfl]
  have hE : ∀ rest, Ends (6 - BinOp.prec op) (Token.kw (F := F) (BinOp.token op) :: rest) := ends_op op
  have hk6 : 6 - BinOp.prec op < 6 := by omega
  generalize 6 - BinOp.prec op = k at *
  rw [adepth_bin] at hd hn
  have hres2 : Resolved2 c.sig l ∧ Resolved2 c.sig r := by simpa only [Resolved2] using hres
  rw [accs2_bin, typeOf2_bin, ← hkind, ← typeOf2_fixP2 c.sig (BinOp.prec op) l,
    ← typeOf2_fixP2 c.sig (BinOp.prec op + 1) r, render2_bin]
  -- the left operand, with one more iteration in hand; then one iteration: the right operand and the rule
  refine (AS2_fixP _ l hPl hSl c off f k (n + 1) (by omega) (by omega) hlvL (by omega)
    ((resolved2_fixP2 _ _ l).2 hres2.1) (by omega)).trans (fun _ _ => hE _) fun a => ?_
  show Runs c _ _ (aLevelLoop _ _ _ (n + 1) a) _ _ _ _
  rw [aLevelLoop_succ]
  refine .tryNext hops ((AP2_fixP _ r hPr c _ f k (by omega) (by omega) hlvR (by omega)
    ((resolved2_fixP2 _ _ r).2 hres2.2)).bind.map fun b => ?_)
  cases tierRule (kindAt k) a b <;> rfl

theorem AP2_bin (op : BinOp) (l r : Expr2 F) (hPl : APStmt2 l) (hSl : ASStmt2 l) (hPr : APStmt2 r) :
    APStmt2 (.bin op l r) := by
  intro c off f j hd hn hlv hj hres
  refine .fits fun hfit => ?_
  have hb := prec_op_bounds op
  have hkj : 6 - BinOp.prec op + 1 ≤ j := by simp only [lv2, Expr2.prec] at hlv; omega
  have hsp := spine2_le (6 - BinOp.prec op) (.bin op l r)
  obtain ⟨n, hn'⟩ : ∃ n, c.len + 1 = (n + 1) + spine2 (6 - BinOp.prec op) (.bin op l r) :=
    ⟨c.len - spine2 (6 - BinOp.prec op) (.bin op l r), by omega⟩
  exact .lift hkj (((AS2_bin_same op l r hPl hSl hPr c off f (n + 1) hd hn hres hn').weaken
    fun _ h => Ends.mono h (Nat.le_succ _)).stop fun t _ _ _ hE hAt => aLevelLoop_stop hAt hE)

theorem AS2_bin (op : BinOp) (l r : Expr2 F) (hPl : APStmt2 l) (hSl : ASStmt2 l) (hPr : APStmt2 r) :
    ASStmt2 (.bin op l r) := by
  intro c off f k n hd hn hlv hk hres hg
  by_cases hkk : 6 - BinOp.prec op = k
  · subst hkk
    exact AS2_bin_same op l r hPl hSl hPr c off f n hd hn hres hg
  · have hlv' : lv2 (.bin op l r) ≤ k := by
      simp only [lv2, Expr2.prec] at hlv ⊢; omega
    exact AS2_of_P _ (AP2_bin op l r hPl hSl hPr) c off f k n hd hn hlv' hk hres hg

theorem AS2_atom (e : Expr2 F) (hP : APStmt2 e) (he : lv2 e = 0) : ASStmt2 e :=
  fun c off f k n hd hn _ hk hres hg => AS2_of_P _ hP c off f k n hd hn (by omega) hk hres hg

theorem AA2_bin (op : BinOp) (l r : Expr2 F) : AAStmt2 (.bin op l r) := by
  intro c off f _ _ he
  have := prec_op_bounds op
  simp only [Expr2.prec] at he
  omega

theorem AA2_fixP8 (x : Expr2 F) (hP : APStmt2 x) (hA : AAStmt2 x) : AAStmt2 (fixP2 8 x) := by
  unfold fixP2; split
  · exact AA2_paren x hP
  · exact hA

theorem AA2_un (op : UnOp) (x : Expr2 F) : AAStmt2 (.un op x) := by
  intro c off f _ _ he
  simp [Expr2.prec] at he

theorem AP2_un (op : UnOp) (x : Expr2 F) (hP : APStmt2 x) (hA : AAStmt2 x) : APStmt2 (.un op x) := by
  intro c off f j hd hn _ _ hres
  rw [adepth_un] at hd hn
  have hX := AA2_fixP8 x hP hA c (off + 1) f hd hn (prec_fixP2_8 x)
    ((resolved2_fixP2 _ 8 x).2 (by simpa only [Resolved2] using hres))
  rw [typeOf2_fixP2] at hX
  rw [render2_un, typeOf2_un, accs2_un]
  refine .lift (i := 0) (Nat.zero_le _) ?_
  show Runs c off (Ends 0) (aUnary (aEvalN f)) _ _ _ _
  unfold aUnary
  refine .tryNext (unop_ofToken op) (hX.bind.map fun v => ?_)
  cases op with
  | pos => rfl
  | not => rfl
  | neg => cases v <;> rfl

theorem accs2_abs (sig : Sig) (ln off : Nat) (e : Expr2 F) :
    accs2 sig ln off (.abs e) = accs2 sig ln (off + 2) e := by rw [accs2]
theorem accs2_int (sig : Sig) (ln off : Nat) (e : Expr2 F) :
    accs2 sig ln off (.int e) = accs2 sig ln (off + 2) e := by rw [accs2]
theorem accs2_rnd (sig : Sig) (ln off : Nat) (e : Expr2 F) :
    accs2 sig ln off (.rnd e) = accs2 sig ln (off + 2) e := by rw [accs2]

theorem aNumberFunctionArg_eq2 (x : Expr2 F) (hx : APStmt2 x) (c : Ctx) (off f : Nat)
    (hd : adepth x + 1 ≤ f) (hn : c.nest + (adepth x + 1) ≤ Extracted.nestingLimit) (hres : Resolved2 c.sig x) :
    Runs c off (fun _ => True) (aNumberFunctionArg (aEvalN f)) (.kw .LeftParen :: (render2 x ++ [.kw .RightParen]))
      (numArgT (typeOf2 c.sig x)) (accs2 c.sig c.ln (off + 1) x) pure := by
  unfold aNumberFunctionArg
  rw [numArgT_bind]
  refine .expect (((aexpr_eq2 x hx c _ f hd hn hres).bind.map
    (k' := fun r => expect .RightParen >>= fun _ => pure r) fun v => ?_).last (ends_rparen 6)
    fun t _ _ _ hAt => bind_ok (expect_eq hAt rfl))
  cases v <;> rfl

/-- `aParen` on `name ( …`: the dispatch of `aTerm` on a symbol followed by `(` -/
theorem aParen_sym {α : Type} {ty : Except Err α} {C : List (Token F) → Prop} {acc : List Acc} {k' : α → M F VT}
    (ev : AEvals F) (name : Str) (c : Ctx) (off : Nat) (ts : List (Token F))
    (hk : Runs c (off + 1) C
      (do
        match ← aFunctionCall ev name { line := some c.ln, idx := off } with
        | some t => pure t
        | none =>
          let _ ← aArrayIndex ev
          logAccess name { line := some c.ln, idx := off } .read
          pure (VT.ofName name)) (.kw .LeftParen :: ts) ty acc k') :
    Runs c off C (aParen ev) (.symbol name :: .kw .LeftParen :: ts) ty acc k' := by
  unfold aParen
  refine .look (v := false) (fun _ hAt => accept_false hAt rfl) ?_
  show Runs c off C (aTerm ev) _ _ _ _
  unfold aTerm
  refine .tok nextUnwrapped_eq (.get (v := { line := some c.ln, idx := off }) (fun hS hi => prevLoc_eq hS.1 hi)
    (.look (v := true) (fun _ hAt => peekIsKw_cons .LeftParen hAt) (.of_eq (fun S _ => ?_) hk)))
  show (aFunctionCall ev name _ >>= _) S = _
  refine congrFun (congrArg _ (funext fun o => ?_)) _
  cases o <;> rfl

theorem AA2_builtin (name : Str) (x : Expr2 F) (hx : APStmt2 x)
    (hname : (name == Extracted.builtinAbs.toList || name == Extracted.builtinInt.toList
      || name == Extracted.builtinRnd.toList) = true)
    (c : Ctx) (off f : Nat)
    (hd : adepth x + 1 ≤ f) (hn : c.nest + (adepth x + 1) ≤ Extracted.nestingLimit) (hres : Resolved2 c.sig x) :
    Runs c off (Ends 0) (aParen (aEvalN f)) (.symbol name :: .kw .LeftParen :: (render2 x ++ [.kw .RightParen]))
      (numArgT (typeOf2 c.sig x)) (accs2 c.sig c.ln (off + 2) x) pure := by
  refine aParen_sym _ name c off _ ?_
  unfold aFunctionCall
  simp only [hname, ↓reduceIte]
  exact (aNumberFunctionArg_eq2 x hx c _ f hd hn hres).bind.bind.weaken fun _ _ => trivial

theorem AA2_abs (x : Expr2 F) (hx : APStmt2 x) : AAStmt2 (.abs x) := by
  intro c off f hd hn _ hres
  rw [adepth_abs] at hd hn
  rw [render2_abs, typeOf2_abs, accs2_abs]
  exact AA2_builtin _ x hx (by decide) c off f hd hn (by simpa only [Resolved2] using hres)

theorem AA2_int (x : Expr2 F) (hx : APStmt2 x) : AAStmt2 (.int x) := by
  intro c off f hd hn _ hres
  rw [adepth_int] at hd hn
  rw [render2_int, typeOf2_int, accs2_int]
  exact AA2_builtin _ x hx (by decide) c off f hd hn (by simpa only [Resolved2] using hres)

theorem AA2_rnd (x : Expr2 F) (hx : APStmt2 x) : AAStmt2 (.rnd x) := by
  intro c off f hd hn _ hres
  rw [adepth_rnd] at hd hn
  rw [render2_rnd, typeOf2_rnd, accs2_rnd]
  exact AA2_builtin _ x hx (by decide) c off f hd hn (by simpa only [Resolved2] using hres)

theorem accsArgs_nil (sig : Sig) (ln off : Nat) : accsArgs sig ln off ([] : List (Expr2 F)) = [] := by
  rw [accsArgs]
theorem accsArgs_cons (sig : Sig) (ln off : Nat) (e : Expr2 F) (es : List (Expr2 F)) :
    accsArgs sig ln off (e :: es) = accs2 sig ln off e ++ accsArgs sig ln (off + (render2 e).length + 1) es := by
  rw [accsArgs]

theorem atier_err {ev : AEvals F} {σ S : St F} {e : TErr} (h : aUnary ev σ = .err e S) :
    ∀ j, atier ev j σ = .err e S
  | 0 => h
  | j + 1 => bind_err (atier_err h j)

theorem aexpr_rparen (f : Nat) (σ : St F) (pre rest : List (Token F)) (hf : 1 ≤ f)
    (hn : σ.nesting < Extracted.nestingLimit) (hAt : At σ pre (.kw .RightParen :: rest)) :
    ∃ σ', (aEvalN f).expr σ = .err { err := .syntax .unexpectedToken } σ' ∧ σ'.nesting = σ.nesting := by
  obtain ⟨f', rfl⟩ : ∃ f', f = f' + 1 := ⟨f - 1, by omega⟩
  have hτ := at_nest hAt (σ.nesting + 1)
  refine ⟨_, nested_err hn (atier_err (S := mv (nest σ (σ.nesting + 1)) 1 (σ.reads + 1 + 1 + 1)) ?_ 6) rfl, rfl⟩
  unfold aUnary
  rw [bind_ok (tryNext_none hτ (fun t' ht' => by
    simp only [List.head?_cons, Option.some.injEq] at ht'; subst ht'; rfl))]
  exact bind_err ((aParen_tok rfl (at_mv0 hτ _) rfl).trans (by rw [mv_mv]; rfl))

def Closes (rest : List (Token F)) : Prop := ∃ r, rest = .kw .RightParen :: r

theorem ends_argsTail {rest : List (Token F)} (as : List (Expr2 F)) (h : Closes rest) : Ends 6 (argsTail as ++ rest) := by
  obtain ⟨r, rfl⟩ := h
  cases as with
  | nil => exact ends_rparen 6 r
  | cons y ys => exact ends_comma 6 _

theorem aidx_loop :
    ∀ (es : List (Expr2 F)), es ≠ [] → (∀ x ∈ es, APStmt2 x) →
    ∀ (c : Ctx) (off f b arity : Nat),
    adepthArgs es ≤ f → c.nest + adepthArgs es ≤ Extracted.nestingLimit → es.length ≤ b → Resolved2L c.sig es →
    Runs c off Closes (aArrayIndexLoop (aEvalN f) b arity) (renderArgs es) (typeIdx c.sig es)
      (accsArgs c.sig c.ln off es) fun _ => pure (arity + es.length) := by
  intro es
  induction es with
  | nil => intro h; exact absurd rfl h
  | cons x es ih =>
    intro _ hP c off f b arity hd hn hb hres
    obtain ⟨b', rfl⟩ : ∃ b', b = b' + 1 := ⟨b - 1, by simp only [List.length_cons] at hb; omega⟩
    rw [adepthArgs_cons] at hd hn
    simp only [Resolved2L] at hres
    have hX := (aexpr_eq2 x (hP x (List.mem_cons_self ..)) c off f (by omega) (by omega) hres.1).bind
      (g := fun t => do
        let _ ← VT.checkNumber (F := F) t
        if ← accept .Comma then aArrayIndexLoop (aEvalN f) b' (arity + 1) else pure (arity + 1))
    rw [aArrayIndexLoop, accsArgs_cons, typeIdx_cons_bind]
    cases es with
    | nil =>
      rw [renderArgs_one, accsArgs_nil, List.append_nil]
      refine ((hX.map (k' := fun _ => do
        if ← accept .Comma then aArrayIndexLoop (aEvalN f) b' (arity + 1) else pure (arity + 1)) fun t => ?_).weaken
        fun _ h => ends_argsTail [] h).stop fun _ _ _ _ hC hAt => ?_
      · cases t <;> rfl
      · obtain ⟨r, rfl⟩ := hC
        exact bind_ok (accept_false hAt rfl)
    | cons y ys =>
      rw [renderArgs_cons]
      refine hX.trans (fun _ _ => ends_comma 6 _) fun t => ?_
      cases t with
      | str => exact .fail
      | num =>
        have := ih (by simp) (fun z hz => hP z (List.mem_cons_of_mem _ hz)) c (off + (render2 x).length + 1) f b'
          (arity + 1) (by omega) (by omega) (by simp only [List.length_cons] at hb ⊢; omega) hres.2
        rw [show arity + 1 + (y :: ys).length = arity + (x :: y :: ys).length by
          simp only [List.length_cons]; omega] at this
        exact .accept this

theorem aidx2_run (es : List (Expr2 F)) (hP : ∀ x ∈ es, APStmt2 x) (c : Ctx) (off f : Nat)
    (hd : adepthArgs es ≤ f) (hn : c.nest + adepthArgs es ≤ Extracted.nestingLimit) (hres : Resolved2L c.sig es) :
    Runs c off (fun _ => True) (aArrayIndex (aEvalN f)) (.kw .LeftParen :: (renderArgs es ++ [.kw .RightParen]))
      (typeIdx c.sig es) (accsArgs c.sig c.ln (off + 1) es) fun _ => pure es.length := by
  have hpos := adepthArgs_pos es
  unfold aArrayIndex
  refine .expect (.budget ?_)
  cases es with
  | nil =>
    intro σ pre rest hc _ hAt _
    rw [typeIdx_nil]
    rw [renderArgs_nil] at hAt
    obtain ⟨σ', hσ', hn'⟩ := aexpr_rparen f σ _ rest (by omega) (by rw [hc.2.2.1]; omega) hAt
    rw [aArrayIndexLoop]
    exact ⟨σ', bind_err (bind_err hσ'), hn'⟩
  | cons x xs =>
    refine .fits fun hfit => ?_
    have hlen := renderArgs_length (x :: xs)
    rw [List.length_append] at hfit
    refine ((aidx_loop (x :: xs) (by simp) hP c _ f _ 0 hd hn (by omega) hres).bind.last
      (fun r => ⟨r, rfl⟩) (fun _ _ _ _ hAt => bind_ok (expect_eq hAt rfl))).congr fun _ S _ => ?_
    rw [Nat.zero_add]

theorem accs2_cell (sig : Sig) (ln off : Nat) (name : Str) (idx : List (Expr2 F)) :
    accs2 sig ln off (.cell name idx) = accsArgs sig ln (off + 2) idx ++ [(name, ln, off, .read)] := by
  rw [accs2]
theorem accs2_call_none (sig : Sig) (ln off : Nat) (g : Str) (args : List (Expr2 F)) (hs : sig g = none) :
    accs2 sig ln off (.call g args) = accsArgs sig ln (off + 2) args ++ [(g, ln, off, .read)] := by
  rw [accs2, hs]
theorem accs2_call_some (sig : Sig) (ln off : Nat) (g : Str) (args : List (Expr2 F)) {s : List VT × VT}
    (hs : sig g = some s) :
    accs2 sig ln off (.call g args) = (g, ln, off, .read) :: accsArgs sig ln (off + 2) args := by
  rw [accs2, hs]

theorem sigOf_none {fns : List (Str × FnDef)} {name : Str} (h : sigOf fns name = none) : alGet name fns = none := by
  unfold sigOf at h
  cases hg : alGet name fns with
  | none => rfl
  | some d => rw [hg] at h; cases h

theorem sigOf_some {fns : List (Str × FnDef)} {name : Str} {s : List VT × VT} (h : sigOf fns name = some s) :
    ∃ d, alGet name fns = some d ∧ s.1 = d.args.map VT.ofName := by
  unfold sigOf at h
  cases hg : alGet name fns with
  | none => rw [hg] at h; cases h
  | some d =>
    rw [hg] at h
    simp only [Option.some.injEq] at h
    exact ⟨d, rfl, by rw [← h]⟩

theorem aFunctionCall_none (ev : AEvals F) (name : Str) (loc : Loc) (σ : St F)
    (hr : reserved name = false) (hg : alGet name σ.fns = none) :
    aFunctionCall ev name loc σ = .ok none σ := by
  unfold aFunctionCall
  unfold reserved at hr
  simp only [hr, Bool.false_eq_true, ↓reduceIte]
  unfold aUserFunctionCall
  simp only [bind, M.bindM, M.get, hg]
  rfl

/-- an array element `name ( e₁ , … , eₖ )` (or a call of an undefined function) through `aParen` -/
theorem acell_run (name : Str) (idx : List (Expr2 F)) (hP : ∀ x ∈ idx, APStmt2 x) (c : Ctx) (off f : Nat)
    (hd : adepthArgs idx ≤ f) (hn : c.nest + adepthArgs idx ≤ Extracted.nestingLimit)
    (hr : reserved name = false) (hs : c.sig name = none) (hres : Resolved2L c.sig idx) :
    Runs c off (Ends 0) (aParen (aEvalN f)) (.symbol name :: .kw .LeftParen :: (renderArgs idx ++ [.kw .RightParen]))
      (typeIdx c.sig idx >>= fun _ => .ok (VT.ofName name))
      (accsArgs c.sig c.ln (off + 2) idx ++ [(name, c.ln, off, .read)]) pure := by
  refine aParen_sym _ name c off _ (.get (v := none)
    (fun hS _ => aFunctionCall_none _ name _ _ hr (by rw [hS.2.1]; exact sigOf_none hs)) ?_)
  exact (((aidx2_run idx hP c _ f hd hn hres).bind.log fun _ S _ => bind_ok (logAccess_eq ..)).map
    fun _ => rfl).weaken fun _ _ => trivial

theorem AA2_cell (name : Str) (idx : List (Expr2 F)) (hP : ∀ x ∈ idx, APStmt2 x) : AAStmt2 (.cell name idx) := by
  intro c off f hd hn _ hres
  rw [adepth_cell] at hd hn
  simp only [Resolved2] at hres
  rw [render2_cell, typeOf2_cell_bind, accs2_cell]
  exact acell_run name idx hP c off f hd hn hres.1 hres.2.1 hres.2.2

theorem abind_iter :
    ∀ (as : List (Expr2 F)), as ≠ [] → (∀ x ∈ as, APStmt2 x) →
    ∀ (ps : List Str), ps ≠ [] →
    ∀ (fst : Bool) (c : Ctx) (off f arity i : Nat),
    arity = i + ps.length → adepthArgs as ≤ f → c.nest + adepthArgs as ≤ Extracted.nestingLimit →
    Resolved2L c.sig as →
    Runs c off (fun _ => True) (aBindArgs (aEvalN f) arity ps i >>= fun _ => expect .RightParen)
      (renderArgs as ++ [.kw .RightParen]) (typeArgs c.sig fst (ps.map VT.ofName) as)
      (accsArgs c.sig c.ln off as) fun _ => pure () := by
  intro as
  induction as with
  | nil => intro h; exact absurd rfl h
  | cons a as ih =>
    intro _ hP ps hps fst c off f arity i har hd hn hres
    obtain ⟨p, ps', rfl⟩ : ∃ p ps', ps = p :: ps' := by
      cases ps with
      | nil => exact absurd rfl hps
      | cons p ps' => exact ⟨p, ps', rfl⟩
    rw [adepthArgs_cons] at hd hn
    simp only [Resolved2L] at hres
    rw [aBindArgs, bind_assoc', accsArgs_cons, List.map_cons, typeArgs_cons_bind, renderArgs_eq, List.append_assoc]
    refine (aexpr_eq2 a (hP a (List.mem_cons_self ..)) c off f (by omega) (by omega) hres.1).bind.trans
      (fun _ _ => by rw [List.append_assoc]; exact ends_argsTail as ⟨_, rfl⟩) fun t => ?_
    by_cases htp : t = VT.ofName p
    · subst htp
      rw [beq_self_eq_true, if_pos rfl, check_self]
      cases ps' with
      | nil =>
        have hlt : ¬ (i + 1 < arity) := by simp only [List.length_cons, List.length_nil] at har; omega
        simp only [hlt, ↓reduceIte]
        rw [aBindArgs]
        cases as with
        | nil =>
          rw [List.map_nil, typeArgs_nil_nil, accsArgs_nil]
          exact .one fun hAt => expect_eq hAt rfl
        | cons y ys =>
          rw [List.map_nil, typeArgs_nil_cons]
          exact .err fun hAt => ⟨_, expect_fail hAt rfl, rfl⟩
      | cons p' ps'' =>
        have hlt : i + 1 < arity := by simp only [List.length_cons] at har; omega
        simp only [hlt, ↓reduceIte]
        rw [pure_bind', bind_assoc']
        cases as with
        | nil =>
          rw [List.map_cons, typeArgs_cons_nil]
          exact .err fun hAt => ⟨_, bind_err (expect_fail hAt rfl), rfl⟩
        | cons y ys =>
          exact .expect (ih (by simp) (fun z hz => hP z (List.mem_cons_of_mem _ hz)) (p' :: ps'') (by simp) false c _ f
            arity (i + 1) (by simp only [List.length_cons] at har ⊢; omega) (by omega) (by omega) hres.2)
    · rw [if_neg (show ¬ (t == VT.ofName p) = true by simpa using htp)]
      exact .err fun _ => ⟨_, bind_err (bind_err (check_diff htp _)), rfl⟩

theorem aFunctionCall_some (ev : AEvals F) (name : Str) (loc : Loc) (σ : St F) (d : FnDef)
    (hr : reserved name = false) (hg : alGet name σ.fns = some d) :
    aFunctionCall ev name loc σ =
      (do
        logAccess name loc .read
        expect .LeftParen
        aBindArgs ev d.args.length d.args 0
        expect .RightParen
        pure (some (VT.ofName name))) σ := by
  unfold aFunctionCall
  unfold reserved at hr
  simp only [hr, Bool.false_eq_true, ↓reduceIte]
  unfold aUserFunctionCall
  simp only [bind, M.bindM, M.get, hg]

theorem bind_at {α β : Type} {m m' : M F α} {σ : St F} (h : m σ = m' σ) (g : α → M F β) :
    (m >>= g) σ = (m' >>= g) σ := by
  simp only [bind, M.bindM, h]

theorem abind_run (args : List (Expr2 F)) (hP : ∀ x ∈ args, APStmt2 x) (ps : List Str) (c : Ctx) (off f : Nat)
    (hd : adepthArgs args ≤ f) (hn : c.nest + adepthArgs args ≤ Extracted.nestingLimit)
    (hres : Resolved2L c.sig args) :
    Runs c off (fun _ => True) (aBindArgs (aEvalN f) ps.length ps 0 >>= fun _ => expect .RightParen)
      (renderArgs args ++ [.kw .RightParen]) (typeArgs c.sig true (ps.map VT.ofName) args)
      (accsArgs c.sig c.ln off args) fun _ => pure () := by
  have hpos := adepthArgs_pos args
  cases args with
  | nil =>
    rw [renderArgs_nil]
    cases ps with
    | nil =>
      rw [List.map_nil, typeArgs_nil_nil, aBindArgs, pure_bind', accsArgs_nil]
      exact .one fun hAt => expect_eq hAt rfl
    | cons p ps =>
      intro σ pre rest hc _ hAt _
      rw [List.map_cons, typeArgs_cons_nil_first, aBindArgs]
      obtain ⟨σ', hσ', hn'⟩ := aexpr_rparen f σ _ rest (by omega) (by rw [hc.2.2.1]; omega) hAt
      exact ⟨σ', bind_err (bind_err hσ'), hn'⟩
  | cons a as =>
    cases ps with
    | nil =>
      obtain ⟨t, ts, hts, ht⟩ := render2_head a
      rw [List.map_nil, typeArgs_nil_cons, aBindArgs, pure_bind', renderArgs_eq, hts]
      exact .err fun hAt => ⟨_, expect_fail hAt ht, rfl⟩
    | cons p ps =>
      exact abind_iter (a :: as) (by simp) hP (p :: ps) (by simp) true c off f (p :: ps).length 0 (by omega) hd hn hres

theorem acall_run (g : Str) (args : List (Expr2 F)) (hP : ∀ x ∈ args, APStmt2 x) (s : List VT × VT)
    (c : Ctx) (off f : Nat)
    (hd : adepthArgs args ≤ f) (hn : c.nest + adepthArgs args ≤ Extracted.nestingLimit)
    (hr : reserved g = false) (hs : c.sig g = some s) (hres : Resolved2L c.sig args) :
    Runs c off (Ends 0) (aParen (aEvalN f)) (.symbol g :: .kw .LeftParen :: (renderArgs args ++ [.kw .RightParen]))
      (typeArgs c.sig true s.1 args >>= fun _ => .ok (VT.ofName g))
      ((g, c.ln, off, .read) :: accsArgs c.sig c.ln (off + 2) args) pure := by
  obtain ⟨d, hg, hsd⟩ := sigOf_some hs
  rw [hsd]
  refine aParen_sym _ g c off _ (.of_eq
    (fun S hS => bind_at (aFunctionCall_some (aEvalN f) g _ S d hr (by rw [hS.2.1]; exact hg)) _) ?_)
  rw [bind_assoc']
  refine .logFirst (fun S => logAccess_eq ..) ?_
  rw [bind_assoc']
  refine .expect ?_
  rw [← bind_assoc' (aBindArgs _ _ _ _) (fun _ => expect .RightParen), bind_assoc']
  exact ((abind_run args hP d.args c _ f hd hn hres).bind.map fun _ => rfl).weaken fun _ _ => trivial

theorem AA2_call (g : Str) (args : List (Expr2 F)) (hP : ∀ x ∈ args, APStmt2 x) : AAStmt2 (.call g args) := by
  intro c off f hd hn _ hres
  rw [adepth_call] at hd hn
  simp only [Resolved2] at hres
  rw [render2_call]
  cases hs : c.sig g with
  | none =>
    rw [accs2_call_none _ _ _ _ _ hs, typeOf2_call_none_bind _ _ _ hs]
    exact acell_run g args hP c off f hd hn hres.1 hs hres.2
  | some s =>
    rw [accs2_call_some _ _ _ _ _ hs, typeOf2_call_some_bind _ _ _ hs]
    exact acall_run g args hP s c off f hd hn hres.1 hs hres.2

theorem amain2 (e : Expr2 F) : APStmt2 e ∧ ASStmt2 e ∧ AAStmt2 e := by
  suffices h : ∀ m (e : Expr2 F), sizeOf e ≤ m → APStmt2 e ∧ ASStmt2 e ∧ AAStmt2 e from h _ e (Nat.le_refl _)
  intro m
  induction m with
  | zero => intro e he; cases e <;> simp at he
  | succ m ih =>
    intro e he
    have atom : ∀ {e : Expr2 F}, AAStmt2 e → e.prec = 8 → APStmt2 e ∧ ASStmt2 e ∧ AAStmt2 e := fun hA hp =>
      ⟨AP2_atom _ hA hp, AS2_atom _ (AP2_atom _ hA hp) (by unfold lv2; omega), hA⟩
    cases e with
    | num x => exact atom (AA2_num x) rfl
    | str s => exact atom (AA2_str s) rfl
    | var v => exact atom (AA2_var v) rfl
    | paren x =>
      have hx := ih x (by simp only [Expr2.paren.sizeOf_spec] at he; omega)
      exact ⟨AP2_paren x hx.1, AS2_paren x hx.1, AA2_paren x hx.1⟩
    | bin op l r =>
      have hl := ih l (by simp only [Expr2.bin.sizeOf_spec] at he; omega)
      have hr := ih r (by simp only [Expr2.bin.sizeOf_spec] at he; omega)
      exact ⟨AP2_bin op l r hl.1 hl.2.1 hr.1, AS2_bin op l r hl.1 hl.2.1 hr.1, AA2_bin op l r⟩
    | un op x =>
      have hx := ih x (by simp only [Expr2.un.sizeOf_spec] at he; omega)
      have hP := AP2_un op x hx.1 hx.2.2
      exact ⟨hP, AS2_atom _ hP rfl, AA2_un op x⟩
    | abs x =>
      have hx := ih x (by simp only [Expr2.abs.sizeOf_spec] at he; omega)
      exact atom (AA2_abs x hx.1) rfl
    | int x =>
      have hx := ih x (by simp only [Expr2.int.sizeOf_spec] at he; omega)
      exact atom (AA2_int x hx.1) rfl
    | rnd x =>
      have hx := ih x (by simp only [Expr2.rnd.sizeOf_spec] at he; omega)
      exact atom (AA2_rnd x hx.1) rfl
    | cell name idx =>
      have hP : ∀ x ∈ idx, APStmt2 x := fun x hx =>
        (ih x (by have := List.sizeOf_lt_of_mem hx
                  simp only [Expr2.cell.sizeOf_spec] at he; omega)).1
      exact atom (AA2_cell name idx hP) rfl
    | call g args =>
      have hP : ∀ x ∈ args, APStmt2 x := fun x hx =>
        (ih x (by have := List.sizeOf_lt_of_mem hx
                  simp only [Expr2.call.sizeOf_spec] at he; omega)).1
      exact atom (AA2_call g args hP) rfl

theorem atier_run (e : Expr2 F) : APStmt2 e := (amain2 e).1

theorem aexpr_run (x : Expr2 F) (c : Ctx) (off f : Nat)
    (hd : adepth x + 1 ≤ f) (hn : c.nest + (adepth x + 1) ≤ Extracted.nestingLimit) (hres : Resolved2 c.sig x) :
    Runs c off (Ends 6) (aEvalN f).expr (render2 x) (typeOf2 c.sig x) (accs2 c.sig c.ln off x) pure :=
  aexpr_eq2 x (amain2 x).1 c off f hd hn hres

theorem aidx_run (es : List (Expr2 F)) (c : Ctx) (off f : Nat)
    (hd : adepthArgs es ≤ f) (hn : c.nest + adepthArgs es ≤ Extracted.nestingLimit) (hres : Resolved2L c.sig es) :
    Runs c off (fun _ => True) (aArrayIndex (aEvalN f)) (.kw .LeftParen :: (renderArgs es ++ [.kw .RightParen]))
      (typeIdx c.sig es) (accsArgs c.sig c.ln (off + 1) es) fun _ => pure es.length :=
  aidx2_run es (fun x _ => (amain2 x).1) c off f hd hn hres

end Abasic.Props.C06
