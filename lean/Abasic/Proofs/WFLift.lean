import Abasic.Proofs.Prims
import Abasic.Proofs.WF
import Abasic.Proofs.CallBody
/-
  `Good` lifted from the primitives (Proofs/WF.lean) through every function of
  Expr.lean (all `Good ER`); Stmt.lean and the knot `evalN` are in Proofs/WFStmt.lean.

  One proof looks at states: `good_userFunctionCall`.
-/
set_option linter.unusedSectionVars false

namespace Abasic.WF
open Abasic M
open Abasic.Hoare (IsFrame)

variable {F : Type}

section
variable {R : St F → St F → Prop} {α β : Type}

@[good] theorem good_get [IsFrame R] : Good R T (M.get : M F (St F)) :=
  fun s hs => ⟨hs, IsFrame.refl s, trivial⟩

@[good] theorem good_pure [IsFrame R] (a : α) : Good R T (pure a : M F α) :=
  Good.pure trivial

/-- a state transformer that touches nothing the invariant or the frames mention -/
def Inert (f : St F → St F) : Prop :=
  ∀ s, (f s).lines = s.lines ∧ (f s).loc = s.loc ∧ (f s).bp = s.bp ∧ (f s).stack = s.stack ∧
    (f s).loops = s.loops ∧ (f s).fns = s.fns ∧ (f s).data = s.data ∧ (f s).arrays = s.arrays ∧
    (f s).rng = s.rng ∧ (f s).nesting = s.nesting ∧ (f s).imm = s.imm

theorem good_modify_inert {f : St F → St F} (h : Inert f) : Good ER T (M.modify f) := by
  intro s hs
  obtain ⟨h1, h2, h3, h4, h5, h6, h7, h8, h9, h10, h11⟩ := h s
  exact ⟨hs.same h1 h2 h3 h4 h5 h6 h7 h8 h9 h10, er_same h10 h4 h6 h1 h11 h2, trivial⟩

theorem wf_inert {f : St F → St F} (h : Inert f) {s : St F} (hs : WFσ s) : WFσ (f s) := by
  obtain ⟨h1, h2, h3, h4, h5, h6, h7, h8, h9, h10, h11⟩ := h s
  exact hs.same h1 h2 h3 h4 h5 h6 h7 h8 h9 h10

end

macro "inert" : tactic => `(tactic| exact fun _ => ⟨rfl, rfl, rfl, rfl, rfl, rfl, rfl, rfl, rfl, rfl, rfl⟩)

/-! ### the tactic

  One step of `good_auto` follows the shape of the goal `Good R T m`: a bind, a `match`/`if`; a goal that is
  neither is `pure`, `M.get` or a call of one function, whose lemma (tagged `good`, or a hypothesis) `simp` finds
  by the head of `m`; a `fail` comes after that because its side condition wants `rfl`.  A bind rule or a `split`
  that does not apply is given up at once, the lookup only after `simp` has been over the whole term: hence the
  order.  The lemmas stated for `ER` serve at `SR` through `Good.sr`. -/

macro "good_step" : tactic => `(tactic| first
  | (with_reducible refine Good.bind (Q := T) ?_ (fun _ _ => ?_))
  | split
  | (simp only [good, *]; done)
  | ((with_reducible apply Good.fail) <;> rfl)
  | dsimp only)

macro "good_auto" : tactic => `(tactic| repeat' good_step)

section
variable [NumOps F]

variable {R : St F → St F → Prop} [IsFrame R]

@[good] theorem good_unop (o : UnOp) (v : Value F) : Good R T (liftE (o.eval v)) :=
  Good.liftE fun e h => by rw [ArrayL.unop_err h]; rfl

@[good] theorem good_binop (o : BinOp) (l r : Value F) : Good R T (liftE (o.eval l r)) :=
  Good.liftE fun e h => by rcases ArrayL.binop_err h with rfl | rfl <;> rfl

@[good] theorem good_coerce (name : Str) (d : DataElement F) : Good R T (liftE (Value.coerceFromData name d)) :=
  Good.liftE fun e h => by rw [ArrayL.coerce_err h]; rfl

end

section
variable [NumOps F]

@[good] theorem good_warn (msg : Str) : Good ER T (warn msg : M F Unit) := by
  unfold warn
  good_auto

@[good] theorem good_warnUndeclaredArray (name : Str) : Good ER T (warnUndeclaredArray name : M F Unit) := by
  unfold warnUndeclaredArray
  good_auto

variable {ev : Evals F}

@[good] theorem good_arrayIndexLoop (hev : Good ER T ev.expr) (n : Nat) (acc : List Nat) :
    Good ER T (arrayIndexLoop ev n acc) := by
  induction n generalizing acc with
  | zero => exact Good.fail rfl
  | succ n ih =>
    unfold arrayIndexLoop
    good_auto

@[good] theorem good_arrayIndex (hev : Good ER T ev.expr) : Good ER T (arrayIndex ev) := by
  unfold arrayIndex
  good_auto

@[good] theorem good_numberFunctionArg (hev : Good ER T ev.expr) : Good ER T (numberFunctionArg ev) := by
  unfold numberFunctionArg
  good_auto

@[good] theorem good_bindArgs (hev : Good ER T ev.expr) (arity : Nat) (args : List Str) (i : Nat)
    (acc : List (Str × Value F)) : Good ER T (bindArgs ev arity args i acc) := by
  induction args generalizing i acc with
  | nil => exact Good.pure trivial
  | cons a rest ih =>
    unfold bindArgs
    good_auto

omit [NumOps F] in
/-- `populate_error_location` puts an error at the DATA cursor or just before the cursor -/
theorem populate_loc {s : St F} (hs : WFσ s) {e : TErr} (he : ∀ loc, e.loc = some loc → LocOk s.lines loc) :
    ∀ loc, (s.populate e).loc = some loc → LocOk s.lines loc := by
  unfold St.populate
  split
  · exact he
  · split
    · intro loc hl
      simp only [St.dataLoc] at hl
      split at hl
      · cases hl
      · rename_i it hd
        simp only [Option.map_eq_some_iff] at hl
        obtain ⟨c, hc, rfl⟩ := hl
        exact hs.data it hd c (List.mem_of_getElem? hc)
    · intro loc hl
      simp only [Option.some.injEq] at hl
      subst hl
      intro n hn
      obtain ⟨ts, hg, hi⟩ := hs.loc n hn
      exact ⟨ts, hg, by show s.loc.idx - 1 ≤ ts.length; omega⟩

omit [NumOps F] in
theorem populate_eok {s : St F} (hs : WFσ s) {e : TErr} (he : EOk s.lines e) : EOk s.lines (s.populate e) :=
  ⟨by rw [St.populate_err]; exact he.plain, populate_loc hs he.loc⟩

/-- `evaluate_user_defined_function_call`: the function pushed is the one looked up, the
    frame popped is the one pushed, and the cursor ends where it was. -/
@[good] theorem good_userFunctionCall (hev : Good ER T ev.expr) (name : Str) :
    Good ER T (userFunctionCall ev name) := by
  rw [Proofs.XF.userFunctionCall_eq]
  refine Good.get_bind' fun s0 hs0 => ?_
  split
  · exact GoodAt.pure hs0 (IsFrame.refl _) trivial
  · rename_i d hd
    refine GoodAt.bind (Q := T) ((good_expect _).gat hs0 (IsFrame.refl _)) fun _ s1 hw1 hr1 _ _ => ?_
    refine GoodAt.bind (Q := T) ((good_bindArgs hev _ _ _ _).gat hw1 hr1) fun bindings s2 hw2 hr2 _ _ => ?_
    refine GoodAt.bind (Q := T) ((good_expect _).gat hw2 hr2) fun _ s3 hw3 hr3 _ _ => ?_
    have hfn : alGet name s3.fns = some d := by rw [hr3.fns]; exact hd
    unfold GoodAt
    rw [Proofs.XF.callBody_eq]
    split
    · exact ⟨hw3, hr3, eok_fail rfl⟩
    · rw [hfn]
      dsimp only
      have hw4 : WFσ { s3 with stack := { ret := s3.loc, vars := bindings } :: s3.stack,
                               loc := { line := some d.line, idx := d.idx } } := by
        refine { hw3 with stack := ?_, loc := hw3.fns _ (Props.C16.alGet_mem _ _ _ hfn) }
        intro f hf
        rcases List.mem_cons.mp hf with rfl | hf
        · exact hw3.loc
        · exact hw3.stack f hf
      -- the body keeps the stack (`ER`), so the frame popped is the one pushed: cursor and stack are those of `s3`
      have h5 := hev _ hw4
      have hpop : ∀ s5 : St F, WFσ s5 →
          ER { s3 with stack := { ret := s3.loc, vars := bindings } :: s3.stack,
                       loc := { line := some d.line, idx := d.idx } } s5 →
          s5.stack = { ret := s3.loc, vars := bindings } :: s3.stack ∧
          WFσ { s5 with stack := s3.stack, loc := s3.loc } ∧ ER s0 { s5 with stack := s3.stack, loc := s3.loc } := by
        intro s5 hw5 hr5
        have hst : s5.stack = { ret := s3.loc, vars := bindings } :: s3.stack := hr5.stack
        refine ⟨hst, { hw5 with stack := ?_, loc := ?_ }, ?_⟩
        · exact hw5.stack { ret := s3.loc, vars := bindings } (by rw [hst]; exact List.mem_cons_self ..)
        · intro f hf
          exact hw5.stack f (by rw [hst]; exact List.mem_cons_of_mem _ hf)
        · exact ⟨hr5.nesting.trans hr3.nesting, hr3.stack, hr5.fns.trans hr3.fns, hr5.lines.trans hr3.lines,
            hr5.imm.trans hr3.imm, hr3.line, hr3.idx⟩
      cases hres : ev.expr { s3 with stack := { ret := s3.loc, vars := bindings } :: s3.stack,
                                     loc := { line := some d.line, idx := d.idx } } with
      | ok v s5 =>
        rw [hres] at h5
        obtain ⟨hst, hw, hr⟩ := hpop s5 h5.1 h5.2.1
        simp only [hst]
        exact ⟨hw, hr, trivial⟩
      | err e s5 =>
        rw [hres] at h5
        obtain ⟨hst, hw, hr⟩ := hpop s5 h5.1 h5.2.1
        simp only [hst]
        exact ⟨hw, hr, populate_eok h5.1 h5.2.2⟩

@[good] theorem good_functionCall (hev : Good ER T ev.expr) (name : Str) : Good ER T (functionCall ev name) := by
  unfold functionCall
  good_auto

@[good] theorem good_term (hev : Good ER T ev.expr) : Good ER T (term ev) := by
  unfold term
  good_auto

@[good] theorem good_parenExpr (hev : Good ER T ev.expr) : Good ER T (parenExpr ev) := by
  unfold parenExpr
  good_auto

@[good] theorem good_unaryExpr (hev : Good ER T ev.expr) : Good ER T (unaryExpr ev) := by
  unfold unaryExpr
  good_auto

@[good] theorem good_levelLoop {sub : M F (Value F)} (hsub : Good ER T sub) (ops : Token F → Option BinOp)
    (n : Nat) (v : Value F) : Good ER T (levelLoop sub ops n v) := by
  induction n generalizing v with
  | zero => exact Good.fail rfl
  | succ n ih =>
    unfold levelLoop
    good_auto

@[good] theorem good_level {sub : M F (Value F)} (hsub : Good ER T sub) (ops : Token F → Option BinOp) :
    Good ER T (level sub ops) := by
  unfold level
  good_auto

@[good] theorem good_exprBody (hev : Good ER T ev.expr) : Good ER T (exprBody ev) := by
  unfold exprBody orExpr
  exact good_nested (good_level (good_level (good_level (good_level (good_level (good_level
    (good_unaryExpr hev) _) _) _) _) _) _)

end

end Abasic.WF
