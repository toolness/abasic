import Abasic.Proofs.Step
import Abasic.Proofs.ArrOk
/-
  C16 — the store invariant `StoreOk` (Proofs/ArrOk.lean) lifted through the evaluator.

  The frame `RS σ σ' := StoreOk σ → StoreOk σ'` is a `TopFrame` (Proofs/Step.lean).
  The one step that is not unconditional is the FN call: pushing a frame
  keeps `StoreOk` only for the typed bindings that `bindArgs` returns.
-/
set_option linter.unusedSectionVars false

namespace Abasic.Hoare
open Abasic M Abasic.Props.C16

variable {F : Type}

def RS (σ σ' : St F) : Prop := StoreOk σ → StoreOk σ'

instance : IsFrame (RS (F := F)) where
  refl _ := id
  trans h1 h2 := fun h => h2 (h1 h)

theorem rs_same {σ σ' : St F} (ha : σ'.arrays = σ.arrays) (hv : σ'.vars = σ.vars)
    (hs : σ'.stack = σ.stack) : RS σ σ' :=
  fun h => h.transfer ha hv (by rw [hs]; exact fun _ hf => hf)

theorem rs_sub {σ σ' : St F} (ha : σ'.arrays = σ.arrays) (hv : σ'.vars = σ.vars)
    (hs : ∀ f ∈ σ'.stack, f ∈ σ.stack) : RS σ σ' :=
  fun h => h.transfer ha hv hs

/-- a value postcondition carried through a bind -/
theorem respectsAt_bind_post {R : St F → St F → Prop} [IsFrame R] {α β : Type} {Q : α → Prop}
    {m : M F α} {f : α → M F β} {σ : St F}
    (hm : RespectsAt R m σ) (hq : ∀ a σ', m σ = .ok a σ' → Q a)
    (hf : ∀ a, Q a → Respects R (f a)) : RespectsAt R (m >>= f) σ := by
  show RespectsAt R (M.bindM m f) σ
  unfold RespectsAt M.bindM
  cases h : m σ with
  | ok a s =>
    have h1 := hm.1 a s h
    have hfa := (hf a (hq a s h)).at s
    constructor
    · intro b s' h'; exact IsFrame.trans h1 (hfa.1 b s' h')
    · intro e s' h'; exact IsFrame.trans h1 (hfa.2 e s' h')
  | err e s =>
    have h1 := hm.2 e s h
    constructor
    · intro b s' h'; cases h'
    · intro e' s' h'
      simp only [Res.err.injEq] at h'
      rw [← h'.2]; exact h1

namespace RelS

scoped macro_rules | `(tactic| respects_leaf) => `(tactic| exact rs_same rfl rfl rfl)

/-- `set_and_goto_immediate_line` may clear the stack, nothing else -/
theorem rs_setImmediate_state (σ : St F) (ts : List (Token F)) : RS σ (σ.setImmediate ts) := by
  refine rs_sub (σ := σ) (σ' := σ.setImmediate ts) rfl rfl ?_
  unfold St.setImmediate
  dsimp only
  split
  · intro f hf; cases hf
  · exact fun _ hf => hf

theorem rs_progBreak (σ : St F) : RS σ σ.progBreak := by
  unfold St.progBreak
  exact IsFrame.trans (b := { σ with bp := match σ.loc.line with | none => none | some n => some (n, σ.loc.idx) })
    (rs_same rfl rfl rfl) (rs_setImmediate_state _ _)

/-- FN call: the frame's bindings must be typed and have distinct names (`bindArgs_result` below supplies both) -/
theorem rs_pushFunctionCall (name : Str) (b : List (Str × Value F)) (hb : Keyed Kind b) :
    Respects RS (pushFunctionCall name b) :=
  respects_push b (fun _ _ _ h => .of_parts h.arrays h.vars (List.forall_mem_cons.mpr ⟨hb, h.frames⟩)) name

theorem rs_popFunctionCall : Respects RS (popFunctionCall (F := F)) :=
  respects_pop fun _ _ _ hs => rs_sub rfl rfl (by rw [hs]; exact fun g hg => List.mem_cons_of_mem _ hg)

/-- `Variables::set`: the check comes before the store -/
theorem rs_setVar (name : Str) (v : Value F) : Respects RS (setVar name v) := by
  unfold setVar
  by_cases hm : v.matchesName name = true
  · rw [if_pos hm]
    exact respects_modify fun σ h => .of_parts h.arrays (h.vars.alSet hm) h.frames
  · rw [if_neg hm]
    exact respects_fail _

/-- FOR: the loop is pushed, then the variable is type-checked, then stored —
    a `$` loop variable fails TYPE MISMATCH with the loop pushed but nothing stored. -/
theorem rs_startLoop (sym : Str) (a b c : F) : Respects RS (startLoop sym a b c) := by
  unfold startLoop
  have := rs_setVar (F := F)
  respects_tac

variable [NumOps F]

theorem rs_cstep {σ σ' : St F} (h : CStep σ σ') : RS σ σ' := by
  cases h <;> exact rs_same rfl rfl rfl

omit [NumOps F] in
/-- the bindings `bindArgs` returns are typed and have distinct names, whatever
    the argument expressions evaluate to (a mismatch is TYPE MISMATCH before the
    binding is recorded) -/
theorem bindArgs_result (ev : Evals F) (arity : Nat) (args : List Str) (i : Nat)
    (acc : List (Str × Value F)) (σ : St F) (r : List (Str × Value F)) (σ' : St F)
    (h : bindArgs ev arity args i acc σ = .ok r σ') (hk : Keyed Kind acc) : Keyed Kind r := by
  induction args generalizing i acc σ with
  | nil =>
    simp only [bindArgs, pure, M.pureM, Res.ok.injEq] at h
    rw [← h.1]; exact hk
  | cons a rest ih =>
    simp only [bindArgs, bind, M.bindM] at h
    cases hv : ev.expr σ with
    | err e s => simp only [hv] at h; cases h
    | ok v s1 =>
      simp only [hv] at h
      by_cases hm : v.matchesName a = true
      · simp only [hm, Bool.not_true, Bool.false_eq_true, ↓reduceIte] at h
        by_cases hc : i + 1 < arity
        · simp only [hc, ↓reduceIte] at h
          unfold M.bindM at h
          cases hx : expect (F := F) .Comma s1 with
          | err e s => simp only [hx] at h; cases h
          | ok u s2 =>
            simp only [hx] at h
            exact ih _ _ _ h (hk.alSet hm)
        · simp only [hc, ↓reduceIte] at h
          exact ih _ _ _ h (hk.alSet hm)
      · have hm' : v.matchesName a = false := by simpa using hm
        simp only [hm', Bool.not_false, ↓reduceIte, M.fail] at h
        cases h

/-- FN call: the frame pushed carries the typed bindings of `bindArgs`; it is
    popped again on both paths -/
theorem rs_callArgs (ev : Evals F) (he : Respects RS ev.expr) (name : Str) (d : FnDef) :
    Respects RS (callArgs ev name d) := by
  unfold callArgs
  refine respects_bind (walk_expect (cursorOf rs_cstep) _) fun _ => respects_of_at fun σ => ?_
  refine respectsAt_bind_post (Q := Keyed Kind)
    ((walk_bindArgs (cursorOf rs_cstep) ev he _ _ _ _).at σ)
    (fun b σ2 hb => bindArgs_result ev _ _ _ _ σ b σ2 hb .nil) ?_
  exact fun b hb => respects_bind (walk_expect (cursorOf rs_cstep) _) fun _ =>
    respects_callBody he (rs_pushFunctionCall name b hb) rs_popFunctionCall

/-- the store stays well-formed under every state update of the evaluator: a value is checked
    against the name before it is stored, an array keeps its shape when a cell is set, GOSUB pushes
    a frame without bindings -/
instance : TopFrame (RS (F := F)) where
  vstep h := by
    cases h with
    | newArray name k a hh hc => exact fun h => .of_parts (h.arrays.alSet (create_arrOk _ _ _ hc)) h.vars h.frames
    | _ => exact rs_same rfl rfl rfl
  cstep := rs_cstep
  nested := nested_of_blind fun _ _ => rs_same rfl rfl rfl
  call ev name d he := rs_callArgs ev he name d
  idx _ _ _ := rs_same rfl rfl rfl
  dstep h := by
    cases h with
    | setVar name v hm => exact fun h => .of_parts h.arrays (h.vars.alSet hm) h.frames
    | dim name l a hh hc => exact fun h => .of_parts (h.arrays.alSet (create_arrOk _ _ _ hc)) h.vars h.frames
    | setStr name dims cells i x hg hi | setNum name dims cells i x hg hi =>
      exact fun h => .of_parts (h.arrays.alSet ((h.arrays_ok _ _ (alGet_mem _ _ _ hg)).of_shape rfl List.length_set rfl))
        h.vars h.frames
    | _ => exact rs_same rfl rfl rfl
  gstep h := by
    cases h with
    | gosub n hc hh => exact fun h => .of_parts h.arrays h.vars (List.forall_mem_cons.mpr ⟨.nil, h.frames⟩)
    | ret f rest hs => exact rs_sub rfl rfl (by rw [hs]; exact fun g hg => List.mem_cons_of_mem _ hg)
    | _ => exact rs_same rfl rfl rfl
  tstep h := by
    cases h with
    | setImmediate ts => exact rs_setImmediate_state _ ts
    | brk => exact fun h => rs_progBreak _ (h.transfer rfl rfl fun _ hf => hf)
    | _ => exact rs_same rfl rfl rfl

omit [NumOps F] in
/-- RUN's reset (any store: the stack is emptied, variables and arrays kept) -/
theorem rs_runFromFirst (σ : St F) : RS σ σ.runFromFirst := by
  rw [St.runFromFirst_eq]
  exact rs_sub rfl rfl fun _ hf => nomatch hf

omit [NumOps F] in
theorem rs_setNumberedLine (σ : St F) (n : Nat) (ts : List (Token F)) : RS σ (σ.setNumberedLine n ts) := by
  refine rs_sub (σ := σ) (σ' := σ.setNumberedLine n ts) rfl rfl ?_
  unfold St.setNumberedLine St.setImmediate
  simp

theorem rs_hstep {σ σ' : St F} (h : HStep σ σ') : RS σ σ' := by
  cases h with
  | reset =>
    rw [St.runFromFirst_eq]
    exact fun _ => .of_parts .nil .nil fun _ h => nomatch h
  | store n ts => exact rs_setNumberedLine σ n ts
  | _ => exact rs_same rfl rfl rfl

/-- RUN starts from an empty store; storing a line empties the stack -/
instance : HostFrame (RS (F := F)) where
  hstep := rs_hstep

omit [NumOps F] in
theorem rs_randomize (seed : Nat) : Respects RS (randomize (F := F) seed) := by
  unfold randomize
  respects_tac

end RelS
end Abasic.Hoare
