import Abasic.Proofs.StmtLemmasG
import Abasic.Proofs.ExprLemmas
/-
  The statement-level refinement (Abasic/Props/C03Stmt.lean) for a state with an
  empty GOSUB stack: there `StmtG.Refines` says what `StmtL.Refines` says (and, of a
  failure, more), so every result is the one of Proofs/StmtLemmasG.lean.
-/
namespace Abasic.StmtL
open Abasic Abasic.Ref Abasic.ExprL M

variable {F : Type}

theorem quietG {σ : St F} (h : Quiet σ) : ExprG.Quiet σ := ExprG.quiet_of_nil h.1 h.2

/-- with nothing on the stack END has nothing to clear -/
theorem refines_of_nil {res : Res F Unit} {σ : St F} {after eol : Nat} {r : RResult F}
    (hs : r.ctl = .stop → σ.stack = []) (h : StmtG.Refines res σ after eol r) :
    Refines res σ after eol r := by
  unfold StmtG.Refines at h
  unfold Refines
  cases hc : r.ctl with
  | stop =>
    have hst : (if σ.bp.isNone then [] else σ.stack) = σ.stack := by rw [hs hc, ite_self]
    rw [hc, hst] at h
    exact h
  | jump n => rw [hc] at h; exact ⟨h.1, fun hh => let ⟨s, h1, h2, _⟩ := h.2 hh; ⟨s, h1, h2⟩⟩
  | error x => rw [hc] at h; exact let ⟨s, h1, h2, _⟩ := h; ⟨s, h1, h2⟩
  | _ => rw [hc] at h; exact h

variable [NumOps F]

theorem goto_run (m : Nat) (n : Nat) (σ : St F) (pre rest : List (Token F)) (after eol : Nat)
    (hAt : At σ pre (renderS (.gotoS m : RStmt F) ++ rest)) (htr : σ.tracing = false)
    (hround : NumOps.toU64 (NumOps.ofNat m : F) = m) :
    Refines (stmtBody (evalN n) σ) σ after eol (RStmt.exec σ.vars (.gotoS m)) :=
  refines_of_nil nofun (StmtG.goto_run m n σ pre rest after eol hAt htr hround)

theorem end_run (n : Nat) (σ : St F) (pre rest : List (Token F)) (after eol : Nat)
    (hAt : At σ pre (renderS (.endS : RStmt F) ++ rest)) (htr : σ.tracing = false)
    (hstack : σ.stack = []) :
    Refines (stmtBody (evalN n) σ) σ after eol (RStmt.exec σ.vars .endS) :=
  refines_of_nil (fun _ => hstack) (StmtG.end_run n σ pre rest after eol hAt htr)

theorem print_run (items : List (PItem F)) (n : Nat) (σ : St F) (pre rest : List (Token F)) (eol : Nat)
    (hAt : At σ pre (renderS (.printS items) ++ rest)) (hq : Quiet σ) (htr : σ.tracing = false)
    (hd : itemsDepth items ≤ n) (hn : σ.nesting + itemsDepth items ≤ Extracted.nestingLimit)
    (hsep : separated items = true) (hE : StmtEnd rest) :
    Refines (stmtBody (evalN n) σ) σ (pre.length + (renderS (.printS items)).length) eol
      (RStmt.exec σ.vars (.printS items)) :=
  refines_of_nil (fun _ => hq.1) (StmtG.print_run items n σ pre rest eol hAt (quietG hq) htr hd hn hsep hE)

theorem if_cond (c : Expr F) (n : Nat) (σ : St F) (pre post : List (Token F))
    (hAt : At σ pre (.kw .If :: (render c ++ .kw .Then :: post))) (hq : Quiet σ)
    (htr : σ.tracing = false) (hd : depth c + 1 ≤ n)
    (hn : σ.nesting + (depth c + 1) ≤ Extracted.nestingLimit) :
    match foldE (getVar σ) c with
    | .ok v => ∃ r, σ.reads < r ∧
        stmtBody (evalN n) σ = ifRest (evalN n) v.toBool (mv σ (1 + (render c).length + 1) r)
    | .error x => ∃ σ', stmtBody (evalN n) σ = .err { err := x } σ' ∧ σ'.nesting = σ.nesting := by
  have h := StmtG.if_cond c n σ pre post hAt (quietG hq) htr hd hn
  cases hev : foldE (getVar σ) c with
  | ok v => rw [hev] at h; exact h
  | error x => rw [hev] at h; exact let ⟨s, h1, h2, _⟩ := h; ⟨s, h1, h2⟩

theorem stmt_run (s : RStmt F) (n : Nat) (σ : St F) (pre rest : List (Token F))
    (hAt : At σ pre (renderS s ++ rest)) (hq : Quiet σ) (htr : σ.tracing = false) (hNE : NoElseLine σ)
    (hd : sdepth s ≤ n) (hn : σ.nesting + sdepth s ≤ Extracted.nestingLimit) (hcov : s.Covered)
    (hE : EndFor s rest) :
    Refines (stmtBody (evalN n) σ) σ (pre.length + (renderS s).length)
      (pre ++ (renderS s ++ rest)).length (RStmt.exec σ.vars s) :=
  refines_of_nil (fun _ => hq.1) (StmtG.stmt_run s n σ pre rest hAt (quietG hq) htr hNE hd hn hcov hE)

end Abasic.StmtL
