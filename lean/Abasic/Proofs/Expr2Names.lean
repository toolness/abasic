import Abasic.Proofs.Builtins
/-
  Helper definitions and lemmas for Abasic/Props/C02Names.lean:
  what a term `name ( … )` MEANS in a state (`resolve`), and the proof that the
  evaluator's `term` follows exactly that table (`term_resolves`); a name is
  that of a built-in (`Builtin.name`) or not reserved (`name_cases`), and every
  case analysis on a name goes through that;
  then `normalize` (trees rewritten into what `resolve` says), which keeps the
  rendering (`render2_normalize`) and makes a tree `Resolved` (`resolved_normalize`).
-/

namespace Abasic.Names
open Abasic Abasic.Ref M Abasic.ExprL Abasic.ExprL2

variable {F : Type}

/-- what `name ( … )` means -/
inductive Resolution where
  | builtin (b : Builtin)
  | call (d : FnDef)
  | cell
  deriving DecidableEq, Repr

/-- The meaning of `name ( … )` given the function table `fns`: the built-in names
    first, then the defined functions, else an array element. -/
def resolveIn (fns : List (Str × FnDef)) (name : Str) : Resolution :=
  if name == Extracted.builtinAbs.toList then .builtin .abs
  else if name == Extracted.builtinInt.toList then .builtin .int
  else if name == Extracted.builtinRnd.toList then .builtin .rnd
  else
    match alGet name fns with
    | some d => .call d
    | none => .cell

def resolve (σ : St F) (name : Str) : Resolution := resolveIn σ.fns name

theorem resolveIn_name (fns : List (Str × FnDef)) (b : Builtin) : resolveIn fns b.name = .builtin b := by
  cases b <;> rfl

variable [NumOps F]

def callM (ev : Evals F) (name : Str) (d : FnDef) : M F (Value F) := do
  expect .LeftParen
  let bindings ← bindArgs ev d.args.length d.args 0 []
  expect .RightParen
  pushFunctionCall name bindings
  match ← attempt ev.expr with
  | .ok v =>
    popFunctionCall
    pure v
  | .error e =>
    let s ← get
    let e := s.populate e
    popFunctionCall
    throw e

/-- a read of the array `name` (which creates an undeclared array) -/
def cellM' (ev : Evals F) (name : Str) : M F (Value F) := do
  let idx ← arrayIndex ev
  warnUndeclaredArray name
  arrayGet name idx

/-- what the evaluator does for each resolution, from the state with the cursor on `(` -/
def meaning (ev : Evals F) (name : Str) : Resolution → M F (Value F)
  | .builtin b => builtinM ev b
  | .call d => callM ev name d
  | .cell => cellM' ev name

omit [NumOps F] in
theorem resolveIn_unreserved (fns : List (Str × FnDef)) (name : Str) (h : reserved name = false) :
    resolveIn fns name = match alGet name fns with
      | some d => .call d
      | none => .cell := by
  unfold reserved at h
  simp only [Bool.or_eq_false_iff] at h
  unfold resolveIn
  simp only [h.1.1, h.1.2, h.2, Bool.false_eq_true, ↓reduceIte]

theorem builtinM_eq (ev : Evals F) (b : Builtin) : builtinM ev b = numberFunctionArg ev >>= b.after := by
  cases b <;> rfl

theorem functionCall_resolves (ev : Evals F) (name : Str) (σ : St F) :
    functionCall ev name σ =
      match resolveIn σ.fns name with
      | .builtin b => (builtinM ev b >>= fun v => pure (some v)) σ
      | .call d => (callM ev name d >>= fun v => pure (some v)) σ
      | .cell => .ok none σ := by
  rcases name_cases name with ⟨b, rfl⟩ | hr
  · rw [resolveIn_name, functionCall_name]
    show _ = (builtinM ev b >>= fun v => pure (some v)) σ
    rw [builtinM_eq, bind_bind]
  rw [resolveIn_unreserved _ _ hr, functionCall_unreserved ev name hr]
  unfold userFunctionCall
  simp only [bind, M.bindM, M.get]
  cases hd : alGet name σ.fns with
  | none => rfl
  | some d =>
    simp only [callM, bind, M.bindM, pure, M.pureM]
    cases expect Kw.LeftParen σ with
    | err e s => rfl
    | ok u s =>
      dsimp only
      cases bindArgs ev d.args.length d.args 0 [] s with
      | err e s => rfl
      | ok b s =>
        dsimp only
        cases expect Kw.RightParen s with
        | err e s => rfl
        | ok u s =>
          dsimp only
          cases pushFunctionCall name b s with
          | err e s => rfl
          | ok u s =>
            dsimp only
            cases attempt ev.expr s with
            | err e s => rfl
            | ok r s =>
              cases r with
              | ok v =>
                dsimp only [M.bindM]
                cases popFunctionCall s <;> rfl
              | error e =>
                dsimp only [M.get, M.bindM]
                cases popFunctionCall s <;> rfl

theorem term_resolves (ev : Evals F) (σ : St F) (pre rest : List (Token F)) (name : Str)
    (hAt : At σ pre (.symbol name :: .kw .LeftParen :: rest)) :
    term ev σ = meaning ev name (resolve σ name) (mv σ 1 (σ.reads + 1 + 1)) := by
  have hAt1 := at_mv1 hAt (σ.reads + 1)
  unfold term
  rw [bind_ok (nextUnwrapped_eq hAt)]
  simp only
  rw [bind_ok (peekIsKw_cons .LeftParen hAt1), mv_mv]
  simp only [mv_reads, Nat.add_zero]
  have hk : (Token.kw (F := F) Kw.LeftParen).isKw Kw.LeftParen = true := rfl
  simp only [hk, ↓reduceIte]
  have hfc := functionCall_resolves ev name (mv σ 1 (σ.reads + 1 + 1))
  have hfns : (mv σ 1 (σ.reads + 1 + 1)).fns = σ.fns := rfl
  rw [hfns] at hfc
  unfold resolve
  cases hr : resolveIn σ.fns name with
  | builtin b =>
    rw [hr] at hfc
    simp only [meaning]
    simp only [bind, M.bindM] at hfc ⊢
    rw [hfc]
    cases builtinM ev b (mv σ 1 (σ.reads + 1 + 1)) <;> rfl
  | call d =>
    rw [hr] at hfc
    simp only [meaning]
    simp only [bind, M.bindM] at hfc ⊢
    rw [hfc]
    cases callM ev name d (mv σ 1 (σ.reads + 1 + 1)) <;> rfl
  | cell =>
    rw [hr] at hfc
    simp only [meaning]
    simp only [bind, M.bindM] at hfc ⊢
    rw [hfc]
    rfl

omit [NumOps F]

/-- the node `name ( args )` as the evaluator reads it, given the (spec) function table.  A built-in name
    with no or several arguments is a syntax error for the evaluator; it is left as it is — see `Arity1`. -/
def resolveNode (fns : List (Str × FnDefSpec F)) (name : Str) (args : List (Expr2 F)) : Expr2 F :=
  if name == Extracted.builtinAbs.toList then
    (match args with
     | [e] => .abs e
     | _ => .cell name args)
  else if name == Extracted.builtinInt.toList then
    (match args with
     | [e] => .int e
     | _ => .cell name args)
  else if name == Extracted.builtinRnd.toList then
    (match args with
     | [e] => .rnd e
     | _ => .cell name args)
  else
    match alGet name fns with
    | some _ => .call name args
    | none => .cell name args

theorem resolveNode_name (fns : List (Str × FnDefSpec F)) (b : Builtin) (args : List (Expr2 F)) :
    resolveNode fns b.name args = match args with
      | [e] => b.node e
      | _ => .cell b.name args := by
  cases b <;> rfl

theorem resolveNode_unreserved (fns : List (Str × FnDefSpec F)) {name : Str} (args : List (Expr2 F))
    (h : reserved name = false) :
    resolveNode fns name args = match alGet name fns with
      | some _ => .call name args
      | none => .cell name args := by
  unfold reserved at h
  simp only [Bool.or_eq_false_iff] at h
  unfold resolveNode
  simp only [h.1.1, h.1.2, h.2, Bool.false_eq_true, ↓reduceIte]

mutual
def normalize (fns : List (Str × FnDefSpec F)) : Expr2 F → Expr2 F
  | .num x => .num x
  | .str s => .str s
  | .var n => .var n
  | .un op e => .un op (normalize fns e)
  | .bin op l r => .bin op (normalize fns l) (normalize fns r)
  | .paren e => .paren (normalize fns e)
  | .abs e => .abs (normalize fns e)
  | .int e => .int (normalize fns e)
  | .rnd e => .rnd (normalize fns e)
  | .cell name idx => resolveNode fns name (normalizeL fns idx)
  | .call f args => resolveNode fns f (normalizeL fns args)
termination_by e => sizeOf e
def normalizeL (fns : List (Str × FnDefSpec F)) : List (Expr2 F) → List (Expr2 F)
  | [] => []
  | e :: es => normalize fns e :: normalizeL fns es
termination_by es => sizeOf es
end

def normFns (fns : List (Str × FnDefSpec F)) : List (Str × FnDefSpec F) :=
  fns.map fun p => (p.1, { params := p.2.params, body := normalize fns p.2.body })

def normEnv (env : RefEnv F) : RefEnv F := { env with fns := normFns env.fns }

mutual
/-- a node named like a built-in has exactly one argument (anything else is a
    syntax error for the evaluator: `ABS ( )`, `ABS ( 1 , 2 )`) -/
def Arity1 : Expr2 F → Prop
  | .num _ => True
  | .str _ => True
  | .var _ => True
  | .un _ e => Arity1 e
  | .bin _ l r => Arity1 l ∧ Arity1 r
  | .paren e => Arity1 e
  | .abs e => Arity1 e
  | .int e => Arity1 e
  | .rnd e => Arity1 e
  | .cell name idx => (reserved name = true → idx.length = 1) ∧ Arity1L idx
  | .call f args => (reserved f = true → args.length = 1) ∧ Arity1L args
def Arity1L : List (Expr2 F) → Prop
  | [] => True
  | e :: es => Arity1 e ∧ Arity1L es
end

theorem normalizeL_length (fns : List (Str × FnDefSpec F)) (es : List (Expr2 F)) :
    (normalizeL fns es).length = es.length := by
  induction es with
  | nil => rw [normalizeL]
  | cons e es ih => rw [normalizeL, List.length_cons, List.length_cons, ih]

theorem resolveNode_prec (fns : List (Str × FnDefSpec F)) (name : Str) (args : List (Expr2 F)) :
    (resolveNode fns name args).prec = 8 := by
  rcases name_cases name with ⟨b, rfl⟩ | hr
  · rw [resolveNode_name]; split <;> cases b <;> rfl
  · rw [resolveNode_unreserved fns args hr]; split <;> rfl

theorem render2_resolveNode (fns : List (Str × FnDefSpec F)) (name : Str) (args : List (Expr2 F)) :
    render2 (resolveNode fns name args) =
      .symbol name :: .kw .LeftParen :: (renderArgs args ++ [.kw .RightParen]) := by
  rcases name_cases name with ⟨b, rfl⟩ | hr
  · rw [resolveNode_name]
    split
    · rw [b.render2_node, renderArgs_one]
    · rw [render2_cell]
  · rw [resolveNode_unreserved fns args hr]
    split
    · rw [render2_call]
    · rw [render2_cell]

theorem prec_normalize (fns : List (Str × FnDefSpec F)) (e : Expr2 F) : (normalize fns e).prec = e.prec := by
  cases e <;> rw [normalize] <;> first | rfl | exact resolveNode_prec _ _ _

theorem render2_fixP2_congr (p : Nat) (a b : Expr2 F) (hp : a.prec = b.prec) (hr : render2 a = render2 b) :
    render2 (fixP2 p a) = render2 (fixP2 p b) := by
  unfold fixP2
  rw [hp]
  split
  · rw [render2_paren, render2_paren, hr]
  · exact hr

mutual
theorem render2_normalize (fns : List (Str × FnDefSpec F)) : ∀ e : Expr2 F, render2 (normalize fns e) = render2 e
  | .num x => by rw [normalize]
  | .str s => by rw [normalize]
  | .var n => by rw [normalize]
  | .un op e => by
    rw [normalize, render2_un, render2_un]
    exact congrArg _ (render2_fixP2_congr 8 _ _ (prec_normalize fns e) (render2_normalize fns e))
  | .bin op l r => by
    rw [normalize, render2_bin, render2_bin,
      render2_fixP2_congr _ _ _ (prec_normalize fns l) (render2_normalize fns l),
      render2_fixP2_congr _ _ _ (prec_normalize fns r) (render2_normalize fns r)]
  | .paren e => by rw [normalize, render2_paren, render2_paren, render2_normalize fns e]
  | .abs e => by rw [normalize, render2_abs, render2_abs, render2_normalize fns e]
  | .int e => by rw [normalize, render2_int, render2_int, render2_normalize fns e]
  | .rnd e => by rw [normalize, render2_rnd, render2_rnd, render2_normalize fns e]
  | .cell name idx => by rw [normalize, render2_resolveNode, render2_cell, renderArgs_normalizeL fns idx]
  | .call f args => by rw [normalize, render2_resolveNode, render2_call, renderArgs_normalizeL fns args]
theorem renderArgs_normalizeL (fns : List (Str × FnDefSpec F)) :
    ∀ es : List (Expr2 F), renderArgs (normalizeL fns es) = renderArgs es
  | [] => by rw [normalizeL]
  | [e] => by rw [normalizeL, normalizeL, renderArgs_one, renderArgs_one, render2_normalize fns e]
  | e :: e' :: es => by
    have h := renderArgs_normalizeL fns (e' :: es)
    have e1 : normalizeL fns (e :: e' :: es) = normalize fns e :: normalizeL fns (e' :: es) := by rw [normalizeL]
    have e2 : normalizeL fns (e' :: es) = normalize fns e' :: normalizeL fns es := by rw [normalizeL]
    rw [e1, e2, renderArgs_cons, ← e2, h, render2_normalize fns e, renderArgs_cons]
end

theorem alGet_map {α β : Type} (g : α → β) (name : Str) (l : List (Str × α)) :
    alGet name (l.map fun p => (p.1, g p.2)) = (alGet name l).map g := by
  induction l with
  | nil => rfl
  | cons p ps ih =>
    obtain ⟨k, v⟩ := p
    simp only [List.map_cons, alGet]
    split
    · rfl
    · exact ih

theorem alGet_normFns (fns : List (Str × FnDefSpec F)) (name : Str) :
    alGet name (normFns fns) =
      (alGet name fns).map fun d => { params := d.params, body := normalize fns d.body } := by
  unfold normFns
  exact alGet_map (fun d : FnDefSpec F => ({ params := d.params, body := normalize fns d.body } : FnDefSpec F)) name fns

theorem resolved_resolveNode (G fns : List (Str × FnDefSpec F)) (name : Str) (args : List (Expr2 F))
    (hG : ∀ nm, alGet nm fns = none → alGet nm G = none)
    (har : reserved name = true → args.length = 1) (hargs : ResolvedL G args) :
    Resolved G (resolveNode fns name args) := by
  rcases name_cases name with ⟨b, rfl⟩ | hr
  · rw [resolveNode_name]
    match args, har (reserved_name b) with
    | [e], _ =>
      have he : Resolved G e := by simpa only [ResolvedL, and_true] using hargs
      cases b <;> simpa only [Builtin.node, Resolved] using he
  · rw [resolveNode_unreserved fns args hr]
    cases hd : alGet name fns with
    | some d => simp only [Resolved]; exact ⟨hr, hargs⟩
    | none => simp only [Resolved]; exact ⟨hr, hG name hd, hargs⟩

mutual
theorem resolved_normalize (G fns : List (Str × FnDefSpec F))
    (hG : ∀ nm, alGet nm fns = none → alGet nm G = none) :
    ∀ e : Expr2 F, Arity1 e → Resolved G (normalize fns e)
  | .num x, _ => by rw [normalize]; simp only [Resolved]
  | .str s, _ => by rw [normalize]; simp only [Resolved]
  | .var n, _ => by rw [normalize]; simp only [Resolved]
  | .un op e, h => by
    rw [normalize]; simp only [Resolved, Arity1] at h ⊢; exact resolved_normalize G fns hG e h
  | .bin op l r, h => by
    rw [normalize]; simp only [Resolved, Arity1] at h ⊢
    exact ⟨resolved_normalize G fns hG l h.1, resolved_normalize G fns hG r h.2⟩
  | .paren e, h => by
    rw [normalize]; simp only [Resolved, Arity1] at h ⊢; exact resolved_normalize G fns hG e h
  | .abs e, h => by
    rw [normalize]; simp only [Resolved, Arity1] at h ⊢; exact resolved_normalize G fns hG e h
  | .int e, h => by
    rw [normalize]; simp only [Resolved, Arity1] at h ⊢; exact resolved_normalize G fns hG e h
  | .rnd e, h => by
    rw [normalize]; simp only [Resolved, Arity1] at h ⊢; exact resolved_normalize G fns hG e h
  | .cell name idx, h => by
    rw [normalize]; simp only [Arity1] at h
    exact resolved_resolveNode G fns name _ hG (by rw [normalizeL_length]; exact h.1)
      (resolvedL_normalizeL G fns hG idx h.2)
  | .call f args, h => by
    rw [normalize]; simp only [Arity1] at h
    exact resolved_resolveNode G fns f _ hG (by rw [normalizeL_length]; exact h.1)
      (resolvedL_normalizeL G fns hG args h.2)
theorem resolvedL_normalizeL (G fns : List (Str × FnDefSpec F))
    (hG : ∀ nm, alGet nm fns = none → alGet nm G = none) :
    ∀ es : List (Expr2 F), Arity1L es → ResolvedL G (normalizeL fns es)
  | [], _ => by rw [normalizeL]; simp only [ResolvedL]
  | e :: es, h => by
    rw [normalizeL]; simp only [ResolvedL, Arity1L] at h ⊢
    exact ⟨resolved_normalize G fns hG e h.1, resolvedL_normalizeL G fns hG es h.2⟩
end

end Abasic.Names
