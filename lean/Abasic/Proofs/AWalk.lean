import Abasic.Analyzer
import Abasic.Proofs.Cursor
import Abasic.Proofs.WFAttr
/-
  One walk through the analyzer's evaluator (the counterpart of Proofs/Walk.lean).

  What is proved about every function of the analyzer says: a predicate on computations holds of the
  cursor operations (of the one operation `Cur.curOp f` they all are) and of the analyzer's own primitives and is kept by `pure` and `>>=`; hence it
  holds of every function.  Two things are not uniform and are part of the interface: a location handed
  out by `prevLoc` may come with a fact (`L`) that `logAccess` asks for; and the functions that loop or
  recurse are hypotheses of the loop-free layer (`EParts`, `Parts`), so that a notion for which running
  out of budget is not fine brings its own argument for them, while all others (`Uniform`) get them by
  induction.  Instances: Proofs/AnalyzerKeeps.lean, AnalyzerInv.lean, BudgetAnalyzer.lean.
-/
set_option linter.unusedSectionVars false

namespace Abasic.AWalk
open Abasic M

variable {F : Type} [NumOps F]

structure Rules (F : Type) [NumOps F] where
  P : ∀ {α : Type}, M F α → Prop
  L : Loc → Prop
  pure : ∀ {α : Type} (a : α), P (Pure.pure a : M F α)
  bind : ∀ {α β : Type} {m : M F α} {f : α → M F β}, P m → (∀ a, P (f a)) → P (m >>= f)
  get_bind : ∀ {β : Type} {f : St F → M F β}, (∀ s, P (f s)) → P (M.get >>= f)
  unexpectedToken : ∀ {α : Type}, P (M.fail (.syntax .unexpectedToken) : M F α)
  undefinedStatement : ∀ {α : Type}, P (M.fail .undefinedStatement : M F α)
  curOp : ∀ {α : Type} {f : Loc → Option (Token F) → Bool × Except TErr α}, Cur.Op f → P (Cur.curOp f)
  lineBudget : P (lineBudget (F := F))
  prevLoc_bind : ∀ {β : Type} {f : Loc → M F β}, (∀ loc, L loc → P (f loc)) → P (prevLoc >>= f)
  logAccess : ∀ sym loc a, L loc → P (logAccess (F := F) sym loc a)
  check : ∀ a b, P (VT.check (F := F) a b)
  restoreData : P (M.modify fun s : St F => { s with data := none })

attribute [awalk] Rules.lineBudget Rules.check Rules.restoreData Rules.pure Rules.unexpectedToken Rules.undefinedStatement

/-- One step, by the shape of the computation: a case split; a leaf (`pure`, the two errors), a call of a single
    function or a computation a hypothesis speaks of, looked up among the `awalk` lemmas and the hypotheses; a bind
    (behind `prevLoc` and `get` the continuation learns what was read).  `split` gives up at once where there is
    nothing to split and the lookup does not, hence the order; the lookup stands before the binds because some
    lemmas are about a bind as a whole (`walk_aParseLValue_bind`). -/
macro "awalk_step" : tactic => `(tactic| first
  | split
  | (simp only [awalk, *]; done)
  | (with_reducible apply Rules.prevLoc_bind; intro _ _)
  | (with_reducible apply Rules.get_bind; intro _)
  | with_reducible refine Rules.bind _ ?_ fun _ => ?_
  | (with_reducible apply Rules.logAccess; assumption)
  | dsimp only)

macro "awalk" : tactic => `(tactic| repeat' awalk_step)

structure EParts (W : Rules F) (ev : AEvals F) : Prop where
  expr : W.P ev.expr
  arrayIndex : W.P (aArrayIndex ev)

structure Parts (W : Rules F) (ev : AEvals F) : Prop extends EParts W ev where
  nestedStmt : W.P (nested ev.stmt)

attribute [awalk] EParts.expr EParts.arrayIndex Parts.nestedStmt Parts.toEParts

section leaves
variable (W : Rules F)

@[awalk] theorem walk_peek : W.P (peek (F := F)) := Cur.peek_eq ▸ W.curOp Cur.op_peek
@[awalk] theorem walk_next : W.P (next (F := F)) := Cur.next_eq ▸ W.curOp Cur.op_next
@[awalk] theorem walk_hasNext : W.P (hasNext (F := F)) := Cur.hasNext_eq ▸ W.curOp Cur.op_hasNext
@[awalk] theorem walk_nextUnwrapped : W.P (nextUnwrapped (F := F)) := Cur.nextUnwrapped_eq ▸ W.curOp Cur.op_nextUnwrapped
@[awalk] theorem walk_expect (k : Kw) : W.P (expect (F := F) k) := Cur.expect_eq k ▸ W.curOp (Cur.op_expect k)
@[awalk] theorem walk_accept (k : Kw) : W.P (accept (F := F) k) := Cur.accept_eq k ▸ W.curOp (Cur.op_accept k)
@[awalk] theorem walk_peekIsKw (k : Kw) : W.P (peekIsKw (F := F) k) := Cur.peekIsKw_eq k ▸ W.curOp (Cur.op_peekIsKw k)
@[awalk] theorem walk_tryNext {α : Type} (f : Token F → Option α) : W.P (tryNext f) :=
  Cur.tryNext_eq f ▸ W.curOp (Cur.op_tryNext f)

@[awalk] theorem walk_checkNumber (a : VT) : W.P (VT.checkNumber (F := F) a) := W.check a .num

@[awalk] theorem walk_aAssignValue (lv : ALValue) (r : VT) (hl : W.L lv.loc) : W.P (aAssignValue (F := F) lv r) := by
  unfold aAssignValue; awalk

@[awalk] theorem walk_aGotoOrGosub : W.P (aGotoOrGosub (F := F)) := by unfold aGotoOrGosub; awalk

@[awalk] theorem walk_aNext : W.P (aNext (F := F)) := by unfold aNext; awalk

end leaves

section expr
variable (W : Rules F) {ev : AEvals F} (h : EParts W ev)
include h

@[awalk] theorem walk_aNumberFunctionArg : W.P (aNumberFunctionArg ev) := by unfold aNumberFunctionArg; awalk

@[awalk] theorem walk_aBindArgs (arity : Nat) (l : List Str) (i : Nat) : W.P (aBindArgs ev arity l i) := by
  induction l generalizing i with
  | nil => unfold aBindArgs; awalk
  -- the recursive call falls to `ih`: the `*` of `simp only [awalk, *]` in `awalk_step` rewrites with it, at `i + 1`
  | cons a rest ih => unfold aBindArgs; awalk

@[awalk] theorem walk_aUserFunctionCall (name : Str) (loc : Loc) (hl : W.L loc) :
    W.P (aUserFunctionCall ev name loc) := by
  unfold aUserFunctionCall; awalk

@[awalk] theorem walk_aFunctionCall (name : Str) (loc : Loc) (hl : W.L loc) : W.P (aFunctionCall ev name loc) := by
  unfold aFunctionCall; awalk

@[awalk] theorem walk_aTerm : W.P (aTerm ev) := by unfold aTerm; awalk

@[awalk] theorem walk_aParen : W.P (aParen ev) := by unfold aParen; awalk

@[awalk] theorem walk_aUnary : W.P (aUnary ev) := by unfold aUnary; awalk

@[awalk] theorem walk_aOptionalArrayIndex : W.P (aOptionalArrayIndex ev) := by unfold aOptionalArrayIndex; awalk

@[awalk] theorem walk_aAssignment (name : Str) : W.P (aAssignment ev name) := by unfold aAssignment; awalk

@[awalk] theorem walk_aLet : W.P (aLet ev) := by unfold aLet; awalk

@[awalk] theorem walk_aParseLValue : W.P (aParseLValue ev) := by unfold aParseLValue; awalk

omit h in
theorem aParseLValue_bind_eq {β : Type} (f : ALValue → M F β) :
    (aParseLValue ev >>= f) = (do
      match ← next with
      | some (.symbol name) =>
        let loc ← prevLoc
        let arity ← aOptionalArrayIndex ev
        f { name := name, loc := loc, arity := arity }
      | _ => fail (.syntax .unexpectedToken)) := by
  funext σ
  show M.bindM (M.bindM next _) f σ = M.bindM next _ σ
  unfold M.bindM
  cases next σ with
  | err e s => rfl
  | ok t s =>
    cases t with
    | none => rfl
    | some tk =>
      cases tk with
      | symbol name =>
        show M.bindM (M.bindM prevLoc _) f s = M.bindM prevLoc _ s
        unfold M.bindM
        cases prevLoc s with
        | err e s1 => rfl
        | ok loc s1 =>
          show M.bindM (M.bindM (aOptionalArrayIndex ev) _) f s1 = M.bindM (aOptionalArrayIndex ev) _ s1
          unfold M.bindM
          cases aOptionalArrayIndex ev s1 <;> rfl
      | _ => rfl

theorem walk_aParseLValue_bind {β : Type} {f : ALValue → M F β} (hf : ∀ lv, W.L lv.loc → W.P (f lv)) :
    W.P (aParseLValue ev >>= f) := by
  rw [aParseLValue_bind_eq]
  awalk

/-- DIM and INPUT: an l-value, logged -/
@[awalk] theorem walk_logLValue (k : Access) :
    W.P (do let lv ← aParseLValue ev; logAccess lv.name lv.loc k : M F Unit) :=
  walk_aParseLValue_bind W h fun _ hl => W.logAccess _ _ _ hl

@[awalk] theorem walk_aFor : W.P (aFor ev) := by unfold aFor; awalk

end expr

section stmt
variable (W : Rules F) {ev : AEvals F} (h : Parts W ev)
include h

@[awalk] theorem walk_aStatementOrGoto : W.P (aStatementOrGoto ev) := by unfold aStatementOrGoto; awalk

@[awalk] theorem walk_aIf : W.P (aIf ev) := by unfold aIf; awalk

theorem walk_aStmtK (hread : W.P (lineBudget >>= fun b => aReadLoop ev b))
    (hprint : W.P (lineBudget >>= fun b => aPrintLoop ev b)) (hdef : W.P (aDef ev)) :
    ∃ k : Option (Token F) → M F Unit, aStmtBody ev = next >>= k ∧ ∀ o, W.P (k o) := by
  refine ⟨_, rfl, fun o => ?_⟩
  awalk

theorem walk_aStmtBody (hread : W.P (lineBudget >>= fun b => aReadLoop ev b))
    (hprint : W.P (lineBudget >>= fun b => aPrintLoop ev b)) (hdef : W.P (aDef ev)) : W.P (aStmtBody ev) := by
  obtain ⟨k, hk, hP⟩ := walk_aStmtK W h hread hprint hdef
  rw [hk]
  exact W.bind (walk_next W) hP

end stmt

structure Uniform (F : Type) [NumOps F] extends Rules F where
  outOfFuel : ∀ {α : Type}, P (M.fail .outOfFuel : M F α)
  nested : ∀ {α : Type} {m : M F α}, P m → P (Abasic.nested m)

section loops
variable (W : Uniform F) (ev : AEvals F) (he : W.P ev.expr)
include he

@[awalk] theorem walk_aArrayIndexLoop (n arity : Nat) : W.P (aArrayIndexLoop ev n arity) := by
  induction n generalizing arity with
  | zero => exact W.outOfFuel
  | succ n ih => unfold aArrayIndexLoop; awalk

@[awalk] theorem walk_aArrayIndex : W.P (aArrayIndex ev) := by unfold aArrayIndex; awalk

theorem eparts : EParts W.toRules ev := ⟨he, walk_aArrayIndex W ev he⟩

omit he in
@[awalk] theorem walk_aLevelLoop {sub : M F VT} (hsub : W.P sub) (ops : Token F → Option BinOp) (tier : ATier)
    (n : Nat) (v : VT) : W.P (aLevelLoop sub ops tier n v) := by
  induction n generalizing v with
  | zero => exact W.outOfFuel
  | succ n ih => unfold aLevelLoop; awalk

omit he in
@[awalk] theorem walk_aLevel {sub : M F VT} (hsub : W.P sub) (ops : Token F → Option BinOp) (tier : ATier) :
    W.P (aLevel sub ops tier) := by
  unfold aLevel; awalk

omit he in
@[awalk] theorem walk_defArgsLoop (n : Nat) (acc : List Str) : W.P (defArgsLoop (F := F) n acc) := by
  induction n generalizing acc with
  | zero => exact W.outOfFuel
  | succ n ih => unfold defArgsLoop; awalk

theorem walk_aExprBody : W.P (aExprBody ev) := by
  unfold aExprBody aOrExpr
  exact W.nested (walk_aLevel W (walk_aLevel W (walk_aLevel W (walk_aLevel W (walk_aLevel W (walk_aLevel W
    (walk_aUnary W.toRules (eparts W ev he)) _ _) _ _) _ _) _ _) _ _) _ _)

@[awalk] theorem walk_aReadLoop (n : Nat) : W.P (aReadLoop ev n) := by
  have hp := eparts W ev he
  induction n with
  | zero => exact W.outOfFuel
  | succ n ih =>
    unfold aReadLoop
    refine walk_aParseLValue_bind W.toRules hp fun lv hl => ?_
    awalk

@[awalk] theorem walk_aPrintLoop (n : Nat) : W.P (aPrintLoop ev n) := by
  induction n with
  | zero => exact W.outOfFuel
  | succ n ih => unfold aPrintLoop; awalk

/-- DEF changes the function table: `defineFunction` is asked for here and not among the rules, so that
    an observation of the function table is an instance up to this point -/
theorem walk_aDef (hd : ∀ n a, W.P (defineFunction (F := F) n a)) : W.P (aDef ev) := by
  have hp := eparts W ev he
  unfold aDef; awalk

variable (hs : W.P ev.stmt)
include hs

theorem parts : Parts W.toRules ev := ⟨eparts W ev he, W.nested hs⟩

theorem walk_aStmtBody' (hd : ∀ n a, W.P (defineFunction (F := F) n a)) : W.P (aStmtBody ev) :=
  walk_aStmtBody W.toRules (parts W ev he hs) (W.bind W.lineBudget fun b => walk_aReadLoop W ev he b)
    (W.bind W.lineBudget fun b => walk_aPrintLoop W ev he b) (walk_aDef W ev he hd)

end loops

theorem walk_aEvalN_expr (W : Uniform F) (n : Nat) : W.P (aEvalN (F := F) n).expr := by
  induction n with
  | zero => exact W.outOfFuel
  | succ n ih => exact walk_aExprBody W _ ih

theorem walk_aEvalN_stmt (W : Uniform F) (hd : ∀ n a, W.P (defineFunction (F := F) n a)) (n : Nat) :
    W.P (aEvalN (F := F) n).stmt := by
  induction n with
  | zero => exact W.outOfFuel
  | succ n ih => exact walk_aStmtBody' W _ (walk_aEvalN_expr W n) ih hd

end Abasic.AWalk
