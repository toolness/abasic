import Abasic.Proofs.StmtIndep
/-
  A statement activation in parts.

  `stmtBody ev` reaches `ev.stmt` in one place only (Proofs/StmtIndep.lean).  Here that is an equation of
  programs: an activation is a HEAD that uses `ev.expr` alone — the trace record, the first token, and then
  either the whole statement (anything but IF) or the header of the IF (condition, THEN, for a false condition
  the ELSE search) — followed by at most one CLAUSE `statementOrGoto ev` and, behind a THEN clause, the look
  for an ELSE part (`stmtBody_eq`).  Whatever is proved of every activation is proved of the head, the clause
  and the tail, with no walk through `ifSkipLoop`, `ifStatement` and `dispatch`.
-/
set_option linter.unusedSectionVars false

namespace Abasic.Props.C17
open Abasic M

variable {F : Type} [NumOps F]

/-- the ELSE search of an IF whose condition is false (`ifSkipLoop` without its
    last step): `true` when it stops behind an ELSE, `false` when it meets a
    colon first (the rest of the line is discarded) or the line ends -/
def skipToElse : Nat → M F Bool
  | 0 => fail .outOfFuel
  | n + 1 => do
    match ← next with
    | none => pure false
    | some t =>
      if t.isKw .Colon then do
        discardRemaining
        skipToElse n
      else if t.isKw .Else then pure true
      else skipToElse n

def isIf : Option (Token F) → Bool
  | some t => t.isKw .If
  | none => false

/-- what follows the keyword IF up to the clause: the condition, THEN, and for
    a false condition the ELSE search; `true`: a clause starts under the cursor -/
def ifTail (ev : Evals F) : M F Bool := do
  let c ← ev.expr
  expect .Then
  if c.toBool then pure true
  else do
    let b ← lineBudget
    skipToElse b

/-- the head of a statement: is a THEN / ELSE clause reached? -/
def ifHeader (ev : Evals F) : M F Bool := do
  let t ← next
  if isIf t then ifTail ev else pure false

theorem isIf_iff (t : Option (Token F)) : isIf t = true ↔ t = some (.kw .If) := by
  cases t with
  | none => simp [isIf]
  | some tok =>
    cases tok with
    | kw k => exact ⟨fun h => by rw [← eq_of_beq (a := Kw.If) h], fun h => by cases h; rfl⟩
    | _ => simp [isIf, Token.isKw]

end Abasic.Props.C17

namespace Abasic.Indep
open Abasic M Abasic.Props.C17

variable {F : Type} [NumOps F] {ev ev' : Evals F}

def tailElse : M F Unit := peekIsKw .Else >>= fun b => if b then discardRemaining else pure ()

theorem ifSkipLoop_eq (ev : Evals F) (n : Nat) :
    ifSkipLoop ev n = skipToElse n >>= fun b => if b then statementOrGoto ev else pure () := by
  induction n with
  | zero => rfl
  | succ n ih =>
    funext σ
    simp only [ifSkipLoop, skipToElse, bind, M.bindM, ih]
    cases next σ with
    | err e s => rfl
    | ok t s =>
      cases t with
      | none => rfl
      | some t =>
        simp only
        cases t.isKw .Colon with
        | true => simp only [↓reduceIte, M.bindM]; cases discardRemaining s <;> rfl
        | false => cases t.isKw .Else <;> rfl

/-- The header of an IF with its answer in full (`ifTail` says only whether a clause is reached):
    `some true`: a THEN clause starts under the cursor, `some false`: an ELSE clause, `none`: no clause. -/
def ifHead (ev : Evals F) : M F (Option Bool) := do
  let c ← ev.expr
  expect .Then
  if c.toBool then pure (some true)
  else do
    let b ← lineBudget
    let found ← skipToElse b
    pure (if found then some false else none)

/-- a statement activation up to its clause -/
def stmtHead (ev : Evals F) : M F (Option Bool) := do
  traceHere
  let t ← next
  if isIf t then ifHead ev
  else do
    dispatchK ev t
    pure none

/-- the clause the head announced, and behind a THEN clause the look for an ELSE part -/
def clauseOf (ev : Evals F) : Option Bool → M F Unit
  | none => pure ()
  | some th => statementOrGoto ev >>= fun _ => if th then tailElse else pure ()

theorem ifTail_eq (ev : Evals F) (σ : St F) :
    ifTail ev σ = match ifHead ev σ with
      | .ok r s => .ok r.isSome s
      | .err e s => .err e s := by
  simp only [ifTail, ifHead, bind, M.bindM]
  cases ev.expr σ with
  | err e s => rfl
  | ok c s =>
    simp only
    cases expect .Then s with
    | err e s => rfl
    | ok _ s =>
      simp only
      cases c.toBool with
      | true => rfl
      | false =>
        simp only [Bool.false_eq_true, ↓reduceIte, M.bindM]
        cases lineBudget s with
        | err e s => rfl
        | ok b s =>
          simp only
          cases skipToElse b s with
          | err e s => rfl
          | ok found s => cases found <;> rfl

theorem ifStatement_eq (ev : Evals F) : ifStatement ev = ifHead ev >>= clauseOf ev := by
  funext σ
  simp only [ifStatement, ifHead, ifSkipLoop_eq, bind, M.bindM]
  cases ev.expr σ with
  | err e s => rfl
  | ok c s =>
    simp only
    cases expect .Then s with
    | err e s => rfl
    | ok _ s =>
      simp only
      cases c.toBool with
      | true => rfl
      | false =>
        simp only [Bool.false_eq_true, ↓reduceIte, M.bindM]
        cases lineBudget s with
        | err e s => rfl
        | ok b s =>
          simp only
          cases skipToElse b s with
          | err e s => rfl
          | ok found s =>
            cases found with
            | false => rfl
            | true =>
              show statementOrGoto ev s = M.bindM (statementOrGoto ev) (fun _ => pure ()) s
              unfold M.bindM
              cases statementOrGoto ev s <;> rfl

theorem stmtBody_eq (ev : Evals F) : stmtBody ev = stmtHead ev >>= clauseOf ev := by
  funext σ
  simp only [stmtBody, stmtHead, dispatch_eq, bind, M.bindM]
  cases traceHere σ with
  | err e s => rfl
  | ok _ s =>
    simp only
    cases next s with
    | err e s => rfl
    | ok t s =>
      simp only
      by_cases ht : isIf t = true
      · rw [if_pos ht, (isIf_iff t).mp ht, dispatchK_if, ifStatement_eq]; rfl
      · rw [if_neg ht]
        simp only [M.bindM]
        cases dispatchK ev t s <;> rfl

theorem ifHead_congr (h : ev.expr = ev'.expr) : ifHead ev = ifHead ev' := by
  unfold ifHead; rw [h]

theorem stmtHead_congr (h : ev.expr = ev'.expr) : stmtHead ev = stmtHead ev' := by
  funext σ
  simp only [stmtHead, ifHead_congr h, bind, M.bindM]
  cases traceHere σ with
  | err e s => rfl
  | ok _ s =>
    simp only
    cases next s with
    | err e s => rfl
    | ok t s =>
      simp only
      by_cases ht : isIf t = true
      · rw [if_pos ht, if_pos ht]
      · rw [if_neg ht, if_neg ht, dispatchK_congr h t (mt (isIf_iff t).mpr ht)]

/-- The statement evaluator depends on its recursive entry point `ev.stmt`
    only through `statementOrGoto ev` — whose definition is
    `match ← peek with | some (.num _) => gotoStatement | _ => nested ev.stmt` —
    and `statementOrGoto` occurs only as the clause behind the head. -/
theorem stmtBody_congr (h : ev.expr = ev'.expr) (hs : statementOrGoto ev = statementOrGoto ev') :
    stmtBody ev = stmtBody ev' := by
  rw [stmtBody_eq, stmtBody_eq, stmtHead_congr h]
  congr 1
  funext r
  cases r with
  | none => rfl
  | some th => simp only [clauseOf, hs]

end Abasic.Indep
