import Abasic.Proofs.LoopsTyping
/-
  C06 for the FULL expression language (`Ref.Expr2`: array cells, RND, calls of
  user-defined functions), spec side: the typed environments, over `typeOf2 sig e` and `sigOf`
  (Proofs/TypeOf2.lean).  The theorem over them, `fold2_typed`, is in Proofs/Typing2Fold.lean: in such an
  environment a typed tree evaluates to a value of its static kind or fails with a `RunErr2`
  error, and leaves such an environment.
-/

namespace Abasic.Props.C06
open Abasic Abasic.Ref Abasic.ExprL Abasic.ExprL2

variable {F : Type} [NumOps F]

/-- The run-time function table agrees with the signatures the static check used:
    the same functions are defined, with parameters of the recorded kinds, and
    every body is itself typed, with the kind of the function's name. -/
def FnsTyped (sig : Sig) (fns : List (Str × FnDefSpec F)) : Prop :=
  ∀ f, match sig f, alGet f fns with
    | none, none => True
    | some s, some d => s.1 = d.params.map VT.ofName ∧ typeOf2 sig d.body = .ok (VT.ofName f)
    | _, _ => False

def BindTyped (l : List (Str × Value F)) : Prop := ∀ k v, alGet k l = some v → v.matchesName k = true

structure EnvTyped (sig : Sig) (env : RefEnv F) : Prop where
  vars : BindTyped env.vars
  frames : ∀ fr ∈ env.frames, BindTyped fr
  arrays : ArrKind env.arrays
  fns : FnsTyped sig env.fns

/-- the errors a typed expression may still evaluate to -/
def RunErr2 (e : Err) : Prop := RunErr e ∨ e = .unimplemented ∨ e = .outOfFuel

theorem RunErr2.not_static {e : Err} (h : RunErr2 e) :
    e ≠ .typeMismatch ∧ (∀ se, e ≠ .syntax se) ∧ e ≠ .undefinedStatement := by
  rcases h with h | h | h
  · exact h.not_static
  · subst h; simp
  · subst h; simp

end Abasic.Props.C06
