import Abasic.Props.C01
import Abasic.Proofs.AWalk
import Abasic.Proofs.Cursor
/-
  An invariant of the analyzer's evaluator (helper for C05, Abasic/Props/C05Eval.lean).

  For a fixed line store `L`:
  * `LocOk L loc`  — `loc` is on a stored numbered line, at most one past its last token;
  * `SInv L s`     — the state's store is `L`, its cursor and every recorded symbol
                     access are `LocOk`;
  * `EOk L e`      — the error is neither a panic, nor a tokenization error, nor a
                     DATA type mismatch, and its location (if set) is `LocOk`;
  * `Good L Q m`   — from a state with `SInv`, `m` ends in a state with `SInv` and the
                     same nesting counter; a value satisfies `Q`, an error `EOk`.
  Every cursor primitive and every function of the analyzer's evaluator is `Good`.
-/
namespace Abasic.AInv
open Abasic M

variable {F : Type}

def LocOk (L : Lines F) (loc : Loc) : Prop :=
  ∃ n ts, loc.line = some n ∧ L.get n = some ts ∧ loc.idx ≤ ts.length

structure SInv (L : Lines F) (s : St F) : Prop where
  lines : s.lines = L
  loc : LocOk L s.loc
  acc : ∀ x ∈ s.accesses, LocOk L { line := some x.2.1, idx := x.2.2.1 }

/-- errors the evaluator may raise by `fail` -/
def plain : Err → Bool
  | .panic _ => false
  | .syntax (.tokenization _) => false
  | .dataTypeMismatch => false
  | _ => true

structure EOk (L : Lines F) (e : TErr) : Prop where
  plain : plain e.err = true
  loc : ∀ loc, e.loc = some loc → LocOk L loc

def Post (L : Lines F) {α : Type} (Q : α → Prop) (s : St F) : Res F α → Prop
  | .ok a s' => SInv L s' ∧ s'.nesting = s.nesting ∧ Q a
  | .err e s' => SInv L s' ∧ s'.nesting = s.nesting ∧ EOk L e

def Good (L : Lines F) {α : Type} (Q : α → Prop) (m : M F α) : Prop :=
  ∀ s, SInv L s → Post L Q s (m s)

abbrev T {α : Type} : α → Prop := fun _ => True

section
variable {L : Lines F} {α β : Type}

theorem Good.pure {Q : α → Prop} {a : α} (h : Q a) : Good L Q (pure a : M F α) :=
  fun _ hs => ⟨hs, rfl, h⟩

theorem Good.bind {Q : α → Prop} {R : β → Prop} {m : M F α} {f : α → M F β}
    (hm : Good L Q m) (hf : ∀ a, Q a → Good L R (f a)) : Good L R (m >>= f) := by
  intro s hs
  have h1 := hm s hs
  simp only [Bind.bind, M.bindM]
  cases hms : m s with
  | ok a s' =>
    rw [hms] at h1
    obtain ⟨hs', hn, hq⟩ := h1
    have h2 := hf a hq s' hs'
    simp only
    cases hfs : f a s' with
    | ok b s'' => rw [hfs] at h2; exact ⟨h2.1, h2.2.1.trans hn, h2.2.2⟩
    | err e s'' => rw [hfs] at h2; exact ⟨h2.1, h2.2.1.trans hn, h2.2.2⟩
  | err e s' =>
    rw [hms] at h1
    exact h1

theorem Good.weaken {Q R : α → Prop} {m : M F α} (hm : Good L Q m) (h : ∀ a, Q a → R a) : Good L R m := by
  intro s hs
  have h1 := hm s hs
  cases hms : m s with
  | ok a s' => rw [hms] at h1; exact ⟨h1.1, h1.2.1, h a h1.2.2⟩
  | err e s' => rw [hms] at h1; exact h1

theorem Good.triv {Q : α → Prop} {m : M F α} (hm : Good L Q m) : Good L T m := hm.weaken fun _ _ => trivial

theorem Good.fail {Q : α → Prop} {e : Err} (h : plain e = true) : Good L Q (M.fail e : M F α) :=
  fun _ hs => ⟨hs, rfl, ⟨h, by intro loc hl; cases hl⟩⟩

theorem Good.get_bind {R : β → Prop} {f : St F → M F β} (hf : ∀ s0, Good L R (f s0)) :
    Good L R (M.get >>= f) := by
  intro s hs
  exact hf s s hs

end

section
variable {L : Lines F}

theorem SInv.reads {s : St F} (hs : SInv L s) (r : Nat) : SInv L { s with reads := r } :=
  ⟨hs.lines, hs.loc, hs.acc⟩

theorem SInv.adv {s : St F} (hs : SInv L s) (r : Nat) {n : Nat} {ts : List (Token F)}
    (hl : s.loc.line = some n) (hg : L.get n = some ts) (hi : s.loc.idx < ts.length) :
    SInv L { s with loc := { s.loc with idx := s.loc.idx + 1 }, reads := r } :=
  ⟨hs.lines, ⟨n, ts, hl, hg, hi⟩, hs.acc⟩

theorem SInv.toks {s : St F} (hs : SInv L s) :
    ∃ n ts, s.loc.line = some n ∧ L.get n = some ts ∧ s.loc.idx ≤ ts.length ∧ Cur.toks s = some ts := by
  obtain ⟨n, ts, hl, hg, hi⟩ := hs.loc
  refine ⟨n, ts, hl, hg, hi, ?_⟩
  unfold Cur.toks
  rw [hl, hs.lines]
  exact hg

theorem Good.curOp {α : Type} {Q : α → Prop} {f : Loc → Option (Token F) → Bool × Except TErr α} (hf : Cur.Op f)
    (hq : ∀ l c mv a, f l c = (mv, .ok a) → Q a) : Good L Q (Cur.curOp f) := by
  intro s hs
  obtain ⟨n, ts, hl, hg, hi, ht⟩ := hs.toks
  rw [Cur.curOp_some f ht]
  cases h : f s.loc ts[s.loc.idx]? with
  | mk mv r =>
    have hstate : SInv L (if mv = true then Cur.adv (Cur.rd s) else Cur.rd s) := by
      cases mv with
      | false => exact hs.reads _
      | true =>
        obtain ⟨t, htk⟩ := Option.isSome_iff_exists.mp (hf.some_of_step _ _ _ h)
        exact hs.adv _ hl hg (List.getElem?_eq_some_iff.mp htk).1
    have hn : (if mv = true then Cur.adv (Cur.rd s) else Cur.rd s).nesting = s.nesting := by cases mv <;> rfl
    cases r with
    | ok a => exact ⟨hstate, hn, hq _ _ _ _ h⟩
    | error e =>
      refine ⟨hstate, hn, ?_⟩
      rcases hf.err _ _ _ _ h with rfl | ⟨k, rfl⟩
      · exact ⟨rfl, fun l hl => by cases hl; exact hs.loc⟩
      · exact ⟨rfl, fun l hl => by cases hl⟩

theorem good_hasNext : Good L T (hasNext : M F Bool) :=
  Cur.hasNext_eq ▸ Good.curOp Cur.op_hasNext fun _ _ _ _ _ => trivial

theorem good_lineBudget : Good L T (lineBudget : M F Nat) := by
  intro s hs
  obtain ⟨_, ts, _, _, _, ht⟩ := hs.toks
  rw [Cur.lineBudget_eq, ht]
  exact ⟨hs, rfl, trivial⟩

theorem good_prevLoc : Good L (LocOk L) (prevLoc : M F Loc) := by
  intro s hs
  obtain ⟨n, ts, hl, hg, hi⟩ := hs.loc
  refine ⟨hs, rfl, ⟨n, ts, hl, hg, ?_⟩⟩
  show s.loc.idx - 1 ≤ ts.length
  omega

theorem good_logAccess (sym : Str) (loc : Loc) (k : Access) (hloc : LocOk L loc) :
    Good L T (logAccess sym loc k : M F Unit) := by
  intro s hs
  obtain ⟨n, ts, hl, hg, hi⟩ := hloc
  simp only [logAccess, hl, M.modify]
  refine ⟨⟨hs.lines, hs.loc, ?_⟩, rfl, trivial⟩
  intro x hx
  rcases List.mem_append.mp hx with hx | hx
  · exact hs.acc x hx
  · simp only [List.mem_singleton] at hx
    subst hx
    exact ⟨n, ts, rfl, hg, hi⟩

theorem good_defineFunction (name : Str) (args : List Str) : Good L T (defineFunction name args : M F Unit) := by
  intro s hs
  obtain ⟨n, ts, hl, hg, hi⟩ := hs.loc
  simp only [defineFunction, Bind.bind, M.bindM, M.get, hl, M.set]
  exact ⟨⟨hs.lines, hs.loc, hs.acc⟩, rfl, trivial⟩

theorem good_restore : Good L T (M.modify fun s => { s with data := none } : M F Unit) :=
  fun _ hs => ⟨⟨hs.lines, hs.loc, hs.acc⟩, rfl, trivial⟩

theorem good_check (a b : VT) : Good L T (VT.check a b : M F VT) := by
  unfold VT.check
  split
  · exact Good.pure trivial
  · exact Good.fail rfl

theorem good_checkNumber (a : VT) : Good L T (VT.checkNumber a : M F VT) := good_check a .num

theorem SInv.nesting {s : St F} (hs : SInv L s) (k : Nat) : SInv L { s with nesting := k } :=
  ⟨hs.lines, hs.loc, hs.acc⟩

/-- `nested` restores the nesting counter, so it cannot underflow -/
theorem good_nested {α : Type} {Q : α → Prop} {m : M F α} (hm : Good L Q m) : Good L Q (nested m) := by
  intro s hs
  by_cases hcap : s.nesting = Extracted.nestingLimit
  · rw [Props.C01.nested_at_cap hcap]
    exact ⟨hs, rfl, rfl, by intro loc hl; cases hl⟩
  · have h1 := hm _ (hs.nesting (s.nesting + 1))
    cases hms : m { s with nesting := s.nesting + 1 } with
    | ok a s' =>
      rw [hms] at h1
      rw [Props.C01.nested_of_ok hcap hms h1.2.1]
      exact ⟨h1.1.nesting _, rfl, h1.2.2⟩
    | err e s' =>
      rw [hms] at h1
      rw [Props.C01.nested_of_err hcap hms h1.2.1]
      exact ⟨h1.1.nesting _, rfl, h1.2.2⟩

end

/-! ### the analyzer's evaluator: the walk of Proofs/AWalk.lean, with `LocOk L` for what `prevLoc` hands out -/

section
variable [NumOps F] (L : Lines F)

def walk : AWalk.Uniform F where
  P m := Good L T m
  L := LocOk L
  pure _ := Good.pure trivial
  bind hm hf := Good.bind hm fun a _ => hf a
  get_bind := Good.get_bind
  unexpectedToken := Good.fail rfl
  undefinedStatement := Good.fail rfl
  outOfFuel := Good.fail rfl
  curOp hf := Good.curOp hf fun _ _ _ _ _ => trivial
  lineBudget := good_lineBudget
  prevLoc_bind := Good.bind good_prevLoc
  logAccess sym loc a h := good_logAccess sym loc a h
  check := good_check
  restoreData := good_restore
  nested := good_nested

variable {L} {ev : AEvals F}

theorem good_aStmtBody (hev : Good L T ev.expr) (hst : Good L T ev.stmt) : Good L T (aStmtBody ev) :=
  AWalk.walk_aStmtBody' (walk L) ev hev hst good_defineFunction

theorem good_aEvalN (n : Nat) : Good L T (aEvalN (F := F) n).expr ∧ Good L T (aEvalN (F := F) n).stmt :=
  ⟨AWalk.walk_aEvalN_expr (walk L) n, AWalk.walk_aEvalN_stmt (walk L) good_defineFunction n⟩

end

end Abasic.AInv
