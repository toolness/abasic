import Abasic.Proofs.Step
/-
  C03, full statement language — the frame `KO`: with warnings off, an expression
  evaluation — calls of user functions included — leaves the output queue alone,
  on the success path and on the error path.
-/
set_option linter.unusedSectionVars false

namespace Abasic.Hoare
open Abasic Abasic.Proofs.XF M

variable {F : Type} [NumOps F]

def KO (σ σ' : St F) : Prop :=
  σ.warnings = false → σ'.warnings = false ∧ σ'.out = σ.out

theorem ko_same {σ σ' : St F} (h1 : σ'.warnings = σ.warnings) (h2 : σ'.out = σ.out) : KO σ σ' :=
  fun hw => ⟨h1.trans hw, h2⟩

instance : IsFrame (KO (F := F)) where
  refl _ := ko_same rfl rfl
  trans h1 h2 := fun hw =>
    have a := h1 hw
    have b := h2 a.1
    ⟨b.1, b.2.trans a.2⟩

theorem ko_cstep {σ σ' : St F} (h : CStep σ σ') : KO σ σ' := by
  cases h <;> exact ko_same rfl rfl

instance : ExprFrame (KO (F := F)) where
  vstep h := by
    cases h with
    | warning msg hw => exact fun h => absurd hw (by simp [h])
    | _ => exact ko_same rfl rfl
  cstep := ko_cstep
  nested := nested_of_blind fun _ _ => ko_same rfl rfl
  call := call_of_blind ko_cstep fun _ _ _ => ko_same rfl rfl

theorem expr_err_out {n : Nat} {σ σ' : St F} {te : TErr} (hw : σ.warnings = false)
    (h : (evalN n).expr σ = .err te σ') : σ'.out = σ.out :=
  (((fr_evalN_expr (R := KO) n).at σ).2 te σ' h hw).2

theorem arrayIndex_err_out {n : Nat} {σ σ' : St F} {te : TErr} (hw : σ.warnings = false)
    (h : arrayIndex (evalN n) σ = .err te σ') : σ'.out = σ.out :=
  (((fr_arrayIndex (R := KO) _ (fr_evalN_expr n)).at σ).2 te σ' h hw).2

end Abasic.Hoare
