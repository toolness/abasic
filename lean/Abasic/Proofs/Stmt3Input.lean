import Abasic.Ref.Prog3Input
import Abasic.Proofs.Stmt3Prog
/-
  C03 / C08 — the reference machine with INPUT (Ref/Prog3Input.lean) and its programs as instances of
  Proofs/SeqLang.lean and Proofs/SeqLTurn.lean: an `RProgramI` as a language of numbered lines (`lang`), the
  relation `Sync` between a reference state `RStateI` and a model state; its parts `CoreI` and `FinalI` are a
  `SeqL.Frame` (`frame`), `Sync` without a prompt is `SeqL.Lands` for them (`sync_of_lands`), and a `base`
  statement is stepped by `exec`, then `SeqL.seq` (`rstepB_seq`).
-/
set_option linter.unusedSectionVars false

namespace Abasic.Prog3I
open Abasic Abasic.Ref Abasic.ExprL Abasic.ExprL2 Abasic.StmtL Abasic.ProgL Abasic.Prog3L M
open Abasic.Props
open Abasic.Prog2L (Rel2)

variable {F : Type} [NumOps F]

theorem renderSI_head (s : RStmtI F) :
    ∃ t ts, renderSI s = t :: ts ∧ t.isKw .Else = false ∧ t.isKw .Colon = false := by
  cases s with
  | base s => exact renderS3_head s
  | input t => exact ⟨_, _, rfl, rfl, rfl⟩

def preToksI : List (RStmtI F) → Nat → List (Token F)
  | _, 0 => []
  | [], _ + 1 => []
  | s :: rest, j + 1 => renderSI s ++ .kw .Colon :: preToksI rest j

theorem renderTailI_cons (s : RStmtI F) (rest : List (RStmtI F)) :
    renderTailI (s :: rest) = .kw .Colon :: renderLineI (s :: rest) := rfl

theorem preToksI_zero (ss : List (RStmtI F)) : preToksI ss 0 = [] := by
  cases ss <;> rfl

@[reducible] def lang : SeqL.Lang F (RStmtI F) where
  render := renderSI
  line := RProgramI.line
  tail := renderTailI
  rline := renderLineI
  pre := preToksI
  line_nil _ := rfl
  line_cons _ _ _ _ := rfl
  tail_nil := rfl
  tail_cons _ _ := rfl
  rline_nil := rfl
  rline_cons _ _ := rfl
  pre_zero := preToksI_zero
  pre_nil _ := rfl
  pre_cons _ _ _ := rfl
  head := renderSI_head

structure HoldsI (l : Lines F) (q : RProgramI F) : Prop where
  get : ∀ n, l.get n = (q.line n).map renderLineI
  sorted : l.sorted = q.map (·.1)

theorem HoldsI.seq {l : Lines F} {q : RProgramI F} (h : HoldsI l q) : SeqL.Holds lang l q := ⟨h.get, h.sorted⟩

theorem _root_.Abasic.Ref.RProgramI.WF.seq {q : RProgramI F} (h : q.WF) : SeqL.WF q := ⟨h.ascending, h.nonempty⟩

theorem holds_compileI (q : RProgramI F) : HoldsI (compilePI q) q := ⟨SeqL.compile_get (L := lang) q, rfl⟩

theorem resume_eq (q : RProgramI F) (n j : Nat) : q.resume n j = SeqL.resume lang q n j := by
  unfold RProgramI.resume SeqL.resume
  rw [show lang.line q n = q.line n from rfl]
  cases q.line n <;> rfl

theorem rstepB_seq (q : RProgramI F) (r : RState3 F) (n j : Nat) (s : RStmt3 F) :
    RStepB q r n j s = (SeqL.seq lang q n j (s.exec (allDataI q) n j r).2).map
      (fun pc => { (s.exec (allDataI q) n j r).1 with pc := pc }) id := by
  simp only [RStepB]
  cases (s.exec (allDataI q) n j r).2 <;> simp only [SeqL.seq, Sum.map_inl, Sum.map_inr, id, resume_eq] <;> try rfl
  case jump m =>
    show _ = Sum.map _ id (if q.hasLine m = true then _ else _)
    split <;> rfl

/-- the reference position `(n, j)` against the model location right behind statement `j - 1` -/
def AddrRelI (q : RProgramI F) (n j : Nat) (loc : Loc) : Prop :=
  ∃ ss j0 s, q.line n = some ss ∧ j = j0 + 1 ∧ ss[j0]? = some s ∧
    loc = { line := some n, idx := (preToksI ss j0).length + (renderSI s).length }

def RetRelI (q : RProgramI F) (a : Nat × Nat) (f : Frame F) : Prop :=
  f.vars = [] ∧ AddrRelI q a.1 a.2 f.ret

def LoopRelI (q : RProgramI F) (l : RLoop F) (i : LoopInfo F) : Prop :=
  i.sym = l.var ∧ i.toV = l.limit ∧ i.stepV = l.step ∧ AddrRelI q l.line l.idx i.loc

/-- the DATA chunks of a program, as `Lines.dataChunks` computes them from its store -/
def progChunksI (q : RProgramI F) : List (Loc × List (DataElement F)) :=
  q.flatMap fun l => Props.C03.lineChunks (l.1, renderLineI l.2)

def DataRelI (q : RProgramI F) (c : Nat) : Option (DataIter F) → Prop
  | none => c = 0
  | some it => it.chunks = progChunksI q ∧
      Prog2L.remItems it = ((allDataI q).drop c).map fun x => (some x.1, x.2)

/-- `Mem3` for the machine with INPUT: the output is the whole log, and no reply is pending -/
structure MemI (q : RProgramI F) (x : RStateI F) (σ : St F) : Prop where
  vars : σ.vars = x.st.vars
  arrays : σ.arrays = x.st.arrays
  rng : σ.rng = x.st.rng
  loops : Rel2 (LoopRelI q) x.st.loops σ.loops
  stack : Rel2 (RetRelI q) x.st.rets σ.stack
  data : DataRelI q x.st.data σ.data
  out : σ.out = x.output.reverse
  fns : FnsLink σ x.st.fns
  fnLines : ∀ name fd, alGet name σ.fns = some fd → alGet name x.st.fnLines = some fd.line
  input : σ.input = none

structure EnvI (q : RProgramI F) (σ : St F) : Prop where
  lines : HoldsI σ.lines q
  warnings : σ.warnings = false
  tracing : σ.tracing = false

/-- what the model state shares with the reference state, cursor and run state apart -/
structure CoreI (q : RProgramI F) (x : RStateI F) (σ : St F) : Prop where
  env : EnvI q σ
  mem : MemI q x σ
  inv : RInv3 x.st
  nesting : σ.nesting = 0

def FinalI (x : RStateI F) (σ : St F) : Prop :=
  σ.state = .idle ∧ σ.vars = x.st.vars ∧ σ.arrays = x.st.arrays ∧ σ.out = x.output.reverse

/-- running on line `n`, at the first token of statement `j` or on the colon in front of it -/
def PosI (q : RProgramI F) (n j : Nat) (σ : St F) : Prop :=
  σ.state = .running ∧ σ.loc.line = some n ∧
    ∃ ss, q.line n = some ss ∧ j < ss.length ∧
      (σ.loc.idx = (preToksI ss j).length ∨ (0 < j ∧ σ.loc.idx + 1 = (preToksI ss j).length))

/-- awaiting input, the cursor ON the INPUT token of statement `j` of line `n` -/
def AwaitI (q : RProgramI F) (n j : Nat) (σ : St F) : Prop :=
  σ.state = .awaitingInput ∧
    ∃ ss t, q.line n = some ss ∧ ss[j]? = some (.input t) ∧
      σ.loc = { line := some n, idx := (preToksI ss j).length }

/-- The simulation relation between the reference machine with INPUT and the model. When the INPUT at the
    program counter has shown its prompt, the model awaits input with the cursor ON that INPUT. -/
def Sync (q : RProgramI F) (x : RStateI F) (σ : St F) : Prop :=
  match x.st.pc with
  | none => FinalI x σ
  | some (n, j) => CoreI q x σ ∧ (if x.prompted = true then AwaitI q n j σ else PosI q n j σ)

theorem MemI.congr {q : RProgramI F} {x : RStateI F} {σ σ' : St F} (h : MemI q x σ)
    (h1 : σ'.vars = σ.vars) (h2 : σ'.arrays = σ.arrays) (h3 : σ'.rng = σ.rng) (h4 : σ'.loops = σ.loops)
    (h5 : σ'.stack = σ.stack) (h6 : σ'.data = σ.data) (h7 : σ'.out = σ.out) (h8 : σ'.fns = σ.fns)
    (h9 : σ'.lines = σ.lines) (h10 : σ'.input = σ.input) : MemI q x σ' :=
  ⟨h1.trans h.vars, h2.trans h.arrays, h3.trans h.rng, h4 ▸ h.loops, h5 ▸ h.stack, h6 ▸ h.data, h7.trans h.out,
    h.fns.congr h8 h9, h8 ▸ h.fnLines, h10.trans h.input⟩

theorem MemI.pc {q : RProgramI F} {x : RStateI F} {σ : St F} (h : MemI q x σ) (pc : Option (Nat × Nat)) (b : Bool) :
    MemI q { x with st := { x.st with pc := pc }, prompted := b } σ :=
  ⟨h.vars, h.arrays, h.rng, h.loops, h.stack, h.data, h.out, h.fns, h.fnLines, h.input⟩

theorem CoreI.pc {q : RProgramI F} {x : RStateI F} {σ : St F} (h : CoreI q x σ) (pc : Option (Nat × Nat)) (b : Bool) :
    CoreI q { x with st := { x.st with pc := pc }, prompted := b } σ :=
  ⟨h.env, h.mem.pc pc b, h.inv.pc pc, h.nesting⟩

/-- what the sequencing at the end of a turn leaves alone (the GOSUB stack is not
    listed: it is emptied when the program ends) -/
structure SeqFrame (σ σ' : St F) : Prop where
  vars : σ'.vars = σ.vars
  arrays : σ'.arrays = σ.arrays
  loops : σ'.loops = σ.loops
  data : σ'.data = σ.data
  fns : σ'.fns = σ.fns
  rng : σ'.rng = σ.rng
  out : σ'.out = σ.out
  input : σ'.input = σ.input

theorem SeqFrame.refl (σ : St F) : SeqFrame σ σ := ⟨rfl, rfl, rfl, rfl, rfl, rfl, rfl, rfl⟩

theorem frame (q : RProgramI F) (x : RStateI F) : SeqL.Frame lang q (CoreI q x) (FinalI x) where
  holds h := h.env.lines.seq
  tracing h := h.env.tracing
  move _ _ h :=
    ⟨⟨h.env.lines, h.env.warnings, h.env.tracing⟩, h.mem.congr rfl rfl rfl rfl rfl rfl rfl rfl rfl rfl, h.inv, h.nesting⟩
  fin _ h := ⟨rfl, h.mem.vars, h.mem.arrays, h.mem.out⟩

theorem frameS (q : RProgramI F) (x : RStateI F) (σ0 : St F) :
    SeqL.Frame lang q (fun σ => CoreI q x σ ∧ SeqFrame σ0 σ) (fun σ => FinalI x σ ∧ SeqFrame σ0 σ) :=
  (frame q x).and (fun _ _ h => ⟨h.vars, h.arrays, h.loops, h.data, h.fns, h.rng, h.out, h.input⟩)
    (fun _ h => ⟨h.vars, h.arrays, h.loops, h.data, h.fns, h.rng, h.out, h.input⟩)

theorem sync_of_landsS {q : RProgramI F} {x : RStateI F} {pc : Option (Nat × Nat)} {σ0 σ : St F}
    (h : SeqL.Lands lang q (fun σ => CoreI q x σ ∧ SeqFrame σ0 σ) (fun σ => FinalI x σ ∧ SeqFrame σ0 σ) pc σ) :
    Sync q { x with st := { x.st with pc := pc }, prompted := false } σ ∧ SeqFrame σ0 σ := by
  cases pc with
  | none => exact h
  | some nj => exact ⟨⟨h.1.1.pc _ _, h.2⟩, h.1.2⟩

theorem sync_of_lands {q : RProgramI F} {x : RStateI F} {pc : Option (Nat × Nat)} {σ : St F}
    (h : SeqL.Lands lang q (CoreI q x) (FinalI x) pc σ) :
    Sync q { x with st := { x.st with pc := pc }, prompted := false } σ := by
  cases pc with
  | none => exact h
  | some nj => exact ⟨h.1.pc _ _, h.2⟩

end Abasic.Prog3I
