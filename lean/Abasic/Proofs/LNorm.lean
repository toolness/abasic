import Abasic.Proofs.Commute
import Abasic.Proofs.LinesNorm
/-
  The order of the token map of the program store is unobservable.

  `lnorm σ` puts the store of `σ` into its normal form (`Lines.canon`, Proofs/LinesNorm.lean).
  `LSim m` is the two-run statement: from lnorm-equal states `m` yields the same
  value / the same error and lnorm-equal states.  As for the flags (Proofs/Transp.lean)
  the working notion is the one-sided `LComm m`; `LComm` is `Commutes lnorm` and `LSim` is
  `SimBy lnorm` (Proofs/Commute.lean), and `lnorm` is the field-wise normaliser `lnormN`.
-/
namespace Abasic.Hoare
open Abasic M

variable {F : Type}

def lnorm (σ : St F) : St F := { σ with lines := σ.lines.canon }

def lnormN : Norm F := { lines := Lines.canon }

theorem lnorm_eq_app : lnorm (F := F) = lnormN.app := rfl

theorem lnorm_idem (σ : St F) : lnorm (lnorm σ) = lnorm σ := by
  simp only [lnorm, Lines.canon_idem]

def LResSim {α : Type} : Res F α → Res F α → Prop
  | .ok a s, .ok b t => a = b ∧ lnorm s = lnorm t
  | .err e s, .err e' t => e = e' ∧ lnorm s = lnorm t
  | _, _ => False

def LSim {α : Type} (m : M F α) : Prop :=
  ∀ σ₁ σ₂, lnorm σ₁ = lnorm σ₂ → LResSim (m σ₁) (m σ₂)

theorem lresSim_iff {α : Type} (r₁ r₂ : Res F α) : LResSim r₁ r₂ ↔ r₁.mapSt lnorm = r₂.mapSt lnorm := by
  cases r₁ <;> cases r₂ <;> simp [LResSim, Res.mapSt]

theorem LResSim.refl {α : Type} (r : Res F α) : LResSim r r := (lresSim_iff r r).2 rfl
theorem LResSim.symm {α : Type} {r₁ r₂ : Res F α} (h : LResSim r₁ r₂) : LResSim r₂ r₁ :=
  (lresSim_iff _ _).2 ((lresSim_iff _ _).1 h).symm
theorem LResSim.trans {α : Type} {r₁ r₂ r₃ : Res F α} (h : LResSim r₁ r₂) (h' : LResSim r₂ r₃) : LResSim r₁ r₃ :=
  (lresSim_iff _ _).2 (((lresSim_iff _ _).1 h).trans ((lresSim_iff _ _).1 h'))

def LComm2 {α : Type} (m₁ m₂ : M F α) (σ : St F) : Prop := m₁ (lnorm σ) = (m₂ σ).mapSt lnorm

def LComm {α : Type} (m : M F α) : Prop := ∀ σ, LComm2 m m σ

section rules
variable {α β : Type}

theorem lsim_iff_simBy {m : M F α} : LSim m ↔ SimBy lnorm m :=
  forall_congr' fun _ => forall_congr' fun _ => imp_congr_right fun _ => lresSim_iff _ _

theorem LComm.at {m : M F α} (h : LComm m) (σ : St F) : LComm2 m m σ := h σ
theorem lcomm_of_at {m : M F α} (h : ∀ σ, LComm2 m m σ) : LComm m := h

theorem LComm.sim {m : M F α} (h : LComm m) : LSim m := lsim_iff_simBy.2 (Commutes.simBy h)

theorem lsim_iff {m : M F α} : LSim m ↔ ∀ σ, (m (lnorm σ)).mapSt lnorm = (m σ).mapSt lnorm :=
  lsim_iff_simBy.trans (simBy_iff lnorm_idem)

theorem lcomm_pureM (a : α) : LComm (M.pureM a : M F α) := commutes_pureM a

theorem lcomm2_bind_het {m₁ m₂ : M F α} {f₁ f₂ : α → M F β} {σ : St F}
    (hm : LComm2 m₁ m₂ σ) (hf : ∀ a σ', LComm2 (f₁ a) (f₂ a) σ') : LComm2 (m₁ >>= f₁) (m₂ >>= f₂) σ :=
  commAt_bind_het hm hf

theorem lcomm_modify {f : St F → St F} (h : ∀ σ, f (lnorm σ) = lnorm (f σ)) : LComm (M.modify f) :=
  commutes_modify h

theorem lcomm2_get_bind {f₁ f₂ : St F → M F β} {σ : St F} (h : LComm2 (f₁ (lnorm σ)) (f₂ σ) σ) :
    LComm2 (M.get >>= f₁) (M.get >>= f₂) σ := h

theorem lcomm2_modify {f₁ f₂ : St F → St F} {σ : St F} (h : f₁ (lnorm σ) = lnorm (f₂ σ)) :
    LComm2 (M.modify f₁) (M.modify f₂) σ :=
  commAt_modify h

end rules

/-! ### `lnorm` and the projections (all by `rfl`, usable by `dsimp`) -/

@[simp] theorem lnorm_lines (σ : St F) : (lnorm σ).lines = σ.lines.canon := rfl
@[simp] theorem lnorm_imm (σ : St F) : (lnorm σ).imm = σ.imm := rfl
@[simp] theorem lnorm_loc (σ : St F) : (lnorm σ).loc = σ.loc := rfl
@[simp] theorem lnorm_bp (σ : St F) : (lnorm σ).bp = σ.bp := rfl
@[simp] theorem lnorm_stack (σ : St F) : (lnorm σ).stack = σ.stack := rfl
@[simp] theorem lnorm_loops (σ : St F) : (lnorm σ).loops = σ.loops := rfl
@[simp] theorem lnorm_data (σ : St F) : (lnorm σ).data = σ.data := rfl
@[simp] theorem lnorm_fns (σ : St F) : (lnorm σ).fns = σ.fns := rfl
@[simp] theorem lnorm_nesting (σ : St F) : (lnorm σ).nesting = σ.nesting := rfl
@[simp] theorem lnorm_input (σ : St F) : (lnorm σ).input = σ.input := rfl
@[simp] theorem lnorm_state (σ : St F) : (lnorm σ).state = σ.state := rfl
@[simp] theorem lnorm_rng (σ : St F) : (lnorm σ).rng = σ.rng := rfl
@[simp] theorem lnorm_vars (σ : St F) : (lnorm σ).vars = σ.vars := rfl
@[simp] theorem lnorm_arrays (σ : St F) : (lnorm σ).arrays = σ.arrays := rfl
@[simp] theorem lnorm_accesses (σ : St F) : (lnorm σ).accesses = σ.accesses := rfl
@[simp] theorem lnorm_reads (σ : St F) : (lnorm σ).reads = σ.reads := rfl
@[simp] theorem lnorm_warnings (σ : St F) : (lnorm σ).warnings = σ.warnings := rfl
@[simp] theorem lnorm_tracing (σ : St F) : (lnorm σ).tracing = σ.tracing := rfl
@[simp] theorem lnorm_out (σ : St F) : (lnorm σ).out = σ.out := rfl
@[simp] theorem lnorm_getVar [NumOps F] (σ : St F) (n : Str) : getVar (lnorm σ) n = getVar σ n := rfl
@[simp] theorem lnorm_populate (σ : St F) (e : TErr) : (lnorm σ).populate e = σ.populate e := rfl
@[simp] theorem lnorm_prevLoc (σ : St F) : (lnorm σ).prevLoc = σ.prevLoc := rfl

end Abasic.Hoare
