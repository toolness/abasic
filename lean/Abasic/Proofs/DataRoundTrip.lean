import Abasic.Proofs.C12Data
import Abasic.Props.C14More
/-
  The side condition on a DATA token in a canonical line (`DataOK`), stated with
  `trimStart` on both ends (`Trimmed`), is the `ItemsOk` of the DATA round trip together
  with the parse-render law for its numbers; and what `parseData` returns on any text.
-/
namespace Abasic.DataRT
open Abasic.Props.C14
open Abasic

theorem trim_nil : trim [] = [] := rfl

def Trimmed (t : Str) : Prop := trimStart t = t ∧ trimStart t.reverse = t.reverse

theorem trimmed_iff (t : Str) : Trimmed t ↔ trim t = t := by
  constructor
  · intro h
    unfold trim
    rw [h.1, h.2, List.reverse_reverse]
  · intro h
    have h1 : trimStart t = t := by
      cases t with
      | nil => rfl
      | cons a w => exact trimStart_cons_nonws a w (trim_head _ a w h)
    refine ⟨h1, ?_⟩
    have := congrArg List.reverse h
    unfold trim at this
    rwa [h1, List.reverse_reverse] at this

variable {F : Type} [NumOps F]

/-- an item text that is listed without quotes -/
def RawText (t : Str) : Prop :=
  ∃ h tl, t = h :: tl ∧ Trimmed t ∧ h ≠ '"' ∧ ∀ c ∈ t, c ≠ ',' ∧ c ≠ ':'

theorem rawText_iff (t : Str) : RawText t ↔ BareText t := by
  constructor
  · rintro ⟨h, tl, rfl, htr, hq, hc⟩
    exact ⟨List.cons_ne_nil _ _, (trimmed_iff _).mp htr, fun c hm => ⟨(hc c hm).2, (hc c hm).1⟩, by simpa using hq⟩
  · rintro ⟨hne, htr, hsep, hop⟩
    cases t with
    | nil => exact absurd rfl hne
    | cons h tl =>
      exact ⟨h, tl, rfl, (trimmed_iff _).mpr htr, by simpa using hop, fun c hm => ⟨(hsep c hm).2, (hsep c hm).1⟩⟩

/-- what the round trip needs of one item -/
def ItemOK : DataElement F → Prop
  | .str s => s.contains '"' = true → RawText s ∧ NumOps.parse (F := F) s = none
  | .num x => RawText (NumOps.render x) ∧ NumOps.parse (F := F) (NumOps.render x) = some x

theorem ItemOK.itemOk {i : DataElement F} (h : ItemOK i) : ItemOk i := by
  cases i with
  | str s => exact fun hq => ⟨(rawText_iff s).mp (h hq).1, (h hq).2⟩
  | num x => exact (rawText_iff _).mp h.1

def DataOK (items : List (DataElement F)) : Prop := items ≠ [] ∧ ∀ i ∈ items, ItemOK i

theorem DataOK.itemsOk {items : List (DataElement F)} (h : DataOK items) : ItemsOk items :=
  ⟨h.1, fun e he => (h.2 e he).itemOk⟩

theorem DataOK.numbers {items : List (DataElement F)} (h : DataOK items) :
    ∀ x ∈ numbers items, NumOps.parse (F := F) (NumOps.render x) = some x :=
  fun x hx => (h.2 _ ((mem_numbers x items).mp hx)).2

/-- the part of `ItemOK` that holds of every parser output -/
def StrOK : DataElement F → Prop
  | .str s => s.contains '"' = true → RawText s ∧ NumOps.parse (F := F) s = none
  | .num x => ∃ s, NumOps.parse (F := F) s = some x

theorem pushed_strOK : Pushed (StrOK (F := F)) where
  quoted s h hc := absurd (by simpa using hc) h
  bare cur h := by
    unfold elemOf
    cases hp : NumOps.parse (F := F) (trim cur) with
    | some x => exact ⟨trim cur, hp⟩
    | none => exact fun hc => ⟨(rawText_iff _).mpr (bareText_trim cur h hc), hp⟩

theorem parseData_spec (s : Str) :
    (parseData (F := F) s).1 ≠ [] ∧ (∀ i ∈ (parseData (F := F) s).1, StrOK i) ∧
    (dropBytes (parseData (F := F) s).2 s = [] ∨ ∃ b, dropBytes (parseData (F := F) s).2 s = ':' :: b) :=
  ⟨(parseData_pushed pushed_strOK s).1, (parseData_pushed pushed_strOK s).2, dataRest_nil_or_colon s⟩

end Abasic.DataRT
