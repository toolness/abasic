import Abasic.Proofs.Stmt3All
/-
  C03, control stack, DATA and arrays — the statements of Ref/Stmt2.lean outside `base` have no statement lemmas of
  their own: FOR, NEXT, GOSUB, RETURN, READ, DATA, RESTORE, DIM and the assignment to a cell are statements of the
  full language (`embS`), and `stmt2_run` for them is `Stmt3V.stmt_ok` at the embedded statement, for the view of
  the program that says "small language" (`Prog2L.view`, `full := false`).  That flag switches off what level 3
  asks of a state for the sake of RND and user functions (`Stmt3V.Sync.exprs`) — `SReady2` says nothing of the
  generator or the depth of the GOSUB stack — and switches on the two clauses of `Stmt3V.Outcome3` that
  `Prog2L.Outcome` is more exact in.  Here: the reference state seen in the full machine (`up`), the reference step
  commutes with the embedding (`exec_embS`), the relations go up and the outcome comes down.  The statements of
  Ref/Stmt.lean (`base`) stay on level 1: its theorem gives the final state exactly, for any state, which is more
  than a statement lemma of the larger levels says (`base_run`).
-/
set_option linter.unusedSectionVars false

namespace Abasic.Stmt2L
open Abasic Abasic.Ref Abasic.StmtL Abasic.ExprL Abasic.ProgL Abasic.Prog2L Abasic.Stmt3L
open Abasic.Props.C06 (emb embS renderS3_embS coveredB_embS resolved_emb depth2_emb)

variable {F : Type} [NumOps F]

/-- a state of the machine of Ref/Prog2.lean as a state of the full machine: no function; `g`: the generator state -/
def up (r : RState2 F) (g : Nat) : RState3 F :=
  { vars := r.vars, arrays := r.arrays, loops := r.loops, rets := r.rets, data := r.data, out := r.out, pc := r.pc,
    rng := g }

theorem readS_scalars (items : List (Nat × DataElement F)) (n j : Nat) : ∀ (xs : List Str) (r : RState3 F),
    (RStmt3.readS (xs.map .scalar)).exec items n j r =
      ({ r with vars := (readAll items xs r.vars r.data).1, data := (readAll items xs r.vars r.data).2.1 },
       (readAll items xs r.vars r.data).2.2)
  | [], r => rfl
  | x :: rest, r => by
    show (match readTargetSpec items r (.scalar x) with
          | (r', .next) => readTargetsSpec items r' (rest.map .scalar)
          | y => y) = _
    simp only [readTargetSpec, readScalarSpec, readAll]
    cases items[r.data]? with
    | none => rfl
    | some lnd =>
      obtain ⟨ln, d⟩ := lnd
      dsimp only
      cases Value.coerceFromData x d with
      | error e => rfl
      | ok v =>
        dsimp only
        exact readS_scalars items n j rest { r with data := r.data + 1, vars := alSet x v r.vars }

theorem exec_embS (items : List (Nat × DataElement F)) (n j : Nat) (r : RState2 F) (g : Nat) (s : RStmt2 F)
    (hb : ∀ b, s ≠ .base b) (hcov : s.Covered) :
    (embS s).exec items n j (up r g) = (up (s.exec items n j r).1 g, (s.exec items n j r).2) := by
  have hv : (up r g).vars = r.vars := rfl
  have hl : (up r g).loops = r.loops := rfl
  have ha : (up r g).arrays = r.arrays := rfl
  -- The two steps are the same function clause by clause: every arm follows the matches down to `rfl`.  What
  -- it takes: an embedded expression evaluates as in the small language and hands the state back as it was
  -- (`evalE_emb`, `numE3_emb`, `evalIdx_emb`), so `g` is never touched; `hcov` is used by DIM and the cell
  -- assignment alone, because on the empty list of subscripts `foldSubs` succeeds and `foldIdx` fails.
  cases s with
  | base b => exact absurd rfl (hb b)
  | gosubS m => simp only [embS, RStmt3.exec, RStmt2.exec, up]; split <;> rfl
  | returnS =>
    simp only [embS, RStmt3.exec, RStmt2.exec]
    cases hr : r.rets with
    | nil => simp only [up, hr]
    | cons a as => obtain ⟨ln, k⟩ := a; simp only [up, hr]
  | dataS items' => rfl
  | restoreS => rfl
  | nextS v =>
    simp only [embS, RStmt3.exec, RStmt2.exec]
    rw [hv, hl]
    cases envOf r.vars v with
    | str x => rfl
    | num cur =>
      cases findLoop v r.loops with
      | none => rfl
      | some lr => obtain ⟨l, rest⟩ := lr; dsimp only; split <;> split <;> rfl
  | readS ts => exact readS_scalars items n j ts (up r g)
  | forS v a b c =>
    have hstep : stepE3 (up r g) (c.map emb) = (stepE (envOf r.vars) c).map fun x => (x, up r g) := by
      cases c with
      | none => rfl
      | some c => exact numE3_emb _ c
    cases ha : numE (envOf r.vars) a with
    | error err => simp only [embS, RStmt3.exec, RStmt2.exec, numE3_emb, hv, ha, Except.map]
    | ok x =>
      cases hb : numE (envOf r.vars) b with
      | error err => simp only [embS, RStmt3.exec, RStmt2.exec, numE3_emb, hv, ha, hb, Except.map]
      | ok y =>
        cases hc : stepE (envOf r.vars) c with
        | error err => simp only [embS, RStmt3.exec, RStmt2.exec, numE3_emb, hstep, hv, ha, hb, hc, Except.map]
        | ok z =>
          simp only [embS, RStmt3.exec, RStmt2.exec, numE3_emb, hstep, hv, ha, hb, hc, Except.map, forPush3]
          rw [hl]
          split
          · rfl
          · split <;> rfl
  | dimS name dims =>
    simp only [embS, RStmt3.exec, RStmt2.exec, evalIdx_emb _ dims hcov, hv]
    cases foldSubs (envOf r.vars) dims with
    | error err => rfl
    | ok index =>
      simp only [Except.map]
      rw [ha]
      cases alHas name r.arrays with
      | true => rfl
      | false =>
        simp only [Bool.false_eq_true, ↓reduceIte]
        cases ArrayV.create (F := F) name index <;> rfl
  | letCellS name idx e =>
    simp only [embS, RStmt3.exec, RStmt2.exec, evalIdx_emb _ idx hcov, hv]
    cases foldSubs (envOf r.vars) idx with
    | error err => rfl
    | ok index =>
      simp only [Except.map, evalE_emb, hv]
      cases foldE (envOf r.vars) e with
      | error err => rfl
      | ok v =>
        simp only [storeCell]
        rw [ha]
        cases hm : v.matchesName name with
        | false => rfl
        | true =>
          simp only [Bool.not_true, Bool.false_eq_true, ↓reduceIte]
          cases ensureArr name index.length r.arrays with
          | error err => rfl
          | ok a =>
            dsimp only
            cases cellSet a index v <;> rfl

theorem scalars_side (fns : List (Str × FnDefSpec F)) : ∀ xs : List Str,
    ResolvedTargets fns (xs.map (.scalar (F := F))) ∧ targetsDepth fns (xs.map (.scalar (F := F))) = 0
  | [] => ⟨trivial, rfl⟩
  | x :: rest => by
    obtain ⟨h1, h2⟩ := scalars_side fns rest
    refine ⟨⟨trivial, h1⟩, ?_⟩
    show max 0 (targetsDepth fns (rest.map .scalar)) = 0
    rw [h2]; rfl

theorem resolvedS_embS (fns : List (Str × FnDefSpec F)) (s : RStmt2 F) : ResolvedS fns (embS s) := by
  have hL : ∀ es : List (Expr F), ResolvedL fns (es.map emb) := fun es => by
    induction es with
    | nil => trivial
    | cons e es ih => exact ⟨resolved_emb fns e, ih⟩
  cases s with
  | forS v a b c => cases c <;> simp only [embS, Option.map, ResolvedS, resolved_emb, and_self]
  | readS ts => exact (scalars_side fns ts).1
  | dimS name dims => exact hL dims
  | letCellS name idx e => exact ⟨hL idx, resolved_emb fns e⟩
  | _ => trivial

theorem sdepth3_embS (fns : List (Str × FnDefSpec F)) (s : RStmt2 F) (hb : ∀ b, s ≠ .base b) (hcov : s.Covered) :
    sdepth3 fns (embS s) = sdepth2 s := by
  cases s with
  | base b => exact absurd rfl (hb b)
  | forS v a b c => cases c <;> simp only [embS, Option.map, sdepth3, sdepth2, edepth, depth2_emb]
  | readS ts => exact (scalars_side fns ts).2
  | dimS name dims => exact argsDepth_emb _ _ dims hcov
  | letCellS name idx e => simp only [embS, sdepth3, sdepth2, edepth, depth2_emb, argsDepth_emb _ _ idx hcov]
  | _ => rfl

theorem mem_up {p : RProgram2 F} {r : RState2 F} {σ : St F} (h : Mem p r σ) (hf : σ.fns = []) :
    Stmt3V.Mem3 (view p) (up r σ.rng) σ where
  vars := h.vars
  arrays := h.arrays
  rng := rfl
  loops := h.loops
  stack := h.stack
  data := dataRel_view.1 h.data
  out := h.out.trans (List.append_nil _).symm
  fns := ⟨fun name _ => by rw [hf]; rfl, fun name d hd => by simp [up, alGet] at hd⟩
  fnLines := fun name fd hfd => by rw [hf] at hfd; simp [alGet] at hfd
  input := fun ha => absurd ha Bool.false_ne_true

theorem mem_down {p : RProgram2 F} {r : RState2 F} {g : Nat} {σ : St F} (h : Stmt3V.Mem3 (view p) (up r g) σ) :
    Mem p r σ :=
  ⟨h.vars, h.arrays, h.loops, h.stack, dataRel_view.2 h.data, h.out.trans (List.append_nil _)⟩

theorem errFrom_small {α : Type} {σ : St F} {e : Err} {res : Res F α} (hf : σ.fns = [])
    (h : Prog3L.ErrFrom σ e res) : ∃ σ', res = .err { err := e } σ' ∧ σ'.loc.line = σ.loc.line ∧ σ'.out = σ.out := by
  obtain ⟨te, σ', h1, h2, h3, h4, _, h6⟩ := h
  rcases h6 with h6 | ⟨l, name, fd, _, hg, _⟩
  · refine ⟨σ', ?_, h4, h3⟩
    rw [h1]
    cases te
    simp only at h2 h6
    subst h2 h6
    rfl
  · rw [hf] at hg; simp [alGet] at hg

theorem outcome_down {p : RProgram2 F} {σ : St F} {n after eol : Nat} {res : Res F Unit} {r' : RState2 F} {g : Nat}
    {c : Ctl2} (hf : σ.fns = []) (hl : σ.loc.line = some n)
    (h : Stmt3V.Outcome3 (view p) σ n after eol res (up r' g) c) : Outcome p σ n after eol res r' c := by
  have kept : ∀ {σ'}, Prog3L.Kept σ σ' → σ'.fns = σ.fns → Kept σ σ' := fun hk hfn =>
    ⟨hk.lines, hk.warnings, hk.tracing, hk.nesting, hfn, hk.state⟩
  have fns : ∀ {σ'}, Stmt3V.Mem3 (view p) (up r' g) σ' → σ'.fns = σ.fns := fun hm =>
    (fns_nil_of_link hm.fns).trans hf.symm
  cases c with
  | next =>
    obtain ⟨σ', h1, h2, h3, h4, h5⟩ := h
    refine ⟨σ', h1, kept h2 (fns h3), mem_down h3, ?_⟩
    have : σ'.loc.idx = after := h5.elim id fun ⟨_, _, hd⟩ => by obtain ⟨f, hd⟩ := hd rfl; simp [up, alGet] at hd
    cases hloc : σ'.loc with
    | mk line idx => rw [hloc] at h4 this; simp only at h4 this; rw [h4, this]
  | skipLine =>
    obtain ⟨σ', h1, h2, h3, h4⟩ := h
    exact ⟨σ', h1, kept h2 (fns h3), mem_down h3, h4⟩
  | jump m =>
    refine ⟨fun hh => ?_, fun hh => ?_⟩
    · obtain ⟨σ', h1, h2, h3, h4⟩ := h.1 hh
      exact ⟨σ', h1, kept h2 (fns h3), mem_down h3, h4⟩
    · obtain ⟨σ', h1, h2, h3⟩ := errFrom_small hf (h.2 hh)
      exact ⟨σ', h1, h2.trans hl, h3⟩
  | stop =>
    obtain ⟨σ', h1, h2, h3, h4, h5, h6, h7, h8⟩ := h
    exact ⟨σ', h1, kept h2 (h8 rfl), h3, h4, h5.trans (List.append_nil _), h6, h7⟩
  | resume a b =>
    obtain ⟨σ', h1, h2, h3, h4⟩ := h
    exact ⟨σ', h1, kept h2 (fns h3), mem_down h3, h4⟩
  | error e =>
    obtain ⟨σ', h1, h2, h3⟩ := errFrom_small hf h.2
    exact ⟨h.1, σ', h1, h2.trans hl, h3⟩
  | errorAt e ln =>
    obtain ⟨he, σ', i, h1, h2, h3, _⟩ := h
    exact ⟨he, σ', i, h1, h2, h3⟩

section ready
variable {p : RProgram2 F} {r : RState2 F} {σ : St F} {n j : Nat} {ss : List (RStmt2 F)} {s : RStmt2 F} {fuel : Nat}

theorem SReady2.sync (h : SReady2 p r σ n j ss s fuel) : Stmt3V.Sync (view p) (up r σ.rng) σ where
  wf := view_wf h.wf
  env := ⟨h.env.lines.seq, h.env.warnings, h.env.tracing⟩
  mem := mem_up h.mem h.env.fns
  typed := h.inv.typed
  arrs := h.inv.arrs
  exprs := fun hf => absurd hf Bool.false_ne_true

theorem SReady2.pos (h : SReady2 p r σ n j ss s fuel) (hb : ∀ b, s ≠ .base b) :
    Stmt3V.Pos (view p) σ n j (embS s) (preToks2 ss j) (renderTail2 (ss.drop (j + 1)))
      ((preToks2 ss j).length + (renderS2 s).length) (renderLine2 ss).length where
  locline := h.locline
  cur := by rw [renderS3_embS s hb]; exact h.at
  hafter := by rw [renderS3_embS s hb]
  heol := by rw [renderS3_embS s hb]; exact h.eol.symm
  addr := fun _ => h.addr

/-- The statement evaluator does, from `SReady2`, what `RStmt2.exec` says (`Outcome`), for every statement. -/
theorem stmt2_run (h : SReady2 p r σ n j ss s fuel) :
    Outcome p σ n ((preToks2 ss j).length + (renderS2 s).length) (renderLine2 ss).length
      (stmtBody (evalN fuel) σ) (s.exec (allData p) n j r).1 (s.exec (allData p) n j r).2 := by
  by_cases hb : ∃ b, s = .base b
  · obtain ⟨b, rfl⟩ := hb
    exact base_run h
  · have hb : ∀ b, s ≠ .base b := fun b hs => hb ⟨b, hs⟩
    have hd := sdepth3_embS (F := F) [] s hb h.covered
    have hO := Stmt3V.stmt_ok (view p) n j (embS s) fuel σ (up r σ.rng) _ _ _ _ h.sync (.inr ⟨rfl, s, rfl, h.covered⟩)
      (h.pos hb) (Or.inl (SeqL.tail_lineEnd3 (L := Prog2L.lang) ss j)) (coveredB_embS s h.covered).1
      (coveredB_embS s h.covered).2 (resolvedS_embS _ s) (by show sdepth3 [] (embS s) ≤ fuel; rw [hd]; exact h.fuel)
      (by show σ.nesting + sdepth3 [] (embS s) ≤ _; rw [h.env.nesting, hd, Nat.zero_add]; exact h.nest)
    rw [show (view p).data = allData p from rfl, exec_embS _ _ _ _ _ _ hb h.covered] at hO
    exact outcome_down h.env.fns h.locline hO

end ready

end Abasic.Stmt2L
