import Abasic.Proofs.Walk
/-
  Running commutes with a state normaliser.

  For `g : St F → St F`, `Commutes g m` says that `m` run on `g σ` gives exactly the
  `g`-image of the result of running it on `σ`: same value, same error, and `g` of the
  final state.  It has the structural rules of `Respects` and implies the two-run
  statement `SimBy g m` (runs from states with equal `g`-images agree up to `g`).

  The normalisers in use (forgetting the flags, the order of the program store, what lies
  under the accumulators) all act field by field on a few fields; `Norm` collects such
  maps, and `Norm.Lawful` says what the evaluator needs of them.  Proofs/CommuteLift.lean
  lifts `Commutes N.app` through the evaluator, for every lawful `N`.
-/
namespace Abasic.Hoare
open Abasic M

variable {F : Type}

def _root_.Abasic.Res.mapSt {α : Type} (g : St F → St F) : Res F α → Res F α
  | .ok a s => .ok a (g s)
  | .err e s => .err e (g s)

def CommAt {α : Type} (g : St F → St F) (m₁ m₂ : M F α) (σ : St F) : Prop := m₁ (g σ) = (m₂ σ).mapSt g

def Commutes {α : Type} (g : St F → St F) (m : M F α) : Prop := ∀ σ, CommAt g m m σ

def SimBy {α : Type} (g : St F → St F) (m : M F α) : Prop :=
  ∀ σ₁ σ₂, g σ₁ = g σ₂ → (m σ₁).mapSt g = (m σ₂).mapSt g

section rules
variable {g : St F → St F} {α β : Type}

theorem commAt_of_commutes {m : M F α} {σ : St F} (h : Commutes g m) : CommAt g m m σ := h σ

theorem Commutes.simBy {m : M F α} (h : Commutes g m) : SimBy g m := by
  intro σ₁ σ₂ he
  rw [← h σ₁, ← h σ₂, he]

theorem simBy_iff (hg : ∀ σ, g (g σ) = g σ) {m : M F α} :
    SimBy g m ↔ ∀ σ, (m (g σ)).mapSt g = (m σ).mapSt g :=
  ⟨fun h σ => h (g σ) σ (hg σ), fun h σ₁ σ₂ he => by rw [← h σ₁, ← h σ₂, he]⟩

theorem simBy_pure (a : α) : SimBy g (pure a : M F α) := fun _ _ h => congrArg (Res.ok a) h
theorem simBy_fail (e : Err) : SimBy g (M.fail e : M F α) := fun _ _ h => congrArg (Res.err _) h
theorem simBy_rpanic (s : String) : SimBy g (M.rpanic s : M F α) := fun _ _ h => congrArg (Res.err _) h

theorem simBy_bind {m : M F α} {f : α → M F β} (hm : SimBy g m) (hf : ∀ a, SimBy g (f a)) :
    SimBy g (m >>= f) := by
  intro σ₁ σ₂ he
  have h := hm σ₁ σ₂ he
  show (M.bindM m f σ₁).mapSt g = (M.bindM m f σ₂).mapSt g
  unfold M.bindM
  cases h₁ : m σ₁ <;> cases h₂ : m σ₂ <;> rw [h₁, h₂] at h <;> dsimp only
  · injection h with ha hs
    subst ha; exact hf _ _ _ hs
  · cases h
  · cases h
  · injection h with he' hs
    subst he'; exact congrArg (Res.err _) hs

theorem simBy_modify {f : St F → St F} (h : ∀ σ₁ σ₂ : St F, g σ₁ = g σ₂ → g (f σ₁) = g (f σ₂)) :
    SimBy g (M.modify f) := fun σ₁ σ₂ he => congrArg (Res.ok ()) (h σ₁ σ₂ he)

theorem simBy_get_ite {p : St F → Prop} [DecidablePred p] {t e : M F α}
    (hp : ∀ σ₁ σ₂, g σ₁ = g σ₂ → (p σ₁ ↔ p σ₂)) (ht : SimBy g t) (he : SimBy g e) :
    SimBy g (M.get >>= fun s => if p s then t else e) := by
  intro σ₁ σ₂ h
  show ((if p σ₁ then t else e) σ₁).mapSt g = ((if p σ₂ then t else e) σ₂).mapSt g
  by_cases h₁ : p σ₁
  · rw [if_pos h₁, if_pos ((hp _ _ h).1 h₁)]; exact ht _ _ h
  · rw [if_neg h₁, if_neg (fun h₂ => h₁ ((hp _ _ h).2 h₂))]; exact he _ _ h

theorem commutes_pure (a : α) : Commutes g (pure a : M F α) := fun _ => rfl
theorem commutes_pureM (a : α) : Commutes g (M.pureM a : M F α) := fun _ => rfl
theorem commutes_fail (e : Err) : Commutes g (M.fail e : M F α) := fun _ => rfl
theorem commutes_throw (e : TErr) : Commutes g (M.throw e : M F α) := fun _ => rfl
theorem commutes_rpanic (s : String) : Commutes g (M.rpanic s : M F α) := fun _ => rfl

theorem commAt_bind_het {m₁ m₂ : M F α} {f₁ f₂ : α → M F β} {σ : St F}
    (hm : CommAt g m₁ m₂ σ) (hf : ∀ a σ', CommAt g (f₁ a) (f₂ a) σ') : CommAt g (m₁ >>= f₁) (m₂ >>= f₂) σ := by
  show M.bindM m₁ f₁ (g σ) = (M.bindM m₂ f₂ σ).mapSt g
  unfold M.bindM
  have hm' : m₁ (g σ) = (m₂ σ).mapSt g := hm
  rw [hm']
  cases m₂ σ with
  | ok a s => exact hf a s
  | err e s => rfl

theorem commAt_bind {m₁ m₂ : M F α} {f : α → M F β} {σ : St F}
    (hm : CommAt g m₁ m₂ σ) (hf : ∀ a, Commutes g (f a)) : CommAt g (m₁ >>= f) (m₂ >>= f) σ :=
  commAt_bind_het hm hf

theorem commutes_bind {m : M F α} {f : α → M F β} (hm : Commutes g m) (hf : ∀ a, Commutes g (f a)) :
    Commutes g (m >>= f) :=
  fun σ => commAt_bind (hm σ) hf

theorem commutes_attempt {m : M F α} (hm : Commutes g m) : Commutes g (M.attempt m) := by
  intro σ
  show M.attempt m (g σ) = (M.attempt m σ).mapSt g
  unfold M.attempt
  have hm' : m (g σ) = (m σ).mapSt g := hm σ
  rw [hm']
  cases m σ <;> rfl

theorem commutes_ofExcept (r : Except TErr α) : Commutes g (M.ofExcept r : M F α) := by
  cases r <;> exact fun _ => rfl

theorem commutes_liftE (r : Except Err α) : Commutes g (liftE r : M F α) := by
  cases r <;> exact fun _ => rfl

theorem commutes_modify {f : St F → St F} (h : ∀ σ, f (g σ) = g (f σ)) : Commutes g (M.modify f) :=
  fun σ => congrArg (Res.ok ()) (h σ)

theorem commutes_get_bind {f : St F → M F β} (h : ∀ σ, CommAt g (f (g σ)) (f σ) σ) :
    Commutes g (M.get >>= f) := h

def Rules.ofMap (g : St F → St F) : Rules F where
  P m := Commutes g m
  pure := commutes_pure
  throw := commutes_throw
  bind := commutes_bind
  attempt := commutes_attempt

theorem commAt_get_bind {f₁ f₂ : St F → M F β} {σ : St F} (h : CommAt g (f₁ (g σ)) (f₂ σ) σ) :
    CommAt g (M.get >>= f₁) (M.get >>= f₂) σ := h

theorem commAt_set {s₁ s₂ σ : St F} (h : s₁ = g s₂) : CommAt g (M.set s₁) (M.set s₂) σ :=
  congrArg (Res.ok ()) h

theorem commAt_modify {f₁ f₂ : St F → St F} {σ : St F} (h : f₁ (g σ) = g (f₂ σ)) :
    CommAt g (M.modify f₁) (M.modify f₂) σ :=
  congrArg (Res.ok ()) h

theorem commAt_ite {c : Prop} [Decidable c] {t₁ t₂ e₁ e₂ : M F α} {σ : St F}
    (ht : c → CommAt g t₁ t₂ σ) (he : ¬ c → CommAt g e₁ e₂ σ) :
    CommAt g (if c then t₁ else e₁) (if c then t₂ else e₂) σ := by
  by_cases h : c
  · rw [if_pos h, if_pos h]; exact ht h
  · rw [if_neg h, if_neg h]; exact he h

theorem commAt_pure (a : α) {σ : St F} : CommAt g (pure a : M F α) (pure a) σ := rfl
theorem commAt_fail (e : Err) {σ : St F} : CommAt g (M.fail e : M F α) (M.fail e) σ := rfl
theorem commAt_throw (e : TErr) {σ : St F} : CommAt g (M.throw e : M F α) (M.throw e) σ := rfl
theorem commAt_rpanic (s : String) {σ : St F} : CommAt g (M.rpanic s : M F α) (M.rpanic s) σ := rfl

end rules

/-- maps of the fields a normaliser may touch; every other field is kept -/
structure Norm (F : Type) where
  lines : Lines F → Lines F := id
  imm : List (Token F) → List (Token F) := id
  out : List Out → List Out := id
  warnings : Bool → Bool := id
  tracing : Bool → Bool := id
  reads : Nat → Nat := id
  accesses : List (Str × Nat × Nat × Access) → List (Str × Nat × Nat × Access) := id

def Norm.app (N : Norm F) (σ : St F) : St F :=
  { σ with lines := N.lines σ.lines, imm := N.imm σ.imm, out := N.out σ.out, warnings := N.warnings σ.warnings,
           tracing := N.tracing σ.tracing, reads := N.reads σ.reads, accesses := N.accesses σ.accesses }

/-- What the evaluator needs of a normaliser: the queries of the program store do not see
    it; it lets ordinary output and the read counter grow on top; and a Warning / Trace
    record pushed under its flag is pushed by the normalised run under the normalised flag. -/
class Norm.Lawful (N : Norm F) : Prop where
  get : ∀ l n, (N.lines l).get n = l.get n
  has : ∀ l n, (N.lines l).has n = l.has n
  after : ∀ l n, (N.lines l).after n = l.after n
  first : ∀ l, (N.lines l).first = l.first
  dataChunks : ∀ [NumOps F] (l : Lines F), (N.lines l).dataChunks = l.dataChunks
  list : ∀ [NumOps F] (l : Lines F), (N.lines l).list = l.list
  set_congr : ∀ l₁ l₂, N.lines l₁ = N.lines l₂ → ∀ n ts, N.lines (l₁.set n ts) = N.lines (l₂.set n ts)
  out_append : ∀ l₁ l, (∀ o ∈ l₁, keepOut o = true) → N.out (l₁ ++ l) = l₁ ++ N.out l
  reads_add : ∀ r k, N.reads (r + k) = N.reads r + k
  warn_out : ∀ (b : Bool) msg n l,
    N.out (if b then .warning msg n :: l else l) = if N.warnings b then .warning msg n :: N.out l else N.out l
  trace_out : ∀ (b : Bool) n l,
    N.out (if b then .trace n :: l else l) = if N.tracing b then .trace n :: N.out l else N.out l

class Norm.KeepsImm (N : Norm F) : Prop where
  imm : ∀ l, N.imm l = l

section app
variable (N : Norm F) (σ : St F)

theorem app_lines : (N.app σ).lines = N.lines σ.lines := rfl
theorem app_imm : (N.app σ).imm = N.imm σ.imm := rfl
theorem app_loc : (N.app σ).loc = σ.loc := rfl
theorem app_bp : (N.app σ).bp = σ.bp := rfl
theorem app_stack : (N.app σ).stack = σ.stack := rfl
theorem app_loops : (N.app σ).loops = σ.loops := rfl
theorem app_data : (N.app σ).data = σ.data := rfl
theorem app_fns : (N.app σ).fns = σ.fns := rfl
theorem app_nesting : (N.app σ).nesting = σ.nesting := rfl
theorem app_input : (N.app σ).input = σ.input := rfl
theorem app_state : (N.app σ).state = σ.state := rfl
theorem app_rng : (N.app σ).rng = σ.rng := rfl
theorem app_vars : (N.app σ).vars = σ.vars := rfl
theorem app_arrays : (N.app σ).arrays = σ.arrays := rfl
theorem app_warnings : (N.app σ).warnings = N.warnings σ.warnings := rfl
theorem app_tracing : (N.app σ).tracing = N.tracing σ.tracing := rfl
theorem app_reads : (N.app σ).reads = N.reads σ.reads := rfl
theorem app_getVar [NumOps F] (n : Str) : getVar (N.app σ) n = getVar σ n := rfl
theorem app_populate (e : TErr) : (N.app σ).populate e = σ.populate e := rfl

end app

/-!
  `commutes_tac` takes a goal `Commutes N.app m` apart along `m`.  A leaf of the monad or a call of a function is closed by
  the lemma about it, looked up by the head among the `walk` lemmas (Proofs/CommuteLift.lean tags its
  `commutes_*`).  The normalised state `N.app σ` enters a goal only where the state is read (`M.get >>= f`) or
  updated (`M.modify f`); `commutes_norm` runs there and nowhere else. -/

macro "commutes_norm" : tactic => `(tactic|
  (try dsimp only [app_lines, app_imm, app_loc, app_bp, app_stack, app_loops, app_data, app_fns, app_nesting,
      app_input, app_state, app_rng, app_vars, app_arrays, app_warnings, app_tracing, app_getVar, app_populate]
   try simp only [Norm.Lawful.get, Norm.Lawful.has, Norm.Lawful.after, Norm.Lawful.first, Norm.Lawful.dataChunks,
      Norm.Lawful.list]))

attribute [walk] commutes_pure commutes_pureM commutes_fail commutes_throw commutes_rpanic commutes_ofExcept commutes_liftE
  commAt_pure commAt_fail commAt_throw commAt_rpanic

/-- one step; `M.get >>= f` is a bind, so its rule stands before the rule for `>>=` -/
macro "commutes_step" : tactic => `(tactic| first
  | assumption
  | (with_reducible refine commutes_get_bind fun _ => ?_) <;> commutes_norm
  | (with_reducible refine commAt_get_bind ?_) <;> commutes_norm
  | with_reducible refine commutes_bind ?_ fun _ => ?_
  | with_reducible refine commAt_bind ?_ fun _ => ?_
  | (with_reducible refine commutes_modify fun _ => ?_) <;> commutes_norm
  | (with_reducible apply commAt_modify) <;> commutes_norm
  | (with_reducible apply commAt_set) <;> rfl
  | with_reducible apply commutes_attempt
  | with_reducible intro _
  | apply commAt_ite
  | split
  | simp only [walk]
  | with_reducible apply commAt_of_commutes
  | rfl)

macro "commutes_tac" : tactic => `(tactic| repeat' commutes_step)

end Abasic.Hoare
