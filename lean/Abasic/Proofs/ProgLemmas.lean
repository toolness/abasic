import Abasic.Ref.Prog
import Abasic.Proofs.SeqLTurn
import Abasic.Proofs.ErrKeepG
/-
  Lemmas for the program-level refinement (Props/C03Prog.lean).  The programs of Ref/Prog.lean are a
  language of numbered lines (`lang`, Proofs/SeqLang.lean) and their reference machine is `exec`, then
  `SeqL.seq` (`rstep_seq`); so the store of a compiled program and where a statement stands on its line are
  the facts proved there, and the turn is that of Proofs/SeqLTurn.lean: `Core` is a `SeqL.Frame` (`frame`),
  and what the statement theorem gives (`StmtG.Refines`) is what the turn needs (`outcome_seq`).
  Then: no covered statement reports DATA TYPE MISMATCH (`exec_nd`), and RUN (`runInit`, `turn_imm`,
  `runInit_line`).
-/
set_option linter.unusedSectionVars false

namespace Abasic.ProgL
open Abasic Abasic.Ref Abasic.ExprL Abasic.StmtL M

variable {F : Type}

section store
variable [NumOps F]

/-- the tokens in front of statement `j` of a line -/
def preToks : List (RStmt F) → Nat → List (Token F)
  | _, 0 => []
  | [], _ + 1 => []
  | s :: rest, j + 1 => renderS s ++ .kw .Colon :: preToks rest j

theorem renderTail_cons (s : RStmt F) (rest : List (RStmt F)) :
    renderTail (s :: rest) = .kw .Colon :: renderLine (s :: rest) := rfl

theorem preToks_zero (ss : List (RStmt F)) : preToks ss 0 = [] := by
  cases ss <;> rfl

@[reducible] def lang : SeqL.Lang F (RStmt F) where
  render := renderS
  line := RProgram.line
  tail := renderTail
  rline := renderLine
  pre := preToks
  line_nil _ := rfl
  line_cons _ _ _ _ := rfl
  tail_nil := rfl
  tail_cons _ _ := rfl
  rline_nil := rfl
  rline_cons _ _ := rfl
  pre_zero := preToks_zero
  pre_nil _ := rfl
  pre_cons _ _ _ := rfl
  head s := by
    obtain ⟨k, ts, hk, h1, h2⟩ := renderS_head' s
    refine ⟨.kw k, ts, hk, ?_, ?_⟩
    · show (Kw.Else == k) = false
      simp only [beq_eq_false_iff_ne, ne_eq]; exact fun h => h1 h.symm
    · show (Kw.Colon == k) = false
      simp only [beq_eq_false_iff_ne, ne_eq]; exact fun h => h2 h.symm

/-- the store holds exactly the lines of `p`, in whatever order they were entered (`holds_of_wf`, `holds_load`) -/
structure Holds (l : Lines F) (p : RProgram F) : Prop where
  get : ∀ n, l.get n = (p.line n).map renderLine
  sorted : l.sorted = p.map (·.1)

theorem Holds.seq {l : Lines F} {p : RProgram F} (h : Holds l p) : SeqL.Holds lang l p := ⟨h.get, h.sorted⟩

theorem holds_of_seq {l : Lines F} {p : RProgram F} (h : SeqL.Holds lang l p) : Holds l p := ⟨h.get, h.sorted⟩

theorem _root_.Abasic.Ref.RProgram.WF.seq {p : RProgram F} (h : p.WF) : SeqL.WF p := ⟨h.ascending, h.nonempty⟩

theorem compile_get (p : RProgram F) (n : Nat) : (compileP p).get n = (p.line n).map renderLine :=
  SeqL.compile_get (L := lang) p n

theorem holds_compile (p : RProgram F) : Holds (compileP p) p := ⟨compile_get p, rfl⟩

/-! ### the facts of Proofs/SeqLang.lean about `Holds` and the functions of Ref/Prog.lean, under the names their
  users know -/

theorem line_mem {p : RProgram F} {n : Nat} {ss : List (RStmt F)} (h : p.line n = some ss) : (n, ss) ∈ p :=
  SeqL.line_mem (L := lang) h

theorem holds_has {l : Lines F} {p : RProgram F} (h : Holds l p) (n : Nat) : l.has n = p.hasLine n :=
  SeqL.holds_has h.seq n

theorem holds_after {l : Lines F} {p : RProgram F} (h : Holds l p) (n : Nat) : l.after n = p.after n :=
  SeqL.holds_after h.seq n

theorem holds_first {l : Lines F} {p : RProgram F} (h : Holds l p) : l.first = p.first :=
  SeqL.holds_first h.seq

theorem holds_of_wf {l : Lines F} {p : RProgram F} (hl : Props.C04.WF l) (hp : p.WF)
    (hget : ∀ n, l.get n = (p.line n).map renderLine) : Holds l p :=
  holds_of_seq (SeqL.holds_of_wf (L := lang) hl hp.seq hget)

/-- The lines of `p` typed in: in program order, into an empty store, with `Lines.set` as `evaluateImpl` does
    for a numbered line. -/
theorem holds_load (p : RProgram F) (hp : p.WF) :
    Holds ((p.map fun e => (e.1, renderLine e.2)).foldl (fun l e => l.set e.1 e.2) ({} : Lines F)) p :=
  holds_of_seq (SeqL.holds_load (L := lang) p hp.seq)

theorem compile_has (p : RProgram F) (n : Nat) : (compileP p).has n = p.hasLine n :=
  holds_has (holds_compile p) n

theorem compile_after (p : RProgram F) (n : Nat) : (compileP p).after n = p.after n :=
  holds_after (holds_compile p) n

theorem compile_first (p : RProgram F) : (compileP p).first = p.first :=
  holds_first (holds_compile p)

end store

section core
variable [NumOps F]
open Abasic.Props

/-- the program fits the evaluator's resources and the coverage of the statement theorems -/
structure Fits (p : RProgram F) (fuel : Nat) : Prop where
  wf : p.WF
  covered : ∀ l ∈ p, ∀ s ∈ l.2, s.Covered
  depth : ∀ l ∈ p, ∀ s ∈ l.2, sdepth s ≤ fuel ∧ sdepth s ≤ Extracted.nestingLimit

/-- what the model state shares with the reference state, cursor and run state apart -/
structure Core (p : RProgram F) (vs : List (Str × Value F)) (os : List Str) (σ : St F) : Prop where
  lines : Holds σ.lines p
  vars : σ.vars = vs
  out : σ.out = outRecs os
  stack : σ.stack = []
  warnings : σ.warnings = false
  tracing : σ.tracing = false
  nesting : σ.nesting = 0
  fns : σ.fns = []

theorem outRecs_append (a b : List Str) : outRecs (a ++ b) = outRecs b ++ outRecs a := by
  simp only [outRecs, List.map_append, List.reverse_append]

def Ended (p : RProgram F) (vs : List (Str × Value F)) (os : List Str) (σ : St F) : Prop :=
  Core p vs os σ ∧ σ.state = .idle

theorem frame (p : RProgram F) (vs : List (Str × Value F)) (os : List Str) :
    SeqL.Frame lang p (Core p vs os) (Ended p vs os) where
  holds h := h.lines.seq
  tracing h := h.tracing
  move _ _ h := ⟨h.lines, h.vars, h.out, h.stack, h.warnings, h.tracing, h.nesting, h.fns⟩
  fin k h := ⟨⟨h.lines, h.vars, h.out, by show (if _ then [] else _) = []; rw [show (mv _ 0 k).stack = [] from h.stack]; exact ite_self _,
    h.warnings, h.tracing, h.nesting, h.fns⟩, rfl⟩

/-- `hnd`: the statement does not report DATA TYPE MISMATCH (`exec_nd`) -/
theorem outcome_seq {p : RProgram F} {vs : List (Str × Value F)} {os : List Str} {σ : St F}
    (hc : Core p vs os σ) (hrun : σ.state = .running) {n after eol : Nat} {res : Res F Unit} {x : RResult F}
    (hline : σ.loc.line = some n) (hR : StmtG.Refines res σ after eol x)
    (hnd : ∀ e, x.ctl = .error e → e ≠ .dataTypeMismatch) :
    SeqL.Outcome lang p (fun σ' => Core p x.vars (os ++ x.out) σ' ∧ σ'.state = .running)
      (Ended p x.vars (os ++ x.out)) (fun _ => False) σ n after eol res (Ctl2.ofCtl x.ctl) := by
  -- whatever the statement does with cursor, breakpoint, immediate line and read counter, `Core` goes on
  have hcore : ∀ (loc : Loc) (bp : Option (Nat × Nat)) (k : Nat) (imm : List (Token F)),
      Core p x.vars (os ++ x.out)
        ({ σ with vars := x.vars, out := outRecs x.out ++ σ.out, bp := bp, loc := loc, reads := k, imm := imm } : St F) :=
    fun _ _ _ _ => ⟨hc.lines, rfl, by show outRecs _ ++ σ.out = _; rw [hc.out, outRecs_append],
      hc.stack, hc.warnings, hc.tracing, hc.nesting, hc.fns⟩
  have hf : ∀ {e}, FailsWith res σ e → SeqL.Fails (fun _ => False) σ e res := fun ⟨_, h, _, hk⟩ =>
    ⟨_, _, h, rfl, (hk hc.fns).2, (hk hc.fns).1, Or.inl rfl⟩
  unfold StmtG.Refines at hR
  cases hctl : x.ctl with
  | next =>
    rw [hctl] at hR
    obtain ⟨k, _, hres⟩ := hR
    exact ⟨_, hres, ⟨hcore _ _ _ _, hrun⟩, hline, Or.inl rfl⟩
  | skipLine =>
    rw [hctl] at hR
    obtain ⟨k, _, hres⟩ := hR
    exact ⟨_, hres, ⟨hcore _ _ _ _, hrun⟩, by show ({ line := σ.loc.line, idx := eol } : Loc) = _; rw [hline]⟩
  | jump m =>
    rw [hctl] at hR
    exact ⟨fun hh => let ⟨k, _, hres⟩ := hR.1 hh; ⟨_, hres, ⟨hcore _ _ _ _, hrun⟩, rfl⟩, fun hh => hf (hR.2 hh)⟩
  | stop =>
    -- the GOSUB stack is empty: END has nothing to clear
    rw [hctl, show (if σ.bp.isNone then [] else σ.stack) = σ.stack by rw [hc.stack, ite_self]] at hR
    obtain ⟨k, _, hres⟩ := hR
    exact ⟨_, hres, fun k' => (frame p _ _).fin k' (hcore _ _ _ _), rfl, rfl⟩
  | error e =>
    rw [hctl] at hR
    exact ⟨hnd e hctl, hf hR⟩

/-- The reference machine is `exec`, then `seq` (for `next`: `if j + 1 < ss.length …` is `resume`). -/
theorem rstep_seq {p : RProgram F} {r : RState F} {n j : Nat} {ss : List (RStmt F)} {s : RStmt F}
    (hpc : r.pc = some (n, j)) (hl : p.line n = some ss) (hs : ss[j]? = some s) :
    RStep p r = (SeqL.seq lang p n j (Ctl2.ofCtl (RStmt.exec r.vars s).ctl)).map
      (fun pc => { vars := (RStmt.exec r.vars s).vars, out := r.out ++ (RStmt.exec r.vars s).out, pc := pc }) id := by
  have hres : ∀ k, SeqL.resume lang p n k =
      if k < ss.length then some (n, k) else (p.after n).map fun m => (m, 0) := fun k => by
    by_cases hk : k < ss.length
    · rw [SeqL.resume_lt hl hk, if_pos hk]
    · rw [SeqL.resume_ge hl hk, if_neg hk]; rfl
  simp only [RStep, hpc, hl, hs]
  cases (RStmt.exec r.vars s).ctl <;>
    simp only [Ctl2.ofCtl, SeqL.seq, Sum.map_inl, Sum.map_inr, id, hres] <;> try rfl
  case jump m =>
    show _ = Sum.map _ id (if p.hasLine m = true then _ else _)
    split <;> rfl

theorem rstep_inr {p : RProgram F} {r : RState F} {e : Err} {ln : Nat} (h : RStep p r = .inr (e, ln)) :
    ∃ n j ss s, r.pc = some (n, j) ∧ p.line n = some ss ∧ ss[j]? = some s ∧ ln = n ∧
      ((RStmt.exec r.vars s).ctl = .error e ∨
        ∃ m, (RStmt.exec r.vars s).ctl = .jump m ∧ p.hasLine m = false ∧ e = .undefinedStatement) := by
  cases hpc : r.pc with
  | none => simp only [RStep, hpc] at h; cases h
  | some nj =>
    obtain ⟨n, j⟩ := nj
    cases hl : p.line n with
    | none => simp only [RStep, hpc, hl] at h; cases h
    | some ss =>
      cases hs : ss[j]? with
      | none => simp only [RStep, hpc, hl, hs] at h; cases h
      | some s =>
        rw [rstep_seq hpc hl hs] at h
        cases hq : SeqL.seq lang p n j (Ctl2.ofCtl (RStmt.exec r.vars s).ctl) with
        | inl X => rw [hq] at h; cases h
        | inr x =>
          rw [hq] at h
          cases h
          refine ⟨n, j, ss, s, rfl, hl, hs, ?_⟩
          cases hc : (RStmt.exec r.vars s).ctl <;> rw [hc] at hq <;>
            rcases SeqL.seq_inr hq with ⟨h1, h2⟩ | h1 | ⟨m, h1, h2, h3, h4⟩ <;> cases h1
          · exact ⟨h4, .inr ⟨_, rfl, h2, h3⟩⟩
          · exact ⟨h2, .inl rfl⟩

end core

/-! ### the errors of the reference semantics are located at the cursor

  `populate_error_location` treats DATA TYPE MISMATCH specially (it is located
  at the DATA item).  No covered statement reports it. -/

section errors
variable [NumOps F]

/-- the errors of the small expressions are errors of the full language (`fold2_emb`), whose expressions never
    report it (`fold2_good`, at fuel above the stack limit) -/
theorem foldE_nd (vars : List (Str × Value F)) (e : Expr F) {x : Err} (h : foldE (envOf vars) e = .error x) :
    x ≠ .dataTypeMismatch := by
  have h2 := Props.C06.fold2_emb (Extracted.stackLimit + 1) ⟨vars, [], [], 0, []⟩ e
  rw [show (RefEnv.lookup ⟨vars, [], [], 0, []⟩ : Str → Value F) = envOf vars from rfl, h] at h2
  exact (ExprL2.fold2_good _ _ _ x (Nat.zero_le _) (by show _ < _ + 0; omega) h2).2

theorem printText_nd (vars : List (Str × Value F)) : ∀ (items : List (PItem F)) (semi : Bool) (acc : Str) {x : Err},
    printText (envOf vars) items semi acc = .error x → x ≠ .dataTypeMismatch
  | [], semi, acc, x, h => by simp [printText] at h
  | .semi :: rest, semi, acc, x, h => by
    simp only [printText] at h
    exact printText_nd vars rest _ _ h
  | .comma :: rest, semi, acc, x, h => by
    simp only [printText] at h
    exact printText_nd vars rest _ _ h
  | .expr e :: rest, semi, acc, x, h => by
    simp only [printText] at h
    cases he : foldE (envOf vars) e with
    | error y => rw [he] at h; cases h; exact foldE_nd vars e he
    | ok v => rw [he] at h; exact printText_nd vars rest _ _ h

theorem exec_nd (vars : List (Str × Value F)) : ∀ (s : RStmt F) {x : Err},
    (RStmt.exec vars s).ctl = .error x → x ≠ .dataTypeMismatch
  | .letS y e, x, h => by
    cases he : foldE (envOf vars) e with
    | error z => simp only [RStmt.exec, he] at h; cases h; exact foldE_nd _ e he
    | ok v =>
      cases hb : v.matchesName y with
      | true => simp only [RStmt.exec, he, hb, ↓reduceIte] at h; cases h
      | false => simp only [RStmt.exec, he, hb, Bool.false_eq_true, ↓reduceIte] at h; cases h; simp
  | .printS items, x, h => by
    cases hp : printText (envOf vars) items false [] with
    | error z => simp only [RStmt.exec, hp] at h; cases h; exact printText_nd _ items _ _ hp
    | ok t => simp only [RStmt.exec, hp] at h; cases h
  | .gotoS n, x, h => by simp [RStmt.exec] at h
  | .endS, x, h => by simp [RStmt.exec] at h
  | .ifS c t none, x, h => by
    cases he : foldE (envOf vars) c with
    | error z => simp only [RStmt.exec, he] at h; cases h; exact foldE_nd _ c he
    | ok v =>
      cases hb : v.toBool with
      | true => simp only [RStmt.exec, he, hb, ↓reduceIte] at h; exact exec_nd vars t h
      | false => simp only [RStmt.exec, he, hb, Bool.false_eq_true, ↓reduceIte] at h; cases h
  | .ifS c t (some e), x, h => by
    cases he : foldE (envOf vars) c with
    | error z => simp only [RStmt.exec, he] at h; cases h; exact foldE_nd _ c he
    | ok v =>
      cases hb : v.toBool with
      | true => simp only [RStmt.exec, he, hb, ↓reduceIte] at h; exact exec_nd vars t (closeLine_error _ _ h)
      | false => simp only [RStmt.exec, he, hb, Bool.false_eq_true, ↓reduceIte] at h; exact exec_nd vars e h

end errors

section run
variable [NumOps F]
open Abasic.Props

/-- the state RUN starts its first turn in -/
def runInit (σ : St F) : St F :=
  ({ σ.setImmediate [] with input := none, vars := [], arrays := [] } : St F).runFromFirst

theorem runInit_first {σ : St F} {n : Nat} (h : σ.lines.first = some n) :
    runInit σ = { (({ σ.setImmediate [] with input := none, vars := [], arrays := [] } : St F).resetRuntime) with
      loc := { line := some n, idx := 0 } } := by
  have h' : (({ σ.setImmediate [] with input := none, vars := [], arrays := [] } : St F).resetRuntime).lines.first
      = some n := h
  unfold runInit St.runFromFirst
  simp only [h']

theorem runInit_none {σ : St F} (h : σ.lines.first = none) :
    runInit σ = ({ σ.setImmediate [] with input := none, vars := [], arrays := [] } : St F).resetRuntime := by
  have h' : (({ σ.setImmediate [] with input := none, vars := [], arrays := [] } : St F).resetRuntime).lines.first
      = none := h
  unfold runInit St.runFromFirst
  simp only [h']

theorem turn_imm (fuel : Nat) (σ : St F) (hl : σ.loc = {}) (hi : σ.imm = []) :
    runNextStatement fuel σ =
      .ok () { ({ σ with state := .running, reads := σ.reads + 1 + 1 } : St F).setImmediate [] with state := .idle } := by
  have ht : lineToks σ = some [] := by unfold lineToks; rw [hl, hi]
  rw [Turn.turn_end fuel ht rfl, Turn.lineEndSt_imm (s := C17.turnStart σ) (by show σ.loc.line = none; rw [hl])
    (by show σ.imm[σ.loc.idx]? = none; rw [hi]; rfl)]
  rfl

theorem runInit_line {S : Type} {L : SeqL.Lang F S} {p : SeqL.Prog S} (hwf : SeqL.WF p) {σ : St F}
    (hh : SeqL.Holds L σ.lines p) {n : Nat} (hf : SeqL.first p = some n) :
    ∃ ss, L.line p n = some ss ∧ 0 < ss.length ∧
      runInit σ = { (({ σ.setImmediate [] with input := none, vars := [], arrays := [] } : St F).resetRuntime) with
        loc := { line := some n, idx := (L.pre ss 0).length } } := by
  obtain ⟨ss, hl⟩ := SeqL.first_line (L := L) hf
  refine ⟨ss, hl, SeqL.line_nonempty hwf hl, ?_⟩
  rw [runInit_first (by rw [SeqL.holds_first hh, hf]), L.pre_zero]
  rfl

end run

end Abasic.ProgL
