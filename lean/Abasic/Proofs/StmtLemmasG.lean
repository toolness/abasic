import Abasic.Proofs.ExprLemmasG
import Abasic.Proofs.ErrKeepG
import Abasic.Proofs.ExprLemmas
/-
  C03: the statement refinement, for states whose GOSUB stack need not be empty.

  * `Quiet` is `ExprG.Quiet` (no frame binds a variable; warnings off);
  * `Refines` differs from `StmtL.Refines` in two places: END calls
    `set_and_goto_immediate_line`, which clears the GOSUB stack unless a breakpoint is
    pending; and a failure says where it leaves the cursor (`FailsWith`), which is what
    error attribution needs.  Both are defined in Proofs/ErrKeepG.lean.

  IF has its refinement from the theorem of its branches (`branch_ok`); `stmt_ok` is the recursion over statements.
  Proofs/StmtLemmas.lean specialises the results to an empty stack.
-/
namespace Abasic.StmtG
open Abasic Abasic.Ref Abasic.StmtL Abasic.Hoare M
open Abasic.ExprL hiding Quiet
open Abasic.ExprG (Quiet expr_eq main)

variable {F : Type}

variable [NumOps F]

/-- the expression interface of the statements; the failing state is the start's in line and output because an
    expression respects `KQ` -/
theorem expr_runs (e : Expr F) (f : Nat) (σ : St F) (pre rest : List (Token F))
    (hd : depth e + 1 ≤ f) (hn : σ.nesting + (depth e + 1) ≤ Extracted.nestingLimit)
    (hE : Ends 6 rest) (hAt : At σ pre (render e ++ rest)) (hq : Quiet σ) :
    match foldE (getVar σ) e with
    | .ok v => ∃ r, σ.reads < r ∧ (evalN f).expr σ = .ok v (mv σ (render e).length r)
    | .error x => FailsWith ((evalN f).expr σ) σ x := by
  have hX := expr_eq e (main e).1 f σ pre rest hd hn hE hAt hq
  cases hev : foldE (getVar σ) e with
  | ok v => rw [hev] at hX; exact hX
  | error x =>
    rw [hev] at hX
    obtain ⟨σ', hσ', hn'⟩ := hX
    exact ⟨σ', hσ', hn', fun hf => (((kq_evalN_expr f).at _).2 _ _ hσ' hf hq.2).2.2⟩

theorem let_run (x : Str) (e : Expr F) (n : Nat) (σ : St F) (pre rest : List (Token F)) (eol : Nat)
    (hAt : At σ pre (renderS (.letS x e) ++ rest)) (hq : Quiet σ) (htr : σ.tracing = false)
    (hd : depth e + 1 ≤ n) (hn : σ.nesting + (depth e + 1) ≤ Extracted.nestingLimit)
    (hE : Ends 6 rest) :
    Refines (stmtBody (evalN n) σ) σ (pre.length + (renderS (.letS x e)).length) eol
      (RStmt.exec σ.vars (.letS x e)) := by
  have hAt0 : At σ pre (.kw .Let :: .symbol x :: .kw .Equals :: (render e ++ rest)) := by
    simpa only [renderS, List.cons_append] using hAt
  -- the cursor behind LET, behind the name, after the look for `(` (`optionalArrayIndex` reads a token and stays:
  -- `at_mv0`), behind `=`; hence the `1 + 1 + 0 + 1` and the four reads of `hrun`
  have hAt1 := at_mv1 hAt0 (σ.reads + 1)
  have hAt2 := at_mv1 hAt1 (σ.reads + 1 + 1)
  rw [mv_mv] at hAt2
  have hAt3 := at_mv0 hAt2 (σ.reads + 1 + 1 + 1)
  rw [mv_mv] at hAt3
  have hAt4 := at_mv1 hAt3 (σ.reads + 1 + 1 + 1 + 1)
  rw [mv_mv] at hAt4
  have hrun : stmtBody (evalN n) σ =
      ((evalN n).expr >>= fun v => assignValue { name := x, index := none } v)
        (mv σ (1 + 1 + 0 + 1) (σ.reads + 1 + 1 + 1 + 1)) := by
    rw [stmtBody_tok hAt0 htr rfl]
    show letStatement (evalN n) _ = _
    unfold letStatement
    rw [bind_ok (next_eq hAt1), mv_mv]
    simp only [mv_reads]
    show assignmentStatement (evalN n) x _ = _
    unfold assignmentStatement
    rw [bind_ok (optionalArrayIndex_none hAt2 rfl), mv_mv]
    simp only [mv_reads]
    rw [bind_ok (expect_eq hAt3 rfl), mv_mv]
    rfl
  have hX := expr_runs e n (mv σ (1 + 1 + 0 + 1) (σ.reads + 1 + 1 + 1 + 1)) _ rest hd hn hE hAt4 (hq.mv _ _)
  rw [getVar_mv] at hX
  rw [hrun]
  show Refines _ σ _ eol (RStmt.exec σ.vars (.letS x e))
  cases hev : foldE (getVar σ) e with
  | error err =>
    rw [hev] at hX
    have hr : RStmt.exec σ.vars (.letS x e) = { vars := σ.vars, out := [], ctl := .error err } := by
      simp only [RStmt.exec, ← getVar_eq_envOf, hev]
    rw [hr]
    exact hX.bind.mv
  | ok v =>
    rw [hev] at hX
    obtain ⟨r, hr, hσ'⟩ := hX
    simp only [mv_reads, mv_mv] at hr hσ'
    rw [bind_ok hσ']
    cases hm : v.matchesName x with
    | false =>
      have hr : RStmt.exec σ.vars (.letS x e) = { vars := σ.vars, out := [], ctl := .error .typeMismatch } := by
        simp only [RStmt.exec, ← getVar_eq_envOf, hev, hm, Bool.false_eq_true, ↓reduceIte]
      rw [hr]
      refine failsWith_at (τ := mv σ (1 + 1 + 0 + 1 + (render e).length) r) ?_ rfl rfl rfl
      simp only [assignValue, setVar, hm, Bool.false_eq_true, ↓reduceIte, M.fail]
    | true =>
      have hr' : RStmt.exec σ.vars (.letS x e) = { vars := alSet x v σ.vars, out := [], ctl := .next } := by
        simp only [RStmt.exec, ← getVar_eq_envOf, hev, hm, ↓reduceIte]
      rw [hr']
      refine ⟨r, by omega, ?_⟩
      simp only [assignValue, setVar, hm, ↓reduceIte, M.modify, outRecs, List.map_nil, List.reverse_nil,
        List.nil_append, mv, hAt.2, renderS, List.length_cons]
      congr 3
      omega

theorem goto_body {m n : Nat} {σ : St F} {pre rest : List (Token F)}
    (hAt : At σ pre (renderS (.gotoS m : RStmt F) ++ rest)) (htr : σ.tracing = false)
    (hround : NumOps.toU64 (NumOps.ofNat m : F) = m) :
    stmtBody (evalN n) σ = gotoLine m (mv σ (1 + 1) (σ.reads + 1 + 1)) := by
  have hAt0 : At σ pre (.kw .Goto :: .num (NumOps.ofNat m) :: rest) := by
    simpa only [renderS, List.cons_append, List.nil_append] using hAt
  rw [stmtBody_tok hAt0 htr rfl]
  show gotoStatement _ = _
  unfold gotoStatement
  rw [bind_ok (next_eq (at_mv1 hAt0 _)), mv_mv]
  simp only [mv_reads, hround]

theorem goto_run (m : Nat) (n : Nat) (σ : St F) (pre rest : List (Token F)) (after eol : Nat)
    (hAt : At σ pre (renderS (.gotoS m : RStmt F) ++ rest)) (htr : σ.tracing = false)
    (hround : NumOps.toU64 (NumOps.ofNat m : F) = m) :
    Refines (stmtBody (evalN n) σ) σ after eol (RStmt.exec σ.vars (.gotoS m)) := by
  rw [goto_body hAt htr hround, gotoLine_eq]
  show Refines _ σ after eol { vars := σ.vars, out := [], ctl := .jump m }
  unfold Refines
  show (σ.lines.has m = true → _) ∧ (σ.lines.has m = false → _)
  constructor
  · intro hh
    have hh' : (mv σ (1 + 1) (σ.reads + 1 + 1)).lines.has m = true := hh
    refine ⟨σ.reads + 1 + 1, by omega, ?_⟩
    rw [hh']
    rfl
  · intro hh
    have hh' : (mv σ (1 + 1) (σ.reads + 1 + 1)).lines.has m = false := hh
    exact failsWith_at (τ := { mv σ (1 + 1) (σ.reads + 1 + 1) with bp := none }) (by rw [hh']; rfl) rfl rfl rfl

theorem end_run (n : Nat) (σ : St F) (pre rest : List (Token F)) (after eol : Nat)
    (hAt : At σ pre (renderS (.endS : RStmt F) ++ rest)) (htr : σ.tracing = false) :
    Refines (stmtBody (evalN n) σ) σ after eol (RStmt.exec σ.vars .endS) := by
  have hAt0 : At σ pre (.kw .End :: rest) := by
    simpa only [renderS, List.cons_append, List.nil_append] using hAt
  show Refines _ σ after eol { vars := σ.vars, out := [], ctl := .stop }
  unfold Refines
  refine ⟨σ.reads + 1, by omega, ?_⟩
  rw [stmtBody_tok hAt0 htr rfl]
  show setImmediate [] _ = _
  simp only [setImmediate, M.modify, St.setImmediate, mv, outRecs, List.map_nil,
    List.reverse_nil, List.nil_append]
  rfl

/-- `res` is a run of `printLoop` from `σ` over `len` tokens of items, against their
    text (`printText`, the last argument): that text, or the same error. -/
def PrintRuns (res : Res F (Bool × Str)) (σ : St F) (len : Nat) : Except Err Str → Prop
  | .ok text => ∃ r, σ.reads < r ∧ ∃ semi' text',
      res = .ok (semi', text') (mv σ len r) ∧ (if semi' then text' else text' ++ ['\n']) = text
  | .error x => FailsWith res σ x

omit [NumOps F] in
theorem PrintRuns.mv {res : Res F (Bool × Str)} {σ : St F} {a r1 len : Nat} {pt : Except Err Str}
    (h : PrintRuns res (mv σ a r1) len pt) (hr : σ.reads ≤ r1) : PrintRuns res σ (a + len) pt := by
  cases pt with
  | error x => exact FailsWith.mv h
  | ok text =>
    obtain ⟨r, hr', semi', text', hrun, htext⟩ := h
    rw [mv_mv] at hrun
    exact ⟨r, Nat.lt_of_le_of_lt hr hr', semi', text', hrun, htext⟩

theorem printLoop_run (n : Nat) (rest : List (Token F)) (hE : StmtEnd rest) (items : List (PItem F)) :
    ∀ (k : Nat) (σ : St F) (pre : List (Token F)) (semi : Bool) (acc : Str),
      At σ pre (renderItems items ++ rest) → Quiet σ → itemsDepth items ≤ n →
      σ.nesting + itemsDepth items ≤ Extracted.nestingLimit → separated items = true →
      (renderItems items).length < k →
      PrintRuns (printLoop (evalN n) k semi acc σ) σ (renderItems items).length
        (printText (getVar σ) items semi acc) := by
  -- `k` is the fuel of `printLoop`. A round spends one unit and, unless it is the one that stops, takes at least one
  -- token (`render_pos` for an expression), so "more fuel than tokens of items left" holds again for the tail. Cursor,
  -- `semi` and `acc` differ from round to round: the ∀ stays inside the induction.
  induction items with
  | nil =>
    intro k σ pre semi acc hAt _ _ _ _ hk
    obtain ⟨k', rfl⟩ : ∃ k', k = k' + 1 := ⟨k - 1, by omega⟩
    have hAt' : At σ pre rest := hAt
    exact ⟨σ.reads + 1, by omega, semi, acc, printLoop_stop hAt' hE, rfl⟩
  | cons i r ih =>
    intro k σ pre semi acc hAt hq hd hn hsep hk
    obtain ⟨k', rfl⟩ : ∃ k', k = k' + 1 := ⟨k - 1, by omega⟩
    have hsep' := sep_tail i r hsep
    cases i with
    | semi =>
      have hAt0 : At σ pre (.kw .Semicolon :: (renderItems r ++ rest)) := hAt
      have hlen : (renderItems (PItem.semi :: r)).length = 1 + (renderItems r).length := by
        simp only [renderItems, PItem.render, List.length_append, List.length_cons, List.length_nil]
      have hI := ih k' (mv σ 1 (σ.reads + 1 + 1)) _ true acc (at_mv1 hAt0 _) (hq.mv _ _) hd hn hsep'
        (by rw [hlen] at hk; omega)
      rw [getVar_mv] at hI
      rw [printLoop_semi hAt0, hlen]
      exact hI.mv (by omega)
    | comma =>
      have hAt0 : At σ pre (.kw .Comma :: (renderItems r ++ rest)) := hAt
      have hlen : (renderItems (PItem.comma :: r)).length = 1 + (renderItems r).length := by
        simp only [renderItems, PItem.render, List.length_append, List.length_cons, List.length_nil]
      have hI := ih k' (mv σ 1 (σ.reads + 1 + 1)) _ false (acc ++ ['\t']) (at_mv1 hAt0 _) (hq.mv _ _) hd hn hsep'
        (by rw [hlen] at hk; omega)
      rw [getVar_mv] at hI
      rw [printLoop_comma hAt0, hlen]
      exact hI.mv (by omega)
    | expr e =>
      have hAt0 : At σ pre (render e ++ (renderItems r ++ rest)) := by
        simpa only [renderItems, PItem.render, List.append_assoc] using hAt
      have hlen : (renderItems (PItem.expr e :: r)).length = (render e).length + (renderItems r).length := by
        simp only [renderItems, PItem.render, List.length_append]
      have hde : depth e + 1 ≤ n := by simp only [itemsDepth] at hd; omega
      have hdr : itemsDepth r ≤ n := by simp only [itemsDepth] at hd; omega
      have hne : σ.nesting + (depth e + 1) ≤ Extracted.nestingLimit := by simp only [itemsDepth] at hn; omega
      have hnr : σ.nesting + itemsDepth r ≤ Extracted.nestingLimit := by simp only [itemsDepth] at hn; omega
      obtain ⟨t, ts, hts, hpl⟩ := render_head e
      have hAt1 : At σ pre (t :: (ts ++ (renderItems r ++ rest))) := by rw [hts] at hAt0; exact hAt0
      -- what `separated` is for: the expression parser has to stop where `render e` ends (`Ends 6`); `;`, `,` and
      -- the end of the statement stop it, the first token of another expression (`(`, `-`) need not
      have hX := expr_runs e n (mv σ 0 (σ.reads + 1)) pre _ hde hne
        (sep_follow e r rest hsep hE) (at_mv0 hAt0 _) (hq.mv _ _)
      rw [getVar_mv] at hX
      rw [printLoop_expr hAt1 hpl, hlen]
      show PrintRuns _ σ _ (match foldE (getVar σ) e with
          | .ok v => printText (getVar σ) r false (acc ++ valueText v)
          | .error err => .error err)
      cases hev : foldE (getVar σ) e with
      | error x =>
        rw [hev] at hX
        exact hX.bind.mv
      | ok v =>
        rw [hev] at hX
        obtain ⟨r1, hr1, hσ1⟩ := hX
        simp only [mv_reads, mv_mv, Nat.zero_add] at hr1 hσ1
        rw [bind_ok hσ1]
        have hI := ih k' (mv σ (render e).length r1) _ false (acc ++ valueText v)
          (at_mv hAt0 r1) (hq.mv _ _) hdr hnr hsep'
          (by have := render_pos e; rw [hlen] at hk; omega)
        rw [getVar_mv] at hI
        exact hI.mv (by omega)

theorem print_body {n : Nat} {σ : St F} {pre post : List (Token F)}
    (hAt : At σ pre (.kw .Print :: post)) (htr : σ.tracing = false) :
    stmtBody (evalN n) σ =
      (printLoop (evalN n) ((pre ++ [Token.kw Kw.Print] ++ post).length + 1) false [] >>=
        fun p => emit (.print (if p.1 then p.2 else p.2 ++ ['\n']))) (mv σ 1 (σ.reads + 1)) := by
  rw [stmtBody_tok hAt htr rfl]
  show printStatement (evalN n) _ = _
  unfold printStatement
  rw [bind_ok (lineBudget_eq (at_mv1 hAt _).1)]

theorem print_run (items : List (PItem F)) (n : Nat) (σ : St F) (pre rest : List (Token F)) (eol : Nat)
    (hAt : At σ pre (renderS (.printS items) ++ rest)) (hq : Quiet σ) (htr : σ.tracing = false)
    (hd : itemsDepth items ≤ n) (hn : σ.nesting + itemsDepth items ≤ Extracted.nestingLimit)
    (hsep : separated items = true) (hE : StmtEnd rest) :
    Refines (stmtBody (evalN n) σ) σ (pre.length + (renderS (.printS items)).length) eol
      (RStmt.exec σ.vars (.printS items)) := by
  have hAt0 : At σ pre (.kw .Print :: (renderItems items ++ rest)) := by
    simpa only [renderS, List.cons_append] using hAt
  have hL := printLoop_run n rest hE items ((pre ++ [Token.kw Kw.Print] ++ (renderItems items ++ rest)).length + 1)
    (mv σ 1 (σ.reads + 1)) _ false [] (at_mv1 hAt0 _) (hq.mv _ _) hd hn hsep
    (by simp only [List.length_append]; omega)
  rw [getVar_mv] at hL
  rw [print_body hAt0 htr]
  cases hp : printText (getVar σ) items false [] with
  | error x =>
    rw [hp] at hL
    have hr : RStmt.exec σ.vars (.printS items) = { vars := σ.vars, out := [], ctl := .error x } := by
      simp only [RStmt.exec, ← getVar_eq_envOf, hp]
    rw [hr]
    exact hL.bind.mv
  | ok text =>
    rw [hp] at hL
    obtain ⟨r, hr, semi', text', hσ', htext⟩ := hL
    simp only [mv_reads, mv_mv] at hr hσ'
    have hr' : RStmt.exec σ.vars (.printS items) = { vars := σ.vars, out := [text], ctl := .next } := by
      simp only [RStmt.exec, ← getVar_eq_envOf, hp]
    rw [hr', bind_ok hσ']
    refine ⟨r, by omega, ?_⟩
    simp only [emit, M.modify, htext, outRecs, List.map_cons, List.map_nil, List.reverse_cons,
      List.reverse_nil, List.nil_append, List.cons_append, mv, hAt.2, renderS, List.length_cons]
    congr 3
    omega

omit [NumOps F] in
theorem refines_cast {res : Res F Unit} {σ : St F} {a a' e e' : Nat} {r : RResult F}
    (h : Refines res σ a e r) (ha : a = a') (he : e = e') : Refines res σ a' e' r := by
  subst ha; subst he; exact h

omit [NumOps F] in
theorem refines_mv {res : Res F Unit} {σ : St F} {a k after eol : Nat} {r : RResult F}
    (h : Refines res (mv σ a k) after eol r) (hk : σ.reads ≤ k) : Refines res σ after eol r := by
  unfold Refines at h ⊢
  cases hc : r.ctl with
  | next =>
    rw [hc] at h
    obtain ⟨k', hk', hres⟩ := h
    exact ⟨k', by simp only [mv_reads] at hk'; omega, hres⟩
  | skipLine =>
    rw [hc] at h
    obtain ⟨k', hk', hres⟩ := h
    exact ⟨k', by simp only [mv_reads] at hk'; omega, hres⟩
  | jump n =>
    rw [hc] at h
    refine ⟨fun hh => ?_, fun hh => (h.2 hh).mv⟩
    obtain ⟨k', hk', hres⟩ := h.1 hh
    exact ⟨k', by simp only [mv_reads] at hk'; omega, hres⟩
  | stop =>
    rw [hc] at h
    obtain ⟨k', hk', hres⟩ := h
    exact ⟨k', by simp only [mv_reads] at hk'; omega, hres⟩
  | error x =>
    rw [hc] at h
    exact h.mv

omit [NumOps F] in
theorem refines_nested {m : M F Unit} {σ : St F} {after eol : Nat} {r : RResult F}
    (hn : σ.nesting < Extracted.nestingLimit)
    (h : Refines (m (nest σ (σ.nesting + 1))) (nest σ (σ.nesting + 1)) after eol r) :
    Refines (nested m σ) σ after eol r := by
  unfold Refines at h ⊢
  cases hc : r.ctl with
  | next =>
    rw [hc] at h
    obtain ⟨k', hk', hres⟩ := h
    exact ⟨k', hk', by rw [nested_ok hn hres rfl]; rfl⟩
  | skipLine =>
    rw [hc] at h
    obtain ⟨k', hk', hres⟩ := h
    exact ⟨k', hk', by rw [nested_ok hn hres rfl]; rfl⟩
  | jump n =>
    rw [hc] at h
    refine ⟨fun hh => ?_, fun hh => ?_⟩
    · obtain ⟨k', hk', hres⟩ := h.1 hh
      exact ⟨k', hk', by rw [nested_ok hn hres rfl]; rfl⟩
    · exact (h.2 hh).nested hn
  | stop =>
    rw [hc] at h
    obtain ⟨k', hk', hres⟩ := h
    exact ⟨k', hk', by rw [nested_ok hn hres rfl]; rfl⟩
  | error x =>
    rw [hc] at h
    exact h.nested hn

omit [NumOps F] in
/-- A THEN branch that did not run to its end leaves the cursor at the end of the
    line, at the start of another line or on the empty immediate line: the ELSE check
    finds no ELSE there. -/
theorem then_tail_other {res : Res F Unit} {σ : St F} {ts : List (Token F)} {a a' : Nat} {r : RResult F}
    (hl : lineToks σ = some ts) (hNE : NoElseLine σ) (hc : r.ctl ≠ .next)
    (hR : Refines res σ a ts.length r) : Refines (andThen res tailElse) σ a' ts.length r := by
  unfold Refines at hR ⊢
  cases hc' : r.ctl with
  | next => exact absurd hc' hc
  | skipLine =>
    rw [hc'] at hR
    obtain ⟨k, hk, hres⟩ := hR
    refine ⟨k + 1, by omega, ?_⟩
    rw [hres]
    show tailElse _ = _
    rw [tailElse_no (pre := ts) (post := [])
      ⟨by show lineToks σ = _; rw [List.append_nil]; exact hl, rfl⟩ (fun t ht => by simp at ht)]
    rfl
  | jump n =>
    rw [hc'] at hR
    refine ⟨fun hh => ?_, fun hh => ?_⟩
    · obtain ⟨k, hk, hres⟩ := hR.1 hh
      refine ⟨k + 1, by omega, ?_⟩
      rw [hres]
      show tailElse _ = _
      cases hg : σ.lines.get n with
      | none => simp [Lines.has, hg] at hh
      | some ts' =>
        rw [tailElse_no (pre := []) (post := ts') ⟨by show σ.lines.get n = some ts'; exact hg, rfl⟩ (hNE n ts' hg)]
        rfl
    · exact (hR.2 hh).andThen
  | stop =>
    rw [hc'] at hR
    obtain ⟨k, hk, hres⟩ := hR
    refine ⟨k + 1, by omega, ?_⟩
    rw [hres]
    show tailElse _ = _
    rw [tailElse_no (pre := []) (post := []) ⟨rfl, rfl⟩ (fun t ht => by simp at ht)]
    rfl
  | error x =>
    rw [hc'] at hR
    exact hR.andThen

omit [NumOps F] in
theorem then_tail_line {res : Res F Unit} {σ : St F} {pre mid rest : List (Token F)} {r : RResult F}
    (hAt : At σ pre (mid ++ rest)) (hNE : NoElseLine σ) (hE : LineEnd rest)
    (hR : Refines res σ (pre.length + mid.length) (pre ++ (mid ++ rest)).length r) :
    Refines (andThen res tailElse) σ (pre.length + mid.length) (pre ++ (mid ++ rest)).length r := by
  by_cases hc : r.ctl = .next
  · unfold Refines at hR ⊢
    rw [hc] at hR ⊢
    obtain ⟨k, hk, hres⟩ := hR
    refine ⟨k + 1, by omega, ?_⟩
    rw [hres]
    show tailElse _ = _
    rw [tailElse_no (pre := pre ++ mid) (post := rest)
      ⟨by show lineToks σ = _; rw [List.append_assoc]; exact hAt.1,
       by show pre.length + mid.length = _; rw [List.length_append]⟩
      (fun t ht => by rw [hE t ht]; rfl)]
    rfl
  · exact then_tail_other hAt.1 hNE hc hR

omit [NumOps F] in
/-- after a THEN branch in front of ELSE: a branch that ran to completion abandons the line -/
theorem then_tail_else {res : Res F Unit} {σ : St F} {pre mid rest : List (Token F)} {r : RResult F}
    (hAt : At σ pre (mid ++ .kw .Else :: rest)) (hNE : NoElseLine σ)
    (hR : Refines res σ (pre.length + mid.length) (pre ++ (mid ++ .kw .Else :: rest)).length r) :
    Refines (andThen res tailElse) σ (pre.length + mid.length) (pre ++ (mid ++ .kw .Else :: rest)).length
      r.closeLine := by
  by_cases hc : r.ctl = .next
  · rw [closeLine_next hc]
    unfold Refines at hR ⊢
    rw [hc] at hR
    obtain ⟨k, hk, hres⟩ := hR
    refine ⟨k + 1, by omega, ?_⟩
    rw [hres]
    show tailElse _ = _
    rw [tailElse_yes (pre := pre ++ mid) (post := rest)
      ⟨by show lineToks σ = _; rw [List.append_assoc]; exact hAt.1,
       by show pre.length + mid.length = _; rw [List.length_append]⟩, List.append_assoc]
  · rw [closeLine_other hc]
    exact then_tail_other hAt.1 hNE hc hR

omit [NumOps F] in
theorem refines_not_next {res : Res F Unit} {σ : St F} {a a' e : Nat} {r : RResult F}
    (h : Refines res σ a e r) (hc : r.ctl ≠ .next) : Refines res σ a' e r := by
  unfold Refines at h ⊢
  cases hc' : r.ctl with
  | next => exact absurd hc' hc
  | _ => rw [hc'] at h; exact h

theorem if_cond (c : Expr F) (n : Nat) (σ : St F) (pre post : List (Token F))
    (hAt : At σ pre (.kw .If :: (render c ++ .kw .Then :: post))) (hq : Quiet σ)
    (htr : σ.tracing = false) (hd : depth c + 1 ≤ n)
    (hn : σ.nesting + (depth c + 1) ≤ Extracted.nestingLimit) :
    match foldE (getVar σ) c with
    | .ok v => ∃ r, σ.reads < r ∧
        stmtBody (evalN n) σ = ifRest (evalN n) v.toBool (mv σ (1 + (render c).length + 1) r)
    | .error x => FailsWith (stmtBody (evalN n) σ) σ x := by
  have hAt1 := at_mv1 hAt (σ.reads + 1)
  have hX := expr_runs c n (mv σ 1 (σ.reads + 1)) _ _ hd hn (ends_then 6 post) hAt1 (hq.mv _ _)
  rw [getVar_mv] at hX
  rw [stmtBody_tok hAt htr rfl]
  show match foldE (getVar σ) c with
    | .ok v => ∃ r, σ.reads < r ∧ ifStatement (evalN n) _ = _
    | .error x => FailsWith (ifStatement (evalN n) _) σ x
  unfold ifStatement
  cases hev : foldE (getVar σ) c with
  | error x => rw [hev] at hX; exact hX.bind.mv
  | ok v =>
    rw [hev] at hX
    obtain ⟨r, hr, hσ'⟩ := hX
    have hAt2 : At (mv σ (1 + (render c).length) r) (pre ++ [.kw .If] ++ render c) (.kw .Then :: post) := by
      have := at_mv hAt1 r
      rwa [mv_mv] at this
    refine ⟨r + 1, by simp only [mv_reads] at hr; omega, ?_⟩
    rw [bind_ok hσ', mv_mv, bind_ok (expect_eq hAt2 rfl), mv_mv]
    simp only [mv_reads]
    cases v.toBool <;> rfl

def StmtOK (s : RStmt F) (n : Nat) : Prop :=
  ∀ (σ : St F) (pre rest : List (Token F)),
    At σ pre (renderS s ++ rest) → Quiet σ → σ.tracing = false → NoElseLine σ →
    sdepth s ≤ n → σ.nesting + sdepth s ≤ Extracted.nestingLimit → s.Covered → EndFor s rest →
    Refines (stmtBody (evalN n) σ) σ (pre.length + (renderS s).length) (pre ++ (renderS s ++ rest)).length
      (RStmt.exec σ.vars s)

/-- `StmtOK` for `t` as the branch of an IF whose tokens up to the branch have been read (`statementOrGoto`:
    one activation one nesting level deeper) -/
theorem branch_ok {t : RStmt F} {n' : Nat} (ih : StmtOK t n') {σ : St F} {a r : Nat} {pre' rest : List (Token F)}
    (hAt : At (mv σ a r) pre' (renderS t ++ rest)) (hr : σ.reads ≤ r) (hq : Quiet σ) (htr : σ.tracing = false)
    (hNE : NoElseLine σ) (hd : sdepth t ≤ n') (hn : σ.nesting + 1 + sdepth t ≤ Extracted.nestingLimit)
    (hcov : t.Covered) (hE : EndFor t rest) :
    Refines (statementOrGoto (evalN (n' + 1)) (mv σ a r)) σ (pre'.length + (renderS t).length)
      (pre' ++ (renderS t ++ rest)).length (RStmt.exec σ.vars t) := by
  obtain ⟨k, ts, hhead⟩ := renderS_head t
  have hAt' : At (mv σ a r) pre' (.kw k :: (ts ++ rest)) := by rw [hhead] at hAt; exact hAt
  rw [statementOrGoto_kw hAt']
  exact refines_mv (refines_mv (refines_nested (by show σ.nesting < _; omega)
    (ih (nest (mv (mv σ a r) 0 (r + 1)) (σ.nesting + 1)) pre' rest (at_nest (at_mv0 hAt _) _)
      (((hq.mv a r).mv 0 (r + 1)).nest _) htr hNE hd (by simp only [nest_nesting]; omega) hcov hE))
    (by simp only [mv_reads]; omega)) hr

theorem if_ok (c : Expr F) (t : RStmt F) (ht : ∀ n, StmtOK t n) (n : Nat) : StmtOK (.ifS c t none) n := by
  intro σ pre rest hAt hq htr hNE hd hn hcov hE
  have hLE := hE.of_if
  obtain ⟨helse, hcovt⟩ : t.elseFree = true ∧ t.Covered := by simpa only [RStmt.Covered] using hcov
  -- the bounds on a maximum taken apart once: left whole, every `omega` below splits on each `max`
  simp only [sdepth, Nat.max_le, ← Nat.add_max_add_left] at hd hn
  obtain ⟨n', rfl⟩ : ∃ n', n = n' + 1 := ⟨n - 1, by omega⟩
  have hAt0 : At σ pre (.kw .If :: (render c ++ .kw .Then :: (renderS t ++ rest))) := by
    simpa only [renderS, List.cons_append, List.append_assoc] using hAt
  have hlen : (renderS (.ifS c t none)).length = 1 + (render c).length + 1 + (renderS t).length := by
    simp only [renderS, List.length_cons, List.length_append]; omega
  have hC := if_cond c (n' + 1) σ pre _ hAt0 hq htr (by omega) (by omega)
  cases hev : foldE (getVar σ) c with
  | error x =>
    rw [hev] at hC
    have hr : RStmt.exec σ.vars (.ifS c t none) = { vars := σ.vars, out := [], ctl := .error x } := by
      simp only [RStmt.exec, ← getVar_eq_envOf, hev]
    rw [hr]
    exact hC
  | ok v =>
    rw [hev] at hC
    obtain ⟨r, hr, hrun⟩ := hC
    have hAt3 := if_at c hAt0 r
    rw [hrun]
    cases hb : v.toBool with
    | true =>
      have hr' : RStmt.exec σ.vars (.ifS c t none) = RStmt.exec σ.vars t := by
        simp only [RStmt.exec, ← getVar_eq_envOf, hev, hb, ↓reduceIte]
      rw [hr']
      show Refines ((statementOrGoto (evalN (n' + 1)) >>= fun _ => tailElse) _) _ _ _ _
      rw [bind_andThen]
      have hB := refines_cast (branch_ok (ht n') hAt3 (by omega) hq htr hNE (by omega) (by omega) hcovt
        (Or.inl hLE))
        (a' := pre.length + (renderS (.ifS c t none)).length)
        (e' := (pre ++ (renderS (.ifS c t none) ++ rest)).length)
        (by rw [hlen]; simp only [List.length_append, List.length_cons, List.length_nil]; omega)
        (by simp only [List.length_append, List.length_cons, List.length_nil, hlen]; omega)
      exact then_tail_line hAt hNE hLE hB
    | false =>
      have hr' : RStmt.exec σ.vars (.ifS c t none) = { vars := σ.vars, out := [], ctl := .skipLine } := by
        simp only [RStmt.exec, ← getVar_eq_envOf, hev, hb, Bool.false_eq_true, ↓reduceIte]
      rw [hr']
      show Refines ((lineBudget >>= fun b => ifSkipLoop (evalN (n' + 1)) b) _) _ _ _ _
      rw [bind_ok (lineBudget_eq hAt3.1)]
      -- `List.length (…)`: as `(…).length` the `++` chain is elaborated again each time the field access is postponed
      obtain ⟨k, hk⟩ : ∃ k, List.length (pre ++ [Token.kw Kw.If] ++ render c ++ [Token.kw Kw.Then] ++ (renderS t ++ rest)) + 1
          = (k + 1 + 1) + (renderS t).length :=
        ⟨pre.length + (render c).length + rest.length + 1, by
          simp only [List.length_append, List.length_cons, List.length_nil]; omega⟩
      rw [hk, ifSkipLoop_skip _ (renderS t) (k + 1 + 1) _ _ rest hAt3 (renderS_tokens t helse), mv_mv]
      have hAt4 := at_mv hAt3 (r + (renderS t).length)
      rw [mv_mv] at hAt4
      simp only [mv_reads]
      obtain ⟨k', hk', hskip⟩ := ifSkipLoop_lineEnd (ev := evalN (n' + 1)) (k := k) hAt4 hLE
      rw [hskip]
      refine ⟨k', by simp only [mv_reads] at hk'; omega, ?_⟩
      simp only [mv, outRecs, List.map_nil, List.reverse_nil, List.nil_append, hlen,
        List.length_append, List.length_cons, List.length_nil]
      congr 3
      omega

theorem if_else_ok (c : Expr F) (t e : RStmt F) (ht : ∀ n, StmtOK t n) (he : ∀ n, StmtOK e n) (n : Nat) :
    StmtOK (.ifS c t (some e)) n := by
  intro σ pre rest hAt hq htr hNE hd hn hcov hE
  have hLE := hE.of_if
  obtain ⟨hsimple, hcovt, hcove⟩ : t.simple = true ∧ t.Covered ∧ e.Covered := by
    simpa only [RStmt.Covered] using hcov
  simp only [sdepth, Nat.max_le, ← Nat.add_max_add_left] at hd hn
  obtain ⟨n', rfl⟩ : ∃ n', n = n' + 1 := ⟨n - 1, by omega⟩
  have hAt0 : At σ pre (.kw .If :: (render c ++ .kw .Then ::
      (renderS t ++ .kw .Else :: (renderS e ++ rest)))) := by
    simpa only [renderS, List.cons_append, List.append_assoc] using hAt
  have hlen : (renderS (.ifS c t (some e))).length =
      1 + (render c).length + 1 + (renderS t).length + 1 + (renderS e).length := by
    simp only [renderS, List.length_cons, List.length_append]; omega
  have hC := if_cond c (n' + 1) σ pre _ hAt0 hq htr (by omega) (by omega)
  cases hev : foldE (getVar σ) c with
  | error x =>
    rw [hev] at hC
    have hr : RStmt.exec σ.vars (.ifS c t (some e)) = { vars := σ.vars, out := [], ctl := .error x } := by
      simp only [RStmt.exec, ← getVar_eq_envOf, hev]
    rw [hr]
    exact hC
  | ok v =>
    rw [hev] at hC
    obtain ⟨r, hr, hrun⟩ := hC
    have hAt3 := if_at c hAt0 r
    rw [hrun]
    cases hb : v.toBool with
    | true =>
      have hr' : RStmt.exec σ.vars (.ifS c t (some e)) = (RStmt.exec σ.vars t).closeLine := by
        simp only [RStmt.exec, ← getVar_eq_envOf, hev, hb, ↓reduceIte]
      rw [hr']
      show Refines ((statementOrGoto (evalN (n' + 1)) >>= fun _ => tailElse) _) _ _ _ _
      rw [bind_andThen]
      have hAtm : At σ pre ((.kw .If :: (render c ++ .kw .Then :: renderS t)) ++
          .kw .Else :: (renderS e ++ rest)) := by
        simpa only [List.cons_append, List.append_assoc] using hAt0
      have hB := refines_cast (branch_ok (ht n') hAt3 (by omega) hq htr hNE (by omega) (by omega) hcovt
        (Or.inr ⟨hsimple, stmtEnd_else _⟩))
        (a' := pre.length + (Token.kw Kw.If :: (render c ++ Token.kw Kw.Then :: renderS t)).length)
        (e' := (pre ++ ((Token.kw Kw.If :: (render c ++ Token.kw Kw.Then :: renderS t)) ++
          Token.kw Kw.Else :: (renderS e ++ rest))).length)
        (by simp only [List.length_append, List.length_cons, List.length_nil]; omega)
        (by simp only [List.length_append, List.length_cons, List.length_nil]; omega)
      exact refines_cast (refines_not_next (then_tail_else hAtm hNE hB) (closeLine_ctl _)) rfl
        (by simp only [List.length_append, List.length_cons, hlen]; omega)
    | false =>
      have hr' : RStmt.exec σ.vars (.ifS c t (some e)) = RStmt.exec σ.vars e := by
        simp only [RStmt.exec, ← getVar_eq_envOf, hev, hb, Bool.false_eq_true, ↓reduceIte]
      rw [hr']
      have hAt4 := at_mv hAt3 (r + (renderS t).length)
      rw [mv_mv] at hAt4
      have hAt5 := at_mv1 hAt4 (r + (renderS t).length + 1)
      rw [mv_mv] at hAt5
      -- the THEN branch is skipped up to ELSE; what runs is the ELSE branch
      have hskip : ifRest (evalN (n' + 1)) false (mv σ (1 + (render c).length + 1) r) =
          statementOrGoto (evalN (n' + 1))
            (mv σ (1 + (render c).length + 1 + (renderS t).length + 1) (r + (renderS t).length + 1)) := by
        show (lineBudget >>= fun b => ifSkipLoop (evalN (n' + 1)) b) _ = _
        rw [bind_ok (lineBudget_eq hAt3.1)]
        obtain ⟨k, hk⟩ : ∃ k, List.length (pre ++ [Token.kw Kw.If] ++ render c ++ [Token.kw Kw.Then] ++
            (renderS t ++ Token.kw Kw.Else :: (renderS e ++ rest))) + 1
            = (k + 1) + (renderS t).length :=
          ⟨pre.length + (render c).length + (renderS e).length + rest.length + 2 + 1, by
            simp only [List.length_append, List.length_cons, List.length_nil]; omega⟩
        rw [hk, ifSkipLoop_skip _ (renderS t) (k + 1) _ _ _ hAt3
          (renderS_tokens t (simple_elseFree t hsimple)), mv_mv]
        simp only [mv_reads]
        rw [ifSkipLoop_else hAt4, mv_mv]
        simp only [mv_reads]
      rw [hskip]
      exact refines_cast (branch_ok (he n') hAt5 (by omega) hq htr hNE (by omega) (by omega) hcove (Or.inl hLE))
        (by rw [hlen]; simp only [List.length_append, List.length_cons, List.length_nil]; omega)
        (by simp only [List.length_append, List.length_cons, List.length_nil, hlen]; omega)

/-- **A covered statement realises its reference result**; a failing one fails, without user functions, on the
    line it started on and has printed nothing (`FailsWith`). -/
theorem stmt_ok : ∀ (s : RStmt F) (n : Nat), StmtOK s n
  | .letS x e, n => fun σ pre rest hAt hq htr _ hd hn _ hE =>
    let_run x e n σ pre rest _ hAt hq htr hd hn (ends_of_stmtEnd hE.stmtEnd 6)
  | .printS items, n => fun σ pre rest hAt hq htr _ hd hn hcov hE =>
    print_run items n σ pre rest _ hAt hq htr hd hn hcov hE.stmtEnd
  | .gotoS m, n => fun σ pre rest hAt _ htr _ _ _ hcov _ => goto_run m n σ pre rest _ _ hAt htr hcov
  | .endS, n => fun σ pre rest hAt _ htr _ _ _ _ _ => end_run n σ pre rest _ _ hAt htr
  | .ifS c t none, n => if_ok c t (stmt_ok t) n
  | .ifS c t (some e), n => if_else_ok c t e (stmt_ok t) (stmt_ok e) n

theorem stmt_run (s : RStmt F) (n : Nat) (σ : St F) (pre rest : List (Token F))
    (hAt : At σ pre (renderS s ++ rest)) (hq : Quiet σ) (htr : σ.tracing = false) (hNE : NoElseLine σ)
    (hd : sdepth s ≤ n) (hn : σ.nesting + sdepth s ≤ Extracted.nestingLimit) (hcov : s.Covered) (hE : EndFor s rest) :
    Refines (stmtBody (evalN n) σ) σ (pre.length + (renderS s).length)
      (pre ++ (renderS s ++ rest)).length (RStmt.exec σ.vars s) :=
  stmt_ok s n σ pre rest hAt hq htr hNE hd hn hcov hE

end Abasic.StmtG
