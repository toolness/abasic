import Abasic.Proofs.Expr2Spec
/-
  The three built-in functions ABS / INT / RND as a type: their names (a name is
  that of a built-in or not reserved: `name_cases`), what each does with its
  numeric argument (`Builtin.after`, `functionCall_name`) and its node in a tree
  (`Builtin.node`).  Shared by Proofs/Expr2Names.lean (what a name before `(`
  means) and Proofs/Expr2WarnInd.lean (the built-in leaf of the induction).
-/

namespace Abasic.Names
open Abasic Abasic.Ref M Abasic.ExprL Abasic.ExprL2

variable {F : Type}

inductive Builtin where
  | abs | int | rnd
  deriving DecidableEq, Repr

def Builtin.name : Builtin → Str
  | .abs => Extracted.builtinAbs.toList
  | .int => Extracted.builtinInt.toList
  | .rnd => Extracted.builtinRnd.toList

/-- the reserved names are the names of the three built-ins: every case analysis on a name before `(` is this one -/
theorem name_cases (name : Str) : (∃ b : Builtin, name = b.name) ∨ reserved name = false := by
  unfold reserved
  by_cases h1 : name = Extracted.builtinAbs.toList
  · exact .inl ⟨.abs, h1⟩
  · by_cases h2 : name = Extracted.builtinInt.toList
    · exact .inl ⟨.int, h2⟩
    · by_cases h3 : name = Extracted.builtinRnd.toList
      · exact .inl ⟨.rnd, h3⟩
      · exact .inr (by simp [h1, h2, h3])

theorem reserved_name (b : Builtin) : reserved b.name = true := by cases b <;> rfl

theorem builtin_of_reserved {name : Str} (h : reserved name = true) : ∃ b : Builtin, name = b.name :=
  (name_cases name).resolve_right (by rw [h]; exact Bool.noConfusion)

variable [NumOps F]

def builtinM (ev : Evals F) : Builtin → M F (Value F)
  | .abs => do
    let x ← numberFunctionArg ev
    pure (.num (NumOps.abs x))
  | .int => do
    let x ← numberFunctionArg ev
    pure (.num (NumOps.floor x))
  | .rnd => do
    let x ← numberFunctionArg ev
    let r ← rnd x
    pure (.num r)

def Builtin.after : Builtin → F → M F (Value F)
  | .abs, x => pure (.num (NumOps.abs x))
  | .int, x => pure (.num (NumOps.floor x))
  | .rnd, x => do
    let r ← Abasic.rnd x
    pure (.num r)

/-- a built-in name is never looked up in the function table -/
theorem functionCall_name (ev : Evals F) (b : Builtin) :
    functionCall ev b.name = numberFunctionArg ev >>= fun y => b.after y >>= fun v => pure (some v) := by
  have h1 : (Extracted.builtinInt.toList == Extracted.builtinAbs.toList) = false := by decide
  have h2 : (Extracted.builtinRnd.toList == Extracted.builtinAbs.toList) = false := by decide
  have h3 : (Extracted.builtinRnd.toList == Extracted.builtinInt.toList) = false := by decide
  cases b
  · simp only [functionCall, Builtin.name, beq_self_eq_true, ↓reduceIte]; rfl
  · simp only [functionCall, Builtin.name, h1, beq_self_eq_true, Bool.false_eq_true, ↓reduceIte]; rfl
  · simp only [functionCall, Builtin.name, h2, h3, beq_self_eq_true, Bool.false_eq_true, ↓reduceIte]
    refine congrArg _ (funext fun y => funext fun σ => ?_)
    simp only [Builtin.after, bind, M.bindM]
    cases rnd y σ <;> rfl

omit [NumOps F]

def Builtin.node : Builtin → Expr2 F → Expr2 F
  | .abs => .abs
  | .int => .int
  | .rnd => .rnd

theorem Builtin.render2_node (b : Builtin) (e : Expr2 F) :
    render2 (b.node e) = .symbol b.name :: .kw .LeftParen :: (render2 e ++ [.kw .RightParen]) := by
  cases b
  · exact render2_abs e
  · exact render2_int e
  · exact render2_rnd e

end Abasic.Names
