import Abasic.Proofs.Prims
import Abasic.Props.C16
import Abasic.Proofs.Step
/-
  A frame `R` with `[Prims R]` is a `TopFrame` (Proofs/Step.lean) — the updates that touch neither the
  nesting counter nor the stack are `RNS` steps, the others are the fields of `Prims` — so `Respects R`
  holds of every function of the evaluator by the `fr_*` lemmas of Proofs/Step.lean.  With `[HostPrims R]`
  it is a `HostFrame`: the host API on top.
-/
set_option linter.unusedSectionVars false

namespace Abasic.Hoare
open Abasic M

variable {F : Type} {R : St F → St F → Prop} [Prims R]

theorem respects_breakAtCurrentLocation : Respects R (breakAtCurrentLocation (F := F)) := by
  unfold breakAtCurrentLocation
  apply respects_modify
  intro σ
  exact IsFrame.trans (b := { σ with state := .idle, out := .brk σ.loc.line :: σ.out })
    (Prims.sub (rns_same rfl rfl rfl)) (Prims.progBreak _)

variable [NumOps F]

theorem rns_cstep {σ σ' : St F} (h : CStep σ σ') : RNS σ σ' := by
  cases h <;> exact rns_same rfl rfl rfl

theorem prims_dstep {σ σ' : St F} (h : DStep σ σ') : R σ σ' := by
  cases h with
  | dropLoop sym x rest heq =>
    exact Prims.sub ⟨rfl, rfl, fun hl => Nat.le_trans (Nat.le_of_lt (Props.C16.removeLoop_length_lt _ _ _ _ heq)) hl⟩
  | pushLoop sym a b hc => exact Prims.sub ⟨rfl, rfl, fun hl => by show _ + 1 ≤ _; omega⟩
  | _ => exact Prims.sub (rns_same rfl rfl rfl)

theorem prims_gstep {σ σ' : St F} (h : GStep σ σ') : R σ σ' := by
  cases h with
  | loopBack sym x rest heq =>
    exact Prims.sub ⟨rfl, rfl, fun hl => by have := Props.C16.removeLoop_length_lt _ _ _ _ heq; show rest.length + 1 ≤ _; omega⟩
  | gosub n hc hh =>
    have := (Prims.gosubLine (R := R) n).final σ
    rwa [gosubLine_eq, if_neg (by simpa using hc), if_pos hh] at this
  | ret f rest hs =>
    have := (Prims.returnFromGosub (R := R)).final σ
    rwa [returnFromGosub_eq, hs] at this
  | _ => exact Prims.sub (rns_same rfl rfl rfl)

theorem prims_tstep {σ σ' : St F} (h : TStep σ σ') : R σ σ' := by
  cases h with
  | setImmediate ts => exact (Prims.setImmediate (R := R) ts).final σ
  | brk => exact (respects_breakAtCurrentLocation (R := R)).final σ
  | _ => exact Prims.sub (rns_same rfl rfl rfl)

instance : TopFrame R where
  vstep h := by cases h <;> exact Prims.sub (rns_same rfl rfl rfl)
  cstep h := Prims.sub (rns_cstep h)
  nested := Prims.nested
  call ev name d he :=
    call_of_body (fun h => Prims.sub (rns_cstep h)) ev he name d fun _ =>
      respects_callBody he (Prims.pushFunctionCall _ _) Prims.popFunctionCall
  dstep := prims_dstep
  gstep := prims_gstep
  idx _ _ _ := Prims.sub (rns_same rfl rfl rfl)
  tstep := prims_tstep

section host
variable {R : St F → St F → Prop} [HostPrims R]

theorem hostPrims_hstep {σ σ' : St F} (h : HStep σ σ') : R σ σ' := by
  cases h with
  | reset =>
    exact IsFrame.trans (R := R) (Prims.sub (rns_same (σ' := { σ with input := none, vars := [], arrays := [] }) rfl rfl rfl))
      (HostPrims.runFromFirst _)
  | store n ts => exact HostPrims.setNumberedLine σ n ts
  | _ => exact Prims.sub (rns_same rfl rfl rfl)

instance : HostFrame R where
  hstep := hostPrims_hstep

end host

end Abasic.Hoare
