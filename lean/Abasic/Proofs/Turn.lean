import Abasic.Proofs.ExprCursor
import Abasic.Props.C09
/-
  One turn (`run_next_statement`), by what is under the cursor.

  A turn marks the interpreter running, executes ONE statement if a token is under the cursor, and then
  sequences lines (`C09.sequence`).  Sequencing is a function on states (`lineEndSt`); so a turn is
  "statement, then `lineEndSt`" or "`lineEndSt`" according to `ts[idx]?` of the current line `ts`
  (`ExprL.lineToks`; no assumption that the cursor is within the line), or the panic of `tokens_for_line`
  when the current line is missing.  Last: a line typed at the idle prompt runs its first statement from
  `typed σ ts`; an error of that statement is the error of the call, and a statement that uses up the
  line leaves the prompt idle.
-/
/-! Three definitions that statements elsewhere are written with (C09Count, C17Repeat, C08More): they stand here
    because the lemmas below are about them. -/

namespace Abasic.Props.C09
open Abasic
variable {F : Type} [NumOps F]

/-- the anatomy of a turn (`turn_anatomy`), with the evaluator as a parameter -/
def turnWith (ev : Evals F) : M F Unit := do
  M.modify fun s => { s with state := .running }
  if ← hasNext then stmtBody ev
  sequence

end Abasic.Props.C09

namespace Abasic.Props.C17
open Abasic
variable {F : Type}

/-- the state in which a turn's statement activation starts: marked running,
    the token under the cursor looked at once -/
def turnStart (σ : St F) : St F := { σ with state := .running, reads := σ.reads + 1 }

end Abasic.Props.C17

namespace Abasic.InputL
open Abasic Abasic.ExprL
variable {F : Type}

/-- line sequencing (`C09.sequence`) as a function on states -/
def lineEndSt (σ : St F) : St F :=
  let σ1 := mv σ 0 (σ.reads + 1)
  match (lineToks σ).bind (fun ts => ts[σ.loc.idx]?) with
  | some _ => σ1
  | none =>
    match σ1.loc.line with
    | none => { σ1.setImmediate [] with state := .idle }
    | some n =>
      match σ1.lines.after n with
      | some m => { σ1 with loc := { line := some m, idx := 0 } }
      | none => { σ1.setImmediate [] with state := .idle }

end Abasic.InputL

namespace Abasic.Turn
open Abasic Abasic.ExprL Abasic.Props Abasic.InputL M

variable {F : Type}

theorem peek_toks {σ : St F} {ts : List (Token F)} (h : lineToks σ = some ts) :
    peek σ = .ok ts[σ.loc.idx]? { σ with reads := σ.reads + 1 } := by
  rw [Cur.peek_eq, Cur.curOp_some _ (show Cur.toks σ = some ts from h)]
  rfl

theorem hasNext_toks {σ : St F} {ts : List (Token F)} (h : lineToks σ = some ts) :
    hasNext σ = .ok (ts[σ.loc.idx]?).isSome { σ with reads := σ.reads + 1 } := by
  rw [Cur.hasNext_eq, Cur.curOp_some _ (show Cur.toks σ = some ts from h)]
  rfl

theorem next_toks {σ : St F} {ts : List (Token F)} {t : Token F} (h : lineToks σ = some ts)
    (ht : ts[σ.loc.idx]? = some t) :
    next σ = .ok (some t) { σ with reads := σ.reads + 1, loc := { σ.loc with idx := σ.loc.idx + 1 } } := by
  rw [Cur.next_eq, Cur.curOp_some _ (show Cur.toks σ = some ts from h), ht]
  rfl

theorem at_tok {σ : St F} {pre post : List (Token F)} {t : Token F} (h : At σ pre (t :: post)) :
    (pre ++ t :: post)[σ.loc.idx]? = some t := by
  rw [h.2, List.getElem?_append_right (Nat.le_refl _), Nat.sub_self]
  rfl

theorem at_end {σ : St F} {pre : List (Token F)} (h : At σ pre []) : (pre ++ [])[σ.loc.idx]? = none := by
  rw [h.2, List.append_nil]
  exact List.getElem?_eq_none (Nat.le_refl _)

theorem lineEndSt_eq {s : St F} {ts : List (Token F)} (h : lineToks s = some ts) :
    lineEndSt s = match ts[s.loc.idx]? with
      | some _ => mv s 0 (s.reads + 1)
      | none =>
        match s.loc.line.bind s.lines.after with
        | some m => { mv s 0 (s.reads + 1) with loc := { line := some m, idx := 0 } }
        | none => { (mv s 0 (s.reads + 1)).setImmediate [] with state := .idle } := by
  unfold lineEndSt
  rw [h]
  show (match ts[s.loc.idx]? with | some _ => _ | none => _) = _
  cases ts[s.loc.idx]? with
  | some _ => rfl
  | none =>
    show (match s.loc.line with | none => _ | some n => _) = _
    cases s.loc.line with
    | none => rfl
    | some n =>
      show (match s.lines.after n with | some m => _ | none => _) = match s.lines.after n with | some m => _ | none => _
      cases s.lines.after n <;> rfl

theorem sequence_eq {σ : St F} {ts : List (Token F)} (h : lineToks σ = some ts) :
    C09.sequence σ = .ok () (lineEndSt σ) := by
  unfold C09.sequence
  rw [bind_ok (hasNext_toks h), lineEndSt_eq h]
  cases ts[σ.loc.idx]? with
  | some t => rfl
  | none =>
    simp only [Option.isSome_none, Bool.not_false, ↓reduceIte]
    show (nextLine >>= _) (mv σ 0 (σ.reads + 1)) = _
    simp only [bind, M.bindM, Cur.nextLine_eq]
    rw [show (mv σ 0 (σ.reads + 1)).loc.line = σ.loc.line from rfl, show (mv σ 0 (σ.reads + 1)).lines = σ.lines from rfl]
    cases σ.loc.line.bind σ.lines.after <;> rfl

theorem lineEndSt_more {s : St F} {ts : List (Token F)} {t : Token F} (h : lineToks s = some ts)
    (ht : ts[s.loc.idx]? = some t) : lineEndSt s = mv s 0 (s.reads + 1) := by
  rw [lineEndSt_eq h, ht]

theorem lineEndSt_line {s : St F} {ts : List (Token F)} {n m : Nat} (h : lineToks s = some ts)
    (he : ts[s.loc.idx]? = none) (hl : s.loc.line = some n) (ha : s.lines.after n = some m) :
    lineEndSt s = { mv s 0 (s.reads + 1) with loc := { line := some m, idx := 0 } } := by
  rw [lineEndSt_eq h, he, hl, Option.bind_some, ha]

theorem lineEndSt_last {s : St F} {ts : List (Token F)} {n : Nat} (h : lineToks s = some ts)
    (he : ts[s.loc.idx]? = none) (hl : s.loc.line = some n) (ha : s.lines.after n = none) :
    lineEndSt s = { (mv s 0 (s.reads + 1)).setImmediate [] with state := .idle } := by
  rw [lineEndSt_eq h, he, hl, Option.bind_some, ha]

theorem lineEndSt_imm {s : St F} (hl : s.loc.line = none) (he : s.imm[s.loc.idx]? = none) :
    lineEndSt s = { ({ s with reads := s.reads + 1 } : St F).setImmediate [] with state := .idle } := by
  rw [lineEndSt_eq (ts := s.imm) (by unfold lineToks; rw [hl]), he, hl]
  rfl

variable [NumOps F]

theorem turnWith_eq (ev : Evals F) {σ : St F} {ts : List (Token F)} (h : lineToks σ = some ts) :
    C09.turnWith ev σ =
      if (ts[σ.loc.idx]?).isSome then (stmtBody ev >>= fun _ => C09.sequence) (C17.turnStart σ)
      else C09.sequence (C17.turnStart σ) := by
  have hm : (M.modify fun s : St F => { s with state := .running }) σ = .ok () { σ with state := .running } := rfl
  unfold C09.turnWith
  rw [bind_ok hm, bind_ok (hasNext_toks (σ := { σ with state := .running }) h)]
  show (if (ts[σ.loc.idx]?).isSome = true then (_ : M F Unit) else _) (C17.turnStart σ) = _
  cases (ts[σ.loc.idx]?).isSome <;> rfl

theorem turnWith_missing (ev : Evals F) {σ : St F} (h : lineToks σ = none) :
    C09.turnWith ev σ = .err { err := .panic "tokens_for_line: unwrap on None" } (C17.turnStart σ) := by
  have hm : (M.modify fun s : St F => { s with state := .running }) σ = .ok () { σ with state := .running } := rfl
  unfold C09.turnWith
  rw [bind_ok hm, Cur.hasNext_eq, bind_err (Cur.curOp_none _ (σ := { σ with state := .running }) h)]
  rfl

theorem turn_tok (fuel : Nat) {σ : St F} {ts : List (Token F)} {t : Token F} (h : lineToks σ = some ts)
    (ht : ts[σ.loc.idx]? = some t) :
    runNextStatement fuel σ = (stmtBody (evalN fuel) >>= fun _ => C09.sequence) (C17.turnStart σ) := by
  rw [C09.turn_anatomy]
  exact (turnWith_eq (evalN fuel) h).trans (by rw [ht]; rfl)

theorem turn_end (fuel : Nat) {σ : St F} {ts : List (Token F)} (h : lineToks σ = some ts)
    (ht : ts[σ.loc.idx]? = none) :
    runNextStatement fuel σ = .ok () (lineEndSt (C17.turnStart σ)) := by
  rw [C09.turn_anatomy]
  exact (turnWith_eq (evalN fuel) h).trans (by rw [ht]; exact sequence_eq (σ := C17.turnStart σ) h)

/-- the state in which the first statement of the immediate line `ts`, typed at the idle prompt of `σ`, starts -/
def typed (σ : St F) (ts : List (Token F)) : St F := C17.turnStart ((σ.setImmediate []).setImmediate ts)

theorem stmtBody_typed (fuel : Nat) (s : St F) (t : Token F) (ts : List (Token F)) {k : Option (Token F) → M F Unit}
    (hk : dispatch (evalN fuel) = Abasic.next >>= k) :
    stmtBody (evalN fuel) (typed s (t :: ts)) = k (some t) (mv (typed s (t :: ts)) 1 (s.reads + 1 + 1)) := by
  unfold stmtBody
  rw [bind_ok (traceHere_imm _ rfl), hk, bind_ok (next_eq (σ := typed s (t :: ts)) (pre := []) ⟨rfl, rfl⟩)]
  rfl

theorem start_typed (fuel : Nat) (line : Str) {t : Token F} {ts : List (Token F)} {σ : St F} (hidle : σ.state = .idle)
    (hcmd : (commandWord line).bind Command.ofWord = none) (hnum : parseLineNumber line = none)
    (htok : tokenize (F := F) line 0 = .ok (t :: ts)) :
    startEvaluating fuel line σ =
      postprocess (stmtBody (evalN fuel) >>= fun _ => C09.sequence) (typed σ (t :: ts)) := by
  rw [C01.start_immediate fuel line (t :: ts) σ hidle hcmd hnum htok]
  unfold postprocess
  rw [turn_tok fuel (σ := (σ.setImmediate []).setImmediate (t :: ts)) (ts := t :: ts) (t := t) rfl rfl]
  rfl

theorem start_typed_err (fuel : Nat) (line : Str) {t : Token F} {ts : List (Token F)} {σ s : St F} {e : TErr}
    (hidle : σ.state = .idle)
    (hcmd : (commandWord line).bind Command.ofWord = none) (hnum : parseLineNumber line = none)
    (htok : tokenize (F := F) line 0 = .ok (t :: ts))
    (hs : stmtBody (evalN fuel) (typed σ (t :: ts)) = .err e s) :
    startEvaluating fuel line σ = .err (s.populate e) { s with state := .idle } := by
  rw [start_typed fuel line hidle hcmd hnum htok]
  exact C01.postprocess_of_err (bind_err hs)

theorem start_typed_ok (fuel : Nat) (line : Str) {t : Token F} {ts : List (Token F)} {σ s : St F}
    (hidle : σ.state = .idle)
    (hcmd : (commandWord line).bind Command.ofWord = none) (hnum : parseLineNumber line = none)
    (htok : tokenize (F := F) line 0 = .ok (t :: ts))
    (hs : stmtBody (evalN fuel) (typed σ (t :: ts)) = .ok () s)
    (hl : s.loc.line = none) (he : s.imm[s.loc.idx]? = none) :
    startEvaluating fuel line σ =
      .ok () { ({ s with reads := s.reads + 1 } : St F).setImmediate [] with state := .idle } := by
  rw [start_typed fuel line hidle hcmd hnum htok]
  refine C01.postprocess_of_ok ?_
  rw [bind_ok hs, sequence_eq (ts := s.imm) (by unfold lineToks; rw [hl]), lineEndSt_imm hl he]

theorem start_typed_nil (fuel : Nat) (line : Str) {σ : St F} (hidle : σ.state = .idle)
    (hcmd : (commandWord line).bind Command.ofWord = none) (hnum : parseLineNumber line = none)
    (htok : tokenize (F := F) line 0 = .ok []) :
    startEvaluating fuel line σ =
      .ok () { ({ typed σ [] with reads := σ.reads + 1 + 1 } : St F).setImmediate [] with state := .idle } := by
  rw [C01.start_immediate fuel line [] σ hidle hcmd hnum htok]
  refine C01.postprocess_of_ok ?_
  rw [turn_end fuel (σ := (σ.setImmediate []).setImmediate []) (ts := []) rfl rfl,
    lineEndSt_imm (s := C17.turnStart ((σ.setImmediate []).setImmediate [])) rfl rfl]
  rfl

end Abasic.Turn
