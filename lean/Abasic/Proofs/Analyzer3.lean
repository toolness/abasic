import Abasic.Proofs.AnalyzerDef
import Abasic.Proofs.LoopsAnalyzer
import Abasic.Proofs.AnalyzerFns
import Abasic.Proofs.Stmt3If
import Abasic.Proofs.AnalyzerFrame
import Abasic.Proofs.ProgTyping
/-
  C06 for the whole statement language `RStmt3`, analyzer side: what the model of
  the static analyzer (`aStmtBody`, Analyzer.lean) does on the rendering of a
  statement of `RStmt3` — every expression an `Expr2` — against the static check
  `typeOfS3A` / `typeOfS3` (Proofs/TypeOf3.lean).

  * `asdepth s`       — nesting levels / fuel the ANALYZER needs on `renderS3 s`
                        (it does not enter function bodies: `adepth`);
  * `ResolvedS2 sig s` — names are used consistently with the signatures the
                        analyzer holds when it reaches each expression of `s`
                        (`Resolved2`; the body of a DEF w.r.t. the signatures after
                        the DEF, the ELSE branch w.r.t. those after the THEN branch);
  * `sigFailS le sig s` — the signatures the analyzer holds after it has FAILED on `s`
                        (a DEF whose body is rejected has been recorded);
  * `AOut3`           — agreement of a run with a static verdict: on acceptance the
                        cursor stands right behind the statement and the signatures
                        are `sigAfterS`; on an error the run fails with that error and
                        the signatures are `sigFailS`.
-/
set_option linter.unusedSectionVars false

namespace Abasic.Props.C06
open Abasic Abasic.Ref Abasic.ExprL Abasic.ExprL2 Abasic.AnaL Abasic.StmtL Abasic.AnaS M

variable {F : Type} [NumOps F]

def aitemsDepth : List (PItem3 F) → Nat
  | [] => 0
  | .expr e :: rest => max (adepth e + 1) (aitemsDepth rest)
  | _ :: rest => aitemsDepth rest

def atargetsDepth : List (RTarget F) → Nat
  | [] => 0
  | .scalar _ :: rest => atargetsDepth rest
  | .cell _ idx :: rest => max (adepthArgs idx) (atargetsDepth rest)

def asdepth : RStmt3 F → Nat
  | .letS _ e => adepth e + 1
  | .printS items => aitemsDepth items
  | .ifS c t none => max (adepth c + 1) (asdepth t + 1)
  | .ifS c t (some e) => max (adepth c + 1) (max (asdepth t + 1) (asdepth e + 1))
  | .forS _ a b none => max (adepth a + 1) (adepth b + 1)
  | .forS _ a b (some c) => max (adepth a + 1) (max (adepth b + 1) (adepth c + 1))
  | .dimS _ dims => adepthArgs dims
  | .letCellS _ idx e => max (adepthArgs idx) (adepth e + 1)
  | .readS ts => atargetsDepth ts
  | .defS _ _ body => adepth body + 1
  | _ => 0

def ResolvedItems2 (sig : Sig) : List (PItem3 F) → Prop
  | [] => True
  | .expr e :: rest => Resolved2 sig e ∧ ResolvedItems2 sig rest
  | _ :: rest => ResolvedItems2 sig rest

def ResolvedTargets2 (sig : Sig) : List (RTarget F) → Prop
  | [] => True
  | .scalar _ :: rest => ResolvedTargets2 sig rest
  | .cell _ idx :: rest => Resolved2L sig idx ∧ ResolvedTargets2 sig rest

def ResolvedS2 : Sig → RStmt3 F → Prop
  | sig, .letS _ e => Resolved2 sig e
  | sig, .printS items => ResolvedItems2 sig items
  | sig, .ifS c t none => Resolved2 sig c ∧ ResolvedS2 sig t
  | sig, .ifS c t (some e) => Resolved2 sig c ∧ ResolvedS2 sig t ∧ ResolvedS2 (sigAfterS sig t) e
  | sig, .forS _ a b none => Resolved2 sig a ∧ Resolved2 sig b
  | sig, .forS _ a b (some c) => Resolved2 sig a ∧ Resolved2 sig b ∧ Resolved2 sig c
  | sig, .dimS _ dims => Resolved2L sig dims
  | sig, .letCellS _ idx e => Resolved2L sig idx ∧ Resolved2 sig e
  | sig, .readS ts => ResolvedTargets2 sig ts
  | sig, .defS f ps body => Resolved2 (sigAfterS sig (.defS f ps body : RStmt3 F)) body
  | _, _ => True

def sigFailS (le : Nat → Bool) : Sig → RStmt3 F → Sig
  | sig, .defS f ps body => sigAfterS sig (.defS f ps body : RStmt3 F)
  | sig, .ifS c a none =>
    match typeAny sig c with
    | .error _ => sig
    | .ok _ => sigFailS le sig a
  | sig, .ifS c a (some b) =>
    match typeAny sig c with
    | .error _ => sig
    | .ok _ =>
      match typeOfS3A le sig a with
      | .error _ => sigFailS le sig a
      | .ok _ => sigFailS le (sigAfterS sig a) b
  | sig, _ => sig

/-- may be followed by ELSE only if it `closes` -/
def AEnd (s : RStmt3 F) (rest : List (Token F)) : Prop :=
  LineEnd rest ∨ (s.closes = true ∧ StmtEnd rest)

theorem AEnd.stmtEnd {s : RStmt3 F} {rest : List (Token F)} (h : AEnd s rest) : StmtEnd rest := by
  rcases h with h | h
  · exact h.stmtEnd
  · exact h.2

theorem AEnd.lineEnd {s : RStmt3 F} {rest : List (Token F)} (h : AEnd s rest) (hc : s.closes = false) :
    LineEnd rest := by
  rcases h with h | h
  · exact h
  · rw [hc] at h; exact absurd h.1 (by simp)

/-- `S` is a later state of the run of one statement that started in `σ` -/
structure Cur (σ S : St F) : Prop where
  line : S.loc.line = σ.loc.line
  nesting : S.nesting = σ.nesting
  fns : S.fns = σ.fns
  lines : S.lines = σ.lines

omit [NumOps F] in
theorem Cur.refl (σ : St F) : Cur σ σ := ⟨rfl, rfl, rfl, rfl⟩
omit [NumOps F] in
theorem Cur.trans {a b c : St F} (h1 : Cur a b) (h2 : Cur b c) : Cur a c :=
  ⟨h2.line.trans h1.line, h2.nesting.trans h1.nesting, h2.fns.trans h1.fns, h2.lines.trans h1.lines⟩
omit [NumOps F] in
theorem Cur.mv {σ S : St F} (h : Cur σ S) (a r : Nat) : Cur σ (mv S a r) := ⟨h.line, h.nesting, h.fns, h.lines⟩
omit [NumOps F] in
theorem Cur.lg {σ S : St F} (h : Cur σ S) (a : List Acc) : Cur σ (lg S a) := ⟨h.line, h.nesting, h.fns, h.lines⟩
omit [NumOps F] in
theorem Cur.sig {σ S : St F} (h : Cur σ S) {sig : Sig} (hS : sigOf σ.fns = sig) : sigOf S.fns = sig := by
  rw [h.fns]; exact hS
omit [NumOps F] in
theorem Cur.ln {σ S : St F} (h : Cur σ S) {ln : Nat} (hl : σ.loc.line = some ln) : S.loc.line = some ln := by
  rw [h.line]; exact hl

theorem aexpr3_run (sig : Sig) (e : Expr2 F) (f ln : Nat) (S : St F) (pre rest : List (Token F))
    (hAt : At S pre (render2 e ++ rest)) (hl : S.loc.line = some ln) (hS : sigOf S.fns = sig)
    (hd : adepth e + 1 ≤ f) (hn : S.nesting + (adepth e + 1) ≤ Extracted.nestingLimit)
    (hE : Ends 6 rest) (hres : Resolved2 sig e) :
    ARun ((aEvalN f).expr S) (typeOf2 sig e) fun t a S' => t = a ∧ At S' (pre ++ render2 e) rest ∧ Cur S S' := by
  subst hS
  exact .of_agrees ((aexpr_run e (Ctx.at S ln) _ f hd hn hres).run hAt hl hE)
    fun _ r => ⟨rfl, at_lg (at_mv hAt r) _, ⟨rfl, rfl, rfl, rfl⟩⟩

/-- an expression that has to be a number, in front of the rest `K` of a statement's run: the verdict on the
    expression, then that on the rest -/
theorem anum3_bind (sig : Sig) (e : Expr2 F) (f ln : Nat) (S : St F) (pre rest : List (Token F))
    (hAt : At S pre (render2 e ++ rest)) (hl : S.loc.line = some ln) (hS : sigOf S.fns = sig)
    (hd : adepth e + 1 ≤ f) (hn : S.nesting + (adepth e + 1) ≤ Extracted.nestingLimit)
    (hE : Ends 6 rest) (hres : Resolved2 sig e) {K : VT → M F Unit} {ty : Except Err Unit}
    {pre' toks rest' : List (Token F)}
    (hK : ∀ S', At S' (pre ++ render2 e) rest → Cur S S' → AOut (K .num S') ty pre' toks rest') :
    AOut (((aEvalN f).expr >>= fun t => VT.checkNumber t >>= K) S)
      (match typeAs sig .num e with
        | .error x => .error x
        | .ok _ => ty) pre' toks rest' := by
  have hX := aexpr3_run sig e f ln S pre rest hAt hl hS hd hn hE hres
  unfold typeAs
  cases hte : typeOf2 sig e with
  | error x =>
    obtain ⟨S', hS'⟩ := hX.err hte
    exact ⟨S', bind_err hS'⟩
  | ok t =>
    obtain ⟨_, S', hS', rfl, hAt', hc⟩ := hX.ok hte
    rw [bind_ok hS']
    cases t with
    | num =>
      rw [bind_ok (checkNumber_num _)]
      exact hK S' hAt' hc
    | str =>
      rw [bind_err (checkNumber_str _)]
      exact ⟨_, rfl⟩

theorem aidx3_run (sig : Sig) (es : List (Expr2 F)) (f ln : Nat) (S : St F) (pre rest : List (Token F))
    (hAt : At S pre (.kw .LeftParen :: (renderArgs es ++ (.kw .RightParen :: rest))))
    (hl : S.loc.line = some ln) (hS : sigOf S.fns = sig)
    (hd : adepthArgs es ≤ f) (hn : S.nesting + adepthArgs es ≤ Extracted.nestingLimit)
    (hres : Resolved2L sig es) :
    ARun (aArrayIndex (aEvalN f) S) (typeIdx sig es) fun _ m S' => m = es.length ∧
      At S' (pre ++ .kw .LeftParen :: (renderArgs es ++ [.kw .RightParen])) rest ∧ Cur S S' := by
  subst hS
  have hAt' : At S pre ((.kw .LeftParen :: (renderArgs es ++ [.kw .RightParen])) ++ rest) := by
    simpa only [List.cons_append, List.append_assoc, List.nil_append] using hAt
  exact .of_agrees ((aidx_run es (Ctx.at S ln) _ f hd hn hres).run hAt' hl trivial)
    fun _ r => ⟨rfl, at_lg (at_mv hAt' r) _, ⟨rfl, rfl, rfl, rfl⟩⟩

theorem aoptidx3_run (sig : Sig) (es : List (Expr2 F)) (f ln : Nat) (S : St F) (pre rest : List (Token F))
    (hAt : At S pre (.kw .LeftParen :: (renderArgs es ++ (.kw .RightParen :: rest))))
    (hl : S.loc.line = some ln) (hS : sigOf S.fns = sig)
    (hd : adepthArgs es ≤ f) (hn : S.nesting + adepthArgs es ≤ Extracted.nestingLimit)
    (hres : Resolved2L sig es) :
    ARun (aOptionalArrayIndex (aEvalN f) S) (typeIdx sig es) fun _ m S' => m = some es.length ∧
      At S' (pre ++ .kw .LeftParen :: (renderArgs es ++ [.kw .RightParen])) rest ∧ Cur S S' := by
  unfold aOptionalArrayIndex
  rw [bind_ok (peekIsKw_cons .LeftParen hAt)]
  have hk : (Token.kw (F := F) .LeftParen).isKw .LeftParen = true := rfl
  simp only [hk, ↓reduceIte]
  exact (aidx3_run sig es f ln _ pre rest (at_mv0 hAt (S.reads + 1)) hl hS hd hn hres).andThen
    fun _ m S' ⟨hm, hAt', hc⟩ => ⟨_, S', rfl, by rw [hm], hAt', ⟨hc.line, hc.nesting, hc.fns, hc.lines⟩⟩

theorem aparse3_idx (sig : Sig) (name : Str) (es : List (Expr2 F)) (f ln : Nat) (S : St F)
    (pre rest : List (Token F))
    (hAt : At S pre (.symbol name :: .kw .LeftParen :: (renderArgs es ++ .kw .RightParen :: rest)))
    (hl : S.loc.line = some ln) (hS : sigOf S.fns = sig)
    (hd : adepthArgs es ≤ f) (hn : S.nesting + adepthArgs es ≤ Extracted.nestingLimit)
    (hres : Resolved2L sig es) :
    ARun (aParseLValue (aEvalN f) S) (typeIdx sig es) fun _ lv S' =>
      lv = { name := name, loc := { line := some ln, idx := pre.length }, arity := some es.length } ∧
      At S' (pre ++ .symbol name :: .kw .LeftParen :: (renderArgs es ++ [.kw .RightParen])) rest ∧ Cur S S' := by
  unfold aParseLValue
  rw [bind_ok (next_eq hAt)]
  dsimp only
  have hAt1 := at_mv1 hAt (S.reads + 1)
  have hl1 : (mv S 1 (S.reads + 1)).loc.line = some ln := hl
  rw [bind_ok (prevLoc_eq (ln := ln) (i := pre.length) hl1
    (by rw [hAt1.2]; simp only [List.length_append, List.length_cons, List.length_nil]))]
  exact (aoptidx3_run sig es f ln _ _ rest hAt1 hl1 hS hd hn hres).andThen
    fun _ m S' ⟨hm, hAt', hc⟩ => ⟨_, S', rfl, by rw [hm],
      at_congr hAt' (by simp only [List.append_assoc, List.cons_append, List.nil_append]),
      ⟨hc.line, hc.nesting, hc.fns, hc.lines⟩⟩

omit [NumOps F] in
theorem aout_shift {res : Res F Unit} {ty : Except Err Unit} {pre a b rest : List (Token F)}
    (h : AOut res ty (pre ++ a) b rest) : AOut res ty pre (a ++ b) rest := by
  cases ty with
  | error x => exact h
  | ok u =>
    obtain ⟨σ', h1, h2⟩ := h
    exact ⟨σ', h1, by rwa [List.append_assoc] at h2⟩

omit [NumOps F] in
theorem aout_at {res : Res F Unit} {ty : Except Err Unit} {pre pre' a b rest : List (Token F)}
    (h : AOut res ty pre' a rest) (e : pre' ++ a = pre ++ b) : AOut res ty pre b rest := by
  cases ty with
  | error x => exact h
  | ok u =>
    obtain ⟨σ', h1, h2⟩ := h
    exact ⟨σ', h1, e ▸ h2⟩

def AOut3 (res : Res F Unit) (ty : Except Err Unit) (pre toks rest : List (Token F)) (sOk sErr : Sig) : Prop :=
  match ty with
  | .ok _ => ∃ σ', res = .ok () σ' ∧ At σ' (pre ++ toks) rest ∧ sigOf σ'.fns = sOk
  | .error x => ∃ σ', res = .err { err := x } σ' ∧ sigOf σ'.fns = sErr

omit [NumOps F] in
theorem aout3_of {res : Res F Unit} {ty : Except Err Unit} {pre toks rest : List (Token F)} {sig : Sig}
    (h : AOut res ty pre toks rest) (hf : sigOf (AFns.rst res).fns = sig) : AOut3 res ty pre toks rest sig sig := by
  cases ty with
  | ok u =>
    obtain ⟨σ', h1, h2⟩ := h
    rw [h1] at hf
    exact ⟨σ', h1, h2, hf⟩
  | error x =>
    obtain ⟨σ', h1⟩ := h
    rw [h1] at hf
    exact ⟨σ', h1, hf⟩

omit [NumOps F] in
theorem AOut3.aout {res : Res F Unit} {ty : Except Err Unit} {pre toks rest : List (Token F)} {s1 s2 : Sig}
    (h : AOut3 res ty pre toks rest s1 s2) : AOut res ty pre toks rest := by
  cases ty with
  | ok u =>
    obtain ⟨σ', h1, h2, _⟩ := h
    exact ⟨σ', h1, h2⟩
  | error x =>
    obtain ⟨σ', h1, _⟩ := h
    exact ⟨σ', h1⟩

omit [NumOps F] in
theorem aout3_shift {res : Res F Unit} {ty : Except Err Unit} {pre a b rest : List (Token F)} {s1 s2 : Sig}
    (h : AOut3 res ty (pre ++ a) b rest s1 s2) : AOut3 res ty pre (a ++ b) rest s1 s2 := by
  cases ty with
  | error x => exact h
  | ok u =>
    obtain ⟨σ', h1, h2, h3⟩ := h
    exact ⟨σ', h1, by rwa [List.append_assoc] at h2, h3⟩

theorem aout3_keeps {m : M F Unit} {S : St F} {ty : Except Err Unit} {pre toks rest : List (Token F)} {sig : Sig}
    (hk : AKeep.Keeps AFns.key m) (hS : sigOf S.fns = sig) (h : AOut (m S) ty pre toks rest) :
    AOut3 (m S) ty pre toks rest sig sig :=
  aout3_of h (by rw [show (AFns.rst (m S)).fns = S.fns from hk.h S]; exact hS)

def AStmtOK3 (s : RStmt3 F) (n ln : Nat) (le : Nat → Bool) : Prop :=
  ∀ (sig : Sig) (σ : St F) (pre rest : List (Token F)),
    At σ pre (renderS3 s ++ rest) → σ.loc.line = some ln → σ.lines.has = le → sigOf σ.fns = sig →
    σ.nesting + asdepth s ≤ Extracted.nestingLimit → AEnd s rest → ResolvedS2 sig s →
    AOut3 (aStmtBody (aEvalN n) σ) (typeOfS3A le sig s) pre (renderS3 s) rest
      (sigAfterS sig s) (sigFailS le sig s)

/-- `AStmtOK3` for a statement in branch position (after THEN / ELSE): a line number or a nested statement -/
def ABranchOK3 (t : RStmt3 F) (n ln : Nat) (le : Nat → Bool) : Prop :=
  ∀ (sig : Sig) (S : St F) (pre rest : List (Token F)),
    At S pre (renderS3 t ++ rest) → S.loc.line = some ln → S.lines.has = le → sigOf S.fns = sig →
    S.nesting + (asdepth t + 1) ≤ Extracted.nestingLimit → AEnd t rest → ResolvedS2 sig t →
    AOut3 (aStatementOrGoto (aEvalN n) S) (typeOfS3A le sig t) pre (renderS3 t) rest
      (sigAfterS sig t) (sigFailS le sig t)

theorem aassign3_run (sig : Sig) (name : Str) (a : Option Nat) (e : Expr2 F) (n ln i : Nat) (S : St F)
    (pre rest : List (Token F))
    (hAt : At S pre (.kw .Equals :: (render2 e ++ rest))) (hl : S.loc.line = some ln) (hS : sigOf S.fns = sig)
    (hd : adepth e + 1 ≤ n) (hn : S.nesting + (adepth e + 1) ≤ Extracted.nestingLimit) (hE : Ends 6 rest)
    (hres : Resolved2 sig e) :
    AOut ((expect .Equals >>= fun _ => (aEvalN n).expr >>= fun t =>
        aAssignValue { name := name, loc := { line := some ln, idx := i }, arity := a } t) S)
      (typeAs sig (VT.ofName name) e) pre (.kw .Equals :: render2 e) rest := by
  obtain ⟨c, hc⟩ := Stmt3L.expect_ex (k := .Equals) hAt rfl
  rw [bind_ok hc]
  have hX := aexpr3_run sig e n ln _ _ rest (at_mv1 hAt c) hl hS hd hn hE hres
  simp only [typeAs]
  cases hte : typeOf2 sig e with
  | error y =>
    obtain ⟨S', hS'⟩ := hX.err hte
    exact ⟨S', bind_err hS'⟩
  | ok t =>
    obtain ⟨_, S5, hS5, rfl, hAt5, _⟩ := hX.ok hte
    rw [bind_ok hS5]
    by_cases ht : VT.ofName name = t
    · subst ht
      simp only [↓reduceIte]
      rw [aAssignValue_ok]
      exact ⟨_, rfl, at_congr (at_lg hAt5 _) (by simp only [List.append_assoc, List.cons_append, List.nil_append])⟩
    · have ht' : ¬ t = VT.ofName name := fun h => ht h.symm
      simp only [ht', ↓reduceIte]
      exact ⟨_, aAssignValue_err name ln _ _ t ht _⟩

theorem alet3_run (x : Str) (e : Expr2 F) (n ln : Nat) (le : Nat → Bool) (hd : asdepth (.letS x e) ≤ n) :
    AStmtOK3 (.letS x e) n ln le := by
  intro sig σ pre rest hAt hl _ hS hn hE hres
  replace hE := ends_of_stmtEnd hE.stmtEnd 6
  simp only [asdepth, ResolvedS2, typeOfS3A, sigAfterS, sigFailS] at hd hn hres ⊢
  have hAt0 : At σ pre (.kw .Let :: .symbol x :: .kw .Equals :: (render2 e ++ rest)) := by
    simpa only [renderS3, List.cons_append] using hAt
  have hAt1 := at_mv1 hAt0 (σ.reads + 1)
  rw [aStmtBody_let hAt0]
  refine aout3_keeps (AKeep.keeps_aLet _ (AKeep.keeps_expr n)) hS ?_
  unfold aLet
  obtain ⟨c1, h1⟩ := Stmt3L.next_ex hAt1
  rw [bind_ok h1]
  dsimp only
  have hAt2 := at_mv1 hAt1 c1
  unfold aAssignment
  rw [bind_ok (prevLoc_eq (ln := ln) (i := (pre ++ [Token.kw Kw.Let]).length)
    (show (mv (mv σ 1 (σ.reads + 1)) 1 c1).loc.line = some ln from hl)
    (by rw [hAt2.2]; simp only [List.length_append, List.length_cons, List.length_nil]))]
  rw [bind_ok (aoptidx_none hAt2 (Stmt3L.head_cons_ne rfl))]
  simp only [typeOfS3]
  exact aout_at (aassign3_run sig x none e n ln _ _ _ rest (at_mv0 hAt2 _) hl hS hd hn hE hres)
    (by simp only [renderS3, List.append_assoc, List.cons_append, List.nil_append])

theorem aprintLoop3_run (sig : Sig) (n ln : Nat) (rest : List (Token F)) (hE : StmtEnd rest)
    (items : List (PItem3 F)) :
    ∀ (k : Nat) (S : St F) (pre : List (Token F)),
      At S pre (renderItems3 items ++ rest) → S.loc.line = some ln → sigOf S.fns = sig →
      aitemsDepth items ≤ n → S.nesting + aitemsDepth items ≤ Extracted.nestingLimit →
      separated3 items = true → ResolvedItems2 sig items → (renderItems3 items).length < k →
      AOut (aPrintLoop (aEvalN n) k S) (typeItems3 sig items) pre (renderItems3 items) rest := by
  induction items with
  | nil =>
    intro k S pre hAt _ _ _ _ _ _ hk
    obtain ⟨k', rfl⟩ : ∃ k', k = k' + 1 := ⟨k - 1, by omega⟩
    have hAt' : At S pre rest := hAt
    exact ⟨_, aPrintLoop_stop hAt' hE, by simpa only [renderItems3, List.append_nil] using at_mv0 hAt' _⟩
  | cons i r ih =>
    intro k S pre hAt hl hS hd hn hsep hres hk
    obtain ⟨k', rfl⟩ : ∃ k', k = k' + 1 := ⟨k - 1, by omega⟩
    have hsep' := Stmt3L.sep3_tail i r hsep
    cases i with
    | semi | comma =>
      have hAt0 : At S pre (_ :: (renderItems3 r ++ rest)) := hAt
      simp only [aitemsDepth] at hd hn
      simp only [ResolvedItems2] at hres
      simp only [renderItems3, PItem3.render, List.length_append, List.length_cons, List.length_nil] at hk
      have hI := ih k' (mv S 1 (S.reads + 1 + 1)) _ (at_mv1 hAt0 _) hl hS hd hn hsep' hres (by omega)
      rw [aPrintLoop_sep hAt0 (by simp)]
      simp only [typeItems3]
      exact aout_shift hI
    | expr e =>
      have hAt0 : At S pre (render2 e ++ (renderItems3 r ++ rest)) := by
        simpa only [renderItems3, PItem3.render, List.append_assoc] using hAt
      have hlen : (renderItems3 (PItem3.expr e :: r)).length = (render2 e).length + (renderItems3 r).length := by
        simp only [renderItems3, PItem3.render, List.length_append]
      simp only [aitemsDepth] at hd hn
      simp only [ResolvedItems2] at hres
      obtain ⟨t, ts, hts, hpl⟩ := Prog3L.render2_head_plain e
      have hAt1 : At S pre (t :: (ts ++ (renderItems3 r ++ rest))) := by rw [hts] at hAt0; exact hAt0
      rw [aPrintLoop_expr hAt1 hpl]
      simp only [typeItems3, typeAny]
      have hX := aexpr3_run sig e n ln (mv S 0 (S.reads + 1)) pre _ (at_mv0 hAt0 _) hl hS (by omega)
        (by show S.nesting + _ ≤ _; omega) (Stmt3L.sep3_follow e r rest hsep hE) hres.1
      cases hev : typeOf2 sig e with
      | error x =>
        obtain ⟨S', hS'⟩ := hX.err hev
        exact ⟨S', bind_err hS'⟩
      | ok v =>
        obtain ⟨_, S1, hS1, rfl, hAt2, hc⟩ := hX.ok hev
        rw [bind_ok hS1]
        have hI := ih k' S1 _ hAt2 (hc.ln hl) (hc.sig hS) (by omega)
          (by rw [hc.nesting]; show S.nesting + _ ≤ _; omega) hsep' hres.2
          (by have := Prog3L.render2_pos e; omega)
        exact aout_shift hI

theorem aprint3_run (items : List (PItem3 F)) (n ln : Nat) (le : Nat → Bool) (hd : asdepth (.printS items) ≤ n)
    (hsep : separated3 items = true) : AStmtOK3 (.printS items) n ln le := by
  intro sig σ pre rest hAt hl _ hS hn hE hres
  replace hE := hE.stmtEnd
  simp only [asdepth, ResolvedS2, typeOfS3A, sigAfterS, sigFailS] at hd hn hres ⊢
  have hAt0 : At σ pre (.kw .Print :: (renderItems3 items ++ rest)) := by
    simpa only [renderS3, List.cons_append] using hAt
  have hAt1 := at_mv1 hAt0 (σ.reads + 1)
  have hL := aprintLoop3_run sig n ln rest hE items
    ((pre ++ [Token.kw Kw.Print] ++ (renderItems3 items ++ rest)).length + 1)
    (mv σ 1 (σ.reads + 1)) _ hAt1 hl hS hd hn hsep hres
    (by simp only [List.length_append]; omega)
  rw [aStmtBody_print hAt0]
  refine aout3_keeps (AKeep.Keeps.bind AKeep.keeps_lineBudget fun b => AKeep.keeps_aPrintLoop _ (AKeep.keeps_expr n) b)
    hS ?_
  rw [bind_ok (lineBudget_eq hAt1.1)]
  simp only [typeOfS3]
  exact aout_at hL (by simp only [renderS3, List.append_assoc, List.cons_append, List.nil_append])

theorem ajump3 (m : Nat) (S : St F) (pre rest : List (Token F)) (sig : Sig)
    (hAt : At S pre (.num (NumOps.ofNat m) :: rest)) (hround : NumOps.toU64 (NumOps.ofNat m : F) = m)
    (hS : sigOf S.fns = sig) :
    AOut3 (aGotoOrGosub S) (lineOK S.lines.has m) pre [.num (NumOps.ofNat m)] rest sig sig := by
  rw [aGotoOrGosub_eq hAt, hround]
  unfold lineOK
  cases S.lines.has m with
  | true => exact ⟨_, rfl, at_mv1 hAt _, hS⟩
  | false => exact ⟨_, rfl, hS⟩

theorem agoto3_run (m n ln : Nat) (le : Nat → Bool) (hround : NumOps.toU64 (NumOps.ofNat m : F) = m) :
    AStmtOK3 (.gotoS m : RStmt3 F) n ln le := by
  intro sig σ pre rest hAt _ hle hS _ _ _
  subst hle
  simp only [typeOfS3A, sigAfterS, sigFailS]
  have hAt0 : At σ pre (.kw .Goto :: .num (NumOps.ofNat m) :: rest) := by
    simpa only [renderS3, List.cons_append, List.nil_append] using hAt
  rw [aStmtBody_goto hAt0]
  exact aout3_shift (ajump3 m _ _ rest sig (at_mv1 hAt0 _) hround hS)

theorem agosub3_run (m n ln : Nat) (le : Nat → Bool) (hround : NumOps.toU64 (NumOps.ofNat m : F) = m) :
    AStmtOK3 (.gosubS m : RStmt3 F) n ln le := by
  intro sig σ pre rest hAt _ hle hS _ _ _
  subst hle
  simp only [typeOfS3A, sigAfterS, sigFailS]
  have hAt0 : At σ pre (.kw .Gosub :: .num (NumOps.ofNat m) :: rest) := by
    simpa only [renderS3, List.cons_append, List.nil_append] using hAt
  rw [aStmtBody_gosub hAt0]
  exact aout3_shift (ajump3 m _ _ rest sig (at_mv1 hAt0 _) hround hS)

theorem anext3_run (v : Str) (n ln : Nat) (le : Nat → Bool) : AStmtOK3 (.nextS v : RStmt3 F) n ln le := by
  intro sig σ pre rest hAt hl _ hS _ _ _
  have hAt0 : At σ pre (.kw .Next :: .symbol v :: rest) := hAt
  have h := anext_run v n ln σ pre rest le hAt hl
  rw [aStmtBody_next hAt0] at h ⊢
  exact aout3_keeps AKeep.keeps_aNext hS h

def stepToks2 : Option (Expr2 F) → List (Token F)
  | none => []
  | some c => .kw .Step :: render2 c

theorem renderS3_for (v : Str) (a b : Expr2 F) (c : Option (Expr2 F)) :
    renderS3 (.forS v a b c) =
      .kw .For :: .symbol v :: .kw .Equals :: (render2 a ++ .kw .To :: (render2 b ++ stepToks2 c)) := by
  cases c <;> simp [renderS3, stepToks2]

theorem afor3_run (v : Str) (a b : Expr2 F) (c : Option (Expr2 F)) (n ln : Nat) (le : Nat → Bool)
    (hd : asdepth (.forS v a b c) ≤ n) : AStmtOK3 (.forS v a b c) n ln le := by
  intro sig σ pre rest hAt hl _ hS hn hE hres
  replace hE := hE.stmtEnd
  simp only [typeOfS3A, sigAfterS, sigFailS]
  have hdep : adepth a + 1 ≤ n ∧ σ.nesting + (adepth a + 1) ≤ Extracted.nestingLimit ∧
      adepth b + 1 ≤ n ∧ σ.nesting + (adepth b + 1) ≤ Extracted.nestingLimit ∧
      Resolved2 sig a ∧ Resolved2 sig b ∧
      ∀ e, c = some e → adepth e + 1 ≤ n ∧ σ.nesting + (adepth e + 1) ≤ Extracted.nestingLimit ∧
        Resolved2 sig e := by
    cases c with
    | none =>
      simp only [asdepth, Nat.max_le, ← Nat.add_max_add_left] at hd hn
      simp only [ResolvedS2] at hres
      exact ⟨hd.1, hn.1, hd.2, hn.2, hres.1, hres.2, fun e he => by cases he⟩
    | some c =>
      simp only [asdepth, Nat.max_le, ← Nat.add_max_add_left] at hd hn
      simp only [ResolvedS2] at hres
      refine ⟨hd.1, hn.1, hd.2.1, hn.2.1, hres.1, hres.2.1, fun e he => ?_⟩
      cases he
      exact ⟨hd.2.2, hn.2.2, hres.2.2⟩
  obtain ⟨hda, hna, hdb, hnb, hra, hrb, hdc⟩ := hdep
  rw [renderS3_for] at hAt ⊢
  have hAt0 : At σ pre (.kw .For :: .symbol v :: .kw .Equals ::
      (render2 a ++ (.kw .To :: (render2 b ++ (stepToks2 c ++ rest))))) := by
    simpa only [List.cons_append, List.append_assoc] using hAt
  have hAt1 := at_mv1 hAt0 (σ.reads + 1)
  have hAt2 := at_mv1 hAt1 ((mv σ 1 (σ.reads + 1)).reads + 1)
  rw [aStmtBody_for hAt0]
  refine aout3_keeps (AKeep.keeps_aFor _ (AKeep.keeps_expr n)) hS ?_
  unfold aFor
  rw [bind_ok (next_eq hAt1)]
  dsimp only
  have hl2 : (mv (mv σ 1 (σ.reads + 1)) 1 ((mv σ 1 (σ.reads + 1)).reads + 1)).loc.line = some ln := hl
  rw [bind_ok (prevLoc_eq (ln := ln) (i := (pre ++ [Token.kw Kw.For]).length) hl2
    (by rw [hAt2.2]; simp only [List.length_append, List.length_cons, List.length_nil]))]
  rw [bind_ok (logAccess_eq _ _ _ _ _)]
  simp only [typeOfS3]
  cases hv : VT.ofName v with
  | str =>
    rw [bind_err (checkNumber_str _)]
    simp only [reduceCtorEq, ↓reduceIte]
    exact ⟨_, rfl⟩
  | num =>
    rw [bind_ok (checkNumber_num _)]
    simp only [↓reduceIte]
    have hAt3 := at_lg hAt2 [(v, ln, (pre ++ [Token.kw Kw.For]).length, Access.write)]
    obtain ⟨c3, h3⟩ := Stmt3L.expect_ex (k := .Equals) hAt3 rfl
    rw [bind_ok h3]
    have hAt4 := at_mv1 hAt3 c3
    -- what this state shares with `σ`, said once: read off through the four updates it costs the unifier dear at every use
    have hc4 := ((((Cur.refl σ).mv 1 (σ.reads + 1)).mv 1 ((mv σ 1 (σ.reads + 1)).reads + 1)).lg
      [(v, ln, (pre ++ [Token.kw Kw.For]).length, Access.write)]).mv 1 c3
    have hEb : Ends 6 (stepToks2 c ++ rest) := by
      cases c with
      | none => exact ends_of_stmtEnd hE 6
      | some c => exact Stmt2L.ends_step 6 _
    refine anum3_bind sig a n ln _ _ _ hAt4 (hc4.ln hl) (hc4.sig hS) hda (by rw [hc4.nesting]; exact hna)
      (Stmt2L.ends_to 6 _) hra fun S5 hAt5 hc5 => ?_
    obtain ⟨c6, h6⟩ := Stmt3L.expect_ex (k := .To) hAt5 rfl
    rw [bind_ok h6]
    replace hc5 := (hc4.trans hc5).mv 1 c6
    refine anum3_bind sig b n ln _ _ _ (at_mv1 hAt5 c6) (hc5.ln hl) (hc5.sig hS) hdb
      (by rw [hc5.nesting]; exact hnb) hEb hrb fun S7 hAt7 hc7 => ?_
    have hc := (hc5.trans hc7).mv 1 (S7.reads + 1)
    cases c with
    | none =>
      have hAt7' : At S7 (pre ++ [Token.kw Kw.For] ++ [Token.symbol v] ++ [Token.kw Kw.Equals] ++ render2 a ++
          [Token.kw Kw.To] ++ render2 b) rest := hAt7
      have hnostep : ∀ t, rest.head? = some t → t.isKw .Step = false := by
        intro t ht
        rcases hE t ht with rfl | rfl <;> rfl
      rw [bind_ok (Stmt2L.accept_end hAt7' hnostep)]
      simp only [Bool.false_eq_true, ↓reduceIte, typeStep2]
      exact ⟨_, rfl, at_congr (at_mv0 hAt7' _) (by simp [stepToks2])⟩
    | some c =>
      have hAt7' : At S7 (pre ++ [Token.kw Kw.For] ++ [Token.symbol v] ++ [Token.kw Kw.Equals] ++ render2 a ++
          [Token.kw Kw.To] ++ render2 b) (.kw .Step :: (render2 c ++ rest)) := hAt7
      rw [bind_ok (accept_true hAt7' rfl)]
      simp only [↓reduceIte, typeStep2]
      obtain ⟨hdc1, hdc2, hrc⟩ := hdc c rfl
      rw [← except_unit_eta (typeAs sig .num c)]
      exact anum3_bind sig c n ln _ _ _ (at_mv1 hAt7' (S7.reads + 1)) (hc.ln hl) (hc.sig hS) hdc1
        (by rw [hc.nesting]; exact hdc2) (ends_of_stmtEnd hE 6) hrc
        fun S9 hAt9 _ => ⟨_, rfl, at_congr hAt9 (by simp [stepToks2])⟩

theorem adim3_run (name : Str) (dims : List (Expr2 F)) (n ln : Nat) (le : Nat → Bool)
    (hd : asdepth (.dimS name dims) ≤ n) : AStmtOK3 (.dimS name dims) n ln le := by
  intro sig σ pre rest hAt hl _ hS hn _ hres
  simp only [asdepth, ResolvedS2, typeOfS3A, sigAfterS, sigFailS] at hd hn hres ⊢
  have hAt0 : At σ pre (.kw .Dim :: .symbol name :: .kw .LeftParen ::
      (renderArgs dims ++ .kw .RightParen :: rest)) := by
    simpa only [renderS3, List.cons_append, List.append_assoc, List.nil_append] using hAt
  have hAt1 := at_mv1 hAt0 (σ.reads + 1)
  rw [aStmtBody_dim hAt0]
  refine aout3_keeps (AKeep.Keeps.bind (AKeep.keeps_aParseLValue _ (AKeep.keeps_expr n))
    fun lv => AKeep.keeps_logAccess _ _ _) hS ?_
  simp only [typeOfS3]
  exact ARun.aout ((aparse3_idx sig name dims n ln _ _ rest hAt1 hl hS hd hn hres).andThen
    fun _ lv S' h => by
      obtain ⟨rfl, hAt', _⟩ := h
      exact ⟨(), _, logAccess_eq _ _ _ _ _, at_congr (at_lg hAt' _)
        (by simp only [renderS3, List.append_assoc, List.cons_append, List.nil_append])⟩)

theorem aletcell3_run (name : Str) (idx : List (Expr2 F)) (e : Expr2 F) (n ln : Nat) (le : Nat → Bool)
    (hd : asdepth (.letCellS name idx e) ≤ n) : AStmtOK3 (.letCellS name idx e) n ln le := by
  intro sig σ pre rest hAt hl _ hS hn hE hres
  replace hE := ends_of_stmtEnd hE.stmtEnd 6
  simp only [asdepth, ResolvedS2, typeOfS3A, sigAfterS, sigFailS] at hd hn hres ⊢
  have hAt0 : At σ pre (.kw .Let :: .symbol name :: .kw .LeftParen ::
      (renderArgs idx ++ .kw .RightParen :: (.kw .Equals :: (render2 e ++ rest)))) := by
    simpa only [renderS3, List.cons_append, List.append_assoc, List.nil_append] using hAt
  have hAt1 := at_mv1 hAt0 (σ.reads + 1)
  have hAt2 := at_mv1 hAt1 ((mv σ 1 (σ.reads + 1)).reads + 1)
  have hl2 : (mv (mv σ 1 (σ.reads + 1)) 1 ((mv σ 1 (σ.reads + 1)).reads + 1)).loc.line = some ln := hl
  rw [aStmtBody_let hAt0]
  refine aout3_keeps (AKeep.keeps_aLet _ (AKeep.keeps_expr n)) hS ?_
  unfold aLet
  rw [bind_ok (next_eq hAt1)]
  dsimp only
  unfold aAssignment
  rw [bind_ok (prevLoc_eq (ln := ln) (i := (pre ++ [Token.kw Kw.Let]).length) hl2
    (by rw [hAt2.2]; simp only [List.length_append, List.length_cons, List.length_nil]))]
  have hI := aoptidx3_run sig idx n ln _ _ _ hAt2 hl2 hS (by omega) (by show σ.nesting + _ ≤ _; omega) hres.1
  simp only [typeOfS3]
  cases hty : typeIdx sig idx with
  | error x =>
    obtain ⟨S', hS'⟩ := hI.err hty
    exact ⟨S', bind_err hS'⟩
  | ok u =>
    obtain ⟨_, S3, hS3, rfl, hAt3, hc3⟩ := hI.ok hty
    rw [bind_ok hS3]
    exact aout_at (aassign3_run sig name _ e n ln _ _ _ rest hAt3 (hc3.ln hl) (hc3.sig hS) (by omega)
        (by rw [hc3.nesting]; show σ.nesting + _ ≤ _; omega) hE hres.2)
      (by simp only [renderS3, List.append_assoc, List.cons_append, List.nil_append])

theorem rtargets_len : ∀ (ts : List (RTarget F)), ts.length ≤ (renderRTargets ts).length
  | [] => Nat.le_refl _
  | [t] => by
    cases t with
    | scalar x => simp [renderRTargets, RTarget.toks]
    | cell name idx => simp [renderRTargets, RTarget.toks, cellToks]
  | t :: t2 :: r => by
    have ih := rtargets_len (t2 :: r)
    simp only [renderRTargets, List.length_cons, List.length_append] at ih ⊢
    omega

/-- one target of a READ, in front of the rest `K` of the run: the l-value, then the (always accepted) assignment
    of a value of the kind of the name -/
theorem areadTarget3 (sig : Sig) (f ln : Nat) (t : RTarget F) (S : St F) (pre post : List (Token F))
    (hAt : At S pre (t.toks ++ post)) (hl : S.loc.line = some ln) (hS : sigOf S.fns = sig)
    (hpost : ∀ x, post.head? = some x → x.isKw .LeftParen = false)
    (hd : atargetsDepth [t] ≤ f) (hn : S.nesting + atargetsDepth [t] ≤ Extracted.nestingLimit)
    (hres : ResolvedTargets2 sig [t]) {K : Unit → M F Unit} {ty : Except Err Unit}
    {pre' toks rest : List (Token F)}
    (hK : ∀ S', At S' (pre ++ t.toks) post → Cur S S' → AOut (K () S') ty pre' toks rest) :
    AOut ((aParseLValue (aEvalN f) >>= fun lv => aAssignValue lv (VT.ofName lv.name) >>= K) S)
      (match typeTargets sig [t] with
        | .error x => .error x
        | .ok _ => ty) pre' toks rest := by
  cases t with
  | scalar x =>
    have hAt0 : At S pre (.symbol x :: post) := hAt
    obtain ⟨S1, hS1, hAt1, hl1⟩ := aparse_plain (aEvalN f) x ln S pre post hAt0 hl hpost
    have hc1 : Cur S S1 := by
      have hfn := (AKeep.keeps_aParseLValue (key := AFns.key) (aEvalN f) (AKeep.keeps_expr f)).h S
      have hfr := (AKeep.keeps_aParseLValue (key := AFrame.key) (aEvalN f) (AKeep.keeps_expr f)).h S
      rw [hS1] at hfn hfr
      exact ⟨hl1.trans hl.symm, (Prod.mk.inj hfr).2, hfn, (Prod.mk.inj hfr).1⟩
    simp only [typeTargets]
    rw [bind_ok hS1]
    dsimp only
    rw [bind_ok (aAssignValue_ok _ _ _ _ _)]
    exact hK _ (at_lg hAt1 _) (hc1.lg _)
  | cell name idx =>
    have hAt0 : At S pre (.symbol name :: .kw .LeftParen :: (renderArgs idx ++ .kw .RightParen :: post)) := by
      simpa only [RTarget.toks, cellToks, List.cons_append, List.append_assoc, List.nil_append] using hAt
    simp only [atargetsDepth] at hd hn
    simp only [ResolvedTargets2] at hres
    have hI := aparse3_idx sig name idx f ln S pre post hAt0 hl hS (by omega) (by omega) hres.1
    simp only [typeTargets]
    cases hty : typeIdx sig idx with
    | error x =>
      obtain ⟨S', hS'⟩ := hI.err hty
      exact ⟨S', bind_err hS'⟩
    | ok u =>
      obtain ⟨_, S1, hS1, rfl, hAt1, hc1⟩ := hI.ok hty
      rw [bind_ok hS1]
      dsimp only
      rw [bind_ok (aAssignValue_ok _ _ _ _ _)]
      exact hK _ (at_congr (at_lg hAt1 _) (by simp only [RTarget.toks, cellToks])) (hc1.lg _)

theorem typeTargets_cons (sig : Sig) (t : RTarget F) (ts : List (RTarget F)) :
    typeTargets sig (t :: ts) = (match typeTargets sig [t] with | .error x => .error x | .ok _ => typeTargets sig ts) := by
  cases t with
  | scalar x => simp only [typeTargets]
  | cell name idx =>
    simp only [typeTargets]
    cases typeIdx sig idx <;> rfl

theorem areadLoop3_run (sig : Sig) (f ln : Nat) (rest : List (Token F)) (hE : StmtEnd rest) :
    ∀ (ts : List (RTarget F)), ts ≠ [] → ∀ (k : Nat) (S : St F) (pre : List (Token F)),
      At S pre (renderRTargets ts ++ rest) → S.loc.line = some ln → sigOf S.fns = sig → ts.length ≤ k →
      atargetsDepth ts ≤ f → S.nesting + atargetsDepth ts ≤ Extracted.nestingLimit → ResolvedTargets2 sig ts →
      AOut (aReadLoop (aEvalN f) k S) (typeTargets sig ts) pre (renderRTargets ts) rest
  | [], h, _, _, _, _, _, _, _, _, _, _ => absurd rfl h
  | [t], _, k, S, pre, hAt, hl, hS, hk, hd, hn, hres => by
    obtain ⟨k', rfl⟩ : ∃ k', k = k' + 1 := ⟨k - 1, by simp only [List.length_cons, List.length_nil] at hk; omega⟩
    have hAt0 : At S pre (t.toks ++ rest) := hAt
    have hnp : ∀ x, rest.head? = some x → x.isKw .LeftParen = false := by
      intro x hx
      rcases hE x hx with rfl | rfl <;> rfl
    have hnc : ∀ x, rest.head? = some x → x.isKw .Comma = false := by
      intro x hx
      rcases hE x hx with rfl | rfl <;> rfl
    rw [aReadLoop, ← except_unit_eta (typeTargets sig [t])]
    refine areadTarget3 sig f ln t S pre rest hAt0 hl hS hnp hd hn hres fun S1 hAt1 _ => ?_
    rw [bind_ok (Stmt2L.accept_end hAt1 hnc)]
    simp only [Bool.false_eq_true, ↓reduceIte]
    exact ⟨_, rfl, at_mv0 hAt1 _⟩
  | t :: t2 :: r, _, k, S, pre, hAt, hl, hS, hk, hd, hn, hres => by
    obtain ⟨k', rfl⟩ : ∃ k', k = k' + 1 := ⟨k - 1, by simp only [List.length_cons] at hk; omega⟩
    have hAt0 : At S pre (t.toks ++ (.kw .Comma :: (renderRTargets (t2 :: r) ++ rest))) := by
      simpa only [renderRTargets, List.append_assoc, List.cons_append] using hAt
    have hd1 : atargetsDepth [t] ≤ f ∧ atargetsDepth (t2 :: r) ≤ f := by
      cases t <;> simp only [atargetsDepth] at hd ⊢ <;> omega
    have hn1 : S.nesting + atargetsDepth [t] ≤ Extracted.nestingLimit ∧
        S.nesting + atargetsDepth (t2 :: r) ≤ Extracted.nestingLimit := by
      cases t <;> simp only [atargetsDepth] at hn ⊢ <;> omega
    have hres1 : ResolvedTargets2 sig [t] ∧ ResolvedTargets2 sig (t2 :: r) := by
      cases t with
      | scalar x => exact ⟨trivial, hres⟩
      | cell name idx => exact ⟨⟨hres.1, trivial⟩, hres.2⟩
    rw [aReadLoop, typeTargets_cons]
    refine areadTarget3 sig f ln t S pre _ hAt0 hl hS (Stmt3L.head_cons_ne rfl) hd1.1 hn1.1 hres1.1
      fun S1 hAt1 hc1 => ?_
    rw [bind_ok (accept_true hAt1 rfl)]
    simp only [↓reduceIte]
    have hI := areadLoop3_run sig f ln rest hE (t2 :: r) (by simp) k' (mv S1 1 (S1.reads + 1)) _
      (at_mv1 hAt1 _) (hc1.ln hl)
      (hc1.sig hS) (by simp only [List.length_cons] at hk ⊢; omega) hd1.2
      (by show S1.nesting + _ ≤ _; rw [hc1.nesting]; exact hn1.2) hres1.2
    exact aout_at hI (by simp only [renderRTargets, List.append_assoc, List.cons_append, List.nil_append])

theorem aread3_run (ts : List (RTarget F)) (hne : ts ≠ []) (n ln : Nat) (le : Nat → Bool)
    (hd : asdepth (.readS ts) ≤ n) : AStmtOK3 (.readS ts) n ln le := by
  intro sig σ pre rest hAt hl _ hS hn hE hres
  replace hE := hE.stmtEnd
  simp only [asdepth, ResolvedS2, typeOfS3A, sigAfterS, sigFailS] at hd hn hres ⊢
  have hAt0 : At σ pre (.kw .Read :: (renderRTargets ts ++ rest)) := by
    simpa only [renderS3, List.cons_append] using hAt
  have hAt1 := at_mv1 hAt0 (σ.reads + 1)
  rw [aStmtBody_read hAt0]
  refine aout3_keeps (AKeep.Keeps.bind AKeep.keeps_lineBudget fun b => AKeep.keeps_aReadLoop _ (AKeep.keeps_expr n) b)
    hS ?_
  rw [bind_ok (lineBudget_eq hAt1.1)]
  have hlen : ts.length ≤ (pre ++ [Token.kw Kw.Read] ++ (renderRTargets ts ++ rest)).length + 1 := by
    have := rtargets_len ts
    simp only [List.length_append, List.length_cons]
    omega
  have hL := areadLoop3_run sig n ln rest hE ts hne _ _ _ hAt1 hl hS hlen hd hn hres
  simp only [typeOfS3]
  exact aout_at hL (by simp only [renderS3, List.append_assoc, List.cons_append, List.nil_append])

/-- `aDef` records the function before it looks at the body: whatever the verdict on the body, the table it
    leaves is `fnsAfterDef` -/
theorem adef_fns (f : Str) (ps : List Str) (body : Expr2 F) (hps : ps ≠ []) (n ln i : Nat) (σ : St F)
    (pre rest : List (Token F))
    (hAt : At σ pre (.symbol f :: .kw .LeftParen ::
      (renderTargets ps ++ .kw .RightParen :: .kw .Equals :: (render2 body ++ rest))))
    (hl : σ.loc.line = some ln) (hi : i = pre.length + (renderTargets (F := F) ps).length + 4) :
    (AFns.rst (aDef (aEvalN n) σ)).fns = fnsAfterDef σ.fns f ps ln i := by
  obtain ⟨σ5, hrun, _, h5fns, _⟩ := adef_head f ps body hps n ln i σ pre rest hAt hl hi
  rw [hrun, ← h5fns]
  have hk : AKeep.Keeps AFns.key ((aEvalN n).expr >>= fun t => VT.check (F := F) t (VT.ofName f) >>= fun _ =>
      (pure () : M F Unit)) :=
    AKeep.Keeps.bind (AKeep.keeps_expr n) (fun t => AKeep.Keeps.bind (AKeep.keeps_check _ _) (fun _ => AKeep.Keeps.pure _))
  exact hk.h σ5

theorem adef_stmt_fns (f : Str) (ps : List Str) (body : Expr2 F) (hps : ps ≠ []) (n ln : Nat)
    (σ : St F) (pre rest : List (Token F))
    (hAt : At σ pre (renderS3 (.defS f ps body) ++ rest)) (hl : σ.loc.line = some ln) :
    sigOf (AFns.rst (aStmtBody (aEvalN n) σ)).fns = sigAfterS (sigOf σ.fns) (.defS f ps body : RStmt3 F) := by
  have hAt0 : At σ pre (.kw .Def :: (.symbol f :: .kw .LeftParen ::
      (renderTargets ps ++ .kw .RightParen :: .kw .Equals :: (render2 body ++ rest)))) := by
    simpa only [renderS3, List.cons_append, List.append_assoc] using hAt
  have hAt1 := at_mv1 hAt0 (σ.reads + 1)
  rw [aStmtBody_def hAt0, adef_fns f ps body hps n ln _ (mv σ 1 (σ.reads + 1)) _ rest hAt1 hl rfl]
  exact (defCheck_eq_typeOfS3 σ.fns f ps body ln _ (fun _ => true)).2

theorem adef3_run (f : Str) (ps : List Str) (body : Expr2 F) (hps : ps ≠ []) (n ln : Nat) (le : Nat → Bool)
    (hd : asdepth (.defS f ps body) ≤ n) : AStmtOK3 (.defS f ps body) n ln le := by
  intro sig σ pre rest hAt hl _ hS hn hE hres
  replace hE := ends_of_stmtEnd (hE.lineEnd rfl).stmtEnd 6
  simp only [asdepth, ResolvedS2, typeOfS3A, sigFailS] at hd hn hres ⊢
  subst hS
  have h := adef_stmt_run f ps body hps n ln le σ pre rest hAt hl hE hres hd hn
  have hf := adef_stmt_fns f ps body hps n ln σ pre rest hAt hl
  cases hty : typeOfS3 (sigOf σ.fns) le (.defS f ps body) with
  | error x =>
    rw [hty] at h
    obtain ⟨σ', h1, _⟩ := h
    rw [h1] at hf
    exact ⟨σ', h1, hf⟩
  | ok u =>
    rw [hty] at h
    obtain ⟨σ', h1, hsig, hloc, hlines, _, himm⟩ := h
    refine ⟨σ', h1, ⟨?_, ?_⟩, hsig⟩
    · have h0 := hAt.1
      unfold lineToks at h0 ⊢
      rw [hloc, hlines, himm]
      rw [h0, List.append_assoc]
    · rw [hloc]
      simp only [List.length_append]

theorem aStatementOrGoto_other {ev : AEvals F} {σ : St F} {pre post : List (Token F)} {t : Token F}
    (h : At σ pre (t :: post)) (ht : ∀ x, t ≠ .num x) :
    aStatementOrGoto ev σ = nested ev.stmt (mv σ 0 (σ.reads + 1)) := by
  unfold aStatementOrGoto
  rw [bind_ok (peek_eq h)]
  simp only [List.head?_cons]
  cases t with
  | num x => exact absurd rfl (ht x)
  | _ => rfl

theorem aStatementOrGoto_num {ev : AEvals F} {σ : St F} {pre post : List (Token F)} {x : F}
    (h : At σ pre (.num x :: post)) :
    aStatementOrGoto ev σ = aGotoOrGosub (mv σ 0 (σ.reads + 1)) := by
  unfold aStatementOrGoto
  rw [bind_ok (peek_eq h)]
  rfl

theorem sog_frames (n : Nat) {S S' : St F} (h : aStatementOrGoto (aEvalN n) S = .ok () S') :
    S'.lines = S.lines ∧ S'.nesting = S.nesting ∧ S'.loc.line = S.loc.line := by
  have h1 := (AKeep.keeps_aStatementOrGoto (key := AFrame.key) (aEvalN n) (AKeep.keeps_expr n) (AKeep.keeps_aEvalN_stmt AFrame.noFns n)).h S
  have h2 := (AKeep.keeps_aStatementOrGoto (key := ALine.key) (aEvalN n) (AKeep.keeps_expr n) (AKeep.keeps_aEvalN_stmt ALine.noFns n)).h S
  rw [h] at h1 h2
  exact ⟨(Prod.mk.inj h1).1, (Prod.mk.inj h1).2, h2⟩

theorem abranch3 (t : RStmt3 F) (n' ln : Nat) (le : Nat → Bool) (hT : t.isLine = false → AStmtOK3 t n' ln le)
    (hcov : t.CoveredB) : ABranchOK3 t (n' + 1) ln le := by
  intro sig S pre rest hAt hl hle hS hn hE hres
  cases hil : t.isLine with
  | true =>
    obtain ⟨m, rfl⟩ : ∃ m, t = .lineS m := by
      cases t <;> first | exact ⟨_, rfl⟩ | cases hil
    have hAt0 : At S pre (.num (NumOps.ofNat m) :: rest) := by
      simpa only [renderS3, List.cons_append, List.nil_append] using hAt
    subst hle
    rw [aStatementOrGoto_num hAt0]
    simp only [typeOfS3A, typeOfS3, sigAfterS, sigFailS]
    exact ajump3 m _ pre rest sig (at_mv0 hAt0 _) hcov hS
  | false =>
    obtain ⟨t0, ts, hhead, hnn⟩ := Stmt3L.renderS3_head_nonnum t hil
    have hAt0 : At S pre (t0 :: (ts ++ rest)) := by rw [hhead] at hAt; exact hAt
    rw [aStatementOrGoto_other hAt0 hnn]
    show AOut3 (nested (aStmtBody (aEvalN n')) (mv S 0 (S.reads + 1))) _ _ _ _ _ _
    have hnl : (mv S 0 (S.reads + 1)).nesting < Extracted.nestingLimit := by show S.nesting < _; omega
    have hI := hT hil sig (nest (mv S 0 (S.reads + 1)) ((mv S 0 (S.reads + 1)).nesting + 1)) pre rest
      (at_nest (at_mv0 hAt _) _) hl hle hS (by show S.nesting + 1 + _ ≤ _; omega) hE hres
    have hfr := (AFrame.keeps_stmt (F := F) n').h (nest (mv S 0 (S.reads + 1)) ((mv S 0 (S.reads + 1)).nesting + 1))
    cases hty : typeOfS3A le sig t with
    | ok u =>
      rw [hty] at hI
      obtain ⟨σ', h1, h2, h3⟩ := hI
      rw [h1] at hfr
      exact ⟨_, nested_ok hnl h1 (Prod.mk.inj hfr).2, at_nest h2 _, h3⟩
    | error x =>
      rw [hty] at hI
      obtain ⟨σ', h1, h3⟩ := hI
      rw [h1] at hfr
      exact ⟨_, nested_err hnl h1 (Prod.mk.inj hfr).2, h3⟩

theorem aif3_cond (sig : Sig) (c : Expr2 F) (n ln : Nat) (σ : St F) (pre post : List (Token F))
    (hAt : At σ pre (.kw .If :: (render2 c ++ .kw .Then :: post))) (hl : σ.loc.line = some ln)
    (hS : sigOf σ.fns = sig)
    (hd : adepth c + 1 ≤ n) (hn : σ.nesting + (adepth c + 1) ≤ Extracted.nestingLimit) (hres : Resolved2 sig c) :
    match typeAny sig c with
    | .ok _ => ∃ S, aStmtBody (aEvalN n) σ = aIfRest (aEvalN n) S ∧
        At S (pre ++ [.kw .If] ++ render2 c ++ [.kw .Then]) post ∧ Cur σ S
    | .error x => ∃ σ', aStmtBody (aEvalN n) σ = .err { err := x } σ' ∧ σ'.fns = σ.fns := by
  have hAt1 := at_mv1 hAt (σ.reads + 1)
  rw [aStmtBody_if hAt]
  have hX := aexpr3_run sig c n ln _ _ _ hAt1 hl hS hd hn (ends_then 6 post) hres
  unfold typeAny
  cases hev : typeOf2 sig c with
  | error x =>
    obtain ⟨S', hS'⟩ := hX.err hev
    have hfn := (AKeep.keeps_expr (key := AFns.key) n).h (mv σ 1 (σ.reads + 1))
    rw [hS'] at hfn
    exact ⟨S', by unfold aIf; exact bind_err hS', hfn⟩
  | ok v =>
    obtain ⟨_, S1, hS1, rfl, hAtS1, hc1⟩ := hX.ok hev
    obtain ⟨c2, h2⟩ := Stmt3L.expect_ex (k := .Then) hAtS1 rfl
    refine ⟨mv S1 1 c2, ?_, at_mv1 hAtS1 c2, ⟨hc1.line, hc1.nesting, hc1.fns, hc1.lines⟩⟩
    unfold aIf
    rw [bind_ok hS1, bind_ok h2]
    rfl

theorem aif3_none (c : Expr2 F) (t : RStmt3 F) (n' ln : Nat) (le : Nat → Bool)
    (hB : ABranchOK3 t (n' + 1) ln le) (hd : adepth c + 1 ≤ n' + 1) : AStmtOK3 (.ifS c t none) (n' + 1) ln le := by
  intro sig σ pre rest hAt hl hle hS hn hE hres
  have hLE : LineEnd rest := hE.lineEnd rfl
  have hAt0 : At σ pre (.kw .If :: (render2 c ++ .kw .Then :: (renderS3 t ++ rest))) := by
    simpa only [renderS3, List.cons_append, List.append_assoc] using hAt
  simp only [asdepth, Nat.max_le, ← Nat.add_max_add_left] at hn
  simp only [ResolvedS2] at hres
  have hC := aif3_cond sig c (n' + 1) ln σ pre _ hAt0 hl hS hd hn.1 hres.1
  simp only [typeOfS3A, sigAfterS, sigFailS]
  cases hev : typeAny sig c with
  | error x =>
    rw [hev] at hC
    obtain ⟨σ', h1, h2⟩ := hC
    exact ⟨σ', h1, by rw [h2]; exact hS⟩
  | ok u =>
    rw [hev] at hC
    obtain ⟨S, hrun, hAtS, hc⟩ := hC
    rw [hrun]
    have hB' := hB sig S _ rest hAtS (hc.ln hl) (by rw [hc.lines]; exact hle) (hc.sig hS)
      (by rw [hc.nesting]; exact hn.2) (Or.inl hLE) hres.2
    simp only
    cases hty : typeOfS3A le sig t with
    | error x =>
      rw [hty] at hB'
      obtain ⟨σ', h1, h2⟩ := hB'
      exact ⟨σ', by unfold aIfRest; exact bind_err h1, h2⟩
    | ok u' =>
      rw [hty] at hB'
      obtain ⟨S2, h1, hAt2, h2⟩ := hB'
      unfold aIfRest
      rw [bind_ok h1, bind_ok (accept_end (k := .Else) hAt2 (fun t ht => by rw [hLE t ht]; rfl))]
      simp only [Bool.false_eq_true, ↓reduceIte]
      refine ⟨_, rfl, at_congr (at_mv0 hAt2 _) ?_, h2⟩
      simp only [renderS3, List.append_assoc, List.cons_append, List.nil_append]

theorem aif3_some (c : Expr2 F) (t e : RStmt3 F) (n' ln : Nat) (le : Nat → Bool)
    (hB1 : ABranchOK3 t (n' + 1) ln le) (hB2 : ABranchOK3 e (n' + 1) ln le) (hcl : t.closes = true)
    (hd : adepth c + 1 ≤ n' + 1) : AStmtOK3 (.ifS c t (some e)) (n' + 1) ln le := by
  intro sig σ pre rest hAt hl hle hS hn hE hres
  have hLE : LineEnd rest := hE.lineEnd rfl
  have hAt0 : At σ pre (.kw .If :: (render2 c ++ .kw .Then :: (renderS3 t ++ .kw .Else :: (renderS3 e ++ rest)))) := by
    simpa only [renderS3, List.cons_append, List.append_assoc] using hAt
  simp only [asdepth, Nat.max_le, ← Nat.add_max_add_left] at hn
  simp only [ResolvedS2] at hres
  have hC := aif3_cond sig c (n' + 1) ln σ pre _ hAt0 hl hS hd hn.1 hres.1
  simp only [typeOfS3A, sigAfterS, sigFailS]
  cases hev : typeAny sig c with
  | error x =>
    rw [hev] at hC
    obtain ⟨σ', h1, h2⟩ := hC
    exact ⟨σ', h1, by rw [h2]; exact hS⟩
  | ok u =>
    rw [hev] at hC
    obtain ⟨S, hrun, hAtS, hc⟩ := hC
    rw [hrun]
    have hB' := hB1 sig S _ _ hAtS (hc.ln hl) (by rw [hc.lines]; exact hle) (hc.sig hS)
      (by rw [hc.nesting]; exact hn.2.1) (Or.inr ⟨hcl, stmtEnd_else _⟩) hres.2.1
    simp only
    cases hty : typeOfS3A le sig t with
    | error x =>
      rw [hty] at hB'
      obtain ⟨σ', h1, h2⟩ := hB'
      exact ⟨σ', by unfold aIfRest; exact bind_err h1, h2⟩
    | ok u' =>
      rw [hty] at hB'
      obtain ⟨S2, h1, hAt2, h2⟩ := hB'
      obtain ⟨f1, f2, f3⟩ := sog_frames (n' + 1) h1
      unfold aIfRest
      rw [bind_ok h1, bind_ok (accept_true hAt2 rfl)]
      simp only [↓reduceIte]
      have hB'' := hB2 (sigAfterS sig t) (mv S2 1 (S2.reads + 1)) _ rest (at_mv1 hAt2 _)
        (by show S2.loc.line = _; rw [f3]; exact hc.ln hl)
        (by show S2.lines.has = _; rw [f1, hc.lines]; exact hle) h2
        (by show S2.nesting + _ ≤ _; rw [f2, hc.nesting]; exact hn.2.2) (Or.inl hLE) hres.2.2
      cases hty2 : typeOfS3A le (sigAfterS sig t) e with
      | error x =>
        rw [hty2] at hB''
        exact hB''
      | ok u'' =>
        rw [hty2] at hB''
        obtain ⟨S3, g1, g2, g3⟩ := hB''
        refine ⟨S3, g1, at_congr g2 ?_, g3⟩
        simp only [renderS3, List.append_assoc, List.cons_append, List.nil_append]

/-- The analyzer's statement pass on the rendering of a covered statement of `RStmt3` accepts iff `typeOfS3A le sig s`
    does (which is `typeOfS3 sig le s` on covered statements: `typeOfS3A_covered`); on acceptance the cursor stands
    right behind the statement and the signatures of the state are `sigAfterS sig s` (extended by the DEFs the
    statement contains); otherwise it fails with the static error, holding the signatures `sigFailS le sig s`. -/
theorem astmt3_run : ∀ (s : RStmt3 F) (n ln : Nat) (le : Nat → Bool), asdepth s ≤ n → s.isLine = false →
    s.CoveredB → AStmtOK3 s n ln le
  | .letS x e, n, ln, le, hd, _, _ => alet3_run x e n ln le hd
  | .printS items, n, ln, le, hd, _, hcov => aprint3_run items n ln le hd hcov
  | .gotoS m, n, ln, le, _, _, hcov => agoto3_run m n ln le hcov
  | .gosubS m, n, ln, le, _, _, hcov => agosub3_run m n ln le hcov
  | .lineS m, _, _, _, _, hnl, _ => by cases hnl
  | .endS, n, ln, le, _, _, _ => fun sig σ pre rest hAt _ _ hS _ _ _ => by
    simp only [renderS3, typeOfS3A, typeOfS3, sigAfterS, sigFailS] at hAt ⊢
    exact ⟨_, aStmtBody_end hAt, at_mv1 hAt _, hS⟩
  | .returnS, n, ln, le, _, _, _ => fun sig σ pre rest hAt _ _ hS _ _ _ => by
    simp only [renderS3, typeOfS3A, typeOfS3, sigAfterS, sigFailS] at hAt ⊢
    exact ⟨_, aStmtBody_return hAt, at_mv1 hAt _, hS⟩
  | .dataS items, n, ln, le, _, _, _ => fun sig σ pre rest hAt _ _ hS _ _ _ => by
    simp only [renderS3, typeOfS3A, typeOfS3, sigAfterS, sigFailS] at hAt ⊢
    exact ⟨_, aStmtBody_data hAt, at_mv1 hAt _, hS⟩
  | .restoreS, n, ln, le, _, _, _ => fun sig σ pre rest hAt _ _ hS _ _ _ => by
    simp only [renderS3, typeOfS3A, typeOfS3, sigAfterS, sigFailS] at hAt ⊢
    have h1 := at_mv1 hAt (σ.reads + 1)
    exact ⟨_, aStmtBody_restore hAt, ⟨h1.1, h1.2⟩, hS⟩
  | .nextS v, n, ln, le, _, _, _ => anext3_run v n ln le
  | .forS v a b c, n, ln, le, hd, _, _ => afor3_run v a b c n ln le hd
  | .readS ts, n, ln, le, hd, _, hcov => aread3_run ts hcov n ln le hd
  | .dimS name dims, n, ln, le, hd, _, _ => adim3_run name dims n ln le hd
  | .letCellS name idx e, n, ln, le, hd, _, _ => aletcell3_run name idx e n ln le hd
  | .defS f ps body, n, ln, le, hd, _, hcov => adef3_run f ps body hcov n ln le hd
  | .ifS c t none, n, ln, le, hd, _, hcov => by
    obtain ⟨_, hcovt⟩ : t.elseFree = true ∧ t.CoveredB := by simpa only [RStmt3.CoveredB] using hcov
    simp only [asdepth, Nat.max_le] at hd
    obtain ⟨n', rfl⟩ : ∃ n', n = n' + 1 := ⟨n - 1, by omega⟩
    exact aif3_none c t n' ln le
      (abranch3 t n' ln le (fun hl => astmt3_run t n' ln le (by omega) hl hcovt) hcovt) hd.1
  | .ifS c t (some e), n, ln, le, hd, _, hcov => by
    obtain ⟨hcl, hcovt, hcove⟩ : t.closes = true ∧ t.CoveredB ∧ e.CoveredB := by
      simpa only [RStmt3.CoveredB] using hcov
    simp only [asdepth, Nat.max_le] at hd
    obtain ⟨n', rfl⟩ : ∃ n', n = n' + 1 := ⟨n - 1, by omega⟩
    exact aif3_some c t e n' ln le
      (abranch3 t n' ln le (fun hl => astmt3_run t n' ln le (by omega) hl hcovt) hcovt)
      (abranch3 e n' ln le (fun hl => astmt3_run e n' ln le (by omega) hl hcove) hcove) hcl hd.1

end Abasic.Props.C06
