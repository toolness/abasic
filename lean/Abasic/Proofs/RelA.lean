import Abasic.Props.C01
import Abasic.Proofs.Prims
import Abasic.Proofs.Step
/-
  Relation A: the nesting counter is the same before and after.
-/
namespace Abasic.Hoare
open Abasic M

variable {F : Type}

def RA (σ σ' : St F) : Prop := σ'.nesting = σ.nesting

instance : IsFrame (RA (F := F)) where
  refl _ := rfl
  trans h1 h2 := Eq.trans h2 h1

theorem rns_sub_RA {σ σ' : St F} (h : RNS σ σ') : RA σ σ' := h.1

/-- only the bracket `nested` moves the counter, and it puts it back (`C01.nested_balanced`) -/
instance [NumOps F] : HostPrims (RA (F := F)) where
  sub := rns_sub_RA
  nested hm := respects_of_at fun σ => Abasic.Props.C01.nested_balanced _ σ fun s => hm.at s
  setImmediate _ := respects_modify fun _ => rfl
  gosubLine n := respects_of_final fun σ => by
    rw [gosubLine_eq]
    split
    · rfl
    · split <;> rfl
  returnFromGosub := respects_of_final fun σ => by
    rw [returnFromGosub_eq]
    cases σ.stack <;> rfl
  pushFunctionCall name b := respects_push b (fun _ _ _ => rfl) name
  popFunctionCall := respects_pop fun _ _ _ _ => rfl
  progBreak _ := rfl
  runFromFirst _ := by rw [St.runFromFirst_eq]; rfl
  setNumberedLine _ _ _ := rfl

end Abasic.Hoare
