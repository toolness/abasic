import Abasic.Proofs.Stmt3Base
/-
  C03, the statement evaluator on the statements of Ref/Stmt3.lean: DEF FN.  The definition is recorded with its
  parameter list, the number of the line and the token index of the body; the body is skipped up to and including the
  next colon.  Afterwards the function table of the model points at the rendering of the body: `FnsLink` holds for the
  new reference table — what `expr_eq2` (hypothesis `Rel`, Proofs/Expr2Lemmas.lean) needs to evaluate calls of the
  function.
-/
set_option linter.unusedSectionVars false

namespace Abasic.Stmt3L
open Abasic Abasic.Ref Abasic.ExprL Abasic.ExprL2 Abasic.StmtL Abasic.ProgL Abasic.Prog3L Abasic.Hoare M
open Abasic.Prog2L (Rel2)

variable {F : Type} [NumOps F]

theorem defArgsLoop_run : ∀ (ps : List Str), ps ≠ [] → ∀ (k : Nat) (σ : St F) (pre post : List (Token F)) (acc : List Str),
    At σ pre (renderTargets ps ++ .kw .RightParen :: post) → ps.length < k →
    ∃ c, defArgsLoop k acc σ = .ok (acc ++ ps) (mv σ ((renderTargets (F := F) ps).length + 1) c) := by
  intro ps
  induction ps with
  | nil => intro h; exact absurd rfl h
  | cons x ps' ih =>
    intro _ k σ pre post acc hAt hk
    obtain ⟨k', rfl⟩ : ∃ k', k = k' + 1 := ⟨k - 1, by omega⟩
    cases ps' with
    | nil =>
      have hAt0 : At σ pre (.symbol x :: .kw .RightParen :: post) := hAt
      obtain ⟨c1, h1⟩ := next_ex hAt0
      have hAt1 := at_mv1 hAt0 c1
      obtain ⟨c2, h2⟩ := next_ex hAt1
      refine ⟨c2, ?_⟩
      rw [defArgsLoop, bind_ok h1]
      simp only
      rw [bind_ok h2]
      have hk1 : (Token.kw (F := F) Kw.RightParen).isKw Kw.Comma = false := rfl
      have hk2 : (Token.kw (F := F) Kw.RightParen).isKw Kw.RightParen = true := rfl
      simp only [hk1, hk2, Bool.false_eq_true, ↓reduceIte]
      rw [mv_mv]
      rfl
    | cons x' ps'' =>
      have hAt0 : At σ pre (.symbol x :: .kw .Comma :: (renderTargets (x' :: ps'') ++ .kw .RightParen :: post)) := by
        simpa only [renderTargets, List.cons_append] using hAt
      obtain ⟨c1, h1⟩ := next_ex hAt0
      have hAt1 := at_mv1 hAt0 c1
      obtain ⟨c2, h2⟩ := next_ex hAt1
      have hAt2 := at_mv1 hAt1 c2
      obtain ⟨c3, h3⟩ := ih (by simp) k' (mv (mv σ 1 c1) 1 c2) _ post (acc ++ [x]) hAt2
        (by simp only [List.length_cons] at hk ⊢; omega)
      refine ⟨c3, ?_⟩
      rw [defArgsLoop, bind_ok h1]
      simp only
      rw [bind_ok h2]
      have hk1 : (Token.kw (F := F) Kw.Comma).isKw Kw.Comma = true := rfl
      simp only [hk1, ↓reduceIte]
      rw [h3, mv_mv, mv_mv]
      simp only [List.append_assoc, List.cons_append, List.nil_append]
      congr 1
      apply mv_congr
      simp only [renderTargets, List.length_cons]
      omega

theorem targets_length (ps : List Str) : ps.length ≤ (renderTargets (F := F) ps).length := by
  induction ps with
  | nil => simp [renderTargets]
  | cons x rest ih =>
    cases rest with
    | nil => simp [renderTargets]
    | cons x' rest' =>
      simp only [renderTargets, List.length_cons] at ih ⊢
      omega

theorem skipToColon_skip (mid : List (Token F)) :
    ∀ (k : Nat) (σ : St F) (pre post : List (Token F)), At σ pre (mid ++ post) →
      (∀ t ∈ mid, t.isKw .Colon = false) →
      ∃ c, skipToColonLoop (k + mid.length) σ = skipToColonLoop k (mv σ mid.length c) := by
  induction mid with
  | nil => intro k σ pre post _ _; exact ⟨σ.reads, rfl⟩
  | cons t mid ih =>
    intro k σ pre post hAt hp
    have hAt0 : At σ pre (t :: (mid ++ post)) := hAt
    have h1 := hp t List.mem_cons_self
    obtain ⟨c1, hn1⟩ := next_ex hAt0
    obtain ⟨c2, h2⟩ := ih k _ _ post (at_mv1 hAt0 c1) (fun t' ht' => hp t' (List.mem_cons_of_mem _ ht'))
    refine ⟨c2, ?_⟩
    show skipToColonLoop (k + mid.length + 1) σ = _
    rw [skipToColonLoop, bind_ok hn1]
    simp only [h1, Bool.false_eq_true, ↓reduceIte]
    rw [h2, mv_mv]
    congr 1
    apply mv_congr
    simp only [List.length_cons]
    omega

theorem skipToColon_end {k : Nat} {σ : St F} {pre : List (Token F)} (h : At σ pre []) :
    ∃ c, skipToColonLoop (k + 1) σ = .ok () (mv σ 0 c) := by
  refine ⟨σ.reads + 1, ?_⟩
  rw [skipToColonLoop, bind_ok (next_none h)]
  rfl

theorem skipToColon_colon {k : Nat} {σ : St F} {pre post : List (Token F)} (h : At σ pre (.kw .Colon :: post)) :
    ∃ c, skipToColonLoop (k + 1) σ = .ok () (mv σ 1 c) := by
  obtain ⟨c, hc⟩ := next_ex h
  refine ⟨c, ?_⟩
  rw [skipToColonLoop, bind_ok hc]
  rfl

theorem fnsLink_def {σ : St F} {fns : List (Str × FnDefSpec F)} (h : FnsLink σ fns) (f : Str) (ps : List Str)
    (body : Expr2 F) (ln idx : Nat) (preD tail : List (Token F))
    (hline : σ.lines.get ln = some (preD ++ (render2 body ++ tail))) (hidx : idx = preD.length) (htail : Ends 6 tail)
    {σ' : St F} (hl : σ'.lines = σ.lines) (hf : σ'.fns = alSet f { args := ps, line := ln, idx := idx } σ.fns) :
    FnsLink σ' (alSet f { params := ps, body := body } fns) := by
  constructor
  · intro name hn
    rw [Props.C16.alGet_alSet] at hn
    by_cases hk : name = f
    · rw [if_pos hk] at hn; cases hn
    · rw [if_neg hk] at hn
      rw [hf, Props.C16.alGet_alSet, if_neg hk]
      exact h.undef name hn
  · intro name d hd
    rw [Props.C16.alGet_alSet] at hd
    by_cases hk : name = f
    · rw [if_pos hk] at hd
      cases hd
      refine ⟨{ args := ps, line := ln, idx := idx }, preD, tail, ?_, rfl, by rw [hl]; exact hline, hidx, htail⟩
      rw [hf, Props.C16.alGet_alSet, if_pos hk]
    · rw [if_neg hk] at hd
      obtain ⟨fd, pre, tl, a, b, c, d', e⟩ := h.defd name d hd
      refine ⟨fd, pre, tl, ?_, b, by rw [hl]; exact c, d', e⟩
      rw [hf, Props.C16.alGet_alSet, if_neg hk]
      exact a

omit [NumOps F] in
theorem at_fns {σ : St F} {pre post : List (Token F)} (h : At σ pre post) (fns : List (Str × FnDef)) :
    At { σ with fns := fns } pre post := ⟨h.1, h.2⟩

end Abasic.Stmt3L

namespace Abasic.Stmt3V
open Abasic Abasic.Ref Abasic.ExprL Abasic.ExprL2 Abasic.StmtL Abasic.ProgL Abasic.Prog3L Abasic.Stmt3L Abasic.Hoare M
open Abasic.Prog2L (Rel2)

variable {F : Type} [NumOps F]

section stmts
variable {p : ProgView F} {n j : Nat}

theorem def_ok (f : Str) (ps : List Str) (body : Expr2 F) : StmtOK p n j (.defS f ps body) := by
  intro fuel σ r pre rest after eol hS _ hP hE _ hcov _ _ _
  have hne : ps ≠ [] := hcov
  have hLE : LineEnd3 rest := hE.lineEnd3 rfl
  have hline := hP.locline
  have h0 : Mid p σ r r σ pre (.kw .Def :: .symbol f :: .kw .LeftParen ::
      (renderTargets ps ++ .kw .RightParen :: (.kw .Equals :: (render2 body ++ rest)))) :=
    .ofSync hS (by simpa only [renderS3, List.cons_append, List.append_assoc] using hP.cur)
  obtain ⟨k1, h1, m1⟩ := h0.body (ev := evalN fuel) rfl
  obtain ⟨k2, h2, m2⟩ := m1.tok
  obtain ⟨k3, h3, m3⟩ := m2.expectKw (k := .LeftParen) rfl
  have hbud := lineBudget_eq m3.cur.1
  have htl := targets_length (F := F) ps
  obtain ⟨k4, h4⟩ := defArgsLoop_run ps hne
    ((pre ++ [Token.kw Kw.Def] ++ [Token.symbol f] ++ [Token.kw Kw.LeftParen] ++
      (renderTargets ps ++ Token.kw Kw.RightParen :: (Token.kw Kw.Equals :: (render2 body ++ rest)))).length + 1)
    (mv (mv (mv σ 1 k1) 1 k2) 1 k3) _ _ [] m3.cur (by simp only [List.length_append, List.length_cons]; omega)
  rw [List.nil_append] at h4
  have m4 : Mid p σ r r (mv (mv (mv (mv σ 1 k1) 1 k2) 1 k3) ((renderTargets (F := F) ps).length + 1) k4)
      (pre ++ [Token.kw Kw.Def] ++ [Token.symbol f] ++ [Token.kw Kw.LeftParen] ++ (renderTargets ps ++ [Token.kw Kw.RightParen]))
      (.kw .Equals :: (render2 body ++ rest)) := by
    have m3' : Mid p σ r r (mv (mv (mv σ 1 k1) 1 k2) 1 k3) (pre ++ [Token.kw Kw.Def] ++ [Token.symbol f] ++ [Token.kw Kw.LeftParen])
        ((renderTargets ps ++ [Token.kw Kw.RightParen]) ++ (.kw .Equals :: (render2 body ++ rest))) :=
      m3.at (by simpa only [List.append_assoc, List.cons_append, List.nil_append] using m3.cur)
    have := m3'.past k4
    simpa only [List.length_append, List.length_cons, List.length_nil] using this
  obtain ⟨k5, h5, m5⟩ := m4.expectKw (k := .Equals) rfl
  have hstτ := m5.start
  have hAt5 := m5.cur
  have hM := m5.sync.mem
  have hlines := m5.kept.lines
  generalize hτ : mv (mv (mv (mv (mv σ 1 k1) 1 k2) 1 k3) ((renderTargets (F := F) ps).length + 1) k4) 1 k5 = τ
    at h5 hAt5 hstτ hM hlines
  have hlτ : τ.loc.line = some n := by rw [hstτ.line]; exact hline
  have hdf : defineFunction f ps τ =
      .ok () { τ with fns := alSet f { args := ps, line := n, idx := τ.loc.idx } τ.fns } := by
    simp only [defineFunction, bind, M.bindM, M.get, hlτ, M.set]
  have hAt6 : At ({ τ with fns := alSet f { args := ps, line := n, idx := τ.loc.idx } τ.fns } : St F) _
      (render2 body ++ rest) := at_fns hAt5 _
  -- `List.length (…)`: as `(…).length` the `++` chain is elaborated again each time the field access is postponed
  obtain ⟨kk, hkk⟩ : ∃ kk, List.length (pre ++ [Token.kw Kw.Def] ++ [Token.symbol f] ++ [Token.kw Kw.LeftParen] ++
      (renderTargets ps ++ Token.kw Kw.RightParen :: (Token.kw Kw.Equals :: (render2 body ++ rest)))) + 1
      = (kk + 1) + (render2 body).length :=
    ⟨pre.length + 3 + (renderTargets (F := F) ps).length + 2 + rest.length, by
      simp only [List.length_append, List.length_cons, List.length_nil]; omega⟩
  obtain ⟨k6, h6⟩ := skipToColon_skip (render2 body) (kk + 1) _ _ rest hAt6 (fun t ht => (noce_expr body t ht).1)
  have hAt7 := at_mv hAt6 k6
  have hrun : stmtBody (evalN fuel) σ = skipToColonLoop (kk + 1)
      (mv ({ τ with fns := alSet f { args := ps, line := n, idx := τ.loc.idx } τ.fns } : St F) (render2 body).length k6) := by
    rw [h1]
    show defStatement _ = _
    unfold defStatement
    rw [bind_ok h2]
    show (expect .LeftParen >>= fun _ => _) _ = _
    rw [bind_ok h3, bind_ok hbud, bind_ok h4]
    show (expect .Equals >>= fun _ => _) _ = _
    rw [bind_ok h5, bind_ok hdf, hkk, h6]
  rw [hrun]
  show Outcome3 p σ n after eol _
    { r with fns := alSet f { params := ps, body := body } r.fns, fnLines := alSet f n r.fnLines } .next
  have hgetσ : σ.lines.get n = some (pre ++ (renderS3 (.defS f ps body) ++ rest)) := get_of_at hline hP.cur
  have hMem' : Mem3 p { r with fns := alSet f { params := ps, body := body } r.fns, fnLines := alSet f n r.fnLines }
      ({ τ with fns := alSet f { args := ps, line := n, idx := τ.loc.idx } τ.fns } : St F) := { hM with
    fns := fnsLink_def hM.fns f ps body n τ.loc.idx _ rest (get_of_at hlτ hAt5) hAt5.2 (hE.ends 6) rfl rfl
    fnLines := by
      intro name fd hfd
      rw [Props.C16.alGet_alSet] at hfd
      show alGet name (alSet f n r.fnLines) = _
      rw [Props.C16.alGet_alSet]
      by_cases hk : name = f
      · rw [if_pos hk] at hfd ⊢
        cases hfd
        rfl
      · rw [if_neg hk] at hfd ⊢
        exact hM.fnLines name fd hfd }
  have hidx7 : (mv ({ τ with fns := alSet f { args := ps, line := n, idx := τ.loc.idx } τ.fns } : St F)
      (render2 body).length k6).loc.idx = after := by
    rw [hP.hafter]
    exact (idx_after hP.cur hAt7 (by show lineToks τ = lineToks σ; exact lineToks_start hstτ hline)).trans (by
      simp only [renderS3, List.length_cons, List.length_append])
  have hkept : ∀ a c, Kept σ (mv (mv ({ τ with fns := alSet f { args := ps, line := n, idx := τ.loc.idx } τ.fns } : St F)
      (render2 body).length k6) a c) := fun a c =>
    ⟨hstτ.kept.lines, hstτ.kept.warnings, hstτ.kept.tracing, hstτ.kept.nesting, hstτ.kept.state⟩
  rcases hLE with rfl | ⟨t0, post, rfl, _⟩
  · obtain ⟨k7, h7⟩ := skipToColon_end (k := kk) hAt7
    rw [h7]
    exact outcome_next hP (hkept 0 k7) hstτ.line (mem_mv (mem_mv hMem' _ _) _ _) (at_mv0 hAt7 k7)
  · obtain ⟨k7, h7⟩ := skipToColon_colon (k := kk) hAt7
    rw [h7]
    refine ⟨_, rfl, hkept 1 k7, mem_mv (mem_mv hMem' _ _) _ _, hlτ, Or.inr ⟨?_, ?_, fun _ => ⟨f, Props.C16.alGet_alSet_self f n r.fnLines⟩⟩⟩
    · show _ + 1 = after + 1
      rw [← hidx7]
    · refine ⟨_, (by show τ.lines.get n = _; rw [hlines]; exact hgetσ), ?_⟩
      rw [← List.append_assoc, hP.hafter, ← List.length_append, List.getElem?_append_right (Nat.le_refl _), Nat.sub_self]
      rfl

end stmts

end Abasic.Stmt3V
