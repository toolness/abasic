import Abasic.Proofs.ProgView
/-
  C03, control stack and DATA — the reference machine of Ref/Prog2.lean and its programs as instances of
  Proofs/SeqLTurn.lean and Proofs/ProgView.lean (the machine is `exec`, then `SeqL.seq`: `rstep_seq` in
  Proofs/Prog2Store.lean): `Core2` and `Final` are a `SeqL.Frame` (`frame`); what the statement theorems
  give (`Outcome`) is what the turn needs (`outcome_seq`); and what `next_data_element` does with the DATA
  items of a stored program and `removeLoop` with the loop stack are the lemmas for a view
  (Proofs/ProgView.lean) at `view p`.
-/
set_option linter.unusedSectionVars false

namespace Abasic.Prog2L
open Abasic Abasic.Ref Abasic.ExprL Abasic.StmtL Abasic.ProgL M
open Abasic.Props

variable {F : Type} [NumOps F]

/-- what the model state shares with the reference state, cursor and run state apart -/
structure Core2 (p : RProgram2 F) (r : RState2 F) (σ : St F) : Prop where
  env : Env p σ
  mem : Mem p r σ
  inv : RInv r

def Final (r : RState2 F) (σ : St F) : Prop :=
  σ.state = .idle ∧ σ.vars = r.vars ∧ σ.arrays = r.arrays ∧ σ.out = outRecs r.out

theorem Mem.pc {p : RProgram2 F} {r : RState2 F} {σ : St F} (h : Mem p r σ) (x : Option (Nat × Nat)) :
    Mem p { r with pc := x } σ := ⟨h.vars, h.arrays, h.loops, h.stack, h.data, h.out⟩

theorem RInv.pc {r : RState2 F} (h : RInv r) (x : Option (Nat × Nat)) : RInv { r with pc := x } :=
  ⟨h.typed, h.arrs⟩

theorem Core2.pc {p : RProgram2 F} {r : RState2 F} {σ : St F} (h : Core2 p r σ) (x : Option (Nat × Nat)) :
    Core2 p { r with pc := x } σ := ⟨h.env, h.mem.pc x, h.inv.pc x⟩

theorem Core2.move {p : RProgram2 F} {r : RState2 F} {σ : St F} (h : Core2 p r σ) (loc : Loc) (k : Nat) (st : IState) :
    Core2 p r { σ with loc := loc, reads := k, state := st } :=
  ⟨⟨h.env.lines, h.env.warnings, h.env.tracing, h.env.nesting, h.env.fns⟩,
    ⟨h.mem.vars, h.mem.arrays, h.mem.loops, h.mem.stack, h.mem.data, h.mem.out⟩, h.inv⟩

theorem frame (p : RProgram2 F) (r : RState2 F) : SeqL.Frame lang p (Core2 p r) (Final r) where
  holds h := h.env.lines.seq
  tracing h := h.env.tracing
  move k loc h := h.move loc k _
  fin _ h := ⟨rfl, h.mem.vars, h.mem.arrays, h.mem.out⟩

theorem outcome_seq {p : RProgram2 F} {σ : St F} (henv : Env p σ) (hrun : σ.state = .running)
    {n after eol : Nat} {res : Res F Unit} {r' : RState2 F} (hI : RInv r') (hline : σ.loc.line = some n) :
    ∀ {c : Ctl2}, Outcome p σ n after eol res r' c →
      SeqL.Outcome lang p (fun σ' => Core2 p r' σ' ∧ σ'.state = .running) (Final r') (fun _ => False)
        σ n after eol res c := by
  have hg : ∀ {σ'}, Kept σ σ' → Mem p r' σ' → Core2 p r' σ' ∧ σ'.state = .running :=
    fun hk hm => ⟨⟨hk.env henv, hm, hI⟩, hk.state.trans hrun⟩
  have hf : ∀ {e σ'}, res = .err { err := e } σ' → σ'.loc.line = some n → σ'.out = σ.out →
      SeqL.Fails (fun _ => False) σ e res :=
    fun h1 h2 h3 => ⟨_, _, h1, rfl, h3, h2.trans hline.symm, Or.inl rfl⟩
  intro c h
  cases c with
  | next => obtain ⟨σ', h1, hk, hm, hloc⟩ := h; exact ⟨σ', h1, hg hk hm, by rw [hloc], Or.inl (by rw [hloc])⟩
  | skipLine => obtain ⟨σ', h1, hk, hm, hloc⟩ := h; exact ⟨σ', h1, hg hk hm, hloc⟩
  | jump m =>
    exact ⟨fun hh => let ⟨σ', h1, hk, hm, hloc⟩ := h.1 hh; ⟨σ', h1, hg hk hm, hloc⟩,
      fun hh => let ⟨σ', h1, h2, h3⟩ := h.2 hh; hf h1 h2 h3⟩
  | stop => obtain ⟨σ', h1, _, hv, ha, ho, hloc, himm⟩ := h; exact ⟨σ', h1, fun _ => ⟨rfl, hv, ha, ho⟩, hloc, himm⟩
  | resume m k => obtain ⟨σ', h1, hk, hm, ha⟩ := h; exact ⟨σ', h1, hg hk hm, ha⟩
  | error e => obtain ⟨hnd, σ', h1, h2, h3⟩ := h; exact ⟨hnd, hf h1 h2 h3⟩
  | errorAt e ln => exact h

def view (p : RProgram2 F) : Stmt3V.ProgView F := SeqL.view lang RStmt2.dataOf p [] false false

theorem view_wf {p : RProgram2 F} (hwf : p.WF) : (view p).WF := SeqL.view_wf dataToks_renderS2 hwf.seq [] false false

theorem dataRel_view {p : RProgram2 F} {c : Nat} {d : Option (DataIter F)} : DataRel p c d ↔ (view p).Data c d := by
  cases d <;> exact Iff.rfl

theorem nextData_some {p : RProgram2 F} {σ : St F} {c : Nat} (hh : Holds σ.lines p) (hwf : p.WF)
    (hd : DataRel p c σ.data) {ln : Nat} {d : DataElement F} (hc : (allData p)[c]? = some (ln, d)) :
    ∃ it' i, nextDataElement σ = .ok (some d) { σ with data := some it' } ∧ DataRel p (c + 1) (some it') ∧
      ({ σ with data := some it' } : St F).dataLoc = some { line := some ln, idx := i } :=
  Stmt3V.nextData_some (p := view p) hh.seq (view_wf hwf) (dataRel_view.1 hd) hc

theorem nextData_none {p : RProgram2 F} {σ : St F} {c : Nat} (hh : Holds σ.lines p) (hwf : p.WF)
    (hd : DataRel p c σ.data) (hc : (allData p)[c]? = none) :
    ∃ it', nextDataElement σ = .ok none { σ with data := some it' } :=
  Stmt3V.nextData_none (p := view p) hh.seq (view_wf hwf) (dataRel_view.1 hd) hc

end Abasic.Prog2L
