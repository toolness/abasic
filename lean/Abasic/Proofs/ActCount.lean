import Abasic.Props.C17Count
import Abasic.Proofs.AccFrame
import Abasic.Proofs.RelA
import Abasic.Proofs.Lift
/-
  Counting statement activations (used by C09 `trace_count`).

  THE INSTRUMENTED EVALUATOR.  `evalG` is `evalN` with one change: the recursive
  entry point for statements — `ev.stmt`, which the statement evaluator reaches
  only as `nested ev.stmt` under THEN / ELSE (Proofs/StmtIndep.lean) — first
  appends one `mark` to the analyzer's access log (`tick`), a component of the
  state that nothing in the interpreter reads.  So the number of marks a run of
  the instrumented evaluator appends is, by construction, the number of NESTED
  statement activations of that run (the outermost activation is called
  directly, not through `ev.stmt`, and is not marked).

  PROVED HERE: the instrumented activation is the real one plus `activations - 1` marks — same value, same
  error, same state otherwise — from every state (`activation_marks`; `activations` is the count of
  Props/C17Count.lean, whose copies of the trace block the real run adds, `C17.activation_repN`), and
  `activations` is at most the room left under the nesting cap plus one (`activations_room`).
-/

namespace Abasic.Count
open Abasic M Abasic.Hoare Abasic.Trace

variable {F : Type}

/-- the mark: an entry no analysis produces (empty symbol) -/
def mark : Str × Nat × Nat × Access := ([], 0, 0, .read)

def addMarks (c : Nat) (s : St F) : St F := { s with accesses := s.accesses ++ List.replicate c mark }

def tick : M F Unit := M.modify (addMarks 1)

def marks (c : Nat) : Acc.Add := { accesses := List.replicate c mark }

theorem T_marks (c : Nat) : Acc.T (F := F) (marks c) = addMarks c := by
  funext s
  simp [Acc.T, marks, addMarks]

theorem addMarks_zero (s : St F) : addMarks 0 s = s := by
  cases s; simp [addMarks]

theorem addMarks_add (a b : Nat) (s : St F) : addMarks a (addMarks b s) = addMarks (b + a) s := by
  simp [addMarks, List.append_assoc, List.replicate_append_replicate]

theorem mapRes_zero {α : Type} (r : Res F α) : Acc.mapRes (addMarks 0) r = r := by
  cases r <;> simp [Acc.mapRes, addMarks_zero]

theorem mapRes_add {α : Type} (a b : Nat) (r : Res F α) :
    Acc.mapRes (addMarks a) (Acc.mapRes (addMarks b) r) = Acc.mapRes (addMarks (b + a)) r := by
  cases r <;> simp [Acc.mapRes, addMarks_add]

theorem comm_marks {α : Type} {m : M F α} (hm : ∀ d, Acc.Comm d m) (c : Nat) (s : St F) :
    m (addMarks c s) = Acc.mapRes (addMarks c) (m s) := by
  have := (hm (marks c)).h s
  rw [T_marks] at this
  exact this

theorem final_mapRes {α : Type} (g : St F → St F) (r : Res F α) : (Acc.mapRes g r).final = g r.final := by
  cases r <;> rfl

theorem here_addMarks (c : Nat) (s : St F) : here (addMarks c s) = here s := rfl

/-- the instrumented result `rG` is the real result `r` with `cm` marks appended
    to the log; the real run kept the tracing flag and the program, and added
    exactly `ct` copies of the block `u` to the trace records -/
def Sim1 {α : Type} (u : List Nat) (σ : St F) (cm ct : Nat) (r rG : Res F α) : Prop :=
  rG = Acc.mapRes (addMarks cm) r ∧ r.final.tracing = σ.tracing ∧ r.final.lines = σ.lines ∧
  traces r.final.out = rep ct u ++ traces σ.out

/-- `mG` simulates `m` from every state whose trace block is `u` and whose
    nesting counter is within the cap: `c` marks against `c + off` trace blocks,
    with `c` at most the room under the cap (plus `slack`) -/
def CG {α : Type} (slack off : Nat) (u : List Nat) (m mG : M F α) : Prop :=
  ∀ σ, here σ = u → σ.nesting ≤ Extracted.nestingLimit →
    ∃ c, c + σ.nesting ≤ Extracted.nestingLimit + slack ∧ Sim1 u σ c (c + off) (m σ) (mG σ)

theorem cg_slack {α : Type} {off : Nat} {u : List Nat} {m mG : M F α} (h : CG 0 off u m mG) : CG 1 off u m mG := by
  intro σ hu hn
  obtain ⟨c, hc, hs⟩ := h σ hu hn
  exact ⟨c, by omega, hs⟩

variable [NumOps F]

theorem unnest_marks {α : Type} (c : Nat) (r : Res F α) :
    unnest (Acc.mapRes (addMarks c) r) = Acc.mapRes (addMarks c) (unnest r) := by
  cases r with
  | ok a s => exact comm_marks (fun _ => Acc.Comm.bind Acc.comm_exitNested (fun _ => Acc.Comm.ofExcept _)) c s
  | err e s => exact comm_marks (fun _ => Acc.Comm.bind Acc.comm_exitNested (fun _ => Acc.Comm.ofExcept _)) c s

open Abasic.Trace.Lift Abasic.Indep Abasic.Props.C17

theorem comm_clauseTail (th : Bool) (d : Acc.Add) :
    Acc.Comm d (if th = true then tailElse else pure () : M F Unit) := by
  cases th
  · exact Acc.Comm.pure _
  · exact Acc.Comm.bind (Acc.comm_peekIsKw _) fun b => by
      cases b
      · exact Acc.Comm.pure _
      · exact Acc.comm_discardRemaining

section marks
variable (ev evG : Evals F) (hx : evG.expr = ev.expr) (rec : St F → Nat)
  (hrec : ∀ σ', evG.stmt σ' = Acc.mapRes (addMarks (rec σ')) (ev.stmt σ'))
include hrec

theorem clause_marks (σc : St F) :
    statementOrGoto evG σc = Acc.mapRes (addMarks (clauseActs rec σc)) (statementOrGoto ev σc) := by
  rw [statementOrGoto_eq ev, statementOrGoto_eq evG, clauseActs]
  cases clauseEntry σc with
  | none => exact (mapRes_zero _).symm
  | some σ' => simp only [hrec, unnest_marks]

include hx

/-- one statement activation: the head is the same on both sides; the clause is where the marks are -/
theorem body_marks (σ : St F) : stmtBody evG σ = Acc.mapRes (addMarks (actStep ev rec σ)) (stmtBody ev σ) := by
  rw [actStep_eq_head, stmtBody_eq ev, stmtBody_eq evG, stmtHead_congr hx]
  show M.bindM _ _ σ = Acc.mapRes _ (M.bindM _ _ σ)
  unfold M.bindM
  cases stmtHead ev σ with
  | err e s => exact (mapRes_zero _).symm
  | ok r s =>
    cases r with
    | none => exact (mapRes_zero _).symm
    | some th =>
      show M.bindM (statementOrGoto evG) _ s = Acc.mapRes _ (M.bindM (statementOrGoto ev) _ s)
      unfold M.bindM
      rw [clause_marks ev evG rec hrec]
      cases statementOrGoto ev s with
      | err e s' => rfl
      | ok _ s' => exact comm_marks (comm_clauseTail th) _ s'

end marks

def evalG : Nat → Evals F
  | 0 => { expr := fail .outOfFuel, stmt := fail .outOfFuel }
  | n + 1 => { expr := exprBody (evalG n), stmt := do tick; stmtBody (evalG n) }

theorem evalG_expr (n : Nat) : (evalG (F := F) n).expr = (evalN n).expr := by
  induction n with
  | zero => rfl
  | succ n ih => exact exprBody_congr ih

/-- marks already in the log do not disturb the instrumented evaluator (a `tick` commutes with them) -/
theorem comm_bodyG (c : Nat) : ∀ n, Acc.Comm (marks c) (stmtBody (evalG (F := F) n))
  | n => by
    have hs : Acc.Comm (marks c) (evalG (F := F) n).stmt := by
      cases n with
      | zero => exact .of (commutes_fail _)
      | succ n =>
        refine Acc.Comm.bind (Acc.Comm.modify fun s => ?_) fun _ => comm_bodyG c n
        rw [T_marks, addMarks_add, addMarks_add, Nat.add_comm]
    exact .of (walk_stmtBody (Norm.walk (Acc.addN (marks c))) (evalG n)
      (evalG_expr (F := F) n ▸ (Acc.comm_evalN n).1.commutes) hs.commutes)

/-- **The marks count the clauses entered.**  At every fuel, from every state, the instrumented activation is
    the real one plus `activations - 1` marks: one for every activation below it. -/
theorem activation_marks (n : Nat) (σ : St F) :
    stmtBody (evalG n) σ = Acc.mapRes (addMarks (activations n σ - 1)) (stmtBody (evalN n) σ) := by
  induction n generalizing σ with
  | zero =>
    rw [activations, Nat.add_sub_cancel_left]
    exact body_marks (evalN 0) (evalG 0) rfl _ (fun _ => (mapRes_zero _).symm) σ
  | succ k ih =>
    rw [activations, Nat.add_sub_cancel_left]
    refine body_marks (evalN (k + 1)) (evalG (k + 1)) (evalG_expr _) _ (fun σ' => ?_) σ
    -- the nested activation starts with a `tick`; the mark moves behind the run
    have h := (comm_bodyG 1 k).h σ'
    rw [T_marks] at h
    show stmtBody (evalG k) (addMarks 1 σ') = Acc.mapRes _ (stmtBody (evalN k) σ')
    rw [h, ih, mapRes_add, Nat.sub_add_cancel (activations_pos k σ')]

/-- every clause entered costs a nesting level -/
theorem actStep_room (ev : Evals F) (ha : Respects RA ev.expr) (rec : St F → Nat)
    (hrec : ∀ σ', σ'.nesting ≤ Extracted.nestingLimit → rec σ' + σ'.nesting ≤ Extracted.nestingLimit + 1)
    (σ : St F) (hn : σ.nesting ≤ Extracted.nestingLimit) :
    actStep ev rec σ + σ.nesting ≤ Extracted.nestingLimit := by
  rw [actStep_eq_head]
  cases hh : stmtHead ev σ with
  | err e s => exact (Nat.zero_add _).symm ▸ hn
  | ok r s =>
    cases r with
    | none => exact (Nat.zero_add _).symm ▸ hn
    | some th =>
      have hra : s.nesting = σ.nesting :=
        stmtHead_clause (R := RA) fr_next (walk_ifHead (ExprFrame.cursor RA) fr_discardRemaining _ ha) hh
      show clauseActs rec s + _ ≤ _
      unfold clauseActs
      cases hce : clauseEntry s with
      | none => exact (Nat.zero_add _).symm ▸ hn
      | some σ' =>
        obtain ⟨rfl, hcap⟩ := clauseEntry_some hce
        have := hrec { s with reads := s.reads + 1, nesting := s.nesting + 1 } (show s.nesting + 1 ≤ _ by omega)
        show rec _ + _ ≤ _
        have e : ({ s with reads := s.reads + 1, nesting := s.nesting + 1 } : St F).nesting = s.nesting + 1 := rfl
        omega

/-- **activations per call**: an activation and the chain of activations below it, each one nesting level deeper
    than its parent and refused at the cap -/
theorem activations_room (n : Nat) (σ : St F) (hn : σ.nesting ≤ Extracted.nestingLimit) :
    activations n σ + σ.nesting ≤ Extracted.nestingLimit + 1 := by
  induction n generalizing σ with
  | zero =>
    have := actStep_room _ (fr_evalN_expr 0) (fun _ => 0) (fun _ h => by omega) σ hn
    rw [activations]; omega
  | succ k ih =>
    have := actStep_room _ (fr_evalN_expr (k + 1)) _ ih σ hn
    rw [activations]; omega

end Abasic.Count
