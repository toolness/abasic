import Abasic.Proofs.Transp
import Abasic.Proofs.CommuteLift
/-
  `eraseN` is a lawful normaliser, so every function of the evaluator is `Comm` and every
  host call is `Sim` (Proofs/CommuteLift.lean).
-/
namespace Abasic.Hoare
open Abasic M

variable {F : Type} [NumOps F]

instance : (eraseN (F := F)).KeepsImm := ⟨fun _ => rfl⟩

instance : (eraseN (F := F)).Lawful where
  get _ _ := rfl
  has _ _ := rfl
  after _ _ := rfl
  first _ := rfl
  dataChunks _ := rfl
  list _ := rfl
  set_congr _ _ h n ts := congrArg (fun l : Lines F => l.set n ts) h
  out_append l₁ l h := by
    show (l₁ ++ l).filter keepOut = l₁ ++ l.filter keepOut
    rw [List.filter_append, List.filter_eq_self.2 h]
  reads_add _ _ := rfl
  warn_out b _ _ _ := by cases b <;> rfl
  trace_out b _ _ := by cases b <;> rfl

omit [NumOps F] in
theorem comm_warn (msg : Str) : Comm (warn (F := F) msg) := commutes_warn (N := eraseN) msg

/-- the guard around a warning does not matter: the erased run never warns -/
theorem comm2_warn_guard (c₁ c₂ : Prop) [Decidable c₁] [Decidable c₂] (msg : Str) (σ : St F) :
    Comm2 (if c₁ then warn msg else pure ()) (if c₂ then warn msg else pure ()) σ := by
  have hw : warn msg (erase σ) = .ok () (erase σ) := warn_off msg Bool.false_ne_true
  have hl : (if c₁ then warn msg else pure ()) (erase σ) = .ok () (erase σ) := by
    by_cases h : c₁
    · rw [if_pos h]; exact hw
    · rw [if_neg h]; rfl
  show (if c₁ then warn msg else pure ()) (erase σ) = Res.mapSt erase ((if c₂ then warn msg else pure ()) σ)
  rw [hl]
  by_cases h : c₂
  · rw [if_pos h, ← comm_warn msg σ, hw]
  · rw [if_neg h]; rfl

theorem comm_evalN (n : Nat) : Comm (evalN (F := F) n).expr ∧ Comm (evalN (F := F) n).stmt :=
  commutes_evalN (N := eraseN) n

end Abasic.Hoare
