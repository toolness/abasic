import Abasic.Proofs.Turn
import Abasic.Proofs.TokenizerRel
/-
  Helper for C19 (and, for `digit_facts` / `cmd_none`, C15More): a line that begins with an ASCII digit (the only lines the
  page's program loader hands to `start_evaluating`) never leaves the core in a
  state other than Idle when the call succeeds: it is not a command word; if it
  has a line number the line is stored; if it has none (the digit run does not
  fit `u64`) its first token is a numeric literal, which no statement starts with,
  so the call fails.
-/
namespace Abasic.Proofs.LoadLine
open Abasic


theorem digit_cases (c : Char) (h : isAsciiDigit c = true) :
    c = '0' ∨ c = '1' ∨ c = '2' ∨ c = '3' ∨ c = '4' ∨ c = '5' ∨ c = '6' ∨ c = '7' ∨ c = '8' ∨ c = '9' := by
  have hb := (Props.C12.digit_bounds c).mp h
  have hc : c = Char.ofNat c.toNat := (Char.ofNat_toNat c).symm
  have : c.toNat = 48 ∨ c.toNat = 49 ∨ c.toNat = 50 ∨ c.toNat = 51 ∨ c.toNat = 52 ∨ c.toNat = 53 ∨
      c.toNat = 54 ∨ c.toNat = 55 ∨ c.toNat = 56 ∨ c.toNat = 57 := by omega
  rcases this with h | h | h | h | h | h | h | h | h | h <;> rw [h] at hc <;> simp [hc]

/-- no command word starts with a digit: each of the eight starts with a letter -/
theorem ofWord_digit (c : Char) (b : Str) (h : isAsciiDigit c = true) : Command.ofWord (c :: b) = none := by
  have hne : ∀ x : Char, isAsciiDigit x = false → ¬ c = x := fun x hx e => by rw [e, hx] at h; cases h
  simp [Command.ofWord, hne 'R' rfl, hne 'L' rfl, hne 'N' rfl, hne 'C' rfl, hne 'T' rfl, hne 'I' rfl, hne 'S' rfl]

theorem digit_facts (c : Char) (h : isAsciiDigit c = true) :
    isAsciiWs c = false ∧ isBasicWs c = false ∧ asciiUpper c = c ∧ (c == '"') = false ∧
    Extracted.oneChar.lookup c = none ∧ c.toNat < 128 := by
  rcases digit_cases c h with rfl | rfl | rfl | rfl | rfl | rfl | rfl | rfl | rfl | rfl <;> decide

theorem cmd_none (c : Char) (cs : Str) (h : isAsciiDigit c = true) :
    (commandWord (c :: cs)).bind Command.ofWord = none := by
  obtain ⟨hws, _, hup, _, _, hlt⟩ := digit_facts c h
  simp only [commandWord, skipAsciiWs, hws, Bool.false_eq_true, if_false, commandWordChars, hlt, if_true, hup]
  cases commandWordChars cs with
  | none => rfl
  | some b => exact ofWord_digit c b h

variable {F : Type} [NumOps F]

theorem run_num_errs (fuel : Nat) (s : St F) (x : F) (rest : List (Token F))
    (himm : s.imm = .num x :: rest) (hloc : s.loc = {}) :
    ∃ e s', runNextStatement fuel s = .err e s' := by
  have hl : ExprL.lineToks s = some (.num x :: rest) := by unfold ExprL.lineToks; rw [hloc, himm]
  have hAt : ExprL.At (Props.C17.turnStart s) [] (.num x :: rest) := ⟨hl, by show s.loc.idx = 0; rw [hloc]⟩
  rw [Turn.turn_tok fuel hl (t := .num x) (by rw [hloc]; rfl)]
  have hb : stmtBody (evalN fuel) (Props.C17.turnStart s) = .err { err := .syntax .unexpectedToken }
      (ExprL.mv (Props.C17.turnStart s) 1 ((Props.C17.turnStart s).reads + 1)) := by
    unfold stmtBody
    rw [ExprL.bind_ok (ExprL.traceHere_imm _ (by show s.loc.line = none; rw [hloc]))]
    unfold dispatch
    rw [ExprL.bind_ok (ExprL.next_eq hAt)]
    rfl
  exact ⟨_, _, ExprL.bind_err hb⟩

theorem nextToken_digit (c : Char) (cs : Str) (h : isAsciiDigit c = true) {t : Token F} {r : Str}
    (hn : nextToken (F := F) (c :: cs) = .tok t r) : ∃ x, t = .num x := by
  obtain ⟨_, hb, _, hq, hone, _⟩ := digit_facts c h
  have ha : isAsciiAlpha c = false := by
    cases ha : isAsciiAlpha c with
    | false => rfl
    | true => rw [Props.C12.alpha_not_digit ha] at h; cases h
  have hnum : (numLoop (c :: cs)).1 ≠ [] := by
    rw [Props.C12.numLoop_digit c (by rw [hb]; simp) (by rw [h]; rfl)]
    exact List.cons_ne_nil _ _
  cases nextTok_of hn with
  | kw k => rw [Props.C13.chompAnyKeyword_nonletter c cs hb ha] at k; cases k
  | op _ o =>
    obtain ⟨c', r0, k1, hs, hl, -⟩ := Props.C13.chompOneOrTwo_some o
    simp only [skipWs, hb, Bool.false_eq_true, if_false, List.cons.injEq] at hs
    rw [← hs.1, hone] at hl; cases hl
  | str _ _ e _ => rw [(List.cons.inj e).1] at hq; cases hq
  | num => exact ⟨_, rfl⟩
  | remark _ hn0 _ => exact absurd hn0 hnum
  | data _ hn0 _ _ => exact absurd hn0 hnum
  | symbol w _ _ => exact absurd w.num hnum

theorem tokenize_digit (c : Char) (cs : Str) (h : isAsciiDigit c = true) (ts : List (Token F))
    (ht : tokenize (F := F) (c :: cs) 0 = .ok ts) : ∃ x rest, ts = .num x :: rest := by
  have hb := (digit_facts c h).2.1
  cases (tokenize_iff_toks _ _).mp ht with
  | nil hs => simp [skipWs, hb] at hs
  | @cons _ c' r t r' ts' hs hn _ =>
    simp only [skipWs, hb, Bool.false_eq_true, if_false, List.cons.injEq] at hs
    obtain ⟨rfl, rfl⟩ := hs
    obtain ⟨x, rfl⟩ := nextToken_digit c cs h hn
    exact ⟨x, ts', rfl⟩

/-- A line beginning with an ASCII digit, evaluated from Idle: if the call succeeds the core is
    still Idle (the line was stored; nothing ran). -/
theorem start_digit_line_idle (fuel : Nat) (c : Char) (cs : Str) (hc : isAsciiDigit c = true)
    (σ σ' : St F) (a : Unit) (hi : σ.state = .idle)
    (h : startEvaluating fuel (c :: cs) σ = .ok a σ') : σ'.state = .idle := by
  have hcmd := cmd_none c cs hc
  cases hp : parseLineNumber (c :: cs) with
  | some nk => exact Props.C01.start_numbered_idle fuel (c :: cs) nk hp hi hcmd h
  | none =>
    cases ht : tokenize (F := F) (c :: cs) 0 with
    | error e => rw [Props.C01.start_tok_error fuel _ σ e hi hcmd (by rw [hp]; exact ht)] at h; cases h
    | ok ts =>
      obtain ⟨x, rest, hts⟩ := tokenize_digit c cs hc ts ht
      obtain ⟨e', s', hr⟩ := run_num_errs fuel ((σ.setImmediate []).setImmediate ts) x rest
        (by rw [hts]; rfl) rfl
      rw [Props.C01.start_immediate fuel _ ts σ hi hcmd hp ht, Props.C01.postprocess_of_err hr] at h
      cases h

end Abasic.Proofs.LoadLine
