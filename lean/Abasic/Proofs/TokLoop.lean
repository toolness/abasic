import Abasic.Props.C13
/-
  The tokenizer's main loop as a relation.

  `Lexed cs idx out e`: run on the text `cs` from byte `idx` on, `Tokenizer::next` in a loop yields the
  ranged tokens `out` and ends with `e`.  Every token comes with the cut `cs = ws ++ c :: m ++ rest`
  of the text (blanks, the lexeme, what is left) and every kind of error with the cut at the lexeme
  that caused it, so that the byte arithmetic of `tokLoop` is done here and nowhere else.
  `tokLoop_lexed`: every run of `tokLoop` is such a run; it gives up exactly when its budget equals
  the number of tokens.  `Lexed.tokLoop_eq`: a run that did not give up is what `tokLoop` computes
  with any budget above the number of tokens.  Facts about ranges, error positions and budgets are
  inductions over `Lexed`.

  `Toks cs ts` (in namespace `Props.C14`, whose theorems are stated with it) is the same without byte positions for a
  run that ends without error.
-/
namespace Abasic
open Abasic.Props.C13

variable {F : Type} [NumOps F]

inductive Lexed : Str → Nat → List (RangedToken F) → Option TokErr → Prop
  | done {cs : Str} {idx : Nat} : skipWs cs = [] → Lexed cs idx [] none
  | gaveUp {cs : Str} {idx : Nat} : Lexed cs idx [] (some .outOfFuel)
  | tok {cs ws : Str} {c : Char} {m rest : Str} {idx : Nat} {t : Token F} {out : List (RangedToken F)}
      {e : Option TokErr} : cs = ws ++ c :: (m ++ rest) → (∀ x ∈ ws, isBasicWs x = true) →
      isBasicWs c = false → nextToken (F := F) (c :: (m ++ rest)) = .tok t rest →
      Lexed rest (idx + len8 ws + len8 (c :: m)) out e →
      Lexed cs idx ((t, idx + len8 ws, idx + len8 ws + len8 (c :: m)) :: out) e
  | illegal {cs ws : Str} {c : Char} {r : Str} {idx : Nat} : cs = ws ++ c :: r →
      (∀ x ∈ ws, isBasicWs x = true) → isBasicWs c = false → nextToken (F := F) (c :: r) = .illegalChar →
      Lexed cs idx [] (some (.illegalChar (idx + len8 ws)))
  | unterminated {cs ws : Str} {c : Char} {r : Str} {idx : Nat} : cs = ws ++ c :: r →
      (∀ x ∈ ws, isBasicWs x = true) → isBasicWs c = false → nextToken (F := F) (c :: r) = .unterminated →
      Lexed cs idx [] (some (.unterminated (idx + len8 ws)))
  | invalid {cs ws : Str} {c : Char} {m r : Str} {idx : Nat} : cs = ws ++ c :: (m ++ r) →
      (∀ x ∈ ws, isBasicWs x = true) → isBasicWs c = false →
      nextToken (F := F) (c :: (m ++ r)) = .invalidNumber r →
      Lexed cs idx [] (some (.invalidNumber (idx + len8 ws) (idx + len8 ws + len8 (c :: m))))

theorem tokLoop_cut (fuel : Nat) (ws : Str) (c : Char) (r : Str) (idx : Nat) (acc : List (RangedToken F))
    (hws : ∀ x ∈ ws, isBasicWs x = true) (hc : isBasicWs c = false) :
    tokLoop (fuel + 1) (ws ++ c :: r) idx acc =
      match nextToken (F := F) (c :: r) with
      | .tok t r' =>
        tokLoop fuel r' (idx + len8 ws + (len8 (c :: r) - len8 r'))
          ((t, idx + len8 ws, idx + len8 ws + (len8 (c :: r) - len8 r')) :: acc)
      | .illegalChar => (acc.reverse, some (.illegalChar (idx + len8 ws)))
      | .unterminated => (acc.reverse, some (.unterminated (idx + len8 ws)))
      | .invalidNumber r' =>
        (acc.reverse, some (.invalidNumber (idx + len8 ws) (idx + len8 ws + (len8 (c :: r) - len8 r')))) := by
  conv => lhs; unfold tokLoop; simp only [skipWs_blanks ws hws c hc]
  have : len8 (ws ++ c :: r) - len8 (c :: r) = len8 ws := by rw [len8_append]; omega
  rw [this]
  cases nextToken (F := F) (c :: r) <;> rfl

theorem len8_lexeme (c : Char) (m r : Str) : len8 (c :: (m ++ r)) - len8 r = len8 (c :: m) := by
  rw [← List.cons_append, len8_append]; omega

theorem tokLoop_lexed (fuel : Nat) (cs : Str) (idx : Nat) (acc : List (RangedToken F)) :
    ∃ out e, tokLoop fuel cs idx acc = (acc.reverse ++ out, e) ∧ Lexed cs idx out e ∧
      (e = some .outOfFuel ↔ out.length = fuel) ∧ out.length ≤ fuel := by
  induction fuel generalizing cs idx acc with
  | zero => exact ⟨[], _, by simp [tokLoop], .gaveUp, by simp, Nat.le_refl _⟩
  | succ fuel ih =>
    cases hs : skipWs cs with
    | nil => exact ⟨[], none, by unfold tokLoop; simp [hs], .done hs, by simp, Nat.zero_le _⟩
    | cons c r0 =>
      obtain ⟨ws, rfl, hws, hc⟩ := skipWs_eq_cons hs
      rw [tokLoop_cut fuel ws c r0 idx acc hws hc]
      cases hn : nextToken (F := F) (c :: r0) with
      | tok t rest =>
        obtain ⟨m, rfl⟩ := lexeme_of_consumes (nextToken_cases_consumes (c :: r0) t rest hn)
        dsimp only
        rw [len8_lexeme]
        obtain ⟨out, e, h1, h2, h3, h4⟩ := ih rest (idx + len8 ws + len8 (c :: m))
          ((t, idx + len8 ws, idx + len8 ws + len8 (c :: m)) :: acc)
        exact ⟨_ :: out, e, by rw [h1]; simp, .tok rfl hws hc hn h2, by simpa using h3, by simpa using h4⟩
      | illegalChar => exact ⟨[], _, by simp, .illegal rfl hws hc hn, by simp, Nat.zero_le _⟩
      | unterminated => exact ⟨[], _, by simp, .unterminated rfl hws hc hn, by simp, Nat.zero_le _⟩
      | invalidNumber r' =>
        obtain ⟨m, rfl⟩ := lexeme_of_consumes (nextToken_invalid_consumes (F := F) (c :: r0) r' hn)
        dsimp only
        rw [len8_lexeme]
        exact ⟨[], _, by simp, .invalid rfl hws hc hn, by simp, Nat.zero_le _⟩

theorem tokLoop_lexed' (fuel : Nat) (cs : Str) (idx : Nat) (acc : List (RangedToken F)) :
    ∃ out, (tokLoop fuel cs idx acc).1 = acc.reverse ++ out ∧ Lexed cs idx out (tokLoop fuel cs idx acc).2 :=
  let ⟨out, _, h, hl, _⟩ := tokLoop_lexed fuel cs idx acc
  ⟨out, by rw [h], by rw [h]; exact hl⟩

namespace Lexed

variable {cs : Str} {idx : Nat} {out : List (RangedToken F)} {e : Option TokErr}

theorem tokLoop_eq (h : Lexed cs idx out e) (he : e ≠ some .outOfFuel) :
    ∀ (fuel : Nat) (acc : List (RangedToken F)), out.length < fuel →
      tokLoop fuel cs idx acc = (acc.reverse ++ out, e) := by
  induction h with
  | done hs =>
    intro fuel acc hf
    obtain ⟨f, rfl⟩ : ∃ f, fuel = f + 1 := ⟨fuel - 1, by omega⟩
    unfold tokLoop; simp [hs]
  | gaveUp => exact absurd rfl he
  | @tok cs ws c m rest idx t out e hcs hws hc hn _ ih =>
    intro fuel acc hf
    obtain ⟨f, rfl⟩ : ∃ f, fuel = f + 1 := ⟨fuel - 1, by omega⟩
    rw [hcs, tokLoop_cut f ws c _ idx acc hws hc, hn]
    dsimp only
    rw [len8_lexeme, ih he f _ (by simpa using hf)]
    simp
  | illegal hcs hws hc hn =>
    intro fuel acc hf
    obtain ⟨f, rfl⟩ : ∃ f, fuel = f + 1 := ⟨fuel - 1, by omega⟩
    rw [hcs, tokLoop_cut f _ _ _ _ acc hws hc, hn, List.append_nil]
  | unterminated hcs hws hc hn =>
    intro fuel acc hf
    obtain ⟨f, rfl⟩ : ∃ f, fuel = f + 1 := ⟨fuel - 1, by omega⟩
    rw [hcs, tokLoop_cut f _ _ _ _ acc hws hc, hn, List.append_nil]
  | @invalid cs ws c m r idx hcs hws hc hn =>
    intro fuel acc hf
    obtain ⟨f, rfl⟩ : ∃ f, fuel = f + 1 := ⟨fuel - 1, by omega⟩
    rw [hcs, tokLoop_cut f ws c _ idx acc hws hc, hn]
    dsimp only
    rw [len8_lexeme, List.append_nil]

/-- every token takes at least one character -/
theorem length_le (h : Lexed cs idx out e) : out.length ≤ cs.length := by
  induction h with
  | tok hcs _ _ _ _ ih => rw [hcs]; simp only [List.length_cons, List.length_append]; omega
  | _ => exact Nat.zero_le _

theorem unterminated_le {i : Nat} (h : Lexed cs idx out (some (.unterminated i))) :
    cs ≠ [] ∧ i ≤ idx + len8 cs := by
  generalize he : some (TokErr.unterminated i) = e' at h
  induction h with
  | tok hcs _ _ _ _ ih =>
    have := (ih he).2
    rw [hcs, len8_append, ← List.cons_append, len8_append]
    exact ⟨by simp, by omega⟩
  | unterminated hcs _ _ _ => cases he; rw [hcs, len8_append]; exact ⟨by simp, by omega⟩
  | _ => cases he

theorem mem (h : Lexed cs idx out e) : ∀ t a b, (t, a, b) ∈ out → ∃ p c m rest, cs = p ++ c :: m ++ rest ∧
    a = idx + len8 p ∧ b = a + len8 (c :: m) ∧ isBasicWs c = false ∧
    nextToken (F := F) (c :: m ++ rest) = .tok t rest := by
  induction h with
  | @tok cs ws c m rest idx t out e hcs _ hc hn _ ih =>
    intro t' a b hmem
    rcases List.mem_cons.mp hmem with heq | hmem
    · obtain ⟨rfl, rfl, rfl⟩ := Prod.mk.inj heq |>.imp_right Prod.mk.inj
      exact ⟨ws, c, m, rest, by simp [hcs], rfl, rfl, hc, hn⟩
    · obtain ⟨p, c', m', rest', rfl, rfl, rfl, hc', hn'⟩ := ih t' a b hmem
      exact ⟨ws ++ c :: m ++ p, c', m', rest', by simp [hcs],
        by simp only [len8, len8_append]; omega, rfl, hc', hn'⟩
  | _ => intro _ _ _ h; cases h

end Lexed

theorem tokLoop_lexed_of_lt {fuel : Nat} {cs : Str} (hf : cs.length < fuel) (idx : Nat)
    (acc : List (RangedToken F)) :
    ∃ out e, tokLoop fuel cs idx acc = (acc.reverse ++ out, e) ∧ Lexed cs idx out e ∧
      e ≠ some .outOfFuel ∧ out.length ≤ cs.length := by
  obtain ⟨out, e, h, hl, hfu, _⟩ := tokLoop_lexed fuel cs idx acc
  have hlen := hl.length_le
  exact ⟨out, e, h, hl, fun he => by have := hfu.mp he; omega, hlen⟩

/-- `Tokenizer::new(line).skip_bytes(skip)` run to the end is a `Lexed` run of the text behind the
    skipped bytes that did not give up. -/
theorem tokenizeRanges_lexed (line : Str) (skip : Nat) :
    Lexed (dropBytes skip line) skip (tokenizeRanges (F := F) line skip).1 (tokenizeRanges (F := F) line skip).2 ∧
      (tokenizeRanges (F := F) line skip).2 ≠ some .outOfFuel := by
  unfold tokenizeRanges
  obtain ⟨out, e, h, hl, he, _⟩ := tokLoop_lexed_of_lt (F := F) (Nat.lt_succ_self (dropBytes skip line).length) skip []
  simp only [h, List.reverse_nil, List.nil_append]
  exact ⟨hl, he⟩

end Abasic

namespace Abasic.Props.C14
open Abasic Abasic.Props.C13

variable {F : Type} [NumOps F]

/-- `Toks cs ts`: the main loop, started on `cs`, ends without error with the tokens `ts`. -/
inductive Toks : Str → List (Token F) → Prop
  | nil {cs : Str} : skipWs cs = [] → Toks cs []
  | cons {cs : Str} {c : Char} {r : Str} {t : Token F} {r' : Str} {ts : List (Token F)} :
      skipWs cs = c :: r → nextToken (F := F) (c :: r) = .tok t r' → Toks r' ts → Toks cs (t :: ts)

theorem _root_.Abasic.Lexed.toks {cs : Str} {idx : Nat} {out : List (RangedToken F)}
    (h : Lexed cs idx out none) : Toks cs (out.map (·.1)) := by
  generalize he : (none : Option TokErr) = e at h
  induction h with
  | done hs => exact .nil hs
  | tok hcs hws hc hn _ ih => exact .cons (hcs ▸ skipWs_blanks _ hws _ hc _) hn (ih he)
  | _ => cases he

theorem Toks.lexed {cs : Str} {ts : List (Token F)} (h : Toks cs ts) (idx : Nat) :
    ∃ out, Lexed cs idx out none ∧ out.map (·.1) = ts := by
  induction h generalizing idx with
  | nil hs => exact ⟨[], .done hs, rfl⟩
  | @cons cs c r t r' ts hs hn _ ih =>
    obtain ⟨ws, rfl, hws, hc⟩ := skipWs_eq_cons hs
    obtain ⟨m, rfl⟩ := lexeme_of_consumes (nextToken_cases_consumes (c :: r) t r' hn)
    obtain ⟨out, h1, h2⟩ := ih (idx + len8 ws + len8 (c :: m))
    exact ⟨_ :: out, .tok rfl hws hc hn h1, by rw [List.map_cons, h2]⟩

theorem Toks.length_le {cs : Str} {ts : List (Token F)} (h : Toks cs ts) : ts.length ≤ cs.length := by
  obtain ⟨out, h1, rfl⟩ := h.lexed 0
  simpa using h1.length_le

end Abasic.Props.C14

namespace Abasic
open Abasic.Props.C14 (Toks)

variable {F : Type} [NumOps F]

/-- What `remaining_tokens` returns, without budget and byte positions. -/
theorem tokenize_skip_iff_toks (line : Str) (skip : Nat) (ts : List (Token F)) :
    tokenize (F := F) line skip = .ok ts ↔ Toks (dropBytes skip line) ts := by
  constructor
  · intro h
    obtain ⟨hl, -⟩ := tokenizeRanges_lexed (F := F) line skip
    unfold tokenize at h
    generalize tokenizeRanges (F := F) line skip = p at hl h
    obtain ⟨out, e⟩ := p
    cases e with
    | some e => cases h
    | none => cases h; exact hl.toks
  · intro ht
    obtain ⟨out, h1, h2⟩ := ht.lexed skip
    have hlen := h1.length_le
    unfold tokenize tokenizeRanges
    simp only [h1.tokLoop_eq (by simp) (dropBytes skip line).length.succ [] (by omega), List.reverse_nil,
      List.nil_append, h2]

theorem tokenize_iff_toks (line : Str) (ts : List (Token F)) :
    tokenize (F := F) line 0 = .ok ts ↔ Toks line ts := by
  rw [tokenize_skip_iff_toks, Props.C12.dropBytes_zero]

end Abasic
