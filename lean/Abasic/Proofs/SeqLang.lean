import Abasic.Proofs.StmtSteps
import Abasic.Ref.Stmt2
/-
  Numbered lines of statements of ANY type, once for the four program types of Ref/Prog*.lean.

  A `Lang` is the rendering of a statement together with the four recursive functions every one of those
  program types has for its own statement type — the line with a given number, the tokens of a line, of a
  line's tail (Ref/Prog*.lean), of what stands in front of statement `j` (`preToks*`, beside its `lang`) —
  given by their equations.  For `RProgram F`, `RProgram2 F`, `RProgram3 F`, `RProgramI F` each equation
  holds by `rfl`, `pre_zero` after a case split (`ProgL.lang`, `Prog2L.lang`, `Prog3L.lang`, `Prog3I.lang`),
  so a fact proved here for `L.line`, `L.rline`, … IS the fact about
  `RProgram2.line`, `renderLine2`, …: each level restates it under its own names by applying it, without
  rewriting.  The store predicate is a structure of its own at each level (`Holds`, `HoldsI`), carried to
  `SeqL.Holds` by `Holds.seq` / `HoldsI.seq` and back by `holds_of_seq`.
-/

namespace Abasic.Stmt3L
open Abasic Abasic.StmtL

variable {F : Type}

def LineEnd3 (rest : List (Token F)) : Prop :=
  rest = [] ∨ ∃ t ts, rest = .kw .Colon :: t :: ts ∧ t.isKw .Else = false

theorem LineEnd3.lineEnd {rest : List (Token F)} (h : LineEnd3 rest) : LineEnd rest := by
  rcases h with rfl | ⟨t, ts, rfl, _⟩
  · intro t ht; cases ht
  · intro t' ht'
    simp only [List.head?_cons, Option.some.injEq] at ht'
    exact ht'.symm

end Abasic.Stmt3L

namespace Abasic.SeqL
open Abasic Abasic.Ref Abasic.ExprL Abasic.StmtL Abasic.Stmt3L M

variable {F : Type} {S : Type}

abbrev Prog (S : Type) := List (Nat × List S)

structure Lang (F S : Type) where
  render : S → List (Token F)
  line : Prog S → Nat → Option (List S)
  /-- `: s₁ : s₂ …` -/
  tail : List S → List (Token F)
  /-- `s₀ : s₁ : s₂ …` -/
  rline : List S → List (Token F)
  /-- the tokens in front of statement `j` of a line -/
  pre : List S → Nat → List (Token F)
  line_nil : ∀ n, line [] n = none
  line_cons : ∀ k ss rest n, line ((k, ss) :: rest) n = if k == n then some ss else line rest n
  tail_nil : tail [] = []
  tail_cons : ∀ s rest, tail (s :: rest) = .kw .Colon :: (render s ++ tail rest)
  rline_nil : rline [] = []
  rline_cons : ∀ s rest, rline (s :: rest) = render s ++ tail rest
  pre_zero : ∀ ss, pre ss 0 = []
  pre_nil : ∀ j, pre [] (j + 1) = []
  pre_cons : ∀ s rest j, pre (s :: rest) (j + 1) = render s ++ .kw .Colon :: pre rest j
  head : ∀ s, ∃ t ts, render s = t :: ts ∧ t.isKw .Else = false ∧ t.isKw .Colon = false

variable {L : Lang F S}

def hasLine (L : Lang F S) (p : Prog S) (n : Nat) : Bool := (L.line p n).isSome

def after (p : Prog S) (n : Nat) : Option Nat := (p.map (·.1)).find? (fun k => decide (n < k))

def first (p : Prog S) : Option Nat := (p.head?).map (·.1)

def resume (L : Lang F S) (p : Prog S) (n j : Nat) : Option (Nat × Nat) :=
  match L.line p n with
  | some ss => if j < ss.length then some (n, j) else (after p n).map fun m => (m, 0)
  | none => (after p n).map fun m => (m, 0)

structure WF (p : Prog S) : Prop where
  ascending : (p.map (·.1)).Pairwise (· < ·)
  nonempty : ∀ l ∈ p, l.2 ≠ []

theorem line_mem {p : Prog S} {n : Nat} {ss : List S} (h : L.line p n = some ss) : (n, ss) ∈ p := by
  induction p with
  | nil => simp [L.line_nil] at h
  | cons l rest ih =>
    obtain ⟨k, ss'⟩ := l
    simp only [L.line_cons] at h
    by_cases hk : (k == n) = true
    · simp only [hk, ↓reduceIte, Option.some.injEq] at h
      have : k = n := by simpa using hk
      subst this; subst h
      exact List.mem_cons_self
    · simp only [hk, Bool.false_eq_true, ↓reduceIte] at h
      exact List.mem_cons_of_mem _ (ih h)

theorem mem_line {p : Prog S} {n : Nat} (h : n ∈ p.map (·.1)) : ∃ ss, L.line p n = some ss := by
  induction p with
  | nil => simp at h
  | cons l rest ih =>
    obtain ⟨k, ss'⟩ := l
    simp only [L.line_cons]
    by_cases hk : (k == n) = true
    · exact ⟨ss', by simp only [hk, ↓reduceIte]⟩
    · simp only [hk, Bool.false_eq_true, ↓reduceIte]
      apply ih
      simp only [List.map_cons, List.mem_cons] at h
      rcases h with h | h
      · exact absurd (by simpa using h.symm) hk
      · exact h

theorem after_line {p : Prog S} {n m : Nat} (h : after p n = some m) : ∃ ss, L.line p m = some ss :=
  mem_line (List.mem_of_find?_eq_some h)

theorem first_line {p : Prog S} {n : Nat} (h : first p = some n) : ∃ ss, L.line p n = some ss := by
  apply mem_line
  unfold first at h
  cases p with
  | nil => simp at h
  | cons l rest =>
    simp only [List.head?_cons, Option.map_some, Option.some.injEq] at h
    simp [h]

theorem hasLine_line {p : Prog S} {m : Nat} (h : hasLine L p m = true) : ∃ ss, L.line p m = some ss := by
  unfold hasLine at h
  cases hx : L.line p m with
  | none => rw [hx] at h; cases h
  | some ss => exact ⟨ss, rfl⟩

theorem line_nonempty {p : Prog S} (hwf : WF p) {n : Nat} {ss : List S} (h : L.line p n = some ss) :
    0 < ss.length := by
  have := hwf.nonempty _ (line_mem h)
  cases ss with
  | nil => exact absurd rfl this
  | cons _ _ => simp

theorem resume_lt {p : Prog S} {n k : Nat} {ss : List S} (hl : L.line p n = some ss) (hk : k < ss.length) :
    resume L p n k = some (n, k) := by
  simp only [resume, hl, hk, ↓reduceIte]

theorem resume_ge {p : Prog S} {n k : Nat} {ss : List S} (hl : L.line p n = some ss) (hk : ¬ k < ss.length) :
    resume L p n k = (after p n).map fun m => (m, 0) := by
  simp only [resume, hl, hk, ↓reduceIte]

/-! ### sequencing

  Every reference machine of Ref/Prog*.lean runs the `exec` of the statement at the program counter `(n, j)`
  and sends its `Ctl2` through this function (`Prog2L.rstep_seq`, …). -/

def seq (L : Lang F S) (p : Prog S) (n j : Nat) : Ctl2 → Option (Nat × Nat) ⊕ (Err × Nat)
  | .next => .inl (resume L p n (j + 1))
  | .skipLine => .inl ((after p n).map fun m => (m, 0))
  | .jump m => if hasLine L p m then .inl (some (m, 0)) else .inr (.undefinedStatement, n)
  | .stop => .inl none
  | .resume m k => .inl (resume L p m k)
  | .error e => .inr (e, n)
  | .errorAt e ln => .inr (e, ln)

inductive PcAfter (L : Lang F S) (p : Prog S) (n j : Nat) : Ctl2 → Option (Nat × Nat) → Prop
  | next : PcAfter L p n j .next (resume L p n (j + 1))
  | skipLine : PcAfter L p n j .skipLine ((after p n).map fun m => (m, 0))
  | jump {m : Nat} : hasLine L p m = true → PcAfter L p n j (.jump m) (some (m, 0))
  | stop : PcAfter L p n j .stop none
  | resume {m k : Nat} : PcAfter L p n j (.resume m k) (resume L p m k)

theorem seq_inl {p : Prog S} {n j : Nat} {c : Ctl2} {X : Option (Nat × Nat)} (h : seq L p n j c = .inl X) :
    PcAfter L p n j c X := by
  cases c with
  | jump m =>
    have h' : (if hasLine L p m then .inl (some (m, 0)) else .inr (Err.undefinedStatement, n)) = Sum.inl X := h
    split at h'
    next hh => cases h'; exact .jump hh
    · cases h'
  | error e => cases h
  | errorAt e ln => cases h
  | _ => cases h; constructor

theorem seq_inr {p : Prog S} {n j : Nat} {c : Ctl2} {e : Err} {ln : Nat} (h : seq L p n j c = .inr (e, ln)) :
    (c = .error e ∧ ln = n) ∨ c = .errorAt e ln ∨
      ∃ m, c = .jump m ∧ hasLine L p m = false ∧ e = .undefinedStatement ∧ ln = n := by
  cases c with
  | jump m =>
    have h' : (if hasLine L p m then .inl (some (m, 0)) else .inr (Err.undefinedStatement, n)) = Sum.inr (e, ln) := h
    split at h'
    · cases h'
    next hh => cases h'; exact .inr (.inr ⟨m, rfl, by simpa using hh, rfl, rfl⟩)
  | error e' => cases h; exact .inl ⟨rfl, rfl⟩
  | errorAt e' ln' => cases h; exact .inr (.inl rfl)
  | _ => cases h

section render
variable (L : Lang F S)

structure Holds (l : Lines F) (p : Prog S) : Prop where
  get : ∀ n, l.get n = (L.line p n).map (L.rline)
  sorted : l.sorted = p.map (·.1)

/-- the reference position `(n, j)` against the model location right behind statement `j - 1` of line `n` -/
def Addr (p : Prog S) (n j : Nat) (loc : Loc) : Prop :=
  ∃ ss j0 s, L.line p n = some ss ∧ j = j0 + 1 ∧ ss[j0]? = some s ∧
    loc = { line := some n, idx := (L.pre ss j0).length + (L.render s).length }

end render

theorem line_split : ∀ (ss : List S) (j : Nat) (s : S), ss[j]? = some s →
    L.rline ss = L.pre ss j ++ (L.render s ++ L.tail (ss.drop (j + 1)))
  | [], j, s, h => by simp at h
  | a :: rest, 0, s, h => by
    simp only [List.getElem?_cons_zero, Option.some.injEq] at h
    subst h
    simp only [L.pre_zero, List.nil_append, L.rline_cons, Nat.zero_add, List.drop_succ_cons, List.drop_zero]
  | a :: rest, j + 1, s, h => by
    simp only [List.getElem?_cons_succ] at h
    have ih := line_split rest j s h
    cases rest with
    | nil => simp at h
    | cons b rest' =>
      simp only [L.rline_cons, L.pre_cons, L.tail_cons, List.drop_succ_cons, List.append_assoc, List.cons_append] at ih ⊢
      rw [← ih]

theorem pre_succ : ∀ (ss : List S) (j : Nat) (s : S), ss[j]? = some s → j + 1 < ss.length →
    L.pre ss (j + 1) = L.pre ss j ++ L.render s ++ [.kw .Colon]
  | [], j, s, h, _ => by simp at h
  | a :: rest, 0, s, h, _ => by
    simp only [List.getElem?_cons_zero, Option.some.injEq] at h
    subst h
    simp only [L.pre_cons, L.pre_zero, List.nil_append]
  | a :: rest, j + 1, s, h, hl => by
    simp only [List.getElem?_cons_succ] at h
    have ih := pre_succ rest j s h (by simpa using hl)
    simp only [L.pre_cons, ih, List.append_assoc, List.cons_append]

theorem drop_tail_nil {ss : List S} {j : Nat} (h : ¬ j + 1 < ss.length) : L.tail (ss.drop (j + 1)) = [] := by
  rw [List.drop_eq_nil_of_le (by omega), L.tail_nil]

theorem drop_tail_cons {ss : List S} {j : Nat} (h : j + 1 < ss.length) :
    ∃ s' post, ss[j + 1]? = some s' ∧ L.tail (ss.drop (j + 1)) = .kw .Colon :: (L.render s' ++ post) := by
  have : ss.drop (j + 1) = ss[j + 1] :: ss.drop (j + 1 + 1) := List.drop_eq_getElem_cons h
  refine ⟨ss[j + 1], L.tail (ss.drop (j + 1 + 1)), by simp [h], ?_⟩
  rw [this, L.tail_cons]

theorem tail_lineEnd3 (ss : List S) (j0 : Nat) : LineEnd3 (L.tail (ss.drop (j0 + 1))) := by
  by_cases hj : j0 + 1 < ss.length
  · obtain ⟨s', post, _, htl⟩ := drop_tail_cons (L := L) hj
    obtain ⟨t, ts, hhead, hne, _⟩ := L.head s'
    right
    exact ⟨t, ts ++ post, by rw [htl, hhead]; rfl, hne⟩
  · left
    exact drop_tail_nil hj

theorem line_head {p : Prog S} (hwf : WF p) {n : Nat} {ss : List S} (h : L.line p n = some ss) :
    ∃ t ts, L.rline ss = t :: ts ∧ t.isKw .Else = false := by
  have := hwf.nonempty _ (line_mem h)
  cases ss with
  | nil => exact absurd rfl this
  | cons a rest =>
    obtain ⟨t, ts, hk, hne, _⟩ := L.head a
    exact ⟨t, ts ++ L.tail rest, by rw [L.rline_cons, hk]; rfl, hne⟩

theorem holds_has {l : Lines F} {p : Prog S} (h : Holds L l p) (n : Nat) : l.has n = hasLine L p n := by
  unfold Lines.has hasLine
  rw [h.get]
  cases L.line p n <;> rfl

theorem holds_after {l : Lines F} {p : Prog S} (h : Holds L l p) (n : Nat) : l.after n = after p n := by
  unfold Lines.after after
  rw [h.sorted]
  exact Lines.afterList_find n _

theorem holds_first {l : Lines F} {p : Prog S} (h : Holds L l p) : l.first = first p := by
  unfold Lines.first first
  rw [h.sorted]
  cases p <;> rfl

theorem noElse {p : Prog S} (hwf : WF p) {σ : St F} (h : Holds L σ.lines p) :
    NoElseLine σ := by
  intro n ts hg t ht
  rw [h.get] at hg
  cases hl : L.line p n with
  | none => rw [hl] at hg; cases hg
  | some ss =>
    rw [hl] at hg
    simp only [Option.map_some, Option.some.injEq] at hg
    obtain ⟨t', ts', hk, hne⟩ := line_head hwf hl
    rw [← hg, hk] at ht
    simp only [List.head?_cons, Option.some.injEq] at ht
    subst ht
    exact hne

theorem lineToks_of {p : Prog S} {σ : St F} (hh : Holds L σ.lines p) {n : Nat} {ss : List S}
    (hl : L.line p n = some ss) (hline : σ.loc.line = some n) : lineToks σ = some (L.rline ss) := by
  unfold lineToks
  rw [hline]
  show σ.lines.get n = _
  rw [hh.get, hl]
  rfl

def compile (L : Lang F S) (p : Prog S) : Lines F :=
  { map := p.map fun l => (l.1, L.rline l.2), sorted := p.map (·.1) }

theorem compile_get (p : Prog S) (n : Nat) : (compile L p).get n = (L.line p n).map (L.rline) := by
  unfold Lines.get compile
  induction p with
  | nil => rw [L.line_nil]; rfl
  | cons l rest ih =>
    obtain ⟨k, ss⟩ := l
    simp only [List.map_cons, Lines.getMap, L.line_cons]
    by_cases h : (k == n) = true
    · simp only [h, ↓reduceIte, Option.map_some]
    · simp only [h, Bool.false_eq_true, ↓reduceIte]
      exact ih

theorem holds_compile (p : Prog S) : Holds L (compile L p) p := ⟨compile_get p, rfl⟩

theorem mem_keys_iff (p : Prog S) (n : Nat) : n ∈ p.map (·.1) ↔ (L.line p n).isSome = true := by
  constructor
  · intro h
    obtain ⟨ss, hss⟩ := mem_line h
    rw [hss]; rfl
  · intro h
    cases hl : L.line p n with
    | none => rw [hl] at h; cases h
    | some ss => exact List.mem_map.mpr ⟨(n, ss), line_mem hl, rfl⟩

theorem holds_of_wf {l : Lines F} {p : Prog S} (hl : Props.C04.WF l) (hp : WF p)
    (hget : ∀ n, l.get n = (L.line p n).map (L.rline)) : Holds L l p := by
  refine ⟨hget, Lines.sorted_ext _ _ hl.sorted hp.ascending fun n => ?_⟩
  rw [hl.agree n, hget n, mem_keys_iff]
  cases L.line p n <;> rfl

theorem rline_ne_nil {ss : List S} (h : ss ≠ []) : (L.rline ss).isEmpty = false := by
  cases ss with
  | nil => exact absurd rfl h
  | cons a rest =>
    obtain ⟨t, ts, hk, _, _⟩ := L.head a
    rw [L.rline_cons, hk]; rfl

theorem line_none_of_lt {p : Prog S} {a : Nat} (h : ∀ k ∈ p.map (·.1), a < k) : L.line p a = none := by
  cases hl : L.line p a with
  | none => rfl
  | some ss =>
    have := h a (List.mem_map.mpr ⟨(a, ss), line_mem hl, rfl⟩)
    omega

/-- entering the lines of an ascending program one after the other, as a finite map -/
theorem load_spec : ∀ (p : Prog S) (m : Props.C04.Spec F),
    (p.map (·.1)).Pairwise (· < ·) → (∀ l ∈ p, l.2 ≠ []) →
    (p.map fun e => (e.1, L.rline e.2)).foldl (fun m e => Props.C04.Spec.edit m e.1 e.2) m =
      fun k => match L.line p k with | some ss => some (L.rline ss) | none => m k
  | [], m, _, _ => by simp only [L.line_nil]; rfl
  | (a, ss) :: rest, m, hasc, hne => by
    have hasc' : (∀ k ∈ rest.map (·.1), a < k) ∧ (rest.map (·.1)).Pairwise (· < ·) :=
      List.pairwise_cons.mp hasc
    simp only [List.map_cons, List.foldl_cons]
    rw [load_spec rest _ hasc'.2 (fun l hl => hne l (List.mem_cons_of_mem _ hl))]
    funext k
    simp only [L.line_cons]
    by_cases hk : (a == k) = true
    · have : a = k := by simpa using hk
      subst this
      rw [line_none_of_lt hasc'.1]
      simp only [hk, ↓reduceIte, Props.C04.Spec.edit,
        rline_ne_nil (hne (a, ss) List.mem_cons_self), Bool.false_eq_true]
    · simp only [hk, Bool.false_eq_true, ↓reduceIte]
      cases L.line rest k with
      | some ss' => rfl
      | none =>
        have : ¬ k = a := fun h => hk (by simp [h])
        simp only [Props.C04.Spec.edit, this, ↓reduceIte]

/-- The lines of `p` typed in: in program order, into an empty store, with `Lines.set` as `evaluateImpl` does
    for a numbered line. -/
theorem holds_load (p : Prog S) (hp : WF p) :
    Holds L ((p.map fun e => (e.1, L.rline e.2)).foldl (fun l e => l.set e.1 e.2) ({} : Lines F)) p := by
  refine holds_of_wf (Props.C04.wf_reachable _) hp fun n => ?_
  have := congrFun (Props.C04.store_refines (p.map fun e => (e.1, L.rline e.2)) ({} : Lines F)) n
  rw [this, load_spec p _ hp.ascending hp.nonempty]
  show (match L.line p n with | some ss => some (L.rline ss) | none => _) = _
  cases L.line p n <;> rfl

theorem line_of_mem {p : Prog S} (hasc : (p.map (·.1)).Pairwise (· < ·)) : ∀ l ∈ p, L.line p l.1 = some l.2 := by
  induction p with
  | nil => intro l hl; cases hl
  | cons a rest ih =>
    obtain ⟨k, ss⟩ := a
    simp only [List.map_cons, List.pairwise_cons] at hasc
    intro l hl
    rcases List.mem_cons.mp hl with rfl | hl
    · simp only [L.line_cons, beq_self_eq_true, ↓reduceIte]
    · have hlt : k < l.1 := hasc.1 l.1 (List.mem_map.mpr ⟨l, hl, rfl⟩)
      have hne : (k == l.1) = false := by simp only [beq_eq_false_iff_ne, ne_eq]; omega
      simp only [L.line_cons, hne, Bool.false_eq_true, ↓reduceIte]
      exact ih hasc.2 l hl

theorem listTokens_sub {l : Lines F} {p : Prog S} (h : Holds L l p) :
    ∀ q : Prog S, (∀ e ∈ q, L.line p e.1 = some e.2) →
      (q.map (·.1)).mapM (fun n => (l.get n).map (fun ts => (n, ts))) =
        some (q.map fun e => (e.1, L.rline e.2)) := by
  intro q
  induction q with
  | nil => intro _; rfl
  | cons a rest ih =>
    intro hq
    have ha := hq a List.mem_cons_self
    have hr := ih (fun e he => hq e (List.mem_cons_of_mem _ he))
    rw [List.map_cons, List.mapM_cons, hr, h.get, ha]
    rfl

theorem holds_listTokens {l : Lines F} {p : Prog S} (h : Holds L l p) (hwf : WF p) :
    l.listTokens = some (p.map fun e => (e.1, L.rline e.2)) := by
  unfold Lines.listTokens
  rw [h.sorted]
  exact listTokens_sub h p (line_of_mem hwf.ascending)

end Abasic.SeqL
