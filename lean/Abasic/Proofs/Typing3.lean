import Abasic.Proofs.Typing2Fold
import Abasic.Proofs.TypeOf3
import Abasic.Props.C03All
/-
  C06 for the whole statement language `RStmt3` (DEF included, expressions of
  the full language `Expr2`): the spec side, and its transfer to the interpreter.
  The check itself is defined in Proofs/TypeOf3.lean.  On the reference semantics a checked statement
  keeps the invariant `TInv3` (which says nothing about functions) and fails only at run time
  (`exec3_typed`); so does a checked program under the side condition `DefsAgree` on its definitions
  (`rsteps3_typed`), and `C03.run3_refines` carries this to the interpreter (`sound_program3`).
-/
set_option linter.unusedSectionVars false

namespace Abasic.Props.C06
open Abasic Abasic.Ref Abasic.ExprL Abasic.ExprL2 Abasic.Stmt2L

variable {F : Type} [NumOps F]

theorem sigAfterS_defFree : ∀ (s : RStmt3 F) (sig : Sig), defFree s = true → sigAfterS sig s = sig
  | .defS _ _ _, _, h => nomatch h
  | .ifS _ a none, sig, h => sigAfterS_defFree a sig h
  | .ifS _ a (some b), sig, h => by
    rw [defFree, Bool.and_eq_true] at h
    rw [sigAfterS, sigAfterS_defFree a sig h.1, sigAfterS_defFree b sig h.2]
  | .letS _ _, _, _ | .printS _, _, _ | .gotoS _, _, _ | .endS, _, _ | .lineS _, _, _ | .forS _ _ _ _, _, _
  | .nextS _, _, _ | .gosubS _, _, _ | .returnS, _, _ | .readS _, _, _ | .dataS _, _, _ | .restoreS, _, _
  | .dimS _ _, _, _ | .letCellS _ _ _, _, _ => rfl

theorem defFree_of_closes (s : RStmt3 F) (h : s.closes = true) : defFree s = true := by
  cases s <;> first | rfl | (simp [RStmt3.closes] at h)

theorem typeAny_ok_iff (sig : Sig) (e : Expr2 F) : typeAny sig e = .ok () ↔ ∃ t, typeOf2 sig e = .ok t := by
  unfold typeAny
  cases typeOf2 sig e <;> simp

theorem typeAs_ok_iff (sig : Sig) (t : VT) (e : Expr2 F) : typeAs sig t e = .ok () ↔ typeOf2 sig e = .ok t := by
  unfold typeAs
  cases typeOf2 sig e with
  | error x => simp
  | ok t' => by_cases h : t' = t <;> simp [h]

theorem typeStep2_ok_iff (sig : Sig) (c : Option (Expr2 F)) :
    typeStep2 sig c = .ok () ↔ ∀ e, c = some e → typeOf2 sig e = .ok .num := by
  cases c <;> simp [typeStep2, typeAs_ok_iff]

theorem typeItems3_ok_iff (sig : Sig) : ∀ (items : List (PItem3 F)),
    typeItems3 sig items = .ok () ↔ ∀ e, PItem3.expr e ∈ items → ∃ t, typeOf2 sig e = .ok t
  | [] => by simp [typeItems3]
  | .semi :: rest | .comma :: rest => by simp [typeItems3, typeItems3_ok_iff sig rest]
  | .expr e :: rest => by simp [typeItems3, seq_ok_iff₃, typeAny_ok_iff, typeItems3_ok_iff sig rest]

theorem typeTargets_ok_iff (sig : Sig) : ∀ (ts : List (RTarget F)),
    typeTargets sig ts = .ok () ↔ ∀ name idx, RTarget.cell name idx ∈ ts → typeIdx sig idx = .ok ()
  | [] => by simp [typeTargets]
  | .scalar x :: rest => by simp [typeTargets, typeTargets_ok_iff sig rest]
  | .cell name idx :: rest => by
    simp only [typeTargets, seq_ok_iff₃, typeTargets_ok_iff sig rest, List.mem_cons, RTarget.cell.injEq]
    constructor
    · rintro ⟨h, hr⟩ n i (⟨rfl, rfl⟩ | hm)
      · exact h
      · exact hr n i hm
    · exact fun h => ⟨h name idx (.inl ⟨rfl, rfl⟩), fun n i hm => h n i (.inr hm)⟩

theorem lineOK_ok_iff (le : Nat → Bool) (n : Nat) : lineOK le n = .ok () ↔ le n = true :=
  guard_ok_iff.trans (and_iff_left rfl)

theorem typeOfS3_ok_iff (sig : Sig) (le : Nat → Bool) :
    ∀ s : RStmt3 F, typeOfS3 sig le s = .ok () ↔ Typed3 sig le s
  | .ifS c a none => by simp only [typeOfS3, Typed3, seq_ok_iff₃, typeAny_ok_iff, typeOfS3_ok_iff sig le a]
  | .ifS c a (some b) => by
    simp only [typeOfS3, Typed3, seq_ok_iff₃, guard_ok_iff, typeAny_ok_iff, typeOfS3_ok_iff sig le a,
      typeOfS3_ok_iff sig le b]
  | .letS _ _ | .printS _ | .gotoS _ | .gosubS _ | .lineS _ | .endS | .returnS | .readS _ | .dataS _ | .restoreS
  | .forS _ _ _ _ | .nextS _ | .dimS _ _ | .letCellS _ _ _ | .defS _ _ _ => by
    simp [typeOfS3, Typed3, sigAfterS, seq_ok_iff₃, guard_ok_iff, typeAs_ok_iff, typeItems3_ok_iff, lineOK_ok_iff,
      typeTargets_ok_iff, typeStep2_ok_iff]

theorem typeAny_error {sig : Sig} {e : Expr2 F} {x : Err} (h : typeAny sig e = .error x) :
    x = .typeMismatch ∨ ∃ s, x = .syntax s := by
  unfold typeAny at h
  split at h
  next he => cases h; exact typeOf2_error sig e _ he
  · cases h

theorem typeAs_error {sig : Sig} {t : VT} {e : Expr2 F} {x : Err} (h : typeAs sig t e = .error x) :
    x = .typeMismatch ∨ ∃ s, x = .syntax s := by
  unfold typeAs at h
  split at h
  next he => cases h; exact typeOf2_error sig e _ he
  · exact (guard_error h).elim nofun .inl

theorem typeItems3_error {sig : Sig} : ∀ (items : List (PItem3 F)) (x : Err),
    typeItems3 sig items = .error x → x = .typeMismatch ∨ ∃ s, x = .syntax s
  | [], x, h => by cases h
  | .semi :: rest, x, h | .comma :: rest, x, h => typeItems3_error rest x (by simpa only [typeItems3] using h)
  | .expr e :: rest, x, h => (seq_error h).elim typeAny_error (typeItems3_error rest x)

theorem typeTargets_error {sig : Sig} : ∀ (ts : List (RTarget F)) (x : Err),
    typeTargets sig ts = .error x → x = .typeMismatch ∨ ∃ s, x = .syntax s
  | [], x, h => by cases h
  | .scalar _ :: rest, x, h => typeTargets_error rest x (by simpa only [typeTargets] using h)
  | .cell _ idx :: rest, x, h => (seq_error h).elim (typeIdx_error sig idx x) (typeTargets_error rest x)

theorem lineOK_error {le : Nat → Bool} {n : Nat} {x : Err} (h : lineOK le n = .error x) :
    x = .undefinedStatement :=
  (guard_error h).elim nofun id

theorem typeOfS3_error (sig : Sig) (le : Nat → Bool) : ∀ (s : RStmt3 F) (x : Err),
    typeOfS3 sig le s = .error x → x = .typeMismatch ∨ (∃ se, x = .syntax se) ∨ x = .undefinedStatement
  | .letS v e, x, h | .defS f ps body, x, h => (typeAs_error h).imp_right .inl
  | .printS items, x, h => (typeItems3_error items x h).imp_right .inl
  | .gotoS n, x, h | .gosubS n, x, h | .lineS n, x, h => .inr (.inr (lineOK_error h))
  | .endS, x, h | .returnS, x, h | .dataS _, x, h | .restoreS, x, h => by cases h
  | .readS ts, x, h => (typeTargets_error ts x h).imp_right .inl
  | .ifS c a none, x, h =>
    (seq_error h).elim (fun h => (typeAny_error h).imp_right .inl) (typeOfS3_error sig le a x)
  | .ifS c a (some b), x, h => by
    rcases seq_error h with h | h
    · exact (typeAny_error h).imp_right .inl
    rcases seq_error h with h | h
    · exact typeOfS3_error sig le a x h
    rcases guard_error h with h | h
    · exact typeOfS3_error sig le b x h
    · exact .inr (.inl ⟨_, h⟩)
  | .forS v a b c, x, h => by
    rcases guard_error h with h | h
    · rcases seq_error h with h | h
      · exact (typeAs_error h).imp_right .inl
      rcases seq_error h with h | h
      · exact (typeAs_error h).imp_right .inl
      · cases c with
        | none => cases h
        | some c => exact (typeAs_error h).imp_right .inl
    · exact .inl h
  | .nextS v, x, h => (guard_error h).elim nofun .inl
  | .dimS _ idx, x, h => (typeIdx_error sig idx x h).imp_right .inl
  | .letCellS name idx e, x, h =>
    (seq_error h).elim (fun h => (typeIdx_error sig idx x h).imp_right .inl) (fun h => (typeAs_error h).imp_right .inl)

/-- on the statements covered by the refinement theorems (a THEN branch in front
    of an ELSE `closes`) the restriction of `typeOfS3` is vacuous: it is the
    analyzer's walk -/
theorem typeOfS3A_covered (le : Nat → Bool) : ∀ (s : RStmt3 F) (sig : Sig), s.CoveredB →
    typeOfS3A le sig s = typeOfS3 sig le s
  | .ifS c a none, sig, h => by
    simp only [RStmt3.CoveredB] at h
    simp only [typeOfS3A, typeOfS3, typeOfS3A_covered le a sig h.2]
  | .ifS c a (some b), sig, h => by
    simp only [RStmt3.CoveredB] at h
    have hd := defFree_of_closes a h.1
    simp only [typeOfS3A, typeOfS3, typeOfS3A_covered le a sig h.2.1, sigAfterS_defFree a sig hd,
      typeOfS3A_covered le b sig h.2.2, hd, if_true]
  | .letS _ _, sig, _ | .printS _, sig, _ | .gotoS _, sig, _ | .endS, sig, _ | .lineS _, sig, _ | .forS _ _ _ _, sig, _
  | .nextS _, sig, _ | .gosubS _, sig, _ | .returnS, sig, _ | .readS _, sig, _ | .dataS _, sig, _ | .restoreS, sig, _
  | .dimS _ _, sig, _ | .letCellS _ _ _, sig, _ | .defS _ _ _, sig, _ => by simp only [typeOfS3A]

/-- variables and arrays hold what their names announce -/
structure TInv3 (r : RState3 F) : Prop where
  vars : BindTyped r.vars
  kind : ArrKind r.arrays

structure Good3 (sig : Sig) (r : RState3 F) : Prop where
  inv : TInv3 r
  fns : FnsTyped sig r.fns

theorem envTyped_env {sig : Sig} {r : RState3 F} (h : Good3 sig r) : EnvTyped sig r.env :=
  ⟨h.inv.vars, fun fr hfr => by
    simp only [RState3.env, List.mem_map] at hfr
    obtain ⟨_, _, rfl⟩ := hfr
    exact wellTypedVars_nil, h.inv.kind, h.fns⟩

theorem good3_put {sig : Sig} {r : RState3 F} {env' : RefEnv F} (h : Good3 sig r) (henv : EnvTyped sig env') :
    Good3 sig (r.put env') :=
  ⟨⟨h.inv.vars, henv.arrays⟩, h.fns⟩

theorem tinv3_start (p : RProgram3 F) (g : Nat) : TInv3 (p.start g) :=
  ⟨wellTypedVars_nil, fun k a h => by simp [RProgram3.start, alGet] at h⟩

theorem evalE_typed {sig : Sig} {r : RState3 F} (h : Good3 sig r) {e : Expr2 F} {t : VT}
    (ht : typeOf2 sig e = .ok t) : Post (kindOf · = t) (Good3 sig) (evalE r e) := by
  unfold evalE
  rcases (fold2_post sig callFuel e r.env t (envTyped_env h) ht).cases with ⟨x, hf, hx⟩ | ⟨v, env', hf, hk, he'⟩ <;>
    rw [hf]
  · exact hx
  · exact ⟨hk, good3_put h he'⟩

theorem numE3_typed {sig : Sig} {r : RState3 F} (h : Good3 sig r) {e : Expr2 F}
    (ht : typeOf2 sig e = .ok .num) : Post (fun _ => True) (Good3 sig) (numE3 r e) := by
  unfold numE3
  rcases (evalE_typed h ht).cases with ⟨x, hev, hx⟩ | ⟨v, r1, hev, hk, hg⟩ <;> rw [hev]
  · exact hx
  · cases v with
    | str s => cases hk
    | num z => exact ⟨trivial, hg⟩

theorem stepE3_typed {sig : Sig} {r : RState3 F} (h : Good3 sig r) {c : Option (Expr2 F)}
    (ht : ∀ e, c = some e → typeOf2 sig e = .ok .num) : Post (fun _ => True) (Good3 sig) (stepE3 r c) := by
  cases c with
  | none => exact ⟨trivial, h⟩
  | some e => exact numE3_typed h (ht e rfl)

theorem evalIdx_typed {sig : Sig} {r : RState3 F} (h : Good3 sig r) {idx : List (Expr2 F)}
    (ht : typeIdx sig idx = .ok ()) : Post (fun _ => True) (Good3 sig) (evalIdx r idx) := by
  unfold evalIdx
  rcases (foldIdx_post_tree sig idx callFuel (fun n' _ => fold2_post sig n') r.env (envTyped_env h) ht).cases with
    ⟨x, hf, hx⟩ | ⟨is, env', hf, _, he'⟩ <;> rw [hf]
  · exact hx
  · exact ⟨trivial, good3_put h he'⟩

theorem printText3_typed {sig : Sig} : ∀ (items : List (PItem3 F)) (r : RState3 F) (semi : Bool) (acc : Str),
    Good3 sig r → (∀ e, PItem3.expr e ∈ items → ∃ t, typeOf2 sig e = .ok t) →
    Post (fun _ => True) (Good3 sig) (printText3 r items semi acc)
  | [], r, semi, acc, h, _ => ⟨trivial, h⟩
  | .semi :: rest, r, semi, acc, h, ht =>
    printText3_typed rest r true acc h (fun e he => ht e (List.mem_cons_of_mem _ he))
  | .comma :: rest, r, semi, acc, h, ht =>
    printText3_typed rest r false _ h (fun e he => ht e (List.mem_cons_of_mem _ he))
  | .expr e :: rest, r, semi, acc, h, ht => by
    obtain ⟨t, hte⟩ := ht e List.mem_cons_self
    rcases (evalE_typed h hte).cases with ⟨x, hev, hx⟩ | ⟨v, r1, hev, _, hg⟩ <;> simp only [printText3, hev]
    · exact hx
    · exact printText3_typed rest r1 false _ hg (fun e he => ht e (List.mem_cons_of_mem _ he))

/-- what the reference step of a checked statement can do -/
structure Exec3OK (le : Nat → Bool) (res : RState3 F × Ctl2) : Prop where
  /-- an error reported for the line of the statement is one of `RunErr2` -/
  err : ∀ x, res.2 = .error x → RunErr2 x
  /-- an error reported for another line is READ's DATA TYPE MISMATCH -/
  errAt : ∀ x ln, res.2 = .errorAt x ln → x = .dataTypeMismatch
  jump : ∀ m, res.2 = .jump m → le m = true
  inv : TInv3 res.1

theorem ok_err {le : Nat → Bool} {r : RState3 F} {e : Err} (hinv : TInv3 r) (he : RunErr2 e) :
    Exec3OK le (r, .error e) :=
  ⟨fun x hx => by cases hx; exact he, (fun _ _ h => by cases h), (fun _ h => by cases h), hinv⟩

theorem ok_errAt {le : Nat → Bool} {r : RState3 F} {ln : Nat} (hinv : TInv3 r) :
    Exec3OK le (r, .errorAt .dataTypeMismatch ln) :=
  ⟨(fun _ h => by cases h), fun x ln' hx => by cases hx; rfl, (fun _ h => by cases h), hinv⟩

/-- neither an error nor a jump -/
def Ctl2.quiet : Ctl2 → Prop
  | .next => True
  | .skipLine => True
  | .stop => True
  | .resume _ _ => True
  | _ => False

theorem ok_quiet {le : Nat → Bool} {r : RState3 F} {c : Ctl2} (hinv : TInv3 r) (hc : Ctl2.quiet c) :
    Exec3OK le (r, c) := by
  cases c <;> first | exact hc.elim | exact ⟨(fun _ h => by cases h), (fun _ _ h => by cases h), (fun _ h => by cases h), hinv⟩

theorem ok_jump {le : Nat → Bool} {r : RState3 F} {m : Nat} (hinv : TInv3 r) (hm : le m = true) :
    Exec3OK le (r, .jump m) :=
  ⟨(fun _ h => by cases h), (fun _ _ h => by cases h), fun m' h => by cases h; exact hm, hinv⟩

theorem ok_closeLine3 {le : Nat → Bool} {x : RState3 F × Ctl2} (h : Exec3OK le x) : Exec3OK le (closeLine3 x) := by
  obtain ⟨r, c⟩ := x
  cases c <;> first | exact h | exact ok_quiet h.inv trivial

theorem RunErr2.redim : RunErr2 .redimensionedArray := .inl .redimensionedArray
theorem RunErr2.nextWithoutFor : RunErr2 .nextWithoutFor := .inl .nextWithoutFor
theorem RunErr2.returnWithoutGosub : RunErr2 .returnWithoutGosub := .inl .returnWithoutGosub
theorem RunErr2.outOfData : RunErr2 .outOfData := .inl .outOfData

theorem storeCell_typed {name : Str} {index : List Nat} {v : Value F} {arrays : List (Str × ArrayV F)}
    (hk : kindOf v = VT.ofName name) (ha : ArrKind arrays) :
    match storeCell name index v arrays with
    | .error err => RunErr2 err
    | .ok arrs => ArrKind arrs := by
  cases hcs : storeCell name index v arrays with
  | error err =>
    rcases storeCell_err hcs ha hk with rfl | rfl
    · exact RunErr2.badSubscript
    · exact RunErr2.oomArray
  | ok arrs => exact storeCell_all kinded hcs ha

theorem readItem_typed {le : Nat → Bool} (items : List (Nat × DataElement F)) {r : RState3 F}
    (h : TInv3 r) (name : Str) {store : Value F → RState3 F × Ctl2}
    (hstore : ∀ v, v.matchesName name = true → Exec3OK le (store v)) :
    Exec3OK le (match items[r.data]? with
      | none => (r, .error .outOfData)
      | some (ln, d) =>
        match Value.coerceFromData name d with
        | .error e => ({ r with data := r.data + 1 }, .errorAt e ln)
        | .ok v => store v) := by
  split
  · exact ok_err h RunErr2.outOfData
  · split
    next hco => rw [ArrayL.coerce_err hco]; exact ok_errAt ⟨h.vars, h.kind⟩
    next hco => exact hstore _ (ArrayL.coerce_matches hco)

theorem readTarget_typed {sig : Sig} {le : Nat → Bool} (items : List (Nat × DataElement F)) {r : RState3 F}
    (h : Good3 sig r) : ∀ (t : RTarget F), (∀ name idx, t = .cell name idx → typeIdx sig idx = .ok ()) →
    Exec3OK le (readTargetSpec items r t)
  | .scalar name, _ => readItem_typed items h.inv name fun v hm =>
      ok_quiet (r := { r with data := r.data + 1, vars := alSet name v r.vars }) ⟨typed_alSet h.inv.vars hm, h.inv.kind⟩ trivial
  | .cell name idx, ht => by
    simp only [readTargetSpec, readCellSpec]
    rcases (evalIdx_typed h (ht name idx rfl)).cases with ⟨err, hfi, hx⟩ | ⟨index, r1, hfi, _, hg⟩ <;> rw [hfi]
    · exact ok_err h.inv hx
    · refine readItem_typed items hg.inv name fun v hm => ?_
      have hs := storeCell_typed (index := index) (matches_iff_kindOf.1 hm) hg.inv.kind
      split <;> rename_i hcs <;> rw [hcs] at hs
      · exact ok_err ⟨hg.inv.vars, hg.inv.kind⟩ hs
      · exact ok_quiet ⟨hg.inv.vars, hs⟩ trivial

theorem readTargets_typed {sig : Sig} {le : Nat → Bool} (items : List (Nat × DataElement F)) :
    ∀ (ts : List (RTarget F)) (r : RState3 F), Good3 sig r →
      (∀ name idx, RTarget.cell name idx ∈ ts → typeIdx sig idx = .ok ()) →
      Exec3OK le (readTargetsSpec items r ts)
  | [], r, h, _ => ok_quiet h.inv trivial
  | t :: rest, r, h, ht => by
    have hok := readTarget_typed (le := le) items h t (fun name idx he => ht name idx (he ▸ List.mem_cons_self))
    by_cases hc : (readTargetSpec items r t).2 = .next
    · rw [Stmt3L.readTargetsSpec_cons_next rest hc]
      exact readTargets_typed items rest _ ⟨hok.inv, (Stmt3L.readTargetSpec_quiet items r t).fns ▸ h.fns⟩
        (fun name idx he => ht name idx (List.mem_cons_of_mem _ he))
    · rw [Stmt3L.readTargetsSpec_cons_stop rest hc]; exact hok

/-- **Soundness on the reference semantics** for the statements of `RStmt3`: a
    statement checked w.r.t. the signatures `sig`, run from a state that satisfies
    the name-suffix invariant and whose function table agrees with `sig`, ends,
    if it fails, in one of the `RunErr2` errors — or, for READ, in DATA TYPE
    MISMATCH reported as `errorAt` —, never in TYPE MISMATCH, a syntax error or
    UNDEF'D STATEMENT; it jumps only to lines the check has seen; the invariant
    holds again afterwards. -/
theorem exec3_typed (sig : Sig) (le : Nat → Bool) (items : List (Nat × DataElement F)) (n j : Nat) :
    ∀ (s : RStmt3 F) (r : RState3 F), Good3 sig r → Typed3 sig le s → Exec3OK le (s.exec items n j r)
  -- Recursion on `s` (for the branches of IF) with `r` quantified: a branch runs from the state its condition leaves.
  -- An evaluation may move arrays and generator, so each hands on a `Good3 sig` of its own (`hg`, `hg1`, …); a failed
  -- one gives back the `r` of the start (hence `h.inv` there), the statement's own errors the state reached (`hg.inv`).
  | .letS x e, r, h, hty => by
    rcases (evalE_typed h hty).cases with ⟨err, hev, hx⟩ | ⟨v, r1, hev, hk, hg⟩ <;> simp only [RStmt3.exec, hev]
    · exact ok_err h.inv hx
    · have hm := matches_iff_kindOf.2 hk
      rw [if_pos hm]
      exact ok_quiet ⟨typed_alSet hg.inv.vars hm, hg.inv.kind⟩ trivial
  | .printS items', r, h, hty => by
    rcases (printText3_typed items' r false [] h hty).cases with ⟨err, hp, hx⟩ | ⟨text, r1, hp, _, hg⟩ <;>
      simp only [RStmt3.exec, hp]
    · exact ok_err h.inv hx
    · exact ok_quiet ⟨hg.inv.vars, hg.inv.kind⟩ trivial
  | .gotoS m, r, h, hty | .lineS m, r, h, hty => ok_jump h.inv hty
  | .endS, r, h, _ | .dataS _, r, h, _ => ok_quiet h.inv trivial
  | .ifS c t none, r, h, ⟨⟨tc, htc⟩, hta⟩ => by
    rcases (evalE_typed h htc).cases with ⟨err, hev, hx⟩ | ⟨v, r1, hev, _, hg⟩ <;> simp only [RStmt3.exec, hev]
    · exact ok_err h.inv hx
    · split
      · exact exec3_typed sig le items n j t r1 hg hta
      · exact ok_quiet hg.inv trivial
  | .ifS c t (some e), r, h, ⟨⟨tc, htc⟩, hta, _, htb⟩ => by
    rcases (evalE_typed h htc).cases with ⟨err, hev, hx⟩ | ⟨v, r1, hev, _, hg⟩ <;> simp only [RStmt3.exec, hev]
    · exact ok_err h.inv hx
    · split
      · exact ok_closeLine3 (exec3_typed sig le items n j t r1 hg hta)
      · exact exec3_typed sig le items n j e r1 hg htb
  | .forS v a b c, r, h, ⟨hv, hta, htb, htc⟩ => by
    rcases (numE3_typed h hta).cases with ⟨err, hna, hx⟩ | ⟨x, r1, hna, _, hg1⟩ <;> simp only [RStmt3.exec, hna]
    · exact ok_err h.inv hx
    rcases (numE3_typed hg1 htb).cases with ⟨err, hnb, hx⟩ | ⟨y, r2, hnb, _, hg2⟩ <;> simp only [hnb]
    · exact ok_err h.inv hx
    rcases (stepE3_typed hg2 htc).cases with ⟨err, hnc, hx⟩ | ⟨z, r3, hnc, _, hg3⟩ <;> simp only [hnc]
    · exact ok_err h.inv hx
    unfold forPush3
    have hd := (ofName_num_iff v).1 hv
    split
    · exact ok_err hg3.inv RunErr2.oomStack
    · rw [hd]
      exact ok_quiet ⟨typed_alSet hg3.inv.vars (by simp [Value.matchesName, hd]), hg3.inv.kind⟩ trivial
  | .nextS v, r, h, hty => by
    have hd := (ofName_num_iff v).1 hty
    have hm : ∀ y : F, (Value.num y : Value F).matchesName v = true := by
      intro y; simp [Value.matchesName, hd]
    cases hv : envOf r.vars v with
    | str x =>
      have := wellTypedEnv_envOf h.inv.vars v
      rw [hv] at this
      simp [Value.matchesName, hd] at this
    | num cur =>
      cases hf : findLoop v r.loops with
      | none => simp only [RStmt3.exec, hv, hf]; exact ok_err h.inv RunErr2.nextWithoutFor
      | some lr =>
        simp only [RStmt3.exec, hv, hf]
        split <;> split <;>
          exact ok_quiet ⟨typed_alSet h.inv.vars (hm _), h.inv.kind⟩ trivial
  | .gosubS m, r, h, hty => by
    simp only [RStmt3.exec]
    split
    · exact ok_err h.inv RunErr2.oomStack
    · exact ok_jump ⟨h.inv.vars, h.inv.kind⟩ hty
  | .returnS, r, h, _ => by
    simp only [RStmt3.exec]
    split
    · exact ok_err h.inv RunErr2.returnWithoutGosub
    · exact ok_quiet ⟨h.inv.vars, h.inv.kind⟩ trivial
  | .readS ts, r, h, hty => readTargets_typed items ts r h hty
  | .restoreS, r, h, _ | .defS _ _ _, r, h, _ => ok_quiet ⟨h.inv.vars, h.inv.kind⟩ trivial
  | .dimS name dims, r, h, hty => by
    rcases (evalIdx_typed h hty).cases with ⟨err, hfi, hx⟩ | ⟨index, r1, hfi, _, hg⟩ <;> simp only [RStmt3.exec, hfi]
    · exact ok_err h.inv hx
    split
    · exact ok_err hg.inv RunErr2.redim
    · cases hcr : ArrayV.create (F := F) name index with
      | error err =>
        rcases ArrayL.create_err hcr with rfl | rfl
        · exact ok_err hg.inv RunErr2.badSubscript
        · exact ok_err hg.inv RunErr2.oomArray
      | ok a => exact ok_quiet ⟨hg.inv.vars, arrKind_alSet hg.inv.kind (create_kind hcr)⟩ trivial
  | .letCellS name idx e, r, h, ⟨hti, hte⟩ => by
    rcases (evalIdx_typed h hti).cases with ⟨err, hfi, hx⟩ | ⟨index, r1, hfi, _, hg1⟩ <;> simp only [RStmt3.exec, hfi]
    · exact ok_err h.inv hx
    rcases (evalE_typed hg1 hte).cases with ⟨err, hev, hx⟩ | ⟨v, r2, hev, hk, hg2⟩ <;> simp only [hev]
    · exact ok_err h.inv hx
    have hs := storeCell_typed (index := index) hk hg2.inv.kind
    split <;> rename_i hcs <;> rw [hcs] at hs
    · exact ok_err hg2.inv hs
    · exact ok_quiet ⟨hg2.inv.vars, hs⟩ trivial

def sigAfterStmts : Sig → List (RStmt3 F) → Sig
  | sig, [] => sig
  | sig, s :: rest => sigAfterStmts (sigAfterS sig s) rest

def sigAtL : Sig → RProgram3 F → Nat → Nat → Sig
  | sig, [], _, _ => sig
  | sig, (k, ss) :: rest, n, j =>
    if k == n then sigAfterStmts sig (ss.take j) else sigAtL (sigAfterStmts sig ss) rest n j

/-- the signatures the analyzer has when it reaches statement `j` of line `n`:
    it walks the lines of `p` in order, starting without any definition -/
def sigAt (p : RProgram3 F) (n j : Nat) : Sig := sigAtL (fun _ => none) p n j

def typeOfStmts3 (le : Nat → Bool) (ln : Nat) : Sig → List (RStmt3 F) → Except (Err × Nat) Unit
  | _, [] => .ok ()
  | sig, s :: rest =>
    match typeOfS3 sig le s with
    | .ok _ => typeOfStmts3 le ln (sigAfterS sig s) rest
    | .error x => .error (x, ln)

def typeOfLines3 (le : Nat → Bool) : Sig → RProgram3 F → Except (Err × Nat) Unit
  | _, [] => .ok ()
  | sig, l :: rest =>
    match typeOfStmts3 le l.1 sig l.2 with
    | .ok _ => typeOfLines3 le (sigAfterStmts sig l.2) rest
    | .error x => .error x

/-- **The static check of a program** of `RStmt3`: every statement of every line
    passes `typeOfS3` w.r.t. the definitions that stand before it in the text
    (its own, for a DEF), the targets of GOTO / GOSUB / THEN n being looked up
    among the lines of the program itself. -/
def typeOfP3 (p : RProgram3 F) : Except (Err × Nat) Unit := typeOfLines3 p.hasLine (fun _ => none) p

theorem typeOfStmts3_cons_ok {le : Nat → Bool} {ln : Nat} {sig : Sig} {s : RStmt3 F} {rest : List (RStmt3 F)} :
    typeOfStmts3 le ln sig (s :: rest) = .ok () ↔
      typeOfS3 sig le s = .ok () ∧ typeOfStmts3 le ln (sigAfterS sig s) rest = .ok () := by
  simp only [typeOfStmts3]
  cases typeOfS3 sig le s <;> simp

theorem typeOfLines3_cons_ok {le : Nat → Bool} {sig : Sig} {l : Nat × List (RStmt3 F)} {rest : RProgram3 F} :
    typeOfLines3 le sig (l :: rest) = .ok () ↔
      typeOfStmts3 le l.1 sig l.2 = .ok () ∧ typeOfLines3 le (sigAfterStmts sig l.2) rest = .ok () := by
  simp only [typeOfLines3]
  cases typeOfStmts3 le l.1 sig l.2 <;> simp

theorem typeOfStmts3_get (le : Nat → Bool) (ln : Nat) : ∀ (ss : List (RStmt3 F)) (sig : Sig) (j : Nat) (s : RStmt3 F),
    typeOfStmts3 le ln sig ss = .ok () → ss[j]? = some s →
    typeOfS3 (sigAfterStmts sig (ss.take j)) le s = .ok ()
  | [], sig, j, s, _, hs => by simp at hs
  | s0 :: rest, sig, 0, s, h, hs => by
    cases hs
    exact (typeOfStmts3_cons_ok.1 h).1
  | s0 :: rest, sig, j + 1, s, h, hs =>
    typeOfStmts3_get le ln rest _ j s (typeOfStmts3_cons_ok.1 h).2 (by simpa using hs)

theorem typeOfLines3_get (le : Nat → Bool) : ∀ (p : RProgram3 F) (sig : Sig) (n j : Nat) (ss : List (RStmt3 F))
    (s : RStmt3 F), typeOfLines3 le sig p = .ok () → p.line n = some ss → ss[j]? = some s →
    typeOfS3 (sigAtL sig p n j) le s = .ok ()
  | [], sig, n, j, ss, s, _, hl, _ => by simp [RProgram3.line] at hl
  | (k, ss0) :: rest, sig, n, j, ss, s, h, hl, hs => by
    obtain ⟨h0, h⟩ := typeOfLines3_cons_ok.1 h
    simp only [RProgram3.line] at hl
    simp only [sigAtL]
    split at hl
    next hk =>
      cases hl
      rw [if_pos hk]
      exact typeOfStmts3_get le k ss0 sig j s h0 hs
    next hk =>
      rw [if_neg hk]
      exact typeOfLines3_get le rest _ n j ss s h hl hs

theorem typeOfP3_get {p : RProgram3 F} (hty : typeOfP3 p = .ok ()) {n j : Nat} {ss : List (RStmt3 F)} {s : RStmt3 F}
    (hl : p.line n = some ss) (hs : ss[j]? = some s) : Typed3 (sigAt p n j) p.hasLine s :=
  (typeOfS3_ok_iff _ _ s).1 (typeOfLines3_get p.hasLine p _ n j ss s hty hl hs)

theorem typeOfStmts3_error {le : Nat → Bool} {ln : Nat} : ∀ (ss : List (RStmt3 F)) (sig : Sig) (x : Err) (k : Nat),
    typeOfStmts3 le ln sig ss = .error (x, k) →
    (x = .typeMismatch ∨ (∃ se, x = .syntax se) ∨ x = .undefinedStatement) ∧ k = ln
  | [], sig, x, k, h => by cases h
  | s :: rest, sig, x, k, h => by
    simp only [typeOfStmts3] at h
    split at h
    · exact typeOfStmts3_error rest _ x k h
    next hs => cases h; exact ⟨typeOfS3_error sig le s x hs, rfl⟩

theorem typeOfLines3_error {le : Nat → Bool} : ∀ (p : RProgram3 F) (sig : Sig) (x : Err) (k : Nat),
    typeOfLines3 le sig p = .error (x, k) →
    (x = .typeMismatch ∨ (∃ se, x = .syntax se) ∨ x = .undefinedStatement) ∧ ∃ l ∈ p, l.1 = k
  | [], sig, x, k, h => by cases h
  | l :: rest, sig, x, k, h => by
    simp only [typeOfLines3] at h
    split at h
    · obtain ⟨h1, l', hl', hk⟩ := typeOfLines3_error rest _ x k h
      exact ⟨h1, l', List.mem_cons_of_mem _ hl', hk⟩
    next hs =>
      cases h
      obtain ⟨h1, hk⟩ := typeOfStmts3_error l.2 sig x k hs
      exact ⟨h1, l, List.mem_cons_self, hk.symm⟩

theorem typeOfP3_error {p : RProgram3 F} {x : Err} {k : Nat} (h : typeOfP3 p = .error (x, k)) :
    (x = .typeMismatch ∨ (∃ se, x = .syntax se) ∨ x = .undefinedStatement) ∧ ∃ l ∈ p, l.1 = k :=
  typeOfLines3_error p _ x k h

/-- the errors a checked program may still stop with -/
def RunErr3 (e : Err) : Prop := RunErr2 e ∨ e = .dataTypeMismatch

theorem RunErr3.not_static {e : Err} (h : RunErr3 e) :
    e ≠ .typeMismatch ∧ (∀ se, e ≠ .syntax se) ∧ e ≠ .undefinedStatement := by
  rcases h with h | h
  · exact h.not_static
  · subst h; simp

/-- THE dynamic side condition ("function definitions are each unique and
    executed before any use"): in every state the reference machine reaches from
    `r`, the run-time function table is what the analyzer had seen when it
    checked the statement at the program counter. -/
def DefsAgreeFrom (p : RProgram3 F) (r : RState3 F) : Prop :=
  ∀ m r' n j, RSteps3 p m r = .inl r' → r'.pc = some (n, j) → FnsTyped (sigAt p n j) r'.fns

/-- … from the start of the program -/
def DefsAgree (p : RProgram3 F) (g : Nat) : Prop := DefsAgreeFrom p (p.start g)

theorem DefsAgreeFrom.step {p : RProgram3 F} {r r' : RState3 F} (h : DefsAgreeFrom p r)
    (hs : RStep3 p r = .inl r') : DefsAgreeFrom p r' :=
  fun m r'' n j hm hpc => h (m + 1) r'' n j (by rw [C03.rsteps3_ok m hs]; exact hm) hpc

theorem TInv3.pc {r : RState3 F} (h : TInv3 r) (x : Option (Nat × Nat)) : TInv3 { r with pc := x } :=
  ⟨h.vars, h.kind⟩

theorem rstep3_typed {p : RProgram3 F} (hty : typeOfP3 p = .ok ()) (r : RState3 F) (hinv : TInv3 r)
    (hfn : ∀ n j, r.pc = some (n, j) → FnsTyped (sigAt p n j) r.fns) :
    (∀ r', RStep3 p r = .inl r' → TInv3 r') ∧
    (∀ e ln, RStep3 p r = .inr (e, ln) → RunErr3 e) := by
  have hok {n j ss s} (hpc : r.pc = some (n, j)) (hl : p.line n = some ss) (hs : ss[j]? = some s) :=
    exec3_typed (sigAt p n j) p.hasLine (allData3 p) n j s r ⟨hinv, hfn n j hpc⟩ (typeOfP3_get hty hl hs)
  refine ⟨fun r' h => ?_, fun e ln h => ?_⟩
  · rcases Prog3L.rstep_inl h with rfl | rfl | ⟨n, j, ss, s, X, hpc, hl, hs, -, rfl⟩
    · exact hinv
    · exact hinv.pc _
    · exact (hok hpc hl hs).inv.pc X
  · obtain ⟨n, j, ss, s, hpc, hl, hs, ⟨hc, -⟩ | hc | ⟨m, hc, hh, -⟩⟩ := Prog3L.rstep_inr h
    · exact .inl ((hok hpc hl hs).err e hc)
    · exact .inr ((hok hpc hl hs).errAt e ln hc)
    · rw [(hok hpc hl hs).jump m hc] at hh; cases hh

theorem rsteps3_typed_from {p : RProgram3 F} (hty : typeOfP3 p = .ok ()) (m : Nat) (r : RState3 F) (hinv : TInv3 r)
    (hda : DefsAgreeFrom p r) :
    (∀ r', RSteps3 p m r = .inl r' → TInv3 r') ∧
    (∀ e ln out, RSteps3 p m r = .inr (e, ln, out) → RunErr3 e) :=
  have step (r : RState3 F) (h : TInv3 r ∧ DefsAgreeFrom p r) :=
    rstep3_typed hty r h.1 (fun n j hpc => h.2 0 r n j rfl hpc)
  ((C03.rsteps3_iterates p).sound (I := fun r => TInv3 r ∧ DefsAgreeFrom p r) (E := fun x => RunErr3 x.1)
    (fun r h => ⟨fun r' hs => ⟨(step r h).1 r' hs, h.2.step hs⟩, fun e => (step r h).2 e.1 e.2⟩) m r ⟨hinv, hda⟩).imp
    (fun h r' hs => (h r' hs).1) fun h e ln out => h (e, ln, out)

/-- **Soundness of the static check on the reference machine** for whole
    programs with DEF: if the check passes and every definition is in force
    exactly where the analyzer assumed it (`DefsAgree`), the program can stop only
    with a run-time error of `RunErr3`: never TYPE MISMATCH, a syntax error or
    UNDEF'D STATEMENT. -/
theorem rsteps3_typed {p : RProgram3 F} (hty : typeOfP3 p = .ok ()) (g : Nat) (hda : DefsAgree p g)
    (m : Nat) (x : Err) (ln : Nat) (out : List Str) (h : RSteps3 p m (p.start g) = .inr (x, ln, out)) :
    RunErr3 x ∧ x ≠ .typeMismatch ∧ (∀ s, x ≠ .syntax s) ∧ x ≠ .undefinedStatement := by
  have := (rsteps3_typed_from hty m (p.start g) (tinv3_start p g) hda).2 x ln out h
  exact ⟨this, this.not_static⟩

/-- **`sound_program3`.**  Let the program `p` of the whole statement language
    fit the covered fragment (`Fits3`), let the interpreter be idle with `p`
    stored, flags off (`PReady3`), let every state the reference machine reaches
    satisfy the side conditions on names and nesting (`SafeRun`), let `p` pass the
    static check `typeOfP3`, and let every definition be in force exactly where
    the analyzer assumed it (`DefsAgree`).  Then NO host turn of a run — RUN
    followed by any number `k` of `continueEvaluating` — fails with TYPE
    MISMATCH, a syntax error or UNDEF'D STATEMENT: a failure is one of `RunErr3`.
    A run that has not failed holds well-typed variables. -/
theorem sound_program3 {p : RProgram3 F} {fuel : Nat} (hfit : C03.Fits3 p) {σ : St F} (h : C03.PReady3 p σ)
    (hsafe : C03.SafeRun p fuel (p.start σ.rng)) (hty : typeOfP3 p = .ok ()) (hda : DefsAgree p σ.rng)
    (k : Nat) :
    (∀ te σ', C03.runTurns fuel k σ = .err te σ' →
      RunErr3 te.err ∧ te.err ≠ .typeMismatch ∧ (∀ se, te.err ≠ .syntax se) ∧
      te.err ≠ .undefinedStatement) ∧
    (∀ σ', C03.runTurns fuel k σ = .ok () σ' → WellTyped σ') := by
  obtain ⟨n, _, _, hm⟩ := C03.run3_refines hfit h hsafe k
  obtain ⟨h1, h2⟩ := rsteps3_typed_from hty n (p.start σ.rng) (tinv3_start p σ.rng) hda
  cases hr : RSteps3 p n (p.start σ.rng) with
  | inl r' =>
    rw [hr] at hm
    obtain ⟨σ1, hσ1, hsim⟩ := hm
    refine ⟨fun te σ' he => (by rw [hσ1] at he; cases he), fun σ' ho => ?_⟩
    rw [hσ1] at ho
    simp only [Res.ok.injEq, true_and] at ho
    subst ho
    have hv : σ1.vars = r'.vars := by
      unfold Prog3L.Sim3 at hsim
      cases hpc : r'.pc with
      | none => rw [hpc] at hsim; exact hsim.2.1
      | some nj => rw [hpc] at hsim; exact hsim.1.mem.vars
    intro name v hg
    rw [hv] at hg
    exact (h1 r' hr).vars name v hg
  | inr eln =>
    obtain ⟨e, ln, out⟩ := eln
    rw [hr] at hm
    obtain ⟨σ1, l, hσ1, _, _⟩ := hm
    refine ⟨fun te σ' he => ?_, fun σ' ho => by rw [hσ1] at ho; cases ho⟩
    rw [hσ1] at he
    simp only [Res.err.injEq] at he
    rw [← he.1]
    exact ⟨h2 e ln out hr, (h2 e ln out hr).not_static⟩

namespace Demo3T

def fna : Str := ['F', 'N', 'A']

/-- ```
    5 DATA 1, "S"
    10 DEF FNA(X,Y$) = X + A(X)
    15 READ A, B$(A,0)
    20 FOR I = 0 TO 3
    30 PRINT FNA(I,"S"); B$(I,I) : IF I THEN 40 ELSE LET B$(I,0) = "Z"
    40 NEXT I
    ``` -/
def prog : RProgram3 Unit :=
  [ (5, [ .dataS [.num (), .str ['S']] ]),
    (10, [ .defS fna [['X'], ['Y', '$']] (.bin .add (.var ['X']) (.cell ['A'] [.var ['X']])) ]),
    (15, [ .readS [.scalar ['A'], .cell ['B', '$'] [.var ['A'], .num ()]] ]),
    (20, [ .forS ['I'] (.num ()) (.num ()) none ]),
    (30, [ .printS [.expr (.call fna [.var ['I'], .str ['S']]), .semi,
                    .expr (.cell ['B', '$'] [.var ['I'], .var ['I']])],
           .ifS (.var ['I']) (.lineS 40) (some (.letCellS ['B', '$'] [.var ['I'], .num ()] (.str ['Z']))) ]),
    (40, [ .nextS ['I'] ]) ]

example : typeOfP3 prog = .ok () := by
  simp [typeOfP3, prog, typeOfLines3, typeOfStmts3, typeOfS3, typeAs, typeAny, typeStep2, typeItems3, lineOK,
    typeOf2, typeArgs, typeIdx, typeTargets, sigAfterS, sigAfterStmts, defFree, fna, VT.ofName, endsWithDollar, tierRule, tierOf,
    RProgram3.hasLine, RProgram3.line]

/-- The check fails when the call precedes the definition in the text: `FNA(I,"S")`
    is then read as an array cell with a string subscript. -/
example : typeOfP3 (F := Unit)
    [ (10, [ .printS [.expr (.call fna [.var ['I'], .str ['S']])] ]),
      (20, [ .defS fna [['X'], ['Y', '$']] (.var ['X']) ]) ] = .error (.typeMismatch, 10) := by
  simp [typeOfP3, typeOfLines3, typeOfStmts3, typeOfS3, typeAny, typeItems3, typeOf2, typeIdx_cons, fna,
    VT.ofName, endsWithDollar]

example : typeOfP3 (F := Unit) [ (10, [ .readS [.scalar ['A'], .cell ['B'] [.str ['S']]] ]) ] =
    .error (.typeMismatch, 10) := by
  simp [typeOfP3, typeOfLines3, typeOfStmts3, typeOfS3, typeTargets, typeOf2, typeIdx_cons]

end Demo3T

end Abasic.Props.C06
