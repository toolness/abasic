import Abasic.Interp
/-
  The entry points of the host API, in parts.

  `evaluate_impl` is: the protocol assertion; empty the immediate line; then what the command word says, or,
  for a line that is no command, tokenize it and store it or run it.  `continue_evaluating` is the assertion
  around one post-processed turn.  `inState`, `Command.act`, `enterLine` below are these parts, named for the
  proofs (they transliterate nothing: Interp.lean has `evaluateImpl` in one piece, and `evaluateImpl_eq`,
  `maybeProcessCommand_eq` say it is made of them); `evaluateImpl_command` here and `C01.evaluateImpl_line`
  give the call on an idle interpreter by the kind of line; whole calls: `startEvaluating_run` here,
  `C01.start_numbered`, `C01.start_tok_error`, `C01.start_immediate`.  A predicate on computations that holds of one turn
  and of the state updates the parts are made of is carried through every entry point by `HostWalk`; an
  invariant instantiates it and does not unfold the entry points.
-/
namespace Abasic
open M

variable {F : Type} [NumOps F]

omit [NumOps F] in
theorem bind_pure {α : Type} (m : M F α) (σ : St F) : (m >>= fun a => pure a) σ = m σ := by
  simp only [bind, M.bindM]
  cases m σ <;> rfl

omit [NumOps F] in
theorem bind_unit (m : M F Unit) (σ : St F) : (m >>= fun _ => pure ()) σ = m σ := bind_pure m σ

/-- the protocol assertion in front of an entry point (`assert_eq!(self.state, …)`) -/
def inState {α : Type} (st : IState) (msg : String) (m : M F α) : M F α := do
  let s ← get
  if s.state != st then rpanic msg else m

/-- the LIST branch of `maybe_process_command` -/
def listCommand : M F Unit := do
  let s ← get
  match s.lines.list with
  | none => rpanic "list: unwrap on None"
  | some ls => set { s with out := (ls.map Out.print).reverse ++ s.out }

/-- the branches of `maybe_process_command`, by command, without the `Ok(true)` they all end in -/
def Command.act (fuel : Nat) : Command → M F Unit
  | .run => do
    modify fun s => ({ s with input := none, vars := [], arrays := [] }).runFromFirst
    runNextStatement fuel
  | .list => listCommand
  | .new => modify fun s => { s with state := .newRequested }
  | .cont => do
    continueFromBreakpoint
    runNextStatement fuel
  | .trace => modify fun s => { s with tracing := true }
  | .notrace => modify fun s => { s with tracing := false }
  | .internals => emit .opaque
  | .stats => emit .opaque

/-- the rest of `evaluate_impl`, for a line that is no command: tokenized behind its line number, it is stored;
    without one, run -/
def enterLine (fuel : Nat) (line : Str) : M F Unit :=
  let (num, skip) : Option Nat × Nat :=
    match parseLineNumber line with
    | some (n, e) => (some n, e)
    | none => (none, 0)
  match tokenize (F := F) line skip with
  | .error e => fail (.syntax (.tokenization e))
  | .ok ts =>
    match num with
    | some n => modify fun s => s.setNumberedLine n ts
    | none => do
      setImmediate ts
      runNextStatement fuel

/-- a command word is always consumed -/
theorem maybeProcessCommand_eq (fuel : Nat) (line : Str) :
    maybeProcessCommand (F := F) fuel line =
      match (commandWord line).bind Command.ofWord with
      | none => pure false
      | some c => (do c.act fuel; pure true) := by
  unfold maybeProcessCommand
  cases (commandWord line).bind Command.ofWord with
  | none => rfl
  | some c =>
    funext σ
    cases c with
    | run | cont =>
      simp only [Command.act, bind, M.bindM]
      split <;> rfl
    | list =>
      simp only [Command.act, listCommand, bind, M.bindM, M.get]
      cases σ.lines.list <;> rfl
    | _ => rfl

theorem evaluateImpl_eq (fuel : Nat) (line : Str) :
    evaluateImpl (F := F) fuel line =
      inState .idle "assertion failed: state == Idle" (do
        setImmediate []
        if ← maybeProcessCommand fuel line then pure () else enterLine fuel line) := rfl

/-- an idle interpreter given a line with a command word: the immediate line is emptied, the command acts,
    and the line is not looked at again -/
theorem evaluateImpl_command (fuel : Nat) {line : Str} {c : Command} {σ : St F} (hidle : σ.state = .idle)
    (hcmd : (commandWord line).bind Command.ofWord = some c) :
    evaluateImpl fuel line σ = c.act fuel (σ.setImmediate []) := by
  have hne : (σ.state != .idle) = false := by simp [hidle]
  simp only [evaluateImpl, bind, M.bindM, M.get, hne, Bool.false_eq_true, if_false, setImmediate, M.modify,
    maybeProcessCommand_eq, hcmd]
  cases c.act fuel (σ.setImmediate []) <;> rfl

theorem word_run : (commandWord "RUN".toList).bind Command.ofWord = some .run := by decide

theorem startEvaluating_run (fuel : Nat) {line : Str} {σ : St F} (hidle : σ.state = .idle)
    (hrun : (commandWord line).bind Command.ofWord = some .run) :
    startEvaluating fuel line σ = postprocess (runNextStatement fuel)
      ({ σ.setImmediate [] with input := none, vars := [], arrays := [] } : St F).runFromFirst := by
  unfold startEvaluating postprocess
  rw [evaluateImpl_command fuel hidle hrun]
  rfl

omit [NumOps F] in
theorem St.runFromFirst_eq (s : St F) :
    s.runFromFirst =
      { s.resetRuntime with
        loc := match s.lines.first with
          | some n => { line := some n, idx := 0 }
          | none => {} } := by
  unfold St.runFromFirst
  show (match s.lines.first with | some n => _ | none => _) = _
  cases s.lines.first <;> rfl

namespace Hoare

/-- A predicate on computations that holds of one turn and of what the commands do to the state … -/
structure CommandWalk (F : Type) [NumOps F] (fuel : Nat) where
  P : ∀ {α : Type}, M F α → Prop
  pure : ∀ {α : Type} (a : α), P (Pure.pure a : M F α)
  bind : ∀ {α β : Type} {m : M F α} {f : α → M F β}, P m → (∀ a, P (f a)) → P (m >>= f)
  turn : P (runNextStatement (F := F) fuel)
  continueFromBreakpoint : P (Abasic.continueFromBreakpoint (F := F))
  emitOpaque : P (emit (F := F) .opaque)
  resetForRun : P (M.modify fun s : St F => ({ s with input := none, vars := [], arrays := [] }).runFromFirst)
  list : P (listCommand (F := F))
  newRequested : P (M.modify fun s : St F => { s with state := .newRequested })
  setTracing : ∀ b, P (M.modify fun s : St F => { s with tracing := b })

/-- … and of the rest of the entry points: the assertion, the error post-processing, the two ways a line
    is entered, the reply. -/
structure HostWalk (F : Type) [NumOps F] (fuel : Nat) extends CommandWalk F fuel where
  fail : ∀ {α : Type} (e : Err), P (M.fail e : M F α)
  inState : ∀ {α : Type} (st : IState) (msg : String) {m : M F α}, P m → P (Abasic.inState st msg m)
  postprocess : ∀ {α : Type} {m : M F α}, P m → P (Abasic.postprocess m)
  setImmediate : ∀ ts, P (Abasic.setImmediate (F := F) ts)
  setNumberedLine : ∀ n ts, P (M.modify fun s : St F => s.setNumberedLine n ts)
  provideInput : ∀ text, P (Abasic.provideInput (F := F) text)

variable {fuel : Nat}

theorem walk_command (W : CommandWalk F fuel) (c : Command) : W.P (c.act (F := F) fuel) := by
  cases c with
  | run => exact W.bind W.resetForRun fun _ => W.turn
  | list => exact W.list
  | new => exact W.newRequested
  | cont => exact W.bind W.continueFromBreakpoint fun _ => W.turn
  | trace => exact W.setTracing true
  | notrace => exact W.setTracing false
  | internals => exact W.emitOpaque
  | stats => exact W.emitOpaque

variable (W : HostWalk F fuel)

theorem walk_maybeProcessCommand (line : Str) : W.P (maybeProcessCommand (F := F) fuel line) := by
  rw [maybeProcessCommand_eq]
  split
  · exact W.pure _
  · exact W.bind (walk_command W.toCommandWalk _) fun _ => W.pure _

theorem walk_enterLine (line : Str) : W.P (enterLine (F := F) fuel line) := by
  unfold enterLine
  dsimp only
  split
  · exact W.fail _
  · split
    · exact W.setNumberedLine _ _
    · exact W.bind (W.setImmediate _) fun _ => W.turn

theorem walk_evaluateImpl (line : Str) : W.P (evaluateImpl (F := F) fuel line) := by
  rw [evaluateImpl_eq]
  refine W.inState _ _ (W.bind (W.setImmediate _) fun _ => W.bind (walk_maybeProcessCommand W line) fun b => ?_)
  split
  · exact W.pure _
  · exact walk_enterLine W line

theorem walk_startEvaluating (line : Str) : W.P (startEvaluating (F := F) fuel line) :=
  W.postprocess (walk_evaluateImpl W line)

theorem walk_continueEvaluating : W.P (continueEvaluating (F := F) fuel) :=
  W.inState _ _ (W.postprocess W.turn)

end Hoare
end Abasic
