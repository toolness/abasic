import Lean.Meta.Tactic.Simp.RegisterCommand

/-- `W.P (f ..)`, `Respects R (f ..)`, `Commutes g (f ..)` for the leaves of the monad and the single functions `f` of the
    evaluator: where `walk`, `respects_tac`, `commutes_tac`, `cost_call` and `scost_tac` look a call up -/
register_simp_attr walk
