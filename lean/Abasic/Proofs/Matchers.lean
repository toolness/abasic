import Abasic.Tokenizer
/-
  The matchers of the tokenizer in normal form.

  A matcher reads its text through `skipWs` and, for letters, `asciiUpper`, and what it leaves begins
  right behind the last non-blank character it took.  So its result is a function of `sq cs` (the text
  without blanks, letters upper-cased) and what it leaves is `afterNb n cs`, the text behind the `n`-th
  non-blank character: `chompKeyword_nf` (a prefix test), `numLoop_nf` (`takeWhile`), `symLoop_nf`
  (`symG`).  What a matcher consumes, what it does on the consumed text alone, on related texts, seen
  through `sq`, are then facts about lists and about `afterNb` (`afterNb_cut`, `sq_afterNb`;
  `Respects.afterNb` in TokenizerRel.lean).
-/
namespace Abasic.Props.C12
open Abasic

theorem lower_bounds (c : Char) : isAsciiLowerAlpha c = true ↔ 97 ≤ c.toNat ∧ c.toNat ≤ 122 := by
  unfold isAsciiLowerAlpha
  simp only [Bool.and_eq_true, decide_eq_true_eq, Char.le_def, UInt32.le_iff_toNat_le]
  exact Iff.rfl

theorem upper_bounds (c : Char) : isAsciiUpperAlpha c = true ↔ 65 ≤ c.toNat ∧ c.toNat ≤ 90 := by
  unfold isAsciiUpperAlpha
  simp only [Bool.and_eq_true, decide_eq_true_eq, Char.le_def, UInt32.le_iff_toNat_le]
  exact Iff.rfl

theorem digit_bounds (c : Char) : isAsciiDigit c = true ↔ 48 ≤ c.toNat ∧ c.toNat ≤ 57 := by
  unfold isAsciiDigit
  simp only [Bool.and_eq_true, decide_eq_true_eq, Char.le_def, UInt32.le_iff_toNat_le]
  exact Iff.rfl

theorem alpha_bounds (c : Char) :
    isAsciiAlpha c = true ↔ (65 ≤ c.toNat ∧ c.toNat ≤ 90) ∨ (97 ≤ c.toNat ∧ c.toNat ≤ 122) := by
  unfold isAsciiAlpha
  rw [Bool.or_eq_true, upper_bounds, lower_bounds]

theorem ofNat_small : ∀ n, n < 123 → (Char.ofNat n).toNat = n := by decide

theorem asciiUpper_toNat (c : Char) :
    (asciiUpper c).toNat = if isAsciiLowerAlpha c then c.toNat - 32 else c.toNat := by
  unfold asciiUpper
  by_cases h : isAsciiLowerAlpha c = true
  · rw [if_pos h, if_pos h]
    have := (lower_bounds c).mp h
    exact ofNat_small _ (by omega)
  · rw [if_neg h, if_neg h]

theorem upperEq_cases {c d : Char} (h : asciiUpper c = asciiUpper d) :
    c = d ∨ (isAsciiAlpha c = true ∧ isAsciiAlpha d = true) := by
  have e := congrArg Char.toNat h
  rw [asciiUpper_toNat, asciiUpper_toNat] at e
  by_cases lc : isAsciiLowerAlpha c = true
  · have bc := (lower_bounds c).mp lc
    rw [if_pos lc] at e
    by_cases ld : isAsciiLowerAlpha d = true
    · have bd := (lower_bounds d).mp ld
      exact Or.inr ⟨(alpha_bounds c).mpr (Or.inr bc), (alpha_bounds d).mpr (Or.inr bd)⟩
    · rw [if_neg ld] at e
      exact Or.inr ⟨(alpha_bounds c).mpr (Or.inr bc), (alpha_bounds d).mpr (Or.inl (by omega))⟩
  · rw [if_neg lc] at e
    by_cases ld : isAsciiLowerAlpha d = true
    · have bd := (lower_bounds d).mp ld
      rw [if_pos ld] at e
      exact Or.inr ⟨(alpha_bounds c).mpr (Or.inl (by omega)), (alpha_bounds d).mpr (Or.inr bd)⟩
    · rw [if_neg ld] at e
      exact Or.inl (Char.toNat_inj.mp e)

theorem upperEq_alpha {c d : Char} (h : asciiUpper c = asciiUpper d) : isAsciiAlpha c = isAsciiAlpha d := by
  rcases upperEq_cases h with rfl | ⟨h1, h2⟩
  · rfl
  · rw [h1, h2]

theorem alpha_not_digit {c : Char} (h : isAsciiAlpha c = true) : isAsciiDigit c = false := by
  have := (alpha_bounds c).mp h
  cases hd : isAsciiDigit c with
  | false => rfl
  | true => have := (digit_bounds c).mp hd; omega

theorem upperEq_digit {c d : Char} (h : asciiUpper c = asciiUpper d) : isAsciiDigit c = isAsciiDigit d := by
  rcases upperEq_cases h with rfl | ⟨h1, h2⟩
  · rfl
  · rw [alpha_not_digit h1, alpha_not_digit h2]

theorem upperEq_alnum {c d : Char} (h : asciiUpper c = asciiUpper d) : isAsciiAlnum c = isAsciiAlnum d := by
  unfold isAsciiAlnum; rw [upperEq_alpha h, upperEq_digit h]

theorem upperEq_beq {c d : Char} (h : asciiUpper c = asciiUpper d) (x : Char) (hx : isAsciiAlpha x = false) :
    (c == x) = (d == x) := by
  rcases upperEq_cases h with rfl | ⟨h1, h2⟩
  · rfl
  · have n1 : (c == x) = false := by
      apply beq_false_of_ne; intro e; rw [e, hx] at h1; cases h1
    have n2 : (d == x) = false := by
      apply beq_false_of_ne; intro e; rw [e, hx] at h2; cases h2
    rw [n1, n2]

theorem upperEq_beq' {c d : Char} (h : asciiUpper c = asciiUpper d) (x : Char) (hx : isAsciiAlpha x = false) :
    (x == c) = (x == d) := by
  rw [BEq.comm (a := x), upperEq_beq h x hx, BEq.comm]

theorem upperEq_of_not_alpha {c d : Char} (h : asciiUpper c = asciiUpper d) (hc : isAsciiAlpha c = false) : c = d := by
  rcases upperEq_cases h with e | ⟨h1, _⟩
  · exact e
  · rw [hc] at h1; cases h1

theorem upperEq_lookup {c d : Char} (h : asciiUpper c = asciiUpper d) (tbl : List (Char × Kw))
    (ht : ∀ p ∈ tbl, isAsciiAlpha p.1 = false) : tbl.lookup c = tbl.lookup d := by
  induction tbl with
  | nil => rfl
  | cons p rest ih =>
    obtain ⟨k, v⟩ := p
    rw [List.lookup_cons, List.lookup_cons, upperEq_beq h k (ht (k, v) (List.mem_cons_self ..)),
      ih (fun p hp => ht p (List.mem_cons_of_mem _ hp))]

theorem upperEq_lookupTwo {c d : Char} (h : asciiUpper c = asciiUpper d) (tbl : List (Kw × Char × Kw)) (k : Kw)
    (ht : ∀ p ∈ tbl, isAsciiAlpha p.2.1 = false) : lookupTwo tbl k c = lookupTwo tbl k d := by
  induction tbl with
  | nil => rfl
  | cons p rest ih =>
    obtain ⟨a, x, v⟩ := p
    simp only [lookupTwo]
    rw [upperEq_beq' h x (ht (a, x, v) (List.mem_cons_self ..)),
      ih (fun p hp => ht p (List.mem_cons_of_mem _ hp))]

theorem digitOrDot_not_alpha {c : Char} (hg : (isAsciiDigit c || c == '.') = true) : isAsciiAlpha c = false := by
  cases ha : isAsciiAlpha c with
  | false => rfl
  | true =>
    have h2 : (c == '.') = false := beq_false_of_ne fun e => by rw [e] at ha; revert ha; decide
    rw [alpha_not_digit ha, h2] at hg; cases hg

end Abasic.Props.C12

namespace Abasic.Props.C13
open Abasic

theorem skipWs_suffix (cs : Str) : ∃ pre, cs = pre ++ skipWs cs ∧ ∀ c ∈ pre, isBasicWs c = true := by
  induction cs with
  | nil => exact ⟨[], rfl, by simp⟩
  | cons c cs ih =>
    simp only [skipWs]
    split
    · rename_i h
      obtain ⟨pre, h1, h2⟩ := ih
      refine ⟨c :: pre, by rw [List.cons_append, ← h1], ?_⟩
      intro x hx
      rcases List.mem_cons.mp hx with rfl | hx
      · exact h
      · exact h2 x hx
    · exact ⟨[], rfl, by simp⟩

theorem skipWs_nonblank (cs : Str) (c : Char) (r : Str) (h : skipWs cs = c :: r) : isBasicWs c = false := by
  induction cs with
  | nil => simp [skipWs] at h
  | cons d ds ih =>
    simp only [skipWs] at h
    split at h
    · exact ih h
    · rename_i hd
      have : d = c := by injection h
      subst this
      simpa using hd

end Abasic.Props.C13

namespace Abasic.Props.C12
open Abasic

theorem skipWs_blank (w : Char) (cs : Str) (hw : isBasicWs w = true) : skipWs (w :: cs) = skipWs cs := by
  simp [skipWs, hw]

theorem numLoop_blank (w : Char) (hw : isBasicWs w = true) (cs : Str) :
    numLoop (w :: cs) = if (numLoop cs).1.isEmpty then ([], w :: cs) else numLoop cs := by
  simp only [numLoop, hw, ↓reduceIte]

theorem numLoop_digit (c : Char) (hb : ¬ isBasicWs c = true) (hg : (isAsciiDigit c || c == '.') = true) (cs : Str) :
    numLoop (c :: cs) = (c :: (numLoop cs).1, (numLoop cs).2) := by
  simp only [numLoop, hb, hg, ↓reduceIte, Bool.false_eq_true]

theorem numLoop_other (c : Char) (hb : ¬ isBasicWs c = true) (hg : ¬ (isAsciiDigit c || c == '.') = true) (cs : Str) :
    numLoop (c :: cs) = ([], c :: cs) := by
  simp only [numLoop, hb, hg, ↓reduceIte, Bool.false_eq_true]

theorem numLoop_view (cs : Str) : numLoop cs =
    match skipWs cs with
    | [] => ([], cs)
    | c :: t => if (isAsciiDigit c || c == '.') = true then (c :: (numLoop t).1, (numLoop t).2) else ([], cs) := by
  induction cs with
  | nil => rfl
  | cons c cs ih =>
    by_cases hb : isBasicWs c = true
    · rw [numLoop_blank c hb, skipWs_blank c cs hb, ih]
      cases skipWs cs with
      | nil => rfl
      | cons d t => by_cases hg : (isAsciiDigit d || d == '.') = true <;> simp [hg]
    · have hs : skipWs (c :: cs) = c :: cs := by simp only [skipWs, hb, ↓reduceIte, Bool.false_eq_true]
      rw [hs]
      by_cases hg : (isAsciiDigit c || c == '.') = true
      · simp only [numLoop_digit c hb hg, if_pos hg]
      · simp only [numLoop_other c hb hg, if_neg hg]

/-- the validity test of `chomp_symbol` for one character -/
def symValid (first : Bool) (c : Char) : Bool :=
  if first then isAsciiAlpha c else (isAsciiAlnum c || c == '$')

theorem symLoop_blank (first : Bool) (w : Char) (hw : isBasicWs w = true) (cs : Str) :
    symLoop first (w :: cs) = if (symLoop first cs).1.isEmpty then ([], w :: cs) else symLoop first cs := by
  simp only [symLoop, hw, ↓reduceIte]

theorem symLoop_nonblank (first : Bool) (c : Char) (hb : ¬ isBasicWs c = true) (cs : Str) :
    symLoop first (c :: cs) =
      if (!symValid first c) = true then ([], c :: cs)
      else if (c == '$') = true then ([c], cs)
      else if (chompAnyKeyword cs).isSome = true then ([asciiUpper c], cs)
      else (asciiUpper c :: (symLoop false cs).1, (symLoop false cs).2) := by
  simp only [symLoop, hb, ↓reduceIte, Bool.false_eq_true, symValid]
  rfl

theorem symLoop_invalid (first : Bool) (c : Char) (hb : ¬ isBasicWs c = true) (hv : symValid first c = false)
    (cs : Str) : symLoop first (c :: cs) = ([], c :: cs) := by
  rw [symLoop_nonblank first c hb, hv]; rfl

theorem symLoop_dollar (first : Bool) (c : Char) (hb : ¬ isBasicWs c = true) (hv : symValid first c = true)
    (hd : (c == '$') = true) (cs : Str) : symLoop first (c :: cs) = ([c], cs) := by
  rw [symLoop_nonblank first c hb, hv, if_pos hd]; rfl

theorem symLoop_kw (first : Bool) (c : Char) (hb : ¬ isBasicWs c = true) (hv : symValid first c = true)
    (hd : ¬ (c == '$') = true) (cs : Str) (hk : (chompAnyKeyword cs).isSome = true) :
    symLoop first (c :: cs) = ([asciiUpper c], cs) := by
  rw [symLoop_nonblank first c hb, hv, if_neg hd, if_pos hk]; rfl

theorem symLoop_more (first : Bool) (c : Char) (hb : ¬ isBasicWs c = true) (hv : symValid first c = true)
    (hd : ¬ (c == '$') = true) (cs : Str) (hk : ¬ (chompAnyKeyword cs).isSome = true) :
    symLoop first (c :: cs) = (asciiUpper c :: (symLoop false cs).1, (symLoop false cs).2) := by
  rw [symLoop_nonblank first c hb, hv, if_neg hd, if_neg hk]; rfl

theorem symLoop_view (first : Bool) (cs : Str) : symLoop first cs =
    match skipWs cs with
    | [] => ([], cs)
    | c :: t =>
      if symValid first c = false then ([], cs)
      else if (c == '$') = true then ([c], t)
      else if (chompAnyKeyword t).isSome = true then ([asciiUpper c], t)
      else (asciiUpper c :: (symLoop false t).1, (symLoop false t).2) := by
  induction cs with
  | nil => rfl
  | cons c cs ih =>
    by_cases hb : isBasicWs c = true
    · rw [symLoop_blank first c hb, skipWs_blank c cs hb, ih]
      cases skipWs cs with
      | nil => rfl
      | cons d t =>
        simp only
        split
        · rfl
        · split
          · rfl
          · split <;> rfl
    · have hs : skipWs (c :: cs) = c :: cs := by simp only [skipWs, hb, ↓reduceIte, Bool.false_eq_true]
      rw [hs, symLoop_nonblank first c hb]
      cases hv : symValid first c <;> simp [hv]

theorem skipWs_induction {P : Str → Prop} (nil : ∀ cs, skipWs cs = [] → P cs)
    (cons : ∀ cs c t, skipWs cs = c :: t → P t → P cs) (cs : Str) : P cs :=
  match h : skipWs cs with
  | [] => nil cs h
  | c :: t => cons cs c t h (skipWs_induction nil cons t)
termination_by cs.length
decreasing_by
  obtain ⟨pre, hp, _⟩ := C13.skipWs_suffix cs
  have := congrArg List.length (h ▸ hp)
  simp only [List.length_append, List.length_cons] at this
  omega

theorem dropBytes_zero (cs : Str) : dropBytes 0 cs = cs := by
  cases cs <;> simp [dropBytes]

theorem symValid_upperEq (first : Bool) {c d : Char} (hu : asciiUpper c = asciiUpper d) :
    symValid first c = symValid first d := by
  unfold symValid
  rw [upperEq_alpha hu, upperEq_alnum hu, upperEq_beq hu '$' (by decide)]

end Abasic.Props.C12

namespace Abasic.Props.C13
open Abasic

theorem skipWs_append_cons (m : Str) (c : Char) (r0 r : Str) (h : skipWs m = c :: r0) :
    skipWs (m ++ r) = c :: (r0 ++ r) := by
  induction m with
  | nil => simp [skipWs] at h
  | cons x m ih =>
    simp only [skipWs, List.cons_append] at h ⊢
    by_cases hx : isBasicWs x = true
    · simp only [hx, if_true] at h ⊢
      exact ih h
    · simp only [hx, Bool.false_eq_true, if_false] at h ⊢
      injection h with h1 h2
      rw [h1, h2]

theorem skipWs_blanks (ws : Str) (hws : ∀ x ∈ ws, isBasicWs x = true) (c : Char)
    (hc : isBasicWs c = false) (r : Str) : skipWs (ws ++ c :: r) = c :: r := by
  induction ws with
  | nil => simp [skipWs, hc]
  | cons x ws ih =>
    have hx : isBasicWs x = true := hws x (by simp)
    simp only [List.cons_append, skipWs, hx, if_true]
    exact ih (fun y hy => hws y (List.mem_cons_of_mem _ hy))

theorem skipWs_split (cs : Str) (c : Char) (r0 : Str) (h : skipWs cs = c :: r0) :
    ∃ ws, cs = ws ++ c :: r0 ∧ ∀ r1, skipWs (ws ++ c :: r1) = c :: r1 := by
  obtain ⟨ws, hws, hb⟩ := skipWs_suffix cs
  rw [h] at hws
  exact ⟨ws, hws, fun r1 => skipWs_blanks ws hb c (skipWs_nonblank cs c r0 h) r1⟩

theorem skipWs_eq_cons {cs : Str} {c : Char} {r : Str} (h : skipWs cs = c :: r) :
    ∃ ws, cs = ws ++ c :: r ∧ (∀ x ∈ ws, isBasicWs x = true) ∧ isBasicWs c = false := by
  obtain ⟨ws, hws, hb⟩ := skipWs_suffix cs
  exact ⟨ws, h ▸ hws, hb, skipWs_nonblank cs c r h⟩

end Abasic.Props.C13

namespace Abasic.Props.C14
open Abasic
open Abasic.Props.C12
open Abasic.Props.C13

/-- a digit or the decimal point: what `numLoop` collects -/
def digdot (c : Char) : Bool := isAsciiDigit c || c == '.'

theorem asciiUpper_of_not_lower (c : Char) (h : ¬ isAsciiLowerAlpha c = true) : asciiUpper c = c := by
  unfold asciiUpper; rw [if_neg h]

theorem upper_idem (c : Char) : asciiUpper (asciiUpper c) = asciiUpper c := by
  by_cases h : isAsciiLowerAlpha c = true
  · have hb := (lower_bounds c).mp h
    have hn : (asciiUpper c).toNat = c.toNat - 32 := by rw [asciiUpper_toNat, if_pos h]
    apply asciiUpper_of_not_lower
    intro hl
    have := (lower_bounds _).mp hl
    omega
  · rw [asciiUpper_of_not_lower c h, asciiUpper_of_not_lower c h]

theorem upper_of_not_alpha (c : Char) (h : isAsciiAlpha c = false) : asciiUpper c = c := by
  apply asciiUpper_of_not_lower
  intro hl
  unfold isAsciiAlpha at h
  rw [hl] at h
  simp at h

theorem ws_not_alpha (c : Char) (h : isBasicWs c = true) : isAsciiAlpha c = false := by
  cases ha : isAsciiAlpha c with
  | false => rfl
  | true =>
    have hb := (alpha_bounds c).mp ha
    unfold isBasicWs isAsciiWs at h
    simp only [Bool.and_eq_true, Bool.or_eq_true, beq_iff_eq, bne_iff_ne, ne_eq] at h
    rcases h.1 with (((h1 | h1) | h1) | h1) | h1 <;> (subst h1; revert hb; decide)

theorem alpha_not_ws (c : Char) (h : isAsciiAlpha c = true) : isBasicWs c = false := by
  cases hb : isBasicWs c with
  | false => rfl
  | true => rw [ws_not_alpha c hb] at h; cases h

theorem upper_ws (c : Char) : isBasicWs (asciiUpper c) = isBasicWs c := by
  by_cases ha : isAsciiAlpha c = true
  · rw [alpha_not_ws c ha, alpha_not_ws _ ((upperEq_alpha (upper_idem c)).trans ha)]
  · rw [upper_of_not_alpha c (by simpa using ha)]

theorem upper_digdot (c : Char) : digdot (asciiUpper c) = digdot c := by
  unfold digdot
  rw [upperEq_digit (upper_idem c), upperEq_beq (upper_idem c) '.' (by decide)]

theorem upper_symValid (first : Bool) (c : Char) : symValid first (asciiUpper c) = symValid first c :=
  symValid_upperEq first (upper_idem c)

theorem upper_eq_dollar (c : Char) : (asciiUpper c == '$') = (c == '$') :=
  upperEq_beq (upper_idem c) '$' (by decide)

theorem digdot_not_alpha (c : Char) (h : digdot c = true) : isAsciiAlpha c = false :=
  digitOrDot_not_alpha h

theorem digdot_not_ws (c : Char) (h : digdot c = true) : isBasicWs c = false := by
  cases hb : isBasicWs c with
  | false => rfl
  | true =>
    unfold digdot at h
    simp only [Bool.or_eq_true, beq_iff_eq] at h
    unfold isBasicWs isAsciiWs at hb
    simp only [Bool.and_eq_true, Bool.or_eq_true, beq_iff_eq, bne_iff_ne, ne_eq] at hb
    rcases h with h | h
    · have hd := (digit_bounds c).mp h
      rcases hb.1 with (((h1 | h1) | h1) | h1) | h1 <;> (subst h1; revert hd; decide)
    · subst h; revert hb; decide

theorem digdot_symValid_first (c : Char) (h : digdot c = true) : symValid true c = false := by
  unfold symValid; simp only [if_true]; exact digdot_not_alpha c h

def sq : Str → Str
  | [] => []
  | c :: cs => if isBasicWs c then sq cs else asciiUpper c :: sq cs

theorem sq_ws (w : Char) (cs : Str) (hw : isBasicWs w = true) : sq (w :: cs) = sq cs := by
  simp only [sq, hw, if_true]

theorem sq_nb (c : Char) (cs : Str) (hb : isBasicWs c = false) : sq (c :: cs) = asciiUpper c :: sq cs := by
  simp only [sq, hb, Bool.false_eq_true, if_false]

theorem sq_append (a b : Str) : sq (a ++ b) = sq a ++ sq b := by
  induction a with
  | nil => rfl
  | cons c a ih =>
    simp only [List.cons_append, sq]
    split
    · exact ih
    · rw [ih]; rfl

theorem sq_skipWs (cs : Str) : sq (skipWs cs) = sq cs := by
  induction cs with
  | nil => rfl
  | cons c cs ih =>
    simp only [skipWs]
    split
    · rename_i h; rw [sq_ws c cs h]; exact ih
    · rfl

theorem sq_of_skipWs_nil (cs : Str) (h : skipWs cs = []) : sq cs = [] := by
  rw [← sq_skipWs, h]; rfl

theorem sq_of_skipWs_cons (cs : Str) (c : Char) (r : Str) (h : skipWs cs = c :: r) :
    sq cs = asciiUpper c :: sq r := by
  rw [← sq_skipWs, h, sq_nb c r (skipWs_nonblank cs c r h)]

theorem skipWs_of_sq_nil (cs : Str) (h : sq cs = []) : skipWs cs = [] := by
  cases hs : skipWs cs with
  | nil => rfl
  | cons c r => rw [sq_of_skipWs_cons cs c r hs] at h; cases h

theorem skipWs_of_sq_cons (cs : Str) (x : Char) (q : Str) (h : sq cs = x :: q) :
    ∃ c r, skipWs cs = c :: r ∧ asciiUpper c = x ∧ sq r = q ∧ isBasicWs c = false := by
  cases hs : skipWs cs with
  | nil => rw [sq_of_skipWs_nil cs hs] at h; cases h
  | cons c r =>
    rw [sq_of_skipWs_cons cs c r hs] at h
    injection h with h1 h2
    exact ⟨c, r, rfl, h1, h2, skipWs_nonblank cs c r hs⟩

def Clean (s : Str) : Prop := ∀ c ∈ s, isBasicWs c = false ∧ asciiUpper c = c

theorem sq_clean (s : Str) (h : Clean s) : sq s = s := by
  induction s with
  | nil => rfl
  | cons c s ih =>
    have hc := h c (List.mem_cons_self ..)
    rw [sq_nb c s hc.1, hc.2, ih (fun x hx => h x (List.mem_cons_of_mem _ hx))]

/-- `pre ks q`: `ks` is a prefix of `q` -/
def pre : Str → Str → Bool
  | [], _ => true
  | _ :: _, [] => false
  | k :: ks, c :: q => (c == k) && pre ks q

def preTable (tbl : List (String × Kw)) (q : Str) : Bool := tbl.any (fun p => pre p.1.toList q)

def anyKw (q : Str) : Bool := preTable Extracted.keywords q

theorem pre_length {ks q : Str} (h : pre ks q = true) : ks.length ≤ q.length ∧ q.take ks.length = ks := by
  induction ks generalizing q with
  | nil => exact ⟨Nat.zero_le _, rfl⟩
  | cons k ks ih =>
    cases q with
    | nil => cases h
    | cons c q =>
      simp only [pre, Bool.and_eq_true, beq_iff_eq] at h
      obtain ⟨h1, h2⟩ := ih h.2
      exact ⟨Nat.succ_le_succ h1, by rw [List.length_cons, List.take_succ_cons, h2, h.1]⟩

theorem pre_self_append (ks q : Str) : pre ks (ks ++ q) = true := by
  induction ks with
  | nil => rfl
  | cons k ks ih => simp only [List.cons_append, pre, ih, beq_self_eq_true, Bool.and_self]

theorem pre_append_false {ks a b : Str} (h : pre ks (a ++ b) = false) : pre ks a = false := by
  induction ks generalizing a with
  | nil => cases h
  | cons k ks ih =>
    cases a with
    | nil => rfl
    | cons c a =>
      simp only [List.cons_append, pre, Bool.and_eq_false_iff] at h ⊢
      exact h.imp id ih

theorem anyKw_append_false {a b : Str} (h : anyKw (a ++ b) = false) : anyKw a = false := by
  unfold anyKw preTable at h ⊢
  rw [List.any_eq_false] at h ⊢
  exact fun p hp => by simpa using pre_append_false (by simpa using h p hp)

end Abasic.Props.C14

namespace Abasic
open Abasic.Props.C12 Abasic.Props.C13 Abasic.Props.C14

def afterNb : Nat → Str → Str
  | 0, cs => cs
  | n + 1, cs =>
    match skipWs cs with
    | [] => []
    | _ :: t => afterNb n t

theorem afterNb_succ_nil (n : Nat) {cs : Str} (h : skipWs cs = []) : afterNb (n + 1) cs = [] := by
  rw [afterNb, h]

theorem afterNb_succ_cons (n : Nat) {cs : Str} {c : Char} {t : Str} (h : skipWs cs = c :: t) :
    afterNb (n + 1) cs = afterNb n t := by
  rw [afterNb, h]

theorem sq_afterNb (n : Nat) (cs : Str) : sq (afterNb n cs) = (sq cs).drop n := by
  induction n generalizing cs with
  | zero => rfl
  | succ n ih =>
    cases hs : skipWs cs with
    | nil => rw [afterNb_succ_nil n hs, sq_of_skipWs_nil cs hs]; rfl
    | cons c t => rw [afterNb_succ_cons n hs, sq_of_skipWs_cons cs c t hs, ih]; rfl

theorem afterNb_cut {n : Nat} (cs : Str) (h0 : n ≠ 0) (hn : n ≤ (sq cs).length) :
    ∃ pre x, cs = pre ++ x :: afterNb n cs ∧ isBasicWs x = false ∧
      sq (pre ++ [x]) = (sq cs).take n ∧ ∀ y, afterNb n (pre ++ x :: y) = y := by
  induction n generalizing cs with
  | zero => exact absurd rfl h0
  | succ n ih =>
    cases hs : skipWs cs with
    | nil => rw [sq_of_skipWs_nil cs hs] at hn; cases hn
    | cons c t =>
      obtain ⟨ws, rfl, hsk⟩ := skipWs_split cs c t hs
      rw [sq_of_skipWs_cons _ c t hs] at hn ⊢
      rw [afterNb_succ_cons n hs]
      cases n with
      | zero =>
        exact ⟨ws, c, rfl, skipWs_nonblank _ c t hs, by rw [sq_of_skipWs_cons _ c [] (hsk [])]; rfl,
          fun y => by rw [afterNb_succ_cons 0 (hsk y)]; rfl⟩
      | succ m =>
        obtain ⟨pre, x, e, hx, h1, h2⟩ := ih t (Nat.succ_ne_zero m) (Nat.le_of_succ_le_succ hn)
        refine ⟨ws ++ c :: pre, x, by rw [List.append_assoc, List.cons_append, ← e], hx, ?_, fun y => ?_⟩
        · rw [List.append_assoc, List.cons_append, sq_of_skipWs_cons _ c _ (hsk (pre ++ [x])), h1]; rfl
        · rw [List.append_assoc, List.cons_append, afterNb_succ_cons _ (hsk (pre ++ x :: y)), h2]

theorem chompKeyword_nf (ks cs : Str) :
    chompKeyword ks cs = if pre ks (sq cs) = true then some (afterNb ks.length cs) else none := by
  induction ks generalizing cs with
  | nil => rfl
  | cons k ks ih =>
    cases hs : skipWs cs with
    | nil => simp only [chompKeyword, hs, sq_of_skipWs_nil cs hs, pre]; rfl
    | cons c r =>
      simp only [chompKeyword, hs, sq_of_skipWs_cons cs c r hs, pre, List.length_cons, afterNb_succ_cons _ hs, ih r,
        Bool.and_eq_true]
      by_cases hk : (asciiUpper c == k) = true <;> simp [hk]

end Abasic

namespace Abasic.Props.C14
open Abasic Abasic.Props.C12 Abasic.Props.C13

theorem chompKeyword_isSome (kw cs : Str) : (chompKeyword kw cs).isSome = pre kw (sq cs) := by
  rw [chompKeyword_nf]; cases pre kw (sq cs) <;> rfl

theorem chompKeyword_none (kw cs : Str) (h : pre kw (sq cs) = false) : chompKeyword kw cs = none := by
  rw [chompKeyword_nf, h]; rfl

theorem chompKeyword_sq (kw cs r : Str) (h : chompKeyword kw cs = some r) : sq cs = kw ++ sq r := by
  rw [chompKeyword_nf] at h
  split at h
  · next hp =>
    obtain rfl := Option.some.inj h
    rw [sq_afterNb]
    conv => rhs; lhs; rw [← (pre_length hp).2]
    exact (List.take_append_drop ..).symm
  · cases h

theorem chompKeywordTable_isSome (tbl : List (String × Kw)) (cs : Str) :
    (chompKeywordTable tbl cs).isSome = preTable tbl (sq cs) := by
  induction tbl with
  | nil => rfl
  | cons e rest ih =>
    simp only [chompKeywordTable, preTable, List.any_cons]
    rw [← chompKeyword_isSome]
    cases chompKeyword e.1.toList cs with
    | none => exact ih
    | some r => rfl

theorem chompAnyKeyword_isSome (cs : Str) : (chompAnyKeyword cs).isSome = anyKw (sq cs) :=
  chompKeywordTable_isSome _ cs

theorem chompAnyKeyword_none (cs : Str) (h : anyKw (sq cs) = false) : chompAnyKeyword cs = none :=
  Option.not_isSome_iff_eq_none.mp (by rw [chompAnyKeyword_isSome, h]; simp)

theorem chompKeywordTable_sq (tbl : List (String × Kw)) (cs : Str) (k : Kw) (r : Str)
    (h : chompKeywordTable tbl cs = some (k, r)) : ∃ w, (w, k) ∈ tbl ∧ sq cs = w.toList ++ sq r := by
  induction tbl with
  | nil => simp [chompKeywordTable] at h
  | cons e rest ih =>
    obtain ⟨w, k0⟩ := e
    simp only [chompKeywordTable] at h
    cases hc : chompKeyword w.toList cs with
    | none =>
      rw [hc] at h
      obtain ⟨w', hm, hs⟩ := ih h
      exact ⟨w', List.mem_cons_of_mem _ hm, hs⟩
    | some r0 =>
      rw [hc] at h
      simp only [Option.some.injEq, Prod.mk.injEq] at h
      obtain ⟨rfl, rfl⟩ := h
      exact ⟨w, List.mem_cons_self .., chompKeyword_sq _ _ _ hc⟩

end Abasic.Props.C14

namespace Abasic
open Abasic.Props.C12 Abasic.Props.C13 Abasic.Props.C14

theorem takeWhile_take (p : Char → Bool) (s : Str) :
    (s.take (s.takeWhile p).length).takeWhile p = s.takeWhile p := by
  induction s with
  | nil => rfl
  | cons c s ih =>
    by_cases h : p c = true
    · simp only [List.takeWhile_cons, h, if_true, List.length_cons, List.take_succ_cons, ih]
    · simp only [List.takeWhile_cons, h, if_false, Bool.false_eq_true, List.length_nil, List.take_zero, List.takeWhile_nil]

theorem numLoop_nf (cs : Str) :
    numLoop cs = ((sq cs).takeWhile digdot, afterNb ((sq cs).takeWhile digdot).length cs) := by
  induction cs using skipWs_induction with
  | nil cs hs => rw [numLoop_view, hs, sq_of_skipWs_nil cs hs]; rfl
  | cons cs c t hs ih =>
    rw [numLoop_view, hs, sq_of_skipWs_cons cs c t hs, List.takeWhile_cons, upper_digdot]
    change (if digdot c = true then _ else _) = _
    by_cases hg : digdot c = true
    · rw [if_pos hg, if_pos hg, ih, upper_of_not_alpha c (digdot_not_alpha c hg), List.length_cons, afterNb_succ_cons _ hs]
    · rw [if_neg hg, if_neg hg]; rfl

/-- `chomp_symbol` on a blank-free upper-cased text -/
def symG : Bool → Str → Str
  | _, [] => []
  | first, c :: q =>
    if symValid first c = false then []
    else if (c == '$') = true then [c]
    else if anyKw q = true then [c]
    else c :: symG false q

theorem symLoop_nf (first : Bool) (cs : Str) :
    symLoop first cs = (symG first (sq cs), afterNb (symG first (sq cs)).length cs) := by
  induction cs using skipWs_induction generalizing first with
  | nil cs hs => rw [symLoop_view, hs, sq_of_skipWs_nil cs hs]; rfl
  | cons cs c t hs ih =>
    rw [symLoop_view, hs, sq_of_skipWs_cons cs c t hs, symG, upper_symValid, upper_eq_dollar,
      ← chompAnyKeyword_isSome]
    dsimp only
    rw [ih false]
    split
    · rfl
    · split
      · next hd => rw [eq_of_beq hd, List.length_singleton, afterNb_succ_cons 0 hs]; rfl
      · split
        · rw [List.length_singleton, afterNb_succ_cons 0 hs]; rfl
        · rw [List.length_cons, afterNb_succ_cons _ hs]

theorem symG_prefix (first : Bool) (s : Str) : symG first s <+: s := by
  induction s generalizing first with
  | nil => exact List.prefix_rfl
  | cons c q ih =>
    rw [symG]
    split
    · exact List.nil_prefix
    · split
      · exact List.prefix_cons_inj c |>.mpr List.nil_prefix
      · split
        · exact List.prefix_cons_inj c |>.mpr List.nil_prefix
        · exact List.prefix_cons_inj c |>.mpr (ih false)

theorem symG_take (first : Bool) (s : Str) : symG first (s.take (symG first s).length) = symG first s := by
  induction s generalizing first with
  | nil => rfl
  | cons c q ih =>
    have one : symValid first c ≠ false → (c == '$') ≠ true → symG first [c] = [c] := fun hv hd => by
      rw [symG, if_neg hv, if_neg hd, if_neg (by decide)]; rfl
    rw [symG]
    split
    · rfl
    · next hv =>
      split
      · next hd => rw [List.length_singleton, List.take_succ_cons, List.take_zero, symG, if_neg hv, if_pos hd]
      · next hd =>
        split
        · exact one hv hd
        · next hk =>
          rw [List.length_cons, List.take_succ_cons, symG, if_neg hv, if_neg hd, ih false, if_neg]
          rw [Bool.not_eq_true] at hk ⊢
          exact anyKw_append_false (b := q.drop (symG false q).length) (by rw [List.take_append_drop]; exact hk)

end Abasic
