import Abasic.Proofs.SeqLData
/-
  A program as the statement lemmas see it.

  The statement evaluator never looks at the program as a whole.  What the lemmas on the statements of
  Ref/Stmt2.lean and Ref/Stmt3.lean need of it is collected in a `ProgView`: when the store holds the
  program, which locations are the addresses behind its statements, its DATA items, the output that was
  emitted before the records of the reference state, and whether it may hold INPUT statements.  `SeqL.view`
  is the view of a program of any statement type (Proofs/SeqLang.lean), well formed by `SeqL.view_wf`; the
  view of an `RProgram2` is made with it (`Prog2L.view`), those of an `RProgram3` (`Stmt3L.view`) and of a
  `ProgT` (`Stmt3T.view`) are given field by field.
-/
set_option linter.unusedSectionVars false

namespace Abasic.Stmt3L
open Abasic Abasic.ExprL Abasic.StmtL

variable {F : Type} [NumOps F]

theorem LineEnd3.noElse {rest : List (Token F)} (h : LineEnd3 rest) :
    ∀ t, rest.head? = some t → t.isKw .Else = false := by
  intro t ht
  rw [h.lineEnd t ht]; rfl

end Abasic.Stmt3L

namespace Abasic.Stmt3V
open Abasic Abasic.Ref Abasic.ExprL Abasic.StmtL Abasic.Stmt3L M
open Abasic.Prog2L (Rel2 flatItems remItems remItems_fresh next_spec)

variable {F : Type} [NumOps F]

structure ProgView (F : Type) [NumOps F] where
  /-- the store holds exactly the lines of the program -/
  Holds : Lines F → Prop
  /-- the reference position `(n, j)` against the model location right behind statement `j - 1` of line `n` -/
  Addr : Nat → Nat → Loc → Prop
  /-- all DATA items in program order, each with the number of its line -/
  data : List (Nat × DataElement F)
  /-- the DATA chunks `Lines.dataChunks` computes from the store -/
  chunks : List (Loc × List (DataElement F))
  /-- the output emitted before the records of the reference state (newest first) -/
  base : List Out
  /-- the program may hold INPUT statements: no reply is pending while another statement runs -/
  asks : Bool
  /-- the statements are of the full language of Ref/Stmt3.lean; `false`: they are statements of Ref/Stmt2.lean seen
      in the full language (`embS`) — no RND, no cell, no call of a user function, and no function is ever defined -/
  full : Bool

namespace ProgView
variable (p : ProgView F)

def Ret (a : Nat × Nat) (f : Frame F) : Prop := f.vars = [] ∧ p.Addr a.1 a.2 f.ret

def Loop (l : RLoop F) (i : LoopInfo F) : Prop :=
  i.sym = l.var ∧ i.toV = l.limit ∧ i.stepV = l.step ∧ p.Addr l.line l.idx i.loc

def Data (c : Nat) : Option (DataIter F) → Prop
  | none => c = 0
  | some it => it.chunks = p.chunks ∧ remItems it = (p.data.drop c).map fun x => (some x.1, x.2)

/-- what the lemmas use of a well-formed program (`RProgram3.WF`, `RProgramI.WF`) -/
structure WF : Prop where
  /-- an address is followed by the end of the line or a colon -/
  addr_at : ∀ {σ : St F} {m k : Nat}, p.Holds σ.lines → p.Addr m k σ.loc → ∃ pre post, At σ pre post ∧ LineEnd3 post
  noElse : ∀ {σ : St F}, p.Holds σ.lines → NoElseLine σ
  dataChunks : ∀ {l : Lines F}, p.Holds l → l.dataChunks = some p.chunks
  /-- the items of the DATA chunks are the DATA statements in program order -/
  flat : flatItems p.chunks = p.data.map fun x => (some x.1, x.2)

end ProgView

/-- the stack is invisible to variable look-up: a GOSUB frame binds nothing -/
theorem frames_rets {p : ProgView F} {rets : List (Nat × Nat)} {stack : List (Frame F)}
    (h : Rel2 (p.Ret) rets stack) : stack.map (·.vars) = rets.map fun _ => [] := by
  induction h with
  | nil => rfl
  | cons hd _ ih => simp only [List.map_cons, hd.1, ih]

theorem removeLoop_rel {p : ProgView F} {v : Str} {rl : List (RLoop F)} {ml : List (LoopInfo F)}
    (h : Rel2 (p.Loop) rl ml) :
    match findLoop v rl, removeLoop v ml with
    | none, none => True
    | some (l, rest), some (i, mrest) => p.Loop l i ∧ Rel2 (p.Loop) rest mrest
    | _, _ => False := by
  induction h with
  | nil => simp [findLoop, removeLoop]
  | @cons l i rl' ml' hd tl ih =>
    simp only [findLoop, removeLoop, hd.1]
    by_cases hv : (l.var == v) = true
    · simp only [hv, ↓reduceIte]
      exact ⟨hd, tl⟩
    · simp only [hv, Bool.false_eq_true, ↓reduceIte]
      exact ih

theorem afterRemove_rel {p : ProgView F} (v : Str) {rl : List (RLoop F)} {ml : List (LoopInfo F)}
    (h : Rel2 (p.Loop) rl ml) :
    Rel2 (p.Loop) (keptLoops v rl) (Props.C16.afterRemove v ml) := by
  have := removeLoop_rel (v := v) h
  unfold keptLoops Props.C16.afterRemove
  cases h1 : findLoop v rl with
  | none =>
    cases h2 : removeLoop v ml with
    | none => exact h
    | some x => rw [h1, h2] at this; exact this.elim
  | some x =>
    cases h2 : removeLoop v ml with
    | none => rw [h1, h2] at this; exact this.elim
    | some y => rw [h1, h2] at this; exact this.2

/-- `next_data_element` steps the DATA iterator (a fresh one over the chunks of the store at the first READ),
    whose remaining items are the DATA items from the cursor `c` on -/
theorem nextData_iter {p : ProgView F} {σ : St F} {c : Nat} (hh : p.Holds σ.lines) (hwf : p.WF)
    (hd : p.Data c σ.data) :
    ∃ it : DataIter F, nextDataElement σ = .ok (it.next (it.chunks.length + 1)).1
        { σ with data := some (it.next (it.chunks.length + 1)).2 } ∧
      it.chunks = p.chunks ∧ remItems it = ((p.data).drop c).map fun x => (some x.1, x.2) := by
  cases hdat : σ.data with
  | some it =>
    rw [hdat] at hd
    refine ⟨it, ?_, hd.1, hd.2⟩
    simp only [nextDataElement, bind, M.bindM, M.get, hdat, pure, M.pureM, M.modify]
  | none =>
    rw [hdat] at hd
    have hc0 : c = 0 := hd
    refine ⟨{ chunks := p.chunks }, ?_, rfl, ?_⟩
    · simp only [nextDataElement, bind, M.bindM, M.get, hdat, hwf.dataChunks hh, pure, M.pureM, M.modify]
    · rw [remItems_fresh, List.drop_zero, hwf.flat, hc0, List.drop_zero]

theorem nextData_some {p : ProgView F} {σ : St F} {c : Nat} (hh : p.Holds σ.lines) (hwf : p.WF)
    (hd : p.Data c σ.data) {ln : Nat} {d : DataElement F} (hc : (p.data)[c]? = some (ln, d)) :
    ∃ it' i, nextDataElement σ = .ok (some d) { σ with data := some it' } ∧ p.Data (c + 1) (some it') ∧
      ({ σ with data := some it' } : St F).dataLoc = some { line := some ln, idx := i } := by
  obtain ⟨it, hit, hchunks, hrem⟩ := nextData_iter hh hwf hd
  have hlt : c < (p.data).length := (List.getElem?_eq_some_iff.mp hc).1
  have hdropc : (p.data).drop c = (ln, d) :: (p.data).drop (c + 1) := by
    rw [List.drop_eq_getElem_cons hlt, (List.getElem?_eq_some_iff.mp hc).2]
  rw [hdropc] at hrem
  obtain ⟨hch, _, hsome⟩ := next_spec (it.chunks.length + 1) it (by omega)
  obtain ⟨h1, h2, h3⟩ := hsome (some ln) d _ hrem
  cases hcur : (it.next (it.chunks.length + 1)).2.chunks[(it.next (it.chunks.length + 1)).2.ci]? with
  | none => rw [hcur] at h3; cases h3
  | some ch =>
    rw [hcur] at h3
    simp only [Option.map_some, Option.some.injEq] at h3
    refine ⟨(it.next (it.chunks.length + 1)).2, ch.1.idx, ?_, ⟨by rw [hch, hchunks], h2⟩, ?_⟩
    · rw [hit, h1]
    · show ((it.next (it.chunks.length + 1)).2.chunks[(it.next (it.chunks.length + 1)).2.ci]?).map (·.1) = _
      rw [hcur]
      simp only [Option.map_some, Option.some.injEq]
      rw [← h3]

theorem nextData_none {p : ProgView F} {σ : St F} {c : Nat} (hh : p.Holds σ.lines) (hwf : p.WF)
    (hd : p.Data c σ.data) (hc : (p.data)[c]? = none) :
    ∃ it', nextDataElement σ = .ok none { σ with data := some it' } := by
  obtain ⟨it, hit, _, hrem⟩ := nextData_iter hh hwf hd
  have hle : (p.data).length ≤ c := List.getElem?_eq_none_iff.mp hc
  rw [List.drop_eq_nil_of_le hle] at hrem
  obtain ⟨_, hnone, _⟩ := next_spec (it.chunks.length + 1) it (by omega)
  exact ⟨_, by rw [hit, (hnone hrem).1]⟩

end Abasic.Stmt3V

namespace Abasic.SeqL
open Abasic Abasic.Ref Abasic.ExprL Abasic.StmtL Abasic.Stmt3L M
open Abasic.Prog2L (dataToks)
open Abasic.Stmt3V (ProgView)

variable {F : Type} [NumOps F] {S : Type}

def view (L : Lang F S) (dataOf : S → List (DataElement F)) (p : Prog S) (base : List Out) (asks full : Bool) :
    ProgView F where
  Holds l := Holds L l p
  Addr := Addr L p
  data := allData dataOf p
  chunks := chunks L p
  base := base
  asks := asks
  full := full

variable {L : Lang F S} {dataOf : S → List (DataElement F)}

theorem addr_at {p : Prog S} {σ : St F} (hh : Holds L σ.lines p) {m k : Nat}
    (ha : Addr L p m k σ.loc) : ∃ pre post, At σ pre post ∧ LineEnd3 post := by
  obtain ⟨ss, j0, s, hl, _, hs, hloc⟩ := ha
  refine ⟨L.pre ss j0 ++ L.render s, L.tail (ss.drop (j0 + 1)), ⟨?_, by rw [hloc, List.length_append]⟩,
    tail_lineEnd3 ss j0⟩
  rw [lineToks_of hh hl (by rw [hloc]), line_split ss j0 s hs, List.append_assoc]

theorem view_wf (hdata : ∀ s, dataToks (L.render s) = dataOf s) {p : Prog S} (hwf : WF p)
    (base : List Out) (asks full : Bool) : (view L dataOf p base asks full).WF :=
  ⟨fun hh ha => addr_at hh ha, noElse hwf, fun h => holds_dataChunks h hwf, flat_chunks hdata p⟩

end Abasic.SeqL
