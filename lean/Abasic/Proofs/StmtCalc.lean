import Abasic.Proofs.Stmt3Lemmas
/-
  C03, full statement language — how the statement lemmas step through a statement, for a `ProgView`.

  One activation of the statement evaluator reads the tokens of a statement from left to right.
  Between two steps the same facts hold: the model state realises the current reference state
  (`Sync`), whose function table is still that of the start (the side conditions of a statement
  speak of it), it is the start state a little later (`Start`), the cursor stands between what was
  read and what is left.  `Mid` is that bundle; a token read moves it on, and a statement that has
  read all its tokens has run to completion (`Mid.done`).

  Where the reference step evaluates something, the run either fails as the evaluation does (and
  then the statement has failed that way: `ErrFrom`), or goes on with the value in a `Mid` state
  for the new reference state: `Tracks`.  `Tracks.outcome` is the one way from there to what a
  statement lemma concludes (`Outcome3`), `Tracks.andThen` to a longer evaluation; both ask for
  the error case as an equation on the reference side only.  What expressions and subscripts do
  is stated as `Tracks` in Proofs/Stmt3Seq.lean.

  READ fails in a second way (DATA TYPE MISMATCH, located on the line of the DATA statement) and its
  reference result is a pair of a state and a control result: `Follows` is `Tracks` for such
  results, with `Follows.andThen` from target to target.
-/
set_option linter.unusedSectionVars false

namespace Abasic.Stmt2L
export Abasic.ExprL (accept_end)
end Abasic.Stmt2L

namespace Abasic.Stmt3V
open Abasic Abasic.Ref Abasic.ExprL Abasic.StmtL Abasic.ProgL Abasic.Prog3L Abasic.Stmt3L M

variable {F : Type} [NumOps F]

theorem bind_at {α β : Type} {m m' : M F α} {f : α → M F β} {σ σ' : St F} (h : m σ = m' σ') :
    (m >>= f) σ = (m' >>= f) σ' := by
  simp only [bind, M.bindM, h]

/-- the cursor behind the statement: from the two views of the line -/
theorem idx_after {σ σ' : St F} {pre S rest pf : List (Token F)} (h : At σ pre (S ++ rest)) (h' : At σ' pf rest)
    (hl : lineToks σ' = lineToks σ) : σ'.loc.idx = pre.length + S.length := by
  have h1 := h.1
  have h2 := h'.1
  rw [hl, h1] at h2
  simp only [Option.some.injEq] at h2
  have := congrArg List.length h2
  simp only [List.length_append] at this
  rw [h'.2]
  omega

/-- Inside the activation that started in `σ` with the reference state `r0`: the model state `τ` realises the
    reference state `r`, and the cursor stands between `pre` and `rest`. -/
structure Mid (p : ProgView F) (σ : St F) (r0 r : RState3 F) (τ : St F) (pre rest : List (Token F)) : Prop where
  sync : Sync p r τ
  fns : r.fns = r0.fns
  start : Start σ τ
  cur : At τ pre rest

section
variable {p : ProgView F} {σ τ : St F} {r0 r : RState3 F} {pre rest : List (Token F)}

theorem Mid.ofSync (hS : Sync p r σ) (hAt : At σ pre rest) : Mid p σ r r σ pre rest := ⟨hS, rfl, .refl σ, hAt⟩

theorem Mid.at {pre' rest' : List (Token F)} (h : Mid p σ r0 r τ pre rest) (hc : At τ pre' rest') :
    Mid p σ r0 r τ pre' rest' := ⟨h.sync, h.fns, h.start, hc⟩

theorem Mid.kept (h : Mid p σ r0 r τ pre rest) : Kept σ τ := h.start.kept

theorem Mid.nesting (h : Mid p σ r0 r τ pre rest) : τ.nesting = σ.nesting := h.start.kept.nesting

theorem Mid.past {a : List (Token F)} (h : Mid p σ r0 r τ pre (a ++ rest)) (k : Nat) :
    Mid p σ r0 r (mv τ a.length k) (pre ++ a) rest :=
  ⟨h.sync.mv _ k, h.fns, h.start.trans (start_mv _ _ _), at_mv h.cur k⟩

theorem Mid.mv1 {t : Token F} (h : Mid p σ r0 r τ pre (t :: rest)) (k : Nat) : Mid p σ r0 r (mv τ 1 k) (pre ++ [t]) rest :=
  h.past (a := [t]) k

theorem Mid.mv0 (h : Mid p σ r0 r τ pre rest) (k : Nat) : Mid p σ r0 r (mv τ 0 k) pre rest :=
  ⟨h.sync.mv 0 k, h.fns, h.start.trans (start_mv _ _ _), at_mv0 h.cur k⟩

theorem Mid.idx {pre0 S : List (Token F)} {n : Nat} (h : Mid p σ r0 r τ pre rest) (hl : σ.loc.line = some n)
    (h0 : At σ pre0 (S ++ rest)) : τ.loc.idx = pre0.length + S.length :=
  idx_after h0 h.cur (lineToks_start h.start hl)

theorem Mid.body {ev : Evals F} {t : Token F} (h : Mid p σ r0 r τ pre (t :: rest))
    {k : Option (Token F) → M F Unit} (hk : dispatch ev = next >>= k) :
    ∃ c, stmtBody ev τ = k (some t) (mv τ 1 c) ∧ Mid p σ r0 r (mv τ 1 c) (pre ++ [t]) rest :=
  ⟨_, stmtBody_tok h.cur h.sync.env.tracing hk, h.mv1 _⟩

theorem Mid.tok {t : Token F} (h : Mid p σ r0 r τ pre (t :: rest)) :
    ∃ c, next τ = .ok (some t) (mv τ 1 c) ∧ Mid p σ r0 r (mv τ 1 c) (pre ++ [t]) rest :=
  ⟨_, next_eq h.cur, h.mv1 _⟩

theorem Mid.expectKw {t : Token F} (h : Mid p σ r0 r τ pre (t :: rest)) {k : Kw} (hk : t.isKw k = true) :
    ∃ c, expect k τ = .ok () (mv τ 1 c) ∧ Mid p σ r0 r (mv τ 1 c) (pre ++ [t]) rest :=
  ⟨_, expect_eq h.cur hk, h.mv1 _⟩

theorem Mid.acceptKw {t : Token F} (h : Mid p σ r0 r τ pre (t :: rest)) {k : Kw} (hk : t.isKw k = true) :
    ∃ c, accept k τ = .ok true (mv τ 1 c) ∧ Mid p σ r0 r (mv τ 1 c) (pre ++ [t]) rest :=
  ⟨_, accept_true h.cur hk, h.mv1 _⟩

theorem Mid.acceptNone (h : Mid p σ r0 r τ pre rest) {k : Kw} (hk : ∀ t, rest.head? = some t → t.isKw k = false) :
    ∃ c, accept k τ = .ok false (mv τ 0 c) ∧ Mid p σ r0 r (mv τ 0 c) pre rest :=
  ⟨_, Stmt2L.accept_end h.cur hk, h.mv0 _⟩

theorem Mid.fails {α : Type} (h : Mid p σ r0 r τ pre rest) {τ' : St F} (hst : Start τ τ') {e : Err} {res : Res F α}
    (hr : res = .err { err := e } τ') : ErrFrom σ e res :=
  errFrom_at (h.start.trans hst) hr

theorem outcome_next {n j : Nat} {s : RStmt3 F} {pre0 pf : List (Token F)} {after eol : Nat} {r' : RState3 F}
    (hP : Pos p σ n j s pre0 rest after eol) (hk : Kept σ τ) (hl : τ.loc.line = σ.loc.line) (hM : Mem3 p r' τ)
    (hAt : At τ pf rest) : Outcome3 p σ n after eol (.ok () τ) r' .next := by
  refine ⟨τ, rfl, hk, hM, hl.trans hP.locline, Or.inl ?_⟩
  rw [hP.hafter]
  refine idx_after hP.cur hAt ?_
  unfold lineToks
  rw [hl, hP.locline, hk.lines]

theorem Mid.done {n j : Nat} {s : RStmt3 F} {pre0 pf : List (Token F)} {after eol : Nat}
    (hP : Pos p σ n j s pre0 rest after eol) (h : Mid p σ r0 r τ pf rest) :
    Outcome3 p σ n after eol (.ok () τ) r .next :=
  outcome_next hP h.kept h.start.line h.sync.mem h.cur

theorem Mid.line {n j : Nat} {s : RStmt3 F} {pre0 rest0 post : List (Token F)} {after eol : Nat}
    (hP : Pos p σ n j s pre0 rest0 after eol) (h : Mid p σ r0 r τ pre post) :
    pre ++ post = pre0 ++ (renderS3 s ++ rest0) := by
  have h1 := h.cur.1
  rw [lineToks_start h.start hP.locline, hP.cur.1] at h1
  exact (Option.some.inj h1).symm

/-- where a branch of the IF `s` stands: the end of the line is that of `s` -/
theorem Mid.pos {n j : Nat} {s t : RStmt3 F} {pre0 rest0 rest' : List (Token F)} {after eol : Nat}
    (hP : Pos p σ n j s pre0 rest0 after eol) (h : Mid p σ r0 r τ pre (renderS3 t ++ rest'))
    (haddr : LineEnd3 rest' → p.Addr n (j + 1) { line := some n, idx := pre.length + (renderS3 t).length }) :
    Pos p τ n j t pre rest' (pre.length + (renderS3 t).length) eol :=
  ⟨h.start.line.trans hP.locline, h.cur, rfl, by rw [hP.heol, h.line hP], haddr⟩

/-- … and a branch that ends where `s` ends stands in front of the same position -/
theorem Mid.posEnd {n j : Nat} {s t : RStmt3 F} {pre0 rest0 : List (Token F)} {after eol : Nat}
    (hP : Pos p σ n j s pre0 rest0 after eol) (h : Mid p σ r0 r τ pre (renderS3 t ++ rest0)) :
    Pos p τ n j t pre rest0 after eol := by
  have hl := congrArg List.length (h.line hP)
  simp only [List.length_append] at hl
  have ha : after = pre.length + (renderS3 t).length := by rw [hP.hafter]; omega
  exact ⟨h.start.line.trans hP.locline, h.cur, ha, by rw [hP.heol, h.line hP], hP.addr⟩

def Tracks {α β : Type} (p : ProgView F) (σ : St F) (r0 : RState3 F) (res : Res F α) (x : Except Err (β × RState3 F))
    (pre rest : List (Token F)) (K : β → M F α) : Prop :=
  match x with
  | .ok (b, r1) => ∃ τ, res = K b τ ∧ Mid p σ r0 r1 τ pre rest
  | .error e => e ≠ .dataTypeMismatch ∧ ErrFrom σ e res

theorem Tracks.outcome {β : Type} {res : Res F Unit} {x : Except Err (β × RState3 F)} {K : β → M F Unit}
    (h : Tracks p σ r0 res x pre rest K) {n after eol : Nat} {R : RState3 F × Ctl2}
    (herr : ∀ e, x = .error e → R.2 = .error e)
    (hok : ∀ b r1 τ, x = .ok (b, r1) → Mid p σ r0 r1 τ pre rest → Outcome3 p σ n after eol (K b τ) R.1 R.2) :
    Outcome3 p σ n after eol res R.1 R.2 := by
  cases x with
  | error e => rw [herr e rfl]; exact h
  | ok q =>
    obtain ⟨b, r1⟩ := q
    obtain ⟨τ, rfl, hm⟩ := h
    exact hok b r1 τ rfl hm

theorem Tracks.andThen {α β γ : Type} {res : Res F α} {x : Except Err (β × RState3 F)} {K : β → M F α}
    (h : Tracks p σ r0 res x pre rest K) {y : Except Err (γ × RState3 F)} {pre' rest' : List (Token F)} {K' : γ → M F α}
    (herr : ∀ e, x = .error e → y = .error e)
    (hok : ∀ b r1 τ, x = .ok (b, r1) → Mid p σ r0 r1 τ pre rest → Tracks p σ r0 (K b τ) y pre' rest' K') :
    Tracks p σ r0 res y pre' rest' K' := by
  cases x with
  | error e => rw [herr e rfl]; exact h
  | ok q =>
    obtain ⟨b, r1⟩ := q
    obtain ⟨τ, rfl, hm⟩ := h
    exact hok b r1 τ rfl hm

/-- `Tracks` for a part of the reference step whose result is the last argument; no other control result occurs. -/
def Follows {α : Type} (p : ProgView F) (σ : St F) (r0 : RState3 F) (res : Res F α) (pre rest : List (Token F))
    (K : M F α) : RState3 F × Ctl2 → Prop
  | (r', .next) => ∃ τ, res = K τ ∧ Mid p σ r0 r' τ pre rest
  | (_, .error e) => e ≠ .dataTypeMismatch ∧ ErrFrom σ e res
  | (_, .errorAt e ln) => e = .dataTypeMismatch ∧
      ∃ σ' i, res = .err { err := e } σ' ∧ σ'.dataLoc = some { line := some ln, idx := i } ∧ σ'.out = σ.out ∧
        σ'.nesting = σ.nesting
  | _ => True

variable {pre' rest' : List (Token F)}

theorem Tracks.follows {α β : Type} {res : Res F α} {x : Except Err (β × RState3 F)} {K : β → M F α}
    (h : Tracks p σ r0 res x pre rest K) {K' : M F α} {R : RState3 F × Ctl2}
    (herr : ∀ e, x = .error e → R.2 = .error e)
    (hok : ∀ b r1 τ, x = .ok (b, r1) → Mid p σ r0 r1 τ pre rest → Follows p σ r0 (K b τ) pre' rest' K' R) :
    Follows p σ r0 res pre' rest' K' R := by
  cases x with
  | error e =>
    obtain ⟨r', c⟩ := R
    cases (herr e rfl : c = _)
    exact h
  | ok q =>
    obtain ⟨b, r1⟩ := q
    obtain ⟨τ, rfl, hm⟩ := h
    exact hok b r1 τ rfl hm

theorem Follows.andThen {α : Type} {res : Res F α} {K K' : M F α} {R1 R : RState3 F × Ctl2}
    (h : Follows p σ r0 res pre rest K R1) (hstop : R1.2 ≠ .next → R = R1)
    (hok : ∀ τ, R1.2 = .next → Mid p σ r0 R1.1 τ pre rest → Follows p σ r0 (K τ) pre' rest' K' R) :
    Follows p σ r0 res pre' rest' K' R := by
  obtain ⟨r1, c⟩ := R1
  cases c with
  | next =>
    obtain ⟨τ, rfl, hm⟩ := h
    exact hok τ rfl hm
  | _ => rw [hstop (by simp)]; exact h

theorem Follows.outcome {res : Res F Unit} {K : M F Unit} {R : RState3 F × Ctl2}
    (h : Follows p σ r0 res pre rest K R) {n after eol : Nat}
    (hctl : R.2 = .next ∨ (∃ e, R.2 = .error e) ∨ ∃ e ln, R.2 = .errorAt e ln)
    (hok : ∀ τ, R.2 = .next → Mid p σ r0 R.1 τ pre rest → Outcome3 p σ n after eol (K τ) R.1 .next) :
    Outcome3 p σ n after eol res R.1 R.2 := by
  obtain ⟨r1, c⟩ := R
  cases c with
  | next =>
    obtain ⟨τ, rfl, hm⟩ := h
    exact hok τ rfl hm
  | error e => exact h
  | errorAt e ln => exact h
  | _ => rcases hctl with h | ⟨_, h⟩ | ⟨_, _, h⟩ <;> cases h

end

end Abasic.Stmt3V
