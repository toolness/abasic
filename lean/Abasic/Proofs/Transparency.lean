import Abasic.Proofs.Step
import Abasic.Proofs.CommuteLift
/-
  A relational ("simulation") reading of the interpreter, used by C07:
  two states that differ only in

    * the output queue — the same records were appended since the start, on top
      of two different bases `o`, `o'`, and
    * the immediate line — arbitrary, as long as neither the cursor nor any
      return address on the GOSUB/function stack nor any FOR loop points into it

  are taken by every action of the interpreter to equal results and states that
  are again related.
-/
set_option linter.unusedSectionVars false

namespace Abasic.Proofs.Sim
open Abasic M Hoare

variable {F : Type}

/-- the cursor, every return address and every loop start are in numbered lines -/
def Inv (σ : St F) : Prop :=
  σ.loc.line.isSome = true ∧ σ.stack.all (fun f => f.ret.line.isSome) = true ∧
    σ.loops.all (fun l => l.loc.line.isSome) = true

theorem removeLoop_inv (sym : Str) (P : LoopInfo F → Bool) :
    ∀ (ls : List (LoopInfo F)) (l : LoopInfo F) (rest : List (LoopInfo F)),
      ls.all P = true → removeLoop sym ls = some (l, rest) → P l = true ∧ rest.all P = true := by
  intro ls
  induction ls with
  | nil => intro l rest _ h; simp [removeLoop] at h
  | cons x xs ih =>
    intro l rest hall h
    simp only [List.all_cons, Bool.and_eq_true] at hall
    unfold removeLoop at h
    by_cases hx : (x.sym == sym) = true
    · rw [if_pos hx] at h
      simp only [Option.some.injEq, Prod.mk.injEq] at h
      obtain ⟨rfl, rfl⟩ := h
      exact hall
    · rw [if_neg hx] at h
      exact ih l rest hall.2 h

/-! what keeps `Inv`: a location stored is the cursor's, a location gone to was stored -/

theorem Inv.pushLoop {σ : St F} (hi : Inv σ) (sym : Str) (a b : F) :
    Inv { σ with loops := { loc := σ.loc, sym := sym, toV := a, stepV := b } :: σ.loops } :=
  ⟨hi.1, hi.2.1, by show List.all (_ :: _) _ = true; simp only [List.all_cons, hi.1, hi.2.2, Bool.and_self]⟩

theorem Inv.dropLoop {σ : St F} (hi : Inv σ) {sym : Str} {x : LoopInfo F} {rest : List (LoopInfo F)}
    (h : removeLoop sym σ.loops = some (x, rest)) : Inv { σ with loops := rest } :=
  ⟨hi.1, hi.2.1, (removeLoop_inv sym (fun l => l.loc.line.isSome) _ _ _ hi.2.2 h).2⟩

theorem Inv.loopBack {σ : St F} (hi : Inv σ) {sym : Str} {x : LoopInfo F} {rest : List (LoopInfo F)}
    (h : removeLoop sym σ.loops = some (x, rest)) : Inv { σ with loops := x :: rest, loc := x.loc } := by
  have := removeLoop_inv sym (fun l => l.loc.line.isSome) _ _ _ hi.2.2 h
  exact ⟨this.1, hi.2.1, by show List.all (_ :: _) _ = true; simp only [List.all_cons, this.1, this.2, Bool.and_self]⟩

/-- GOSUB and the call of a function: the cursor's location is pushed, the cursor goes into a numbered line -/
theorem Inv.push {σ : St F} (hi : Inv σ) (vars : List (Str × Value F)) (n i : Nat) (bp : Option (Nat × Nat)) :
    Inv { σ with bp := bp, loc := { line := some n, idx := i }, stack := { ret := σ.loc, vars := vars } :: σ.stack } :=
  ⟨rfl, by show List.all (_ :: _) _ = true; simp only [List.all_cons, hi.1, hi.2.1, Bool.and_self], hi.2.2⟩

/-- RETURN and the end of a call -/
theorem Inv.pop {σ : St F} (hi : Inv σ) {f : Frame F} {rest : List (Frame F)} (hs : σ.stack = f :: rest)
    (bp : Option (Nat × Nat)) : Inv { σ with bp := bp, stack := rest, loc := f.ret } := by
  have h2 := hi.2.1
  rw [hs] at h2
  simp only [List.all_cons, Bool.and_eq_true] at h2
  exact ⟨h2.1, h2.2, hi.2.2⟩

def Rel (o o' : List Out) (σ σ' : St F) : Prop :=
  ∃ pre im', σ.out = pre ++ o ∧ σ' = { σ with out := pre ++ o', imm := im' } ∧ (im' = σ.imm ∨ Inv σ)

def RelRes {α : Type} (o o' : List Out) : Res F α → Res F α → Prop
  | .ok a s, .ok a' s' => a = a' ∧ Rel o o' s s'
  | .err e s, .err e' s' => e = e' ∧ Rel o o' s s'
  | _, _ => False

structure SimM {α : Type} (o o' : List Out) (m : M F α) : Prop where
  run : ∀ σ σ', Rel o o' σ σ' → RelRes o o' (m σ) (m σ')

variable {o o' : List Out} {α β : Type}

theorem sim_pure (a : α) : SimM (F := F) o o' (pure a) := ⟨fun _ _ h => ⟨rfl, h⟩⟩

theorem at_bind {m m' : M F α} {f f' : α → M F β} {σ σ' : St F}
    (hm : RelRes o o' (m σ) (m' σ'))
    (hf : ∀ a s s', Rel o o' s s' → RelRes o o' (f a s) (f' a s')) :
    RelRes o o' ((m >>= f) σ) ((m' >>= f') σ') := by
  simp only [bind, M.bindM]
  cases r : m σ <;> cases r' : m' σ' <;> rw [r, r'] at hm
  · obtain ⟨rfl, hs⟩ := hm
    exact hf _ _ _ hs
  · exact hm.elim
  · exact hm.elim
  · exact hm

theorem sim_bind {m : M F α} {f : α → M F β} (hm : SimM o o' m) (hf : ∀ a, SimM o o' (f a)) :
    SimM o o' (m >>= f) :=
  ⟨fun σ σ' h => at_bind (hm.run σ σ' h) fun a s s' hs => (hf a).run s s' hs⟩

theorem sim_fail (e : Err) : SimM (F := F) (α := α) o o' (M.fail e) := ⟨fun _ _ h => ⟨rfl, h⟩⟩
theorem sim_throw (e : TErr) : SimM (F := F) (α := α) o o' (M.throw e) := ⟨fun _ _ h => ⟨rfl, h⟩⟩
theorem sim_rpanic (s : String) : SimM (F := F) (α := α) o o' (M.rpanic s) := ⟨fun _ _ h => ⟨rfl, h⟩⟩

theorem sim_ite {c : Prop} [Decidable c] {a b : M F α} (ha : SimM o o' a) (hb : SimM o o' b) :
    SimM o o' (if c then a else b) := by
  by_cases h : c
  · rw [if_pos h]; exact ha
  · rw [if_neg h]; exact hb

theorem sim_attempt {m : M F α} (hm : SimM o o' m) : SimM o o' (M.attempt m) := by
  constructor
  intro σ σ' h
  have h1 := hm.run σ σ' h
  simp only [M.attempt]
  cases r : m σ <;> cases r' : m σ' <;> rw [r, r'] at h1
  · exact ⟨by rw [h1.1], h1.2⟩
  · exact h1.elim
  · exact h1.elim
  · exact ⟨by rw [h1.1], h1.2⟩

theorem sim_read {f : St F → M F α} (hf : ∀ σ, SimM o o' (f σ))
    (hc : ∀ σ x y, f { σ with out := x, imm := y } = f σ) : SimM o o' (M.get >>= f) := by
  constructor
  intro σ σ' h
  have hr := h
  obtain ⟨pre, im', ho, rfl, hi⟩ := h
  show RelRes o o' (f σ σ) (f _ _)
  rw [hc σ (pre ++ o') im']
  exact (hf σ).run _ _ hr

theorem sim_modify {f : St F → St F} (h : ∀ σ σ', Rel o o' σ σ' → Rel o o' (f σ) (f σ')) :
    SimM o o' (M.modify f) := ⟨fun σ σ' hr => ⟨rfl, h σ σ' hr⟩⟩

theorem at_get_bind {f f' : St F → M F α} {σ σ' : St F}
    (h : RelRes o o' (f σ σ) (f' σ' σ')) : RelRes o o' ((M.get >>= f) σ) ((M.get >>= f') σ') := h

theorem at_set {s s' σ σ' : St F} (h : Rel o o' s s') :
    RelRes o o' (M.set s σ) (M.set s' σ') := ⟨rfl, h⟩

theorem at_rpanic (e : String) {σ σ' : St F} (h : Rel o o' σ σ') :
    RelRes (α := α) o o' (M.rpanic e σ) (M.rpanic e σ') := ⟨rfl, h⟩

theorem at_pure (a : α) {σ σ' : St F} (h : Rel o o' σ σ') :
    RelRes o o' ((pure a : M F α) σ) ((pure a : M F α) σ') := ⟨rfl, h⟩

theorem at_ite {c : Prop} [Decidable c] {a a' b b' : M F α} {σ σ' : St F}
    (ha : RelRes o o' (a σ) (a' σ')) (hb : RelRes o o' (b σ) (b' σ')) :
    RelRes o o' ((if c then a else b) σ) ((if c then a' else b') σ') := by
  by_cases h : c
  · rw [if_pos h, if_pos h]; exact ha
  · rw [if_neg h, if_neg h]; exact hb

/-! ### what reads or writes the immediate line -/

theorem sim_tokens : SimM (F := F) o o' tokens := by
  constructor
  intro σ σ' ⟨pre, im', ho, hs, hi⟩
  subst hs
  simp only [tokens, tokensForLine]
  cases hl : σ.loc.line with
  | none =>
    rcases hi with hi | hi
    · subst hi
      exact ⟨rfl, pre, σ.imm, ho, rfl, Or.inl rfl⟩
    · simp [Inv, hl] at hi
  | some n =>
    simp only
    cases σ.lines.get n with
    | none => exact ⟨rfl, pre, im', ho, rfl, hi⟩
    | some ts => exact ⟨rfl, pre, im', ho, rfl, hi⟩


theorem sim_endOfLine : SimM (F := F) o o' (M.get >>= fun s : St F =>
    (M.throw { err := .syntax .unexpectedEnd, loc := some s.loc } : M F (Token F))) :=
  sim_read (fun _ => sim_throw _) fun _ _ _ => rfl

theorem sim_rewindBeforeInput : SimM (F := F) o o' rewindBeforeInput := by
  unfold rewindBeforeInput
  refine sim_bind sim_tokens fun ts => ?_
  constructor
  intro σ σ' h
  refine at_get_bind ?_
  obtain ⟨pre, im', ho, rfl, hi⟩ := h
  dsimp only
  cases findInputBefore ts σ.loc.idx with
  | none => exact at_rpanic _ ⟨pre, im', ho, rfl, hi⟩
  | some i => exact at_set ⟨pre, im', ho, rfl, hi⟩

theorem rel_setImmediate {σ σ' : St F} (ts : List (Token F)) (h : Rel o o' σ σ') :
    Rel o o' (σ.setImmediate ts) (σ'.setImmediate ts) := by
  obtain ⟨pre, im', ho, rfl, hi⟩ := h
  exact ⟨pre, ts, ho, rfl, Or.inl rfl⟩

theorem sim_setImmediate (ts : List (Token F)) : SimM (F := F) o o' (setImmediate ts) := by
  unfold setImmediate
  exact sim_modify fun σ σ' h => rel_setImmediate ts h

theorem sim_breakAtCurrentLocation : SimM (F := F) o o' breakAtCurrentLocation := by
  unfold breakAtCurrentLocation
  refine sim_modify fun σ σ' h => ?_
  obtain ⟨pre, im', ho, rfl, hi⟩ := h
  exact ⟨.brk σ.loc.line :: pre, [], by simp [St.progBreak, St.setImmediate, ho], rfl, Or.inl rfl⟩

/-! ### everything else: from `Commutes`

  `Rel o o' σ σ'` says that `σ` and `σ'` are the images of one state `τ` (the base taken off the queue) under
  two normalisers `underN o σ.imm`, `underN o' im'`.  A computation that commutes with every such normaliser
  — Proofs/CommuteLift.lean shows that of every primitive that does not look at the immediate line — and
  keeps `Inv` (a `StmtFrame`, Proofs/Step.lean) therefore takes related states to related results. -/

variable [NumOps F]

def underN (o : List Out) (x : List (Token F)) : Norm F := { out := (· ++ o), imm := fun _ => x }

instance (o : List Out) (x : List (Token F)) : (underN (F := F) o x).Lawful where
  get _ _ := rfl
  has _ _ := rfl
  after _ _ := rfl
  first _ := rfl
  dataChunks _ := rfl
  list _ := rfl
  set_congr _ _ h _ _ := by cases h; rfl
  out_append l₁ l _ := List.append_assoc l₁ l o
  reads_add _ _ := rfl
  warn_out b _ _ _ := by cases b <;> rfl
  trace_out b _ _ := by cases b <;> rfl

def RI (σ σ' : St F) : Prop := Inv σ → Inv σ'

instance : IsFrame (RI (F := F)) := ⟨fun _ => id, fun h1 h2 h => h2 (h1 h)⟩

theorem ri_same {σ σ' : St F} (h1 : σ'.loc = σ.loc) (h2 : σ'.stack = σ.stack) (h3 : σ'.loops = σ.loops) :
    RI σ σ' := fun hi => by unfold Inv; rw [h1, h2, h3]; exact hi

scoped macro_rules | `(tactic| respects_leaf) => `(tactic| exact ri_same rfl rfl rfl)

theorem ri_cstep {σ σ' : St F} (h : CStep σ σ') : RI σ σ' := by
  cases h <;> exact fun hi => ⟨hi.1, hi.2.1, hi.2.2⟩

theorem ri_pushFunctionCall (name : Str) (b : List (Str × Value F)) : Respects RI (pushFunctionCall name b) :=
  respects_push b (fun σ d _ hi => hi.push b d.line d.idx σ.bp) name

theorem ri_popFunctionCall : Respects RI (popFunctionCall (F := F)) :=
  respects_pop fun σ _ _ hs hi => hi.pop hs σ.bp

theorem ri_dstep {σ σ' : St F} (h : DStep σ σ') : RI σ σ' := by
  cases h with
  | dropLoop sym x rest heq => exact fun hi => hi.dropLoop heq
  | pushLoop sym a b hc => exact fun hi => hi.pushLoop sym a b
  | _ => exact ri_same rfl rfl rfl

theorem ri_gstep {σ σ' : St F} (h : GStep σ σ') : RI σ σ' := by
  cases h with
  | loopBack sym x rest heq => exact fun hi => hi.loopBack heq
  | goto n hh => exact fun hi => ⟨rfl, hi.2.1, hi.2.2⟩
  | gosub n hc hh => exact fun hi => hi.push [] n 0 none
  | ret f rest hs => exact fun hi => hi.pop hs none
  | _ => exact fun hi => ⟨hi.1, hi.2.1, hi.2.2⟩

instance : StmtFrame (RI (F := F)) where
  vstep h := by cases h <;> exact ri_same rfl rfl rfl
  cstep := ri_cstep
  nested := nested_of_blind fun _ _ => ri_same rfl rfl rfl
  call := call_of_push_pop ri_cstep (fun σ b d _ hi => hi.push b d.line d.idx σ.bp) (fun σ f rest hs hi => hi.pop hs σ.bp)
  idx _ _ _ := fun hi => ⟨hi.1, hi.2.1, hi.2.2⟩
  dstep := ri_dstep
  gstep := ri_gstep

theorem sim_of_commutes {m : M F α} (hc : ∀ (o : List Out) (x : List (Token F)), Commutes (underN o x).app m)
    (hinv : Respects RI m) : SimM o o' m := by
  constructor
  rintro σ _ ⟨pre, im', ho, rfl, hi⟩
  have e1 : σ = (underN o σ.imm).app { σ with out := pre } := by
    show σ = { σ with lines := σ.lines, imm := σ.imm, out := pre ++ o }
    rw [← ho]
  have e2 : ({ σ with out := pre ++ o', imm := im' } : St F) = (underN o' im').app { σ with out := pre } := rfl
  have hi' := hinv.final { σ with out := pre }
  rw [e2, hc o' im' { σ with out := pre }]
  conv => lhs; rw [e1, hc o σ.imm { σ with out := pre }]
  cases hr : m { σ with out := pre } with
  | ok a s => rw [hr] at hi'; exact ⟨rfl, s.out, im', rfl, rfl, hi.imp_right fun h => hi' h⟩
  | err e s => rw [hr] at hi'; exact ⟨rfl, s.out, im', rfl, rfl, hi.imp_right fun h => hi' h⟩

theorem sim_modify_blind {f : St F → St F}
    (hc : ∀ (o : List Out) (x : List (Token F)) σ, f ((underN o x).app σ) = (underN o x).app (f σ))
    (hi : ∀ σ, RI σ (f σ)) : SimM o o' (M.modify f) :=
  sim_of_commutes (fun o x => commutes_modify (hc o x)) (respects_modify hi)

theorem sim_peek : SimM (F := F) o o' peek := by
  unfold peek
  exact sim_bind (sim_modify_blind (fun _ _ _ => rfl) fun _ => ri_same rfl rfl rfl) fun _ =>
    sim_bind sim_tokens fun ts => sim_read (fun _ => sim_pure _) fun _ _ _ => rfl

theorem sim_discardRemaining : SimM (F := F) o o' discardRemaining := by
  unfold discardRemaining
  exact sim_bind sim_tokens fun ts => sim_modify_blind (fun _ _ _ => rfl) fun _ hi => ⟨hi.1, hi.2.1, hi.2.2⟩

theorem sim_nested {m : M F α} (hm : SimM o o' m) : SimM o o' (nested m) :=
  sim_bind (sim_of_commutes (fun _ _ => commutes_enterNested) (enterNested_of_blind fun _ _ => ri_same rfl rfl rfl))
    fun _ => sim_bind (sim_attempt hm) fun r =>
    sim_bind (sim_of_commutes (fun _ _ => commutes_exitNested) (exitNested_of_blind fun _ _ => ri_same rfl rfl rfl))
      fun _ => by
      cases r with
      | ok a => exact sim_pure a
      | error e => exact sim_throw e

theorem sim_callBody (ev : Evals F) (name : Str) (b : List (Str × Value F)) (he : SimM o o' ev.expr) :
    SimM o o' (XF.callBody ev name b) := by
  have hpop : SimM (F := F) o o' popFunctionCall :=
    sim_of_commutes (fun _ _ => commutes_popFunctionCall) ri_popFunctionCall
  unfold XF.callBody
  refine sim_bind (sim_of_commutes (fun _ _ => commutes_pushFunctionCall _ _) (ri_pushFunctionCall _ _)) fun _ =>
    sim_bind (sim_attempt he) fun r => ?_
  cases r with
  | ok v => exact sim_bind hpop fun _ => sim_pure _
  | error e => exact sim_read (fun σ => sim_bind hpop fun _ => sim_throw (σ.populate e)) fun _ _ _ => rfl

theorem ri_nextLine : Respects RI (nextLine (F := F)) := by
  unfold nextLine
  refine respects_get_bind fun σ => ?_
  split
  · exact (respects_pure _).at σ
  · split
    · exact respectsAt_bind (respectsAt_set fun hi => ⟨rfl, hi.2.1, hi.2.2⟩) fun _ => respects_pure _
    · exact (respects_pure _).at σ

theorem ri_traceHere : Respects RI (traceHere (F := F)) := by
  unfold traceHere emit
  respects_tac

def cursor (o o' : List Out) : CursorWalk F where
  P m := SimM o o' m
  pure := sim_pure
  throw := sim_throw
  bind := sim_bind
  attempt := sim_attempt
  tokens := sim_tokens
  peek := sim_peek
  advance := sim_of_commutes (fun _ _ => commutes_advance) fr_advance
  endOfLine := sim_endOfLine

def walk (o o' : List Out) : Walk F where
  toCursorWalk := cursor o o'
  nested := sim_nested
  warnUndeclaredArray name := sim_of_commutes (fun _ _ => commutes_warnUndeclaredArray name) (fr_warnUndeclaredArray name)
  arrayGet name idx := sim_of_commutes (fun _ _ => commutes_arrayGet name idx) (fr_arrayGet name idx)
  rnd x := sim_of_commutes (fun _ _ => commutes_rnd x) (fr_rnd x)
  fnDef name := sim_of_commutes (fun _ _ => commutes_fnDef name) (fr_fnDef name)
  varRef sym := sim_of_commutes (fun _ _ => commutes_varRef sym) (fr_varRef sym)
  call ev name d he := walk_callArgs (cursor o o') ev he (fun b => sim_callBody ev name b he) d
  discardRemaining := sim_discardRemaining
  setVar name v := sim_of_commutes (fun _ _ => commutes_setVar name v) (fr_setVar name v)
  arraySet name idx v := sim_of_commutes (fun _ _ => commutes_arraySet name idx v) (fr_arraySet name idx v)
  arrayCreate name idx := sim_of_commutes (fun _ _ => commutes_arrayCreate name idx) (fr_arrayCreate name idx)
  gotoLine n := sim_of_commutes (fun _ _ => commutes_gotoLine n) (fr_gotoLine n)
  gosubLine n := sim_of_commutes (fun _ _ => commutes_gosubLine n) (fr_gosubLine n)
  returnFromGosub := sim_of_commutes (fun _ _ => commutes_returnFromGosub) fr_returnFromGosub
  setImmediate := sim_setImmediate
  startLoop sym a b c := sim_of_commutes (fun _ _ => commutes_startLoop sym a b c) (fr_startLoop sym a b c)
  endLoop sym := sim_of_commutes (fun _ _ => commutes_endLoop sym) (fr_endLoop sym)
  defineFunction name args := sim_of_commutes (fun _ _ => commutes_defineFunction name args) (fr_defineFunction name args)
  nextDataElement := sim_of_commutes (fun _ _ => commutes_nextDataElement) fr_nextDataElement
  restoreData := sim_modify_blind (fun _ _ _ => rfl) fun _ => ri_same rfl rfl rfl
  takeInput := sim_of_commutes (fun _ _ => commutes_takeInput) fr_takeInput
  rewindAndAwaitInput := sim_bind sim_rewindBeforeInput fun _ =>
    sim_modify_blind (fun _ _ _ => rfl) fun _ => ri_same rfl rfl rfl
  emit x h := sim_of_commutes (fun _ _ => commutes_emit x h) (fr_emit x h)
  breakAtCurrentLocation := sim_breakAtCurrentLocation
  traceHere := sim_of_commutes (fun _ _ => commutes_traceHere) ri_traceHere
  setRunning := sim_modify_blind (fun _ _ _ => rfl) fun _ => ri_same rfl rfl rfl
  nextLine := sim_of_commutes (fun _ _ => commutes_nextLine) ri_nextLine
  returnToIdle := sim_modify_blind (fun _ _ _ => rfl) fun _ => ri_same rfl rfl rfl

theorem sim_runNextStatement (fuel : Nat) : SimM (F := F) o o' (runNextStatement fuel) :=
  walk_runNextStatement (walk o o') fuel

theorem sim_postprocess {m : M F α} (hm : SimM o o' m) : SimM o o' (postprocess m) := by
  constructor
  intro σ σ' h
  have h1 := hm.run σ σ' h
  simp only [postprocess]
  cases r : m σ <;> cases r' : m σ' <;> rw [r, r'] at h1
  · exact h1
  · exact h1.elim
  · exact h1.elim
  · obtain ⟨rfl, pre, im', ho, rfl, hi⟩ := h1
    exact ⟨rfl, pre, im', ho, rfl, hi⟩


theorem sim_continueEvaluating (fuel : Nat) : SimM (F := F) o o' (continueEvaluating fuel) :=
  sim_read (fun _ => sim_ite (sim_rpanic _) (sim_postprocess (sim_runNextStatement fuel))) fun _ _ _ => rfl

theorem sim_provideInput (text : Str) : SimM (F := F) o o' (provideInput text) := by
  refine sim_of_commutes (fun _ _ => commutes_provideInput text) ?_
  unfold provideInput
  respects_tac

end Abasic.Proofs.Sim
