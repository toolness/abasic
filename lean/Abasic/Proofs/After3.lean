import Abasic.Proofs.ProgTyping
import Abasic.Proofs.TypeOf3
import Abasic.Proofs.Stmt3Static
/-
  Two facts about a program of `RProgram3` that `defsAgree_of_noDef` (Props/C06File3.lean) and the
  criterion "every DEF stands first" (Proofs/DefsFirst.lean) use: the successor of a line in an
  ascending program, and that a DEF-free statement defines nothing.
-/
set_option linter.unusedSectionVars false

namespace Abasic.Props.C06
open Abasic Abasic.Ref Abasic.ProgT

variable {F : Type} [NumOps F]

theorem after_at3 {done q : RProgram3 F} {n : Nat} {ss : List (RStmt3 F)}
    (h : ((done ++ (n, ss) :: q).map (·.1)).Pairwise (· < ·)) :
    RProgram3.after (done ++ (n, ss) :: q) n = q.head?.map (·.1) :=
  find_after_at h

theorem not_defines_of_defFree : ∀ (s : RStmt3 F) (name : Str) (d : FnDefSpec F), defFree s = true →
    ¬ Stmt3L.Defines s name d
  | .defS _ _ _, _, _, h => by simp [defFree] at h
  | .ifS _ a none, name, d, h => by
    simp only [defFree] at h
    simp only [Stmt3L.Defines]
    exact not_defines_of_defFree a name d h
  | .ifS _ a (some b), name, d, h => by
    simp only [defFree, Bool.and_eq_true] at h
    simp only [Stmt3L.Defines]
    exact fun h' => h'.elim (not_defines_of_defFree a name d h.1) (not_defines_of_defFree b name d h.2)
  | .letS _ _, _, _, _ => by simp [Stmt3L.Defines]
  | .printS _, _, _, _ => by simp [Stmt3L.Defines]
  | .gotoS _, _, _, _ => by simp [Stmt3L.Defines]
  | .endS, _, _, _ => by simp [Stmt3L.Defines]
  | .lineS _, _, _, _ => by simp [Stmt3L.Defines]
  | .forS _ _ _ _, _, _, _ => by simp [Stmt3L.Defines]
  | .nextS _, _, _, _ => by simp [Stmt3L.Defines]
  | .gosubS _, _, _, _ => by simp [Stmt3L.Defines]
  | .returnS, _, _, _ => by simp [Stmt3L.Defines]
  | .readS _, _, _, _ => by simp [Stmt3L.Defines]
  | .dataS _, _, _, _ => by simp [Stmt3L.Defines]
  | .restoreS, _, _, _ => by simp [Stmt3L.Defines]
  | .dimS _ _, _, _, _ => by simp [Stmt3L.Defines]
  | .letCellS _ _ _, _, _, _ => by simp [Stmt3L.Defines]

end Abasic.Props.C06
