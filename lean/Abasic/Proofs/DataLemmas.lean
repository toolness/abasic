import Abasic.Props.C14More
import Abasic.Proofs.DataRun
/-
  The DATA item parser and blanks: a blank outside quotes, in front of or behind an item, does not
  change the items (`DataParser.Sim`, `sim_blank_start`, `sim_blank_end`, `blank_end_finish`).
-/
namespace Abasic
open Props.C14 (AllWs allWs_append allWs_singleton trimStart_ws_append trim_eq_nil_iff trim_append_ws)
variable {F : Type} [NumOps F]

theorem isUnicodeWs_of_isBasicWs (w : Char) (hw : isBasicWs w = true) : isUnicodeWs w = true := by
  simp only [isBasicWs, isAsciiWs, Bool.and_eq_true, Bool.or_eq_true, beq_iff_eq] at hw
  rcases hw.1 with (((rfl | rfl) | rfl) | rfl) | rfl <;> decide

theorem isBasicWs_cases (w : Char) (hw : isBasicWs w = true) : w ≠ ':' ∧ w ≠ ',' ∧ w ≠ '"' := by
  simp only [isBasicWs, isAsciiWs, Bool.and_eq_true, Bool.or_eq_true, beq_iff_eq] at hw
  rcases hw.1 with (((rfl | rfl) | rfl) | rfl) | rfl <;> decide

namespace DataParser

/-- Two parser states that agree on everything the items depend on, up to blanks in
    front of the current unquoted item. -/
def Sim (p p' : DataParser F) : Prop :=
  p.inQuote = p'.inQuote ∧ p.elements = p'.elements ∧ p.finished = p'.finished ∧
  (p.inQuote = true → p.cur = p'.cur) ∧
  (p.inQuote = false → ∀ s, trimStart (p.cur ++ s) = trimStart (p'.cur ++ s))

theorem Sim.finish {p p' : DataParser F} (h : Sim p p') : Sim p.finish p'.finish := by
  obtain ⟨q, els, ch, cur, fin⟩ := p
  obtain ⟨q', els', ch', cur', fin'⟩ := p'
  obtain ⟨h1, h2, h3, h4, h5⟩ := h
  simp only at h1 h2 h3 h4 h5
  subst h1; subst h2; subst h3
  cases q with
  | true =>
    have := h4 rfl
    subst this
    by_cases he : trim cur = [] <;> by_cases hl : els = [] <;> cases fin <;>
    simp [Sim, DataParser.finish, pushCurrent, he, hl]
  | false =>
    have hs := h5 rfl
    -- outside quotes the parser reads `cur` only through `trim cur` (the tests for an empty item, the item that
    -- `pushCurrent` stores): `ht` gives both sides the same arm and the same item, here and in `Sim.parseChar`;
    -- where `cur` stays or grows, `hs` is the `Sim` after
    have ht : trim cur' = trim cur := by
      have := hs []
      simp only [List.append_nil] at this
      unfold trim; rw [this]
    by_cases he : trim cur = [] <;> by_cases hl : els = [] <;> cases fin <;>
    simp [Sim, DataParser.finish, pushCurrent, ht, he, hl, hs]

theorem Sim.parseChar {p p' : DataParser F} (h : Sim p p') (c : Char) : Sim (p.parseChar c) (p'.parseChar c) := by
  -- an unquoted colon is `finish`; taken first, it keeps `finish` and its test on `elements` out of the split below
  by_cases h1 : p.inQuote = false ∧ c = ':'
  · rw [h1.2, parseChar_colon p h1.1, parseChar_colon p' (h.1 ▸ h1.1)]
    exact h.finish
  obtain ⟨q, els, ch, cur, fin⟩ := p
  obtain ⟨q', els', ch', cur', fin'⟩ := p'
  obtain ⟨h0, h2, h3, h4, h5⟩ := h
  simp only at h0 h1 h2 h3 h4 h5
  subst h0; subst h2; subst h3
  cases q with
  | true =>
    have := h4 rfl
    subst this
    unfold DataParser.parseChar Sim
    by_cases hc : (c == '"') = true <;> cases fin <;> simp [hc, pushCurrent]
  | false =>
    have hs := h5 rfl
    have ht : trim cur' = trim cur := by
      have := hs []
      simp only [List.append_nil] at this
      unfold trim; rw [this]
    have h1 : (c == ':') = false := by simpa using h1
    unfold DataParser.parseChar Sim
    by_cases he : trim cur = [] <;> by_cases h2 : (c == ',') = true <;>
    by_cases h3 : (c == '"') = true <;> cases fin <;>
    simp [h1, h2, h3, pushCurrent, ht, he, hs]

theorem Sim.run {p p' : DataParser F} (h : Sim p p') (s : Str) : Sim (run p s) (run p' s) := by
  induction s generalizing p p' with
  | nil => exact h
  | cons c cs ih =>
    have hc := h.parseChar c
    rw [run_cons, run_cons, ← hc.2.2.1]
    by_cases hf : (p.parseChar c).finished = true
    · rw [if_pos hf, if_pos hf]; exact hc
    · rw [if_neg hf, if_neg hf]; exact ih hc

theorem parseChar_blank (p : DataParser F) (w : Char) (hw : isBasicWs w = true) (hq : p.inQuote = false)
    (hf : p.finished = false) :
    p.parseChar w = { p with cur := p.cur ++ [w], chomped := p.chomped + w.utf8Size } := by
  obtain ⟨h1, h2, h3⟩ := isBasicWs_cases w hw
  obtain ⟨q, els, ch, cur, fin⟩ := p
  simp only at hq hf
  subst hq; subst hf
  simp [DataParser.parseChar, h1, h2, h3]

theorem sim_blank_start (p : DataParser F) (w : Char) (hw : isBasicWs w = true) (hq : p.inQuote = false)
    (hf : p.finished = false) (he : trim p.cur = []) : Sim (p.parseChar w) p := by
  rw [parseChar_blank p w hw hq hf]
  refine ⟨rfl, rfl, rfl, ?_, ?_⟩
  · intro h; simp only at h; rw [hq] at h; cases h
  · intro _ s
    have ha := (trim_eq_nil_iff _).mp he
    simp only
    rw [trimStart_ws_append _ s (allWs_append ha (allWs_singleton (isUnicodeWs_of_isBasicWs w hw))),
      trimStart_ws_append _ s ha]

theorem sim_blank_end (p : DataParser F) (w t : Char) (hw : isBasicWs w = true) (hq : p.inQuote = false)
    (hf : p.finished = false) (ht : t = ',' ∨ t = ':') :
    Sim ((p.parseChar w).parseChar t) (p.parseChar t) := by
  rw [parseChar_blank p w hw hq hf]
  have hu := isUnicodeWs_of_isBasicWs w hw
  obtain ⟨q, els, ch, cur, fin⟩ := p
  simp only at hq hf
  subst hq; subst hf
  have htr := trim_append_ws cur w hu
  have hall : trim cur = [] → ∀ s, trimStart (cur ++ w :: s) = trimStart (cur ++ s) := by
    intro he s
    have e : cur ++ w :: s = (cur ++ [w]) ++ s := by simp
    rw [e]
    have ha := (trim_eq_nil_iff _).mp he
    rw [trimStart_ws_append _ s (allWs_append ha (allWs_singleton hu)), trimStart_ws_append _ s ha]
  unfold Sim DataParser.parseChar
  by_cases he : trim cur = [] <;> by_cases hl : els = [] <;> rcases ht with rfl | rfl <;>
  simp [finish, pushCurrent, htr, he, hl, hall]

theorem blank_end_finish (p : DataParser F) (w : Char) (hw : isBasicWs w = true) (hq : p.inQuote = false)
    (hf : p.finished = false) : (p.parseChar w).finish.elements = p.finish.elements := by
  rw [parseChar_blank p w hw hq hf]
  have hu := isUnicodeWs_of_isBasicWs w hw
  obtain ⟨q, els, ch, cur, fin⟩ := p
  simp only at hq hf
  subst hq; subst hf
  have htr := trim_append_ws cur w hu
  by_cases he : trim cur = [] <;> by_cases hl : els = [] <;>
  simp [finish, pushCurrent, htr, he, hl]

end DataParser

end Abasic
