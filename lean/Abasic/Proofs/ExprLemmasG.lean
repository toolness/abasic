import Abasic.Proofs.Expr2WarnInd
/-
  C02 `eval_render`: for every syntax tree `e` of `Ref.Expr`, the tiers of the
  token-stream evaluator run on `render e` compute `foldE e`, on ANY state in
  which no stack frame binds a variable and warnings are off (`Quiet`; GOSUB
  frames carry no bindings; Proofs/ExprLemmas.lean specialises to `stack = []`).

  The statements `AStmt`, `PStmt`, `SStmt` are those of the induction of
  Proofs/Expr2WarnInd.lean and follow from it: `e` is read as a tree of the full language (`emb`),
  the state stands for the environment `envOf σ []`, and that induction, which
  for trees without RND, cells and calls asks nothing of the state (`Inv.plain`),
  is applied; on a quiet state `fold3` of such a tree is `foldE` (`fold3_emb`).
-/
namespace Abasic.ExprG
open Abasic Abasic.Ref Abasic.ExprL Abasic.ExprL2 Abasic.Names M
open Abasic.ExprL3 (Inv Tracks PStmt2 SStmt2 AStmt2)
open Abasic.Props.C06 (emb prec_emb render2_emb depth2_emb resolved_emb fold2_emb)

variable {F : Type} [NumOps F]

theorem getVar_nest (σ : St F) (k : Nat) : getVar (nest σ k) = getVar σ := rfl

/-- the part of the state that variable look-up consults besides `vars` -/
def Quiet (σ : St F) : Prop := (∀ sym, findInStack sym σ.stack = none) ∧ σ.warnings = false

omit [NumOps F] in
theorem quiet_of_nil {σ : St F} (h : σ.stack = []) (hw : σ.warnings = false) : Quiet σ :=
  ⟨fun _ => by rw [h]; rfl, hw⟩

omit [NumOps F] in
theorem Quiet.mv {σ : St F} (h : Quiet σ) (n r : Nat) : Quiet (ExprL.mv σ n r) := h
omit [NumOps F] in
theorem Quiet.nest {σ : St F} (h : Quiet σ) (k : Nat) : Quiet (ExprL.nest σ k) := h

/-- number of operators of tier `k` on the left spine of `e` -/
def spine (k : Nat) : Expr F → Nat
  | .bin op l _ => if 6 - BinOp.prec op = k then spine k l + 1 else 0
  | _ => 0

/-- atoms, parsed by `parenExpr` -/
def AStmt (e : Expr F) : Prop :=
  ∀ (f : Nat) (σ : St F) (pre rest : List (Token F)),
    depth e ≤ f → σ.nesting + depth e ≤ Extracted.nestingLimit → e.prec = 8 →
    Ends 0 rest → At σ pre (render e ++ rest) → Quiet σ →
    Agrees (parenExpr (evalN f) σ) (foldE (getVar σ) e) σ
      (fun v r => .ok v (mv σ (render e).length r))

/-- any tier at or below the strength of `e` parses `render e` -/
def PStmt (e : Expr F) : Prop :=
  ∀ (f j : Nat) (σ : St F) (pre rest : List (Token F)),
    depth e ≤ f → σ.nesting + depth e ≤ Extracted.nestingLimit → lv e ≤ j → j ≤ 6 →
    Ends j rest → At σ pre (render e ++ rest) → Quiet σ →
    Agrees (tier (evalN f) j σ) (foldE (getVar σ) e) σ
      (fun v r => .ok v (mv σ (render e).length r))

/-- spine statement: the loop of tier `k+1`, started with `spine k e` iterations
    more than `n`, is after `render e` the loop with `n` iterations left -/
def SStmt (e : Expr F) : Prop :=
  ∀ (f k n : Nat) (g : Nat → Nat) (σ : St F) (pre rest : List (Token F)),
    depth e ≤ f → σ.nesting + depth e ≤ Extracted.nestingLimit → lv e ≤ k + 1 → k < 6 →
    Ends k rest → At σ pre (render e ++ rest) → Quiet σ →
    g ((pre ++ (render e ++ rest)).length + 1) = n + spine k e →
    Agrees ((tier (evalN f) k >>= fun v => lineBudget >>= fun b =>
              levelLoop (tier (evalN f) k) (opsAt k) (g b) v) σ)
      (foldE (getVar σ) e) σ
      (fun v r => levelLoop (tier (evalN f) k) (opsAt k) n v (mv σ (render e).length r))

/-- the recursive entry `ev.expr`, one nesting level and one unit of fuel deeper -/
theorem expr_eq (x : Expr F) (hx : PStmt x) (f : Nat) (σ : St F) (pre rest : List (Token F))
    (hd : depth x + 1 ≤ f) (hn : σ.nesting + (depth x + 1) ≤ Extracted.nestingLimit)
    (hE : Ends 6 rest) (hAt : At σ pre (render x ++ rest)) (hq : Quiet σ) :
    Agrees ((evalN f).expr σ) (foldE (getVar σ) x) σ
      (fun v r => .ok v (mv σ (render x).length r)) := by
  obtain ⟨f', rfl⟩ : ∃ f', f = f' + 1 := ⟨f - 1, by omega⟩
  exact expr_of_tier (by omega) (hx f' 6 (nest σ (σ.nesting + 1)) pre rest (by omega)
    (by simp only [nest_nesting]; omega) (lv_le_six x) (Nat.le_refl _) hE (at_nest hAt _) (hq.nest _))

/-- the environment a state stands for, given the (spec) function table -/
def envOf (σ : St F) (fns : List (Str × FnDefSpec F)) : WEnv F :=
  { vars := σ.vars, frames := σ.stack.map (·.vars), arrays := σ.arrays, rng := σ.rng, fns := fns,
    out := σ.out, warn := σ.warnings, line := σ.loc.line, sfns := σ.fns }

omit [NumOps F] in
theorem tracks_envOf (σ : St F) (fns : List (Str × FnDefSpec F)) : Tracks σ (envOf σ fns) :=
  ⟨rfl, rfl, rfl, rfl, rfl, rfl, rfl, rfl⟩

omit [NumOps F] in
theorem spine2_emb (k : Nat) (e : Expr F) : spine2 k (emb e) = spine k e := by
  induction e with
  | bin op l r ih _ => simp only [emb, spine2, spine, ih]
  | _ => rfl

theorem lookup_quiet {σ : St F} (hq : Quiet σ) (fns : List (Str × FnDefSpec F)) : (envOf σ fns).lookup = getVar σ := by
  funext x; rw [ExprL3.lookup_eq (tracks_envOf σ fns), hq.1 x]

theorem fold3_emb (n : Nat) {σ : St F} (hq : Quiet σ) (e : Expr F) :
    fold3 n (envOf σ []) (emb e) = (foldE (getVar σ) e).map fun v => (v, envOf σ []) := by
  rw [fold3_off _ _ _ hq.2, fold2_emb, lookup_quiet hq]
  cases foldE (getVar σ) e <;> rfl

/-- an agreement of the kind `Inv.plain` claims, with the environment the state stands for, is an `Agrees` -/
theorem agrees_of_plain {α : Type} {res : Res F α} {σ : St F} {ev : Except Err (Value F)} {len : Nat}
    {k : Value F → St F → Res F α}
    (h : Agrees2 (Inv.plain (F := F)).err res (ev.map fun v => (v, envOf σ [])) σ
      (fun v env' r => k v (ExprL3.upd σ len r env'))) :
    Agrees res ev σ (fun v r => k v (mv σ len r)) := by
  cases ev with
  | error x =>
    obtain ⟨te, σ', h1, h2, h3, h4⟩ := h
    refine ⟨σ', ?_, h4⟩
    rw [h1]; congr 1
    cases te; simp only at h2 h3; subst h2 h3; rfl
  | ok v =>
    obtain ⟨r, hr, h1⟩ := h
    exact ⟨r, hr, by rw [h1]; show k v _ = _; rw [(tracks_envOf σ []).upd_eq]⟩

theorem pstmt_of_plain {e : Expr F} (h : PStmt2 Inv.plain 0 (emb e)) : PStmt e := by
  intro f j σ pre rest hd hn hlv hj hE hAt hq
  have := h f j σ (envOf σ []) pre rest ((depth2_emb _ 0 e).symm ▸ hd) ((depth2_emb _ 0 e).symm ▸ hn)
    (by unfold lv2; rw [prec_emb]; exact hlv) hj hE (by rw [render2_emb]; exact hAt) (tracks_envOf σ [])
    (resolved_emb _ e)
  rw [fold3_emb 0 hq, render2_emb] at this
  exact agrees_of_plain this

theorem sstmt_of_plain {e : Expr F} (h : SStmt2 Inv.plain 0 (emb e)) : SStmt e := by
  intro f k n g σ pre rest hd hn hlv hk hE hAt hq hg
  have := h f k n g σ (envOf σ []) pre rest ((depth2_emb _ 0 e).symm ▸ hd) ((depth2_emb _ 0 e).symm ▸ hn)
    (by unfold lv2; rw [prec_emb]; exact hlv) hk hE (by rw [render2_emb]; exact hAt) (tracks_envOf σ [])
    (resolved_emb _ e) (by rw [render2_emb, spine2_emb]; exact hg)
  rw [fold3_emb 0 hq, render2_emb] at this
  exact agrees_of_plain this

theorem astmt_of_plain {e : Expr F} (h : AStmt2 Inv.plain 0 (emb e)) : AStmt e := by
  intro f σ pre rest hd hn hp hE hAt hq
  have := h f σ (envOf σ []) pre rest ((depth2_emb _ 0 e).symm ▸ hd) ((depth2_emb _ 0 e).symm ▸ hn)
    (by rw [prec_emb]; exact hp) hE (by rw [render2_emb]; exact hAt) (tracks_envOf σ []) (resolved_emb _ e)
  rw [fold3_emb 0 hq, render2_emb] at this
  exact agrees_of_plain this

/-- the induction of Proofs/Expr2WarnInd.lean on the trees without RND, cells and calls: any state will do -/
theorem main_plain (n : Nat) (e : Expr F) :
    PStmt2 Inv.plain n (emb e) ∧ SStmt2 Inv.plain n (emb e) ∧ AStmt2 Inv.plain n (emb e) := by
  induction e with
  | num x => exact ExprL3.main3_atom _ (ExprL3.A2_num _ n x) rfl
  | str s => exact ExprL3.main3_atom _ (ExprL3.A2_str _ n s) rfl
  | var v => exact ExprL3.main3_atom _ (ExprL3.A2_var _ n v) rfl
  | paren x ih => exact ⟨ExprL3.P2_paren _ n _ ih.1, ExprL3.S2_paren _ n _ ih.1, ExprL3.A2_paren _ n _ ih.1⟩
  | bin op l r ihl ihr =>
    exact ⟨ExprL3.P2_bin _ n op _ _ ihl.1 ihl.2.1 ihr.1, ExprL3.S2_bin _ n op _ _ ihl.1 ihl.2.1 ihr.1,
      ExprL3.A2_bin _ n op _ _⟩
  | un op x ih =>
    have hP := ExprL3.P2_un _ n op _ ih.1 ih.2.2
    exact ⟨hP, ExprL3.S2_atom _ n _ hP rfl, ExprL3.A2_un _ n op _⟩
  | abs x ih => exact ExprL3.main3_atom _ (ExprL3.A2_abs _ n _ ih.1) rfl
  | int x ih => exact ExprL3.main3_atom _ (ExprL3.A2_int _ n _ ih.1) rfl

theorem main (e : Expr F) : PStmt e ∧ SStmt e ∧ AStmt e :=
  have h := main_plain 0 e
  ⟨pstmt_of_plain h.1, sstmt_of_plain h.2.1, astmt_of_plain h.2.2⟩

omit [NumOps F] in
theorem lv_un (op : UnOp) (x : Expr F) : lv (.un op x) = 0 := rfl

def StageA : Expr F → Prop
  | .num _ => True
  | .str _ => True
  | .var _ => True
  | .paren e => StageA e
  | .bin _ l r => StageA l ∧ StageA r
  | .un _ _ => False
  | .abs _ => False
  | .int _ => False

theorem main_A (e : Expr F) (h : StageA e) : PStmt e ∧ SStmt e := ⟨(main e).1, (main e).2.1⟩

end Abasic.ExprG
