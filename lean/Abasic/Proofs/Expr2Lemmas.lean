import Abasic.Proofs.Expr2WarnInd
/-
  The evaluator on `render2 e` against `fold2`, for a state whose warnings flag
  is off (the form in which the statement level, Proofs/Stmt3Seq.lean, uses the induction).

  Nothing is proved by induction here: with the flag off `fold3` emits nothing
  (`fold3_off`), so `expr_eq2` and `arrayIndex_agree` are those of
  Proofs/Expr2WarnInd.lean at the environment `quietEnv σ env`.
-/
set_option linter.unusedSectionVars false

namespace Abasic.ExprL2
open Abasic Abasic.Ref M Abasic.ExprL Abasic.Names

variable {F : Type}
variable [NumOps F]

def upd (σ : St F) (n r : Nat) (env : RefEnv F) : St F :=
  { σ with loc := { σ.loc with idx := σ.loc.idx + n }, reads := r, arrays := env.arrays, rng := env.rng }

@[simp] theorem upd_reads (σ : St F) (n r : Nat) (env : RefEnv F) : (upd σ n r env).reads = r := rfl
@[simp] theorem upd_nesting (σ : St F) (n r : Nat) (env : RefEnv F) : (upd σ n r env).nesting = σ.nesting := rfl
@[simp] theorem upd_stack (σ : St F) (n r : Nat) (env : RefEnv F) : (upd σ n r env).stack = σ.stack := rfl
@[simp] theorem upd_warnings (σ : St F) (n r : Nat) (env : RefEnv F) : (upd σ n r env).warnings = σ.warnings := rfl
@[simp] theorem upd_vars (σ : St F) (n r : Nat) (env : RefEnv F) : (upd σ n r env).vars = σ.vars := rfl
@[simp] theorem upd_fns (σ : St F) (n r : Nat) (env : RefEnv F) : (upd σ n r env).fns = σ.fns := rfl
@[simp] theorem upd_lines (σ : St F) (n r : Nat) (env : RefEnv F) : (upd σ n r env).lines = σ.lines := rfl
@[simp] theorem upd_arrays (σ : St F) (n r : Nat) (env : RefEnv F) : (upd σ n r env).arrays = env.arrays := rfl
@[simp] theorem upd_rng (σ : St F) (n r : Nat) (env : RefEnv F) : (upd σ n r env).rng = env.rng := rfl
@[simp] theorem upd_idx (σ : St F) (n r : Nat) (env : RefEnv F) : (upd σ n r env).loc.idx = σ.loc.idx + n := rfl
@[simp] theorem upd_line (σ : St F) (n r : Nat) (env : RefEnv F) : (upd σ n r env).loc.line = σ.loc.line := rfl
@[simp] theorem lineToks_upd (σ : St F) (n r : Nat) (env : RefEnv F) : lineToks (upd σ n r env) = lineToks σ := rfl

theorem mv_upd (σ : St F) (a r b r' : Nat) (env : RefEnv F) :
    mv (upd σ a r env) b r' = upd σ (a + b) r' env := by
  simp only [mv, upd, Nat.add_assoc]

theorem upd_mv (σ : St F) (a r b r' : Nat) (env : RefEnv F) :
    upd (mv σ a r) b r' env = upd σ (a + b) r' env := by
  simp only [mv, upd, Nat.add_assoc]

theorem upd_upd (σ : St F) (a r b r' : Nat) (env env' : RefEnv F) :
    upd (upd σ a r env) b r' env' = upd σ (a + b) r' env' := by
  simp only [upd, Nat.add_assoc]

theorem nest_upd (σ : St F) (k n r : Nat) (env : RefEnv F) : nest (upd σ n r env) k = upd (nest σ k) n r env := rfl

theorem at_upd {σ : St F} {pre a b : List (Token F)} (h : At σ pre (a ++ b)) (r : Nat) (env : RefEnv F) :
    At (upd σ a.length r env) (pre ++ a) b := by
  obtain ⟨h1, h2⟩ := h
  refine ⟨?_, ?_⟩
  · rw [lineToks_upd, h1, List.append_assoc]
  · rw [upd_idx, h2, List.length_append]

/-- the same structure as `ExprL3.FnsLink` (Expr2WarnInd.lean) -/
structure FnsLink (σ : St F) (fns : List (Str × FnDefSpec F)) : Prop where
  undef : ∀ name, alGet name fns = none → alGet name σ.fns = none
  defd : ∀ name d, alGet name fns = some d → ∃ (fd : FnDef) (pre tail : List (Token F)),
    alGet name σ.fns = some fd ∧ fd.args = d.params ∧
    σ.lines.get fd.line = some (pre ++ (render2 d.body ++ tail)) ∧ fd.idx = pre.length ∧ Ends 6 tail

theorem FnsLink.congr {σ σ' : St F} {fns : List (Str × FnDefSpec F)} (h : FnsLink σ fns)
    (hf : σ'.fns = σ.fns) (hl : σ'.lines = σ.lines) : FnsLink σ' fns := by
  obtain ⟨h1, h2⟩ := h
  rw [← hf] at h1 h2
  rw [← hl] at h2
  exact ⟨h1, h2⟩

/-- as `ExprL3.Rel`, with the warnings flag off -/
structure Rel (n : Nat) (σ : St F) (env : RefEnv F) : Prop where
  vars : σ.vars = env.vars
  frames : σ.stack.map (·.vars) = env.frames
  arrays : σ.arrays = env.arrays
  rng : σ.rng = env.rng
  warnings : σ.warnings = false
  fns : FnsLink σ env.fns
  cap : σ.stack.length ≤ Extracted.stackLimit
  fuel : Extracted.stackLimit < n + σ.stack.length
  arrs_ok : ArrLen env.arrays
  rng_ok : env.rng < Extracted.rngModulus
  bodies : ∀ name d, alGet name env.fns = some d → Resolved env.fns d.body

def quietEnv (σ : St F) (env : RefEnv F) : WEnv F :=
  { toRefEnv := env, out := σ.out, warn := false, line := σ.loc.line, sfns := σ.fns }

theorem Rel.quiet {n : Nat} {σ : St F} {env : RefEnv F} (h : Rel n σ env) : ExprL3.Rel n σ (quietEnv σ env) :=
  ⟨h.vars, h.frames, h.arrays, h.rng, rfl, h.warnings, rfl, rfl, ⟨h.fns.undef, h.fns.defd⟩, h.cap, h.fuel,
   h.arrs_ok, h.rng_ok, h.bodies⟩

/-- an agreement with a result of `fold3` that emitted nothing is an agreement with the result of `fold2` -/
theorem Agrees2.quiet {α β : Type} {res : Res F α} {ev : Except Err (β × RefEnv F)} {σ : St F} {w : WEnv F}
    {k : β → WEnv F → Nat → Res F α} (h : Agrees2 Keeps res (pair w ev []) σ k) :
    Agrees2 Keeps res ev σ (fun b env r => k b (w.put env []) r) := by
  cases ev with
  | error x => exact h
  | ok p => obtain ⟨b, env⟩ := p; exact h

theorem expr_eq2 (n : Nat) (x : Expr2 F) (f : Nat) (σ : St F) (env : RefEnv F)
    (pre rest : List (Token F))
    (hd : depth2 env.fns n x + 1 ≤ f) (hn : σ.nesting + (depth2 env.fns n x + 1) ≤ Extracted.nestingLimit)
    (hE : Ends 6 rest) (hAt : At σ pre (render2 x ++ rest)) (hR : Rel n σ env) (hres : Resolved env.fns x) :
    Agrees2 Keeps ((evalN f).expr σ) (fold2 n env x) σ
      (fun v env' r => .ok v (upd σ (render2 x).length r env')) := by
  have h := ExprL3.expr_eq2 (.full n) n x (ExprL3.main3 n x).1 f σ (quietEnv σ env) pre rest hd hn hE hAt hR.quiet hres
  rw [fold3_off _ _ _ rfl] at h
  exact h.quiet

theorem arrayIndex_agree (n : Nat) (idx : List (Expr2 F)) (f : Nat) (σ : St F) (env : RefEnv F) (pre rest : List (Token F))
    (hd : depthArgs env.fns n idx ≤ f) (hn : σ.nesting + depthArgs env.fns n idx ≤ Extracted.nestingLimit)
    (hAt : At σ pre (.kw .LeftParen :: (renderArgs idx ++ (.kw .RightParen :: rest))))
    (hR : Rel n σ env) (hres : ResolvedL env.fns idx) :
    Agrees2 Keeps (arrayIndex (evalN f) σ) (foldIdx n env idx) σ
      (fun is env' r => .ok is (upd σ ((renderArgs idx).length + 2) r env')) := by
  have h := ExprL3.arrayIndex_agree n idx (fun x _ => (ExprL3.main3 n x).1) f σ (quietEnv σ env) pre rest hd hn hAt
    hR.quiet hres
  rw [foldIdx3_off _ _ _ rfl] at h
  exact h.quiet

end Abasic.ExprL2
