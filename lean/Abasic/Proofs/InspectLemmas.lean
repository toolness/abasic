import Abasic.Proofs.ExprFrame
import Abasic.Proofs.Turn
import Abasic.Proofs.NumberedInv
/-
  Helper lemmas for C07 `inspect_pure`: immediate lines made of PRINT
  statements, executed at a breakpoint.  PRINT stops only at the end of the line, in front of a
  `:` or in front of an ELSE (`printLoop_ends`); `After` says where a turn on such a line stops.
  The turn itself is analysed in Props/C07Inspect.lean (`inspect_turn`).
-/
set_option linter.unusedSectionVars false

namespace Abasic.Proofs.Inspect
open Abasic Abasic.Hoare Abasic.Proofs.XF Abasic.Proofs.NumInv M

variable {F : Type} [NumOps F]

/-- what the interrupted program can observe of an inspection: unchanged,
    except for automatically created default arrays -/
structure IFrame (σ σ' : St F) : Prop where
  lines : σ'.lines = σ.lines
  bp : σ'.bp = σ.bp
  stack : σ'.stack = σ.stack
  loops : σ'.loops = σ.loops
  data : σ'.data = σ.data
  fns : σ'.fns = σ.fns
  vars : σ'.vars = σ.vars
  arrays : ArrExt σ.arrays σ'.arrays

theorem IFrame.refl (σ : St F) : IFrame σ σ := ⟨rfl, rfl, rfl, rfl, rfl, rfl, rfl, ArrExt.refl _⟩

theorem IFrame.trans {a b c : St F} (h1 : IFrame a b) (h2 : IFrame b c) : IFrame a c :=
  ⟨h2.lines.trans h1.lines, h2.bp.trans h1.bp, h2.stack.trans h1.stack, h2.loops.trans h1.loops,
   h2.data.trans h1.data, h2.fns.trans h1.fns, h2.vars.trans h1.vars, h1.arrays.trans h2.arrays⟩

theorem iframe_of_rx {σ σ' : St F} (h : RX σ σ') : IFrame σ σ' :=
  ⟨h.lines, h.bp, h.stack, h.loops, h.data, h.fns, h.vars, h.arrays⟩

theorem bind_ok_inv {α β : Type} {m : M F α} {f : α → M F β} {σ σ' : St F} {b : β}
    (h : (m >>= f) σ = .ok b σ') : ∃ a s, m σ = .ok a s ∧ f a s = .ok b σ' := by
  simp only [bind, M.bindM] at h
  cases hm : m σ with
  | ok a s => rw [hm] at h; exact ⟨a, s, rfl, h⟩
  | err e s => rw [hm] at h; cases h

theorem peek_ok_inv {σ s : St F} {t : Option (Token F)} (h : peek σ = .ok t s) :
    ∃ ts, ExprL.lineToks σ = some ts ∧ t = ts[σ.loc.idx]? ∧ s = { σ with reads := σ.reads + 1 } := by
  obtain ⟨ts, ht, -⟩ := Cur.curOp_ok (Cur.peek_eq ▸ h)
  rw [Turn.peek_toks ht] at h
  simp only [Res.ok.injEq] at h
  exact ⟨ts, ht, h.1.symm, h.2.symm⟩

/-- the token under the cursor, if any, is `:` or ELSE -/
def EndsAt (σ : St F) : Prop :=
  ∀ ts t, ExprL.lineToks σ = some ts → ts[σ.loc.idx]? = some t → t.isKw .Colon = true ∨ t.isKw .Else = true

theorem printLoop_ends (ev : Evals F) :
    ∀ (n : Nat) (semi : Bool) (acc : Str) (σ : St F) (r : Bool × Str) (σ' : St F),
      printLoop ev n semi acc σ = .ok r σ' → EndsAt σ' := by
  intro n
  induction n with
  | zero =>
    intro semi acc σ r σ' h
    unfold printLoop at h
    cases h
  | succ n ih =>
    intro semi acc σ r σ' h
    unfold printLoop at h
    obtain ⟨t, s1, hp, h⟩ := bind_ok_inv h
    obtain ⟨ts, hts, rfl, rfl⟩ := peek_ok_inv hp
    have hstop : (∀ t, ts[σ.loc.idx]? = some t → t.isKw .Colon = true ∨ t.isKw .Else = true) →
        EndsAt ({ σ with reads := σ.reads + 1 } : St F) := by
      intro hk ts' t' hl hidx
      have : ts' = ts := Option.some.inj ((show ExprL.lineToks σ = some ts' from hl).symm.trans hts)
      subst this
      exact hk t' hidx
    cases hq : ts[σ.loc.idx]? with
    | none =>
      rw [hq] at h
      cases h
      exact hstop fun t ht => by rw [hq] at ht; cases ht
    | some t =>
      rw [hq] at h
      dsimp only at h
      by_cases hc : (t.isKw .Colon || t.isKw .Else) = true
      · rw [if_pos hc] at h
        cases h
        exact hstop fun t' ht' => by rw [hq] at ht'; cases ht'; simpa only [Bool.or_eq_true] using hc
      · rw [if_neg hc] at h
        -- `;`, `,` or an expression: the loop goes on
        split at h
        · obtain ⟨_, s2, _, h⟩ := bind_ok_inv h
          exact ih _ _ _ _ _ h
        · split at h <;> (obtain ⟨_, s2, _, h⟩ := bind_ok_inv h; exact ih _ _ _ _ _ h)

theorem printStatement_ends (ev : Evals F) (σ σ' : St F) (h : printStatement ev σ = .ok () σ') :
    EndsAt σ' := by
  unfold printStatement at h
  obtain ⟨b, s1, _, h⟩ := bind_ok_inv h
  obtain ⟨r, s2, hpl, h⟩ := bind_ok_inv h
  have hE := printLoop_ends ev _ _ _ _ _ _ hpl
  obtain ⟨semi, text⟩ := r
  simp only [emit, M.modify, Res.ok.injEq, true_and] at h
  rw [← h]
  exact hE

/-- tokens that start a statement which only prints (or fails): PRINT, `?`,
    the empty statement `:`, and ELSE (a syntax error at statement level) -/
def Safe (t : Token F) : Prop :=
  t = .kw .Print ∨ t = .kw .QuestionMark ∨ t = .kw .Colon ∨ t = .kw .Else

def SafeAt (ts : List (Token F)) (i : Nat) : Prop := ∀ t, ts[i]? = some t → Safe t

/-- a line of PRINT statements separated by colons: the first token and every
    token that follows a `:` is PRINT, `?`, `:` or ELSE -/
def PrintLine (ts : List (Token F)) : Prop :=
  SafeAt ts 0 ∧ ∀ p, ts[p]? = some (.kw .Colon) → SafeAt ts (p + 1)

omit [NumOps F] in
theorem printLine_single {t : Token F} {rest : List (Token F)} (hs : Safe t)
    (hc : (t :: rest).all (fun x => !x.isKw .Colon) = true) : PrintLine (t :: rest) := by
  refine ⟨fun t' ht => ?_,
    fun p hp => absurd (List.all_eq_true.mp hc _ (List.mem_of_getElem? hp)) (by simp [Token.isKw])⟩
  simp only [List.getElem?_cons_zero, Option.some.injEq] at ht
  exact ht ▸ hs

/-- the cursor is on the immediate line `ts` and a breakpoint is pending -/
def OnImm (ts : List (Token F)) (σ : St F) : Prop :=
  σ.loc.line = none ∧ σ.imm = ts ∧ σ.bp.isSome = true

theorem onImm_of_rx {ts : List (Token F)} {σ σ' : St F} (h : RX σ σ') (ho : OnImm ts σ) : OnImm ts σ' :=
  ⟨h.line.trans ho.1, h.imm.trans ho.2.1, by rw [h.bp]; exact ho.2.2⟩

theorem lineToks_onImm {ts : List (Token F)} {σ : St F} (ho : OnImm ts σ) : ExprL.lineToks σ = some ts := by
  unfold ExprL.lineToks
  rw [ho.1, ho.2.1]

omit [NumOps F] in
theorem setImmediate_stack {σ : St F} (hbp : σ.bp.isSome = true) (ts : List (Token F)) :
    (σ.setImmediate ts).stack = σ.stack := by
  show (if σ.bp.isNone = true then [] else σ.stack) = σ.stack
  cases hb : σ.bp with
  | none => rw [hb] at hbp; cases hbp
  | some b => rfl

/-- what a turn on such a line leaves: idle, or running on the same line at a safe position -/
def After (ts : List (Token F)) (s : St F) : Prop :=
  s.state = .idle ∨ (s.state = .running ∧ OnImm ts s ∧ SafeAt ts s.loc.idx)

end Abasic.Proofs.Inspect
