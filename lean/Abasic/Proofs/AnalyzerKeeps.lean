import Abasic.Props.C01
import Abasic.Proofs.AWalk
import Abasic.Proofs.Cursor
/-
  Frame lemmas for the static analyzer, generic in the observation `key` of the
  state: `Keeps key m` says that `m` hands back a state with the `key` it found,
  on the success path and on the error path alike.  The analyzer's statements
  touch the cursor index, the read counter, the access log, the DATA cursor, the
  nesting counter (restored by `nested`) and, in DEF only, the function table;
  `Frame key` asks that `key` sees none of the first four and finds the nesting
  counter restored, `NoFns key` that it does not see the function table.  The primitives are
  proved here; the functions of the analyzer follow by the walk of Proofs/AWalk.lean (`walk key`).
  Instances: Proofs/AnalyzerFrame.lean (`lines`, `nesting`), Proofs/AnalyzerFns.lean
  (`fns`), Proofs/ProgTyping.lean (`loc.line`).
-/
set_option linter.unusedSectionVars false

namespace Abasic.AKeep
open Abasic M

variable {F κ : Type} {key : St F → κ}

def st {α : Type} : Res F α → St F
  | .ok _ s => s
  | .err _ s => s

structure Keeps {α : Type} (key : St F → κ) (m : M F α) : Prop where
  h : ∀ s, key (st (m s)) = key s

@[keep] theorem Keeps.pure {α : Type} (a : α) : Keeps key (pure a : M F α) := ⟨fun _ => rfl⟩

theorem Keeps.bind {α β : Type} {m : M F α} {f : α → M F β} (hm : Keeps key m) (hf : ∀ a, Keeps key (f a)) :
    Keeps key (m >>= f) := by
  refine ⟨fun s => ?_⟩
  have h1 := hm.h s
  show key (st (M.bindM m f s)) = key s
  unfold M.bindM
  cases h : m s with
  | ok a s' => rw [h] at h1; exact ((hf a).h s').trans h1
  | err e s' => rw [h] at h1; exact h1

@[keep] theorem Keeps.get : Keeps key (M.get : M F (St F)) := ⟨fun _ => rfl⟩
@[keep] theorem Keeps.fail {α : Type} (e : Err) : Keeps key (M.fail e : M F α) := ⟨fun _ => rfl⟩
@[keep] theorem Keeps.rpanic {α : Type} (x : String) : Keeps key (M.rpanic x : M F α) := ⟨fun _ => rfl⟩
@[keep] theorem Keeps.throw {α : Type} (e : TErr) : Keeps key (M.throw e : M F α) := ⟨fun _ => rfl⟩
theorem Keeps.modify {f : St F → St F} (h : ∀ s, key (f s) = key s) : Keeps key (M.modify f) := ⟨h⟩

theorem Keeps.get_bind {α : Type} {f : St F → M F α} (h : ∀ s, key (st (f s s)) = key s) :
    Keeps key (M.get >>= f) := ⟨h⟩

theorem Keeps.ite {α : Type} {c : Prop} [Decidable c] {a b : M F α} (ha : Keeps key a) (hb : Keeps key b) :
    Keeps key (if c then a else b) := by
  split <;> assumption

class Frame (key : St F → κ) : Prop where
  dep : ∀ s t : St F, t.lines = s.lines → t.nesting = s.nesting → t.fns = s.fns → t.loc.line = s.loc.line →
    key t = key s
  /-- as far as `key` can tell, `exitNested` undoes `enterNested` -/
  exit : ∀ s t : St F, key t = key { s with nesting := s.nesting + 1 } → key (st (exitNested t)) = key s

structure NoFns (key : St F → κ) : Prop where
  fns : ∀ (s : St F) (f : List (Str × FnDef)), key { s with fns := f } = key s

/-- One step of `keeps` follows the shape of the goal `Keeps key m`: a `modify` that `key` does not see, a
    bind, a `match`/`if`; a goal that is none of these is a call of one function, whose lemma (tagged `keep`,
    or a hypothesis) `simp` finds by the head of `m`. -/
macro "keeps_step" : tactic => `(tactic| first
  | (with_reducible apply Keeps.modify; intro _; exact Frame.dep _ _ rfl rfl rfl rfl)
  | (with_reducible refine Keeps.bind ?_ fun _ => ?_)
  | split
  | (simp only [keep, *]; done)
  | dsimp only)

macro "keeps" : tactic => `(tactic| repeat' keeps_step)

variable [NumOps F] [Frame key]

@[keep] theorem keeps_tokens : Keeps key (tokens : M F _) := by
  refine ⟨fun s => ?_⟩
  simp only [tokens, tokensForLine]
  split
  · rfl
  · split <;> rfl

/-- a cursor operation (Proofs/Cursor.lean) touches the read counter and the cursor index only -/
theorem keeps_curOp {α : Type} (f : Loc → Option (Token F) → Bool × Except TErr α) : Keeps key (Cur.curOp f) := by
  refine ⟨fun s => ?_⟩
  unfold Cur.curOp
  split
  · exact Frame.dep _ _ rfl rfl rfl rfl
  · split <;> split <;> exact Frame.dep _ _ rfl rfl rfl rfl

theorem keeps_hasNext : Keeps key (hasNext : M F _) := Cur.hasNext_eq ▸ keeps_curOp _

@[keep] theorem keeps_lineBudget : Keeps key (lineBudget : M F _) := by unfold lineBudget; keeps

@[keep] theorem keeps_prevLoc : Keeps key (prevLoc : M F _) := by unfold prevLoc; keeps

@[keep] theorem keeps_logAccess (sym : Str) (loc : Loc) (a : Access) : Keeps key (logAccess sym loc a : M F _) := by
  unfold logAccess; keeps

@[keep] theorem keeps_check (a b : VT) : Keeps key (VT.check a b : M F _) := by unfold VT.check; keeps

@[keep] theorem keeps_checkNumber (a : VT) : Keeps key (VT.checkNumber a : M F _) := by unfold VT.checkNumber; keeps

@[keep] theorem keeps_defineFunction (hn : NoFns key) (n : Str) (a : List Str) : Keeps key (defineFunction n a : M F _) := by
  unfold defineFunction
  apply Keeps.get_bind
  intro s
  cases s.loc.line
  · rfl
  · exact hn.fns s _

@[keep] theorem keeps_nested {α : Type} {m : M F α} (hm : Keeps key m) : Keeps key (nested m) := by
  refine ⟨fun s => ?_⟩
  rw [Props.C01.nested_eq]
  by_cases hcap : s.nesting = Extracted.nestingLimit
  · rw [if_pos hcap]; rfl
  · rw [if_neg hcap]
    have hx := Frame.exit s (st (m { s with nesting := s.nesting + 1 })) (hm.h _)
    cases hr : m { s with nesting := s.nesting + 1 } with
    | ok a t =>
      rw [hr] at hx
      cases hn : t.nesting <;>
        simpa only [exitNested, bind, M.bindM, M.get, hn, M.set, M.rpanic, st] using hx
    | err e t =>
      rw [hr] at hx
      cases hn : t.nesting <;>
        simpa only [exitNested, bind, M.bindM, M.get, hn, M.set, M.rpanic, st] using hx

variable (key) in
def walk : AWalk.Uniform F where
  P m := Keeps key m
  L _ := True
  pure := Keeps.pure
  bind := Keeps.bind
  get_bind h := Keeps.bind Keeps.get h
  unexpectedToken := Keeps.fail _
  undefinedStatement := Keeps.fail _
  outOfFuel := Keeps.fail _
  curOp _ := keeps_curOp _
  lineBudget := keeps_lineBudget
  prevLoc_bind h := Keeps.bind keeps_prevLoc fun loc => h loc trivial
  logAccess sym loc a _ := keeps_logAccess sym loc a
  check := keeps_check
  restoreData := Keeps.modify fun _ => Frame.dep _ _ rfl rfl rfl rfl
  nested := keeps_nested

/-! the functions other files name -/

theorem keeps_aNext : Keeps key (aNext (F := F)) := AWalk.walk_aNext (walk key).toRules

theorem keeps_defArgsLoop (n : Nat) (acc : List Str) : Keeps key (defArgsLoop (F := F) n acc) :=
  AWalk.walk_defArgsLoop (walk key) n acc

section analyzer
variable (ev : AEvals F) (he : Keeps key ev.expr)
include he

theorem keeps_aLet : Keeps key (aLet ev) := AWalk.walk_aLet _ (AWalk.eparts (walk key) ev he)

theorem keeps_aParseLValue : Keeps key (aParseLValue ev) := AWalk.walk_aParseLValue _ (AWalk.eparts (walk key) ev he)

theorem keeps_aFor : Keeps key (aFor ev) := AWalk.walk_aFor _ (AWalk.eparts (walk key) ev he)

theorem keeps_aReadLoop (n : Nat) : Keeps key (aReadLoop ev n) := AWalk.walk_aReadLoop (walk key) ev he n

theorem keeps_aPrintLoop (n : Nat) : Keeps key (aPrintLoop ev n) := AWalk.walk_aPrintLoop (walk key) ev he n

theorem keeps_aStatementOrGoto (hs : Keeps key ev.stmt) : Keeps key (aStatementOrGoto ev) :=
  AWalk.walk_aStatementOrGoto _ (AWalk.parts (walk key) ev he hs)

end analyzer

theorem keeps_expr (n : Nat) : Keeps key (aEvalN (F := F) n).expr := AWalk.walk_aEvalN_expr (walk key) n

theorem keeps_aEvalN_stmt (hn : NoFns key) (n : Nat) : Keeps key (aEvalN (F := F) n).stmt :=
  AWalk.walk_aEvalN_stmt (walk key) (keeps_defineFunction hn) n

theorem keeps_stmt (hn : NoFns key) (fuel : Nat) : Keeps key (aStmtBody (aEvalN (F := F) fuel)) :=
  AWalk.walk_aStmtBody' (walk key) _ (keeps_expr fuel) (keeps_aEvalN_stmt hn fuel) (keeps_defineFunction hn)

end Abasic.AKeep
