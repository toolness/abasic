import Abasic.Proofs.Step
import Abasic.Proofs.Cursor
import Abasic.Props.C01
/-
  A quantitative version of the frame framework of Hoare.lean: how many
  token-cursor reads (`St.reads`: one per `peek`, and one per token INPUT's rewind steps back over) a computation
  makes, amortised against the progress of the cursor on the current line.

  Accounting.  Every token the cursor moves over yields 11 credits, every read
  costs one credit.  `ECost cin cout m` ("expression-like"): started with `cin`
  credits in a state without user functions whose cursor is inside the line,
  `m` stays on the line (same `lines`, `imm`, `loc.line`, `fns`), only moves
  the cursor forward, never past the end, and finishes with at least `cout a`
  credits; on the error path the reads are bounded by the credits of the whole
  rest of the line.  `SCost cin cout m` ("statement-like"): `m` may jump to
  another line (GOTO, GOSUB, RETURN, NEXT, END, STOP) or rewind (INPUT), so only
  the total is bounded: 11 per remaining token plus the length of the line.
  `Flat k m`: at most `k` reads in any state whatsoever (what follows a jump).
-/
set_option linter.unusedSectionVars false

namespace Abasic.Cost
open Abasic M Hoare

variable {F : Type}

def toks (σ : St F) : List (Token F) :=
  match σ.loc.line with
  | none => σ.imm
  | some n => (σ.lines.get n).getD []

def tlen (σ : St F) : Nat := (toks σ).length

structure Same (σ σ' : St F) : Prop where
  lines : σ'.lines = σ.lines
  imm : σ'.imm = σ.imm
  line : σ'.loc.line = σ.loc.line
  fns : σ'.fns = σ.fns

theorem Same.refl (σ : St F) : Same σ σ := ⟨rfl, rfl, rfl, rfl⟩

theorem Same.trans {a b c : St F} (h1 : Same a b) (h2 : Same b c) : Same a c :=
  ⟨h2.lines.trans h1.lines, h2.imm.trans h1.imm, h2.line.trans h1.line, h2.fns.trans h1.fns⟩

theorem Same.toks {σ σ' : St F} (h : Same σ σ') : toks σ' = toks σ := by
  unfold Cost.toks
  rw [h.line, h.imm, h.lines]

theorem Same.tlen {σ σ' : St F} (h : Same σ σ') : tlen σ' = tlen σ := by
  unfold Cost.tlen
  rw [h.toks]

def Pre (σ : St F) : Prop := σ.fns = [] ∧ σ.loc.idx ≤ tlen σ

theorem Pre.of_same {σ σ' : St F} (hp : Pre σ) (hs : Same σ σ') (hi : σ'.loc.idx ≤ tlen σ) : Pre σ' :=
  ⟨hs.fns.trans hp.1, by rw [hs.tlen]; exact hi⟩

def EPost (cin cout : Nat) (σ σ' : St F) : Prop :=
  Same σ σ' ∧ σ.loc.idx ≤ σ'.loc.idx ∧ σ'.loc.idx ≤ tlen σ ∧
    σ'.reads + cout ≤ σ.reads + 11 * (σ'.loc.idx - σ.loc.idx) + cin

def EErr (cin : Nat) (σ σ' : St F) : Prop :=
  σ'.reads ≤ σ.reads + 11 * (tlen σ - σ.loc.idx) + cin

def ECostAt {α : Type} (cin : Nat) (cout : α → Nat) (m : M F α) (σ : St F) : Prop :=
  (∀ a σ', m σ = .ok a σ' → EPost cin (cout a) σ σ') ∧ (∀ e σ', m σ = .err e σ' → EErr cin σ σ')

def ECost {α : Type} (cin : Nat) (cout : α → Nat) (m : M F α) : Prop :=
  ∀ σ, Pre σ → ECostAt cin cout m σ

def SBound (cin : Nat) (σ : St F) : Nat := σ.reads + 11 * (tlen σ - σ.loc.idx) + tlen σ + cin

def SCostAt {α : Type} (cin cout : Nat) (m : M F α) (σ : St F) : Prop :=
  (∀ a σ', m σ = .ok a σ' → σ'.reads + cout ≤ SBound cin σ) ∧ (∀ e σ', m σ = .err e σ' → σ'.reads ≤ SBound cin σ)

def SCost {α : Type} (cin cout : Nat) (m : M F α) : Prop :=
  ∀ σ, Pre σ → SCostAt cin cout m σ

def Flat {α : Type} (k : Nat) (m : M F α) : Prop := ∀ σ, (m σ).final.reads ≤ σ.reads + k

section rules
variable {α β : Type}

theorem ecostAt_of_eq_ok {m : M F α} {σ σ' : St F} {a : α} {cin : Nat} {cout : α → Nat}
    (h : m σ = .ok a σ') (hp : EPost cin (cout a) σ σ') : ECostAt cin cout m σ := by
  constructor
  · intro a' s' h'; rw [h] at h'; simp only [Res.ok.injEq] at h'; rw [← h'.1, ← h'.2]; exact hp
  · intro e s' h'; rw [h] at h'; cases h'

theorem ecostAt_of_eq_err {m : M F α} {σ σ' : St F} {e : TErr} {cin : Nat} {cout : α → Nat}
    (h : m σ = .err e σ') (hp : EErr cin σ σ') : ECostAt cin cout m σ := by
  constructor
  · intro a' s' h'; rw [h] at h'; cases h'
  · intro e' s' h'; rw [h] at h'; simp only [Res.err.injEq] at h'; rw [← h'.2]; exact hp

theorem epost_refl {cin cout : Nat} (σ : St F) (hp : Pre σ) (h : cout ≤ cin) : EPost cin cout σ σ :=
  ⟨Same.refl σ, Nat.le_refl _, hp.2, by omega⟩

theorem eerr_refl {cin : Nat} (σ : St F) : EErr cin σ σ := by
  unfold EErr; omega

theorem ecost_pure {cin : Nat} {cout : α → Nat} (a : α) (h : cout a ≤ cin) : ECost cin cout (pure a : M F α) :=
  fun σ hp => ecostAt_of_eq_ok (a := a) (σ' := σ) rfl (epost_refl σ hp h)

theorem ecost_fail {cin : Nat} {cout : α → Nat} (e : Err) : ECost cin cout (M.fail e : M F α) :=
  fun σ _ => ecostAt_of_eq_err (e := { err := e }) (σ' := σ) rfl (eerr_refl σ)

theorem ecost_throw {cin : Nat} {cout : α → Nat} (e : TErr) : ECost cin cout (M.throw e : M F α) :=
  fun σ _ => ecostAt_of_eq_err (e := e) (σ' := σ) rfl (eerr_refl σ)

theorem ecost_rpanic {cin : Nat} {cout : α → Nat} (s : String) : ECost cin cout (M.rpanic s : M F α) :=
  fun σ _ => ecostAt_of_eq_err (e := { err := .panic s }) (σ' := σ) rfl (eerr_refl σ)

theorem ecost_liftE {cin : Nat} {cout : α → Nat} (r : Except Err α) (h : ∀ a, cout a ≤ cin) :
    ECost cin cout (liftE r : M F α) := by
  cases r with
  | ok a => exact ecost_pure a (h a)
  | error e => exact ecost_fail e

theorem ecostAt_step {β : Type} {m' m : M F β} {σ σ2 : St F} {c c' : Nat} {co : β → Nat}
    (hstep : EPost c c' σ σ2) (heq : m' σ = m σ2) (h : ECostAt c' co m σ2) : ECostAt c co m' σ := by
  obtain ⟨hs, hi1, hi2, hr⟩ := hstep
  have hl := hs.tlen
  rw [ECostAt, heq]
  constructor
  · intro b s' h'
    obtain ⟨hs', hj1, hj2, hr'⟩ := h.1 b s' h'
    exact ⟨hs.trans hs', by omega, by omega, by omega⟩
  · intro e s' h'
    have := h.2 e s' h'
    unfold EErr at this ⊢
    omega

theorem ecostAt_bind {m : M F α} {f : α → M F β} {c0 : Nat} {c1 : α → Nat} {c2 : β → Nat} {σ : St F}
    (hp : Pre σ) (hm : ECostAt c0 c1 m σ) (hf : ∀ a, ECost (c1 a) c2 (f a)) : ECostAt c0 c2 (m >>= f) σ := by
  show ECostAt c0 c2 (M.bindM m f) σ
  cases h : m σ with
  | ok a s =>
    have hpost := hm.1 a s h
    exact ecostAt_step hpost (by simp only [M.bindM, h]) (hf a s (hp.of_same hpost.1 hpost.2.2.1))
  | err e s => exact ecostAt_of_eq_err (e := e) (by simp only [M.bindM, h]) (hm.2 e s h)

theorem ecost_bind {m : M F α} {f : α → M F β} {c0 : Nat} {c1 : α → Nat} {c2 : β → Nat}
    (hm : ECost c0 c1 m) (hf : ∀ a, ECost (c1 a) c2 (f a)) : ECost c0 c2 (m >>= f) :=
  fun σ hp => ecostAt_bind hp (hm σ hp) hf

theorem ecost_conseq {m : M F α} {c c' : Nat} {cout cout' : α → Nat}
    (h : ECost c' cout' m) (hc : c' ≤ c) (ho : ∀ a, cout a + c' ≤ cout' a + c) : ECost c cout m := by
  intro σ hp
  obtain ⟨h1, h2⟩ := h σ hp
  constructor
  · intro a s' e
    obtain ⟨hs, hi1, hi2, hr⟩ := h1 a s' e
    have := ho a
    exact ⟨hs, hi1, hi2, by omega⟩
  · intro e s' he
    have := h2 e s' he
    unfold EErr at this ⊢
    omega

theorem ecost_ite {c : Prop} [Decidable c] {t e : M F α} {cin : Nat} {cout : α → Nat}
    (ht : c → ECost cin cout t) (he : ¬ c → ECost cin cout e) : ECost cin cout (if c then t else e) := by
  by_cases h : c
  · rw [if_pos h]; exact ht h
  · rw [if_neg h]; exact he h

theorem scost_of_ecost {m : M F α} {cin cout : Nat} {co : α → Nat} (h : ECost cin co m) (ho : ∀ a, cout ≤ co a) :
    SCost cin cout m := by
  intro σ hp
  obtain ⟨h1, h2⟩ := h σ hp
  constructor
  · intro a s' e
    obtain ⟨hs, hi1, hi2, hr⟩ := h1 a s' e
    have := ho a
    unfold SBound
    omega
  · intro e s' he
    have := h2 e s' he
    unfold EErr at this
    unfold SBound
    omega

theorem scostAt_of_eq_ok {m : M F α} {σ σ' : St F} {a : α} {cin cout : Nat}
    (h : m σ = .ok a σ') (hp : σ'.reads + cout ≤ SBound cin σ) : SCostAt cin cout m σ := by
  constructor
  · intro a' s' h'; rw [h] at h'; simp only [Res.ok.injEq] at h'; rw [← h'.2]; exact hp
  · intro e s' h'; rw [h] at h'; cases h'

theorem scostAt_of_eq_err {m : M F α} {σ σ' : St F} {e : TErr} {cin cout : Nat}
    (h : m σ = .err e σ') (hp : σ'.reads ≤ SBound cin σ) : SCostAt cin cout m σ := by
  constructor
  · intro a' s' h'; rw [h] at h'; cases h'
  · intro e' s' h'; rw [h] at h'; simp only [Res.err.injEq] at h'; rw [← h'.2]; exact hp

theorem scost_fail {cin cout : Nat} (e : Err) : SCost cin cout (M.fail e : M F α) :=
  scost_of_ecost (co := fun _ => cout) (ecost_fail e) (fun _ => Nat.le_refl _)

theorem scost_pure {cin cout : Nat} (a : α) (h : cout ≤ cin) : SCost cin cout (pure a : M F α) :=
  scost_of_ecost (co := fun _ => cout) (ecost_pure a h) (fun _ => Nat.le_refl _)

theorem scost_bind {m : M F α} {f : α → M F β} {c0 : Nat} {c1 : α → Nat} {c2 : Nat}
    (hm : ECost c0 c1 m) (hf : ∀ a, SCost (c1 a) c2 (f a)) : SCost c0 c2 (m >>= f) := by
  intro σ hp
  show SCostAt c0 c2 (M.bindM m f) σ
  cases h : m σ with
  | ok a s =>
    obtain ⟨hs, hi1, hi2, hr⟩ := (hm σ hp).1 a s h
    have hp' : Pre s := hp.of_same hs hi2
    have hl := hs.tlen
    simp only [SCostAt, M.bindM, h]
    constructor
    · intro b s' h'
      have := (hf a s hp').1 b s' h'
      unfold SBound at this ⊢
      omega
    · intro e s' h'
      have := (hf a s hp').2 e s' h'
      unfold SBound at this ⊢
      omega
  | err e s =>
    have h1 := (hm σ hp).2 e s h
    unfold EErr at h1
    exact scostAt_of_eq_err (e := e) (σ' := s) (by simp only [M.bindM, h]) (by unfold SBound; omega)

theorem scost_bind_flat {m : M F α} {f : α → M F β} {c0 c1 c2 k : Nat}
    (hm : SCost c0 c1 m) (hf : ∀ a, Flat k (f a)) (hk : c2 + k ≤ c1) : SCost c0 c2 (m >>= f) := by
  intro σ hp
  show SCostAt c0 c2 (M.bindM m f) σ
  cases h : m σ with
  | ok a s =>
    have h1 := (hm σ hp).1 a s h
    have h2 := hf a s
    simp only [SCostAt, M.bindM, h]
    constructor
    · intro b s' h'
      rw [h'] at h2
      simp only [Res.final] at h2
      omega
    · intro e s' h'
      rw [h'] at h2
      simp only [Res.final] at h2
      omega
  | err e s => exact scostAt_of_eq_err (e := e) (σ' := s) (by simp only [M.bindM, h]) ((hm σ hp).2 e s h)

theorem scost_conseq {m : M F α} {c c' cout cout' : Nat}
    (h : SCost c' cout' m) (hc : c' ≤ c) (ho : cout + c' ≤ cout' + c) : SCost c cout m := by
  intro σ hp
  obtain ⟨h1, h2⟩ := h σ hp
  constructor
  · intro a s' e
    have := h1 a s' e
    unfold SBound at this ⊢
    omega
  · intro e s' he
    have := h2 e s' he
    unfold SBound at this ⊢
    omega

theorem flat_pure (a : α) (k : Nat) : Flat k (pure a : M F α) := by
  intro σ; show σ.reads ≤ σ.reads + k; omega

theorem flat_bind {m : M F α} {f : α → M F β} {a b : Nat}
    (hm : Flat a m) (hf : ∀ x, Flat b (f x)) : Flat (a + b) (m >>= f) := by
  intro σ
  show (M.bindM m f σ).final.reads ≤ _
  unfold M.bindM
  have h1 := hm σ
  cases h : m σ with
  | ok x s =>
    rw [h] at h1
    simp only [Res.final] at h1
    have h2 := hf x s
    simp only
    omega
  | err e s =>
    rw [h] at h1
    simp only [Res.final] at h1 ⊢
    omega

theorem scost_of_flat {m : M F α} {k c co : Nat} (h : Flat k m) (hk : co + k ≤ c) : SCost c co m := by
  intro σ _
  have h1 := h σ
  constructor
  · intro a s' e; rw [e] at h1; simp only [Res.final] at h1; unfold SBound; omega
  · intro e s' he; rw [he] at h1; simp only [Res.final] at h1; unfold SBound; omega

theorem flat_mono {m : M F α} {a b : Nat} (h : Flat a m) (hab : a ≤ b) : Flat b m := by
  intro σ
  have := h σ
  omega

theorem ecost_tail {m : M F α} {c : Nat} {cout cout' : α → Nat}
    (h : ECost c cout' m) (ho : ∀ a, cout a ≤ cout' a) : ECost c cout m :=
  ecost_conseq h (Nat.le_refl _) (fun a => by have := ho a; omega)

/-! A credit that depends on the value returned (`next`, `accept`, `tryNext`, a function call) is resolved as soon
    as the value is bound: what follows is taken by cases of it, and each branch gets a constant credit. -/

theorem ecost_opt {f : Option α → M F β} {a b : Nat} {co : β → Nat}
    (hs : ∀ x, ECost a co (f (some x))) (hn : ECost b co (f none)) (o : Option α) :
    ECost (if o.isSome then a else b) co (f o) := by
  cases o; exact hn; exact hs _

theorem scost_opt {f : Option α → M F β} {a b co : Nat}
    (hs : ∀ x, SCost a co (f (some x))) (hn : SCost b co (f none)) (o : Option α) :
    SCost (if o.isSome then a else b) co (f o) := by
  cases o; exact hn; exact hs _

theorem ecost_if {t e : M F β} {a b : Nat} {co : β → Nat} (ht : ECost a co t) (hf : ECost b co e) (o : Bool) :
    ECost (if o then a else b) co (if o then t else e) := by
  cases o; exact hf; exact ht

theorem scost_if {t e : M F β} {a b co : Nat} (ht : SCost a co t) (hf : SCost b co e) (o : Bool) :
    SCost (if o then a else b) co (if o then t else e) := by
  cases o; exact hf; exact ht

theorem scost_tail {m : M F α} {c cout cout' : Nat}
    (h : SCost c cout' m) (ho : cout ≤ cout') : SCost c cout m :=
  scost_conseq h (Nat.le_refl _) (by omega)

theorem scost_rpanic {cin cout : Nat} (s : String) : SCost cin cout (M.rpanic s : M F α) :=
  scost_of_ecost (co := fun _ => cout) (ecost_rpanic s) (fun _ => Nat.le_refl _)

theorem scost_throw {cin cout : Nat} (e : TErr) : SCost cin cout (M.throw e : M F α) :=
  scost_of_ecost (co := fun _ => cout) (ecost_throw e) (fun _ => Nat.le_refl _)

theorem ecost_get_bind {f : St F → M F β} {c : Nat} {co : β → Nat} (h : ∀ s, ECost c co (f s)) :
    ECost c co (M.get >>= f) :=
  fun σ hp => h σ σ hp

theorem scost_get_bind {f : St F → M F β} {c co : Nat} (h : ∀ s, SCost c co (f s)) :
    SCost c co (M.get >>= f) :=
  fun σ hp => h σ σ hp

end rules

theorem toks_eq (σ : St F) : toks σ = (Cur.toks σ).getD [] := by
  unfold toks Cur.toks
  cases σ.loc.line <;> rfl

theorem peek_spec' (σ : St F) :
    peek σ = .ok (toks σ)[σ.loc.idx]? { σ with reads := σ.reads + 1 } ∨
    ∃ e, peek σ = .err e { σ with reads := σ.reads + 1 } ∧ toks σ = [] := by
  rw [Cur.peek_eq, toks_eq]
  unfold Cur.curOp
  cases Cur.toks σ with
  | none => exact .inr ⟨_, rfl, rfl⟩
  | some ts => exact .inl rfl

theorem peek_spec (σ : St F) :
    peek σ = .ok (toks σ)[σ.loc.idx]? { σ with reads := σ.reads + 1 } ∨
    ∃ e, peek σ = .err e { σ with reads := σ.reads + 1 } :=
  (peek_spec' σ).imp_right fun ⟨e, h, _⟩ => ⟨e, h⟩

theorem epost_stay {cin cout : Nat} (σ : St F) (hp : Pre σ) (h : cout + 1 ≤ cin) :
    EPost cin cout σ { σ with reads := σ.reads + 1 } :=
  ⟨⟨rfl, rfl, rfl, rfl⟩, Nat.le_refl _, hp.2, by show σ.reads + 1 + cout ≤ _; omega⟩

theorem epost_adv {cin cout : Nat} (σ : St F) (hlt : σ.loc.idx < tlen σ) (h : cout + 1 ≤ cin + 11) :
    EPost cin cout σ { σ with reads := σ.reads + 1, loc := { σ.loc with idx := σ.loc.idx + 1 } } :=
  ⟨⟨rfl, rfl, rfl, rfl⟩, Nat.le_succ _, hlt, by show σ.reads + 1 + cout ≤ σ.reads + 11 * (σ.loc.idx + 1 - σ.loc.idx) + cin; omega⟩

theorem eerr_stay {cin : Nat} (σ : St F) (h : 1 ≤ cin) : EErr cin σ { σ with reads := σ.reads + 1 } := by
  show σ.reads + 1 ≤ _; omega

theorem eerr_adv {cin : Nat} (σ : St F) (hlt : σ.loc.idx < tlen σ) :
    EErr cin σ { σ with reads := σ.reads + 1, loc := { σ.loc with idx := σ.loc.idx + 1 } } := by
  show σ.reads + 1 ≤ _; omega

theorem lt_of_getElem?_some {σ : St F} {t : Token F} (h : (toks σ)[σ.loc.idx]? = some t) : σ.loc.idx < tlen σ := by
  unfold tlen
  have := List.getElem?_eq_some_iff.mp h
  exact this.1

theorem peek_cost {c : Nat} (h : 1 ≤ c) : ECost c (fun _ => c - 1) (peek (F := F)) := by
  intro σ hp
  rcases peek_spec σ with hk | ⟨e, hk⟩
  · exact ecostAt_of_eq_ok hk (epost_stay σ hp (by omega))
  · exact ecostAt_of_eq_err hk (eerr_stay σ h)

def ECostOn {α : Type} (P : St F → Prop) (cin : Nat) (cout : α → Nat) (m : M F α) : Prop :=
  ∀ σ, Pre σ → P σ → ECostAt cin cout m σ

theorem ecostOn_of_ecost {α : Type} {P : St F → Prop} {c : Nat} {co : α → Nat} {m : M F α}
    (h : ECost c co m) : ECostOn P c co m := fun σ hp _ => h σ hp

theorem peek_credit {c : Nat} : ECost (c + 1) (fun _ => c) (peek (F := F)) := peek_cost (Nat.le_add_left 1 c)

/-! From here on a credit is written `c + k`, `k` a literal: what an operation needs on entry is the literal of its
    entry credit, so that a call is closed by unification and leaves no arithmetic premise. -/

theorem ecost_peek_bind {β : Type} {f : Option (Token F) → M F β} {c : Nat} {co : β → Nat}
    (h : ∀ t, ECostOn (fun σ => (toks σ)[σ.loc.idx]? = t) c co (f t)) : ECost (c + 1) co (peek >>= f) := by
  intro σ hp
  rcases peek_spec σ with hk | ⟨e, hk⟩
  · have hpost : EPost (c + 1) c σ { σ with reads := σ.reads + 1 } := epost_stay σ hp (Nat.le_refl _)
    refine ecostAt_step (m := f (toks σ)[σ.loc.idx]?) hpost ?_
      (h _ { σ with reads := σ.reads + 1 } (hp.of_same hpost.1 hpost.2.2.1) rfl)
    show M.bindM peek f σ = _
    simp only [M.bindM, hk]
  · refine ecostAt_of_eq_err (e := e) (σ' := { σ with reads := σ.reads + 1 }) ?_ (eerr_stay σ (Nat.le_add_left 1 c))
    show M.bindM peek f σ = _
    simp only [M.bindM, hk]

theorem ecostOn_bind {α β : Type} {P : St F → Prop} {m : M F α} {f : α → M F β} {c0 : Nat} {c1 : α → Nat}
    {c2 : β → Nat} (hm : ECostOn P c0 c1 m) (hf : ∀ a, ECost (c1 a) c2 (f a)) : ECostOn P c0 c2 (m >>= f) :=
  fun σ hp hP => ecostAt_bind hp (hm σ hp hP) hf

theorem advance_cost {c : Nat} {t : Token F} :
    ECostOn (fun σ => (toks σ)[σ.loc.idx]? = some t) c (fun _ => c + 11) (advance (F := F)) :=
  fun σ _ hP => ecostAt_of_eq_ok (a := ()) rfl
    ⟨⟨rfl, rfl, rfl, rfl⟩, Nat.le_succ _, lt_of_getElem?_some hP,
      by show σ.reads + (c + 11) ≤ σ.reads + 11 * (σ.loc.idx + 1 - σ.loc.idx) + c; omega⟩

theorem next_credit {c : Nat} : ECost (c + 1) (fun t => if t.isSome then c + 11 else c) (next (F := F)) := by
  refine ecost_peek_bind fun t => ?_
  cases t with
  | none =>
    exact ecostOn_of_ecost
      (ecost_bind (c1 := fun _ => c) (ecost_pure () (Nat.le_refl _)) fun _ => ecost_pure none (Nat.le_refl _))
  | some t => exact ecostOn_bind advance_cost fun _ => ecost_pure _ (Nat.le_refl _)

theorem next_cost {c : Nat} (h : 1 ≤ c) :
    ECost c (fun t => if t.isSome then c - 1 + 11 else c - 1) (next (F := F)) := by
  obtain ⟨c, rfl⟩ := Nat.exists_eq_add_of_le' h
  exact next_credit

theorem hasNext_cost {c : Nat} : ECost (c + 1) (fun _ => c) (hasNext (F := F)) :=
  ecost_bind peek_credit fun _ => ecost_pure _ (Nat.le_refl _)

theorem nextUnwrapped_cost {c : Nat} : ECost (c + 1) (fun _ => c + 11) (nextUnwrapped (F := F)) := by
  refine ecost_bind next_credit fun t => ?_
  cases t with
  | none => exact ecost_get_bind fun _ => ecost_throw _
  | some t => exact ecost_pure t (Nat.le_refl _)

theorem expect_cost {c : Nat} (k : Kw) : ECost (c + 1) (fun _ => c + 11) (expect (F := F) k) := by
  unfold expect
  refine ecost_bind nextUnwrapped_cost (fun t => ?_)
  by_cases hk : t.isKw k = true
  · rw [if_pos hk]; exact ecost_pure _ (Nat.le_refl _)
  · rw [if_neg hk]; exact ecost_fail _

theorem accept_cost {c : Nat} (k : Kw) : ECost (c + 1) (fun b => if b then c + 11 else c) (accept (F := F) k) := by
  refine ecost_peek_bind fun t => ?_
  cases t with
  | none => exact ecostOn_of_ecost (ecost_pure false (Nat.le_refl _))
  | some t =>
    by_cases hk : t.isKw k = true
    · simp only [hk, ↓reduceIte]
      exact ecostOn_bind advance_cost fun _ => ecost_pure true (Nat.le_refl _)
    · simp only [hk]
      exact ecostOn_of_ecost (ecost_pure false (Nat.le_refl _))

theorem peekIsKw_cost {c : Nat} (k : Kw) : ECost (c + 1) (fun _ => c) (peekIsKw (F := F) k) := by
  unfold peekIsKw
  refine ecost_bind peek_credit (fun t => ?_)
  cases t with
  | none => exact ecost_pure _ (Nat.le_refl _)
  | some t => exact ecost_pure _ (Nat.le_refl _)

theorem tryNext_cost {α : Type} {c : Nat} (f : Token F → Option α) :
    ECost (c + 1) (fun o => if o.isSome then c + 11 else c) (tryNext f) := by
  refine ecost_peek_bind fun t => ?_
  cases t with
  | none => exact ecostOn_of_ecost (ecost_pure none (Nat.le_refl _))
  | some t =>
    cases hf : f t with
    | none => simp only [hf]; exact ecostOn_of_ecost (ecost_pure none (Nat.le_refl _))
    | some a => simp only [hf]; exact ecostOn_bind advance_cost fun _ => ecost_pure (some a) (Nat.le_refl _)

theorem tokens_spec (σ : St F) : tokens σ = .ok (toks σ) σ ∨ ∃ e, tokens σ = .err e σ := by
  rw [Cur.tokens_eq, toks_eq]
  cases Cur.toks σ with
  | none => exact .inr ⟨_, rfl⟩
  | some ts => exact .inl rfl

theorem discardRemaining_spec (σ : St F) :
    discardRemaining σ = .ok () { σ with loc := { σ.loc with idx := tlen σ } } ∨
    ∃ e, discardRemaining σ = .err e σ := by
  rw [Cur.discardRemaining_eq, tlen, toks_eq]
  cases Cur.toks σ with
  | none => exact .inr ⟨_, rfl⟩
  | some ts => exact .inl rfl

theorem discardRemaining_cost {c : Nat} : ECost c (fun _ => c) (discardRemaining (F := F)) := by
  intro σ hp
  rcases discardRemaining_spec σ with hk | ⟨e, hk⟩
  · refine ecostAt_of_eq_ok hk ⟨⟨rfl, rfl, rfl, rfl⟩, hp.2, Nat.le_refl _, ?_⟩
    show σ.reads + c ≤ _; omega
  · exact ecostAt_of_eq_err hk (eerr_refl σ)

theorem discardRemaining_flat : Flat 0 (discardRemaining (F := F)) := by
  intro σ
  rcases discardRemaining_spec σ with hk | ⟨e, hk⟩ <;> rw [hk] <;> exact Nat.le_refl _

theorem peek_flat : Flat 1 (peek (F := F)) := by
  intro σ
  rcases peek_spec σ with hk | ⟨e, hk⟩ <;> rw [hk] <;> exact Nat.le_refl _

theorem peekIsKw_flat (k : Kw) : Flat 1 (peekIsKw (F := F) k) := by
  unfold peekIsKw
  refine flat_bind (b := 0) peek_flat (fun t => ?_)
  cases t with
  | none => exact flat_pure _ _
  | some t => exact flat_pure _ _

theorem hasNext_flat : Flat 1 (hasNext (F := F)) := by
  unfold hasNext
  exact flat_bind (b := 0) peek_flat (fun t => flat_pure _ _)

/-!
  Operations that make no read.  `RK`: nothing the cost accounting looks at changes (used through the
  `Respects` framework of Hoare.lean); `RR`: only the read counter is kept
  (the jumps).  As a `StoreFrame` / `QuietFrame` they have the `fr_*` lemmas of
  Proofs/Step.lean; what those classes do not cover is proved here and carries
  `@[walk]` like them, which is where `respects_tac` and `cost_call` look a call up. -/

def RK (σ σ' : St F) : Prop :=
  σ'.lines = σ.lines ∧ σ'.imm = σ.imm ∧ σ'.loc = σ.loc ∧ σ'.fns = σ.fns ∧ σ'.reads = σ.reads

instance : IsFrame (RK (F := F)) where
  refl _ := ⟨rfl, rfl, rfl, rfl, rfl⟩
  trans h1 h2 := ⟨h2.1.trans h1.1, h2.2.1.trans h1.2.1, h2.2.2.1.trans h1.2.2.1,
    h2.2.2.2.1.trans h1.2.2.2.1, h2.2.2.2.2.trans h1.2.2.2.2⟩

def RR (σ σ' : St F) : Prop := σ'.reads = σ.reads

instance : IsFrame (RR (F := F)) where
  refl _ := rfl
  trans h1 h2 := Eq.trans h2 h1

macro_rules | `(tactic| respects_leaf) => `(tactic| exact (⟨rfl, rfl, rfl, rfl, rfl⟩ : RK _ _))
macro_rules | `(tactic| respects_leaf) => `(tactic| exact (rfl : RR _ _))

theorem ecost_of_rk {α : Type} {m : M F α} {c : Nat} {cout : α → Nat} (h : Respects RK m)
    (hc : ∀ a, cout a ≤ c) : ECost c cout m := by
  intro σ hp
  constructor
  · intro a s' e
    obtain ⟨h1, h2, h3, h4, h5⟩ := (h.at σ).1 a s' e
    have := hc a
    exact ⟨⟨h1, h2, by rw [h3], h4⟩, by rw [h3]; exact Nat.le_refl _, by rw [h3]; exact hp.2, by rw [h5, h3]; omega⟩
  · intro e s' he
    obtain ⟨h1, h2, h3, h4, h5⟩ := (h.at σ).2 e s' he
    unfold EErr
    omega

theorem scost_of_rr {α : Type} {m : M F α} {c cout : Nat} (h : Respects RR m) (hc : cout ≤ c) : SCost c cout m := by
  intro σ hp
  constructor
  · intro a s' e
    have : s'.reads = σ.reads := (h.at σ).1 a s' e
    unfold SBound; omega
  · intro e s' he
    have : s'.reads = σ.reads := (h.at σ).2 e s' he
    unfold SBound; omega

theorem flat_of_rr {α : Type} {m : M F α} (h : Respects RR m) : Flat 0 m := by
  intro σ
  have : (m σ).final.reads = σ.reads := h.final σ
  omega

@[walk] theorem rk_lineBudget : Respects RK (lineBudget (F := F)) := by
  unfold lineBudget
  respects_tac

@[walk] theorem rk_emit (o : Out) : Respects RK (emit (F := F) o) := by
  unfold emit
  respects_tac

section num
variable [NumOps F]

/-- what the evaluation of a value leaves behind and what is stored touch nothing the accounting looks at … -/
instance : StoreFrame (RK (F := F)) where
  vstep h := by cases h <;> exact ⟨rfl, rfl, rfl, rfl, rfl⟩
  dstep h := by cases h <;> exact ⟨rfl, rfl, rfl, rfl, rfl⟩

/-- … and only the token cursor counts reads (Proofs/Step.lean) -/
instance : QuietFrame (RR (F := F)) where
  vstep h := by cases h <;> rfl
  dstep h := by cases h <;> rfl
  gstep h := by cases h <;> rfl

@[walk] theorem rk_assignValue (lv : LValue) (v : Value F) : Respects RK (assignValue lv v) := by
  unfold assignValue
  respects_tac

@[walk] theorem rk_traceHere : Respects RK (traceHere (F := F)) := by
  unfold traceHere
  respects_tac

/-! ### `RR`: the operations that move the cursor to another line (the jumps proper are `fr_*` at `QuietFrame RR`) -/

@[walk] theorem rr_breakAtCurrentLocation : Respects RR (breakAtCurrentLocation (F := F)) :=
  respects_modify fun _ => rfl

end num

@[walk] theorem rr_restoreData : Respects RR (M.modify fun s : St F => { s with data := none }) :=
  respects_modify fun _ => rfl

theorem rr_defineFunction (name : Str) (args : List Str) : Respects RR (defineFunction (F := F) name args) := by
  unfold defineFunction
  respects_tac

@[walk] theorem rr_setImmediate (ts : List (Token F)) : Respects RR (setImmediate ts) :=
  respects_modify fun _ => rfl

theorem rr_returnToIdle : Respects RR (returnToIdle (F := F)) :=
  respects_modify fun _ => rfl

theorem rr_nextLine : Respects RR (nextLine (F := F)) := by
  unfold nextLine
  respects_tac

/-! ### the two places that are not amortised against the cursor: INPUT's rewind and DEF's skip -/

theorem next_spec (σ : St F) :
    (next σ = .ok none { σ with reads := σ.reads + 1 } ∧ (toks σ)[σ.loc.idx]? = none) ∨
    (∃ t, next σ = .ok (some t) { σ with reads := σ.reads + 1, loc := { σ.loc with idx := σ.loc.idx + 1 } } ∧
      (toks σ)[σ.loc.idx]? = some t) ∨
    ∃ e, next σ = .err e { σ with reads := σ.reads + 1 } := by
  rw [Cur.next_eq, toks_eq]
  unfold Cur.curOp
  cases Cur.toks σ with
  | none => exact .inr (.inr ⟨_, rfl⟩)
  | some ts =>
    dsimp only [Cur.nextF, Option.getD_some]
    cases h : ts[σ.loc.idx]? with
    | none => exact .inl ⟨rfl, rfl⟩
    | some t => exact .inr (.inl ⟨t, rfl, rfl⟩)

/-- DEF skips the body of the definition: one read per remaining token and one more, in any state -/
theorem skipToColonLoop_reads (n : Nat) (σ : St F) :
    (skipToColonLoop n σ).final.reads ≤ σ.reads + (tlen σ - σ.loc.idx) + 1 := by
  induction n generalizing σ with
  | zero => show σ.reads ≤ _; omega
  | succ n ih =>
    unfold skipToColonLoop
    simp only [bind, M.bindM]
    rcases next_spec σ with ⟨hk, _⟩ | ⟨t, hk, ht⟩ | ⟨e, hk⟩
    · rw [hk]; show σ.reads + 1 ≤ _; omega
    · rw [hk]
      simp only
      have hlt := lt_of_getElem?_some ht
      by_cases hc : t.isKw .Colon = true
      · rw [if_pos hc]; show σ.reads + 1 ≤ _; omega
      · rw [if_neg hc]
        have := ih { σ with reads := σ.reads + 1, loc := { σ.loc with idx := σ.loc.idx + 1 } }
        have hl : tlen { σ with reads := σ.reads + 1, loc := { σ.loc with idx := σ.loc.idx + 1 } } = tlen σ := rfl
        rw [hl] at this
        simp only at this
        omega
    · rw [hk]; show σ.reads + 1 ≤ _; omega

theorem findInputBefore_lt (ts : List (Token F)) (n i : Nat) (h : findInputBefore ts n = some i) : i < n := by
  induction n with
  | zero => simp [findInputBefore] at h
  | succ n ih =>
    unfold findInputBefore at h
    split at h
    · split at h
      · simp only [Option.some.injEq] at h; omega
      · have := ih h; omega
    · have := ih h; omega

theorem rewindBeforeInput_cases (σ : St F) :
    (∃ e, rewindBeforeInput σ = .err e σ) ∨
    ∃ i, rewindBeforeInput σ =
      .ok () { σ with loc := { σ.loc with idx := i }, reads := σ.reads + (σ.loc.idx - i) } := by
  rcases tokens_spec σ with hk | ⟨e, hk⟩
  · cases hf : findInputBefore (toks σ) σ.loc.idx with
    | none => exact .inl ⟨_, by simp only [rewindBeforeInput, bind, M.bindM, hk, M.get, hf]; rfl⟩
    | some i => exact .inr ⟨i, by simp only [rewindBeforeInput, bind, M.bindM, hk, M.get, hf]; rfl⟩
  · exact .inl ⟨e, by simp only [rewindBeforeInput, bind, M.bindM, hk]⟩

/-- at most the length of the line -/
theorem scost_rewindBeforeInput (c : Nat) : SCost c c (rewindBeforeInput (F := F)) := by
  intro σ hp
  have hidx := hp.2
  rcases rewindBeforeInput_cases σ with ⟨e, h⟩ | ⟨i, h⟩
  · exact scostAt_of_eq_err h (by unfold SBound; omega)
  · refine scostAt_of_eq_ok h ?_
    show σ.reads + (σ.loc.idx - i) + c ≤ _
    unfold SBound; omega

theorem scost_rewindAndAwaitInput (c : Nat) : SCost c c (rewindAndAwaitInput (F := F)) := by
  unfold rewindAndAwaitInput
  refine scost_bind_flat (k := 0) (scost_rewindBeforeInput c) (fun _ => flat_of_rr ?_) (Nat.le_refl _)
  apply respects_modify
  intro σ; rfl

/-! ### `PRINT` looks at the token (`peek`) before it consumes it (`next`) -/

theorem peek_of_tok {σ : St F} {t : Token F} (h : (toks σ)[σ.loc.idx]? = some t) :
    peek σ = .ok (some t) { σ with reads := σ.reads + 1 } := by
  rcases peek_spec' σ with hk | ⟨e, _, hnil⟩
  · rw [hk, h]
  · rw [hnil] at h; cases h

theorem ecostOn_next_bind {β : Type} {f : Option (Token F) → M F β} {t : Token F} {c : Nat} {co : β → Nat}
    (h : ECost (c + 11) co (f (some t))) :
    ECostOn (fun σ => (toks σ)[σ.loc.idx]? = some t) (c + 1) co (next >>= f) := by
  intro σ hp hP
  have hpost : EPost (c + 1) (c + 11) σ { σ with reads := σ.reads + 1, loc := { σ.loc with idx := σ.loc.idx + 1 } } :=
    epost_adv σ (lt_of_getElem?_some hP) (Nat.le_refl _)
  refine ecostAt_step (m := f (some t)) hpost ?_ (h _ (hp.of_same hpost.1 hpost.2.2.1))
  show M.bindM next f σ = _
  simp only [M.bindM, next, bind, peek_of_tok hP]
  rfl

/-! ### `nested`: the nesting counter is invisible to the accounting -/

/-- what `nested m` ends in, as the accounting sees it: the state it started from, or the result of `m`
    run from a state that differs in the nesting counter only, with that counter changed again -/
theorem nested_cases {α : Type} (m : M F α) (σ : St F) :
    nested m σ = .err { err := .oomStack } σ ∨
    ∃ s k, (∃ a, m { σ with nesting := σ.nesting + 1 } = .ok a s ∧
        (nested m σ = .ok a { s with nesting := k } ∨ ∃ e, nested m σ = .err e s)) ∨
      ∃ e, m { σ with nesting := σ.nesting + 1 } = .err e s ∧
        ∃ e', nested m σ = .err e' { s with nesting := k } := by
  rw [Props.C01.nested_eq]
  by_cases hcap : σ.nesting = Extracted.nestingLimit
  · rw [if_pos hcap]; exact .inl rfl
  · rw [if_neg hcap]
    right
    cases hm : m { σ with nesting := σ.nesting + 1 } with
    | ok a s =>
      dsimp only
      cases hn : s.nesting with
      | zero => exact ⟨s, 0, .inl ⟨a, rfl, .inr ⟨_, rfl⟩⟩⟩
      | succ k => exact ⟨s, k, .inl ⟨a, rfl, .inl rfl⟩⟩
    | err e s =>
      dsimp only
      cases hn : s.nesting with
      | zero =>
        refine ⟨s, 0, .inr ⟨e, rfl, { err := .panic "exit_nested: attempt to subtract with overflow" }, ?_⟩⟩
        show Res.err _ s = Res.err _ { s with nesting := 0 }
        rw [← hn]
      | succ k => exact ⟨s, k, .inr ⟨e, rfl, _, rfl⟩⟩

theorem ecost_nested {α : Type} {m : M F α} {c : Nat} {co : α → Nat} (h : ECost c co m) : ECost c co (nested m) := by
  intro σ hp
  have h1 := h { σ with nesting := σ.nesting + 1 } hp
  rcases nested_cases m σ with hn | ⟨s, k, ⟨a, hm, hn⟩ | ⟨e, hm, e', hn⟩⟩
  · exact ecostAt_of_eq_err hn (eerr_refl σ)
  · obtain ⟨hs, hi1, hi2, hr⟩ := h1.1 a s hm
    rcases hn with hn | ⟨e, hn⟩
    · exact ecostAt_of_eq_ok hn ⟨⟨hs.lines, hs.imm, hs.line, hs.fns⟩, hi1, hi2, hr⟩
    · refine ecostAt_of_eq_err hn ?_
      have hr : s.reads + co a ≤ σ.reads + 11 * (s.loc.idx - σ.loc.idx) + c := hr
      have hi2 : s.loc.idx ≤ tlen σ := hi2
      unfold EErr; omega
  · exact ecostAt_of_eq_err hn (h1.2 e s hm)

theorem scost_nested {α : Type} {m : M F α} {c co : Nat} (h : SCost c co m) : SCost c co (nested m) := by
  intro σ hp
  have h1 := h { σ with nesting := σ.nesting + 1 } hp
  rcases nested_cases m σ with hn | ⟨s, k, ⟨a, hm, hn⟩ | ⟨e, hm, e', hn⟩⟩
  · exact scostAt_of_eq_err hn (by unfold SBound; omega)
  · have hpost : s.reads + co ≤ SBound c σ := h1.1 a s hm
    rcases hn with hn | ⟨e, hn⟩
    · exact scostAt_of_eq_ok hn hpost
    · exact scostAt_of_eq_err hn (by omega)
  · exact scostAt_of_eq_err hn (h1.2 e s hm)

/-!
  `ecost_tac` / `scost_tac` follow the shape of the computation.  A bound action is closed by `cost_call`; since
  entry credits have the form `c + k`, that is unification, and the credit the action returns goes to what follows.
  Only where a computation ends (`pure`, a tail call) is there an inequality, for `omega`. -/

theorem ecost_of_rk' {α : Type} {m : M F α} {c : Nat} (h : Respects RK m) : ECost c (fun _ => c) m :=
  ecost_of_rk h (fun _ => Nat.le_refl _)

/-- closes `ECost c ?out callee`: a hypothesis; for a call that makes no read, `Respects RK callee`, looked up by
    the head of the call among the `walk` lemmas; the lemma about a cursor operation.  `apply_assumption` compares at
    default transparency unless told otherwise (it then unfolds one evaluator function against another), and with
    `exfalso` it applies a negated hypothesis to any goal. -/
macro "cost_call" : tactic => `(tactic| first
  | apply_assumption (transparency := .reducible) -exfalso -symm
  | ((with_reducible apply ecost_of_rk'); simp only [walk])
  | with_reducible first
    | exact expect_cost _
    | exact next_credit
    | exact accept_cost _
    | exact nextUnwrapped_cost
    | exact peekIsKw_cost _
    | exact tryNext_cost _
    | exact hasNext_cost
    | exact peek_credit
    | exact discardRemaining_cost
    | exact ecost_liftE _ (fun _ => Nat.le_refl _))

macro "scost_call" : tactic => `(tactic| first
  | apply_assumption (transparency := .reducible) -exfalso -symm
  | with_reducible exact scost_rewindAndAwaitInput _)

/-- the inequality where a computation ends; the credit a function call returns depends on its answer -/
macro "cost_le" : tactic => `(tactic| first
  | omega
  | (simp only [Option.isSome_some, Option.isSome_none, ↓reduceIte, Bool.false_eq_true]; omega))

/-- One step of an `ECost` goal, by the shape of the computation.  After a bind the credit of the bound action is
    known; if it depends on the answer, `ecost_opt` / `ecost_if` take what follows by cases (a plain `intro` would
    leave an `if` in the credit).  `split` stands before the rules for a tail call (on a `match` these would run
    through every rule of `cost_call` before failing); the last rule is the tail call whose answer-dependent credit
    is handed on as it is. -/
macro "ecost_step" : tactic => `(tactic| first
  | with_reducible exact ecost_fail _
  | (with_reducible apply ecost_pure; cost_le)
  | (with_reducible apply ecost_bind; cost_call; first | (apply ecost_opt; intro _) | apply ecost_if | intro _)
  | (with_reducible apply ecost_get_bind; intro _)
  | split
  | (with_reducible apply ecost_tail; cost_call; intro _; omega)
  | cost_call)

macro "ecost_tac" : tactic => `(tactic| ((try dsimp only); repeat' ecost_step))

/-- the same for an `SCost` goal; a statement may also end in a jump (`Respects RR`, looked up among the `walk`
    lemmas: a miss costs next to nothing, so it stands first) or in an expression-like call -/
macro "scost_step" : tactic => `(tactic| first
  | with_reducible exact scost_fail _
  | (with_reducible apply scost_pure; cost_le)
  | (with_reducible apply scost_bind; cost_call; first | (apply scost_opt; intro _) | apply scost_if | intro _)
  | (with_reducible apply scost_get_bind; intro _)
  | with_reducible exact scost_rpanic _
  | split
  | (with_reducible apply scost_of_rr; simp only [walk]; omega)
  | (with_reducible apply scost_tail; scost_call; omega)
  | (with_reducible apply scost_of_ecost; cost_call; intro _; omega))

macro "scost_tac" : tactic => `(tactic| ((try dsimp only); repeat' scost_step))

end Abasic.Cost
