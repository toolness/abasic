import Abasic.Tokenizer
/-
  The tokenizer for evaluation.

  Every run of the tokenizer on a concrete text, by `rfl` or in the kernel, first decodes the string
  literals of the extracted keyword tables (`w.toList` for each of the 24 words) and only then looks at
  the text.  The copies below read the table `kwC`, written out in characters, and are equal to the
  model's functions; an evaluation rewrites with `tokenize_eq`, `tokenizeRanges_eq` or `nextTokenC_eq`
  (`any_eq`, `rem_eq`, `data_eq` for a single matcher) and then evaluates.  Nothing else is to be proved about them.
  The literals of the text itself go the same way by `literal_chars`.
-/

/-- The kernel (and `decide`) reduce `"…".toList` by running the UTF-8 decoder, at a cost that grows faster
    than the length of the literal.  A literal is `String.ofList` of its characters, so rewriting with
    `String.toList_ofList` turns `"…".toList` into the list of characters and nothing is decoded. -/
macro "literal_chars" : tactic => `(tactic| repeat rw [String.toList_ofList])

namespace Abasic.Fast
open Abasic
variable {F : Type} [NumOps F]

def kwC : List (Str × Kw) := [(['D','I','M'], .Dim), (['L','E','T'], .Let), (['P','R','I','N','T'], .Print),
  (['I','N','P','U','T'], .Input), (['G','O','T','O'], .Goto), (['G','O','S','U','B'], .Gosub),
  (['R','E','T','U','R','N'], .Return), (['I','F'], .If), (['T','H','E','N'], .Then), (['E','L','S','E'], .Else),
  (['A','N','D'], .And), (['O','R'], .Or), (['N','O','T'], .Not), (['E','N','D'], .End), (['S','T','O','P'], .Stop),
  (['F','O','R'], .For), (['T','O'], .To), (['N','E','X','T'], .Next), (['S','T','E','P'], .Step),
  (['R','E','A','D'], .Read), (['R','E','S','T','O','R','E'], .Restore), (['D','E','F'], .Def)]

def tableC : List (Str × Kw) → Str → Option (Kw × Str)
  | [], _ => none
  | (w, k) :: rest, cs =>
    match chompKeyword w cs with
    | some r => some (k, r)
    | none => tableC rest cs

theorem table_eq (tbl : List (String × Kw)) (cs : Str) :
    chompKeywordTable tbl cs = tableC (tbl.map fun p => (p.1.toList, p.2)) cs := by
  induction tbl with
  | nil => rfl
  | cons e rest ih => simp only [chompKeywordTable, List.map_cons, tableC, ih]; rfl

theorem kwC_eq : (Extracted.keywords.map fun p => (p.1.toList, p.2)) = kwC := by decide +kernel
theorem rem_eq : Extracted.remKeyword.toList = ['R','E','M'] := by decide +kernel
theorem data_eq : Extracted.dataKeyword.toList = ['D','A','T','A'] := by decide +kernel

theorem any_eq (cs : Str) : chompAnyKeyword cs = tableC kwC cs := by
  rw [chompAnyKeyword, table_eq, kwC_eq]

def symLoopC (first : Bool) : Str → Str × Str
  | [] => ([], [])
  | c :: cs =>
    if isBasicWs c then
      let (d, r) := symLoopC first cs
      if d.isEmpty then ([], c :: cs) else (d, r)
    else
      let valid := if first then isAsciiAlpha c else (isAsciiAlnum c || c == '$')
      if !valid then ([], c :: cs)
      else if c == '$' then ([c], cs)
      else if (tableC kwC cs).isSome then ([asciiUpper c], cs)
      else
        let (d, r) := symLoopC false cs
        (asciiUpper c :: d, r)

theorem symLoopC_eq (first : Bool) (cs : Str) : symLoop first cs = symLoopC first cs := by
  induction cs generalizing first with
  | nil => rfl
  | cons c cs ih => simp only [symLoop, symLoopC, ih, any_eq]

def nextTokenC (cs : Str) : Chomp F :=
  match tableC kwC cs with
  | some (k, r) => .tok (.kw k) r
  | none =>
  match chompOneOrTwo cs with
  | some (k, r) => .tok (.kw k) r
  | none =>
  match cs with
  | '"' :: q =>
    (match splitAtQuote q with
     | some (s, r) => .tok (.str s) r
     | none => .unterminated)
  | _ =>
  match numLoop cs with
  | (c :: d, r) =>
    (match NumOps.parse (F := F) (c :: d) with
     | some x => if NumOps.isFinite x then .tok (.num x) r else .invalidNumber r
     | none => .invalidNumber r)
  | ([], _) =>
  match chompKeyword ['R','E','M'] cs with
  | some r => .tok (.remark r) []
  | none =>
  match chompKeyword ['D','A','T','A'] cs with
  | some r =>
    let (items, n) := parseData (F := F) r
    .tok (.data items) (dropBytes n r)
  | none =>
  match symLoopC true cs with
  | (c :: d, r) => .tok (.symbol (c :: d)) r
  | ([], _) => .illegalChar

theorem nextTokenC_eq (cs : Str) : nextToken (F := F) cs = nextTokenC cs := by
  unfold nextToken nextTokenC
  rw [any_eq, symLoopC_eq, rem_eq, data_eq]
  rfl

def tokLoopC : Nat → Str → Nat → List (RangedToken F) → List (RangedToken F) × Option TokErr
  | 0, _, _, acc => (acc.reverse, some .outOfFuel)
  | fuel + 1, cs, idx, acc =>
    let r := skipWs cs
    let start := idx + (len8 cs - len8 r)
    match r with
    | [] => (acc.reverse, none)
    | _ :: _ =>
      match nextTokenC (F := F) r with
      | .tok t r' =>
        let stop := start + (len8 r - len8 r')
        tokLoopC fuel r' stop ((t, start, stop) :: acc)
      | .illegalChar => (acc.reverse, some (.illegalChar start))
      | .unterminated => (acc.reverse, some (.unterminated start))
      | .invalidNumber r' => (acc.reverse, some (.invalidNumber start (start + (len8 r - len8 r'))))

theorem tokLoopC_eq (fuel : Nat) (cs : Str) (idx : Nat) (acc : List (RangedToken F)) :
    tokLoop fuel cs idx acc = tokLoopC fuel cs idx acc := by
  induction fuel generalizing cs idx acc with
  | zero => rfl
  | succ fuel ih => simp only [tokLoop, tokLoopC, nextTokenC_eq, ih]; rfl

theorem tokenizeRanges_eq (line : Str) (skip : Nat) :
    tokenizeRanges (F := F) line skip =
      tokLoopC (dropBytes skip line).length.succ (dropBytes skip line) skip [] := by
  unfold tokenizeRanges
  rw [tokLoopC_eq]

def tokenizeC (line : Str) (skip : Nat) : Except TokErr (List (Token F)) :=
  match tokLoopC (F := F) (dropBytes skip line).length.succ (dropBytes skip line) skip [] with
  | (ts, none) => .ok (ts.map (·.1))
  | (_, some e) => .error e

theorem tokenize_eq (line : Str) (skip : Nat) : tokenize (F := F) line skip = tokenizeC line skip := by
  unfold tokenize tokenizeC
  rw [tokenizeRanges_eq]
  rfl

end Abasic.Fast
