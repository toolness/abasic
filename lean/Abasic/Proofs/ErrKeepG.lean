import Abasic.Proofs.StmtSteps
import Abasic.Proofs.Step
/-
  Where an error leaves the cursor.

  `populate_error_location` reads `loc.line` of the state a statement fails in, so the
  statement refinement has to say more of a failure than its error:

  * `KQ` — a frame of expression evaluation (`ExprFrame`): when no user function is
    defined and warnings are off, the current line and the output queue are left
    alone (on both paths);
  * `FailsWith` — what is claimed of a failing run: the error, the nesting counter of
    the start and, without user functions, the line of the start and nothing printed.
    An expression fails that way by `KQ`, the other failures of a statement happen on
    the spot;
  * `StmtG.Refines` — the statement refinement for any GOSUB stack, with `FailsWith` as
    its error clause (proved in Proofs/StmtLemmasG.lean).
-/
set_option linter.unusedSectionVars false

namespace Abasic.Hoare
open Abasic Abasic.Proofs.XF M

variable {F : Type}

def KQ (σ σ' : St F) : Prop :=
  σ.fns = [] → σ.warnings = false →
    σ'.fns = [] ∧ σ'.warnings = false ∧ σ'.loc.line = σ.loc.line ∧ σ'.out = σ.out

theorem kq_same {σ σ' : St F} (h1 : σ'.fns = σ.fns) (h2 : σ'.warnings = σ.warnings)
    (h3 : σ'.loc.line = σ.loc.line) (h4 : σ'.out = σ.out) : KQ σ σ' :=
  fun hf hw => ⟨h1.trans hf, h2.trans hw, h3, h4⟩

instance : IsFrame (KQ (F := F)) where
  refl _ := kq_same rfl rfl rfl rfl
  trans h1 h2 := fun hf hw =>
    have a := h1 hf hw
    have b := h2 a.1 a.2.1
    ⟨b.1, b.2.1, b.2.2.1.trans a.2.2.1, b.2.2.2.trans a.2.2.2⟩

variable [NumOps F]

theorem kq_cstep {σ σ' : St F} (h : CStep σ σ') : KQ σ σ' := by
  cases h <;> exact kq_same rfl rfl rfl rfl

instance : ExprFrame (KQ (F := F)) where
  vstep h := by
    cases h with
    | warning msg hw => exact fun _ h => absurd hw (by simp [h])
    | _ => exact kq_same rfl rfl rfl rfl
  cstep := kq_cstep
  nested := nested_of_blind fun _ _ => kq_same rfl rfl rfl rfl
  -- without user functions the call is refused before anything is pushed
  call ev name d he := call_of_body kq_cstep ev he name d fun b => respects_of_final fun σ hf hw => by
    have h : (callBody ev name b σ).final = σ := by
      rw [callBody_eq, hf]; split <;> rfl
    rw [h]; exact ⟨hf, hw, rfl, rfl⟩

theorem kq_evalN_expr (n : Nat) : Respects KQ (evalN (F := F) n).expr := fr_evalN_expr n

end Abasic.Hoare

namespace Abasic.StmtL
open Abasic Abasic.Ref Abasic.ExprL Abasic.Hoare M

variable {F : Type}

def FailsWith {α : Type} (res : Res F α) (σ : St F) (x : Err) : Prop :=
  ∃ σ', res = .err { err := x } σ' ∧ σ'.nesting = σ.nesting ∧
    (σ.fns = [] → σ'.loc.line = σ.loc.line ∧ σ'.out = σ.out)

theorem failsWith_at {α : Type} {res : Res F α} {σ τ : St F} {x : Err} (h : res = .err { err := x } τ)
    (hn : τ.nesting = σ.nesting) (hl : τ.loc.line = σ.loc.line) (ho : τ.out = σ.out) : FailsWith res σ x :=
  ⟨τ, h, hn, fun _ => ⟨hl, ho⟩⟩

/-- the cursor and the read counter of the start state do not matter -/
theorem FailsWith.mv {α : Type} {res : Res F α} {σ : St F} {a k : Nat} {x : Err}
    (h : FailsWith res (mv σ a k) x) : FailsWith res σ x := h

theorem FailsWith.bind {α β : Type} {m : M F α} {f : α → M F β} {σ τ : St F} {x : Err}
    (h : FailsWith (m τ) σ x) : FailsWith ((m >>= f) τ) σ x :=
  let ⟨σ', h1, h2⟩ := h; ⟨σ', bind_err h1, h2⟩

theorem FailsWith.andThen {res : Res F Unit} {f : M F Unit} {σ : St F} {x : Err} (h : FailsWith res σ x) :
    FailsWith (andThen res f) σ x :=
  let ⟨σ', hres, h2⟩ := h; ⟨σ', by rw [hres]; rfl, h2⟩

theorem FailsWith.nested {α : Type} {m : M F α} {σ : St F} {x : Err} (hn : σ.nesting < Extracted.nestingLimit)
    (h : FailsWith (m (nest σ (σ.nesting + 1))) (nest σ (σ.nesting + 1)) x) : FailsWith (nested m σ) σ x :=
  let ⟨σ', hres, hn', hk⟩ := h; ⟨nest σ' σ.nesting, nested_err hn hres hn', rfl, hk⟩

end Abasic.StmtL

namespace Abasic.StmtG
open Abasic Abasic.Ref Abasic.StmtL

variable {F : Type}

/-- as `StmtL.Refines`, but END may clear a non-empty GOSUB stack, and a failure is a `FailsWith` -/
def Refines (res : Res F Unit) (σ : St F) (after eol : Nat) (r : RResult F) : Prop :=
  match r.ctl with
  | .next => ∃ k, σ.reads < k ∧ res = .ok ()
      { σ with vars := r.vars, out := outRecs r.out ++ σ.out, loc := { σ.loc with idx := after }, reads := k }
  | .skipLine => ∃ k, σ.reads < k ∧ res = .ok ()
      { σ with vars := r.vars, out := outRecs r.out ++ σ.out, loc := { σ.loc with idx := eol }, reads := k }
  | .jump n =>
    (σ.lines.has n = true → ∃ k, σ.reads < k ∧ res = .ok ()
      { σ with vars := r.vars, out := outRecs r.out ++ σ.out, bp := none,
               loc := { line := some n, idx := 0 }, reads := k }) ∧
    (σ.lines.has n = false → FailsWith res σ .undefinedStatement)
  | .stop => ∃ k, σ.reads < k ∧ res = .ok ()
      { σ with vars := r.vars, out := outRecs r.out ++ σ.out,
               stack := if σ.bp.isNone then [] else σ.stack, imm := [], loc := {}, reads := k }
  | .error x => FailsWith res σ x

end Abasic.StmtG
