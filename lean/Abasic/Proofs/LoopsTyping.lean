import Abasic.Props.C03Full
import Abasic.Props.C06Stmt
/-
  C06 for the control stack and DATA (Abasic/Props/C06Loops.lean), spec side:
  the static check `typeOfS2` of a statement of `RStmt2` (Ref/Stmt2.lean), the same as a
  judgement (`Typed2`); a checked statement, run by the reference step `RStmt2.exec` in a state
  that satisfies `TInv`, ends in `RunErr` errors only (READ: also DATA TYPE MISMATCH, reported as
  `errorAt`) and jumps only to lines the check has seen (`exec2_typed`); whole programs on the
  reference machine `RSteps2` (`rsteps2_typed`).
-/
set_option linter.unusedSectionVars false

namespace Abasic.Props.C06
open Abasic Abasic.Ref Abasic.ExprL Abasic.StmtL Abasic.ProgL Abasic.Prog2L Abasic.Stmt2L

variable {F : Type} [NumOps F]

def typeNum (e : Expr F) : Except Err Unit :=
  match typeOf e with
  | .error x => .error x
  | .ok .num => .ok ()
  | .ok .str => .error .typeMismatch

def typeNums : List (Expr F) → Except Err Unit
  | [] => .ok ()
  | e :: rest =>
    match typeNum e with
    | .error x => .error x
    | .ok _ => typeNums rest

/-- the optional STEP of a FOR -/
def typeStep : Option (Expr F) → Except Err Unit
  | none => .ok ()
  | some c => typeNum c

/-- What the analyzer checks on a statement of `RStmt2`; the first error in token order. -/
def typeOfS2 : RStmt2 F → (lineExists : Nat → Bool) → Except Err Unit
  | .base s, le => typeOfS s le
  | .forS v a b c, _ =>
    if VT.ofName v = .num then
      match typeNum a with
      | .error x => .error x
      | .ok _ =>
        match typeNum b with
        | .error x => .error x
        | .ok _ => typeStep c
    else .error .typeMismatch
  | .nextS v, _ => if VT.ofName v = .num then .ok () else .error .typeMismatch
  | .gosubS n, le => if le n then .ok () else .error .undefinedStatement
  | .returnS, _ => .ok ()
  | .readS _, _ => .ok ()
  | .dataS _, _ => .ok ()
  | .restoreS, _ => .ok ()
  | .dimS _ dims, _ => typeNums dims
  | .letCellS name idx e, _ =>
    match typeNums idx with
    | .error x => .error x
    | .ok _ =>
      match typeOf e with
      | .error x => .error x
      | .ok t => if VT.ofName name = t then .ok () else .error .typeMismatch

/-- **The typing judgement** for the statements of `RStmt2`, against the set `le`
    of existing line numbers. -/
def Typed2 (le : Nat → Bool) : RStmt2 F → Prop
  | .base s => typeOfS s le = .ok ()
  | .forS v a b c =>
    VT.ofName v = .num ∧ typeOf a = .ok .num ∧ typeOf b = .ok .num ∧ ∀ e, c = some e → typeOf e = .ok .num
  | .nextS v => VT.ofName v = .num
  | .gosubS n => le n = true
  | .dimS _ dims => ∀ e ∈ dims, typeOf e = .ok .num
  | .letCellS name idx e => (∀ i ∈ idx, typeOf i = .ok .num) ∧ typeOf e = .ok (VT.ofName name)
  | _ => True

/-! Checks run one after the other (`match a with | .error x => .error x | .ok _ => b`) or behind a
    guard: both pass, resp. the first error is reported. -/

theorem seq_ok_iff {a b : Except Err Unit} :
    (match a with | .error x => .error x | .ok _ => b : Except Err Unit) = .ok () ↔ a = .ok () ∧ b = .ok () := by
  cases a <;> simp

theorem seq_error {a b : Except Err Unit} {x : Err}
    (h : (match a with | .error x => .error x | .ok _ => b : Except Err Unit) = .error x) :
    a = .error x ∨ b = .error x := by
  cases a with
  | error y => exact .inl h
  | ok u => exact .inr h

theorem guard_ok_iff {c : Prop} [Decidable c] {a : Except Err Unit} {e : Err} :
    (if c then a else .error e) = .ok () ↔ c ∧ a = .ok () := by
  by_cases hc : c <;> simp [hc]

theorem guard_error {c : Prop} [Decidable c] {a : Except Err Unit} {e x : Err}
    (h : (if c then a else .error e) = .error x) : a = .error x ∨ x = e := by
  by_cases hc : c
  · rw [if_pos hc] at h; exact .inl h
  · rw [if_neg hc] at h; cases h; exact .inr rfl

theorem typeNum_ok_iff (e : Expr F) : typeNum e = .ok () ↔ typeOf e = .ok .num := by
  unfold typeNum
  cases h : typeOf e with
  | error x => simp
  | ok t => cases t <;> simp

theorem typeNums_ok_iff : ∀ (es : List (Expr F)), typeNums es = .ok () ↔ ∀ e ∈ es, typeOf e = .ok .num
  | [] => by simp [typeNums]
  | e :: rest => by simp [typeNums, seq_ok_iff, typeNum_ok_iff, typeNums_ok_iff rest]

theorem typeStep_ok_iff (c : Option (Expr F)) : typeStep c = .ok () ↔ ∀ e, c = some e → typeOf e = .ok .num := by
  cases c with
  | none => simp [typeStep]
  | some e => simp [typeStep, typeNum_ok_iff]

theorem typeOfS2_ok_iff (le : Nat → Bool) (s : RStmt2 F) : typeOfS2 s le = .ok () ↔ Typed2 le s := by
  cases s with
  | letCellS name idx e =>
    simp only [typeOfS2, Typed2, seq_ok_iff, typeNums_ok_iff]
    cases typeOf e with
    | error x => simp
    | ok t => simp [eq_comm]
  | _ => simp [typeOfS2, Typed2, seq_ok_iff, guard_ok_iff, typeNum_ok_iff, typeNums_ok_iff, typeStep_ok_iff]

theorem typeNum_error (e : Expr F) (x : Err) (h : typeNum e = .error x) : x = .typeMismatch := by
  unfold typeNum at h
  split at h
  next he => cases h; exact typeOf_error e _ he
  · cases h
  · cases h; rfl

theorem typeNums_error : ∀ (es : List (Expr F)) (x : Err), typeNums es = .error x → x = .typeMismatch
  | [], x, h => by cases h
  | e :: rest, x, h => (seq_error h).elim (typeNum_error e x) (typeNums_error rest x)

/-- the static errors: TYPE MISMATCH and UNDEF'D STATEMENT -/
theorem typeOfS2_error (le : Nat → Bool) (s : RStmt2 F) (x : Err) (h : typeOfS2 s le = .error x) :
    x = .typeMismatch ∨ x = .undefinedStatement := by
  cases s with
  | base s => exact typeOfS_error le s x h
  | forS v a b c =>
    rcases guard_error h with h | h
    · rcases seq_error h with h | h
      · exact .inl (typeNum_error a x h)
      rcases seq_error h with h | h
      · exact .inl (typeNum_error b x h)
      · cases c with
        | none => cases h
        | some c => exact .inl (typeNum_error c x h)
    · exact .inl h
  | nextS v => exact (guard_error h).elim nofun .inl
  | gosubS n => exact (guard_error h).elim nofun .inr
  | returnS | readS ts | dataS items | restoreS => cases h
  | dimS name dims => exact .inl (typeNums_error dims x h)
  | letCellS name idx e =>
    rcases seq_error h with h | h
    · exact .inl (typeNums_error idx x h)
    · split at h
      next he => cases h; exact .inl (typeOf_error e _ he)
      · exact (guard_error h).elim nofun .inl

/-- the run-time errors the property allows a checked program: value- and
    history-dependent failures, none of them a syntax error, TYPE MISMATCH or
    UNDEF'D STATEMENT -/
def RunErr (e : Err) : Prop :=
  e = .divisionByZero ∨ e = .nextWithoutFor ∨ e = .returnWithoutGosub ∨ e = .outOfData ∨ e = .oomStack ∨
  e = .oomArray ∨ e = .badSubscript ∨ e = .redimensionedArray ∨ e = .illegalQuantity

/-- `RunErr` plus the error of READ: a string item for a numeric variable -/
def RunErrD (e : Err) : Prop := RunErr e ∨ e = .dataTypeMismatch

theorem RunErr.divisionByZero : RunErr .divisionByZero := .inl rfl
theorem RunErr.nextWithoutFor : RunErr .nextWithoutFor := .inr (.inl rfl)
theorem RunErr.returnWithoutGosub : RunErr .returnWithoutGosub := .inr (.inr (.inl rfl))
theorem RunErr.outOfData : RunErr .outOfData := .inr (.inr (.inr (.inl rfl)))
theorem RunErr.oomStack : RunErr .oomStack := .inr (.inr (.inr (.inr (.inl rfl))))
theorem RunErr.oomArray : RunErr .oomArray := .inr (.inr (.inr (.inr (.inr (.inl rfl)))))
theorem RunErr.badSubscript : RunErr .badSubscript := .inr (.inr (.inr (.inr (.inr (.inr (.inl rfl))))))
theorem RunErr.redimensionedArray : RunErr .redimensionedArray :=
  .inr (.inr (.inr (.inr (.inr (.inr (.inr (.inl rfl)))))))
theorem RunErr.illegalQuantity : RunErr .illegalQuantity :=
  .inr (.inr (.inr (.inr (.inr (.inr (.inr (.inr rfl)))))))

theorem RunErr.not_static {e : Err} (h : RunErr e) :
    e ≠ .typeMismatch ∧ (∀ se, e ≠ .syntax se) ∧ e ≠ .undefinedStatement := by
  rcases h with h | h | h | h | h | h | h | h | h <;> subst h <;> simp

theorem RunErrD.not_static {e : Err} (h : RunErrD e) :
    e ≠ .typeMismatch ∧ (∀ se, e ≠ .syntax se) ∧ e ≠ .undefinedStatement := by
  rcases h with h | h
  · exact h.not_static
  · subst h; simp

def ArrayV.isStrs : ArrayV F → Bool
  | .strs _ _ => true
  | .nums _ _ => false

/-- an array holds cells of the kind its name announces -/
def ArrKind (arrays : List (Str × ArrayV F)) : Prop :=
  ∀ k a, alGet k arrays = some a → ArrayV.isStrs a = endsWithDollar k

/-- **The name-suffix typing invariant** of a reference state: variables
    (`RInv.typed`, the `WellTyped` of `sound_program`) and arrays hold what
    their names announce; `RInv.arrs`: the cell count of an array is the product
    of its dimensions. -/
structure TInv (r : RState2 F) : Prop where
  inv : RInv r
  kind : ArrKind r.arrays

theorem tinv_start (p : RProgram2 F) : TInv p.start :=
  ⟨C03.rinv_start p, fun k a h => by simp [RProgram2.start, alGet] at h⟩

theorem arrKind_alSet {arrays : List (Str × ArrayV F)} (h : ArrKind arrays) {k : Str} {a : ArrayV F}
    (ha : ArrayV.isStrs a = endsWithDollar k) : ArrKind (alSet k a arrays) :=
  Props.C16.alSet_all (P := fun k (a : ArrayV F) => ArrayV.isStrs a = endsWithDollar k) h ha

theorem create_kind {name : Str} {index : List Nat} {a : ArrayV F} (h : ArrayV.create (F := F) name index = .ok a) :
    ArrayV.isStrs a = endsWithDollar name := by
  obtain ⟨_, total, _, _, rfl⟩ := ArrayL.create_ok h
  cases endsWithDollar name <;> rfl

theorem cellSet_kind {a a' : ArrayV F} {index : List Nat} {v : Value F} (h : cellSet a index v = .ok a') :
    ArrayV.isStrs a' = ArrayV.isStrs a := by
  unfold cellSet at h
  split at h
  · split at h
    · cases h
    · cases h; rfl
  · split at h
    · cases h
    · cases h; rfl
  · cases h

theorem kinded : ArrProp (F := F) fun k a => ArrayV.isStrs a = endsWithDollar k :=
  ⟨create_kind, fun h ha => (cellSet_kind h).trans ha⟩

/-- the reference step keeps the typing invariant (of any statement, checked or not) -/
theorem exec2_tinv (items : List (Nat × DataElement F)) (n j : Nat) {r : RState2 F} (h : TInv r) (s : RStmt2 F) :
    TInv (s.exec items n j r).1 :=
  ⟨exec2_inv items n j h.inv s, (exec2_keeps kinded items n j h.inv.typed h.kind s).2⟩

theorem numE_typed {env : Str → Value F} (henv : WellTypedEnv env) {e : Expr F} (h : typeOf e = .ok .num) :
    (∃ x, numE env e = .ok x) ∨ numE env e = .error .divisionByZero := by
  rcases (fold_typeOf env henv e).1 .num h with ⟨v, hv, hk⟩ | hdz
  · cases v with
    | num x => exact .inl ⟨x, by simp only [numE, hv]⟩
    | str x => cases hk
  · exact .inr (by simp only [numE, hdz])

theorem stepE_typed {env : Str → Value F} (henv : WellTypedEnv env) {c : Option (Expr F)}
    (h : ∀ e, c = some e → typeOf e = .ok .num) :
    (∃ x, stepE env c = .ok x) ∨ stepE env c = .error .divisionByZero := by
  cases c with
  | none => exact .inl ⟨_, rfl⟩
  | some e => exact numE_typed henv (h e rfl)

theorem foldSubs_typed {env : Str → Value F} (henv : WellTypedEnv env) :
    ∀ (es : List (Expr F)), (∀ e ∈ es, typeOf e = .ok .num) →
      (∃ is, foldSubs env es = .ok is) ∨ foldSubs env es = .error .divisionByZero ∨
        foldSubs env es = .error .illegalQuantity
  | [], _ => .inl ⟨[], rfl⟩
  | e :: rest, h => by
    rcases numE_typed henv (h e List.mem_cons_self) with ⟨x, hx⟩ | hdz
    · by_cases hneg : NumOps.toI64 x < 0
      · exact .inr (.inr (by simp only [foldSubs, hx, hneg, ↓reduceIte]))
      · rcases foldSubs_typed henv rest (fun e' he' => h e' (List.mem_cons_of_mem _ he')) with ⟨is, his⟩ | h' | h'
        · exact .inl ⟨(NumOps.toI64 x).toNat :: is, by simp only [foldSubs, hx, hneg, ↓reduceIte, his]⟩
        · exact .inr (.inl (by simp only [foldSubs, hx, hneg, ↓reduceIte, h']))
        · exact .inr (.inr (by simp only [foldSubs, hx, hneg, ↓reduceIte, h']))
    · exact .inr (.inl (by simp only [foldSubs, hdz]))

/-- READ: OUT OF DATA, or DATA TYPE MISMATCH reported for the line of the item -/
theorem readAll_errs (items : List (Nat × DataElement F)) :
    ∀ (ts : List Str) (vars : List (Str × Value F)) (c : Nat),
      (readAll items ts vars c).2.2 = .next ∨ (readAll items ts vars c).2.2 = .error .outOfData ∨
        ∃ ln, (readAll items ts vars c).2.2 = .errorAt .dataTypeMismatch ln
  | [], vars, c => Or.inl rfl
  | t :: rest, vars, c => by
    simp only [readAll]
    split
    · exact .inr (.inl rfl)
    · split
      next hco => rw [ArrayL.coerce_err hco]; exact .inr (.inr ⟨_, rfl⟩)
      · exact readAll_errs items rest _ _

theorem cellSet_err {a : ArrayV F} {index : List Nat} {v : Value F} {e : Err} (h : cellSet a index v = .error e)
    (hk : ArrayV.isStrs a = (kindOf v == .str)) : e = .badSubscript := by
  unfold cellSet at h
  cases a with
  | strs dims cells =>
    cases v with
    | str x =>
      simp only at h
      split at h
      next hl => cases h; exact ArrayL.linearIndex_err hl
      · cases h
    | num x => simp [ArrayV.isStrs, kindOf] at hk
  | nums dims cells =>
    cases v with
    | num x =>
      simp only at h
      split at h
      next hl => cases h; exact ArrayL.linearIndex_err hl
      · cases h
    | str x => simp [ArrayV.isStrs, kindOf] at hk

theorem ofName_num_iff (v : Str) : VT.ofName v = .num ↔ endsWithDollar v = false := by
  unfold VT.ofName
  cases endsWithDollar v <;> simp

theorem storeCell_err {name : Str} {index : List Nat} {v : Value F} {arrays : List (Str × ArrayV F)} {e : Err}
    (h : storeCell name index v arrays = .error e) (hok : ArrKind arrays) (hv : kindOf v = VT.ofName name) :
    e = .badSubscript ∨ e = .oomArray := by
  have hm := matches_iff_kindOf.2 hv
  unfold storeCell at h
  rw [hm] at h
  simp only [Bool.not_true, Bool.false_eq_true, ↓reduceIte] at h
  split at h
  next hea =>
    cases h
    unfold ensureArr at hea
    split at hea
    · cases hea
    · exact ArrayL.create_err hea
  next a hea =>
    split at h
    next hcs =>
      cases h
      refine .inl (cellSet_err hcs ?_)
      rw [ensureArr_all kinded hea hok, hv]
      unfold VT.ofName
      cases endsWithDollar name <;> rfl
    · cases h

/-- what the reference step of a checked statement can do -/
structure Exec2OK (le : Nat → Bool) (res : RState2 F × Ctl2) : Prop where
  /-- an error reported for the line of the statement is one of `RunErr` -/
  err : ∀ x, res.2 = .error x → RunErr x
  /-- an error reported for another line is READ's DATA TYPE MISMATCH -/
  errAt : ∀ x ln, res.2 = .errorAt x ln → x = .dataTypeMismatch
  /-- a jump goes to a line the check has seen -/
  jump : ∀ m, res.2 = .jump m → le m = true

theorem exec2OK_of {le : Nat → Bool} {res : RState2 F × Ctl2} {c : Ctl2} (hc : res.2 = c)
    (h1 : ∀ x, c = .error x → RunErr x) (h2 : ∀ x ln, c = .errorAt x ln → x = .dataTypeMismatch)
    (h3 : ∀ m, c = .jump m → le m = true) : Exec2OK le res :=
  ⟨fun x hx => h1 x (hc ▸ hx), fun x ln hx => h2 x ln (hc ▸ hx), fun m hm => h3 m (hc ▸ hm)⟩

theorem exec2OK_err {le : Nat → Bool} {res : RState2 F × Ctl2} {e : Err} (hc : res.2 = .error e) (he : RunErr e) :
    Exec2OK le res :=
  exec2OK_of hc (fun x hx => by cases hx; exact he) (fun x ln hx => by cases hx) (fun m hm => by cases hm)

theorem exec2OK_plain {le : Nat → Bool} {res : RState2 F × Ctl2}
    (hc : res.2 = .next ∨ (∃ m k, res.2 = .resume m k)) : Exec2OK le res := by
  rcases hc with hc | ⟨m, k, hc⟩ <;>
    exact exec2OK_of hc (fun x hx => by cases hx) (fun x ln hx => by cases hx) (fun m hm => by cases hm)

/-- **Soundness on the reference semantics** for the statements of `RStmt2`: a
    typed statement run from a state satisfying the name-suffix invariant ends, if
    it fails, in one of the `RunErr` errors — or, for READ, in DATA TYPE MISMATCH,
    which the reference semantics reports as `errorAt` (for the line of the DATA
    statement) —, never in TYPE MISMATCH, a syntax error or UNDEF'D STATEMENT. -/
theorem exec2_typed (le : Nat → Bool) (items : List (Nat × DataElement F)) (n j : Nat) {r : RState2 F}
    (hinv : TInv r) (s : RStmt2 F) (hty : Typed2 le s) : Exec2OK le (s.exec items n j r) := by
  have henv : WellTypedEnv (envOf r.vars) := wellTypedEnv_envOf hinv.inv.typed
  -- The arms are alike. A typed expression evaluates or fails with `divisionByZero` (`numE_typed`; a subscript also with
  -- `illegalQuantity`, `foldSubs_typed`); after that `RStmt2.exec` reports the statement's own errors, all in `RunErr`:
  -- `hty` closes its `typeMismatch` branches (FOR, NEXT of a string variable; cell LET of a value of the other kind).
  cases s with
  | base s =>
    have hok := exec_typed le r.vars hinv.inv.typed s hty
    refine exec2OK_of (c := Ctl2.ofCtl (RStmt.exec r.vars s).ctl) rfl (fun x hx => ?_) (fun x ln hx => ?_)
      (fun m hm => ?_)
    · have := hok.err x (ofCtl_error hx); subst this; exact .divisionByZero
    · cases hc : (RStmt.exec r.vars s).ctl <;> rw [hc] at hx <;> cases hx
    · apply hok.jump
      cases hc : (RStmt.exec r.vars s).ctl <;> rw [hc] at hm <;> cases hm
      rfl
  | forS v a b c =>
    obtain ⟨hv, hta, htb, htc⟩ := hty
    rcases numE_typed henv hta with ⟨x, hx⟩ | hdz
    · rcases numE_typed henv htb with ⟨y, hy⟩ | hdz
      · rcases stepE_typed henv htc with ⟨z, hz⟩ | hdz
        · rw [exec_for hx hy hz]
          unfold forPush
          split
          · exact exec2OK_err rfl .oomStack
          · rw [(ofName_num_iff v).1 hv]
            exact exec2OK_plain (.inl rfl)
        · rw [exec_for_err_c hx hy hdz]; exact exec2OK_err rfl .divisionByZero
      · rw [exec_for_err_b hx hdz]; exact exec2OK_err rfl .divisionByZero
    · rw [exec_for_err_a hdz]; exact exec2OK_err rfl .divisionByZero
  | nextS v =>
    have hd : endsWithDollar v = false := (ofName_num_iff v).1 hty
    cases hv : envOf r.vars v with
    | str x =>
      have := henv v
      rw [hv] at this
      simp [Value.matchesName, hd] at this
    | num cur =>
      cases hf : findLoop v r.loops with
      | none =>
        exact exec2OK_err (e := .nextWithoutFor) (by simp only [RStmt2.exec, hv, hf]) .nextWithoutFor
      | some lr =>
        obtain ⟨l, rest⟩ := lr
        simp only [RStmt2.exec, hv, hf]
        split <;> split
        · exact exec2OK_plain (.inr ⟨_, _, rfl⟩)
        · exact exec2OK_plain (.inl rfl)
        · exact exec2OK_plain (.inr ⟨_, _, rfl⟩)
        · exact exec2OK_plain (.inl rfl)
  | gosubS m =>
    simp only [RStmt2.exec]
    split
    · exact exec2OK_err rfl .oomStack
    · exact exec2OK_of rfl (fun x hx => by cases hx) (fun x ln hx => by cases hx)
        (fun m' hm => by cases hm; exact hty)
  | returnS =>
    simp only [RStmt2.exec]
    split
    · exact exec2OK_err rfl .returnWithoutGosub
    · exact exec2OK_plain (.inr ⟨_, _, rfl⟩)
  | readS ts =>
    have hc : ((RStmt2.readS ts).exec items n j r).2 = (readAll items ts r.vars r.data).2.2 := rfl
    rcases readAll_errs items ts r.vars r.data with h | h | ⟨ln, h⟩
    · exact exec2OK_plain (.inl (hc.trans h))
    · exact exec2OK_err (hc.trans h) .outOfData
    · exact exec2OK_of (hc.trans h) (fun x hx => by cases hx) (fun x ln' hx => by cases hx; rfl)
        (fun m hm => by cases hm)
  | dataS items' => exact exec2OK_plain (.inl rfl)
  | restoreS => exact exec2OK_plain (.inl rfl)
  | dimS name dims =>
    rcases foldSubs_typed henv dims hty with ⟨index, hfi⟩ | hfi | hfi
    · simp only [RStmt2.exec, hfi]
      split
      · exact exec2OK_err rfl .redimensionedArray
      · split
        next err hcr =>
          refine exec2OK_err (e := err) rfl ?_
          rcases ArrayL.create_err hcr with rfl | rfl
          · exact .badSubscript
          · exact .oomArray
        · exact exec2OK_plain (.inl rfl)
    · rw [exec_dim_err hfi]; exact exec2OK_err rfl .divisionByZero
    · rw [exec_dim_err hfi]
      exact exec2OK_err rfl .illegalQuantity
  | letCellS name idx e =>
    obtain ⟨hti, hte⟩ := hty
    rcases foldSubs_typed henv idx hti with ⟨index, hfi⟩ | hfi | hfi
    · rcases (fold_typeOf (envOf r.vars) henv e).1 _ hte with ⟨v, hv, hk⟩ | hdz
      · rw [exec_letCell hfi hv]
        cases hcs : storeCell name index v r.arrays with
        | ok arrs => exact exec2OK_plain (.inl rfl)
        | error err =>
          refine exec2OK_err (e := err) rfl ?_
          -- the one use of `hinv.kind`: the array under `name` is of the kind of `name`, as the value is (`hk`);
          -- against an array of the other kind `cellSet` reports `typeMismatch`
          rcases storeCell_err hcs hinv.kind hk with rfl | rfl
          · exact .badSubscript
          · exact .oomArray
      · rw [exec_letCell_err2 hfi hdz]; exact exec2OK_err rfl .divisionByZero
    · rw [exec_letCell_err1 hfi]; exact exec2OK_err rfl .divisionByZero
    · rw [exec_letCell_err1 hfi]
      exact exec2OK_err rfl .illegalQuantity

/-- the statements of line `ln`, in order; the first static error, with the line -/
def typeOfStmts2 (le : Nat → Bool) (ln : Nat) : List (RStmt2 F) → Except (Err × Nat) Unit
  | [] => .ok ()
  | s :: rest =>
    match typeOfS2 s le with
    | .ok _ => typeOfStmts2 le ln rest
    | .error x => .error (x, ln)

def typeOfLines2 (le : Nat → Bool) : RProgram2 F → Except (Err × Nat) Unit
  | [] => .ok ()
  | l :: rest =>
    match typeOfStmts2 le l.1 l.2 with
    | .ok _ => typeOfLines2 le rest
    | .error x => .error x

/-- **The static check of a program** over the extended statement set: every
    statement of every line passes `typeOfS2`, the targets of GOTO and GOSUB being
    looked up among the lines of the program itself. -/
def typeOfP2 (p : RProgram2 F) : Except (Err × Nat) Unit := typeOfLines2 p.hasLine p

theorem typeOfStmts2_ok_iff (le : Nat → Bool) (ln : Nat) (ss : List (RStmt2 F)) :
    typeOfStmts2 le ln ss = .ok () ↔ ∀ s ∈ ss, typeOfS2 s le = .ok () := by
  induction ss with
  | nil => simp [typeOfStmts2]
  | cons s rest ih =>
    rw [typeOfStmts2, List.forall_mem_cons, ← ih]
    cases typeOfS2 s le <;> simp

theorem typeOfLines2_ok_iff (le : Nat → Bool) (p : RProgram2 F) :
    typeOfLines2 le p = .ok () ↔ ∀ l ∈ p, ∀ s ∈ l.2, typeOfS2 s le = .ok () := by
  induction p with
  | nil => simp [typeOfLines2]
  | cons l rest ih =>
    rw [typeOfLines2, List.forall_mem_cons, ← ih, ← typeOfStmts2_ok_iff le l.1]
    cases typeOfStmts2 le l.1 l.2 <;> simp

theorem typeOfP2_ok_iff (p : RProgram2 F) :
    typeOfP2 p = .ok () ↔ ∀ l ∈ p, ∀ s ∈ l.2, Typed2 p.hasLine s := by
  unfold typeOfP2
  rw [typeOfLines2_ok_iff]
  constructor
  · intro h l hl s hs; exact (typeOfS2_ok_iff _ s).1 (h l hl s hs)
  · intro h l hl s hs; exact (typeOfS2_ok_iff _ s).2 (h l hl s hs)

theorem typeOfStmts2_error {le : Nat → Bool} {ln : Nat} {ss : List (RStmt2 F)} {x : Err} {k : Nat}
    (h : typeOfStmts2 le ln ss = .error (x, k)) : (x = .typeMismatch ∨ x = .undefinedStatement) ∧ k = ln := by
  induction ss with
  | nil => cases h
  | cons s rest ih =>
    simp only [typeOfStmts2] at h
    split at h
    · exact ih h
    next hs => cases h; exact ⟨typeOfS2_error le s x hs, rfl⟩

theorem TInv.pc {r : RState2 F} (h : TInv r) (x : Option (Nat × Nat)) : TInv { r with pc := x } :=
  ⟨h.inv.pc x, h.kind⟩

/-- **One reference step of a checked program** keeps the typing invariant and
    can stop only with a `RunErr` error or DATA TYPE MISMATCH. -/
theorem rstep2_typed {p : RProgram2 F} (hty : typeOfP2 p = .ok ()) (r : RState2 F) (hinv : TInv r) :
    (∀ r', RStep2 p r = .inl r' → TInv r') ∧
    (∀ e ln, RStep2 p r = .inr (e, ln) → RunErrD e) := by
  have hok {n j ss s} (hl : p.line n = some ss) (hs : ss[j]? = some s) :=
    exec2_typed p.hasLine (allData p) n j hinv s
      ((typeOfP2_ok_iff p).1 hty _ (Prog2L.line_mem hl) s (List.mem_of_getElem? hs))
  refine ⟨fun r' h => ?_, fun e ln h => ?_⟩
  · rcases rstep_inl h with rfl | rfl | ⟨n, j, ss, s, X, -, -, -, -, rfl⟩
    · exact hinv
    · exact hinv.pc _
    · exact (exec2_tinv (allData p) n j hinv s).pc X
  · obtain ⟨n, j, ss, s, -, hl, hs, ⟨hc, -⟩ | hc | ⟨m, hc, hh, -⟩⟩ := rstep_inr h
    · exact .inl ((hok hl hs).err e hc)
    · exact .inr ((hok hl hs).errAt e ln hc)
    · rw [(hok hl hs).jump m hc] at hh; cases hh

theorem rsteps2_typed {p : RProgram2 F} (hty : typeOfP2 p = .ok ()) (n : Nat) (r : RState2 F) (hinv : TInv r) :
    (∀ r', RSteps2 p n r = .inl r' → TInv r') ∧
    (∀ e ln out, RSteps2 p n r = .inr (e, ln, out) → RunErrD e) :=
  ((C03.rsteps2_iterates p).sound (E := fun x => RunErrD x.1)
    (fun r h => ⟨(rstep2_typed hty r h).1, fun e => (rstep2_typed hty r h).2 e.1 e.2⟩) n r hinv).imp_right
    fun h e ln out => h (e, ln, out)

end Abasic.Props.C06
