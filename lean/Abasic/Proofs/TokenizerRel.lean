import Abasic.Proofs.TokLoop
/-
  For the proofs of C12: the step at a double quote, the loop without byte positions as a function
  of a budget (`tokList`; it is `Toks` once the budget exceeds the number of tokens), and the one
  lifting of a relation on texts through every matcher, one step and the loop (`Respects`,
  `StepRel`, `toks_rel`).  A respected relation keeps `sq` and is kept by `afterNb n`, so the
  matchers respect it by their equations in Matchers.lean.  Inserted blanks and letter case are
  instances (C12.lean, C12More.lean, C12Case.lean).
-/
namespace Abasic.Props.C12
open Abasic
open Abasic.Props.C14 (sq sq_of_skipWs_nil sq_of_skipWs_cons)

theorem _root_.Option.Rel.some_or_none {α β : Type} {r : α → β → Prop} {x : Option α} {y : Option β} :
    Option.Rel r x y → (∃ a b, x = some a ∧ y = some b ∧ r a b) ∨ (x = none ∧ y = none)
  | .some h => .inl ⟨_, _, rfl, rfl, h⟩
  | .none => .inr ⟨rfl, rfl⟩

variable {F : Type} [NumOps F]

/-- Tokens that carry no literal text: keywords/operators, numbers, identifiers.
    (Strings, remarks and DATA are the protected ones.) -/
def Unprotected : Token F → Bool
  | .kw _ => true
  | .num _ => true
  | .symbol _ => true
  | _ => false

/-- Outcomes of one tokenizer step that involve literal text. -/
def ProtectedOutcome : Chomp F → Prop
  | .tok t _ => Unprotected t = false
  | .unterminated => True
  | _ => False

def quoteOutcome (q : Str) : Chomp F :=
  match splitAtQuote q with
  | some (s, r) => .tok (.str s) r
  | none => .unterminated

theorem nextToken_quote (q : Str) (hk : chompAnyKeyword ('"' :: q) = none) (ho : chompOneOrTwo ('"' :: q) = none) :
    nextToken (F := F) ('"' :: q) = quoteOutcome q := by
  unfold quoteOutcome
  cases hs : splitAtQuote q with
  | none => exact (NextTok.unterminated hk ho rfl hs).eq
  | some p => exact (NextTok.str hk ho rfl hs).eq

/-- The tokens of `tokLoop` (or `none` for any error), without the byte ranges. -/
def tokList : Nat → Str → Option (List (Token F))
  | 0, _ => none
  | fuel + 1, cs =>
    match skipWs cs with
    | [] => some []
    | c :: t =>
      match nextToken (F := F) (c :: t) with
      | .tok tk rest => (tokList fuel rest).map (tk :: ·)
      | _ => none

theorem tokList_zero (cs : Str) : tokList (F := F) 0 cs = none := rfl

theorem tokList_succ_nil (fuel : Nat) (cs : Str) (hs : skipWs cs = []) :
    tokList (F := F) (fuel + 1) cs = some [] := by
  unfold tokList; simp only [hs]

theorem tokList_succ_cons (fuel : Nat) (cs : Str) (c : Char) (t : Str) (hs : skipWs cs = c :: t) :
    tokList (F := F) (fuel + 1) cs =
      match nextToken (F := F) (c :: t) with
      | .tok tk rest => (tokList fuel rest).map (tk :: ·)
      | _ => none := by
  rw [tokList]; simp only [hs]

theorem tokList_succ_tok (fuel : Nat) (cs : Str) (c : Char) (t : Str) (hs : skipWs cs = c :: t)
    (tk : Token F) (rest : Str) (hn : nextToken (F := F) (c :: t) = .tok tk rest) :
    tokList (F := F) (fuel + 1) cs = (tokList fuel rest).map (tk :: ·) := by
  rw [tokList_succ_cons fuel cs c t hs, hn]

open Abasic.Props.C14 (Toks)

theorem tokList_eq_some_iff (fuel : Nat) (cs : Str) (ts : List (Token F)) :
    tokList (F := F) fuel cs = some ts ↔ Toks cs ts ∧ ts.length < fuel := by
  induction fuel generalizing cs ts with
  | zero => simp [tokList_zero]
  | succ fuel ih =>
    cases hs : skipWs cs with
    | nil =>
      rw [tokList_succ_nil fuel cs hs]
      constructor
      · intro h; cases h; exact ⟨.nil hs, Nat.zero_lt_succ _⟩
      · rintro ⟨h, _⟩
        cases h with
        | nil => rfl
        | cons hs' => rw [hs] at hs'; cases hs'
    | cons c t =>
      rw [tokList_succ_cons fuel cs c t hs]
      constructor
      · intro h
        cases hn : nextToken (F := F) (c :: t) with
        | tok tk rest =>
          rw [hn] at h
          obtain ⟨ts', h1, rfl⟩ := Option.map_eq_some_iff.mp h
          obtain ⟨g1, g2⟩ := (ih rest ts').mp h1
          exact ⟨.cons hs hn g1, Nat.succ_lt_succ g2⟩
        | _ => rw [hn] at h; cases h
      · rintro ⟨h, hl⟩
        cases h with
        | nil hs' => rw [hs] at hs'; cases hs'
        | @cons _ c' r' tk rest ts' hs' hn ht =>
          obtain ⟨rfl, rfl⟩ := List.cons.inj (hs.symm.trans hs')
          rw [hn]
          dsimp only
          rw [(ih rest ts').mpr ⟨ht, Nat.lt_of_succ_lt_succ hl⟩]; rfl

theorem tokList_length_iff (cs : Str) (ts : List (Token F)) :
    tokList (F := F) (cs.length + 1) cs = some ts ↔ Toks cs ts := by
  rw [tokList_eq_some_iff]
  exact ⟨fun h => h.1, fun h => ⟨h, Nat.lt_succ_of_le h.length_le⟩⟩

theorem toks_iff_tokList (cs : Str) (ts : List (Token F)) :
    Toks cs ts ↔ tokList (F := F) (ts.length + 1) cs = some ts := by
  rw [tokList_eq_some_iff]
  exact ⟨fun h => ⟨h, Nat.lt_succ_self _⟩, fun h => h.1⟩

theorem tokenize_skip_iff_tokList (line : Str) (skip : Nat) (ts : List (Token F)) :
    tokenize (F := F) line skip = .ok ts ↔
      tokList (F := F) ((dropBytes skip line).length + 1) (dropBytes skip line) = some ts := by
  rw [tokenize_skip_iff_toks, tokList_length_iff]

theorem tokenize_iff_tokList (line : Str) (ts : List (Token F)) :
    tokenize (F := F) line 0 = .ok ts ↔ tokList (F := F) (line.length + 1) line = some ts := by
  rw [tokenize_iff_toks, tokList_length_iff]

theorem tokList_blank (fuel : Nat) (w : Char) (hw : isBasicWs w = true) (cs : Str) :
    tokList (F := F) fuel (w :: cs) = tokList (F := F) fuel cs := by
  cases fuel with
  | zero => rfl
  | succ fuel =>
    conv => lhs; unfold tokList; rw [skipWs_blank w cs hw]
    conv => rhs; unfold tokList

/-- `R` is respected by blank skipping: related texts are both blank, or have, behind
    their leading blanks, first characters with the same upper-casing and related tails.
    Every matcher looks at the text only through `skipWs` and `asciiUpper`, or compares
    with characters that are not letters, so this is all a relation has to satisfy. -/
structure Respects (R : Str → Str → Prop) : Prop where
  skip : ∀ {a b : Str}, R a b → R (skipWs a) (skipWs b) ∧ ((skipWs a = [] ∧ skipWs b = []) ∨
    ∃ c d t t', skipWs a = c :: t ∧ skipWs b = d :: t' ∧ asciiUpper c = asciiUpper d ∧ R t t')

abbrev ResRel {α : Type} (R : Str → Str → Prop) : Option (α × Str) → Option (α × Str) → Prop :=
  Option.Rel fun p q => p.1 = q.1 ∧ R p.2 q.2

theorem Respects.flip {R : Str → Str → Prop} (hR : Respects R) : Respects fun a b => R b a := by
  refine ⟨fun {a b} h => ⟨(hR.skip h).1, ?_⟩⟩
  rcases (hR.skip h).2 with ⟨h1, h2⟩ | ⟨c, d, t, t', h1, h2, hu, ht⟩
  · exact Or.inl ⟨h2, h1⟩
  · exact Or.inr ⟨d, c, t', t, h2, h1, hu.symm, ht⟩

section
variable {R : Str → Str → Prop} (hR : Respects R)
include hR

theorem Respects.sq_eq : ∀ {a b : Str}, R a b → sq a = sq b := by
  intro a
  induction a using skipWs_induction with
  | nil a hs =>
    intro b h
    rcases (hR.skip h).2 with ⟨_, h2⟩ | ⟨c, d, t, t', h1, _⟩
    · rw [sq_of_skipWs_nil a hs, sq_of_skipWs_nil b h2]
    · rw [hs] at h1; cases h1
  | cons a c t hs ih =>
    intro b h
    rcases (hR.skip h).2 with ⟨h1, _⟩ | ⟨c', d, t0, t', h1, h2, hu, ht⟩
    · rw [hs] at h1; cases h1
    · obtain ⟨rfl, rfl⟩ := List.cons.inj (hs.symm.trans h1)
      rw [sq_of_skipWs_cons a c t hs, sq_of_skipWs_cons b d t' h2, hu, ih ht]

theorem Respects.afterNb (n : Nat) {a b : Str} (h : R a b) : R (afterNb n a) (afterNb n b) := by
  induction n generalizing a b with
  | zero => exact h
  | succ n ih =>
    obtain ⟨h0, ⟨h1, h2⟩ | ⟨c, d, t, t', h1, h2, -, ht⟩⟩ := hR.skip h
    · rw [afterNb_succ_nil n h1, afterNb_succ_nil n h2]; rw [h1, h2] at h0; exact h0
    · rw [afterNb_succ_cons n h1, afterNb_succ_cons n h2]; exact ih ht

theorem chompKeyword_rel (kw : Str) {a b : Str} (h : R a b) :
    Option.Rel R (chompKeyword kw a) (chompKeyword kw b) := by
  rw [chompKeyword_nf, chompKeyword_nf, hR.sq_eq h]
  split
  · exact .some (hR.afterNb _ h)
  · exact .none

theorem chompKeywordTable_rel (tbl : List (String × Kw)) {a b : Str} (h : R a b) :
    ResRel R (chompKeywordTable tbl a) (chompKeywordTable tbl b) := by
  induction tbl with
  | nil => exact .none
  | cons e rest ih =>
    obtain ⟨word, k⟩ := e
    simp only [chompKeywordTable]
    rcases (chompKeyword_rel hR word.toList h).some_or_none with ⟨r, r', h1, h2, hr⟩ | ⟨h1, h2⟩ <;> rw [h1, h2]
    · exact .some ⟨rfl, hr⟩
    · exact ih

theorem chompAnyKeyword_rel {a b : Str} (h : R a b) : ResRel R (chompAnyKeyword a) (chompAnyKeyword b) :=
  chompKeywordTable_rel hR _ h

theorem chompOneOrTwo_rel {a b : Str} (h : R a b) : ResRel R (chompOneOrTwo a) (chompOneOrTwo b) := by
  unfold chompOneOrTwo
  rcases (hR.skip h).2 with ⟨h1, h2⟩ | ⟨c, d, t, t', h1, h2, hu, h3⟩ <;> rw [h1, h2]
  · exact .none
  · simp only
    rw [upperEq_lookup hu Extracted.oneChar (by decide)]
    cases Extracted.oneChar.lookup d with
    | none => exact .none
    | some k =>
      simp only
      rcases (hR.skip h3).2 with ⟨g1, g2⟩ | ⟨c2, d2, u, u', g1, g2, gu, g3⟩ <;> rw [g1, g2]
      · exact .some ⟨rfl, h3⟩
      · simp only
        rw [upperEq_lookupTwo gu Extracted.twoChar k (by decide)]
        cases lookupTwo Extracted.twoChar k d2 with
        | none => exact .some ⟨rfl, h3⟩
        | some k2 => exact .some ⟨rfl, g3⟩

theorem numLoop_rel {a b : Str} (h : R a b) :
    (numLoop a).1 = (numLoop b).1 ∧ R (numLoop a).2 (numLoop b).2 := by
  rw [numLoop_nf, numLoop_nf, hR.sq_eq h]
  exact ⟨rfl, hR.afterNb _ h⟩

theorem symLoop_rel (first : Bool) {a b : Str} (h : R a b) :
    (symLoop first a).1 = (symLoop first b).1 ∧ R (symLoop first a).2 (symLoop first b).2 := by
  rw [symLoop_nf, symLoop_nf, hR.sq_eq h]
  exact ⟨rfl, hR.afterNb _ h⟩
end

/-- How the outcomes of one step on two related texts `cs`, `cs'` can be related (`R` relates
    what is left): the same unprotected token; the same kind of error; both texts start a string
    literal; both a remark; both a DATA statement.  The outcomes are indices, so `cases` on a
    hypothesis about a given outcome leaves the constructors that can produce it. -/
inductive StepRel (F : Type) [NumOps F] (R : Str → Str → Prop) (cs cs' : Str) : Chomp F → Chomp F → Prop
  | tok {tk : Token F} {r r' : Str} : Unprotected tk = true → R r r' → StepRel F R cs cs' (.tok tk r) (.tok tk r')
  | illegal : StepRel F R cs cs' .illegalChar .illegalChar
  | invalid {r r' : Str} : R r r' → StepRel F R cs cs' (.invalidNumber r) (.invalidNumber r')
  | str {t t' s r : Str} : cs = '"' :: t → cs' = '"' :: t' → splitAtQuote t = some (s, r) →
      StepRel F R cs cs' (.tok (.str s) r) (quoteOutcome t')
  | unterminated {t t' : Str} : cs = '"' :: t → cs' = '"' :: t' → splitAtQuote t = none →
      StepRel F R cs cs' .unterminated (quoteOutcome t')
  | rem {r r' : Str} : chompKeyword Extracted.remKeyword.toList cs = some r →
      chompKeyword Extracted.remKeyword.toList cs' = some r' → R r r' →
      StepRel F R cs cs' (.tok (.remark r) []) (.tok (.remark r') [])
  | data {pl pl' : Str} : chompKeyword Extracted.dataKeyword.toList cs = some pl →
      chompKeyword Extracted.dataKeyword.toList cs' = some pl' → R pl pl' →
      StepRel F R cs cs' (.tok (.data (parseData (F := F) pl).1) (dropBytes (parseData (F := F) pl).2 pl))
        (.tok (.data (parseData (F := F) pl').1) (dropBytes (parseData (F := F) pl').2 pl'))

section
variable {R : Str → Str → Prop} (hR : Respects R)
include hR

theorem afterQuote_rel {cs cs' : Str} (h : R cs cs') :
    StepRel F R cs cs' (afterQuote (F := F) cs) (afterQuote (F := F) cs') := by
  obtain ⟨hn1, hn2⟩ := numLoop_rel hR h
  obtain ⟨hs1, hs2⟩ := symLoop_rel hR true h
  unfold afterQuote
  generalize numLoop cs = a at hn1 hn2
  generalize numLoop cs' = a' at hn1 hn2
  obtain ⟨ds, r⟩ := a
  obtain ⟨ds', r'⟩ := a'
  simp only at hn1 hn2
  subst hn1
  cases ds with
  | cons x d =>
    simp only
    cases NumOps.parse (F := F) (x :: d) with
    | none => exact .invalid hn2
    | some v =>
      simp only
      by_cases hf : NumOps.isFinite v = true
      · rw [if_pos hf, if_pos hf]; exact .tok rfl hn2
      · rw [if_neg hf, if_neg hf]; exact .invalid hn2
  | nil =>
    simp only
    rcases (chompKeyword_rel hR Extracted.remKeyword.toList h).some_or_none with
      ⟨p, p', h1, h2, hr⟩ | ⟨h1, h2⟩ <;> rw [h1, h2]
    · exact .rem h1 h2 hr
    simp only
    rcases (chompKeyword_rel hR Extracted.dataKeyword.toList h).some_or_none with
      ⟨p, p', h3, h4, hr⟩ | ⟨h3, h4⟩ <;> rw [h3, h4]
    · exact .data h3 h4 hr
    simp only
    generalize symLoop true cs = b at hs1 hs2
    generalize symLoop true cs' = b' at hs1 hs2
    obtain ⟨ss, u⟩ := b
    obtain ⟨ss', u'⟩ := b'
    simp only at hs1 hs2
    subst hs1
    cases ss with
    | cons y e => exact .tok rfl hs2
    | nil => exact .illegal

theorem nextToken_rel {c d : Char} {t t' : Str} (hu : asciiUpper c = asciiUpper d) (h : R (c :: t) (d :: t')) :
    StepRel F R (c :: t) (d :: t') (nextToken (F := F) (c :: t)) (nextToken (F := F) (d :: t')) := by
  rcases (chompAnyKeyword_rel hR h).some_or_none with ⟨⟨k, r⟩, ⟨k', r'⟩, k1, k2, rfl, hr⟩ | ⟨k1, k2⟩
  · rw [(NextTok.kw k1).eq, (NextTok.kw k2).eq]
    exact .tok rfl hr
  rcases (chompOneOrTwo_rel hR h).some_or_none with ⟨⟨k, r⟩, ⟨k', r'⟩, o1, o2, rfl, hr⟩ | ⟨o1, o2⟩
  · rw [(NextTok.op k1 o1).eq, (NextTok.op k2 o2).eq]
    exact .tok rfl hr
  by_cases hc : c = '"'
  · obtain rfl : c = d := upperEq_of_not_alpha hu (by rw [hc]; decide)
    subst hc
    rw [nextToken_quote t' k2 o2]
    cases hs : splitAtQuote t with
    | none => rw [(NextTok.unterminated k1 o1 rfl hs).eq]; exact .unterminated rfl rfl hs
    | some p => rw [(NextTok.str k1 o1 rfl hs).eq]; exact .str rfl rfl hs
  · have hd : d ≠ '"' := fun e => hc (by rw [e] at hu; exact (upperEq_of_not_alpha hu.symm (by decide)).symm)
    rw [NextTok.Plain.nextToken_eq ⟨k1, o1, fun q e => hc (List.cons.inj e).1⟩,
      NextTok.Plain.nextToken_eq ⟨k2, o2, fun q e => hd (List.cons.inj e).1⟩]
    exact afterQuote_rel hR h
end

theorem StepRel.unprotected {R : Str → Str → Prop} {cs cs' : Str} {x y : Chomp F} (h : StepRel F R cs cs' x y)
    {tk : Token F} {rest : Str} (hu : Unprotected tk = true) (hx : x = .tok tk rest) :
    ∃ rest', y = .tok tk rest' ∧ R rest rest' := by
  subst hx
  cases h with
  | tok _ hr => exact ⟨_, rfl, hr⟩
  | str | rem | data => cases hu

theorem StepRel.strTok {R : Str → Str → Prop} {cs cs' : Str} {x y : Chomp F} (h : StepRel F R cs cs' x y)
    {s rest : Str} (hx : x = .tok (.str s) rest) :
    ∃ t t', cs = '"' :: t ∧ cs' = '"' :: t' ∧ splitAtQuote t = some (s, rest) ∧ y = quoteOutcome t' := by
  subst hx
  cases h with
  | tok hu _ => cases hu
  | str e e' hs => exact ⟨_, _, e, e', hs, rfl⟩

theorem StepRel.remarkTok {R : Str → Str → Prop} {cs cs' : Str} {x y : Chomp F} (h : StepRel F R cs cs' x y)
    {pay rest : Str} (hx : x = .tok (.remark pay) rest) :
    rest = [] ∧ chompKeyword Extracted.remKeyword.toList cs = some pay ∧
      ∃ pay', chompKeyword Extracted.remKeyword.toList cs' = some pay' ∧ R pay pay' ∧
        y = .tok (.remark pay') [] := by
  subst hx
  cases h with
  | tok hu _ => cases hu
  | rem h0 h0' hr => exact ⟨rfl, h0, _, h0', hr, rfl⟩

theorem StepRel.dataTok {R : Str → Str → Prop} {cs cs' : Str} {x y : Chomp F} (h : StepRel F R cs cs' x y)
    {items : List (DataElement F)} {rest : Str} (hx : x = .tok (.data items) rest) :
    ∃ pl pl', chompKeyword Extracted.dataKeyword.toList cs = some pl ∧
      chompKeyword Extracted.dataKeyword.toList cs' = some pl' ∧ R pl pl' ∧
      items = (parseData (F := F) pl).1 ∧ rest = dropBytes (parseData (F := F) pl).2 pl ∧
      y = .tok (.data (parseData (F := F) pl').1) (dropBytes (parseData (F := F) pl').2 pl') := by
  subst hx
  cases h with
  | tok hu _ => cases hu
  | data h0 h0' hr => exact ⟨_, _, h0, h0', hr, rfl, rfl, rfl⟩

theorem StepRel.outcome {R : Str → Str → Prop} {cs cs' : Str} {x y : Chomp F} (h : StepRel F R cs cs' x y)
    {C : Chomp F → Chomp F → Prop} (htok : ∀ t r r', R r r' → C (.tok t r) (.tok t r'))
    (hill : C .illegalChar .illegalChar) (hinv : ∀ r r', R r r' → C (.invalidNumber r) (.invalidNumber r')) :
    C x y ∨ (ProtectedOutcome x ∧ ProtectedOutcome y) := by
  have hq : ∀ q : Str, ProtectedOutcome (quoteOutcome (F := F) q) := fun q => by
    unfold quoteOutcome
    cases splitAtQuote q with
    | none => trivial
    | some p => rfl
  cases h with
  | tok _ hr => exact Or.inl (htok _ _ _ hr)
  | illegal => exact Or.inl hill
  | invalid hr => exact Or.inl (hinv _ _ hr)
  | str => exact Or.inr ⟨rfl, hq _⟩
  | unterminated => exact Or.inr ⟨trivial, hq _⟩
  | rem | data => exact Or.inr ⟨rfl, rfl⟩

theorem toks_rel {R : Str → Str → Prop} (hR : Respects R) {cs cs' : Str} {ts : List (Token F)}
    (ht : Toks cs ts) : R cs cs' → (∀ t ∈ ts, Unprotected t = true) → Toks cs' ts := by
  induction ht generalizing cs' with
  | nil hs =>
    intro h _
    rcases (hR.skip h).2 with ⟨_, h2⟩ | ⟨c, d, t, t', h1, _⟩
    · exact .nil h2
    · rw [hs] at h1; cases h1
  | @cons cs c r t r' ts hs hn _ ih =>
    intro h hun
    have hsk := (hR.skip h).1
    rcases (hR.skip h).2 with ⟨h1, _⟩ | ⟨c0, d, t0, t', h1, h2, hu, _⟩
    · rw [hs] at h1; cases h1
    · obtain ⟨rfl, rfl⟩ := List.cons.inj (hs.symm.trans h1)
      rw [hs, h2] at hsk
      obtain ⟨rest', hn', hr⟩ := (nextToken_rel (F := F) hR hu hsk).unprotected (hun t (List.mem_cons_self ..)) hn
      exact .cons h2 hn' (ih hr fun x hx => hun x (List.mem_cons_of_mem _ hx))

/-- The budget counts tokens, so any budget that is not smaller serves the other text. -/
theorem tokLoop_rel_unprotected {R : Str → Str → Prop} (hR : Respects R) {cs cs' : Str} (h : R cs cs')
    (fuel fuel' idx idx' : Nat) (acc acc' : List (RangedToken F))
    (hf : fuel ≤ fuel') (hacc : acc.map (·.1) = acc'.map (·.1))
    (hok : (tokLoop fuel cs idx acc).2 = none)
    (hun : ∀ x ∈ (tokLoop fuel cs idx acc).1, Unprotected x.1 = true) :
    (tokLoop fuel' cs' idx' acc').2 = none ∧
    (tokLoop fuel' cs' idx' acc').1.map (·.1) = (tokLoop fuel cs idx acc).1.map (·.1) := by
  obtain ⟨out, e, h1, hl, hfu, hle⟩ := tokLoop_lexed fuel cs idx acc
  rw [h1] at hok hun ⊢
  simp only at hok
  subst hok
  have hlt : out.length < fuel := by
    rcases Nat.lt_or_ge out.length fuel with g | g
    · exact g
    · cases hfu.mpr (Nat.le_antisymm hle g)
  obtain ⟨out', hl', ho⟩ := (toks_rel hR hl.toks h fun t ht => by
    obtain ⟨x, hx, rfl⟩ := List.mem_map.mp ht
    exact hun x (List.mem_append_right _ hx)).lexed idx'
  have hlen : out'.length = out.length := by simpa using congrArg List.length ho
  rw [hl'.tokLoop_eq (by simp) fuel' acc' (by omega)]
  exact ⟨rfl, by simp only [List.map_append, List.map_reverse, ho, hacc]⟩

end Abasic.Props.C12
