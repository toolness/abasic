import Abasic.Proofs.Stmt3Store
import Abasic.Proofs.Prog2Rel
import Abasic.Proofs.Expr2Lemmas
/-
  C03, full statement language — how a reference state (`RState3`) and a model state (`St`)
  correspond while a program runs (Proofs/Prog2Rel.lean for Ref/Stmt3.lean), and `Outcome3`: what one activation
  of the statement evaluator has to do for each `Ctl2` of the reference step.  The function tables are related by
  `FnsLink` (Proofs/Expr2Lemmas.lean: every function of the reference table is stored with its parameters and
  points at the tokens of its body) and the lines of the definitions.
-/
set_option linter.unusedSectionVars false

namespace Abasic.Prog3L
open Abasic Abasic.Ref Abasic.ExprL Abasic.ExprL2 Abasic.StmtL Abasic.ProgL M
open Abasic.Prog2L (Rel2)

variable {F : Type} [NumOps F]

/-- the reference position `(n, j)` — statement `j` of line `n`, where `j - 1` is
    a statement of that line — against the model location right behind statement `j - 1` -/
def AddrRel3 (p : RProgram3 F) (n j : Nat) (loc : Loc) : Prop :=
  ∃ ss j0 s, p.line n = some ss ∧ j = j0 + 1 ∧ ss[j0]? = some s ∧
    loc = { line := some n, idx := (preToks3 ss j0).length + (renderS3 s).length }

def RetRel3 (p : RProgram3 F) (a : Nat × Nat) (f : Frame F) : Prop :=
  f.vars = [] ∧ AddrRel3 p a.1 a.2 f.ret

def LoopRel3 (p : RProgram3 F) (l : RLoop F) (i : LoopInfo F) : Prop :=
  i.sym = l.var ∧ i.toV = l.limit ∧ i.stepV = l.step ∧ AddrRel3 p l.line l.idx i.loc

/-- the DATA chunks of a program, as `Lines.dataChunks` computes them from its store -/
def progChunks3 (p : RProgram3 F) : List (Loc × List (DataElement F)) :=
  p.flatMap fun l => Props.C03.lineChunks (l.1, renderLine3 l.2)

def DataRel3 (p : RProgram3 F) (c : Nat) : Option (DataIter F) → Prop
  | none => c = 0
  | some it => it.chunks = progChunks3 p ∧
      Prog2L.remItems it = ((allData3 p).drop c).map fun x => (some x.1, x.2)

structure Mem3 (p : RProgram3 F) (r : RState3 F) (σ : St F) : Prop where
  vars : σ.vars = r.vars
  arrays : σ.arrays = r.arrays
  rng : σ.rng = r.rng
  loops : Rel2 (LoopRel3 p) r.loops σ.loops
  stack : Rel2 (RetRel3 p) r.rets σ.stack
  data : DataRel3 p r.data σ.data
  out : σ.out = outRecs r.out
  fns : FnsLink σ r.fns
  fnLines : ∀ name fd, alGet name σ.fns = some fd → alGet name r.fnLines = some fd.line

structure Env3 (p : RProgram3 F) (σ : St F) : Prop where
  lines : Holds σ.lines p
  warnings : σ.warnings = false
  tracing : σ.tracing = false

structure RInv3 (r : RState3 F) : Prop where
  typed : ∀ k v, alGet k r.vars = some v → v.matchesName k = true
  arrs : ∀ k a, alGet k r.arrays = some a → a.cellCount = Props.C16.prod a.dims
  rng : r.rng < Extracted.rngModulus
  rets : r.rets.length ≤ Extracted.stackLimit

/-- what a statement leaves alone -/
structure Kept (σ σ' : St F) : Prop where
  lines : σ'.lines = σ.lines
  warnings : σ'.warnings = σ.warnings
  tracing : σ'.tracing = σ.tracing
  nesting : σ'.nesting = σ.nesting
  state : σ'.state = σ.state

theorem Kept.refl (σ : St F) : Kept σ σ := ⟨rfl, rfl, rfl, rfl, rfl⟩

theorem Kept.trans {a b c : St F} (h1 : Kept a b) (h2 : Kept b c) : Kept a c :=
  ⟨h2.lines.trans h1.lines, h2.warnings.trans h1.warnings, h2.tracing.trans h1.tracing,
   h2.nesting.trans h1.nesting, h2.state.trans h1.state⟩

theorem Kept.env {p : RProgram3 F} {σ σ' : St F} (h : Kept σ σ') (he : Env3 p σ) : Env3 p σ' :=
  ⟨by rw [h.lines]; exact he.lines, by rw [h.warnings]; exact he.warnings, by rw [h.tracing]; exact he.tracing⟩

/-- the error was raised while the body of a user function was evaluated: the
    call has located it on the line of a function definition -/
def InFn (σ : St F) (te : TErr) : Prop :=
  ∃ (l : Loc) (name : Str) (fd : FnDef), te.loc = some l ∧ alGet name σ.fns = some fd ∧ l.line = some fd.line

/-- a run started in `σ` fails with `e`: nothing printed, the nesting counter and
    the line of the cursor as at the start; the error is not yet located, or it is
    located on the line of a function definition -/
def ErrFrom {α : Type} (σ : St F) (e : Err) (res : Res F α) : Prop :=
  ∃ te σ', res = .err te σ' ∧ te.err = e ∧ σ'.out = σ.out ∧ σ'.loc.line = σ.loc.line ∧
    σ'.nesting = σ.nesting ∧ (te.loc = none ∨ InFn σ te)

def ColonAt (σ : St F) (n i : Nat) : Prop := ∃ ts, σ.lines.get n = some ts ∧ ts[i]? = some (.kw .Colon)

/-- The run `res` of one statement activation from `σ` (cursor on line `n`)
    against the reference result `(r', ctl)`.  `after`: the cursor position just
    behind the statement, `eol`: the length of the line.  (`next`: DEF skips the
    colon behind it as well.) -/
def Outcome3 (p : RProgram3 F) (σ : St F) (n after eol : Nat) (res : Res F Unit) (r' : RState3 F) : Ctl2 → Prop
  | .next => ∃ σ', res = .ok () σ' ∧ Kept σ σ' ∧ Mem3 p r' σ' ∧ σ'.loc.line = some n ∧
      (σ'.loc.idx = after ∨ (σ'.loc.idx = after + 1 ∧ ColonAt σ' n after))
  | .skipLine => ∃ σ', res = .ok () σ' ∧ Kept σ σ' ∧ Mem3 p r' σ' ∧ σ'.loc = { line := some n, idx := eol }
  | .jump m =>
    (σ.lines.has m = true →
      ∃ σ', res = .ok () σ' ∧ Kept σ σ' ∧ Mem3 p r' σ' ∧ σ'.loc = { line := some m, idx := 0 }) ∧
    (σ.lines.has m = false → ErrFrom σ .undefinedStatement res)
  | .stop => ∃ σ', res = .ok () σ' ∧ Kept σ σ' ∧ σ'.vars = r'.vars ∧ σ'.arrays = r'.arrays ∧
      σ'.out = outRecs r'.out ∧ σ'.loc = {} ∧ σ'.imm = []
  | .resume m k => ∃ σ', res = .ok () σ' ∧ Kept σ σ' ∧ Mem3 p r' σ' ∧ AddrRel3 p m k σ'.loc
  | .error e => e ≠ .dataTypeMismatch ∧ ErrFrom σ e res
  | .errorAt e ln => e = .dataTypeMismatch ∧
      ∃ σ' i, res = .err { err := e } σ' ∧ σ'.dataLoc = some { line := some ln, idx := i } ∧ σ'.out = σ.out ∧
        σ'.nesting = σ.nesting

end Abasic.Prog3L
