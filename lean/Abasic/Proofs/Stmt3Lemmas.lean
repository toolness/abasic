import Abasic.Proofs.ProgView
import Abasic.Proofs.Stmt3Rel
/-
  C03, full statement language — the statement evaluator on the statements of Ref/Stmt3.lean: the hypotheses of
  the statement lemmas (`Sync`: the model state realises the reference state; `Pos`: where the statement stands;
  `EndFor3`: what may follow it), first as they are stated for an `RProgram3`, then for a `ProgView` (namespace
  `Stmt3V`); and how an `Outcome3` is moved between states (`Start`: a little later in the same activation),
  through `nested`, and past the ELSE test that follows a THEN branch.  (The interface to the expression
  evaluator is in Proofs/Stmt3Seq.lean.)
-/
set_option linter.unusedSectionVars false

namespace Abasic.Stmt3L
open Abasic Abasic.Ref Abasic.ExprL Abasic.ExprL2 Abasic.StmtL Abasic.ProgL Abasic.Prog3L Abasic.Hoare M
open Abasic.Prog2L (Rel2)

variable {F : Type} [NumOps F]

/-- `σ'` differs from `σ` in the cursor, the counters and the run state only -/
structure Same (σ σ' : St F) : Prop where
  vars : σ'.vars = σ.vars
  arrays : σ'.arrays = σ.arrays
  rng : σ'.rng = σ.rng
  loops : σ'.loops = σ.loops
  stack : σ'.stack = σ.stack
  data : σ'.data = σ.data
  out : σ'.out = σ.out
  fns : σ'.fns = σ.fns
  lines : σ'.lines = σ.lines
  warnings : σ'.warnings = σ.warnings
  tracing : σ'.tracing = σ.tracing

theorem Same.refl (σ : St F) : Same σ σ := ⟨rfl, rfl, rfl, rfl, rfl, rfl, rfl, rfl, rfl, rfl, rfl⟩

theorem Same.trans {a b c : St F} (h1 : Same a b) (h2 : Same b c) : Same a c :=
  ⟨h2.vars.trans h1.vars, h2.arrays.trans h1.arrays, h2.rng.trans h1.rng, h2.loops.trans h1.loops,
   h2.stack.trans h1.stack, h2.data.trans h1.data, h2.out.trans h1.out, h2.fns.trans h1.fns,
   h2.lines.trans h1.lines, h2.warnings.trans h1.warnings, h2.tracing.trans h1.tracing⟩

theorem same_mv (σ : St F) (a r : Nat) : Same σ (mv σ a r) := ⟨rfl, rfl, rfl, rfl, rfl, rfl, rfl, rfl, rfl, rfl, rfl⟩
theorem same_nest (σ : St F) (k : Nat) : Same σ (nest σ k) := ⟨rfl, rfl, rfl, rfl, rfl, rfl, rfl, rfl, rfl, rfl, rfl⟩

/-- the model state `σ` realises the reference state `r` (cursor, counters and run state apart) -/
structure Sync (p : RProgram3 F) (r : RState3 F) (σ : St F) : Prop where
  wf : p.WF
  env : Env3 p σ
  mem : Mem3 p r σ
  inv : RInv3 r
  bodies : ∀ name d, alGet name r.fns = some d → Resolved r.fns d.body

theorem callFuel_ok (k : Nat) : Extracted.stackLimit < callFuel + k := by
  unfold callFuel; omega

theorem frames_len (r : RState3 F) : r.env.frames.length = r.rets.length := by
  show (r.rets.map fun _ => ([] : List (Str × Value F))).length = _
  rw [List.length_map]

theorem _root_.Abasic.Prog3L.ErrFrom.bind {α β : Type} {σ τ : St F} {e : Err} {m : M F α} {f : α → M F β}
    (h : ErrFrom σ e (m τ)) : ErrFrom σ e ((m >>= f) τ) := by
  obtain ⟨te, σ', h1, h2⟩ := h
  exact ⟨te, σ', bind_err h1, h2⟩

theorem _root_.Abasic.Prog3L.ErrFrom.from {α : Type} {σ0 σ : St F} {e : Err} {res : Res F α} (h : ErrFrom σ e res)
    (ho : σ.out = σ0.out) (hl : σ.loc.line = σ0.loc.line) (hn : σ.nesting = σ0.nesting) (hf : σ.fns = σ0.fns) :
    ErrFrom σ0 e res := by
  obtain ⟨te, σ', h1, h2, h3, h4, h5, h6⟩ := h
  refine ⟨te, σ', h1, h2, h3.trans ho, h4.trans hl, h5.trans hn, ?_⟩
  rcases h6 with h6 | ⟨l, name, fd, a, b, c⟩
  · exact Or.inl h6
  · exact Or.inr ⟨l, name, fd, a, by rw [← hf]; exact b, c⟩

theorem errFrom_fail {α : Type} {σ τ : St F} {e : Err} {res : Res F α} (h : res = .err { err := e } τ)
    (ho : τ.out = σ.out) (hl : τ.loc.line = σ.loc.line) (hn : τ.nesting = σ.nesting) : ErrFrom σ e res :=
  ⟨{ err := e }, τ, h, rfl, ho, hl, hn, Or.inl rfl⟩

theorem _root_.Abasic.Prog3L.ErrFrom.nested {α : Type} {m : M F α} {σ : St F} {e : Err} (hn : σ.nesting < Extracted.nestingLimit)
    (h : ErrFrom (nest σ (σ.nesting + 1)) e (m (nest σ (σ.nesting + 1)))) : ErrFrom σ e (nested m σ) := by
  obtain ⟨te, σ', h1, h2, h3, h4, h5, h6⟩ := h
  exact ⟨te, nest σ' σ.nesting, nested_err hn h1 h5, h2, h3, h4, rfl, h6⟩

theorem inFn_of_locOK {σ : St F} {te : TErr} (h : LocOK σ te) (hnd : te.err ≠ .dataTypeMismatch) :
    te.loc = none ∨ InFn σ te := by
  rcases h with h | h | h
  · exact Or.inl h
  · exact absurd h hnd
  · exact Or.inr h

/-- what follows a statement: the end of the line or a colon — or, behind a
    statement that `closes`, an ELSE -/
def EndFor3 (s : RStmt3 F) (rest : List (Token F)) : Prop :=
  LineEnd3 rest ∨ (s.closes = true ∧ ∃ rest', rest = .kw .Else :: rest')

theorem EndFor3.stmtEnd {s : RStmt3 F} {rest : List (Token F)} (h : EndFor3 s rest) : StmtEnd rest := by
  rcases h with h | ⟨_, rest', rfl⟩
  · exact h.lineEnd.stmtEnd
  · exact stmtEnd_else rest'

theorem EndFor3.ends {s : RStmt3 F} {rest : List (Token F)} (h : EndFor3 s rest) (j : Nat) : Ends j rest :=
  ends_of_stmtEnd h.stmtEnd j

theorem EndFor3.lineEnd3 {s : RStmt3 F} {rest : List (Token F)} (h : EndFor3 s rest) (hc : s.closes = false) :
    LineEnd3 rest := by
  rcases h with h | ⟨h, _⟩
  · exact h
  · rw [hc] at h; cases h

/-- The statement `s` (statement `j` of line `n`, or a branch of the IF that is)
    stands between `pre` and `rest` on the current line; `after` and `eol` are
    the positions behind it and at the end of the line; the position behind it
    is the return address of statement `j` when `s` ends the statement. -/
structure Pos (p : RProgram3 F) (σ : St F) (n j : Nat) (s : RStmt3 F) (pre rest : List (Token F))
    (after eol : Nat) : Prop where
  locline : σ.loc.line = some n
  cur : At σ pre (renderS3 s ++ rest)
  hafter : after = pre.length + (renderS3 s).length
  heol : eol = (pre ++ (renderS3 s ++ rest)).length
  addr : LineEnd3 rest → AddrRel3 p n (j + 1) { line := some n, idx := after }

theorem Pos.after_le {p : RProgram3 F} {σ : St F} {n j : Nat} {s : RStmt3 F} {pre rest : List (Token F)}
    {after eol : Nat} (h : Pos p σ n j s pre rest after eol) : after + rest.length = eol := by
  rw [h.hafter, h.heol]
  simp only [List.length_append]
  omega

/-- `σ1` is `σ` a little later in the same activation: what `Outcome3` reads of its start state is the same -/
structure Start (σ σ1 : St F) : Prop where
  kept : Kept σ σ1
  out : σ1.out = σ.out
  fns : σ1.fns = σ.fns
  line : σ1.loc.line = σ.loc.line

theorem start_mv (σ : St F) (a k : Nat) : Start σ (mv σ a k) := ⟨⟨rfl, rfl, rfl, rfl, rfl⟩, rfl, rfl, rfl⟩

theorem start_upd (σ : St F) (a k : Nat) (env : RefEnv F) : Start σ (upd σ a k env) :=
  ⟨⟨rfl, rfl, rfl, rfl, rfl⟩, rfl, rfl, rfl⟩

theorem Start.trans {a b c : St F} (h1 : Start a b) (h2 : Start b c) : Start a c :=
  ⟨h1.kept.trans h2.kept, h2.out.trans h1.out, h2.fns.trans h1.fns, h2.line.trans h1.line⟩

theorem Start.refl (σ : St F) : Start σ σ := ⟨Kept.refl σ, rfl, rfl, rfl⟩

theorem lineToks_start {σ τ : St F} (hst : Start σ τ) {n : Nat} (hl : σ.loc.line = some n) :
    lineToks τ = lineToks σ := by
  unfold lineToks
  rw [hst.line, hl, hst.kept.lines]

theorem _root_.Abasic.Prog3L.ErrFrom.start {α : Type} {σ σ1 : St F} {e : Err} {res : Res F α} (h : ErrFrom σ1 e res) (hs : Start σ σ1) :
    ErrFrom σ e res :=
  h.from hs.out hs.line hs.kept.nesting hs.fns

theorem errFrom_at {α : Type} {σ τ : St F} {e : Err} {res : Res F α} (hst : Start σ τ)
    (h : res = .err { err := e } τ) : ErrFrom σ e res :=
  (errFrom_fail h rfl rfl rfl : ErrFrom τ e res).start hst

theorem kept_nest {σ σ' : St F} (h : Kept (nest σ (σ.nesting + 1)) σ') : Kept σ (nest σ' σ.nesting) :=
  ⟨h.lines, h.warnings, h.tracing, rfl, h.state⟩

theorem at_of {σ : St F} {n : Nat} {pre post : List (Token F)} (hl : σ.loc.line = some n)
    (hg : σ.lines.get n = some (pre ++ post)) (hi : σ.loc.idx = pre.length) : At σ pre post := by
  refine ⟨?_, hi⟩
  unfold lineToks
  rw [hl]
  exact hg

theorem get_of_at {σ : St F} {n : Nat} {pre post : List (Token F)} (hl : σ.loc.line = some n)
    (h : At σ pre post) : σ.lines.get n = some (pre ++ post) := by
  have := h.1
  unfold lineToks at this
  rw [hl] at this
  exact this

theorem tail_lineEnd3 (ss : List (RStmt3 F)) (j0 : Nat) : LineEnd3 (renderTail3 (ss.drop (j0 + 1))) :=
  SeqL.tail_lineEnd3 (L := Prog3L.lang) ss j0

theorem addr_at {p : RProgram3 F} {σ : St F} (hh : Holds σ.lines p) {m k : Nat} (ha : AddrRel3 p m k σ.loc) :
    ∃ pre post, At σ pre post ∧ LineEnd3 post :=
  SeqL.addr_at (L := Prog3L.lang) hh.seq ha

theorem noElse_compile3 {p : RProgram3 F} (hwf : p.WF) {σ : St F} (h : Holds σ.lines p) : NoElseLine σ :=
  SeqL.noElse hwf.seq h.seq

theorem kept_mv {σ σ' : St F} (h : Kept σ σ') (a k : Nat) : Kept σ (mv σ' a k) :=
  ⟨h.lines, h.warnings, h.tracing, h.nesting, h.state⟩

theorem closeLine3_next (r' : RState3 F) : closeLine3 (r', Ctl2.next) = (r', .skipLine) := rfl

theorem closeLine3_other {r' : RState3 F} {c : Ctl2} (h : c ≠ .next) : closeLine3 (r', c) = (r', c) := by
  cases c <;> first | rfl | exact absurd rfl h

end Abasic.Stmt3L

/-! ## The statement lemmas, for any kind of program

  The lemmas are proved once for a `ProgView` (Proofs/ProgView.lean); Stmt3All.lean instantiates
  them for `RProgram3`, Stmt3TRel.lean for programs with INPUT statements. -/

namespace Abasic.Stmt3V
open Abasic Abasic.Ref Abasic.ExprL Abasic.ExprL2 Abasic.StmtL Abasic.ProgL Abasic.Prog3L Abasic.Stmt3L Abasic.Hoare M
open Abasic.Prog2L (Rel2)

variable {F : Type} [NumOps F]

/-! ### the relations of Stmt3Rel.lean, for a view -/

structure Mem3 (p : ProgView F) (r : RState3 F) (σ : St F) : Prop where
  vars : σ.vars = r.vars
  arrays : σ.arrays = r.arrays
  rng : σ.rng = r.rng
  loops : Rel2 p.Loop r.loops σ.loops
  stack : Rel2 p.Ret r.rets σ.stack
  data : p.Data r.data σ.data
  out : σ.out = outRecs r.out ++ p.base
  fns : FnsLink σ r.fns
  fnLines : ∀ name fd, alGet name σ.fns = some fd → alGet name r.fnLines = some fd.line
  input : p.asks = true → σ.input = none

structure Env3 (p : ProgView F) (σ : St F) : Prop where
  lines : p.Holds σ.lines
  warnings : σ.warnings = false
  tracing : σ.tracing = false

theorem Mem3.congr {p : ProgView F} {r : RState3 F} {σ σ' : St F} (h : Mem3 p r σ)
    (h1 : σ'.vars = σ.vars) (h2 : σ'.arrays = σ.arrays) (h3 : σ'.rng = σ.rng) (h4 : σ'.loops = σ.loops)
    (h5 : σ'.stack = σ.stack) (h6 : σ'.data = σ.data) (h7 : σ'.out = σ.out) (h8 : σ'.fns = σ.fns)
    (h9 : σ'.lines = σ.lines) (h10 : p.asks = true → σ'.input = σ.input := by intro _; rfl) : Mem3 p r σ' :=
  ⟨h1.trans h.vars, h2.trans h.arrays, h3.trans h.rng, h4 ▸ h.loops, h5 ▸ h.stack, h6 ▸ h.data, h7.trans h.out,
    h.fns.congr h8 h9, h8 ▸ h.fnLines, fun ha => (h10 ha).trans (h.input ha)⟩

/-- The run `res` of one statement activation from `σ` (cursor on line `n`)
    against the reference result `(r', ctl)` (`Outcome3` of Stmt3Rel.lean).  For a view of the small language two
    clauses say more, which `Prog2L.Outcome` asks for: only a DEF ends one token behind the statement, and the
    function table of the model stays. -/
def Outcome3 (p : ProgView F) (σ : St F) (n after eol : Nat) (res : Res F Unit) (r' : RState3 F) : Ctl2 → Prop
  | .next => ∃ σ', res = .ok () σ' ∧ Kept σ σ' ∧ Mem3 p r' σ' ∧ σ'.loc.line = some n ∧
      (σ'.loc.idx = after ∨
        (σ'.loc.idx = after + 1 ∧ ColonAt σ' n after ∧ (p.full = false → ∃ f, alGet f r'.fnLines = some n)))
  | .skipLine => ∃ σ', res = .ok () σ' ∧ Kept σ σ' ∧ Mem3 p r' σ' ∧ σ'.loc = { line := some n, idx := eol }
  | .jump m =>
    (σ.lines.has m = true →
      ∃ σ', res = .ok () σ' ∧ Kept σ σ' ∧ Mem3 p r' σ' ∧ σ'.loc = { line := some m, idx := 0 }) ∧
    (σ.lines.has m = false → ErrFrom σ .undefinedStatement res)
  | .stop => ∃ σ', res = .ok () σ' ∧ Kept σ σ' ∧ σ'.vars = r'.vars ∧ σ'.arrays = r'.arrays ∧
      σ'.out = outRecs r'.out ++ p.base ∧ σ'.loc = {} ∧ σ'.imm = [] ∧ (p.full = false → σ'.fns = σ.fns)
  | .resume m k => ∃ σ', res = .ok () σ' ∧ Kept σ σ' ∧ Mem3 p r' σ' ∧ p.Addr m k σ'.loc
  | .error e => e ≠ .dataTypeMismatch ∧ ErrFrom σ e res
  | .errorAt e ln => e = .dataTypeMismatch ∧
      ∃ σ' i, res = .err { err := e } σ' ∧ σ'.dataLoc = some { line := some ln, idx := i } ∧ σ'.out = σ.out ∧
        σ'.nesting = σ.nesting

/-- what only RND and the calls of user functions need of the reference state -/
structure ExprInv (r : RState3 F) : Prop where
  rng : r.rng < Extracted.rngModulus
  rets : r.rets.length ≤ Extracted.stackLimit
  bodies : ∀ name d, alGet name r.fns = some d → Resolved r.fns d.body

theorem ExprInv.congr {r r' : RState3 F} (h : ExprInv r) (h1 : r'.rng = r.rng) (h2 : r'.rets = r.rets)
    (h3 : r'.fns = r.fns) : ExprInv r' :=
  ⟨h1 ▸ h.rng, h2 ▸ h.rets, h3 ▸ h.bodies⟩

/-- as `Stmt3L.Sync`; `ExprInv` is asked of a view of the full language only -/
structure Sync (p : ProgView F) (r : RState3 F) (σ : St F) : Prop where
  wf : p.WF
  env : Env3 p σ
  mem : Mem3 p r σ
  typed : ∀ k v, alGet k r.vars = some v → v.matchesName k = true
  arrs : ∀ k a, alGet k r.arrays = some a → a.cellCount = Props.C16.prod a.dims
  exprs : p.full = true → ExprInv r

theorem Sync.ofInv {p : ProgView F} {r : RState3 F} {σ : St F} (hwf : p.WF) (henv : Env3 p σ) (hmem : Mem3 p r σ)
    (hinv : RInv3 r) (hb : ∀ name d, alGet name r.fns = some d → Resolved r.fns d.body) : Sync p r σ :=
  ⟨hwf, henv, hmem, hinv.typed, hinv.arrs, fun _ => ⟨hinv.rng, hinv.rets, hb⟩⟩

theorem Sync.inv {p : ProgView F} {r : RState3 F} {σ : St F} (h : Sync p r σ) (hf : p.full = true) : RInv3 r :=
  ⟨h.typed, h.arrs, (h.exprs hf).rng, (h.exprs hf).rets⟩

theorem Sync.same {p : ProgView F} {r : RState3 F} {σ σ' : St F} (h : Sync p r σ) (hs : Same σ σ')
    (hi : σ'.input = σ.input) : Sync p r σ' where
  wf := h.wf
  env := ⟨by rw [hs.lines]; exact h.env.lines, hs.warnings.trans h.env.warnings, hs.tracing.trans h.env.tracing⟩
  mem := h.mem.congr hs.vars hs.arrays hs.rng hs.loops hs.stack hs.data hs.out hs.fns hs.lines fun _ => hi
  typed := h.typed
  arrs := h.arrs
  exprs := h.exprs

theorem Sync.mv {p : ProgView F} {r : RState3 F} {σ : St F} (h : Sync p r σ) (a k : Nat) : Sync p r (mv σ a k) :=
  h.same (same_mv σ a k) rfl

theorem Sync.nest {p : ProgView F} {r : RState3 F} {σ : St F} (h : Sync p r σ) (k : Nat) : Sync p r (nest σ k) :=
  h.same (same_nest σ k) rfl

/-- the relation of Proofs/Expr2Lemmas.lean between a model state and a reference environment -/
theorem Sync.rel {p : ProgView F} {r : RState3 F} {σ : St F} (h : Sync p r σ) (hf : p.full = true) :
    Rel callFuel σ r.env where
  vars := h.mem.vars
  frames := frames_rets h.mem.stack
  arrays := h.mem.arrays
  rng := h.mem.rng
  warnings := h.env.warnings
  fns := h.mem.fns
  cap := by rw [← h.mem.stack.length]; exact (h.exprs hf).rets
  fuel := callFuel_ok _
  arrs_ok := h.arrs
  rng_ok := (h.exprs hf).rng
  bodies := (h.exprs hf).bodies

theorem Sync.put {p : ProgView F} {r : RState3 F} {σ : St F} (h : Sync p r σ) {env' : RefEnv F}
    (hs : Step r.env env') (a k : Nat) : Sync p (r.put env') (upd σ a k env') where
  wf := h.wf
  env := ⟨h.env.lines, h.env.warnings, h.env.tracing⟩
  mem := {
    vars := h.mem.vars
    arrays := rfl
    rng := rfl
    loops := h.mem.loops
    stack := h.mem.stack
    data := h.mem.data
    out := h.mem.out
    fns := ⟨h.mem.fns.undef, h.mem.fns.defd⟩
    fnLines := h.mem.fnLines, input := h.mem.input }
  typed := h.typed
  arrs := hs.arrs h.arrs
  exprs := fun hf => ⟨hs.rng (h.exprs hf).rng, (h.exprs hf).rets, (h.exprs hf).bodies⟩

structure Pos (p : ProgView F) (σ : St F) (n j : Nat) (s : RStmt3 F) (pre rest : List (Token F))
    (after eol : Nat) : Prop where
  locline : σ.loc.line = some n
  cur : At σ pre (renderS3 s ++ rest)
  hafter : after = pre.length + (renderS3 s).length
  heol : eol = (pre ++ (renderS3 s ++ rest)).length
  addr : LineEnd3 rest → p.Addr n (j + 1) { line := some n, idx := after }

theorem outcome_start {p : ProgView F} {σ σ1 : St F} {n after eol : Nat} {res : Res F Unit} {r' : RState3 F}
    {c : Ctl2} (h : Outcome3 p σ1 n after eol res r' c) (hs : Start σ σ1) : Outcome3 p σ n after eol res r' c := by
  cases c with
  | next =>
    obtain ⟨σ', h1, h2, h3, h4⟩ := h
    exact ⟨σ', h1, hs.kept.trans h2, h3, h4⟩
  | skipLine =>
    obtain ⟨σ', h1, h2, h3, h4⟩ := h
    exact ⟨σ', h1, hs.kept.trans h2, h3, h4⟩
  | jump m =>
    refine ⟨fun hh => ?_, fun hh => ?_⟩
    · obtain ⟨σ', h1, h2, h3, h4⟩ := h.1 (by rw [hs.kept.lines]; exact hh)
      exact ⟨σ', h1, hs.kept.trans h2, h3, h4⟩
    · exact (h.2 (by rw [hs.kept.lines]; exact hh)).start hs
  | stop =>
    obtain ⟨σ', h1, h2, h3, h4, h5, h6, h7, h8⟩ := h
    exact ⟨σ', h1, hs.kept.trans h2, h3, h4, h5, h6, h7, fun hf => (h8 hf).trans hs.fns⟩
  | resume m k =>
    obtain ⟨σ', h1, h2, h3, h4⟩ := h
    exact ⟨σ', h1, hs.kept.trans h2, h3, h4⟩
  | error e => exact ⟨h.1, h.2.start hs⟩
  | errorAt e ln =>
    obtain ⟨he, σ', i, h1, h2, h3, h4⟩ := h
    exact ⟨he, σ', i, h1, h2, h3.trans hs.out, h4.trans hs.kept.nesting⟩

theorem mem_nest {p : ProgView F} {r : RState3 F} {σ : St F} (h : Mem3 p r σ) (k : Nat) : Mem3 p r (nest σ k) :=
  h.congr rfl rfl rfl rfl rfl rfl rfl rfl rfl

theorem outcome_nested {p : ProgView F} {m : M F Unit} {σ : St F} {n after eol : Nat} {r' : RState3 F} {c : Ctl2}
    (hn : σ.nesting < Extracted.nestingLimit)
    (h : Outcome3 p (nest σ (σ.nesting + 1)) n after eol (m (nest σ (σ.nesting + 1))) r' c) :
    Outcome3 p σ n after eol (nested m σ) r' c := by
  have hok : ∀ {σ' : St F}, m (nest σ (σ.nesting + 1)) = .ok () σ' → Kept (nest σ (σ.nesting + 1)) σ' →
      nested m σ = .ok () (nest σ' σ.nesting) := fun h1 h2 => nested_ok hn h1 h2.nesting
  cases c with
  | next =>
    obtain ⟨σ', h1, h2, h3, h4⟩ := h
    exact ⟨_, hok h1 h2, kept_nest h2, mem_nest h3 _, h4⟩
  | skipLine =>
    obtain ⟨σ', h1, h2, h3, h4⟩ := h
    exact ⟨_, hok h1 h2, kept_nest h2, mem_nest h3 _, h4⟩
  | jump k =>
    refine ⟨fun hh => ?_, fun hh => ?_⟩
    · obtain ⟨σ', h1, h2, h3, h4⟩ := h.1 hh
      exact ⟨_, hok h1 h2, kept_nest h2, mem_nest h3 _, h4⟩
    · exact ErrFrom.nested hn (h.2 hh)
  | stop =>
    obtain ⟨σ', h1, h2, h3⟩ := h
    exact ⟨_, hok h1 h2, kept_nest h2, h3⟩
  | resume a b =>
    obtain ⟨σ', h1, h2, h3, h4⟩ := h
    exact ⟨_, hok h1 h2, kept_nest h2, mem_nest h3 _, h4⟩
  | error e => exact ⟨h.1, ErrFrom.nested hn h.2⟩
  | errorAt e ln =>
    obtain ⟨he, σ', i, h1, h2, h3, h4⟩ := h
    exact ⟨he, nest σ' σ.nesting, i, nested_err hn h1 h4, h2, h3, rfl⟩

theorem mem_mv {p : ProgView F} {r : RState3 F} {σ : St F} (h : Mem3 p r σ) (a k : Nat) : Mem3 p r (mv σ a k) :=
  h.congr rfl rfl rfl rfl rfl rfl rfl rfl rfl

/-- behind a branch that did not run to completion the ELSE test finds no ELSE: the cursor stands at the end of
    the line, at the start of another line, at an address, or nowhere; `ts` is the line of the statement -/
theorem tail_other {p : ProgView F} {σ : St F} {n after a' eol : Nat} {res : Res F Unit} {r' : RState3 F} {c : Ctl2}
    (hh : p.Holds σ.lines) (hwf : p.WF) {ts : List (Token F)} (hg : σ.lines.get n = some ts) (he : eol = ts.length)
    (hc : c ≠ .next) (hO : Outcome3 p σ n after eol res r' c) :
    Outcome3 p σ n a' eol (andThen res tailElse) r' c := by
  have hNE := hwf.noElse hh
  cases c with
  | next => exact absurd rfl hc
  | skipLine =>
    obtain ⟨σ', h1, h2, h3, h4⟩ := hO
    refine ⟨mv σ' 0 (σ'.reads + 1), ?_, kept_mv h2 _ _, mem_mv h3 _ _, ?_⟩
    · rw [h1]
      show tailElse σ' = _
      refine tailElse_no (pre := ts) (post := []) (at_of (by rw [h4]) ?_ (by rw [h4, he])) ?_
      · rw [List.append_nil, h2.lines]; exact hg
      · intro t ht; cases ht
    · show ({ line := σ'.loc.line, idx := σ'.loc.idx + 0 } : Loc) = _
      rw [h4]
      rfl
  | jump m =>
    refine ⟨fun hhas => ?_, fun hhas => ?_⟩
    · obtain ⟨σ', h1, h2, h3, h4⟩ := hO.1 hhas
      refine ⟨mv σ' 0 (σ'.reads + 1), ?_, kept_mv h2 _ _, mem_mv h3 _ _, ?_⟩
      · rw [h1]
        show tailElse σ' = _
        cases hgm : σ.lines.get m with
        | none => simp [Lines.has, hgm] at hhas
        | some ts' =>
          refine tailElse_no (pre := []) (post := ts') (at_of (n := m) (by rw [h4]) ?_ (by rw [h4]; rfl)) (hNE m ts' hgm)
          rw [h2.lines, List.nil_append]; exact hgm
      · show ({ line := σ'.loc.line, idx := σ'.loc.idx + 0 } : Loc) = _
        rw [h4]
    · obtain ⟨te, σ', h1, h2⟩ := hO.2 hhas
      exact ⟨te, σ', by rw [h1]; rfl, h2⟩
  | stop =>
    obtain ⟨σ', h1, h2, h3, h4, h5, h6, h7, h8⟩ := hO
    refine ⟨mv σ' 0 (σ'.reads + 1), ?_, kept_mv h2 _ _, h3, h4, h5, ?_, h7, h8⟩
    · rw [h1]
      show tailElse σ' = _
      refine tailElse_no (pre := []) (post := []) ⟨?_, by rw [h6]; rfl⟩ (fun t ht => by cases ht)
      unfold lineToks
      rw [h6, h7]
      rfl
    · show ({ line := σ'.loc.line, idx := σ'.loc.idx + 0 } : Loc) = _
      rw [h6]
  | resume a b =>
    obtain ⟨σ', h1, h2, h3, h4⟩ := hO
    obtain ⟨pre', post', hAt', hLE'⟩ := hwf.addr_at (σ := σ') (by rw [h2.lines]; exact hh) h4
    refine ⟨mv σ' 0 (σ'.reads + 1), ?_, kept_mv h2 _ _, mem_mv h3 _ _, ?_⟩
    · rw [h1]
      show tailElse σ' = _
      exact tailElse_no hAt' hLE'.noElse
    · show p.Addr a b { line := σ'.loc.line, idx := σ'.loc.idx + 0 }
      exact h4
  | error e =>
    obtain ⟨hnd, te, σ', h1, h2⟩ := hO
    exact ⟨hnd, te, σ', by rw [h1]; rfl, h2⟩
  | errorAt e ln =>
    obtain ⟨he', σ', i, h1, h2⟩ := hO
    exact ⟨he', σ', i, by rw [h1]; rfl, h2⟩

/-- behind a THEN branch that is not followed by ELSE: nothing more happens -/
theorem tail_line {p : ProgView F} {σ : St F} {n j after eol : Nat} {res : Res F Unit} {r' : RState3 F} {c : Ctl2}
    (hh : p.Holds σ.lines) (hwf : p.WF) {t : RStmt3 F} {pre0 rest : List (Token F)}
    (hP : Pos p σ n j t pre0 rest after eol) (hLE : LineEnd3 rest) (hO : Outcome3 p σ n after eol res r' c) :
    Outcome3 p σ n after eol (andThen res tailElse) r' c := by
  have hg : σ.lines.get n = some ((pre0 ++ renderS3 t) ++ rest) := by
    rw [List.append_assoc]; exact get_of_at hP.locline hP.cur
  have ha : after = (pre0 ++ renderS3 t).length := by rw [hP.hafter, List.length_append]
  have he : eol = ((pre0 ++ renderS3 t) ++ rest).length := by rw [hP.heol, List.append_assoc]
  generalize pre0 ++ renderS3 t = pre at hg ha he
  by_cases hc : c = .next
  · subst hc
    obtain ⟨σ', h1, h2, h3, h4, h5⟩ := hO
    have hg' : σ'.lines.get n = some (pre ++ rest) := by rw [h2.lines]; exact hg
    rcases h5 with h5 | ⟨h5, ⟨ts0, hts0, hc0⟩, hdef⟩
    · refine ⟨mv σ' 0 (σ'.reads + 1), ?_, kept_mv h2 _ _, mem_mv h3 _ _, h4, Or.inl h5⟩
      rw [h1]
      show tailElse σ' = _
      exact tailElse_no (at_of h4 hg' (by rw [h5, ha])) hLE.noElse
    · rcases hLE with rfl | ⟨t, ts, rfl, hne⟩
      · rw [hg'] at hts0
        cases hts0
        rw [List.append_nil, List.getElem?_eq_none (by omega)] at hc0
        cases hc0
      · refine ⟨mv σ' 0 (σ'.reads + 1), ?_, kept_mv h2 _ _, mem_mv h3 _ _, h4, Or.inr ⟨h5, ⟨ts0, hts0, hc0⟩, hdef⟩⟩
        rw [h1]
        show tailElse σ' = _
        refine tailElse_no (pre := pre ++ [.kw .Colon]) (post := t :: ts) (at_of h4 ?_ ?_) ?_
        · rw [hg']; simp only [List.append_assoc, List.cons_append, List.nil_append]
        · rw [h5, ha]; simp only [List.length_append, List.length_cons, List.length_nil]
        · intro t' ht'
          simp only [List.head?_cons, Option.some.injEq] at ht'
          subst ht'
          exact hne
  · exact tail_other hh hwf hg he hc hO

/-- behind a THEN branch in front of ELSE: a branch that ran to completion abandons the line -/
theorem tail_else {p : ProgView F} {σ : St F} {n j after eol : Nat} {res : Res F Unit} {r' : RState3 F} {c : Ctl2}
    (hh : p.Holds σ.lines) (hwf : p.WF) {t : RStmt3 F} {pre0 rest : List (Token F)}
    (hP : Pos p σ n j t pre0 (.kw .Else :: rest) after eol) (hO : Outcome3 p σ n after eol res r' c) {a' : Nat} :
    Outcome3 p σ n a' eol (andThen res tailElse) (closeLine3 (r', c)).1 (closeLine3 (r', c)).2 := by
  have hg : σ.lines.get n = some ((pre0 ++ renderS3 t) ++ .kw .Else :: rest) := by
    rw [List.append_assoc]; exact get_of_at hP.locline hP.cur
  have ha : after = (pre0 ++ renderS3 t).length := by rw [hP.hafter, List.length_append]
  have he : eol = ((pre0 ++ renderS3 t) ++ .kw .Else :: rest).length := by rw [hP.heol, List.append_assoc]
  generalize pre0 ++ renderS3 t = pre at hg ha he
  by_cases hc : c = .next
  · subst hc
    rw [closeLine3_next]
    obtain ⟨σ', h1, h2, h3, h4, h5⟩ := hO
    have hg' : σ'.lines.get n = some (pre ++ .kw .Else :: rest) := by rw [h2.lines]; exact hg
    rcases h5 with h5 | ⟨h5, ⟨ts0, hts0, hc0⟩, hdef⟩
    · refine ⟨{ σ' with loc := { σ'.loc with idx := (pre ++ .kw .Else :: rest).length }, reads := σ'.reads + 1 }, ?_,
        ⟨h2.lines, h2.warnings, h2.tracing, h2.nesting, h2.state⟩, h3.congr rfl rfl rfl rfl rfl rfl rfl rfl rfl, ?_⟩
      · rw [h1]
        show tailElse σ' = _
        exact tailElse_yes (at_of h4 hg' (by rw [h5, ha]))
      · show ({ line := σ'.loc.line, idx := _ } : Loc) = _
        rw [h4, he]
    · rw [hg'] at hts0
      cases hts0
      rw [ha, List.getElem?_append_right (Nat.le_refl _), Nat.sub_self] at hc0
      cases hc0
  · rw [closeLine3_other hc]
    exact tail_other hh hwf hg he hc hO

end Abasic.Stmt3V
