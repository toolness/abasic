import Abasic.Proofs.Budget
import Abasic.Proofs.AWalk
import Abasic.Props.C01
/-
  The analyzer's evaluator keeps the frame `Fr` — same line, same store, cursor
  not moved back, same nesting counter — on the success path AND on the error
  path (`Sat FrE Fr`), for every fuel and every budget.  A statement that found
  a token consumed it (`wp_aStmtBody`).  Both are the walk of Proofs/AWalk.lean: its rules hold
  for any error condition compatible with the frame (`arules E`), so that
  Abasic/Proofs/BudgetAnalyzerFuel.lean uses the loop-free functions with `NF d` and brings its own
  argument for the loops; with `FrE` the loops are instances as well (`walkFr`).
  Helper for C05 (Abasic/Props/C05Total.lean).
-/

namespace Abasic.Budget
open Abasic M

variable {F : Type}

@[sat] theorem sat_nested_frE {α : Type} {m : M F α} (hm : Sat FrE Fr m) : Sat FrE Fr (nested m) := by
  intro σ
  unfold wp
  by_cases hcap : σ.nesting = Extracted.nestingLimit
  · rw [Props.C01.nested_at_cap hcap]
    exact Fr.refl σ
  · have h := hm { σ with nesting := σ.nesting + 1 }
    cases hr : m { σ with nesting := σ.nesting + 1 } with
    | ok a σ' =>
      have hf : Fr { σ with nesting := σ.nesting + 1 } σ' := wp_ok (Q := fun _ s => Fr _ s) h hr
      rw [Props.C01.nested_of_ok hcap hr hf.nesting]
      exact hf.unnest
    | err e σ' =>
      have hf : Fr { σ with nesting := σ.nesting + 1 } σ' := wp_err (E := FrE) h hr
      rw [Props.C01.nested_of_err hcap hr hf.nesting]
      exact hf.unnest

@[sat] theorem sat_logAccess {E : EPost F} [Compat E Fr] (sym : Str) (loc : Loc) (k : Access) :
    Sat E Fr (logAccess (F := F) sym loc k) := by
  unfold logAccess; sat_start; w_auto

@[sat] theorem sat_prevLoc {E : EPost F} [Compat E Fr] : Sat E Fr (prevLoc (F := F)) := by
  unfold prevLoc; sat_start; w_auto

@[sat] theorem sat_check {E : EPost F} [Compat E Fr] (a b : VT) : Sat E Fr (VT.check (F := F) a b) := by
  unfold VT.check; sat_start; w_auto

@[sat] theorem sat_checkNumber {E : EPost F} [Compat E Fr] (a : VT) : Sat E Fr (VT.checkNumber (F := F) a) :=
  sat_check a .num

variable [NumOps F]

def arules (E : EPost F) [Compat E Fr] : AWalk.Rules F where
  P m := Sat E Fr m
  L _ := True
  pure := Sat.pure
  bind hm hf := Sat.of_W fun _ => W.bind hm fun a _ => W.of_sat (hf a)
  get_bind h := Sat.of_W fun σ => W.run_bind rfl id (W.of_sat (h σ))
  unexpectedToken := Sat.fail (by intro h; cases h)
  undefinedStatement := Sat.fail (by intro h; cases h)
  curOp := sat_curOp
  lineBudget := sat_lineBudget
  prevLoc_bind h := Sat.of_W fun _ => W.bind sat_prevLoc fun a _ => W.of_sat (h a trivial)
  logAccess sym loc a _ := sat_logAccess sym loc a
  check := sat_check
  restoreData := Sat.of_W fun _ => W.run rfl fun h => Fr.upd h rfl rfl rfl (Nat.le_refl _) rfl rfl

/-- with the frame as error condition, running out of budget is fine too -/
def walkFr : AWalk.Uniform F where
  toRules := arules FrE
  outOfFuel := Sat.of_W fun _ => W.fail_frE
  nested := sat_nested_frE

section loopfree
variable {E : EPost F} [Compat E Fr] {ev : AEvals F}

/-! what the loops of Proofs/BudgetAnalyzerFuel.lean call -/

@[sat] theorem sat_aFunctionCall (h : AWalk.EParts (arules E) ev) (name : Str) (loc : Loc) :
    Sat E Fr (aFunctionCall ev name loc) :=
  AWalk.walk_aFunctionCall _ h name loc trivial

@[sat] theorem sat_aParseLValue (h : AWalk.EParts (arules E) ev) : Sat E Fr (aParseLValue ev) :=
  AWalk.walk_aParseLValue _ h

@[sat] theorem sat_aAssignValue (lv : ALValue) (r : VT) : Sat E Fr (aAssignValue (F := F) lv r) :=
  AWalk.walk_aAssignValue (arules E) lv r trivial

theorem wp_aStmtBody (h : AWalk.Parts (arules E) ev) (hread : Sat E Fr (lineBudget >>= fun b => aReadLoop ev b))
    (hprint : Sat E Fr (lineBudget >>= fun b => aPrintLoop ev b)) (hdef : Sat E Fr (aDef ev)) (σ : St F) :
    wp E (aStmtBody ev) (fun _ σ' => Fr σ σ' ∧ (cur σ ≠ none → rem σ' < rem σ)) σ := by
  obtain ⟨k, hk, hP⟩ := AWalk.walk_aStmtK (arules E) h hread hprint hdef
  rw [hk]
  exact wp_next_then hP σ

end loopfree

structure AEvOK (ev : AEvals F) : Prop where
  expr : Sat FrE Fr ev.expr
  stmt : Sat FrE Fr ev.stmt

theorem wp_aStmtBody_frE {ev : AEvals F} (hev : AEvOK ev) (σ : St F) :
    wp FrE (aStmtBody ev) (fun _ σ' => Fr σ σ' ∧ (cur σ ≠ none → rem σ' < rem σ)) σ :=
  wp_aStmtBody (AWalk.parts walkFr ev hev.expr hev.stmt)
    (walkFr.bind walkFr.lineBudget fun b => AWalk.walk_aReadLoop walkFr ev hev.expr b)
    (walkFr.bind walkFr.lineBudget fun b => AWalk.walk_aPrintLoop walkFr ev hev.expr b)
    (AWalk.walk_aDef walkFr ev hev.expr sat_defineFunction) σ

theorem aEvOK_aEvalN (n : Nat) : AEvOK (aEvalN (F := F) n) :=
  ⟨AWalk.walk_aEvalN_expr walkFr n, AWalk.walk_aEvalN_stmt walkFr sat_defineFunction n⟩

end Abasic.Budget
