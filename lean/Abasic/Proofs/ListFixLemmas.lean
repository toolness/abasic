import Abasic.Proofs.TokenizerRel
/-
  Helper lemmas for C14 (`list_fixpoint`): head predicates (`headAll`), which speak of the first
  non-blank character of the text (`headAll_sq`); the similarity relation `Sim` between the
  original text and its LISTed respelling, which no keyword test can tell apart.  (The blank-free
  upper-cased view `sq` and the prefix test `pre`: Proofs/Matchers.lean.)
-/
namespace Abasic.Props.C14
open Abasic
open Abasic.Props.C12
open Abasic.Props.C13

def headAll (P : Char → Bool) : Str → Bool
  | [] => true
  | h :: _ => P h

theorem headAll_append_left (P : Char → Bool) (h : Char) (a x y : Str) :
    headAll P ((h :: a) ++ x) = headAll P ((h :: a) ++ y) := rfl

theorem headAll_sq (P : Char → Bool) (R : Str) :
    headAll P (sq R) = match skipWs R with
      | [] => true
      | c :: _ => P (asciiUpper c) := by
  cases hs : skipWs R with
  | nil => rw [sq_of_skipWs_nil R hs]; rfl
  | cons c t => rw [sq_of_skipWs_cons R c t hs]; rfl

/-- Two blank-free texts that agree as far as keyword tests can see: equal up to
    the first non-letter, which is the same on both sides or a digit/point on both —
    or up to the word `DATA` (after which a DATA statement is respelled). -/
inductive Sim : Str → Str → Prop
  | nil : Sim [] []
  | same (c : Char) {a b : Str} : Sim a b → Sim (c :: a) (c :: b)
  | other (c : Char) (a b : Str) : isAsciiAlpha c = false → Sim (c :: a) (c :: b)
  | dig (x y : Char) (a b : Str) : digdot x = true → digdot y = true → Sim (x :: a) (y :: b)
  | data (a b : Str) : Sim ('D' :: 'A' :: 'T' :: 'A' :: a) ('D' :: 'A' :: 'T' :: 'A' :: b)

theorem Sim.refl (a : Str) : Sim a a := by
  induction a with
  | nil => exact Sim.nil
  | cons c a ih => exact Sim.same c ih

theorem Sim.append_left (p : Str) {a b : Str} (h : Sim a b) : Sim (p ++ a) (p ++ b) := by
  induction p with
  | nil => exact h
  | cons c p ih => exact Sim.same c ih

/-- `ks` does not reach beyond a leading `DATA` -/
def dataSafe (ks : Str) : Bool :=
  match ks with
  | k1 :: k2 :: k3 :: k4 :: _ :: _ => !(k1 == 'D' && k2 == 'A' && k3 == 'T' && k4 == 'A')
  | _ => true

/-- no suffix of `ks` reaches beyond a leading `DATA` -/
def dataSafeAll : Str → Bool
  | [] => true
  | k :: ks => dataSafe (k :: ks) && dataSafeAll ks

theorem pre_data (ks a b : Str) (h : dataSafe ks = true) :
    pre ks ('D' :: 'A' :: 'T' :: 'A' :: a) = pre ks ('D' :: 'A' :: 'T' :: 'A' :: b) := by
  rcases ks with _ | ⟨k1, _ | ⟨k2, _ | ⟨k3, _ | ⟨k4, _ | ⟨k5, ks⟩⟩⟩⟩⟩
  iterate 5 rfl
  -- a keyword of more than four letters: the first four are not `DATA`, so both tests fail there
  have h' : ('D' == k1 && 'A' == k2 && 'T' == k3 && 'A' == k4) = false := by
    simp only [dataSafe, Bool.not_eq_true', Bool.and_eq_false_iff, beq_eq_false_iff_ne, ne_eq] at h ⊢
    rcases h with ((h | h) | h) | h <;> simp [Ne.symm h]
  simp only [pre, ← Bool.and_assoc, h', Bool.false_and]

theorem pre_sim {a b : Str} (h : Sim a b) (kw : Str) (hk : ∀ k ∈ kw, isAsciiAlpha k = true)
    (hs : dataSafeAll kw = true) : pre kw a = pre kw b := by
  induction kw generalizing a b with
  | nil => cases h <;> rfl
  | cons k ks ih =>
    simp only [dataSafeAll, Bool.and_eq_true] at hs
    -- a character that is not a letter differs from the keyword's letter `k`
    have ne : ∀ x, isAsciiAlpha x = false → (x == k) = false := fun x hx =>
      beq_false_of_ne fun e => by rw [e, hk k (List.mem_cons_self ..)] at hx; cases hx
    cases h with
    | nil => rfl
    | same c h' => simp only [pre, ih h' (fun x hx => hk x (List.mem_cons_of_mem _ hx)) hs.2]
    | other c a b hc => simp only [pre, ne c hc, Bool.false_and]
    | dig x y a b hx hy =>
      simp only [pre, ne x (digdot_not_alpha x hx), ne y (digdot_not_alpha y hy), Bool.false_and]
    | data a b => exact pre_data (k :: ks) a b hs.1

theorem keywords_alpha : ∀ p ∈ Extracted.keywords, ∀ k ∈ p.1.toList, isAsciiAlpha k = true := by decide
theorem keywords_dataSafe : ∀ p ∈ Extracted.keywords, dataSafeAll p.1.toList = true := by decide

theorem preTable_sim {a b : Str} (h : Sim a b) (tbl : List (String × Kw))
    (ht : ∀ p ∈ tbl, ∀ k ∈ p.1.toList, isAsciiAlpha k = true)
    (hs : ∀ p ∈ tbl, dataSafeAll p.1.toList = true) : preTable tbl a = preTable tbl b := by
  induction tbl with
  | nil => rfl
  | cons e rest ih =>
    simp only [preTable, List.any_cons]
    rw [pre_sim h e.1.toList (ht e (List.mem_cons_self ..)) (hs e (List.mem_cons_self ..))]
    have := ih (fun p hp => ht p (List.mem_cons_of_mem _ hp)) (fun p hp => hs p (List.mem_cons_of_mem _ hp))
    simp only [preTable] at this
    rw [this]

theorem anyKw_sim {a b : Str} (h : Sim a b) : anyKw a = anyKw b :=
  preTable_sim h _ keywords_alpha keywords_dataSafe

/-- a head property that does not distinguish digits and points carries over -/
theorem headAll_sim {a b : Str} (h : Sim a b) (P : Char → Bool)
    (hP : ∀ x y, digdot x = true → digdot y = true → P x = true → P y = true)
    (ha : headAll P a = true) : headAll P b = true := by
  cases h with
  | nil => rfl
  | same c _ => exact ha
  | other c a b _ => exact ha
  | dig x y a b hx hy => exact hP x y hx hy ha
  | data a b => exact ha

end Abasic.Props.C14

