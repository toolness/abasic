import Abasic.Proofs.Stmt3Def
import Abasic.Proofs.Stmt3Arr
import Abasic.Proofs.Stmt3Ctl
import Abasic.Proofs.SeqLData
import Abasic.Proofs.Stmt3If
/-
  All statements of Ref/Stmt3.lean together: `stmt_ok` (every statement satisfies `StmtOK`, for any `ProgView`);
  the view of an `RProgram3` and with it `stmt3_run` (the statement evaluator realises `RStmt3.exec` for
  statement `j` of line `n`) and the READ lemmas for `RProgram3`.
-/

namespace Abasic.Stmt3V
open Abasic Abasic.Ref Abasic.ExprL Abasic.ExprL2 Abasic.StmtL Abasic.ProgL Abasic.Prog3L Abasic.Stmt3L Abasic.Hoare M

variable {F : Type} [NumOps F]

theorem stmt_ok (p : ProgView F) (n j : Nat) : ∀ s : RStmt3 F, StmtOK p n j s
  | .letS x e => let_ok x e
  | .printS items => print_ok items
  | .gotoS m => goto_ok m
  | .endS => end_ok
  | .lineS m => fun _ _ _ _ _ _ _ _ _ _ _ hl => by cases hl
  | .forS v a b c => for_ok v a b c
  | .nextS v => next_ok v
  | .gosubS m => gosub_ok m
  | .returnS => return_ok
  | .readS ts => read_ok ts
  | .dataS items => data_ok items
  | .restoreS => restore_ok
  | .dimS name dims => dim_ok name dims
  | .letCellS name idx e => letCell_ok name idx e
  | .defS f ps body => def_ok f ps body
  | .ifS c t none => if_ok c t none (branch_of_stmt t fun _ => stmt_ok p n j t) (fun e h => by cases h)
  | .ifS c t (some e) =>
    if_ok c t (some e) (branch_of_stmt t fun _ => stmt_ok p n j t)
      (fun e' h => by cases h; exact branch_of_stmt e fun _ => stmt_ok p n j e)

theorem branch_ok (p : ProgView F) (n j : Nat) (s : RStmt3 F) : BranchOK p n j s :=
  branch_of_stmt s fun _ => stmt_ok p n j s

end Abasic.Stmt3V

namespace Abasic.Stmt3L
open Abasic Abasic.Ref Abasic.ExprL Abasic.ExprL2 Abasic.StmtL Abasic.ProgL Abasic.Prog3L Abasic.Hoare M
open Abasic.Prog2L (Rel2)
open Abasic.Stmt3V (ProgView)

variable {F : Type} [NumOps F]

/-! ### an `RProgram3` as the statement lemmas see it -/

def view (p : RProgram3 F) : ProgView F where
  Holds l := Holds l p
  Addr := AddrRel3 p
  data := allData3 p
  chunks := progChunks3 p
  base := []
  asks := false
  full := true

section view
variable {p : RProgram3 F} {r : RState3 F} {σ : St F}

theorem view_wf (hwf : p.WF) : (view p).WF :=
  ⟨fun hh ha => addr_at hh ha, noElse_compile3 hwf, fun h => SeqL.holds_dataChunks h.seq hwf.seq,
    SeqL.flat_chunks (L := Prog3L.lang) dataToks_renderS3 p⟩

theorem mem_view : Stmt3V.Mem3 (view p) r σ ↔ Mem3 p r σ :=
  ⟨fun h => ⟨h.vars, h.arrays, h.rng, h.loops, h.stack, h.data, h.out.trans (List.append_nil _), h.fns, h.fnLines⟩,
   fun h => ⟨h.vars, h.arrays, h.rng, h.loops, h.stack, h.data, h.out.trans (List.append_nil _).symm, h.fns, h.fnLines,
     fun ha => absurd ha Bool.false_ne_true⟩⟩

theorem _root_.Abasic.Prog3L.Mem3.congr {p : RProgram3 F} {r : RState3 F} {σ σ' : St F} (h : Mem3 p r σ)
    (h1 : σ'.vars = σ.vars) (h2 : σ'.arrays = σ.arrays) (h3 : σ'.rng = σ.rng) (h4 : σ'.loops = σ.loops)
    (h5 : σ'.stack = σ.stack) (h6 : σ'.data = σ.data) (h7 : σ'.out = σ.out) (h8 : σ'.fns = σ.fns)
    (h9 : σ'.lines = σ.lines) : Mem3 p r σ' :=
  mem_view.1 ((mem_view.2 h).congr h1 h2 h3 h4 h5 h6 h7 h8 h9 nofun)

theorem Sync.view (h : Sync p r σ) : Stmt3V.Sync (view p) r σ :=
  .ofInv (view_wf h.wf) ⟨h.env.lines, h.env.warnings, h.env.tracing⟩ (mem_view.2 h.mem) h.inv h.bodies

theorem sync_of_view (hwf : p.WF) (h : Stmt3V.Sync (view p) r σ) : Sync p r σ :=
  ⟨hwf, ⟨h.env.lines, h.env.warnings, h.env.tracing⟩, mem_view.1 h.mem, h.inv rfl, (h.exprs rfl).bodies⟩

theorem Pos.view {n j : Nat} {s : RStmt3 F} {pre rest : List (Token F)} {after eol : Nat}
    (h : Pos p σ n j s pre rest after eol) : Stmt3V.Pos (view p) σ n j s pre rest after eol :=
  ⟨h.locline, h.cur, h.hafter, h.heol, h.addr⟩

theorem outcome_view {n after eol : Nat} {res : Res F Unit} {r' : RState3 F} {c : Ctl2} :
    Stmt3V.Outcome3 (view p) σ n after eol res r' c ↔ Outcome3 p σ n after eol res r' c := by
  -- `view` stays folded (unfolded, `mem_view` would not match): `hb` and `hf` are all that `simp only` knows of it.
  -- `hf` makes `False` of the premise of the two clauses `p.full = false → …` of `Stmt3V.Outcome3` (at `.next` and
  -- `.stop`: what only the small language asks), and they vanish.
  have hb : (view p).base = [] := rfl
  have hf : ((view p).full = false) = False := eq_false (by simp only [view]; exact Bool.noConfusion)
  cases c <;> simp only [Stmt3V.Outcome3, Outcome3, mem_view, hb, hf, List.append_nil, false_imp_iff, and_true] <;>
    exact Iff.rfl

end view

/-- `Stmt3V.BranchOK` for an `RProgram3` (`statementOrGoto`: one nesting level deeper) -/
def BranchOK (p : RProgram3 F) (n j : Nat) (s : RStmt3 F) : Prop :=
  ∀ (fuel : Nat) (σ : St F) (r : RState3 F) (pre rest : List (Token F)) (after eol : Nat),
    Sync p r σ → Pos p σ n j s pre rest after eol → EndFor3 s rest → s.CoveredB →
    ResolvedS r.fns s → sdepth3 r.fns s + 1 ≤ fuel → σ.nesting + (sdepth3 r.fns s + 1) ≤ Extracted.nestingLimit →
    Outcome3 p σ n after eol (statementOrGoto (evalN fuel) σ) (s.exec (allData3 p) n j r).1
      (s.exec (allData3 p) n j r).2

theorem branch_ok (p : RProgram3 F) (n j : Nat) (s : RStmt3 F) : BranchOK p n j s :=
  fun fuel σ r pre rest after eol hS hP hE hcov hres hd hn =>
    outcome_view.1 (Stmt3V.branch_ok (view p) n j s fuel σ r pre rest after eol hS.view (.inl rfl) hP.view hE hcov hres hd hn)

/-- The hypotheses of `stmt3_run`. -/
structure SReady3 (p : RProgram3 F) (r : RState3 F) (σ : St F) (n j : Nat) (ss : List (RStmt3 F))
    (s : RStmt3 F) (fuel : Nat) : Prop where
  wf : p.WF
  env : Env3 p σ
  mem : Mem3 p r σ
  inv : RInv3 r
  nesting : σ.nesting = 0
  line : p.line n = some ss
  stmt : ss[j]? = some s
  locline : σ.loc.line = some n
  idx : σ.loc.idx = (preToks3 ss j).length
  covered : s.Covered
  bodies : ∀ name d, alGet name r.fns = some d → Resolved r.fns d.body
  resolved : ResolvedS r.fns s
  fuel : sdepth3 r.fns s ≤ fuel
  nest : sdepth3 r.fns s ≤ Extracted.nestingLimit

section ready
variable {p : RProgram3 F} {r : RState3 F} {σ : St F} {n j : Nat} {ss : List (RStmt3 F)} {s : RStmt3 F} {fuel : Nat}

theorem SReady3.sync (h : SReady3 p r σ n j ss s fuel) : Sync p r σ := ⟨h.wf, h.env, h.mem, h.inv, h.bodies⟩

theorem SReady3.at (h : SReady3 p r σ n j ss s fuel) :
    At σ (preToks3 ss j) (renderS3 s ++ renderTail3 (ss.drop (j + 1))) :=
  ⟨by rw [SeqL.lineToks_of (L := Prog3L.lang) h.env.lines.seq h.line h.locline,
      SeqL.line_split (L := Prog3L.lang) ss j s h.stmt], h.idx⟩

theorem SReady3.pos (h : SReady3 p r σ n j ss s fuel) :
    Pos p σ n j s (preToks3 ss j) (renderTail3 (ss.drop (j + 1)))
      ((preToks3 ss j).length + (renderS3 s).length) (renderLine3 ss).length :=
  ⟨h.locline, h.at, rfl, by rw [← line_split ss j s h.stmt], fun _ => ⟨ss, j, s, h.line, rfl, h.stmt, rfl⟩⟩

end ready

theorem stmt3_run {p : RProgram3 F} {r : RState3 F} {σ : St F} {n j : Nat} {ss : List (RStmt3 F)} {s : RStmt3 F}
    {fuel : Nat} (h : SReady3 p r σ n j ss s fuel) :
    Outcome3 p σ n ((preToks3 ss j).length + (renderS3 s).length) (renderLine3 ss).length
      (stmtBody (evalN fuel) σ) (s.exec (allData3 p) n j r).1 (s.exec (allData3 p) n j r).2 :=
  outcome_view.1 (Stmt3V.stmt_ok (view p) n j s fuel σ r _ _ _ _ h.sync.view (.inl rfl) h.pos.view (Or.inl (tail_lineEnd3 ss j))
    h.covered.1 h.covered.2 h.resolved h.fuel (by rw [h.nesting, Nat.zero_add]; exact h.nest))

/-- a run of a READ round from `σ`, continued by `K`, against the spec's result -/
def ReadCellOK (p : RProgram3 F) (σ : St F) (pre tgt rest : List (Token F)) (K : M F Unit) (res : Res F Unit) :
    RState3 F × Ctl2 → Prop
  | (r', .next) => ∃ τ, res = K τ ∧ Sync p r' τ ∧ Start σ τ ∧ At τ (pre ++ tgt) rest
  | (_, .error e) => e ≠ .dataTypeMismatch ∧ ErrFrom σ e res
  | (_, .errorAt e ln) => e = .dataTypeMismatch ∧
      ∃ σ' i, res = .err { err := e } σ' ∧ σ'.dataLoc = some { line := some ln, idx := i } ∧ σ'.out = σ.out ∧
        σ'.nesting = σ.nesting
  | _ => True

theorem readCellOK_of_view {p : RProgram3 F} (hwf : p.WF) {σ : St F} {pre tgt rest : List (Token F)} {K : M F Unit}
    {res : Res F Unit} {r0 : RState3 F} : ∀ {x : RState3 F × Ctl2},
    Stmt3V.Follows (view p) σ r0 res (pre ++ tgt) rest K x → ReadCellOK p σ pre tgt rest K res x
  | (_, .next), ⟨τ, h1, hm⟩ => ⟨τ, h1, sync_of_view hwf hm.sync, hm.start, hm.cur⟩
  | (_, .error _), h => h
  | (_, .errorAt _ _), h => h
  | (_, .skipLine), _ => trivial
  | (_, .jump _), _ => trivial
  | (_, .stop), _ => trivial
  | (_, .resume _ _), _ => trivial

theorem read_cell_refines {p : RProgram3 F} {σ : St F} {r : RState3 F} (hS : Sync p r σ) (fuel : Nat)
    (name : Str) (idx : List (Expr2 F)) (pre rest : List (Token F))
    (hres : ResolvedL r.fns idx) (hd : depthArgs r.fns callFuel idx ≤ fuel)
    (hn : σ.nesting + depthArgs r.fns callFuel idx ≤ Extracted.nestingLimit)
    (hAt : At σ pre (.symbol name :: .kw .LeftParen :: (renderArgs idx ++ (.kw .RightParen :: rest))))
    (K : M F Unit) :
    ReadCellOK p σ pre (cellToks name idx) rest K (readBody (evalN fuel) K σ)
      (readCellSpec (allData3 p) r name idx) :=
  readCellOK_of_view hS.wf (Stmt3V.read_cell_follows fuel name idx (Stmt3V.Mid.ofSync hS.view hAt) rfl hres hd hn K)

theorem read_target_refines {p : RProgram3 F} {σ : St F} {r : RState3 F} (hS : Sync p r σ) (fuel : Nat)
    (t : RTarget F) (pre rest : List (Token F)) (hok : TargetOK r.fns fuel σ.nesting t)
    (hAt : At σ pre (t.toks ++ rest)) (hpost : ∀ t', rest.head? = some t' → t'.isKw .LeftParen = false)
    (K : M F Unit) :
    ReadCellOK p σ pre t.toks rest K (readBody (evalN fuel) K σ) (readTargetSpec (allData3 p) r t) :=
  readCellOK_of_view hS.wf (Stmt3V.read_target_follows fuel t (Stmt3V.Mid.ofSync hS.view hAt) (.inl rfl) hok hpost K)

theorem read_targets_refines {p : RProgram3 F} (fuel : Nat) (rest : List (Token F)) (hE : StmtEnd rest) :
    ∀ (ts : List (RTarget F)), ts ≠ [] → ∀ (k : Nat) (σ : St F) (r : RState3 F) (pre : List (Token F)),
      Sync p r σ → (∀ t ∈ ts, TargetOK r.fns fuel σ.nesting t) → At σ pre (renderRTargets ts ++ rest) →
      (renderRTargets ts).length < k →
      ReadCellOK p σ pre (renderRTargets ts) rest (pure ()) (readLoop (evalN fuel) k σ)
        (readTargetsSpec (allData3 p) r ts) :=
  fun ts hts k σ r pre hS hok hAt hk =>
    readCellOK_of_view hS.wf (Stmt3V.read_targets_follows fuel rest hE ts hts k σ r pre (Stmt3V.Mid.ofSync hS.view hAt) (fun _ _ => .inl rfl) hok hk)

end Abasic.Stmt3L
