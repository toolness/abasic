import Abasic.Proofs.BudgetAnalyzer
import Abasic.Proofs.BudgetEval
/-
  The analyzer's evaluator never runs out of fuel or budget: `aEvalN` and the analyzer's
  loops `aArrayIndexLoop`, `aLevelLoop`, `aReadLoop`, `aPrintLoop` (and `defArgsLoop` inside
  `aDef`) satisfy the error condition `NF d`, by the method of Abasic/Proofs/BudgetEval.lean; the
  statement analyzer is that of the walk (`AWalk.walk_aStmtBody`) at `arules (NF d)`; `aTerm`, `aParen`, `aUnary` (in the
  strict form `SatS`, which the walk does not give) and `aDef` are proved beside it by hand.
-/
set_option linter.unusedSectionVars false

namespace Abasic.Budget
open Abasic M

variable {F : Type} [NumOps F]

structure AEvOKd (d : Nat) (ev : AEvals F) : Prop where
  expr : SatS (NF d) ev.expr
  stmt : Sat (NF (d + 1)) Fr ev.stmt

@[sat] theorem AEvOKd.exprSat {d : Nat} {ev : AEvals F} (h : AEvOKd d ev) : Sat (NF d) Fr ev.expr := h.expr.sat

section aexpr
variable {d : Nat} {ev : AEvals F}

theorem aArrayIndexLoop_wp2 (hev : AEvOKd d ev) : ∀ (n1 n2 arity : Nat) (σ : St F),
    rem σ < n1 → rem σ < n2 →
    wp2 (NF d) (aArrayIndexLoop ev n1 arity) (aArrayIndexLoop ev n2 arity) (fun _ σ' => Fr σ σ') σ := by
  refine fuel_wp2 fun n1 n2 arity σ rec => ?_
  unfold aArrayIndexLoop
  refine wp2_bind (R := Fr) (hev.expr σ) ?_
  intro t σ1 hs1
  refine ⟨hs1.1, ?_⟩
  refine wp2_bind (R := Fr) (sat_checkNumber (E := NF d) t σ1) ?_
  intro _ σ2 hf2
  refine ⟨hf2, ?_⟩
  refine wp2_bind (R := Fr) (wp_accept _ σ2) ?_
  rintro b σ3 ⟨hf3, hlt3⟩
  refine ⟨hf3, ?_⟩
  cases b with
  | false =>
    simp only [Bool.false_eq_true, if_false]
    exact wp2_refl (wp_pure (hs1.1.trans (hf2.trans hf3)))
  | true =>
    simp only [if_true]
    have hlt := hlt3 rfl
    have := hs1.2
    have := hf2.rem_le
    exact rec _ σ3 (hs1.1.trans (hf2.trans hf3)) (by omega)

theorem satS_aArrayIndex (hev : AEvOKd d ev) : SatS (NF d) (aArrayIndex ev) := by
  intro σ
  unfold aArrayIndex
  refine wp_bind (R := Fr) (wp_expect _ σ) ?_
  intro _ σ1 h1
  refine ⟨h1.1, ?_⟩
  refine wp_lineBudget_bind fun b hb => ?_
  refine wp_bind (R := Fr) (aArrayIndexLoop_wp2 hev b b 0 σ1 hb hb).2 ?_
  intro idx σ3 h3
  refine ⟨h3, ?_⟩
  refine wp_bind_sat (R := Fr) (sat_expect _) ?_
  intro _ σ4 h4
  exact wp_pure (h1.trans_fr (h3.trans h4))

@[sat] theorem sat_aArrayIndexD (hev : AEvOKd d ev) : Sat (NF d) Fr (aArrayIndex ev) := (satS_aArrayIndex hev).sat

@[sat] theorem sat_aNestedStmt (hev : AEvOKd d ev) : Sat (NF d) Fr (nested ev.stmt) := by
  intro σ
  refine wp_nested (wp_mono (hev.stmt { σ with nesting := σ.nesting + 1 }) ?_)
  intro _ σ' hs
  exact ⟨hs.nesting, hs.unnest⟩

@[sat] theorem AEvOKd.eparts (hev : AEvOKd d ev) : AWalk.EParts (arules (NF d)) ev :=
  ⟨hev.expr.sat, sat_aArrayIndexD hev⟩

theorem AEvOKd.parts (hev : AEvOKd d ev) : AWalk.Parts (arules (NF d)) ev :=
  ⟨hev.eparts, sat_aNestedStmt hev⟩

theorem satS_aTerm (hev : AEvOKd d ev) : SatS (NF d) (aTerm ev) := by
  unfold aTerm
  refine SatS.bind_left (fun σ => wp_nextUnwrapped σ) fun t => ?_
  sat_start; w_auto

theorem satS_aParen (hev : AEvOKd d ev) : SatS (NF d) (aParen ev) := by
  unfold aParen
  refine SatS.bind_right (sat_accept _) fun b => ?_
  split
  · refine SatS.bind_left hev.expr fun v => ?_
    sat_start; w_auto
  · exact satS_aTerm hev

theorem satS_aUnary (hev : AEvOKd d ev) : SatS (NF d) (aUnary ev) := by
  unfold aUnary
  refine SatS.bind_right (sat_tryNext _) fun op => ?_
  refine SatS.bind_left (satS_aParen hev) fun t => ?_
  sat_start; w_auto

end aexpr

section alevel
variable {E : EPost F} [Compat E Fr]

theorem aLevelLoop_wp2 {sub : M F VT} (hsub : Sat E Fr sub) (ops : Token F → Option BinOp) (tier : ATier) :
    ∀ (n1 n2 : Nat) (v : VT) (σ : St F), rem σ < n1 → rem σ < n2 →
    wp2 E (aLevelLoop sub ops tier n1 v) (aLevelLoop sub ops tier n2 v) (fun _ σ' => Fr σ σ') σ := by
  refine fuel_wp2 fun n1 n2 v σ rec => ?_
  unfold aLevelLoop
  refine wp2_bind (R := Fr) (wp_tryNext ops σ) ?_
  rintro o σ1 ⟨hf1, hlt1⟩
  refine ⟨hf1, ?_⟩
  cases o with
  | none => exact wp2_refl (wp_pure hf1)
  | some op =>
    dsimp only
    have hlt := hlt1 (by intro h; cases h)
    refine wp2_bind (R := Fr) (hsub σ1) ?_
    intro r σ2 hf2
    refine ⟨hf2, ?_⟩
    have := hf2.rem_le
    cases tier with
    | arith =>
      dsimp only
      refine wp2_bind (R := Fr) (sat_checkNumber (E := E) v σ2) ?_
      intro _ σ3 hf3
      refine ⟨hf3, ?_⟩
      refine wp2_bind (R := Fr) (sat_checkNumber (E := E) r σ3) ?_
      intro _ σ4 hf4
      refine ⟨hf4, ?_⟩
      have := hf3.rem_le
      have := hf4.rem_le
      exact rec v σ4 (hf1.trans (hf2.trans (hf3.trans hf4))) (by omega)
    | cmp =>
      dsimp only
      refine wp2_bind (R := Fr) (sat_check (E := E) v r σ2) ?_
      intro _ σ3 hf3
      refine ⟨hf3, ?_⟩
      have := hf3.rem_le
      exact rec .num σ3 (hf1.trans (hf2.trans hf3)) (by omega)
    | logic =>
      dsimp only
      exact rec .num σ2 (hf1.trans hf2) (by omega)

theorem satS_aLevel {sub : M F VT} (hsub : SatS E sub) (ops : Token F → Option BinOp) (tier : ATier) :
    SatS E (aLevel sub ops tier) :=
  SatS.bind_left hsub fun v σ => wp_lineBudget_bind fun b hb => (aLevelLoop_wp2 hsub.sat ops tier b b v σ hb hb).2

end alevel

section astmt
variable {d : Nat} {ev : AEvals F}

theorem satS_aOrExpr (hev : AEvOKd d ev) : SatS (NF d) (aOrExpr ev) := by
  unfold aOrExpr
  exact satS_aLevel (satS_aLevel (satS_aLevel (satS_aLevel (satS_aLevel (satS_aLevel
    (satS_aUnary hev) _ _) _ _) _ _) _ _) _ _) _ _

theorem satS_aExprBody (hev : AEvOKd (d + 1) ev) : SatS (NF d) (aExprBody ev) := by
  intro σ
  unfold aExprBody
  refine wp_nested (wp_mono (satS_aOrExpr hev { σ with nesting := σ.nesting + 1 }) ?_)
  intro v σ' hs
  exact ⟨hs.1.nesting, hs.1.unnest, hs.2⟩

theorem aReadLoop_wp2 (hev : AEvOKd d ev) : ∀ (n1 n2 : Nat) (σ : St F), rem σ < n1 → rem σ < n2 →
    wp2 (NF d) (aReadLoop ev n1) (aReadLoop ev n2) (fun _ σ' => Fr σ σ') σ := by
  intro n1 n2 σ
  refine fuel_wp2 (E := NF d) (loop := fun n (_ : Unit) => aReadLoop ev n) (fun n1 n2 _ σ rec => ?_) n1 n2 () σ
  unfold aReadLoop
  refine wp2_bind (R := Fr) (sat_aParseLValue hev.eparts σ) ?_
  intro lv σ1 hf1
  refine ⟨hf1, ?_⟩
  refine wp2_bind (R := Fr) (sat_aAssignValue (E := NF d) lv _ σ1) ?_
  intro _ σ2 hf2
  refine ⟨hf2, ?_⟩
  refine wp2_bind (R := Fr) (wp_accept _ σ2) ?_
  rintro b σ3 ⟨hf3, hlt3⟩
  refine ⟨hf3, ?_⟩
  have hall : Fr σ σ3 := hf1.trans (hf2.trans hf3)
  cases b with
  | false =>
    simp only [Bool.false_eq_true, if_false]
    exact wp2_refl (wp_pure hall)
  | true =>
    simp only [if_true]
    have hlt := hlt3 rfl
    have := (hf1.trans hf2).rem_le
    exact rec () σ3 hall (by omega)

@[sat] theorem sat_aReadD (hev : AEvOKd d ev) : Sat (NF d) Fr (lineBudget >>= fun b => aReadLoop ev b) := by
  intro σ
  exact wp_lineBudget_bind fun b hb => (aReadLoop_wp2 hev b b σ hb hb).2

theorem aPrintLoop_wp2 (hev : AEvOKd d ev) : ∀ (n1 n2 : Nat) (σ : St F), rem σ < n1 → rem σ < n2 →
    wp2 (NF d) (aPrintLoop ev n1) (aPrintLoop ev n2) (fun _ σ' => Fr σ σ') σ := by
  intro n1 n2 σ
  refine fuel_wp2 (E := NF d) (loop := fun n (_ : Unit) => aPrintLoop ev n) (fun n1 n2 _ σ rec => ?_) n1 n2 () σ
  unfold aPrintLoop
  refine wp2_bind (R := Fr) (wp_peek σ) ?_
  rintro o σ1 ⟨rfl, rfl⟩
  refine ⟨fr_rd σ, ?_⟩
  cases hc : cur σ with
  | none => exact wp2_refl (wp_pure (fr_rd σ))
  | some t =>
    dsimp only
    split
    · exact wp2_refl (wp_pure (fr_rd σ))
    · split
      · refine wp2_bind (R := Fr) (wp_next (Cur.rd σ)) ?_
        rintro o2 σ2 ⟨hf2, ho2, hlt2⟩
        refine ⟨hf2, ?_⟩
        have hlt : rem σ2 < rem σ := hlt2 (by rw [ho2, cur_rd, hc]; intro h; cases h)
        exact rec () σ2 ((fr_rd σ).trans hf2) (by omega)
      · refine wp2_bind (R := Fr) (hev.expr (Cur.rd σ)) ?_
        intro v σ2 hs2
        refine ⟨hs2.1, ?_⟩
        have : rem σ2 < rem σ := hs2.2
        exact rec () σ2 ((fr_rd σ).trans hs2.1) (by omega)

@[sat] theorem sat_aPrintD (hev : AEvOKd d ev) : Sat (NF d) Fr (lineBudget >>= fun b => aPrintLoop ev b) := by
  intro σ
  exact wp_lineBudget_bind fun b hb => (aPrintLoop_wp2 hev b b σ hb hb).2

theorem sat_defArgsThen {α : Type} {k : List Str → M F α} (hk : ∀ args, Sat (NF d) Fr (k args)) :
    Sat (NF d) Fr (lineBudget >>= fun b => defArgsLoop b [] >>= k) := by
  intro σ
  refine wp_lineBudget_bind fun b hb => ?_
  refine wp_bind (R := Fr) (defArgsLoop_wp2 (E := NF d) b b [] σ hb hb).2 ?_
  intro args σ2 hf2
  exact ⟨hf2, wp_mono (hk args σ2) fun _ _ h => hf2.trans h⟩

@[sat] theorem sat_aDefD (hev : AEvOKd d ev) : Sat (NF d) Fr (aDef ev) := by
  unfold aDef
  sat_start
  refine W.bind sat_next fun o _ => ?_
  split
  · refine W.bind sat_prevLoc fun loc _ => ?_
    refine W.bind (sat_logAccess _ _ _) fun _ _ => ?_
    refine W.bind (sat_expect _) fun _ _ => ?_
    refine W.of_sat (sat_defArgsThen fun args => ?_)
    sat_start; w_auto
  · w_auto

theorem sat_aStmtBodyD (hev : AEvOKd d ev) : Sat (NF d) Fr (aStmtBody ev) :=
  AWalk.walk_aStmtBody (arules (NF d)) hev.parts (sat_aReadD hev) (sat_aPrintD hev) (sat_aDefD hev)

end astmt

theorem AEvOKd.mono {d d' : Nat} {ev : AEvals F} (h : d ≤ d') (hev : AEvOKd d ev) : AEvOKd d' ev :=
  ⟨fun σ => wp_mono_d h (hev.expr σ), fun σ => wp_mono_d (Nat.succ_le_succ h) (hev.stmt σ)⟩

/-- the invariant of the analyzer's recursion fuel (as `evOK_evalN`) -/
theorem aEvOKd_aEvalN (n : Nat) : AEvOKd (Extracted.nestingLimit + 2 - n) (aEvalN (F := F) n) := by
  induction n with
  | zero =>
    constructor
    · intro σ h1 h2; omega
    · intro σ h1 h2; omega
  | succ n ih =>
    have ih' : AEvOKd (Extracted.nestingLimit + 2 - (n + 1) + 1) (aEvalN (F := F) n) := ih.mono (by omega)
    exact ⟨satS_aExprBody ih', sat_aStmtBodyD ih'⟩

end Abasic.Budget
