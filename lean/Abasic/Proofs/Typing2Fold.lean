import Abasic.Proofs.Typing2
import Abasic.Props.C06Prog
/-
  `fold2_typed`: the spec evaluator of the full expression language respects the
  static types of `typeOf2` (see Typing2.lean for the definitions).
-/
set_option linter.unusedSectionVars false

namespace Abasic.Props.C06
open Abasic Abasic.Ref Abasic.ExprL Abasic.ExprL2

variable {F : Type} [NumOps F]

theorem lookupFrames_typed (name : Str) : ∀ (frames : List (List (Str × Value F))) (v : Value F),
    (∀ fr ∈ frames, BindTyped fr) → lookupFrames name frames = some v → v.matchesName name = true
  | [], v, _, h => by simp [lookupFrames] at h
  | f :: rest, v, hf, h => by
    simp only [lookupFrames] at h
    cases hg : alGet name f with
    | some w =>
      rw [hg] at h
      cases h
      exact hf f (List.mem_cons_self ..) name _ hg
    | none =>
      rw [hg] at h
      exact lookupFrames_typed name rest v (fun fr hfr => hf fr (List.mem_cons_of_mem _ hfr)) h

theorem lookup_typed {sig : Sig} {env : RefEnv F} (henv : EnvTyped sig env) (name : Str) :
    kindOf (env.lookup name) = VT.ofName name := by
  apply matches_iff_kindOf.1
  unfold RefEnv.lookup
  cases hl : lookupFrames name env.frames with
  | some v => exact lookupFrames_typed name _ v henv.frames hl
  | none =>
    cases hg : alGet name env.vars with
    | some v => exact henv.vars name v hg
    | none => exact defaultFor_matches name

theorem RunErr2.illegalQuantity : RunErr2 .illegalQuantity := .inl .illegalQuantity
theorem RunErr2.badSubscript : RunErr2 .badSubscript := .inl .badSubscript
theorem RunErr2.oomArray : RunErr2 .oomArray := .inl .oomArray
theorem RunErr2.oomStack : RunErr2 .oomStack := .inl .oomStack
theorem RunErr2.divisionByZero : RunErr2 .divisionByZero := .inl .divisionByZero
theorem RunErr2.unimplemented : RunErr2 .unimplemented := .inr (.inl rfl)
theorem RunErr2.outOfFuel : RunErr2 .outOfFuel := .inr (.inr rfl)

/-- What a typed evaluation may result in: a run-time error, or a result with `Q`
    in an environment (or state) with `I`. -/
def Post {α σ : Type} (Q : α → Prop) (I : σ → Prop) : Except Err (α × σ) → Prop
  | .ok (a, s) => Q a ∧ I s
  | .error x => RunErr2 x

theorem Post.cases {α σ : Type} {Q : α → Prop} {I : σ → Prop} {r : Except Err (α × σ)} (h : Post Q I r) :
    (∃ x, r = .error x ∧ RunErr2 x) ∨ ∃ a s, r = .ok (a, s) ∧ Q a ∧ I s :=
  match r, h with
  | .error x, h => .inl ⟨x, rfl, h⟩
  | .ok (a, s), h => .inr ⟨a, s, rfl, h⟩

theorem Post.iff {α σ : Type} {Q : α → Prop} {I : σ → Prop} {r : Except Err (α × σ)} (h : Post Q I r) :
    (∀ a s, r = .ok (a, s) → Q a ∧ I s) ∧ (∀ x, r = .error x → RunErr2 x) :=
  ⟨fun a s hr => by rw [hr] at h; exact h, fun x hr => by rw [hr] at h; exact h⟩

theorem subscript_typed {v : Value F} (hk : kindOf v = .num) {x : Err} (h : subscript v = .error x) :
    RunErr2 x := by
  cases v with
  | str s => cases hk
  | num z =>
    simp only [subscript] at h
    split at h
    · cases h; exact RunErr2.illegalQuantity
    · cases h

theorem readAt_typed (a : ArrayV F) (idx : List Nat) :
    (∀ v, readAt a idx = .ok v → kindOf v = if ArrayV.isStrs a then .str else .num) ∧
    (∀ x, readAt a idx = .error x → x = .badSubscript) := by
  unfold readAt
  cases hl : linearIndex idx a.dims with
  | error e =>
    refine ⟨fun v h => (by cases h), fun x h => ?_⟩
    simp only [Except.error.injEq] at h
    subst h
    exact ArrayL.linearIndex_err hl
  | ok i =>
    cases a with
    | strs d c => exact ⟨fun v h => (by cases h; rfl), fun x h => (by cases h)⟩
    | nums d c => exact ⟨fun v h => (by cases h; rfl), fun x h => (by cases h)⟩

theorem envTyped_arrays {sig : Sig} {env env' : RefEnv F} (henv : EnvTyped sig env)
    (hv : env'.vars = env.vars) (hf : env'.frames = env.frames) (hfn : env'.fns = env.fns)
    (ha : ArrKind env'.arrays) : EnvTyped sig env' :=
  ⟨by rw [hv]; exact henv.vars, by rw [hf]; exact henv.frames, ha, by rw [hfn]; exact henv.fns⟩

theorem readAt_post {sig : Sig} {env : RefEnv F} (henv : EnvTyped sig env) {name : Str} {a : ArrayV F}
    (hk : ArrayV.isStrs a = endsWithDollar name) (idx : List Nat) :
    Post (kindOf · = VT.ofName name) (EnvTyped sig)
      (match readAt a idx with | .error e => .error e | .ok v => .ok (v, env)) := by
  cases hr : readAt a idx with
  | error e => rw [(readAt_typed a idx).2 e hr]; exact RunErr2.badSubscript
  | ok v => exact ⟨((readAt_typed a idx).1 v hr).trans (by rw [hk]; rfl), henv⟩

theorem readCell_typed {sig : Sig} {env : RefEnv F} (henv : EnvTyped sig env) (name : Str) (idx : List Nat) :
    Post (kindOf · = VT.ofName name) (EnvTyped sig) (readCell env name idx) := by
  unfold readCell
  cases hg : alGet name env.arrays with
  | some a => exact readAt_post henv (henv.arrays name a hg) idx
  | none =>
    simp only
    cases hc : ArrayV.create (F := F) name (List.replicate idx.length Extracted.defaultArraySize) with
    | error e =>
      rcases ArrayL.create_err hc with h | h <;> subst h
      · exact RunErr2.badSubscript
      · exact RunErr2.oomArray
    | ok a =>
      have hk := create_kind hc
      exact readAt_post (env := { env with arrays := alSet name a env.arrays })
        (envTyped_arrays henv rfl rfl rfl (arrKind_alSet henv.arrays hk)) hk idx

theorem rndStep_typed {sig : Sig} {env : RefEnv F} (henv : EnvTyped sig env) (x : F) :
    Post (kindOf · = .num) (EnvTyped sig) (rndStep env x) := by
  unfold rndStep
  split
  · exact RunErr2.unimplemented
  · split
    · exact ⟨rfl, henv⟩
    · exact ⟨rfl, envTyped_arrays henv rfl rfl rfl henv.arrays⟩

theorem numArgT_ok {r : Except Err VT} {t : VT} (h : numArgT r = .ok t) : r = .ok .num ∧ t = .num := by
  cases r with
  | error x => cases h
  | ok a =>
    cases a with
    | str => cases h
    | num => cases h; exact ⟨rfl, rfl⟩

/-- ABS / INT / RND: the value of the argument is a number -/
theorem numArg_post {sig : Sig} {r : Except Err (Value F × RefEnv F)}
    (h : Post (kindOf · = .num) (EnvTyped sig) r) {k : F → RefEnv F → Except Err (Value F × RefEnv F)}
    (hk : ∀ x env1, EnvTyped sig env1 → Post (kindOf · = .num) (EnvTyped sig) (k x env1)) :
    Post (kindOf · = .num) (EnvTyped sig)
      (match r with
       | .error err => .error err
       | .ok (.str _, _) => .error .typeMismatch
       | .ok (.num x, env1) => k x env1) :=
  match r, h with
  | .error _, h => h
  | .ok (.str _, _), h => nomatch h.1
  | .ok (.num x, env1), h => hk x env1 h.2

theorem unop_typed {op : UnOp} {v : Value F} {t : VT} (h : unaryRule op (kindOf v) = some t) :
    ∃ w, op.eval v = .ok w ∧ kindOf w = t := by
  obtain ⟨h1, h2, h3⟩ := unop_agrees op v
  cases hop : op.eval v with
  | error x => rw [h3 x hop] at hop; rw [h1.1 hop] at h; cases h
  | ok w => rw [h2 w hop] at h; cases h; exact ⟨w, rfl, rfl⟩

theorem binop_typed {op : BinOp} {a b : Value F} {t : VT} (h : tierRule (tierOf op) (kindOf a) (kindOf b) = some t) :
    (∃ w, op.eval a b = .ok w ∧ kindOf w = t) ∨ op.eval a b = .error .divisionByZero := by
  have hf := foldsAs_bin op a b
  rw [h] at hf
  exact hf

theorem FnsTyped.of_none {sig : Sig} {fns : List (Str × FnDefSpec F)} (h : FnsTyped sig fns) {f : Str}
    (hs : sig f = none) : alGet f fns = none := by
  have := h f
  rw [hs] at this
  cases hg : alGet f fns with
  | none => rfl
  | some d => rw [hg] at this; exact this.elim

theorem FnsTyped.of_some {sig : Sig} {fns : List (Str × FnDefSpec F)} (h : FnsTyped sig fns) {f : Str}
    {s : List VT × VT} (hs : sig f = some s) :
    ∃ d, alGet f fns = some d ∧ s.1 = d.params.map VT.ofName ∧ typeOf2 sig d.body = .ok (VT.ofName f) := by
  have := h f
  rw [hs] at this
  cases hg : alGet f fns with
  | none => rw [hg] at this; exact this.elim
  | some d => rw [hg] at this; exact ⟨d, rfl, this⟩

/-- the claim for the bodies of called functions, which run on less fuel -/
def BodiesPost (sig : Sig) (n : Nat) : Prop :=
  ∀ n' < n, ∀ (e : Expr2 F) (env : RefEnv F) (t : VT),
    EnvTyped sig env → typeOf2 sig e = .ok t → Post (kindOf · = t) (EnvTyped sig) (fold2 n' env e)

/- Induction on the tree for fixed fuel `n`; a call evaluates the body with fuel `n - 1`: `ih`. -/
mutual
theorem fold2_post_tree (sig : Sig) : ∀ (e : Expr2 F) (n : Nat) (_ : BodiesPost (F := F) sig n) (env : RefEnv F) (t : VT),
    EnvTyped sig env → typeOf2 sig e = .ok t → Post (kindOf · = t) (EnvTyped sig) (fold2 n env e)
  | .num _, n, ih, env, t, henv, ht | .str _, n, ih, env, t, henv, ht => by
    rw [typeOf2] at ht; cases ht; rw [fold2]; exact ⟨rfl, henv⟩
  | .var s, n, ih, env, t, henv, ht => by
    rw [typeOf2] at ht; cases ht; rw [fold2]; exact ⟨lookup_typed henv s, henv⟩
  | .paren e, n, ih, env, t, henv, ht => by
    rw [typeOf2] at ht; rw [fold2]; exact fold2_post_tree sig e n ih env t henv ht
  | .un op e, n, ih, env, t, henv, ht => by
    rw [typeOf2] at ht
    split at ht
    · cases ht
    next a hte =>
      rcases (fold2_post_tree sig e n ih env a henv hte).cases with ⟨x, h1, hx⟩ | ⟨v, env1, h1, rfl, henv1⟩ <;>
        simp only [fold2, h1]
      · exact hx
      · split at ht
        next t' hu => cases ht; obtain ⟨w, hw, hk⟩ := unop_typed hu; rw [hw]; exact ⟨hk, henv1⟩
        · cases ht
  | .bin op l r, n, ih, env, t, henv, ht => by
    rw [typeOf2] at ht
    split at ht
    · cases ht
    next a htl =>
      split at ht
      · cases ht
      next b htr =>
        rcases (fold2_post_tree sig l n ih env a henv htl).cases with ⟨x, h1, hx⟩ | ⟨va, env1, h1, rfl, henv1⟩ <;>
          simp only [fold2, h1]
        · exact hx
        rcases (fold2_post_tree sig r n ih env1 b henv1 htr).cases with ⟨x, h2, hx⟩ | ⟨vb, env2, h2, rfl, henv2⟩ <;>
          simp only [h2]
        · exact hx
        · split at ht
          next t' hu =>
            cases ht
            rcases binop_typed hu with ⟨w, hw, hk⟩ | hdz
            · rw [hw]; exact ⟨hk, henv2⟩
            · rw [hdz]; exact RunErr2.divisionByZero
          · cases ht
  | .abs e, n, ih, env, t, henv, ht | .int e, n, ih, env, t, henv, ht => by
    rw [typeOf2] at ht
    obtain ⟨hte, rfl⟩ := numArgT_ok ht
    rw [fold2]
    exact numArg_post (fold2_post_tree sig e n ih env .num henv hte) fun x env1 henv1 => ⟨rfl, henv1⟩
  | .rnd e, n, ih, env, t, henv, ht => by
    rw [typeOf2] at ht
    obtain ⟨hte, rfl⟩ := numArgT_ok ht
    rw [fold2]
    exact numArg_post (fold2_post_tree sig e n ih env .num henv hte) fun x env1 henv1 => rndStep_typed henv1 x
  | .cell name idx, n, ih, env, t, henv, ht => by
    rw [typeOf2] at ht
    split at ht
    · cases ht
    next hti =>
      cases ht
      rcases (foldIdx_post_tree sig idx n ih env henv hti).cases with ⟨x, h1, hx⟩ | ⟨is, env1, h1, _, henv1⟩ <;>
        simp only [fold2, h1]
      · exact hx
      · exact readCell_typed henv1 name is
  | .call g args, n, ih, env, t, henv, ht => by
    rw [typeOf2] at ht
    rw [fold2]
    split at ht
    next hs =>
      rw [henv.fns.of_none hs]
      split at ht
      · cases ht
      next hti =>
        cases ht
        rcases (foldIdx_post_tree sig args n ih env henv hti).cases with ⟨x, h1, hx⟩ | ⟨is, env1, h1, _, henv1⟩ <;>
          simp only [h1]
        · exact hx
        · exact readCell_typed henv1 g is
    next s hs =>
      obtain ⟨d, hg, hps, hbody⟩ := henv.fns.of_some hs
      rw [hg]
      split at ht
      · cases ht
      next hta =>
        cases ht
        rw [hps] at hta
        rcases (bindArgs2_post_tree sig args n ih env d.params [] true henv wellTypedVars_nil hta).cases with
          ⟨x, h1, hx⟩ | ⟨b, env1, h1, hb, henv1⟩ <;> simp only [h1]
        · exact hx
        split
        · exact RunErr2.oomStack
        cases n with
        | zero => exact RunErr2.outOfFuel
        | succ n' =>
          -- the body runs in the frame of its arguments; the caller's frames come back afterwards
          have henv1' : EnvTyped sig { env1 with frames := b :: env1.frames } :=
            ⟨henv1.vars, List.forall_mem_cons.2 ⟨hb, henv1.frames⟩, henv1.arrays, henv1.fns⟩
          rcases (ih n' (Nat.lt_succ_self n') d.body _ _ henv1' hbody).cases with ⟨x, h2, hx⟩ | ⟨v, env2, h2, hk, henv2⟩ <;>
            simp only [h2]
          · exact hx
          · exact ⟨hk, henv2.vars, henv1.frames, henv2.arrays, henv2.fns⟩
theorem foldIdx_post_tree (sig : Sig) : ∀ (es : List (Expr2 F)) (n : Nat) (_ : BodiesPost (F := F) sig n) (env : RefEnv F),
    EnvTyped sig env → typeIdx sig es = .ok () → Post (fun _ => True) (EnvTyped sig) (foldIdx n env es)
  | [], n, ih, env, henv, ht => by rw [typeIdx] at ht; cases ht
  | e :: es, n, ih, env, henv, ht => by
    rw [typeIdx_cons] at ht
    split at ht
    · cases ht
    · cases ht
    next hte =>
      rcases (fold2_post_tree sig e n ih env .num henv hte).cases with ⟨x, h1, hx⟩ | ⟨v, env1, h1, hk, henv1⟩ <;>
        rw [foldIdx, h1]
      · exact hx
      simp only
      cases hsub : subscript v with
      | error x => exact subscript_typed hk hsub
      | ok i =>
        cases es with
        | nil => exact ⟨trivial, henv1⟩
        | cons e' es' =>
          rcases (foldIdx_post_tree sig (e' :: es') n ih env1 henv1 ht).cases with ⟨x, h2, hx⟩ | ⟨is, env2, h2, h⟩ <;>
            simp only [h2]
          · exact hx
          · exact h
theorem bindArgs2_post_tree (sig : Sig) : ∀ (as : List (Expr2 F)) (n : Nat) (_ : BodiesPost (F := F) sig n) (env : RefEnv F)
    (ps : List Str) (acc : List (Str × Value F)) (first : Bool),
    EnvTyped sig env → BindTyped acc → typeArgs sig first (ps.map VT.ofName) as = .ok () →
    Post BindTyped (EnvTyped sig) (bindArgs2 n env ps as acc)
  | [], n, ih, env, [], acc, first, henv, hacc, ht => by rw [bindArgs2]; exact ⟨hacc, henv⟩
  | [], n, ih, env, p :: ps, acc, first, henv, hacc, ht => by
    rw [List.map_cons, typeArgs] at ht
    cases first <;> cases ht
  | a :: as, n, ih, env, [], acc, first, henv, hacc, ht => by
    rw [List.map_nil, typeArgs] at ht; cases ht
  | a :: as, n, ih, env, p :: ps, acc, first, henv, hacc, ht => by
    rw [List.map_cons, typeArgs] at ht
    split at ht
    · cases ht
    next t hta =>
      split at ht
      next htp =>
        rw [eq_of_beq htp] at hta
        rcases (fold2_post_tree sig a n ih env _ henv hta).cases with ⟨x, h1, hx⟩ | ⟨v, env1, h1, hk, henv1⟩ <;>
          simp only [bindArgs2, h1]
        · exact hx
        · have hm := matches_iff_kindOf.2 hk
          simp only [hm, if_true]
          exact bindArgs2_post_tree sig as n ih env1 ps _ false henv1 (Stmt2L.typed_alSet hacc hm) ht
      · cases ht
end

theorem fold2_post (sig : Sig) (n : Nat) : ∀ (e : Expr2 F) (env : RefEnv F) (t : VT),
    EnvTyped sig env → typeOf2 sig e = .ok t → Post (kindOf · = t) (EnvTyped sig) (fold2 n env e) := by
  induction n using Nat.strongRecOn with
  | _ n ih => exact fun e => fold2_post_tree sig e n ih

/-- **Typed trees of the full language have typed values.**  In an environment
    that agrees with the signatures, a tree of static type `t` evaluates to a
    value of kind `t` and leaves such an environment, or fails with a run-time
    error of `RunErr2`. -/
theorem fold2_typed (sig : Sig) : ∀ (n : Nat) (e : Expr2 F) (env : RefEnv F) (t : VT),
    EnvTyped sig env → typeOf2 sig e = .ok t →
    (∀ v env', fold2 n env e = .ok (v, env') → kindOf v = t ∧ EnvTyped sig env') ∧
    (∀ x, fold2 n env e = .error x → RunErr2 x) :=
  fun n e env t henv ht => (fold2_post sig n e env t henv ht).iff

/-- (`first` is arbitrary: whether `typeArgs` succeeds does not depend on it) -/
theorem bindArgs2_typed (sig : Sig) : ∀ (n : Nat) (as : List (Expr2 F)) (env : RefEnv F) (ps : List Str)
    (acc : List (Str × Value F)) (first : Bool),
    EnvTyped sig env → BindTyped acc → typeArgs sig first (ps.map VT.ofName) as = .ok () →
    (∀ b env', bindArgs2 n env ps as acc = .ok (b, env') → BindTyped b ∧ EnvTyped sig env') ∧
    (∀ x, bindArgs2 n env ps as acc = .error x → RunErr2 x) :=
  fun n as env ps acc first henv hacc ht =>
    (bindArgs2_post_tree sig as n (fun n' _ => fold2_post sig n') env ps acc first henv hacc ht).iff

theorem fold2_typed_not_static (sig : Sig) (n : Nat) (e : Expr2 F) (env : RefEnv F) (t : VT)
    (henv : EnvTyped sig env) (ht : typeOf2 sig e = .ok t) :
    ∀ x, fold2 n env e = .error x →
      x ≠ .typeMismatch ∧ (∀ s, x ≠ .syntax s) ∧ x ≠ .undefinedStatement :=
  fun x h => ((fold2_typed sig n e env t henv ht).2 x h).not_static

theorem numArgT_error {r : Except Err VT} {x : Err} (h : numArgT r = .error x) :
    x = .typeMismatch ∨ r = .error x := by
  cases r with
  | error y => simp only [numArgT, Except.error.injEq] at h; subst h; exact .inr rfl
  | ok a =>
    cases a with
    | str => simp only [numArgT, Except.error.injEq] at h; exact .inl h.symm
    | num => cases h

mutual
theorem typeOf2_error (sig : Sig) : ∀ (e : Expr2 F) (x : Err),
    typeOf2 sig e = .error x → x = .typeMismatch ∨ ∃ s, x = .syntax s
  | .num _, x, h | .str _, x, h | .var _, x, h => by rw [typeOf2] at h; cases h
  | .paren e, x, h => by rw [typeOf2] at h; exact typeOf2_error sig e x h
  | .un op e, x, h => by
    rw [typeOf2] at h
    split at h
    next hte => cases h; exact typeOf2_error sig e _ hte
    · split at h <;> cases h; exact .inl rfl
  | .bin op l r, x, h => by
    rw [typeOf2] at h
    split at h
    next htl => cases h; exact typeOf2_error sig l _ htl
    split at h
    next htr => cases h; exact typeOf2_error sig r _ htr
    split at h <;> cases h; exact .inl rfl
  | .abs e, x, h | .int e, x, h | .rnd e, x, h => by
    rw [typeOf2] at h
    rcases numArgT_error h with h | h
    · exact .inl h
    · exact typeOf2_error sig e x h
  | .cell name idx, x, h => by
    rw [typeOf2] at h
    split at h <;> cases h
    next hti => exact typeIdx_error sig idx _ hti
  | .call g args, x, h => by
    rw [typeOf2] at h
    split at h <;> split at h <;> cases h
    next hti => exact typeIdx_error sig args _ hti
    next hta => exact typeArgs_error sig true _ args _ hta
theorem typeIdx_error (sig : Sig) : ∀ (es : List (Expr2 F)) (x : Err),
    typeIdx sig es = .error x → x = .typeMismatch ∨ ∃ s, x = .syntax s
  | [], x, h => by rw [typeIdx] at h; cases h; exact .inr ⟨_, rfl⟩
  | e :: es, x, h => by
    rw [typeIdx_cons] at h
    split at h
    next hte => cases h; exact typeOf2_error sig e _ hte
    · cases h; exact .inl rfl
    · cases es with
      | nil => cases h
      | cons e' es' => exact typeIdx_error sig (e' :: es') x h
theorem typeArgs_error (sig : Sig) : ∀ (first : Bool) (ps : List VT) (as : List (Expr2 F)) (x : Err),
    typeArgs sig first ps as = .error x → x = .typeMismatch ∨ ∃ s, x = .syntax s
  | first, [], [], x, h => by rw [typeArgs] at h; cases h
  | first, [], _ :: _, x, h => by rw [typeArgs] at h; cases h; exact .inr ⟨_, rfl⟩
  | first, _ :: _, [], x, h => by
    rw [typeArgs] at h
    cases first <;> cases h <;> exact .inr ⟨_, rfl⟩
  | first, p :: ps, a :: as, x, h => by
    rw [typeArgs] at h
    split at h
    next hta => cases h; exact typeOf2_error sig a _ hta
    split at h
    · exact typeArgs_error sig false ps as x h
    · cases h; exact .inl rfl
end

theorem sigOfSpec_none {fns : List (Str × FnDefSpec F)} {f : Str} (h : alGet f fns = none) :
    sigOfSpec fns f = none := by
  unfold sigOfSpec; rw [h]

theorem sigOfSpec_some {fns : List (Str × FnDefSpec F)} {f : Str} {d : FnDefSpec F} (h : alGet f fns = some d) :
    sigOfSpec fns f = some (d.params.map VT.ofName, VT.ofName f) := by
  unfold sigOfSpec; rw [h]

theorem fnsTyped_sigOfSpec (fns : List (Str × FnDefSpec F)) :
    FnsTyped (sigOfSpec fns) fns ↔
      ∀ f d, alGet f fns = some d → typeOf2 (sigOfSpec fns) d.body = .ok (VT.ofName f) := by
  constructor
  · intro h f d hg
    have hf := h f
    rw [sigOfSpec_some hg, hg] at hf
    exact hf.2
  · intro h f
    cases hg : alGet f fns with
    | none => rw [sigOfSpec_none hg]; trivial
    | some d => rw [sigOfSpec_some hg]; exact ⟨rfl, h f d hg⟩

/-- `FnsTyped` is needed: the check believed `F` to be a function of one string
    (so `F("A")` is typed), but at run time `F` is undefined, `F("A")` is read as an
    array cell and the string subscript is a TYPE MISMATCH. -/
example :
    typeOf2 (F := Unit) (fun _ => some ([.str], .num)) (.call ['F'] [.str ['A']]) = .ok .num ∧
    fold2 (F := Unit) 33 ⟨[], [], [], 0, []⟩ (.call ['F'] [.str ['A']]) = .error .typeMismatch ∧
    ¬ FnsTyped (F := Unit) (fun _ => some ([.str], .num)) [] := by
  refine ⟨?_, ?_, ?_⟩
  · simp [typeOf2, typeArgs, VT.ofName, endsWithDollar]
  · simp [fold2, foldIdx, alGet, subscript]
  · intro h
    have := h ['F']
    simp [alGet] at this

/-- `EnvTyped.vars` is needed: with a string stored under the numeric name `A`,
    the typed tree `-A` evaluates to TYPE MISMATCH. -/
example :
    typeOf2 (F := Unit) (fun _ => none) (.un .neg (.var ['A'])) = .ok .num ∧
    fold2 (F := Unit) 33 ⟨[(['A'], .str [])], [], [], 0, []⟩ (.un .neg (.var ['A'])) = .error .typeMismatch := by
  refine ⟨?_, ?_⟩
  · simp [typeOf2, unaryRule, VT.ofName, endsWithDollar]
  · simp [fold2, RefEnv.lookup, lookupFrames, alGet, UnOp.eval]

end Abasic.Props.C06

