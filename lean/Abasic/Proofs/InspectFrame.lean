import Abasic.Proofs.ExprFrame
import Abasic.Proofs.ExprLift
/-
  The frame `RQ` for expression evaluations and PRINT (used by C07
  `inspect_returns` / `inspect_then_cont`), complementing `XF.RX`:

  `RQ σ σ'` — the token index of the cursor has not moved backwards, the
  analyzer's access log is untouched, the read counter has not decreased, and
  the output queue has only GROWN, by `Out.print` / `Out.warning` records put
  on top of it (`OutExt`).

  Together with `XF.RX` it is a frame of expression evaluation (`ExprFrame`): a
  user function call moves the cursor to the DEF line and back; the frame pushed
  by the call holds the return location, and `XF.RX` (stack restored) shows that
  it is the one popped.  PRINT respects it.
-/
set_option linter.unusedSectionVars false

namespace Abasic.Proofs.XQ
open Abasic Abasic.Hoare Abasic.Proofs.XF M

variable {F : Type} [NumOps F]

/-- the records an inspection can put on the queue -/
def isPW : Out → Bool
  | .print _ => true
  | .warning _ _ => true
  | _ => false

def OutExt (o o' : List Out) : Prop := ∃ extra, o' = extra ++ o ∧ ∀ x ∈ extra, isPW x = true

theorem OutExt.refl (o : List Out) : OutExt o o := ⟨[], rfl, fun _ h => by cases h⟩

theorem OutExt.trans {a b c : List Out} (h1 : OutExt a b) (h2 : OutExt b c) : OutExt a c := by
  obtain ⟨e1, rfl, p1⟩ := h1
  obtain ⟨e2, rfl, p2⟩ := h2
  refine ⟨e2 ++ e1, by rw [List.append_assoc], fun x hx => ?_⟩
  rcases List.mem_append.1 hx with h | h
  · exact p2 x h
  · exact p1 x h

theorem OutExt.cons {o : List Out} (x : Out) (h : isPW x = true) : OutExt o (x :: o) :=
  ⟨[x], rfl, fun y hy => by
    rcases List.mem_singleton.1 hy with rfl
    exact h⟩

structure RQ (σ σ' : St F) : Prop where
  idx : σ.loc.idx ≤ σ'.loc.idx
  accesses : σ'.accesses = σ.accesses
  out : OutExt σ.out σ'.out
  reads : σ.reads ≤ σ'.reads

instance : IsFrame (RQ (F := F)) where
  refl _ := ⟨Nat.le_refl _, rfl, OutExt.refl _, Nat.le_refl _⟩
  trans h1 h2 := ⟨Nat.le_trans h1.idx h2.idx, h2.accesses.trans h1.accesses, h1.out.trans h2.out,
    Nat.le_trans h1.reads h2.reads⟩

theorem rq_mk {σ σ' : St F} (h1 : σ.loc.idx ≤ σ'.loc.idx) (h2 : σ'.accesses = σ.accesses)
    (h3 : σ'.out = σ.out) (h4 : σ.reads ≤ σ'.reads) : RQ σ σ' :=
  ⟨h1, h2, by rw [h3]; exact OutExt.refl _, h4⟩

theorem rq_vstep {σ σ' : St F} (h : VStep σ σ') : RQ σ σ' := by
  cases h with
  | warning msg hw => exact ⟨Nat.le_refl _, rfl, OutExt.cons _ rfl, Nat.le_refl _⟩
  | _ => exact rq_mk (Nat.le_refl _) rfl rfl (Nat.le_refl _)

theorem rq_cstep {σ σ' : St F} (h : CStep σ σ') : RQ σ σ' := by
  cases h with
  | reads => exact rq_mk (Nat.le_refl _) rfl rfl (Nat.le_succ _)
  | advance => exact rq_mk (Nat.le_succ _) rfl rfl (Nat.le_refl _)

instance : ExprFrame (Both (RX (F := F)) RQ) where
  vstep h := ⟨rx_vstep h, rq_vstep h⟩
  cstep h := ⟨rx_cstep h, rq_cstep h⟩
  nested := nested_of_blind fun _ _ =>
    ⟨rx_same rfl rfl rfl rfl rfl rfl rfl rfl rfl rfl rfl rfl rfl rfl, rq_mk (Nat.le_refl _) rfl rfl (Nat.le_refl _)⟩
  call ev name d he := call_of_body (fun h => ⟨rx_cstep h, rq_cstep h⟩) ev he name d fun b =>
    callBody_of_restore (·.1.stack) (fun _ _ _ _ h => ⟨⟨h.1.lines, h.1.imm, rfl, h.1.bp, rfl, h.1.loops, h.1.data,
      h.1.fns, h.1.vars, h.1.input, h.1.state, h.1.warnings, h.1.tracing, h.1.arrays⟩,
      Nat.le_refl _, h.2.accesses, h.2.out, h.2.reads⟩) ev name b he

theorem rq_hasNext : Respects RQ (hasNext (F := F)) := (fr_hasNext (R := Both RX RQ)).snd

theorem rq_printStatement (n : Nat) : Respects RQ (printStatement (evalN (F := F) n)) :=
  (fr_printStatement (R := Both RX RQ) _ (fr_evalN_expr n) fun _ _ =>
    ⟨rx_same rfl rfl rfl rfl rfl rfl rfl rfl rfl rfl rfl rfl rfl rfl,
      Nat.le_refl _, rfl, OutExt.cons _ rfl, Nat.le_refl _⟩).snd

end Abasic.Proofs.XQ
