import Abasic.Proofs.AnalyzerKeeps
/-
  The observation `fns` (the function table) for Proofs/AnalyzerKeeps.lean (the others:
  Proofs/AnalyzerFrame.lean for `lines`, `nesting`; `Abasic.ALine` in Proofs/ProgTyping.lean for
  `loc.line`): `AFns.key` is a `Frame` but not `NoFns`, so every `AKeep.keeps_*` lemma that does not
  assume `NoFns` says that the function table is unchanged, on the success path and on the error
  path alike — no analyzer action other than `defineFunction` (hence: nothing but the DEF
  statement) changes it.  Used by Proofs/Analyzer3.lean for the signatures the analyzer holds after
  a statement that FAILED.
-/

namespace Abasic.AFns
open Abasic M

variable {F : Type}

/-- as `AKeep.st` -/
def rst {α : Type} : Res F α → St F
  | .ok _ s => s
  | .err _ s => s

def key (s : St F) : List (Str × FnDef) := s.fns

structure Keeps {α : Type} (m : M F α) : Prop where
  h : ∀ s, key (rst (m s)) = key s

theorem Keeps.of {α : Type} {m : M F α} (h : AKeep.Keeps key m) : Keeps m := ⟨h.h⟩

instance : AKeep.Frame (key (F := F)) where
  dep s t _ _ hf _ := hf
  exit s t h := by
    cases hn : t.nesting <;> simpa only [exitNested, bind, M.bindM, M.get, hn, M.set, M.rpanic, AKeep.st, key] using h

theorem Keeps.rpanic {α : Type} (x : String) : Keeps (M.rpanic x : M F α) := ⟨fun _ => rfl⟩

/-- as `AKeep.Keeps.get_bind` -/
theorem Keeps.get_bind {α : Type} {f : St F → M F α} (h : ∀ s, key (rst (f s s)) = key s) :
    Keeps (M.get >>= f) := ⟨fun s => h s⟩

theorem Keeps.ite {α : Type} {c : Prop} [Decidable c] {a b : M F α} (ha : Keeps a) (hb : Keeps b) :
    Keeps (if c then a else b) := by
  split <;> assumption

variable [NumOps F]

theorem keeps_hasNext : Keeps (hasNext : M F _) := .of AKeep.keeps_hasNext
theorem keeps_defArgsLoop (n : Nat) (acc : List Str) : Keeps (defArgsLoop (F := F) n acc) :=
  .of (AKeep.keeps_defArgsLoop n acc)

end Abasic.AFns
