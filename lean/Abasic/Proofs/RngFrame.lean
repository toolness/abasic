import Abasic.Proofs.Step
import Abasic.Props.C18
/-
  Frame for C18 (the random generator):

  * `Orbit r0 r` : `r` is reached from `r0` by some number of steps of the
    documented recurrence `lcg`;
  * `RO σ σ'` : the generator state of `σ'` lies on the orbit of the generator
    state of `σ` (hence is reduced, `< 2^33`, if that of `σ` was: `Orbit.lt`).

  Every state update of the evaluator except that of `rnd` leaves `rng` alone; `rnd` makes one
  step: `RO` is a `TopFrame` (Proofs/Step.lean).
-/
set_option linter.unusedSectionVars false

namespace Abasic.Props.C18
open Abasic

def Orbit (r0 r : Nat) : Prop := ∃ k, r = iterate lcg k r0

theorem iterate_add (f : Nat → Nat) (a b s : Nat) :
    iterate f (a + b) s = iterate f b (iterate f a s) := by
  induction a generalizing s with
  | zero => rw [Nat.zero_add]; rfl
  | succ a ih =>
    rw [Nat.add_right_comm]
    show iterate f (a + b) (f s) = iterate f b (iterate f a (f s))
    exact ih (f s)

theorem iterate_succ' (f : Nat → Nat) (k s : Nat) : iterate f (k + 1) s = f (iterate f k s) := by
  rw [iterate_add]; rfl

theorem Orbit.refl (r : Nat) : Orbit r r := ⟨0, rfl⟩

theorem Orbit.trans {a b c : Nat} (h1 : Orbit a b) (h2 : Orbit b c) : Orbit a c := by
  obtain ⟨k1, e1⟩ := h1
  obtain ⟨k2, e2⟩ := h2
  exact ⟨k1 + k2, by rw [e2, e1, iterate_add]⟩

theorem iterate_one (f : Nat → Nat) (s : Nat) : iterate f 1 s = f s := rfl

theorem Orbit.step (r : Nat) : Orbit r (lcg r) := ⟨1, (iterate_one lcg r).symm⟩

theorem Orbit.lt {a b : Nat} (h : Orbit a b) (ha : a < 2 ^ 33) : b < 2 ^ 33 := by
  obtain ⟨k, e⟩ := h
  cases k with
  | zero =>
    have e' : b = a := e
    rw [e']; exact ha
  | succ k =>
    have e' : b = lcg (iterate lcg k a) := by rw [e, iterate_succ']
    rw [e']; exact lcg_lt _

end Abasic.Props.C18

namespace Abasic.Rng
open Abasic M Abasic.Hoare Abasic.Props.C18

variable {F : Type}

def RO (σ σ' : St F) : Prop := Orbit σ.rng σ'.rng

theorem ro_same {σ σ' : St F} (h : σ'.rng = σ.rng) : RO σ σ' := ⟨0, h⟩

instance : IsFrame (RO (F := F)) where
  refl _ := Orbit.refl _
  trans := Orbit.trans

namespace Lift
scoped macro_rules | `(tactic| respects_leaf) => `(tactic| exact ro_same rfl)

theorem ro_breakAtCurrentLocation : Respects RO (breakAtCurrentLocation (F := F)) :=
  respects_modify fun _ => by unfold St.progBreak St.setImmediate; exact ro_same rfl

variable [NumOps F]

theorem rnd_cases (x : F) (σ : St F) :
    (∃ e, rnd x σ = .err e σ) ∨ (∃ v, rnd x σ = .ok v σ) ∨
    (∃ v, rnd x σ = .ok v { σ with rng := lcg σ.rng }) := by
  have hstep := step_is_lcg σ.rng
  unfold rngStep at hstep
  unfold rnd
  simp only [bind, M.bindM, M.get]
  by_cases h1 : NumOps.lt x (NumOps.zero : F) = true
  · rw [if_pos h1]; exact .inl ⟨_, rfl⟩
  · rw [if_neg h1]
    by_cases h2 : NumOps.eq x (NumOps.zero : F) = true
    · rw [if_pos h2]; exact .inr (.inl ⟨_, rfl⟩)
    · rw [if_neg h2]
      by_cases h3 : Extracted.rngMultiplier * σ.rng + Extracted.rngIncrement ≥ 2 ^ 64
      · rw [if_pos h3]; exact .inl ⟨_, rfl⟩
      · rw [if_neg h3, hstep]; exact .inr (.inr ⟨_, rfl⟩)


theorem ro_cstep {σ σ' : St F} (h : CStep σ σ') : RO σ σ' := by cases h <;> exact ro_same rfl

instance : TopFrame (RO (F := F)) where
  vstep h := by
    cases h with
    | rnd r hr => rw [hr, step_is_lcg]; exact Orbit.step _
    | _ => exact ro_same rfl
  cstep := ro_cstep
  nested := nested_of_blind fun _ _ => ro_same rfl
  call := call_of_blind ro_cstep fun _ _ _ => ro_same rfl
  dstep h := by cases h <;> exact ro_same rfl
  gstep h := by cases h <;> exact ro_same rfl
  idx _ _ _ := ro_same rfl
  tstep h := by
    cases h with
    | setImmediate ts => unfold St.setImmediate; exact ro_same rfl
    | brk => unfold St.progBreak St.setImmediate; exact ro_same rfl
    | _ => exact ro_same rfl

omit [NumOps F] in
theorem ro_runFromFirst (σ : St F) : RO σ σ.runFromFirst := by
  apply ro_same
  unfold St.runFromFirst
  dsimp only
  split <;> rfl

/-- RUN, LIST, a stored line, a reply leave `rng` alone (`randomize` is not among them) -/
theorem ro_hstep {σ σ' : St F} (h : HStep σ σ') : RO σ σ' := by
  cases h with
  | reset => exact ro_runFromFirst { σ with input := none, vars := [], arrays := [] }
  | _ => exact ro_same rfl

instance : HostFrame (RO (F := F)) where
  hstep := ro_hstep

omit [NumOps F] in
theorem ro_provideInput (text : Str) : Respects RO (provideInput (F := F) text) := by
  unfold provideInput; respects_tac

end Lift
end Abasic.Rng
