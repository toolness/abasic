import Abasic.Proofs.CallBody
import Abasic.Proofs.StmtIndep
import Abasic.Proofs.WalkAttr
/-
  One walk through the evaluator.

  Most of what is proved about every function of Expr.lean / Stmt.lean says: a predicate
  on computations holds of the primitives of Program.lean / Arrays.lean and is kept by
  `pure`, `fail`, `>>=`, `attempt`; hence it holds of every evaluator function.  `ExprWalk`
  (expressions), `StmtWalk` (the statements that do not re-enter the statement evaluator, END and
  STOP apart) and `Walk` (a whole statement activation, `run_next_statement`) are that interface;
  `walk_*` is the induction.  The few places where the evaluator reads the state itself are
  named (`varRef`, `fnDef`, `callBody`, the end-of-line error) and belong to the primitives.
-/
set_option linter.unusedSectionVars false

namespace Abasic.Hoare
open Abasic M

variable {F : Type}

/-- A predicate on computations that the monad operations keep … -/
structure Rules (F : Type) where
  P : ∀ {α : Type}, M F α → Prop
  pure : ∀ {α : Type} (a : α), P (Pure.pure a : M F α)
  throw : ∀ {α : Type} (e : TErr), P (M.throw e : M F α)
  bind : ∀ {α β : Type} {m : M F α} {f : α → M F β}, P m → (∀ a, P (f a)) → P (m >>= f)
  attempt : ∀ {α : Type} {m : M F α}, P m → P (M.attempt m)

theorem Rules.fail (W : Rules F) {α : Type} (e : Err) : W.P (M.fail e : M F α) := W.throw { err := e }

theorem Rules.rpanic (W : Rules F) {α : Type} (s : String) : W.P (M.rpanic s : M F α) := W.throw { err := .panic s }

def Rules.ofFrame (R : St F → St F → Prop) [IsFrame R] : Rules F where
  P m := Respects R m
  pure := respects_pure
  throw := respects_throw
  bind := respects_bind
  attempt := respects_attempt

/-- One step, by the shape of the computation: a bind, a case split, `attempt`; anything else — a leaf
    of the monad, a call of a single function — is looked up among the `walk` lemmas and the hypotheses.
    (`split` gives up at once where there is nothing to split, the lookup does not: hence the order.) -/
macro "walk_step" : tactic => `(tactic| first
  | with_reducible refine Rules.bind _ ?_ fun _ => ?_
  | split
  | simp only [walk, *]
  | with_reducible refine Rules.attempt _ ?_)

attribute [walk] Rules.pure Rules.fail Rules.throw Rules.rpanic

macro "walk" : tactic => `(tactic| repeat' walk_step)

section rules
variable (W : Rules F)

@[walk] theorem walk_ofExcept {α : Type} (r : Except TErr α) : W.P (M.ofExcept r : M F α) := by
  cases r with
  | ok a => exact W.pure a
  | error e => exact W.throw e

@[walk] theorem walk_liftE {α : Type} (r : Except Err α) : W.P (liftE r : M F α) := by
  cases r with
  | ok a => exact W.pure a
  | error e => exact W.fail e

end rules

/-- … and that holds of the token cursor … -/
structure CursorWalk (F : Type) extends Rules F where
  tokens : P (Abasic.tokens (F := F))
  peek : P (Abasic.peek (F := F))
  advance : P (Abasic.advance (F := F))
  endOfLine : P (M.get >>= fun s : St F =>
    (M.throw { err := .syntax .unexpectedEnd, loc := some s.loc } : M F (Token F)))

attribute [walk] CursorWalk.tokens CursorWalk.peek CursorWalk.advance CursorWalk.endOfLine

section cursor
variable (W : CursorWalk F)

@[walk] theorem walk_next : W.P (next (F := F)) := by unfold next; walk
@[walk] theorem walk_hasNext : W.P (hasNext (F := F)) := by unfold hasNext; walk
@[walk] theorem walk_nextUnwrapped : W.P (nextUnwrapped (F := F)) := by
  unfold nextUnwrapped
  refine W.bind (walk_next W) fun t => ?_
  split
  · exact W.pure _
  · exact W.endOfLine
@[walk] theorem walk_expect (k : Kw) : W.P (expect (F := F) k) := by unfold expect; walk
@[walk] theorem walk_accept (k : Kw) : W.P (accept (F := F) k) := by unfold accept; walk
@[walk] theorem walk_peekIsKw (k : Kw) : W.P (peekIsKw (F := F) k) := by unfold peekIsKw; walk
@[walk] theorem walk_tryNext {α : Type} (f : Token F → Option α) : W.P (tryNext f) := by unfold tryNext; walk
@[walk] theorem walk_lineBudget : W.P (lineBudget (F := F)) := by unfold lineBudget; walk

end cursor

end Abasic.Hoare

namespace Abasic.Hoare
open Abasic M Abasic.Proofs.XF

variable {F : Type} [NumOps F]

def fnDef (name : Str) : M F (Option FnDef) := do
  let s ← get
  pure (alGet name s.fns)

/-- a variable reference: `term` on a symbol that no parenthesis follows -/
def varRef (sym : Str) : M F (Value F) := do
  let s ← get
  match findInStack sym s.stack with
  | some v => pure v
  | none =>
    if s.warnings && !alHas sym s.vars then
      warn ("Use of undeclared variable '".toList ++ sym ++ "'.".toList)
    pure (getVar s sym)

/-- a call with its argument list: `userFunctionCall` once the definition is found -/
def callArgs (ev : Evals F) (name : Str) (d : FnDef) : M F (Option (Value F)) := do
  expect .LeftParen
  let bindings ← bindArgs ev d.args.length d.args 0 []
  expect .RightParen
  callBody ev name bindings

theorem userFunctionCall_eq (ev : Evals F) (name : Str) :
    userFunctionCall ev name = (do
      match ← fnDef name with
      | none => pure none
      | some d => callArgs ev name d) := rfl

theorem term_eq (ev : Evals F) :
    term ev = (do
      match ← nextUnwrapped with
      | .str s => pure (.str s)
      | .num x => pure (.num x)
      | .symbol sym =>
        if ← peekIsKw .LeftParen then
          match ← functionCall ev sym with
          | some v => pure v
          | none =>
            let idx ← arrayIndex ev
            warnUndeclaredArray sym
            arrayGet sym idx
        else varRef sym
      | _ => fail (.syntax .unexpectedToken)) := rfl

section args
variable (W : CursorWalk F) (ev : Evals F) (he : W.P ev.expr)
include he

theorem walk_bindArgs (arity : Nat) (args : List Str) (i : Nat) (acc : List (Str × Value F)) :
    W.P (bindArgs ev arity args i acc) := by
  induction args generalizing i acc with
  | nil => unfold bindArgs; walk
  | cons a rest ih => unfold bindArgs; walk

/-- the usual `call`: the call proper keeps `P` whatever the bindings -/
theorem walk_callArgs {name : Str} (h : ∀ b, W.P (callBody ev name b)) (d : FnDef) :
    W.P (callArgs ev name d) := by
  unfold callArgs
  have := walk_bindArgs W ev he
  walk

end args

/-- … of what an expression evaluation is made of … -/
structure ExprWalk (F : Type) [NumOps F] extends CursorWalk F where
  nested : ∀ {α : Type} {m : M F α}, P m → P (Abasic.nested m)
  warnUndeclaredArray : ∀ name, P (Abasic.warnUndeclaredArray (F := F) name)
  arrayGet : ∀ name idx, P (Abasic.arrayGet (F := F) name idx)
  rnd : ∀ x, P (Abasic.rnd (F := F) x)
  fnDef : ∀ name, P (Hoare.fnDef (F := F) name)
  varRef : ∀ sym, P (Hoare.varRef (F := F) sym)
  /-- over the whole argument list, since some notions are kept by the call only for the bindings `bindArgs` returns -/
  call : ∀ (ev : Evals F) name d, P ev.expr → P (callArgs ev name d)

attribute [walk] ExprWalk.warnUndeclaredArray ExprWalk.arrayGet ExprWalk.rnd ExprWalk.fnDef ExprWalk.varRef

section expr
variable (W : ExprWalk F)

variable (ev : Evals F) (he : W.P ev.expr)
include he

@[walk] theorem walk_arrayIndexLoop (n : Nat) (acc : List Nat) : W.P (arrayIndexLoop ev n acc) := by
  induction n generalizing acc with
  | zero => unfold arrayIndexLoop; walk
  | succ n ih => unfold arrayIndexLoop; walk

@[walk] theorem walk_arrayIndex : W.P (arrayIndex ev) := by unfold arrayIndex; walk

@[walk] theorem walk_numberFunctionArg : W.P (numberFunctionArg ev) := by unfold numberFunctionArg; walk

@[walk] theorem walk_userFunctionCall (name : Str) : W.P (userFunctionCall ev name) := by
  rw [userFunctionCall_eq]
  have := fun name d => W.call ev name d he
  walk

@[walk] theorem walk_functionCall (name : Str) : W.P (functionCall ev name) := by unfold functionCall; walk

@[walk] theorem walk_term : W.P (term ev) := by rw [term_eq]; walk

@[walk] theorem walk_parenExpr : W.P (parenExpr ev) := by unfold parenExpr; walk

@[walk] theorem walk_unaryExpr : W.P (unaryExpr ev) := by unfold unaryExpr; walk

omit he in
theorem walk_levelLoop {sub : M F (Value F)} (hs : W.P sub) (ops : Token F → Option BinOp)
    (n : Nat) (v : Value F) : W.P (levelLoop sub ops n v) := by
  induction n generalizing v with
  | zero => unfold levelLoop; walk
  | succ n ih => unfold levelLoop; walk

omit he in
theorem walk_level {sub : M F (Value F)} (hs : W.P sub) (ops : Token F → Option BinOp) :
    W.P (level sub ops) := by
  unfold level
  have := walk_levelLoop W hs ops
  walk

theorem walk_orExpr : W.P (orExpr ev) :=
  walk_level W (walk_level W (walk_level W (walk_level W (walk_level W (walk_level W
    (walk_unaryExpr W ev he) _) _) _) _) _) _

theorem walk_exprBody : W.P (exprBody ev) := W.nested (walk_orExpr W ev he)

@[walk] theorem walk_optionalArrayIndex : W.P (optionalArrayIndex ev) := by unfold optionalArrayIndex; walk

@[walk] theorem walk_printLoop (n : Nat) (semi : Bool) (acc : Str) : W.P (printLoop ev n semi acc) := by
  induction n generalizing semi acc with
  | zero => unfold printLoop; walk
  | succ n ih => unfold printLoop; walk

end expr

theorem walk_evalN_expr (W : ExprWalk F) (n : Nat) : W.P (evalN (F := F) n).expr := by
  induction n with
  | zero => exact W.fail _
  | succ n ih => exact walk_exprBody W _ ih

/-- the records that survive erasure of the flags: everything but Warning and Trace -/
def keepOut : Out → Bool
  | .warning _ _ => false
  | .trace _ => false
  | _ => true

/-- … of what the statements other than IF, END and STOP are made of … -/
structure StmtWalk (F : Type) [NumOps F] extends ExprWalk F where
  discardRemaining : P (Abasic.discardRemaining (F := F))
  setVar : ∀ name v, P (Abasic.setVar (F := F) name v)
  arraySet : ∀ name idx v, P (Abasic.arraySet (F := F) name idx v)
  arrayCreate : ∀ name idx, P (Abasic.arrayCreate (F := F) name idx)
  gotoLine : ∀ n, P (Abasic.gotoLine (F := F) n)
  gosubLine : ∀ n, P (Abasic.gosubLine (F := F) n)
  returnFromGosub : P (Abasic.returnFromGosub (F := F))
  startLoop : ∀ sym a b c, P (Abasic.startLoop (F := F) sym a b c)
  endLoop : ∀ sym, P (Abasic.endLoop (F := F) sym)
  defineFunction : ∀ name args, P (Abasic.defineFunction (F := F) name args)
  nextDataElement : P (Abasic.nextDataElement (F := F))
  restoreData : P (M.modify fun s : St F => { s with data := none })
  takeInput : P (Abasic.takeInput (F := F))
  rewindAndAwaitInput : P (Abasic.rewindAndAwaitInput (F := F))
  /-- ordinary output; Warning and Trace records are queued by `warn` and `traceHere` only -/
  emit : ∀ o, keepOut o = true → P (Abasic.emit (F := F) o)

/-- … and of a statement activation and `run_next_statement`. -/
structure Walk (F : Type) [NumOps F] extends StmtWalk F where
  setImmediate : ∀ ts, P (Abasic.setImmediate (F := F) ts)
  breakAtCurrentLocation : P (Abasic.breakAtCurrentLocation (F := F))
  traceHere : P (Abasic.traceHere (F := F))
  setRunning : P (M.modify fun s : St F => { s with state := .running })
  nextLine : P (Abasic.nextLine (F := F))
  returnToIdle : P (Abasic.returnToIdle (F := F))

attribute [walk] StmtWalk.discardRemaining StmtWalk.setVar StmtWalk.arraySet StmtWalk.arrayCreate StmtWalk.gotoLine
  StmtWalk.gosubLine StmtWalk.returnFromGosub StmtWalk.startLoop StmtWalk.endLoop StmtWalk.defineFunction
  StmtWalk.nextDataElement StmtWalk.restoreData StmtWalk.takeInput StmtWalk.rewindAndAwaitInput
  Walk.setImmediate Walk.breakAtCurrentLocation Walk.traceHere Walk.setRunning Walk.nextLine Walk.returnToIdle

section stmt
variable (W : StmtWalk F)

@[walk] theorem walk_emit_print (s : Str) : W.P (emit (F := F) (.print s)) := W.emit _ rfl
@[walk] theorem walk_emit_extraIgnored : W.P (emit (F := F) .extraIgnored) := W.emit _ rfl
@[walk] theorem walk_emit_reenter : W.P (emit (F := F) .reenter) := W.emit _ rfl

@[walk] theorem walk_assignValue (lv : LValue) (v : Value F) : W.P (assignValue lv v) := by unfold assignValue; walk
@[walk] theorem walk_gotoStatement : W.P (gotoStatement (F := F)) := by unfold gotoStatement; walk
@[walk] theorem walk_gosubStatement : W.P (gosubStatement (F := F)) := by unfold gosubStatement; walk
@[walk] theorem walk_nextStatement : W.P (nextStatement (F := F)) := by unfold nextStatement; walk

@[walk] theorem walk_defArgsLoop (n : Nat) (acc : List Str) : W.P (defArgsLoop (F := F) n acc) := by
  induction n generalizing acc with
  | zero => unfold defArgsLoop; walk
  | succ n ih => unfold defArgsLoop; walk

@[walk] theorem walk_skipToColonLoop (n : Nat) : W.P (skipToColonLoop (F := F) n) := by
  induction n with
  | zero => unfold skipToColonLoop; walk
  | succ n ih => unfold skipToColonLoop; walk

@[walk] theorem walk_defStatement : W.P (defStatement (F := F)) := by unfold defStatement; walk

variable (ev : Evals F) (he : W.P ev.expr)
include he

@[walk] theorem walk_assignmentStatement (name : Str) : W.P (assignmentStatement ev name) := by
  unfold assignmentStatement; walk

@[walk] theorem walk_letStatement : W.P (letStatement ev) := by unfold letStatement; walk
@[walk] theorem walk_parseLValue : W.P (parseLValue ev) := by unfold parseLValue; walk

@[walk] theorem walk_readLoop (n : Nat) : W.P (readLoop ev n) := by
  induction n with
  | zero => unfold readLoop; walk
  | succ n ih => unfold readLoop; walk

@[walk] theorem walk_readStatement : W.P (readStatement ev) := by unfold readStatement; walk
@[walk] theorem walk_inputStatement : W.P (inputStatement ev) := by unfold inputStatement; walk
@[walk] theorem walk_dimStatement : W.P (dimStatement ev) := by unfold dimStatement; walk
@[walk] theorem walk_printStatement : W.P (printStatement ev) := by unfold printStatement; walk
@[walk] theorem walk_forStatement : W.P (forStatement ev) := by unfold forStatement; walk

/-- every case of `dispatch` that does not re-enter the statement evaluator; END and STOP on request -/
theorem walk_dispatchK (t : Option (Token F)) (hif : t ≠ some (.kw .If))
    (hend : t = some (.kw .End) → W.P (setImmediate (F := F) []))
    (hstop : t = some (.kw .Stop) → W.P (breakAtCurrentLocation (F := F))) : W.P (Indep.dispatchK ev t) := by
  unfold Indep.dispatchK
  -- the arms, in the order of `dispatchK`: no token, `.remark`, `.data`, `.symbol` (an assignment), `.kw k`, anything else
  split
  · walk
  · walk
  · walk
  · walk
  -- `.kw k`, split on `k`: each of the three terms typechecks in one arm only (`hend rfl` at `.End`, `hstop rfl` at
  -- `.Stop`, `absurd rfl hif` at `.If`), so `first` takes it there and `walk` at every other keyword
  · split <;> first | exact hend rfl | exact hstop rfl | exact absurd rfl hif | walk
  · walk

end stmt

section top
variable (W : Walk F) (ev : Evals F) (he : W.P ev.expr)
include he

variable (hs : W.P ev.stmt)
include hs

omit he in
@[walk] theorem walk_statementOrGoto : W.P (statementOrGoto ev) := by
  unfold statementOrGoto
  have := W.nested hs
  walk

omit he in
@[walk] theorem walk_ifSkipLoop (n : Nat) : W.P (ifSkipLoop ev n) := by
  induction n with
  | zero => unfold ifSkipLoop; walk
  | succ n ih => unfold ifSkipLoop; walk

@[walk] theorem walk_ifStatement : W.P (ifStatement ev) := by unfold ifStatement; walk

@[walk] theorem walk_dispatch : W.P (dispatch ev) := by
  rw [Indep.dispatch_eq]
  refine W.bind (walk_next _) fun t => ?_
  by_cases hif : t = some (.kw .If)
  · rw [hif]; exact walk_ifStatement W ev he hs
  · exact walk_dispatchK W.toStmtWalk ev he t hif (fun _ => W.setImmediate _) fun _ => W.breakAtCurrentLocation

theorem walk_stmtBody : W.P (stmtBody ev) := by unfold stmtBody; walk

end top

theorem walk_evalN (W : Walk F) (n : Nat) : W.P (evalN (F := F) n).expr ∧ W.P (evalN (F := F) n).stmt := by
  induction n with
  | zero => exact ⟨W.fail _, W.fail _⟩
  | succ n ih => exact ⟨walk_exprBody _ _ ih.1, walk_stmtBody W _ ih.1 ih.2⟩

theorem walk_runNextStatement (W : Walk F) (fuel : Nat) : W.P (runNextStatement (F := F) fuel) := by
  unfold runNextStatement
  have := walk_stmtBody W _ (walk_evalN W fuel).1 (walk_evalN W fuel).2
  walk

end Abasic.Hoare
