import Abasic.Proofs.C11Eval
import Abasic.Proofs.Expr2Names
import Abasic.Proofs.Host
import Abasic.Proofs.StmtSteps
import Abasic.Proofs.TokLoop
import Abasic.Proofs.TokFast
import Abasic.Props.C18
/-
  Helper lemmas for Props/C18Host.lean: the statement of the immediate line `PRINT RND(<arg>)`,
  from an arbitrary state, for an arbitrary number carrier.  The tokens of the three concrete lines
  (`Toks` chains behind one shared prefix); then the walk: a negated number at `unaryExpr`, lifting
  through the six binary tiers and `nested` (`expr_of_unary`, by `C11Eval.exprBody_of_unary`, whose
  final state may differ from the initial one in more than cursor and read counter), the RND call
  (`NAME (` means what `Names.resolve` says, Proofs/Expr2Names.lean), the PRINT statement.
-/

namespace Abasic.Rng.Run
open Abasic M Abasic.ExprL Abasic.Proofs Abasic.Props.C12 Abasic.Props.C18

variable {F : Type} [NumOps F]

def RND : Token F := .symbol Extracted.builtinRnd.toList

theorem toks_print_rnd {s : Str} {ts : List (Token F)} (h : Props.C14.Toks s ts) :
    Props.C14.Toks ("PRINT RND(".toList ++ s) (.kw .Print :: RND :: .kw .LeftParen :: ts) := by
  rw [String.toList_ofList]
  exact .cons rfl (by rw [Fast.nextTokenC_eq]; rfl) (.cons rfl (by rw [Fast.nextTokenC_eq]; rfl) (.cons rfl
    (NextTok.op (by rw [Fast.any_eq]; rfl) (Props.C13.chompOneOrTwo_single '(' .LeftParen s rfl rfl fun _ => rfl)).eq h))

theorem toks_digit_rparen (c : Char) (z : F) (hs : skipWs [c, ')'] = [c, ')']) (hd : NextTok.Plain [c, ')'])
    (hn : numLoop [c, ')'] = ([c], [')']))
    (hp : NumOps.parse (F := F) [c] = some z) (hf : NumOps.isFinite z = true) :
    Props.C14.Toks [c, ')'] [.num z, .kw .RightParen] :=
  .cons hs (NextTok.num hd hn (List.cons_ne_nil _ _) hp hf).eq (.cons rfl (by rw [Fast.nextTokenC_eq]; rfl) (.nil rfl))

theorem tokenize_rnd0 (z : F) (hp : NumOps.parse (F := F) ['0'] = some z) (hf : NumOps.isFinite z = true) :
    tokenize (F := F) "PRINT RND(0)".toList 0 =
      .ok [.kw .Print, RND, .kw .LeftParen, .num z, .kw .RightParen] :=
  (tokenize_iff_toks _ _).mpr (toks_print_rnd (s := ['0', ')'])
    (toks_digit_rparen '0' z rfl ⟨by rw [Fast.any_eq]; rfl, rfl, fun _ e => absurd (List.cons.inj e).1 (by decide)⟩ rfl hp hf))

theorem tokenize_rnd1 (u : F) (hp : NumOps.parse (F := F) ['1'] = some u) (hf : NumOps.isFinite u = true) :
    tokenize (F := F) "PRINT RND(1)".toList 0 =
      .ok [.kw .Print, RND, .kw .LeftParen, .num u, .kw .RightParen] :=
  (tokenize_iff_toks _ _).mpr (toks_print_rnd (s := ['1', ')'])
    (toks_digit_rparen '1' u rfl ⟨by rw [Fast.any_eq]; rfl, rfl, fun _ e => absurd (List.cons.inj e).1 (by decide)⟩ rfl hp hf))

theorem tokenize_rndm1 (u : F) (hp : NumOps.parse (F := F) ['1'] = some u) (hf : NumOps.isFinite u = true) :
    tokenize (F := F) "PRINT RND(-1)".toList 0 =
      .ok [.kw .Print, RND, .kw .LeftParen, .kw .Minus, .num u, .kw .RightParen] :=
  (tokenize_iff_toks _ _).mpr (toks_print_rnd (s := ['-', '1', ')']) (.cons rfl (by rw [Fast.nextTokenC_eq]; rfl)
    (toks_digit_rparen '1' u rfl ⟨by rw [Fast.any_eq]; rfl, rfl, fun _ e => absurd (List.cons.inj e).1 (by decide)⟩ rfl hp hf)))

/-- `σ` with the cursor `len` tokens further, `r` reads, and the generator state `g` -/
def fin (σ : St F) (len g r : Nat) : St F := mv { σ with rng := g } len r

omit [NumOps F] in
theorem at_fin {σ : St F} {pre a b : List (Token F)} (h : At σ pre (a ++ b)) (g r : Nat) :
    At (fin σ a.length g r) (pre ++ a) b :=
  at_mv (σ := { σ with rng := g }) ⟨h.1, h.2⟩ r

theorem unary_neg_num (ev : Evals F) {σ : St F} {pre rest : List (Token F)} {x : F}
    (hAt : At σ pre (.kw .Minus :: .num x :: rest)) :
    unaryExpr ev σ = .ok (.num (NumOps.neg x)) (mv σ 2 (σ.reads + 1 + 1 + 1)) := by
  unfold unaryExpr
  rw [bind_ok (tryNext_some (a := UnOp.neg) hAt rfl)]
  rw [bind_ok (parenExpr_num ev (at_mv1 hAt _)), mv_mv]
  rfl

theorem expr_of_unary (f : Nat) (σ : St F) (v : Value F) (len g : Nat) (pre' rest : List (Token F))
    (hn : σ.nesting < Extracted.nestingLimit) (hE : Ends 6 rest)
    (hAt : ∀ r, At (fin σ len g r) pre' rest)
    (h : ∃ r, unaryExpr (evalN f) (nest σ (σ.nesting + 1)) = .ok v (nest (fin σ len g r) (σ.nesting + 1))) :
    ∃ r, (evalN (f + 1)).expr σ = .ok v (fin σ len g r) := by
  obtain ⟨r, hr⟩ := h
  exact ⟨r + 6, C11Eval.exprBody_of_unary (evalN f) σ _ v pre' rest hn hr rfl (at_nest (hAt r) _) hE⟩

theorem expr_neg_num (f : Nat) (σ : St F) (pre rest : List (Token F)) (x : F)
    (hn : σ.nesting < Extracted.nestingLimit) (hE : Ends 6 rest)
    (hAt : At σ pre (.kw .Minus :: .num x :: rest)) :
    ∃ r, (evalN (f + 1)).expr σ = .ok (.num (NumOps.neg x)) (mv σ 2 r) := by
  have h := expr_of_unary f σ (.num (NumOps.neg x)) 2 σ.rng (pre ++ [.kw .Minus, .num x]) rest hn hE
    (fun r => at_fin (a := [.kw .Minus, .num x]) (b := rest) hAt σ.rng r)
    ⟨_, unary_neg_num (evalN f) (at_nest hAt _)⟩
  exact h

theorem unary_named (ev : Evals F) {σ : St F} {pre rest : List (Token F)} {name : Str}
    (hAt : At σ pre (.symbol name :: .kw .LeftParen :: rest)) :
    unaryExpr ev σ = Names.meaning ev name (Names.resolve σ name) (mv σ 1 (σ.reads + 1 + 1 + 1 + 1)) := by
  unfold unaryExpr
  rw [bind_ok (tryNext_none hAt (fun t ht => by simp only [List.head?_cons, Option.some.injEq] at ht; subst ht; rfl))]
  refine (bind_pure _ _).trans ?_
  unfold parenExpr
  rw [bind_ok (accept_false (at_mv0 hAt _) rfl)]
  exact (Names.term_resolves ev _ pre rest name (at_mv0 (at_mv0 hAt _) _)).trans (by rw [mv_mv, mv_mv]; rfl)

theorem unary_rnd (ev : Evals F) (σ : St F) (pre arg rest : List (Token F)) (x : F)
    (hAt : At σ pre (RND :: .kw .LeftParen :: (arg ++ .kw .RightParen :: rest)))
    (harg : ∀ s : St F, s.nesting = σ.nesting →
      At s (pre ++ [RND, .kw .LeftParen]) (arg ++ .kw .RightParen :: rest) →
      ∃ r, ev.expr s = .ok (.num x) (mv s arg.length r)) :
    ∃ r, unaryExpr ev σ = (rnd x >>= fun y => pure (Value.num y)) (mv σ (arg.length + 3) r) := by
  have hAt4 := at_mv1 hAt (σ.reads + 1 + 1 + 1 + 1)
  have h5 := expect_eq (k := .LeftParen) hAt4 rfl
  obtain ⟨r, h6⟩ := harg (mv σ 2 (σ.reads + 1 + 1 + 1 + 1 + 1)) rfl (at_mv (a := [RND, .kw .LeftParen]) hAt _)
  rw [mv_mv] at h6
  have hAt6 := at_mv (a := arg) (b := .kw .RightParen :: rest) (at_mv1 hAt4 (σ.reads + 1 + 1 + 1 + 1 + 1)) r
  simp only [mv_mv, mv_reads] at h5 hAt6
  have h7 := expect_eq (k := .RightParen) hAt6 rfl
  rw [mv_mv, mv_reads, mv_congr σ (r + 1) (show 1 + 1 + arg.length + 1 = arg.length + 3 by omega)] at h7
  refine ⟨r + 1, ?_⟩
  rw [unary_named ev hAt, show Names.resolve σ Extracted.builtinRnd.toList = .builtin .rnd from rfl]
  show (numberFunctionArg ev >>= fun x => rnd x >>= fun r => pure (Value.num r)) _ = _
  unfold numberFunctionArg
  rw [bind_bind, bind_ok h5, bind_bind, bind_ok h6]
  simp only []
  rw [bind_bind, bind_ok h7]
  rfl

theorem expr_rnd_ok (f : Nat) (σ : St F) (pre arg rest : List (Token F)) (x y : F) (g : Nat)
    (hn : σ.nesting < Extracted.nestingLimit) (hE : Ends 6 rest)
    (hAt : At σ pre (RND :: .kw .LeftParen :: (arg ++ .kw .RightParen :: rest)))
    (harg : ∀ s : St F, s.nesting = σ.nesting + 1 →
      At s (pre ++ [RND, .kw .LeftParen]) (arg ++ .kw .RightParen :: rest) →
      ∃ r, (evalN f).expr s = .ok (.num x) (mv s arg.length r))
    (hrnd : ∀ s : St F, s.rng = σ.rng → rnd x s = .ok y { s with rng := g }) :
    ∃ r, (evalN (f + 1)).expr σ = .ok (.num y) (fin σ (arg.length + 3) g r) := by
  have hAt' : At σ pre ((RND :: .kw .LeftParen :: (arg ++ [.kw .RightParen])) ++ rest) := by
    simpa using hAt
  have hlen : (RND (F := F) :: .kw .LeftParen :: (arg ++ [.kw .RightParen])).length = arg.length + 3 := by
    simp
  obtain ⟨r, hw⟩ := unary_rnd (evalN f) (nest σ (σ.nesting + 1)) pre arg rest x (at_nest hAt _) harg
  refine expr_of_unary f σ (.num y) (arg.length + 3) g _ rest hn hE
    (fun r => by have := at_fin hAt' g r; rw [hlen] at this; exact this) ⟨r, ?_⟩
  exact hw.trans (bind_ok (hrnd _ rfl))

theorem expr_rnd_err (f : Nat) (σ : St F) (pre arg rest : List (Token F)) (x : F) (e : TErr)
    (hn : σ.nesting < Extracted.nestingLimit)
    (hAt : At σ pre (RND :: .kw .LeftParen :: (arg ++ .kw .RightParen :: rest)))
    (harg : ∀ s : St F, s.nesting = σ.nesting + 1 →
      At s (pre ++ [RND, .kw .LeftParen]) (arg ++ .kw .RightParen :: rest) →
      ∃ r, (evalN f).expr s = .ok (.num x) (mv s arg.length r))
    (hrnd : ∀ s : St F, rnd x s = .err e s) :
    ∃ σ', (evalN (f + 1)).expr σ = .err e σ' ∧ σ'.rng = σ.rng ∧ σ'.out = σ.out := by
  obtain ⟨r, hw⟩ := unary_rnd (evalN f) (nest σ (σ.nesting + 1)) pre arg rest x (at_nest hAt _) harg
  exact ⟨_, expr_err_of_unary f σ _ e hn rfl (hw.trans (bind_err (hrnd _))), rfl, rfl⟩

theorem stmtBody_print (ev : Evals F) {s : St F} {rest : List (Token F)}
    (hAt : At s [] (.kw .Print :: rest)) (hline : s.loc.line = none) :
    stmtBody ev s = printStatement ev (mv s 1 (s.reads + 1)) := by
  unfold stmtBody
  rw [bind_ok (traceHere_imm s hline)]
  unfold dispatch
  rw [bind_ok (next_eq hAt)]

theorem stmt_print_ok (ev : Evals F) {s τ : St F} {e' : List (Token F)} {nm : Str} {v : Value F}
    (hAt : At s [] (.kw .Print :: .symbol nm :: e')) (hline : s.loc.line = none)
    (hexpr : ev.expr (mv s 1 (s.reads + 1 + 1)) = .ok v τ)
    (hAtτ : At τ (.kw .Print :: .symbol nm :: e') []) :
    stmtBody ev s =
      .ok () { mv τ 0 (τ.reads + 1) with out := .print (valueText v ++ ['\n']) :: τ.out } := by
  rw [stmtBody_print ev hAt hline]
  unfold printStatement
  rw [bind_ok (lineBudget_eq (σ := mv s 1 (s.reads + 1)) hAt.1)]
  simp only [List.nil_append, List.length_cons]
  rw [bind_ok ((StmtL.printLoop_expr (at_mv1 hAt _) ⟨rfl, rfl, rfl, rfl⟩).trans
    ((bind_ok (by rw [mv_mv]; exact hexpr)).trans (StmtL.printLoop_stop hAtτ fun _ h => nomatch h)))]
  rfl

theorem stmt_print_err (ev : Evals F) {s τ : St F} {e' : List (Token F)} {nm : Str} {te : TErr}
    (hAt : At s [] (.kw .Print :: .symbol nm :: e')) (hline : s.loc.line = none)
    (hexpr : ev.expr (mv s 1 (s.reads + 1 + 1)) = .err te τ) :
    stmtBody ev s = .err te τ := by
  rw [stmtBody_print ev hAt hline]
  unfold printStatement
  rw [bind_ok (lineBudget_eq (σ := mv s 1 (s.reads + 1)) hAt.1)]
  simp only [List.nil_append, List.length_cons]
  rw [bind_err ((StmtL.printLoop_expr (at_mv1 hAt _) ⟨rfl, rfl, rfl, rfl⟩).trans
    (bind_err (by rw [mv_mv]; exact hexpr)))]

end Abasic.Rng.Run
