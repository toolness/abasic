import Abasic.Proofs.Cost
/-
  Lifting the cost judgments of Cost.lean through the evaluator
  (the quantitative counterpart of the `walk_*` induction of Walk.lean, function by function), in states
  without user functions.

  Every statement has the form `ECost (c + k) (fun _ => c + k') (f ev)`: `f` looks at the token under the cursor
  at most `k` times before it steps over one, and hands on `k' - k` credits more than it was given.
-/
set_option linter.unusedSectionVars false

namespace Abasic.Cost
open Abasic M Hoare

variable {F : Type} [NumOps F]

section evaluator
variable (ev : Evals F) (he : ∀ c, ECost (c + 3) (fun _ => c + 4) ev.expr)
include he

theorem cost_arrayIndexLoop (n : Nat) (acc : List Nat) (c : Nat) :
    ECost (c + 3) (fun _ => c + 3) (arrayIndexLoop ev n acc) := by
  induction n generalizing acc c with
  | zero => exact ecost_fail _
  | succ n ih => unfold arrayIndexLoop; ecost_tac

theorem cost_arrayIndex (c : Nat) : ECost (c + 3) (fun _ => c + 23) (arrayIndex ev) := by
  unfold arrayIndex
  have := cost_arrayIndexLoop ev he
  ecost_tac

theorem cost_numberFunctionArg (c : Nat) : ECost (c + 3) (fun _ => c + 23) (numberFunctionArg ev) := by
  unfold numberFunctionArg
  ecost_tac

omit he in
/-- without user functions the call protocol is never entered -/
theorem cost_userFunctionCall (name : Str) (c : Nat) :
    ECost c (fun o => if o.isSome then c + 20 else c) (userFunctionCall ev name) := by
  intro σ hp
  refine ecostAt_of_eq_ok (a := none) (σ' := σ) ?_ (epost_refl σ hp (by simp))
  simp only [userFunctionCall, bind, M.bindM, M.get, hp.1, alGet]
  rfl

theorem cost_functionCall (name : Str) (c : Nat) :
    ECost (c + 3) (fun o => if o.isSome then c + 23 else c + 3) (functionCall ev name) := by
  unfold functionCall
  have := cost_numberFunctionArg ev he
  have := cost_userFunctionCall ev
  ecost_tac

theorem cost_term (c : Nat) : ECost (c + 1) (fun _ => c + 10) (term ev) := by
  unfold term
  have := cost_functionCall ev he
  have := cost_arrayIndex ev he
  ecost_tac

theorem cost_parenExpr (c : Nat) : ECost (c + 2) (fun _ => c + 10) (parenExpr ev) := by
  unfold parenExpr
  have := cost_term ev he
  ecost_tac

theorem cost_unaryExpr (c : Nat) : ECost (c + 3) (fun _ => c + 10) (unaryExpr ev) := by
  unfold unaryExpr
  have := cost_parenExpr ev he
  ecost_tac

omit he in
theorem cost_levelLoop {sub : M F (Value F)} {k : Nat} (hs : ∀ c, ECost (c + 3) (fun _ => c + k + 3) sub)
    (ops : Token F → Option BinOp) (n : Nat) (v : Value F) (c : Nat) :
    ECost (c + 1) (fun _ => c) (levelLoop sub ops n v) := by
  induction n generalizing v c with
  | zero => exact ecost_fail _
  | succ n ih => unfold levelLoop; ecost_tac

omit he in
/-- a tier hands on one credit less than the tier below it -/
theorem cost_level {sub : M F (Value F)} {k : Nat} (hs : ∀ c, ECost (c + 3) (fun _ => c + k + 4) sub)
    (ops : Token F → Option BinOp) (c : Nat) :
    ECost (c + 3) (fun _ => c + k + 3) (level sub ops) := by
  unfold level
  have := cost_levelLoop (k := k + 1) hs ops
  ecost_tac

theorem cost_orExpr (c : Nat) : ECost (c + 3) (fun _ => c + 4) (orExpr ev) := by
  unfold orExpr
  exact cost_level (k := 1) (cost_level (k := 2) (cost_level (k := 3) (cost_level (k := 4) (cost_level (k := 5)
    (cost_level (k := 6) (cost_unaryExpr ev he) _) _) _) _) _) _ c

theorem cost_exprBody (c : Nat) : ECost (c + 3) (fun _ => c + 4) (exprBody ev) := by
  unfold exprBody
  exact ecost_nested (cost_orExpr ev he c)

theorem cost_optionalArrayIndex (c : Nat) : ECost (c + 4) (fun _ => c + 3) (optionalArrayIndex ev) := by
  unfold optionalArrayIndex
  have := cost_arrayIndex ev he
  ecost_tac

theorem cost_assignmentStatement (name : Str) (c : Nat) :
    ECost (c + 4) (fun _ => c + 14) (assignmentStatement ev name) := by
  unfold assignmentStatement
  have := cost_optionalArrayIndex ev he
  ecost_tac

theorem cost_letStatement (c : Nat) : ECost (c + 1) (fun _ => c + 1) (letStatement ev) := by
  unfold letStatement
  have := cost_assignmentStatement ev he
  ecost_tac

theorem cost_parseLValue (c : Nat) : ECost (c + 1) (fun _ => c + 10) (parseLValue ev) := by
  unfold parseLValue
  have := cost_optionalArrayIndex ev he
  ecost_tac

omit he in
theorem cost_gotoStatement (c : Nat) : SCost (c + 1) (c + 1) (gotoStatement (F := F)) := by
  unfold gotoStatement
  scost_tac

omit he in
theorem cost_gosubStatement (c : Nat) : SCost (c + 1) (c + 1) (gosubStatement (F := F)) := by
  unfold gosubStatement
  scost_tac

variable (hs : ∀ c, SCost (c + 1) c ev.stmt)
include hs

omit he in
theorem cost_statementOrGoto (c : Nat) : SCost (c + 2) c (statementOrGoto ev) := by
  unfold statementOrGoto
  have := cost_gotoStatement (F := F)
  have hn : ∀ c, SCost (c + 1) c (nested ev.stmt) := fun c => scost_nested (hs c)
  scost_tac

omit he in
theorem cost_ifSkipLoop (n : Nat) (c : Nat) : SCost (c + 1) c (ifSkipLoop ev n) := by
  have := cost_statementOrGoto ev hs
  induction n generalizing c with
  | zero => exact scost_fail _
  | succ n ih => unfold ifSkipLoop; scost_tac

theorem cost_ifStatement (c : Nat) : SCost (c + 3) (c + 3) (ifStatement ev) := by
  unfold ifStatement
  have hsg := cost_statementOrGoto ev hs
  have := cost_ifSkipLoop ev hs
  have hflat : ∀ u : Unit, Flat 1 ((fun _ => do if ← peekIsKw .Else then discardRemaining) u : M F Unit) := by
    intro _
    refine flat_bind (b := 0) (peekIsKw_flat _) (fun b => ?_)
    cases b
    · exact flat_pure _ _
    · exact discardRemaining_flat
  have htrue : ∀ c, SCost (c + 3) c
      (do statementOrGoto ev; if ← peekIsKw .Else then discardRemaining : M F Unit) :=
    fun c => scost_bind_flat (hsg (c + 1)) hflat (Nat.le_refl _)
  scost_tac

omit hs in
theorem cost_readLoop (n : Nat) (c : Nat) : ECost (c + 1) (fun _ => c + 1) (readLoop ev n) := by
  have := cost_parseLValue ev he
  induction n generalizing c with
  | zero => exact ecost_fail _
  | succ n ih => unfold readLoop; ecost_tac

omit hs in
theorem cost_readStatement (c : Nat) : ECost (c + 1) (fun _ => c + 1) (readStatement ev) := by
  unfold readStatement
  have := cost_readLoop ev he
  ecost_tac

omit hs in
theorem cost_inputStatement (c : Nat) : SCost (c + 1) (c + 1) (inputStatement ev) := by
  unfold inputStatement
  have := cost_parseLValue ev he
  scost_tac

omit hs in
theorem cost_dimStatement (c : Nat) : ECost (c + 1) (fun _ => c + 1) (dimStatement ev) := by
  unfold dimStatement
  have := cost_parseLValue ev he
  ecost_tac

omit hs in
theorem cost_printLoop (n : Nat) (semi : Bool) (acc : Str) (c : Nat) :
    ECost (c + 4) (fun _ => c + 3) (printLoop ev n semi acc) := by
  induction n generalizing semi acc c with
  | zero => exact ecost_fail _
  | succ n ih =>
    unfold printLoop
    refine ecost_peek_bind (fun t => ?_)
    cases t with
    | none => exact ecostOn_of_ecost (ecost_pure _ (Nat.le_refl _))
    | some t =>
      dsimp only
      by_cases h1 : (t.isKw .Colon || t.isKw .Else) = true
      · rw [if_pos h1]; exact ecostOn_of_ecost (ecost_pure _ (Nat.le_refl _))
      · rw [if_neg h1]
        by_cases h2 : t.isKw .Semicolon = true
        · rw [if_pos h2]
          exact ecostOn_next_bind (ecost_tail (ih _ _ (c + 9)) (fun _ => by omega))
        · rw [if_neg h2]
          by_cases h3 : t.isKw .Comma = true
          · rw [if_pos h3]
            exact ecostOn_next_bind (ecost_tail (ih _ _ (c + 9)) (fun _ => by omega))
          · rw [if_neg h3]
            refine ecostOn_of_ecost ?_
            ecost_tac

omit hs in
theorem cost_printStatement (c : Nat) : ECost (c + 4) (fun _ => c + 3) (printStatement ev) := by
  unfold printStatement
  have := cost_printLoop ev he
  ecost_tac

omit hs in
theorem cost_forStatement (c : Nat) : ECost (c + 1) (fun _ => c + 1) (forStatement ev) := by
  unfold forStatement
  ecost_tac

omit he hs in
theorem cost_nextStatement (c : Nat) : SCost (c + 1) (c + 1) (nextStatement (F := F)) := by
  unfold nextStatement
  scost_tac

omit he hs in
theorem cost_defArgsLoop (n : Nat) (acc : List Str) (c : Nat) :
    ECost (c + 2) (fun _ => c + 2) (defArgsLoop (F := F) n acc) := by
  induction n generalizing acc c with
  | zero => exact ecost_fail _
  | succ n ih => unfold defArgsLoop; ecost_tac

omit he hs in
/-- DEF: the header is amortised; defining the function changes the function table, after which the
    body is skipped at one read per token -/
theorem cost_defTail (fname : Str) (args : List Str) (b : Nat) (c : Nat) :
    SCost (c + 1) c (do defineFunction fname args; skipToColonLoop (F := F) b) := by
  intro σ hp
  have hskip : ∀ s : St F, s.reads = σ.reads → tlen s = tlen σ → s.loc.idx = σ.loc.idx →
      (skipToColonLoop b s).final.reads + c ≤ SBound (c + 1) σ := by
    intro s h1 h2 h3
    have := skipToColonLoop_reads b s
    rw [h1, h2, h3] at this
    unfold SBound
    omega
  have hfinal : ∀ r : Res F Unit, r.final.reads + c ≤ SBound (c + 1) σ →
      (∀ a σ', r = .ok a σ' → σ'.reads + c ≤ SBound (c + 1) σ) ∧ (∀ e σ', r = .err e σ' → σ'.reads ≤ SBound (c + 1) σ) := by
    intro r hr
    constructor
    · intro a s' h'; rw [h'] at hr; exact hr
    · intro e s' h'; rw [h'] at hr; simp only [Res.final] at hr; omega
  show SCostAt (c + 1) c (M.bindM (defineFunction fname args) fun _ => skipToColonLoop b) σ
  unfold SCostAt M.bindM defineFunction
  simp only [bind, M.bindM, M.get]
  cases hl : σ.loc.line with
  | none =>
    apply hfinal
    show σ.reads + c ≤ SBound (c + 1) σ
    unfold SBound; omega
  | some n =>
    apply hfinal
    exact hskip _ rfl (by unfold tlen toks; simp only [hl]) rfl

omit he hs in
theorem cost_defStatement (c : Nat) : SCost (c + 1) c (defStatement (F := F)) := by
  unfold defStatement
  have := cost_defArgsLoop (F := F)
  have := cost_defTail (F := F)
  scost_tac

theorem cost_dispatch (c : Nat) : SCost (c + 1) c (dispatch ev) := by
  unfold dispatch
  have := cost_assignmentStatement ev he
  have := cost_dimStatement ev he
  have := cost_printStatement ev he
  have := cost_inputStatement ev he
  have := cost_ifStatement ev he hs
  have := cost_gotoStatement (F := F)
  have := cost_gosubStatement (F := F)
  have := cost_forStatement ev he
  have := cost_nextStatement (F := F)
  have := cost_defStatement (F := F)
  have := cost_readStatement ev he
  have := cost_letStatement ev he
  scost_tac

theorem cost_stmtBody (c : Nat) : SCost (c + 1) c (stmtBody ev) := by
  unfold stmtBody
  have := cost_dispatch ev he hs
  scost_tac

end evaluator

/-- The knot: at every fuel level an expression evaluation returns one credit more than it was given and a
    statement activation at most one less; `expr_cost` / `stmt_cost` (Props/C09More.lean) are read off from this. -/
theorem cost_evalN (n : Nat) :
    (∀ c, ECost (c + 3) (fun _ => c + 4) (evalN (F := F) n).expr) ∧
    (∀ c, SCost (c + 1) c (evalN (F := F) n).stmt) := by
  induction n with
  | zero => exact ⟨fun _ => ecost_fail _, fun _ => scost_fail _⟩
  | succ n ih => exact ⟨cost_exprBody _ ih.1, cost_stmtBody _ ih.1 ih.2⟩

end Abasic.Cost
