import Abasic.Proofs.AnalyzerLemmas
import Abasic.Proofs.StmtSteps
/-
  Helper lemmas for C06 at the statement level (Abasic/Props/C06Stmt.lean, Abasic/Proofs/Analyzer3.lean):
  the statement analyzer of Analyzer.lean (`aStmtBody`, `aLet`, `aAssignment`,
  `aPrintLoop`, `aIf`, `aGotoOrGosub`, `aStatementOrGoto`) on the token cursor.

  * `SAgrees`   — agreement of a `Unit`-valued analyzer run with a static verdict
                  `Except Err Unit`: `AnaL.AAgrees` at `Unit` (`sagrees_iff`), the form in
                  which `Props.C06.analyze_stmt` reads a run (`AnaL.Runs`) off at one state;
  * one equation per cursor step of the statement analyzer.
-/
set_option linter.unusedSectionVars false

namespace Abasic.AnaS
open Abasic Abasic.Ref Abasic.ExprL Abasic.AnaL Abasic.StmtL M Abasic.Props.C06

variable {F : Type}

def SAgrees (res : Res F Unit) (ty : Except Err Unit) (σ : St F) (k : Nat → Res F Unit) : Prop :=
  match ty with
  | .ok _ => ∃ r, σ.reads < r ∧ res = k r
  | .error x => ∃ σ', res = .err { err := x } σ' ∧ σ'.nesting = σ.nesting

/-- the cursor and the read counter of the start state do not matter -/
theorem sagrees_mv {res : Res F Unit} {ty : Except Err Unit} {σ : St F} {a k0 : Nat}
    {k : Nat → Res F Unit} (h : SAgrees res ty (mv σ a k0) k) (hk : σ.reads ≤ k0) :
    SAgrees res ty σ k := by
  cases ty with
  | ok u =>
    obtain ⟨r, hr, hres⟩ := h
    exact ⟨r, by simp only [mv_reads] at hr; omega, hres⟩
  | error x => exact h

/-- … nor does the access log -/
theorem sagrees_lg {res : Res F Unit} {ty : Except Err Unit} {σ : St F} {a : List Acc}
    {k : Nat → Res F Unit} (h : SAgrees res ty (lg σ a) k) : SAgrees res ty σ k := by
  cases ty with
  | ok u => exact h
  | error x => exact h

theorem sagrees_iff {res : Res F Unit} {ty : Except Err Unit} {σ : St F} {k : Nat → Res F Unit} :
    SAgrees res ty σ k ↔ AAgrees res ty σ fun _ r => k r := by
  cases ty <;> exact Iff.rfl

variable [NumOps F]

theorem aStmtBody_let {ev : AEvals F} {σ : St F} {pre post : List (Token F)}
    (h : At σ pre (.kw .Let :: post)) :
    aStmtBody ev σ = aLet ev (mv σ 1 (σ.reads + 1)) := by
  unfold aStmtBody
  rw [bind_ok (next_eq h)]

theorem aStmtBody_print {ev : AEvals F} {σ : St F} {pre post : List (Token F)}
    (h : At σ pre (.kw .Print :: post)) :
    aStmtBody ev σ = (lineBudget >>= fun b => aPrintLoop ev b) (mv σ 1 (σ.reads + 1)) := by
  unfold aStmtBody
  rw [bind_ok (next_eq h)]

theorem aStmtBody_goto {ev : AEvals F} {σ : St F} {pre post : List (Token F)}
    (h : At σ pre (.kw .Goto :: post)) :
    aStmtBody ev σ = aGotoOrGosub (mv σ 1 (σ.reads + 1)) := by
  unfold aStmtBody
  rw [bind_ok (next_eq h)]

theorem aStmtBody_end {ev : AEvals F} {σ : St F} {pre post : List (Token F)}
    (h : At σ pre (.kw .End :: post)) :
    aStmtBody ev σ = .ok () (mv σ 1 (σ.reads + 1)) := by
  unfold aStmtBody
  rw [bind_ok (next_eq h)]
  rfl

theorem aStmtBody_if {ev : AEvals F} {σ : St F} {pre post : List (Token F)}
    (h : At σ pre (.kw .If :: post)) :
    aStmtBody ev σ = aIf ev (mv σ 1 (σ.reads + 1)) := by
  unfold aStmtBody
  rw [bind_ok (next_eq h)]

theorem aOptionalArrayIndex_none {ev : AEvals F} {σ : St F} {pre post : List (Token F)} {t : Token F}
    (h : At σ pre (t :: post)) (ht : t.isKw .LeftParen = false) :
    aOptionalArrayIndex ev σ = .ok none (mv σ 0 (σ.reads + 1)) := by
  unfold aOptionalArrayIndex
  rw [bind_ok (peekIsKw_cons .LeftParen h)]
  simp only [ht, Bool.false_eq_true, ↓reduceIte]
  rfl

theorem aAssignValue_ok (x : Str) (ln i : Nat) (a : Option Nat) (σ : St F) :
    aAssignValue { name := x, loc := { line := some ln, idx := i }, arity := a } (VT.ofName x) σ =
      .ok () (lg σ [(x, ln, i, .write)]) := by
  unfold aAssignValue
  rw [bind_ok (logAccess_eq _ _ _ _ _)]
  show (VT.check (F := F) (VT.ofName x) (VT.ofName x) >>= _) _ = _
  rw [bind_ok (check_same _ _)]
  rfl

/-- the assignment check rejected: TYPE MISMATCH (the write has been logged already) -/
theorem aAssignValue_err (x : Str) (ln i : Nat) (a : Option Nat) (t : VT) (ht : VT.ofName x ≠ t) (σ : St F) :
    aAssignValue { name := x, loc := { line := some ln, idx := i }, arity := a } t σ =
      .err { err := .typeMismatch } (lg σ [(x, ln, i, .write)]) := by
  unfold aAssignValue
  rw [bind_ok (logAccess_eq _ _ _ _ _)]
  show (VT.check (F := F) (VT.ofName x) t >>= _) _ = _
  rw [bind_err (check_diff ht _)]

theorem aGotoOrGosub_eq {σ : St F} {pre post : List (Token F)} {x : F}
    (h : At σ pre (.num x :: post)) :
    aGotoOrGosub σ =
      if σ.lines.has (NumOps.toU64 x) then .ok () (mv σ 1 (σ.reads + 1))
      else .err { err := .undefinedStatement } (mv σ 1 (σ.reads + 1)) := by
  unfold aGotoOrGosub
  rw [bind_ok (next_eq h)]
  have hl : (mv σ 1 (σ.reads + 1)).lines = σ.lines := rfl
  simp only [bind, M.bindM, M.get, hl]
  cases σ.lines.has (NumOps.toU64 x) <;> rfl

theorem agotoOrGosub_runs {c : Ctx} {off : Nat} {C : List (Token F) → Prop} (x : F) :
    Runs c off C aGotoOrGosub [.num x]
      (if c.has (NumOps.toU64 x) then .ok () else .error .undefinedStatement) [] fun _ => pure () := by
  intro σ pre rest hc _ hAt _
  rw [aGotoOrGosub_eq hAt, hc.2.2.2.2]
  cases c.has (NumOps.toU64 x) with
  | true => exact ⟨σ.reads + 1, Nat.lt_succ_self _, congrArg _ (lg_nil _).symm⟩
  | false => exact ⟨_, rfl, rfl⟩

theorem aPrintLoop_sep {ev : AEvals F} {k : Nat} {σ : St F} {pre post : List (Token F)} {t : Token F}
    (h : At σ pre (t :: post)) (ht : t = .kw .Semicolon ∨ t = .kw .Comma) :
    aPrintLoop ev (k + 1) σ = aPrintLoop ev k (mv σ 1 (σ.reads + 1 + 1)) := by
  have h1 : (t.isKw .Colon || t.isKw .Else) = false := by rcases ht with rfl | rfl <;> rfl
  have h2 : (t.isKw .Semicolon || t.isKw .Comma) = true := by rcases ht with rfl | rfl <;> rfl
  rw [aPrintLoop]
  rw [bind_ok (peek_eq h)]
  simp only [List.head?_cons, h1, h2, Bool.false_eq_true, ↓reduceIte]
  rw [bind_ok (next_eq (at_mv0 h _)), mv_mv]
  rfl

theorem aPrintLoop_expr {ev : AEvals F} {k : Nat} {σ : St F}
    {pre post : List (Token F)} {t : Token F} (h : At σ pre (t :: post)) (hp : Plain t) :
    aPrintLoop ev (k + 1) σ =
      (ev.expr >>= fun _ => aPrintLoop ev k) (mv σ 0 (σ.reads + 1)) := by
  obtain ⟨h1, h2, h3, h4⟩ := hp
  rw [aPrintLoop]
  rw [bind_ok (peek_eq h)]
  simp only [List.head?_cons, h1, h2, h3, h4, Bool.or_false, Bool.false_eq_true, ↓reduceIte]

theorem aPrintLoop_stop {ev : AEvals F} {k : Nat} {σ : St F}
    {pre rest : List (Token F)} (h : At σ pre rest) (hE : StmtEnd rest) :
    aPrintLoop ev (k + 1) σ = .ok () (mv σ 0 (σ.reads + 1)) := by
  rw [aPrintLoop]
  rw [bind_ok (peek_eq h)]
  cases hr : rest.head? with
  | none => rfl
  | some t =>
    rcases hE t hr with rfl | rfl
    · rfl
    · rfl

end Abasic.AnaS
