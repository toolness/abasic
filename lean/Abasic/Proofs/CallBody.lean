import Abasic.Proofs.Hoare
/-
  The call proper of a user-defined function, `callBody` (what `userFunctionCall` does once the
  arguments are bound: push the frame, evaluate the body, pop the frame on both paths), as a function
  of the state (`callBody_eq`), and where it ends when its body leaves the stack as it finds it
  (`callBody_final`; `callBody_of_restore`: such a frame is respected by the call).
-/
set_option linter.unusedSectionVars false

namespace Abasic.Proofs.XF
open Abasic M Abasic.Hoare

variable {F : Type} [NumOps F]

def callBody (ev : Evals F) (name : Str) (bindings : List (Str × Value F)) : M F (Option (Value F)) := do
  pushFunctionCall name bindings
  match ← attempt ev.expr with
  | .ok v =>
    popFunctionCall
    pure (some v)
  | .error e =>
    let s ← get
    let e := s.populate e
    popFunctionCall
    throw e

theorem callBody_eq (ev : Evals F) (name : Str) (b : List (Str × Value F)) (σ : St F) :
    callBody ev name b σ =
      if (σ.stack.length == Extracted.stackLimit) = true then .err { err := .oomStack } σ
      else match alGet name σ.fns with
        | none => .err { err := .panic "function must exist" } σ
        | some d =>
          match ev.expr { σ with stack := { ret := σ.loc, vars := b } :: σ.stack,
                                 loc := { line := some d.line, idx := d.idx } } with
          | .ok v s =>
            (match s.stack with
             | [] => .err { err := .panic "stack must not be empty" } s
             | f :: rest => .ok (some v) { s with stack := rest, loc := f.ret })
          | .err e s =>
            (match s.stack with
             | [] => .err { err := .panic "stack must not be empty" } s
             | f :: rest => .err (s.populate e) { s with stack := rest, loc := f.ret }) := by
  by_cases hl : (σ.stack.length == Extracted.stackLimit) = true
  · simp [callBody, pushFunctionCall, bind, M.bindM, M.get, hl, M.fail]
  · rw [if_neg hl]
    cases hd : alGet name σ.fns with
    | none => simp [callBody, pushFunctionCall, bind, M.bindM, M.get, hl, hd, M.rpanic]
    | some d =>
      simp only [callBody, pushFunctionCall, bind, M.bindM, M.get, hl, hd, M.set, M.attempt,
        Bool.false_eq_true, if_false]
      cases ev.expr { σ with stack := { ret := σ.loc, vars := b } :: σ.stack,
                             loc := { line := some d.line, idx := d.idx } } with
      | ok v s =>
        dsimp only
        simp only [popFunctionCall, bind, M.bindM, M.get]
        cases s.stack <;> rfl
      | err e s =>
        dsimp only
        simp only [popFunctionCall, bind, M.bindM, M.get]
        cases s.stack <;> rfl

theorem userFunctionCall_eq (ev : Evals F) (name : Str) :
    userFunctionCall ev name = (do
      let s ← get
      match alGet name s.fns with
      | none => pure none
      | some d =>
        expect .LeftParen
        let bindings ← bindArgs ev d.args.length d.args 0 []
        expect .RightParen
        callBody ev name bindings) := rfl

theorem callBody_final (ev : Evals F) (name : Str) (b : List (Str × Value F)) (σ : St F)
    (hstack : ∀ σ : St F, (ev.expr σ).final.stack = σ.stack) :
    (callBody ev name b σ).final = σ ∨
    ∃ d : FnDef, (callBody ev name b σ).final =
      { (ev.expr { σ with stack := { ret := σ.loc, vars := b } :: σ.stack,
                          loc := { line := some d.line, idx := d.idx } }).final with
        stack := σ.stack, loc := σ.loc } := by
  rw [callBody_eq]
  by_cases hl : (σ.stack.length == Extracted.stackLimit) = true
  · rw [if_pos hl]; exact Or.inl rfl
  · rw [if_neg hl]
    cases hd : alGet name σ.fns with
    | none => exact Or.inl rfl
    | some d =>
      refine Or.inr ⟨d, ?_⟩
      have hs := hstack { σ with stack := { ret := σ.loc, vars := b } :: σ.stack,
                                 loc := { line := some d.line, idx := d.idx } }
      dsimp only
      cases hr : ev.expr { σ with stack := { ret := σ.loc, vars := b } :: σ.stack,
                                  loc := { line := some d.line, idx := d.idx } } with
      | ok v s => rw [hr] at hs; dsimp only [Res.final] at hs ⊢; rw [hs]
      | err e s => rw [hr] at hs; dsimp only [Res.final] at hs ⊢; rw [hs]

/-- The call proper, for a frame that keeps the stack: the frame popped is then the one pushed, and the call ends
    where its body ends, with the stack and the cursor of the start put back. -/
theorem callBody_of_restore {R : St F → St F → Prop} [IsFrame R]
    (hstack : ∀ {σ σ' : St F}, R σ σ' → σ'.stack = σ.stack)
    (hback : ∀ (σ s : St F) (st : List (Frame F)) (l : Loc), R { σ with stack := st, loc := l } s →
      R σ { s with stack := σ.stack, loc := σ.loc })
    (ev : Evals F) (name : Str) (b : List (Str × Value F)) (he : Respects R ev.expr) :
    Respects R (callBody ev name b) :=
  respects_of_final fun σ => by
    rcases callBody_final ev name b σ (fun s => hstack (he.final s)) with h | ⟨d, h⟩
    · rw [h]; exact IsFrame.refl σ
    · rw [h]; exact hback σ _ _ _ (he.final _)

end Abasic.Proofs.XF
