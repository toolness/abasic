import Abasic.Proofs.Analyzer2
import Abasic.Proofs.Stmt3Def
import Abasic.Proofs.TypeOf3
/-
  DEF FN in the analyzer's statement pass: on `DEF f(p₁, …) = body`, `aStmtBody` records the signature, then checks
  the body against it (`adef_run`), and this is the check `typeOfS3` makes of a DEF (`adef_stmt_run`).
-/
set_option linter.unusedSectionVars false

namespace Abasic.Props.C06
open Abasic Abasic.Ref Abasic.ExprL Abasic.ExprL2 Abasic.AnaL M

variable {F : Type} [NumOps F]

theorem aStmtBody_def {ev : AEvals F} {σ : St F} {pre post : List (Token F)}
    (h : At σ pre (.kw .Def :: post)) :
    aStmtBody ev σ = aDef ev (mv σ 1 (σ.reads + 1)) := by
  unfold aStmtBody
  rw [bind_ok (next_eq h)]

def fnsAfterDef (fns : List (Str × FnDef)) (f : Str) (ps : List Str) (ln i : Nat) : List (Str × FnDef) :=
  alSet f { args := ps, line := ln, idx := i } fns

theorem sigOf_fnsAfterDef (fns : List (Str × FnDef)) (f : Str) (ps : List Str) (ln i : Nat) (g : Str) :
    sigOf (fnsAfterDef fns f ps ln i) g =
      if g = f then some (ps.map VT.ofName, VT.ofName f) else sigOf fns g := by
  unfold sigOf fnsAfterDef
  rw [Props.C16.alGet_alSet]
  by_cases h : g = f
  · subst h; simp only [↓reduceIte]
  · simp only [h, ↓reduceIte]

/-- the static check of a DEF: the body, typed with the function itself already
    recorded, has the kind of the function's name -/
def defCheck (sig : Sig) (f : Str) (body : Expr2 F) : Except Err Unit :=
  match typeOf2 sig body with
  | .error x => .error x
  | .ok t => if t = VT.ofName f then .ok () else .error .typeMismatch

theorem adef_head (f : Str) (ps : List Str) (body : Expr2 F) (hps : ps ≠ []) (n ln i : Nat) (σ : St F)
    (pre rest : List (Token F))
    (hAt : At σ pre (.symbol f :: .kw .LeftParen ::
      (renderTargets ps ++ .kw .RightParen :: .kw .Equals :: (render2 body ++ rest))))
    (hl : σ.loc.line = some ln) (hi : i = pre.length + (renderTargets (F := F) ps).length + 4) :
    ∃ σ5 : St F,
      aDef (aEvalN n) σ = ((aEvalN n).expr >>= fun t => VT.check (F := F) t (VT.ofName f) >>= fun _ =>
        pure ()) σ5 ∧
      At σ5 (pre ++ [Token.symbol f] ++ [Token.kw Kw.LeftParen] ++
        (renderTargets ps ++ [Token.kw Kw.RightParen]) ++ [Token.kw Kw.Equals]) (render2 body ++ rest) ∧
      σ5.fns = fnsAfterDef σ.fns f ps ln i ∧ σ5.loc = { σ.loc with idx := i } ∧
      σ5.accesses = σ.accesses ++ [(f, ln, pre.length, Access.write)] ∧
      σ5.lines = σ.lines ∧ σ5.nesting = σ.nesting ∧ σ5.imm = σ.imm := by
  have hAt1 := at_lg (at_mv1 hAt (σ.reads + 1)) [(f, ln, pre.length, Access.write)]
  have hAt2 := at_mv1 hAt1 (σ.reads + 1 + 1)
  have hAt2' : At (mv (lg (mv σ 1 (σ.reads + 1)) [(f, ln, pre.length, Access.write)]) 1 (σ.reads + 1 + 1))
      (pre ++ [Token.symbol f] ++ [Token.kw Kw.LeftParen])
      ((renderTargets ps ++ [.kw .RightParen]) ++ (.kw .Equals :: (render2 body ++ rest))) := by
    simpa only [List.append_assoc, List.cons_append, List.nil_append] using hAt2
  have htl := Stmt3L.targets_length (F := F) ps
  obtain ⟨c, hc⟩ := Stmt3L.defArgsLoop_run ps hps
    ((pre ++ [Token.symbol f] ++ [Token.kw Kw.LeftParen] ++
      (renderTargets ps ++ Token.kw Kw.RightParen :: Token.kw Kw.Equals :: (render2 body ++ rest))).length + 1)
    _ _ _ [] hAt2 (by simp only [List.length_append, List.length_cons]; omega)
  have hAt3 := at_mv hAt2' c
  have hlen : (renderTargets (F := F) ps ++ [Token.kw Kw.RightParen]).length = (renderTargets (F := F) ps).length + 1 := by
    simp only [List.length_append, List.length_cons, List.length_nil]
  rw [hlen] at hAt3
  have hAt4 := at_mv1 hAt3 (c + 1)
  let σ5 : St F := { mv (mv (mv (lg (mv σ 1 (σ.reads + 1)) [(f, ln, pre.length, Access.write)]) 1 (σ.reads + 1 + 1))
      ((renderTargets (F := F) ps).length + 1) c) 1 (c + 1) with fns := fnsAfterDef σ.fns f ps ln i }
  have hidx : (mv (mv (mv (lg (mv σ 1 (σ.reads + 1)) [(f, ln, pre.length, Access.write)]) 1 (σ.reads + 1 + 1))
      ((renderTargets (F := F) ps).length + 1) c) 1 (c + 1)).loc.idx = i := by
    simp only [mv_idx, lg_idx, hAt.2]; omega
  have hdef : defineFunction f ps (mv (mv (mv (lg (mv σ 1 (σ.reads + 1)) [(f, ln, pre.length, Access.write)]) 1
      (σ.reads + 1 + 1)) ((renderTargets (F := F) ps).length + 1) c) 1 (c + 1)) = .ok () σ5 := by
    unfold defineFunction
    simp only [bind, M.bindM, M.get, mv_line, lg_line, hl, M.set, hidx]
    rfl
  have hAt5 : At σ5 (pre ++ [Token.symbol f] ++ [Token.kw Kw.LeftParen] ++
      (renderTargets ps ++ [Token.kw Kw.RightParen]) ++ [Token.kw Kw.Equals]) (render2 body ++ rest) :=
    Stmt3L.at_fns hAt4 _
  have hrun : aDef (aEvalN n) σ = ((aEvalN n).expr >>= fun t => VT.check (F := F) t (VT.ofName f) >>= fun _ =>
      pure ()) σ5 := by
    unfold aDef
    rw [bind_ok (next_eq hAt)]
    simp only
    rw [bind_ok (prevLoc_eq (ln := ln) (i := pre.length) (by rw [mv_line]; exact hl) (by rw [mv_idx, hAt.2]))]
    rw [bind_ok (logAccess_eq _ _ _ _ _), bind_ok (expect_eq hAt1 rfl)]
    simp only [lg_reads, mv_reads]
    rw [bind_ok (lineBudget_eq hAt2.1), bind_ok hc]
    simp only [List.nil_append]
    rw [bind_ok (expect_eq hAt3 rfl)]
    simp only [mv_reads]
    rw [bind_ok hdef]
  refine ⟨σ5, hrun, hAt5, ?_⟩
  -- the fields of `σ5` are read off through its updates first: left to the unifier, each comparison with a field
  -- of `σ` tries to match the states whole, layer by layer
  dsimp only [σ5, mv, lg]
  exact ⟨rfl, congrArg (fun j => ({ σ.loc with idx := j } : Loc)) hidx, rfl, rfl, rfl, rfl⟩

/-- `aDef` records `f` in the function table BEFORE it runs the expression pass on the body: its verdict is `defCheck`
    under the signatures after the DEF, so recursive calls of `f` are checked against the new signature. -/
theorem adef_run (f : Str) (ps : List Str) (body : Expr2 F) (hps : ps ≠ []) (n ln i : Nat) (σ : St F)
    (pre rest : List (Token F))
    (hAt : At σ pre (.symbol f :: .kw .LeftParen ::
      (renderTargets ps ++ .kw .RightParen :: .kw .Equals :: (render2 body ++ rest))))
    (hl : σ.loc.line = some ln) (hi : i = pre.length + (renderTargets (F := F) ps).length + 4)
    (hE : Ends 6 rest) (hres : Resolved2 (sigOf (fnsAfterDef σ.fns f ps ln i)) body)
    (hd : adepth body + 1 ≤ n) (hn : σ.nesting + (adepth body + 1) ≤ Extracted.nestingLimit) :
    match defCheck (sigOf (fnsAfterDef σ.fns f ps ln i)) f body with
    | .ok _ => ∃ σ', aDef (aEvalN n) σ = .ok () σ' ∧
        σ'.fns = fnsAfterDef σ.fns f ps ln i ∧
        σ'.loc = { σ.loc with idx := i + (render2 body).length } ∧
        σ'.accesses = σ.accesses ++ (f, ln, pre.length, Access.write) ::
          accs2 (sigOf (fnsAfterDef σ.fns f ps ln i)) ln i body ∧
        σ'.lines = σ.lines ∧ σ'.nesting = σ.nesting ∧ σ'.imm = σ.imm
    | .error x => ∃ σ', aDef (aEvalN n) σ = .err { err := x } σ' ∧ σ'.nesting = σ.nesting := by
  obtain ⟨σ5, hrun, hAt5, h5fns, h5loc, h5acc, h5lines, h5nest, h5imm⟩ :=
    adef_head f ps body hps n ln i σ pre rest hAt hl hi
  have hX : AAgrees ((aEvalN n).expr σ5) (typeOf2 (sigOf σ5.fns) body) σ5 fun t r =>
      .ok t (lg (mv σ5 (render2 body).length r) (accs2 (sigOf σ5.fns) ln _ body)) :=
    (aexpr_run body (Ctx.at σ5 ln) _ n hd (by show σ5.nesting + _ ≤ _; rw [h5nest]; exact hn)
      (by show Resolved2 (sigOf σ5.fns) body; rw [h5fns]; exact hres)).run hAt5 (by rw [h5loc]; exact hl) hE
  rw [h5fns] at hX
  rw [hrun]
  unfold defCheck
  cases hev : typeOf2 (sigOf (fnsAfterDef σ.fns f ps ln i)) body with
  | error x =>
    rw [hev] at hX
    obtain ⟨σ', hσ', hn'⟩ := hX
    exact ⟨σ', bind_err hσ', hn'.trans h5nest⟩
  | ok t =>
    rw [hev] at hX
    obtain ⟨r, _, hσ'⟩ := hX
    simp only at hσ'
    rw [bind_ok hσ']
    by_cases ht : t = VT.ofName f
    · subst ht
      simp only [↓reduceIte]
      rw [bind_ok (check_same _ _)]
      refine ⟨_, rfl, h5fns, ?_, ?_, h5lines, h5nest, h5imm⟩
      · show ({ σ5.loc with idx := σ5.loc.idx + (render2 body).length } : Loc) = _
        rw [h5loc]
      · show σ5.accesses ++ _ = _
        rw [h5acc, List.append_assoc, List.singleton_append]
        congr 2
        apply accs2_congr
        simp only [List.length_append, List.length_cons, List.length_nil]
        rw [hi]; omega
    · simp only [ht, ↓reduceIte]
      exact ⟨_, bind_err (check_diff ht _), h5nest⟩

theorem defCheck_eq_typeOfS3 (fns : List (Str × FnDef)) (f : Str) (ps : List Str) (body : Expr2 F) (ln i : Nat)
    (le : Nat → Bool) :
    defCheck (sigOf (fnsAfterDef fns f ps ln i)) f body = typeOfS3 (sigOf fns) le (.defS f ps body) ∧
    sigOf (fnsAfterDef fns f ps ln i) = sigAfterS (sigOf fns) (.defS f ps body : RStmt3 F) := by
  have hs : sigOf (fnsAfterDef fns f ps ln i)
      = fun g => if g = f then some (ps.map VT.ofName, VT.ofName f) else sigOf fns g :=
    funext (sigOf_fnsAfterDef fns f ps ln i)
  refine ⟨?_, by rw [hs]; rfl⟩
  rw [hs]
  rfl

/-- `hps`: a covered DEF has at least one parameter -/
theorem adef_stmt_run (f : Str) (ps : List Str) (body : Expr2 F) (hps : ps ≠ []) (n ln : Nat) (le : Nat → Bool)
    (σ : St F) (pre rest : List (Token F))
    (hAt : At σ pre (renderS3 (.defS f ps body) ++ rest)) (hl : σ.loc.line = some ln) (hE : Ends 6 rest)
    (hres : Resolved2 (sigAfterS (sigOf σ.fns) (.defS f ps body : RStmt3 F)) body)
    (hd : adepth body + 1 ≤ n) (hn : σ.nesting + (adepth body + 1) ≤ Extracted.nestingLimit) :
    match typeOfS3 (sigOf σ.fns) le (.defS f ps body) with
    | .ok _ => ∃ σ', aStmtBody (aEvalN n) σ = .ok () σ' ∧
        sigOf σ'.fns = sigAfterS (sigOf σ.fns) (.defS f ps body : RStmt3 F) ∧
        σ'.loc = { σ.loc with idx := pre.length + (renderS3 (.defS f ps body)).length } ∧
        σ'.lines = σ.lines ∧ σ'.nesting = σ.nesting ∧ σ'.imm = σ.imm
    | .error x => ∃ σ', aStmtBody (aEvalN n) σ = .err { err := x } σ' ∧ σ'.nesting = σ.nesting := by
  have hAt0 : At σ pre (.kw .Def :: (.symbol f :: .kw .LeftParen ::
      (renderTargets ps ++ .kw .RightParen :: .kw .Equals :: (render2 body ++ rest)))) := by
    simpa only [renderS3, List.cons_append, List.append_assoc] using hAt
  have hAt1 := at_mv1 hAt0 (σ.reads + 1)
  obtain ⟨hchk, hsig⟩ := defCheck_eq_typeOfS3 σ.fns f ps body ln
    ((pre ++ [Token.kw Kw.Def]).length + (renderTargets (F := F) ps).length + 4) le
  have h := adef_run f ps body hps n ln _ (mv σ 1 (σ.reads + 1)) _ rest hAt1 hl rfl hE
    (by rw [show (mv σ 1 (σ.reads + 1)).fns = σ.fns from rfl, hsig]; exact hres) hd hn
  rw [show (mv σ 1 (σ.reads + 1)).fns = σ.fns from rfl, hchk] at h
  rw [aStmtBody_def hAt0]
  cases hty : typeOfS3 (sigOf σ.fns) le (.defS f ps body) with
  | error x => rw [hty] at h; exact h
  | ok u =>
    rw [hty] at h
    obtain ⟨σ', hrun, hfns, hloc, _, hlines, hnest, himm⟩ := h
    refine ⟨σ', hrun, by rw [hfns, hsig], ?_, hlines, hnest, himm⟩
    have hlen : (pre ++ [Token.kw Kw.Def]).length + (renderTargets (F := F) ps).length + 4 + (render2 body).length
        = pre.length + (renderS3 (.defS f ps body)).length := by
      simp only [renderS3, List.length_append, List.length_cons, List.length_nil]
      omega
    rw [hloc, hlen]
    rfl

end Abasic.Props.C06
