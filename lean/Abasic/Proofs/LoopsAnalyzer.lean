import Abasic.Proofs.LoopsTyping
/-
  C06, analyzer side, for the statements beyond LET / PRINT / GOTO / IF: the notions in which the runs of the
  model of the static analyzer (`aStmtBody`, Analyzer.lean) are compared with a static verdict, and what
  `aStmtBody` does on each leading keyword.

  `AOut res ty pre toks rest`: if the check passes, the run succeeds and leaves
  the cursor right behind the statement; if the check fails with `x`, the run
  fails with `x`.  `ARun res ty P` is the same for a part of a statement (an
  expression, a subscript list, an l-value), `P` saying what the rest of the proof
  needs of the value and the state; parts are strung together with `ARun.andThen`.
  The statements themselves are walked in Proofs/Analyzer3.lean.
-/
set_option linter.unusedSectionVars false

namespace Abasic.Props.C06
open Abasic Abasic.Ref Abasic.ExprL Abasic.AnaL Abasic.StmtL Abasic.AnaS Abasic.ProgL Abasic.Prog2L Abasic.Stmt2L M

variable {F : Type} [NumOps F]

def AOut (res : Res F Unit) (ty : Except Err Unit) (pre toks rest : List (Token F)) : Prop :=
  match ty with
  | .ok _ => ∃ σ', res = .ok () σ' ∧ At σ' (pre ++ toks) rest
  | .error x => ∃ σ', res = .err { err := x } σ'

omit [NumOps F] in
theorem at_congr {σ : St F} {pre pre' post : List (Token F)} (h : At σ pre post) (e : pre = pre') :
    At σ pre' post := e ▸ h

def ARun {α β : Type} (res : Res F α) (ty : Except Err β) (P : β → α → St F → Prop) : Prop :=
  match ty with
  | .ok b => ∃ a S', res = .ok a S' ∧ P b a S'
  | .error x => ∃ S', res = .err { err := x } S'

section
variable {α β γ : Type} {res : Res F α} {ty : Except Err β} {P : β → α → St F → Prop}

omit [NumOps F] in
theorem ARun.ok (h : ARun res ty P) {b : β} (hb : ty = .ok b) : ∃ a S', res = .ok a S' ∧ P b a S' := by
  subst hb; exact h

omit [NumOps F] in
theorem ARun.err (h : ARun res ty P) {x : Err} (hx : ty = .error x) : ∃ S', res = .err { err := x } S' := by
  subst hx; exact h

omit [NumOps F] in
/-- `AAgrees` names the final state; `ARun` keeps what is needed of it -/
theorem ARun.of_agrees {σ : St F} {v : β → α} {S : β → Nat → St F}
    (h : AAgrees res ty σ fun t r => .ok (v t) (S t r)) (hP : ∀ t r, P t (v t) (S t r)) : ARun res ty P := by
  cases ty with
  | error x =>
    obtain ⟨σ', hσ', _⟩ := h
    exact ⟨σ', hσ'⟩
  | ok t =>
    obtain ⟨r, _, hr⟩ := h
    exact ⟨_, _, hr, hP t r⟩

omit [NumOps F] in
/-- a continuation that cannot fail leaves the verdict as it is -/
theorem ARun.andThen {m : M F α} {S : St F} (h : ARun (m S) ty P) {k : α → M F γ} {Q : β → γ → St F → Prop}
    (hk : ∀ b a S', P b a S' → ∃ c S'', k a S' = .ok c S'' ∧ Q b c S'') : ARun ((m >>= k) S) ty Q := by
  cases ty with
  | error x =>
    obtain ⟨S', hS'⟩ := h
    exact ⟨S', bind_err hS'⟩
  | ok b =>
    obtain ⟨a, S', hS', hP⟩ := h
    obtain ⟨c, S'', hc, hQ⟩ := hk b a S' hP
    exact ⟨c, S'', by rw [bind_ok hS']; exact hc, hQ⟩

end

omit [NumOps F] in
theorem ARun.aout {res : Res F Unit} {ty : Except Err Unit} {pre toks rest : List (Token F)}
    (h : ARun res ty fun _ _ σ' => At σ' (pre ++ toks) rest) : AOut res ty pre toks rest := by
  cases ty with
  | error x => exact h
  | ok u =>
    obtain ⟨_, σ', h1, h2⟩ := h
    exact ⟨σ', h1, h2⟩

omit [NumOps F] in
theorem except_unit_eta (ty : Except Err Unit) :
    (match ty with
      | .error x => .error x
      | .ok _ => .ok ()) = ty := by
  cases ty <;> rfl

theorem aStmtBody_for {ev : AEvals F} {σ : St F} {pre post : List (Token F)}
    (h : At σ pre (.kw .For :: post)) :
    aStmtBody ev σ = aFor ev (mv σ 1 (σ.reads + 1)) := by
  unfold aStmtBody
  rw [bind_ok (next_eq h)]

theorem aStmtBody_next {ev : AEvals F} {σ : St F} {pre post : List (Token F)}
    (h : At σ pre (.kw .Next :: post)) :
    aStmtBody ev σ = aNext (mv σ 1 (σ.reads + 1)) := by
  unfold aStmtBody
  rw [bind_ok (next_eq h)]

theorem aStmtBody_gosub {ev : AEvals F} {σ : St F} {pre post : List (Token F)}
    (h : At σ pre (.kw .Gosub :: post)) :
    aStmtBody ev σ = aGotoOrGosub (mv σ 1 (σ.reads + 1)) := by
  unfold aStmtBody
  rw [bind_ok (next_eq h)]

theorem aStmtBody_return {ev : AEvals F} {σ : St F} {pre post : List (Token F)}
    (h : At σ pre (.kw .Return :: post)) :
    aStmtBody ev σ = .ok () (mv σ 1 (σ.reads + 1)) := by
  unfold aStmtBody
  rw [bind_ok (next_eq h)]
  rfl

theorem aStmtBody_data {ev : AEvals F} {σ : St F} {pre post : List (Token F)} {items : List (DataElement F)}
    (h : At σ pre (.data items :: post)) :
    aStmtBody ev σ = .ok () (mv σ 1 (σ.reads + 1)) := by
  unfold aStmtBody
  rw [bind_ok (next_eq h)]
  rfl

theorem aStmtBody_restore {ev : AEvals F} {σ : St F} {pre post : List (Token F)}
    (h : At σ pre (.kw .Restore :: post)) :
    aStmtBody ev σ = .ok () { mv σ 1 (σ.reads + 1) with data := none } := by
  unfold aStmtBody
  rw [bind_ok (next_eq h)]
  rfl

theorem aStmtBody_read {ev : AEvals F} {σ : St F} {pre post : List (Token F)}
    (h : At σ pre (.kw .Read :: post)) :
    aStmtBody ev σ = (lineBudget >>= fun b => aReadLoop ev b) (mv σ 1 (σ.reads + 1)) := by
  unfold aStmtBody
  rw [bind_ok (next_eq h)]

theorem aStmtBody_dim {ev : AEvals F} {σ : St F} {pre post : List (Token F)}
    (h : At σ pre (.kw .Dim :: post)) :
    aStmtBody ev σ = (aParseLValue ev >>= fun lv => logAccess lv.name lv.loc .write) (mv σ 1 (σ.reads + 1)) := by
  unfold aStmtBody
  rw [bind_ok (next_eq h)]

theorem anext_run (v : Str) (n ln : Nat) (σ : St F) (pre rest : List (Token F)) (le : Nat → Bool)
    (hAt : At σ pre (renderS2 (.nextS v : RStmt2 F) ++ rest)) (hl : σ.loc.line = some ln) :
    AOut (aStmtBody (aEvalN n) σ) (typeOfS2 (.nextS v : RStmt2 F) le) pre (renderS2 (.nextS v : RStmt2 F)) rest := by
  have hAt0 : At σ pre (.kw .Next :: .symbol v :: rest) := hAt
  have hAt1 := at_mv1 hAt0 (σ.reads + 1)
  have hAt2 := at_mv1 hAt1 ((mv σ 1 (σ.reads + 1)).reads + 1)
  rw [aStmtBody_next hAt0]
  unfold aNext
  rw [bind_ok (next_eq hAt1)]
  dsimp only
  have hl2 : (mv (mv σ 1 (σ.reads + 1)) 1 ((mv σ 1 (σ.reads + 1)).reads + 1)).loc.line = some ln := hl
  rw [bind_ok (prevLoc_eq (ln := ln) (i := (pre ++ [Token.kw Kw.Next]).length) hl2
    (by rw [hAt2.2]; simp only [List.length_append, List.length_cons, List.length_nil]))]
  rw [bind_ok (logAccess_eq _ _ _ _ _)]
  simp only [typeOfS2]
  cases hv : VT.ofName v with
  | num =>
    rw [bind_ok (checkNumber_num _)]
    simp only [↓reduceIte]
    exact ⟨_, rfl, at_congr (at_lg hAt2 _) (by simp [renderS2])⟩
  | str =>
    rw [bind_err (checkNumber_str _)]
    simp only [reduceCtorEq, ↓reduceIte]
    exact ⟨_, rfl⟩

theorem aoptidx_none {ev : AEvals F} {σ : St F} {pre post : List (Token F)}
    (h : At σ pre post) (ht : ∀ t, post.head? = some t → t.isKw .LeftParen = false) :
    aOptionalArrayIndex ev σ = .ok none (mv σ 0 (σ.reads + 1)) := by
  unfold aOptionalArrayIndex
  rw [bind_ok (peekIsKw_false .LeftParen h ht)]
  simp only [Bool.false_eq_true, ↓reduceIte]
  rfl

theorem aparse_plain (ev : AEvals F) (name : Str) (ln : Nat) (S : St F) (pre post : List (Token F))
    (hAt : At S pre (.symbol name :: post)) (hl : S.loc.line = some ln)
    (hpost : ∀ t, post.head? = some t → t.isKw .LeftParen = false) :
    ∃ S', aParseLValue ev S = .ok { name := name, loc := { line := some ln, idx := pre.length }, arity := none } S' ∧
      At S' (pre ++ [.symbol name]) post ∧ S'.loc.line = some ln := by
  unfold aParseLValue
  rw [bind_ok (next_eq hAt)]
  dsimp only
  have hAt1 := at_mv1 hAt (S.reads + 1)
  have hl1 : (mv S 1 (S.reads + 1)).loc.line = some ln := hl
  rw [bind_ok (prevLoc_eq (ln := ln) (i := pre.length) hl1
    (by rw [hAt1.2]; simp only [List.length_append, List.length_cons, List.length_nil]))]
  rw [bind_ok (aoptidx_none hAt1 hpost)]
  exact ⟨_, rfl, at_mv0 hAt1 _, hl⟩

end Abasic.Props.C06
