import Abasic.Proofs.SeqLang
import Abasic.Proofs.Turn
/-
  What a turn (`runNextStatement`) does around its one statement, for a program of ANY statement type
  (Proofs/SeqLang.lean) — and with no reference machine in it.

  The reference machines of Ref/Prog*.lean are "the statement's `exec`, then `SeqL.seq`"
  (Proofs/SeqLang.lean; `ProgL.rstep_seq`, `Prog2L.rstep_seq`, `Prog3L.rstep_seq` say so; for the machine
  with INPUT, `Prog3I.rstepB_seq` says it of the statements other than INPUT).  What the statement evaluator
  owes the turn, for each `Ctl2`, is `Outcome`; it is stated with two predicates on MODEL states in place of
  a reference state:
  `G σ'` — "`σ'` realises the new reference state, cursor apart" — and `Fin σ'` — "`σ'` is the state after
  the end of the program".  All the turn needs of them is `Frame`: `G` implies that the store holds the
  program, and sequencing keeps `G` (it moves the cursor and the read counter only) or ends in `Fin`.
  Then the turn lands where `seq` says (`Lands`), or fails on the line `seq` says: `turn`.  The relations
  `Sim`, `Sim2`, `Sim3` are `Lands` for `Core` and `Ended`, `Core2` and `Final`, `Core3` and `Final3`
  (`sim_lands`, `sim2_lands`, `sim3_lands`); `Lands` for `CoreI` and `FinalI` gives `Sync` with no prompt
  shown (`Prog3I.sync_of_lands`).
-/
set_option linter.unusedSectionVars false

namespace Abasic.SeqL
open Abasic Abasic.Ref Abasic.ExprL Abasic.StmtL Abasic.InputL Abasic.Turn M
open Abasic.Props

variable {F : Type} [NumOps F] {S : Type}

section defs
variable (L : Lang F S) (p : Prog S)

/-- running on line `n`, at the first token of statement `j` or (when `j > 0`) on the colon in front of it -/
def Pos (n j : Nat) (σ : St F) : Prop :=
  σ.state = .running ∧ σ.loc.line = some n ∧
    ∃ ss, L.line p n = some ss ∧ j < ss.length ∧
      (σ.loc.idx = (L.pre ss j).length ∨ (0 < j ∧ σ.loc.idx + 1 = (L.pre ss j).length))

/-- the model stands where the program counter says -/
def Lands (G Fin : St F → Prop) (pc : Option (Nat × Nat)) (σ : St F) : Prop :=
  match pc with
  | none => Fin σ
  | some (n, j) => G σ ∧ Pos L p n j σ

structure Frame (G Fin : St F → Prop) : Prop where
  holds : ∀ {σ}, G σ → Holds L σ.lines p
  tracing : ∀ {σ}, G σ → σ.tracing = false
  move : ∀ {σ} (k : Nat) (loc : Loc), G σ → G { mv σ 0 k with loc := loc }
  fin : ∀ {σ} (k : Nat), G σ → Fin { (mv σ 0 k).setImmediate [] with state := .idle }

end defs

/-- the error is not yet located, or it is located on a line in `D` (for the full language: a line with a DEF) -/
def Fails {α : Type} (D : Nat → Prop) (σ : St F) (e : Err) (res : Res F α) : Prop :=
  ∃ te σ', res = .err te σ' ∧ te.err = e ∧ σ'.out = σ.out ∧ σ'.loc.line = σ.loc.line ∧
    (te.loc = none ∨ ∃ l m, te.loc = some l ∧ l.line = some m ∧ D m)

/-- The run `res` of one statement activation from `σ` (cursor on line `n`), for each `Ctl2`.  `after`: the
    position just behind the statement, `eol`: the length of the line.  (`next`: a statement may also have
    consumed the colon behind it, as DEF does.) -/
def Outcome (L : Lang F S) (p : Prog S) (G Fin : St F → Prop) (D : Nat → Prop)
    (σ : St F) (n after eol : Nat) (res : Res F Unit) : Ctl2 → Prop
  | .next => ∃ σ', res = .ok () σ' ∧ G σ' ∧ σ'.loc.line = some n ∧
      (σ'.loc.idx = after ∨
        (σ'.loc.idx = after + 1 ∧ ∃ ts, σ'.lines.get n = some ts ∧ ts[after]? = some (.kw .Colon)))
  | .skipLine => ∃ σ', res = .ok () σ' ∧ G σ' ∧ σ'.loc = { line := some n, idx := eol }
  | .jump m =>
    (σ.lines.has m = true → ∃ σ', res = .ok () σ' ∧ G σ' ∧ σ'.loc = { line := some m, idx := 0 }) ∧
    (σ.lines.has m = false → Fails D σ .undefinedStatement res)
  | .stop => ∃ σ', res = .ok () σ' ∧ (∀ k, Fin { (mv σ' 0 k).setImmediate [] with state := .idle }) ∧
      σ'.loc = {} ∧ σ'.imm = []
  | .resume m k => ∃ σ', res = .ok () σ' ∧ G σ' ∧ Addr L p m k σ'.loc
  | .error e => e ≠ .dataTypeMismatch ∧ Fails D σ e res
  | .errorAt e ln => e = .dataTypeMismatch ∧
      ∃ σ' i, res = .err { err := e } σ' ∧ σ'.dataLoc = some { line := some ln, idx := i } ∧ σ'.out = σ.out

def StepsTo (L : Lang F S) (p : Prog S) (G Fin : St F → Prop) (D : Nat → Prop)
    (σ : St F) (res : Res F Unit) : Option (Nat × Nat) ⊕ (Err × Nat) → Prop
  | .inl pc => ∃ σ', res = .ok () σ' ∧ Lands L p G Fin pc σ'
  | .inr (e, ln) => ∃ σ' te l, res = .err te σ' ∧ σ'.out = σ.out ∧
      σ'.populate te = { err := e, loc := some l } ∧ (l.line = some ln ∨ ∃ m, D m ∧ l.line = some m)

variable {L : Lang F S} {p : Prog S} {G Fin : St F → Prop} {D : Nat → Prop}

theorem Outcome.mono {G' Fin' : St F → Prop} {D' : Nat → Prop} (hG : ∀ σ, G σ → G' σ) (hFin : ∀ σ, Fin σ → Fin' σ)
    (hD : ∀ m, D m → D' m) {σ : St F} {n after eol : Nat} {res : Res F Unit} :
    ∀ {c : Ctl2}, Outcome L p G Fin D σ n after eol res c → Outcome L p G' Fin' D' σ n after eol res c := by
  have hf : ∀ {e}, Fails D σ e res → Fails D' σ e res := fun ⟨te, σ', h1, h2, h3, h4, h5⟩ =>
    ⟨te, σ', h1, h2, h3, h4, h5.imp_right fun ⟨l, m, a, b, c⟩ => ⟨l, m, a, b, hD m c⟩⟩
  intro c h
  cases c with
  | next => obtain ⟨σ', h1, h2, h3⟩ := h; exact ⟨σ', h1, hG _ h2, h3⟩
  | skipLine => obtain ⟨σ', h1, h2, h3⟩ := h; exact ⟨σ', h1, hG _ h2, h3⟩
  | jump m => exact ⟨fun hh => let ⟨σ', h1, h2, h3⟩ := h.1 hh; ⟨σ', h1, hG _ h2, h3⟩, fun hh => hf (h.2 hh)⟩
  | stop => obtain ⟨σ', h1, h2, h3⟩ := h; exact ⟨σ', h1, fun k => hFin _ (h2 k), h3⟩
  | resume m k => obtain ⟨σ', h1, h2, h3⟩ := h; exact ⟨σ', h1, hG _ h2, h3⟩
  | error e => exact ⟨h.1, hf h.2⟩
  | errorAt e ln => exact h

theorem Frame.stay (hF : Frame L p G Fin) {σ : St F} (k : Nat) (hg : G σ) : G (ExprL.mv σ 0 k) :=
  hF.move k (ExprL.mv σ 0 k).loc hg

theorem Frame.and (hF : Frame L p G Fin) {R : St F → Prop}
    (hmove : ∀ {σ} (k : Nat) (loc : Loc), R σ → R { ExprL.mv σ 0 k with loc := loc })
    (hfin : ∀ {σ} (k : Nat), R σ → R { (ExprL.mv σ 0 k).setImmediate [] with state := .idle }) :
    Frame L p (fun σ => G σ ∧ R σ) (fun σ => Fin σ ∧ R σ) where
  holds h := hF.holds h.1
  tracing h := hF.tracing h.1
  move k loc h := ⟨hF.move k loc h.1, hmove k loc h.2⟩
  fin k h := ⟨hF.fin k h.1, hfin k h.2⟩

theorem sequence_more {σ : St F} {pre post : List (Token F)} {t : Token F} (h : At σ pre (t :: post)) :
    C09.sequence σ = .ok () (ExprL.mv σ 0 (σ.reads + 1)) := by
  rw [sequence_eq h.1, lineEndSt_more h.1 (at_tok h)]

theorem land_pos (hF : Frame L p G Fin) {σ : St F} (hg : G σ) (hrun : σ.state = .running)
    {n j : Nat} {ss : List S} (hl : L.line p n = some ss) (hj : j < ss.length)
    (hline : σ.loc.line = some n) (hidx : σ.loc.idx = (L.pre ss j).length) :
    ∃ σ', C09.sequence σ = .ok () σ' ∧ Lands L p G Fin (some (n, j)) σ' := by
  obtain ⟨t, ts, hhead, _, _⟩ := L.head ss[j]
  have hAt : At σ (L.pre ss j) (t :: (ts ++ L.tail (ss.drop (j + 1)))) := by
    refine ⟨?_, hidx⟩
    rw [lineToks_of (hF.holds hg) hl hline, line_split ss j _ (List.getElem?_eq_getElem hj), hhead]
    rfl
  exact ⟨_, sequence_more hAt, hF.stay _ hg, hrun, hline, ss, hl, hj, Or.inl hidx⟩

theorem land_eol (hF : Frame L p G Fin) (hwf : WF p) {σ : St F} {pre : List (Token F)} {n : Nat}
    (hg : G σ) (hrun : σ.state = .running) (hAt : At σ pre []) (hl : σ.loc.line = some n) :
    ∃ σ', C09.sequence σ = .ok () σ' ∧ Lands L p G Fin ((after p n).map fun m => (m, 0)) σ' := by
  refine ⟨_, sequence_eq hAt.1, ?_⟩
  cases ha : after p n with
  | none =>
    rw [lineEndSt_last hAt.1 (at_end hAt) hl (by rw [holds_after (hF.holds hg), ha])]
    exact hF.fin _ hg
  | some m =>
    rw [lineEndSt_line hAt.1 (at_end hAt) hl (by rw [holds_after (hF.holds hg), ha])]
    obtain ⟨ss', hss'⟩ := after_line (L := L) ha
    exact ⟨hF.move _ _ hg, hrun, rfl, ss', hss', line_nonempty hwf hss', Or.inl (by rw [L.pre_zero]; rfl)⟩

/-- The cursor right behind statement `k - 1` of line `n` is where a statement that ran to its end, a RETURN
    or a repeating NEXT leave it. -/
theorem land_after (hF : Frame L p G Fin) (hwf : WF p) {σ : St F} (hg : G σ) (hrun : σ.state = .running)
    {n k : Nat} (ha : Addr L p n k σ.loc) :
    ∃ σ', C09.sequence σ = .ok () σ' ∧ Lands L p G Fin (resume L p n k) σ' := by
  obtain ⟨ss, j0, s, hl, hk, hs, hloc⟩ := ha
  subst hk
  have hline : σ.loc.line = some n := by rw [hloc]
  have hidx : σ.loc.idx = (L.pre ss j0).length + (L.render s).length := by rw [hloc]
  have hToks : lineToks σ = some (L.pre ss j0 ++ L.render s ++ L.tail (ss.drop (j0 + 1))) := by
    rw [lineToks_of (hF.holds hg) hl hline, line_split ss j0 s hs, List.append_assoc]
  by_cases hj : j0 + 1 < ss.length
  · obtain ⟨s', post, _, htl⟩ := drop_tail_cons (L := L) hj
    rw [htl] at hToks
    have hAt : At σ (L.pre ss j0 ++ L.render s) (.kw .Colon :: (L.render s' ++ post)) :=
      ⟨hToks, by rw [hidx, List.length_append]⟩
    rw [resume_lt hl hj]
    refine ⟨_, sequence_more hAt, hF.stay _ hg, hrun, hline, ss, hl, hj, Or.inr ⟨Nat.succ_pos _, ?_⟩⟩
    rw [pre_succ ss j0 s hs hj]
    show σ.loc.idx + 0 + 1 = _
    rw [hidx]
    simp only [List.length_append, List.length_cons, List.length_nil]
  · rw [resume_ge hl hj]
    rw [drop_tail_nil hj] at hToks
    exact land_eol hF hwf (pre := L.pre ss j0 ++ L.render s) hg hrun
      ⟨hToks, by rw [hidx, List.length_append]⟩ hline

omit [NumOps F] in
theorem populate_located (s : St F) (te : TErr) {l : Loc} (h : te.loc = some l) : s.populate te = te := by
  unfold St.populate
  rw [if_pos (by rw [h]; rfl)]

omit [NumOps F] in
theorem populate_unlocated (s : St F) {e : Err} (hnd : e ≠ .dataTypeMismatch) :
    s.populate { err := e } = { err := e, loc := some s.prevLoc } := by
  cases e <;> first | rfl | exact absurd rfl hnd

omit [NumOps F] in
theorem populate_dtm (s : St F) {loc : Loc} (h : s.dataLoc = some loc) :
    s.populate { err := .dataTypeMismatch } = { err := .dataTypeMismatch, loc := some loc } := by
  simp only [St.populate, Option.isSome_none, Bool.false_eq_true, ↓reduceIte, h]

theorem turn_fails {σ σ0 : St F} {n : Nat} {e : Err} {res : Res F Unit}
    (hline : σ0.loc.line = some n) (hout : σ0.out = σ.out) (hnd : e ≠ .dataTypeMismatch)
    (h : Fails D σ0 e res) {f : Unit → M F Unit} {m : M F Unit} (hres : m σ0 = res) :
    ∃ σ' te l, (m >>= f) σ0 = .err te σ' ∧ σ'.out = σ.out ∧ σ'.populate te = { err := e, loc := some l } ∧
      (l.line = some n ∨ ∃ m, D m ∧ l.line = some m) := by
  obtain ⟨⟨e', loc⟩, σ', h1, h2, h3, h4, h6⟩ := h
  rw [← hres] at h1
  cases (h2 : e' = e)
  rcases h6 with h6 | ⟨l, m, a, b, c⟩
  · cases (h6 : loc = none)
    exact ⟨σ', _, σ'.prevLoc, bind_err h1, h3.trans hout, populate_unlocated σ' hnd,
      Or.inl (by show σ'.loc.line = _; rw [h4, hline])⟩
  · cases (a : loc = some l)
    exact ⟨σ', _, l, bind_err h1, h3.trans hout, populate_located σ' _ rfl, Or.inr ⟨m, c, b⟩⟩

/-- A turn with the cursor on a statement goes where `seq` sends the statement's `Ctl2`, given that the
    statement evaluator does what is owed for that `Ctl2` (`hO`). -/
theorem turn (hF : Frame L p G Fin) (hwf : WF p) {fuel : Nat} {σ : St F}
    (hh : Holds L σ.lines p) {n j : Nat} {ss : List S} {s : S}
    (hl : L.line p n = some ss) (hs : ss[j]? = some s)
    (hloc : σ.loc = { line := some n, idx := (L.pre ss j).length }) {ctl : Ctl2}
    (hO : Outcome L p (fun σ' => G σ' ∧ σ'.state = .running) Fin D (C17.turnStart σ) n
      ((L.pre ss j).length + (L.render s).length) (L.rline ss).length
      (stmtBody (evalN fuel) (C17.turnStart σ)) ctl) :
    StepsTo L p G Fin D σ (runNextStatement fuel σ) (seq L p n j ctl) := by
  have hsplit := line_split (L := L) ss j s hs
  have hline : σ.loc.line = some n := by rw [hloc]
  obtain ⟨t0, ts0, hhead, _, _⟩ := L.head s
  have hAt : At σ (L.pre ss j) (t0 :: (ts0 ++ L.tail (ss.drop (j + 1)))) :=
    ⟨by rw [lineToks_of hh hl hline, hsplit, hhead]; rfl, by rw [hloc]⟩
  rw [turn_tok fuel hAt.1 (at_tok hAt)]
  have hh0 : Holds L (C17.turnStart σ).lines p := hh
  have hout0 : (C17.turnStart σ).out = σ.out := rfl
  have hline0 : (C17.turnStart σ).loc.line = some n := hline
  generalize C17.turnStart σ = σ0 at hO hh0 hout0 hline0
  cases ctl with
  | next =>
    obtain ⟨σ', hres, ⟨hg, hrun'⟩, hline', hidx'⟩ := hO
    rw [bind_ok hres]
    rcases hidx' with hidx' | ⟨hidx', ts, hts, hcol⟩
    · refine land_after hF hwf hg hrun' ⟨ss, j, s, hl, rfl, hs, ?_⟩
      rw [← hline', ← hidx']
    · -- the statement has consumed the colon behind it: statement `j + 1` exists and the cursor is on it
      have hts' : ts = L.rline ss := by
        have := (hF.holds hg).get n
        rw [hl, hts] at this
        simpa using this
      rw [hts', hsplit, ← List.append_assoc, ← List.length_append,
        List.getElem?_append_right (Nat.le_refl _), Nat.sub_self] at hcol
      have hj : j + 1 < ss.length := by
        by_cases hj : j + 1 < ss.length
        · exact hj
        · rw [drop_tail_nil hj] at hcol; cases hcol
      show StepsTo L p G Fin D σ _ (.inl (resume L p n (j + 1)))
      rw [resume_lt hl hj]
      refine land_pos hF hg hrun' hl hj hline' ?_
      rw [hidx', pre_succ ss j s hs hj]
      simp only [List.length_append, List.length_cons, List.length_nil]
  | skipLine =>
    obtain ⟨σ', hres, ⟨hg, hrun'⟩, hloc'⟩ := hO
    rw [bind_ok hres]
    have hline' : σ'.loc.line = some n := by rw [hloc']
    exact land_eol hF hwf (pre := L.rline ss) hg hrun'
      ⟨by rw [List.append_nil]; exact lineToks_of (hF.holds hg) hl hline', by rw [hloc']⟩ hline'
  | jump m =>
    have hhas : σ0.lines.has m = hasLine L p m := holds_has hh0 m
    show StepsTo L p G Fin D σ _ (if hasLine L p m then _ else _)
    cases hh' : hasLine L p m with
    | true =>
      rw [if_pos rfl]
      obtain ⟨σ', hres, ⟨hg, hrun'⟩, hloc'⟩ := hO.1 (by rw [hhas, hh'])
      rw [bind_ok hres]
      obtain ⟨ss', hss'⟩ := hasLine_line hh'
      exact land_pos hF hg hrun' hss' (line_nonempty hwf hss') (by rw [hloc'])
        (by rw [hloc', L.pre_zero]; rfl)
    | false =>
      rw [if_neg Bool.false_ne_true]
      exact turn_fails hline0 hout0 (by simp) (hO.2 (by rw [hhas, hh'])) rfl
  | stop =>
    obtain ⟨σ', hres, hfin, hloc', himm⟩ := hO
    rw [bind_ok hres]
    have hl' : σ'.loc.line = none := by rw [hloc']
    refine ⟨_, sequence_eq (ts := σ'.imm) (by unfold lineToks; rw [hl']), ?_⟩
    rw [lineEndSt_imm hl' (by rw [himm]; rfl)]
    exact hfin _
  | resume m k =>
    obtain ⟨σ', hres, ⟨hg, hrun'⟩, haddr⟩ := hO
    rw [bind_ok hres]
    exact land_after hF hwf hg hrun' haddr
  | error e =>
    exact turn_fails hline0 hout0 hO.1 hO.2 rfl
  | errorAt e ln =>
    obtain ⟨he, σ', i, hres, hdl, hout'⟩ := hO
    subst he
    exact ⟨σ', _, _, bind_err hres, by rw [hout', hout0], populate_dtm σ' hdl, Or.inl rfl⟩

/-- the colon is a statement of its own for `dispatch` -/
theorem turn_on_colon (fuel : Nat) {σ : St F} {pre post : List (Token F)} {t : Token F} {n : Nat}
    (h : At σ pre (.kw .Colon :: t :: post)) (htr : σ.tracing = false) (hline : σ.loc.line = some n) :
    runNextStatement fuel σ =
      .ok () { σ with state := .running, loc := { line := some n, idx := pre.length + 1 },
                      reads := σ.reads + 1 + 1 + 1 } := by
  have h1 : At (C17.turnStart σ) pre (.kw .Colon :: t :: post) := h
  have hbody : stmtBody (evalN fuel) (C17.turnStart σ) =
      .ok () (mv (C17.turnStart σ) 1 (σ.reads + 1 + 1)) := by
    rw [stmtBody_tok h1 htr rfl]
    rfl
  have h2 := at_mv1 h1 (σ.reads + 1 + 1)
  rw [turn_tok fuel h.1 (at_tok h), bind_ok hbody, sequence_more h2]
  show Res.ok () _ = Res.ok () _
  congr 1
  simp only [mv, C17.turnStart]
  congr 1
  rw [← h.2, hline]

theorem colon {fuel : Nat} {σ : St F} (hh : Holds L σ.lines p) (htr : σ.tracing = false)
    {n j : Nat} {ss : List S} (hl : L.line p n = some ss) (hj : j + 1 < ss.length)
    (hline : σ.loc.line = some n) (hidx : σ.loc.idx + 1 = (L.pre ss (j + 1)).length) :
    runNextStatement fuel σ =
      .ok () { σ with state := .running, loc := { line := some n, idx := (L.pre ss (j + 1)).length },
                      reads := σ.reads + 1 + 1 + 1 } := by
  -- the bound stands in the context: every `ss[j]` written below is found in range by assumption, not by search
  have hj' : j < ss.length := Nat.lt_of_succ_lt hj
  have hs : ss[j]? = some ss[j] := List.getElem?_eq_getElem hj'
  have hs' : ss[j + 1]? = some ss[j + 1] := List.getElem?_eq_getElem hj
  have hpre := pre_succ (L := L) ss j _ hs hj
  obtain ⟨t0, ts0, hhead, _, _⟩ := L.head ss[j + 1]
  have hAt : At σ (L.pre ss j ++ L.render ss[j]) (.kw .Colon :: (t0 :: (ts0 ++ L.tail (ss.drop (j + 1 + 1))))) := by
    refine ⟨?_, ?_⟩
    · rw [lineToks_of hh hl hline, line_split ss (j + 1) _ hs', hpre, hhead]
      simp only [List.append_assoc, List.cons_append, List.nil_append]
    · rw [hpre, List.length_append] at hidx
      simp only [List.length_cons, List.length_nil] at hidx
      omega
  rw [turn_on_colon fuel hAt htr hline, hpre]
  simp only [List.length_append, List.length_cons, List.length_nil, Nat.zero_add]

theorem colon_lands (hF : Frame L p G Fin) {fuel : Nat} {σ : St F} {n j : Nat} {ss : List S}
    (h : Lands L p G Fin (some (n, j)) σ) (hl : L.line p n = some ss)
    (hidx : σ.loc.idx + 1 = (L.pre ss j).length) :
    ∃ σ', continueEvaluating fuel σ = .ok () σ' ∧ Lands L p G Fin (some (n, j)) σ' ∧
      σ'.loc.idx = (L.pre ss j).length := by
  obtain ⟨hg, hrun, hline, ss', hl', hj, hcur⟩ := h
  rw [hl] at hl'
  cases hl'
  obtain ⟨j', rfl⟩ : ∃ j', j = j' + 1 := ⟨j - 1, by rcases hcur with h | h <;> omega⟩
  refine ⟨{ σ with state := .running, loc := { line := some n, idx := (L.pre ss (j' + 1)).length },
                   reads := σ.reads + 1 + 1 + 1 }, ?_, ⟨?_, rfl, rfl, ss, hl, hj, Or.inl rfl⟩, rfl⟩
  · rw [C09.continue_is_one_turn fuel σ hrun]
    exact C01.postprocess_of_ok (colon (hF.holds hg) (hF.tracing hg) hl hj hline hidx)
  · have := hF.move (σ.reads + 1 + 1 + 1) { line := some n, idx := (L.pre ss (j' + 1)).length } hg
    rw [← hrun]
    exact this

end Abasic.SeqL
