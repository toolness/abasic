import Abasic.Data
import Abasic.Proofs.TextLemmas
/-
  Runs of the DATA item parser (`DataParser.run`): only an unquoted colon finishes a run, an unfinished run can be
  continued and counts every byte it reads.  Where the payload of a DATA statement ends is said once, as `Cut p a stop`;
  what `parseData` returns, what it leaves, and that the text behind the colon is never looked at are read off it.
-/
namespace Abasic
variable {F : Type} [NumOps F]

namespace DataParser

theorem finish_of_finished (p : DataParser F) (h : p.finished = true) : p.finish = p := by
  simp [DataParser.finish, h]

theorem finish_finished (p : DataParser F) : p.finish.finished = true := by
  unfold DataParser.finish
  split
  · assumption
  · rfl

theorem pushCurrent_fields (p : DataParser F) :
    p.pushCurrent.inQuote = p.inQuote ∧ p.pushCurrent.chomped = p.chomped ∧
    p.pushCurrent.finished = p.finished ∧ p.pushCurrent.cur = [] := by
  unfold pushCurrent; exact ⟨rfl, rfl, rfl, rfl⟩

theorem finish_chomped (p : DataParser F) : p.finish.chomped = p.chomped := by
  unfold finish
  by_cases h : p.finished = true
  · rw [if_pos h]
  · rw [if_neg h]
    simp only
    split
    · exact (pushCurrent_fields p).2.1
    · split
      · exact (pushCurrent_fields p).2.1
      · rfl

theorem parseChar_colon (p : DataParser F) (hq : p.inQuote = false) :
    p.parseChar ':' = p.finish := by
  unfold parseChar
  simp only [hq, Bool.not_false, ↓reduceIte, beq_self_eq_true, finish_finished, Bool.not_true,
    Bool.false_eq_true]

theorem parseChar_unfinished (p : DataParser F) (c : Char) (hf : p.finished = false)
    (h : ¬ (p.inQuote = false ∧ c = ':')) :
    (p.parseChar c).finished = false ∧ (p.parseChar c).chomped = p.chomped + c.utf8Size := by
  have hpf := (pushCurrent_fields p).2.2.1
  unfold parseChar
  cases hq : p.inQuote with
  | false =>
    have hc : (c == ':') = false := by
      apply beq_false_of_ne; intro e; exact h ⟨hq, e⟩
    simp only [Bool.not_false, ↓reduceIte, hc, Bool.false_eq_true]
    by_cases h1 : (c == ',') = true
    · simp only [h1, ↓reduceIte]
      by_cases h2 : (!(trim p.cur).isEmpty) = true
      · simp only [h2, ↓reduceIte, hpf, hf, Bool.not_false, (pushCurrent_fields p).2.1, and_self]
      · simp only [h2, ↓reduceIte, hf, Bool.not_false, Bool.false_eq_true, and_self]
    · simp only [h1, Bool.false_eq_true, ↓reduceIte]
      by_cases h2 : (c == '"') = true
      · simp only [h2, ↓reduceIte]
        by_cases h3 : (trim p.cur).isEmpty = true
        · simp only [h3, ↓reduceIte, hf, Bool.not_false, and_self]
        · simp only [h3, Bool.false_eq_true, ↓reduceIte, hf, Bool.not_false, and_self]
      · simp only [h2, Bool.false_eq_true, ↓reduceIte, hf, Bool.not_false, and_self]
  | true =>
    simp only [Bool.not_true, Bool.false_eq_true, ↓reduceIte]
    by_cases h2 : (c == '"') = true
    · simp only [h2, ↓reduceIte, hpf, hf, Bool.not_false, (pushCurrent_fields p).2.1, and_self]
    · simp only [h2, Bool.false_eq_true, ↓reduceIte, hf, Bool.not_false, and_self]

theorem run_nil (p : DataParser F) : run p [] = p := rfl

theorem run_cons (p : DataParser F) (c : Char) (cs : Str) :
    run p (c :: cs) = if (p.parseChar c).finished then p.parseChar c else run (p.parseChar c) cs := rfl

theorem run_append (a : Str) : ∀ (p : DataParser F), (run p a).finished = false →
    ∀ y, run p (a ++ y) = run (run p a) y := by
  induction a with
  | nil => intro p _ y; rfl
  | cons c cs ih =>
    intro p h y
    rw [run_cons] at h
    rw [List.cons_append, run_cons, run_cons]
    by_cases hf : (p.parseChar c).finished = true
    · rw [if_pos hf] at h; rw [hf] at h; cases h
    · rw [if_neg hf] at h
      rw [if_neg hf, if_neg hf]
      exact ih _ h y

theorem run_chomped (a : Str) : ∀ (p : DataParser F), p.finished = false → (run p a).finished = false →
    (run p a).chomped = p.chomped + len8 a := by
  induction a with
  | nil => intro p _ _; simp [run, len8]
  | cons c cs ih =>
    intro p hp h
    rw [run_cons] at h ⊢
    by_cases hf : (p.parseChar c).finished = true
    · rw [if_pos hf] at h; rw [hf] at h; cases h
    · rw [if_neg hf] at h
      rw [if_neg hf]
      have hf' : (p.parseChar c).finished = false := by simpa using hf
      have hne : ¬ (p.inQuote = false ∧ c = ':') := by
        intro ⟨hq, hc⟩
        subst hc
        rw [parseChar_colon p hq, finish_finished] at hf'
        cases hf'
      rw [ih _ hf' h, (parseChar_unfinished p c hp hne).2]
      simp only [len8]; omega

theorem run_finished_cases (s : Str) : ∀ (p : DataParser F), p.finished = false → (run p s).finished = true →
    ∃ a x, s = a ++ ':' :: x ∧ (run p a).finished = false ∧ (run p a).inQuote = false ∧
      run p s = (run p a).finish := by
  induction s with
  | nil => intro p hp h; rw [run_nil, hp] at h; cases h
  | cons c cs ih =>
    intro p hp h
    by_cases hc : p.inQuote = false ∧ c = ':'
    · obtain ⟨hq, hc⟩ := hc
      subst hc
      refine ⟨[], cs, rfl, hp, hq, ?_⟩
      rw [run_cons, parseChar_colon p hq, finish_finished, if_pos rfl]; rfl
    · have hu := (parseChar_unfinished p c hp hc).1
      rw [run_cons, hu] at h
      simp only [Bool.false_eq_true, ↓reduceIte] at h
      obtain ⟨a, x, e, h1, h2, h3⟩ := ih _ hu h
      refine ⟨c :: a, x, by rw [e]; rfl, ?_, ?_, ?_⟩
      · rw [run_cons, hu]; simpa using h1
      · rw [run_cons, hu]; simpa using h2
      · rw [run_cons, hu, run_cons, hu]; simpa using h3

/-- From `p` the run over `a` does not finish, and then the text ends or an unquoted colon follows:
    `a` is the payload of `a ++ stop`. -/
structure Cut (p : DataParser F) (a stop : Str) : Prop where
  unfinished : (run p a).finished = false
  stop : stop = [] ∨ (run p a).inQuote = false ∧ ∃ x, stop = ':' :: x

theorem cut_exists (p : DataParser F) (hp : p.finished = false) (s : Str) :
    ∃ a stop, s = a ++ stop ∧ Cut p a stop := by
  cases hf : (run p s).finished with
  | false => exact ⟨s, [], (List.append_nil s).symm, hf, .inl rfl⟩
  | true =>
    obtain ⟨a, x, e, h1, h2, _⟩ := run_finished_cases s p hp hf
    exact ⟨a, _, e, h1, .inr ⟨h2, x, rfl⟩⟩

theorem Cut.append {p : DataParser F} {a b stop : Str} (ha : (run p a).finished = false)
    (h : Cut (run p a) b stop) : Cut p (a ++ b) stop := by
  constructor
  · rw [run_append a p ha]; exact h.unfinished
  · rw [run_append a p ha]; exact h.stop

theorem Cut.finish {p : DataParser F} {a stop : Str} (h : Cut p a stop) :
    (run p (a ++ stop)).finish = (run p a).finish := by
  rcases h.stop with rfl | ⟨hq, x, rfl⟩
  · rw [List.append_nil]
  · rw [run_append a _ h.unfinished, run_cons, parseChar_colon _ hq, finish_finished, if_pos rfl,
      finish_of_finished _ (finish_finished _)]

end DataParser

open DataParser (Cut)

theorem DataParser.Cut.parseData_eq {a stop : Str} (h : Cut ({} : DataParser F) a stop) :
    parseData (F := F) (a ++ stop) = ((DataParser.run ({} : DataParser F) a).finish.elements, len8 a) := by
  unfold parseData
  rw [h.finish]
  exact Prod.ext rfl ((DataParser.finish_chomped _).trans
    ((DataParser.run_chomped a _ rfl h.unfinished).trans (Nat.zero_add _)))

/-- What `chomp_next_token` leaves behind a DATA statement is what follows the payload. -/
theorem DataParser.Cut.rest {a stop : Str} (h : Cut ({} : DataParser F) a stop) :
    dropBytes (parseData (F := F) (a ++ stop)).2 (a ++ stop) = stop := by
  rw [h.parseData_eq]; exact dropBytes_len8 a stop

theorem DataParser.cut_of_rest {a stop : Str}
    (h : dropBytes (parseData (F := F) (a ++ stop)).2 (a ++ stop) = stop) : Cut ({} : DataParser F) a stop := by
  obtain ⟨a0, stop0, e, hc⟩ := DataParser.cut_exists ({} : DataParser F) rfl (a ++ stop)
  rw [e, hc.rest] at h
  subst h
  rwa [List.append_cancel_right e]

end Abasic
