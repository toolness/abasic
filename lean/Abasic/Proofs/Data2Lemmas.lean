import Abasic.Proofs.Prog2Rel
/-
  C03, DATA — the DATA items among a list of tokens (`dataToks`; those of a rendered statement are the
  items of its DATA statement, `dataToks_renderS2`) and the items of the chunks of a token line
  (`flat_lineChunks`).  Nothing here looks at a program.  (What `DataIterator::next` does in terms of the items not
  yet yielded: Proofs/DataIter.lean.)
-/
set_option linter.unusedSectionVars false

namespace Abasic.Prog2L
open Abasic Abasic.Ref Abasic.ExprL Abasic.StmtL Abasic.ProgL M

variable {F : Type} [NumOps F]

def dataToks (ts : List (Token F)) : List (DataElement F) :=
  ts.flatMap fun t => match t with
    | .data items => items
    | _ => []

def isData : Token F → Bool
  | .data _ => true
  | _ => false

theorem dataToks_append (a b : List (Token F)) : dataToks (a ++ b) = dataToks a ++ dataToks b := by
  simp only [dataToks, List.flatMap_append]

theorem dataToks_cons_nodata {t : Token F} (ts : List (Token F)) (h : isData t = false) :
    dataToks (t :: ts) = dataToks ts := by
  cases t <;> first | rfl | cases h

theorem dataToks_nodata {ts : List (Token F)} (h : ∀ t ∈ ts, isData t = false) : dataToks ts = [] := by
  induction ts with
  | nil => rfl
  | cons t ts ih =>
    rw [dataToks_cons_nodata ts (h t List.mem_cons_self)]
    exact ih fun t' ht' => h t' (List.mem_cons_of_mem _ ht')

theorem nodata_render : ∀ (e : Expr F), ∀ t ∈ render e, isData t = false :=
  render_forall (fun _ => rfl) (fun _ => rfl) (fun _ => rfl) rfl rfl (fun _ => rfl) (fun _ => rfl)

theorem nodata_items : ∀ (items : List (PItem F)), ∀ t ∈ renderItems items, isData t = false :=
  items_forall nodata_render rfl rfl

theorem nodata_renderS : ∀ (s : RStmt F), ∀ t ∈ renderS s, isData t = false
  | .letS x e => by
    intro t ht
    simp only [renderS, List.mem_cons] at ht
    rcases ht with rfl | rfl | rfl | ht
    · rfl
    · rfl
    · rfl
    · exact nodata_render e t ht
  | .printS items => by
    intro t ht
    simp only [renderS, List.mem_cons] at ht
    rcases ht with rfl | ht
    · rfl
    · exact nodata_items items t ht
  | .gotoS n => by
    intro t ht
    simp only [renderS, List.mem_cons, List.not_mem_nil, or_false] at ht
    rcases ht with rfl | rfl <;> rfl
  | .endS => by
    intro t ht
    simp only [renderS, List.mem_cons, List.not_mem_nil, or_false] at ht
    subst ht; rfl
  | .ifS c s' none => by
    intro t ht
    simp only [renderS, List.mem_cons, List.mem_append] at ht
    rcases ht with rfl | ht | rfl | ht
    · rfl
    · exact nodata_render c t ht
    · rfl
    · exact nodata_renderS s' t ht
  | .ifS c s' (some e') => by
    intro t ht
    simp only [renderS, List.mem_cons, List.mem_append] at ht
    rcases ht with rfl | ht | rfl | ht | rfl | ht
    · rfl
    · exact nodata_render c t ht
    · rfl
    · exact nodata_renderS s' t ht
    · rfl
    · exact nodata_renderS e' t ht

theorem nodata_args (es : List (Expr F)) : ∀ t ∈ renderSubs2 es, isData t = false := by
  induction es with
  | nil => intro t ht; simp [renderSubs2] at ht
  | cons e rest ih =>
    cases rest with
    | nil => simpa only [renderSubs2] using nodata_render e
    | cons e' rest' =>
      intro t ht
      simp only [renderSubs2, List.mem_append, List.mem_cons] at ht
      rcases ht with ht | rfl | ht
      · exact nodata_render e t ht
      · rfl
      · exact ih t (by simpa only [renderSubs2] using ht)

theorem nodata_targets (xs : List Str) : ∀ t ∈ renderTargets (F := F) xs, isData t = false := by
  induction xs with
  | nil => intro t ht; simp [renderTargets] at ht
  | cons x rest ih =>
    cases rest with
    | nil => intro t ht; simp only [renderTargets, List.mem_singleton] at ht; subst ht; rfl
    | cons x' rest' =>
      intro t ht
      simp only [renderTargets, List.mem_cons] at ht
      rcases ht with rfl | rfl | ht
      · rfl
      · rfl
      · exact ih t (by simpa only [renderTargets, List.mem_cons] using ht)

theorem dataToks_renderS2 (s : RStmt2 F) : dataToks (renderS2 s) = s.dataOf := by
  -- only `dataS` renders a `.data` token; every other arm has `[]` on both sides and goes through its tokens one by
  -- one (`dataToks_nodata`: a keyword by `rfl`, an expression by `nodata_render`)
  cases s with
  | dataS items => simp [renderS2, dataToks, RStmt2.dataOf]
  | base s => exact dataToks_nodata (nodata_renderS s)
  | forS v a b c =>
    apply dataToks_nodata
    cases c with
    | none =>
      intro t ht
      simp only [renderS2, List.mem_cons, List.mem_append] at ht
      rcases ht with rfl | rfl | rfl | ht | rfl | ht
      · rfl
      · rfl
      · rfl
      · exact nodata_render a t ht
      · rfl
      · exact nodata_render b t ht
    | some c =>
      intro t ht
      simp only [renderS2, List.mem_cons, List.mem_append] at ht
      rcases ht with rfl | rfl | rfl | ht | rfl | ht | rfl | ht
      · rfl
      · rfl
      · rfl
      · exact nodata_render a t ht
      · rfl
      · exact nodata_render b t ht
      · rfl
      · exact nodata_render c t ht
  | nextS v => rfl
  | gosubS n => rfl
  | returnS => rfl
  | readS ts =>
    apply dataToks_nodata
    intro t ht
    simp only [renderS2, List.mem_cons] at ht
    rcases ht with rfl | ht
    · rfl
    · exact nodata_targets ts t ht
  | restoreS => rfl
  | dimS name dims =>
    apply dataToks_nodata
    intro t ht
    simp only [renderS2, List.mem_cons, List.mem_append, List.not_mem_nil, or_false] at ht
    rcases ht with rfl | rfl | rfl | ht | rfl
    · rfl
    · rfl
    · rfl
    · exact nodata_args dims t ht
    · rfl
  | letCellS name idx e =>
    apply dataToks_nodata
    intro t ht
    simp only [renderS2, List.mem_cons, List.mem_append] at ht
    rcases ht with rfl | rfl | rfl | ht | rfl | rfl | ht
    · rfl
    · rfl
    · rfl
    · exact nodata_args idx t ht
    · rfl
    · rfl
    · exact nodata_render e t ht

theorem flat_lineChunks (n : Nat) (ts : List (Token F)) :
    flatItems (Props.C03.lineChunks (n, ts)) = (dataToks ts).map fun d => (some n, d) := by
  -- the induction needs the first index free
  show flatItems ((ts.zipIdx 0).filterMap _) = _
  generalize 0 = k
  induction ts generalizing k with
  | nil => rfl
  | cons t ts ih =>
    rw [List.zipIdx_cons]
    cases t with
    | data items =>
      simp only [List.filterMap_cons, flatItems, List.flatMap_cons]
      have := ih (k + 1)
      simp only [flatItems] at this
      rw [this]
      simp [dataToks]
    | _ =>
      simp only [List.filterMap_cons]
      rw [ih (k + 1), dataToks_cons_nodata _ rfl]

theorem flatItems_flatMap {α : Type} (f : α → List (Loc × List (DataElement F))) (l : List α) :
    flatItems (l.flatMap f) = l.flatMap fun a => flatItems (f a) := by
  simp only [flatItems, List.flatMap_assoc]

end Abasic.Prog2L
