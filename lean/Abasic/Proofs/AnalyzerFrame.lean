import Abasic.Proofs.AnalyzerKeeps
/-
  Frame lemma for the static analyzer (used by C05, C06 and C15): nothing the analyzer does
  while walking the program changes the program store (`lines`) or leaves the
  nesting counter different from where it found it — on the success path and on
  the error path alike.  `Keeps m` says this of one action: `AKeep.Keeps key m`
  of Proofs/AnalyzerKeeps.lean for this `key`; here for a statement (`keeps_stmt`).  The line
  pass, which stores the lines, keeps the nesting counter only (`analyzeLines_nesting`).  For a
  whole file it is `C05.analyzeFile_key` (Props/C05File.lean).
-/
namespace Abasic.AFrame
open Abasic M

variable {F : Type}

/-- as `AKeep.st` -/
def rst {α : Type} : Res F α → St F
  | .ok _ s => s
  | .err _ s => s

def key (s : St F) : Lines F × Nat := (s.lines, s.nesting)

structure Keeps {α : Type} (m : M F α) : Prop where
  h : ∀ s, key (rst (m s)) = key s

theorem Keeps.rpanic {α : Type} (x : String) : Keeps (M.rpanic x : M F α) := ⟨fun _ => rfl⟩

theorem Keeps.ite {α : Type} {c : Prop} [Decidable c] {a b : M F α} (ha : Keeps a) (hb : Keeps b) :
    Keeps (if c then a else b) := by
  split <;> assumption

theorem Keeps.of {α : Type} {m : M F α} (h : AKeep.Keeps key m) : Keeps m := ⟨h.h⟩

instance : AKeep.Frame (key (F := F)) where
  dep s t hl hn _ _ := by simp only [key, hl, hn]
  exit s t h := by
    simp only [key, Prod.mk.injEq] at h
    simp only [exitNested, bind, M.bindM, M.get, h.2, M.set, AKeep.st, key, h.1]

theorem noFns : AKeep.NoFns (key (F := F)) := ⟨fun _ _ => rfl⟩

variable [NumOps F]

theorem keeps_stmt (fuel : Nat) : Keeps (aStmtBody (aEvalN (F := F) fuel)) := .of (AKeep.keeps_stmt noFns fuel)

theorem analyzeLine_nesting (a : Analysis F) (i : Nat) (line : Str) :
    (analyzeLine a i line).st.nesting = a.st.nesting := by
  unfold analyzeLine
  repeat' split
  all_goals rfl

theorem analyzeLines_nesting (a : Analysis F) (i : Nat) (lines : List Str) :
    (analyzeLines a i lines).st.nesting = a.st.nesting := by
  induction lines generalizing a i with
  | nil => rfl
  | cons l ls ih => simp only [analyzeLines]; rw [ih, analyzeLine_nesting]

end Abasic.AFrame
