import Abasic.Proofs.Commute
/-
  Flags transparency (C17).

  `erase σ` forgets the two flags and the Warning / Trace records of the output
  queue.  `Sim m` is the two-run statement: from erase-equal states `m` yields
  the same value / the same error and erase-equal states.

  The working notion is the (stronger) one-sided `Comm m`: running `m` on the
  erased state gives exactly the erased result of running it on the state.
  `Comm` is `Commutes erase` and `Sim` is `SimBy erase` (Proofs/Commute.lean), and `erase`
  is the field-wise normaliser `eraseN`; the only operations of the model that are `Sim`
  but not `Comm` are the TRACE / NOTRACE commands (they set a flag in an erased state).
-/
namespace Abasic.Hoare
open Abasic M

variable {F : Type}

def erase (σ : St F) : St F :=
  { σ with warnings := false, tracing := false, out := σ.out.filter keepOut }

theorem erase_eq (σ : St F) : erase σ =
    { σ with warnings := false, tracing := false,
             out := σ.out.filter (fun o => match o with | .warning _ _ => false | .trace _ => false | _ => true) } := by
  unfold erase
  congr 2

def eraseN : Norm F := { warnings := fun _ => false, tracing := fun _ => false, out := List.filter keepOut }

theorem erase_eq_app : erase (F := F) = eraseN.app := rfl

theorem erase_idem (σ : St F) : erase (erase σ) = erase σ := by
  simp [erase, List.filter_filter]

def ResSim {α : Type} : Res F α → Res F α → Prop
  | .ok a s, .ok b t => a = b ∧ erase s = erase t
  | .err e s, .err e' t => e = e' ∧ erase s = erase t
  | _, _ => False

def Sim {α : Type} (m : M F α) : Prop :=
  ∀ σ₁ σ₂, erase σ₁ = erase σ₂ → ResSim (m σ₁) (m σ₂)

theorem resSim_iff {α : Type} (r₁ r₂ : Res F α) : ResSim r₁ r₂ ↔ r₁.mapSt erase = r₂.mapSt erase := by
  cases r₁ <;> cases r₂ <;> simp [ResSim, Res.mapSt]

theorem ResSim.refl {α : Type} (r : Res F α) : ResSim r r := (resSim_iff r r).2 rfl
theorem ResSim.symm {α : Type} {r₁ r₂ : Res F α} (h : ResSim r₁ r₂) : ResSim r₂ r₁ :=
  (resSim_iff _ _).2 ((resSim_iff _ _).1 h).symm
theorem ResSim.trans {α : Type} {r₁ r₂ r₃ : Res F α} (h : ResSim r₁ r₂) (h' : ResSim r₂ r₃) : ResSim r₁ r₃ :=
  (resSim_iff _ _).2 (((resSim_iff _ _).1 h).trans ((resSim_iff _ _).1 h'))

def Comm2 {α : Type} (m₁ m₂ : M F α) (σ : St F) : Prop := m₁ (erase σ) = (m₂ σ).mapSt erase

def Comm {α : Type} (m : M F α) : Prop := ∀ σ, Comm2 m m σ

section rules
variable {α β : Type}

theorem sim_iff_simBy {m : M F α} : Sim m ↔ SimBy erase m :=
  forall_congr' fun _ => forall_congr' fun _ => imp_congr_right fun _ => resSim_iff _ _

theorem Comm.at {m : M F α} (h : Comm m) (σ : St F) : Comm2 m m σ := h σ
theorem comm_of_at {m : M F α} (h : ∀ σ, Comm2 m m σ) : Comm m := h

theorem Comm.sim {m : M F α} (h : Comm m) : Sim m := sim_iff_simBy.2 (Commutes.simBy h)

theorem sim_iff {m : M F α} : Sim m ↔ ∀ σ, (m (erase σ)).mapSt erase = (m σ).mapSt erase :=
  sim_iff_simBy.trans (simBy_iff erase_idem)

theorem comm_pureM (a : α) : Comm (M.pureM a : M F α) := commutes_pureM a

theorem comm2_bind_het {m₁ m₂ : M F α} {f₁ f₂ : α → M F β} {σ : St F}
    (hm : Comm2 m₁ m₂ σ) (hf : ∀ a σ', Comm2 (f₁ a) (f₂ a) σ') : Comm2 (m₁ >>= f₁) (m₂ >>= f₂) σ :=
  commAt_bind_het hm hf

theorem comm2_get_bind {f₁ f₂ : St F → M F β} {σ : St F} (h : Comm2 (f₁ (erase σ)) (f₂ σ) σ) :
    Comm2 (M.get >>= f₁) (M.get >>= f₂) σ := h

theorem comm2_modify {f₁ f₂ : St F → St F} {σ : St F} (h : f₁ (erase σ) = erase (f₂ σ)) :
    Comm2 (M.modify f₁) (M.modify f₂) σ :=
  commAt_modify h

end rules

@[simp] theorem erase_lines (σ : St F) : (erase σ).lines = σ.lines := rfl
@[simp] theorem erase_imm (σ : St F) : (erase σ).imm = σ.imm := rfl
@[simp] theorem erase_loc (σ : St F) : (erase σ).loc = σ.loc := rfl
@[simp] theorem erase_bp (σ : St F) : (erase σ).bp = σ.bp := rfl
@[simp] theorem erase_stack (σ : St F) : (erase σ).stack = σ.stack := rfl
@[simp] theorem erase_loops (σ : St F) : (erase σ).loops = σ.loops := rfl
@[simp] theorem erase_data (σ : St F) : (erase σ).data = σ.data := rfl
@[simp] theorem erase_fns (σ : St F) : (erase σ).fns = σ.fns := rfl
@[simp] theorem erase_nesting (σ : St F) : (erase σ).nesting = σ.nesting := rfl
@[simp] theorem erase_input (σ : St F) : (erase σ).input = σ.input := rfl
@[simp] theorem erase_state (σ : St F) : (erase σ).state = σ.state := rfl
@[simp] theorem erase_rng (σ : St F) : (erase σ).rng = σ.rng := rfl
@[simp] theorem erase_vars (σ : St F) : (erase σ).vars = σ.vars := rfl
@[simp] theorem erase_arrays (σ : St F) : (erase σ).arrays = σ.arrays := rfl
@[simp] theorem erase_accesses (σ : St F) : (erase σ).accesses = σ.accesses := rfl
@[simp] theorem erase_reads (σ : St F) : (erase σ).reads = σ.reads := rfl
@[simp] theorem erase_warnings (σ : St F) : (erase σ).warnings = false := rfl
@[simp] theorem erase_tracing (σ : St F) : (erase σ).tracing = false := rfl
theorem erase_out (σ : St F) : (erase σ).out = σ.out.filter keepOut := rfl
@[simp] theorem erase_getVar [NumOps F] (σ : St F) (n : Str) : getVar (erase σ) n = getVar σ n := rfl
@[simp] theorem erase_populate (σ : St F) (e : TErr) : (erase σ).populate e = σ.populate e := rfl
@[simp] theorem erase_prevLoc (σ : St F) : (erase σ).prevLoc = σ.prevLoc := rfl

end Abasic.Hoare
