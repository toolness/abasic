/-
  Runs of a host loop against runs of a reference machine, from what ONE host
  call does.  Nothing here knows what a call or a reference step is: `H k c` is
  what `k` host calls make of the host configuration `c`, `S n a` what `n`
  reference steps make of the reference state `a`, `Sim` relates the two and
  `Q` relates outcomes.  A host call is a reference step, or no step at all followed
  by a call that is one (in Props/C03Prog: a call on a colon); hence `k` calls are at most
  `k` steps (`by_turns`) and `n` steps at most `2 n` calls (`by_steps`).  First: a run of a machine that
  iterates a step function (`Iterates`) keeps what every step keeps, and fails only as a step fails (`Iterates.sound`).
-/
namespace Abasic.RunSim

section Iter
variable {α ε ε' : Type} {step : α → α ⊕ ε} {fail : α → ε → ε'} {steps : Nat → α → α ⊕ ε'}

structure Iterates (step : α → α ⊕ ε) (fail : α → ε → ε') (steps : Nat → α → α ⊕ ε') : Prop where
  zero : ∀ a, steps 0 a = .inl a
  ok : ∀ k a a', step a = .inl a' → steps (k + 1) a = steps k a'
  err : ∀ k a e, step a = .inr e → steps (k + 1) a = .inr (fail a e)

theorem Iterates.sound (h : Iterates step fail steps) {I : α → Prop} {E : ε' → Prop}
    (hstep : ∀ a, I a → (∀ a', step a = .inl a' → I a') ∧ (∀ e, step a = .inr e → E (fail a e))) :
    ∀ k a, I a → (∀ a', steps k a = .inl a' → I a') ∧ (∀ x, steps k a = .inr x → E x)
  | 0, a, ha => by rw [h.zero]; exact ⟨fun _ hs => by cases hs; exact ha, nofun⟩
  | k + 1, a, ha => by
    cases hst : step a with
    | inl a1 => rw [h.ok k a a1 hst]; exact h.sound hstep k a1 ((hstep a ha).1 a1 hst)
    | inr e => rw [h.err k a e hst]; exact ⟨nofun, fun _ hs => by cases hs; exact (hstep a ha).2 e hst⟩

theorem Iterates.keeps (h : Iterates step fail steps) {I : α → Prop} (hI : ∀ a a', I a → step a = .inl a' → I a')
    (k : Nat) (a a' : α) (ha : I a) : steps k a = .inl a' → I a' :=
  (h.sound (E := fun _ => True) (fun a ha => ⟨fun a' => hI a a' ha, fun _ _ => trivial⟩) k a ha).1 a'

end Iter

variable {A B C O : Type} (H : Nat → C → O) (S : Nat → A → B) (Sim : A → C → Prop) (Q : O → B → Prop)

/-- A call that is the reference step from `a`, seen from the loop `R` it is the
    first call of: the loop goes on from `c'` with the machine in `a'`, or it has
    failed and so has the machine. -/
inductive Start (R : Nat → O) (a : A) : Prop
  | step {a' : A} {c' : C} : (∀ k, R k = H k c') → (∀ n, S (n + 1) a = S n a') → Sim a' c' → Start R a
  | fail {o : O} {b : B} : (∀ k, R k = o) → (∀ n, S (n + 1) a = b) → Q o b → Start R a

/-- What the next host call from `c` is for the machine in `a`: the loop makes
    no further call and the machine stays where it is; a call that changes
    nothing the machine sees, after which at most `d` more such calls come before
    a step; or the step. -/
inductive Turn : Nat → A → C → Prop
  | halt {d : Nat} {a : A} {c : C} : (∀ k, H k c = H 0 c) → (∀ n, S (n + 1) a = S n a) → Turn d a c
  | stutter {d : Nat} {a : A} {c c' : C} : (∀ k, H (k + 1) c = H k c') → Sim a c' → Turn d a c' → Turn (d + 1) a c
  | now {d : Nat} {a : A} {c : C} : Start H S Sim Q (fun k => H (k + 1) c) a → Turn d a c

variable {H S Sim Q}

theorem by_turns (base : ∀ a c, Sim a c → Q (H 0 c) (S 0 a)) (turn : ∀ a c, Sim a c → Turn H S Sim Q 1 a c) :
    ∀ (k : Nat) (a : A) (c : C), Sim a c → ∃ n, n ≤ k ∧ Q (H k c) (S n a)
  | 0, a, c, h => ⟨0, Nat.le_refl _, base a c h⟩
  | k + 1, a, c, h => by
    cases turn a c h with
    | halt hH _ => exact ⟨0, Nat.zero_le _, by rw [hH]; exact base a c h⟩
    | stutter hH hs _ =>
      obtain ⟨n, hn, hq⟩ := by_turns base turn k a _ hs
      exact ⟨n, by omega, by rw [hH]; exact hq⟩
    | now hs =>
      cases hs with
      | step hH hS hs =>
        obtain ⟨n, hn, hq⟩ := by_turns base turn k _ _ hs
        exact ⟨n + 1, by omega, by rw [hH, hS]; exact hq⟩
      | fail hH hS hq => exact ⟨1, by omega, by rw [hH, hS]; exact hq⟩

theorem by_steps (base : ∀ a c, Sim a c → Q (H 0 c) (S 0 a)) (turn : ∀ a c, Sim a c → Turn H S Sim Q 1 a c) :
    ∀ (n : Nat) (a : A) (c : C), Sim a c → ∃ k, k ≤ 2 * n ∧ Q (H k c) (S n a)
  | 0, a, c, h => ⟨0, Nat.le_refl _, base a c h⟩
  | n + 1, a, c, h => by
    have core : ∀ d a c, Turn H S Sim Q d a c → Sim a c → ∃ k, k ≤ 2 * n + d + 1 ∧ Q (H k c) (S (n + 1) a) := by
      intro d a c t
      induction t with
      | halt _ hS =>
        intro h
        obtain ⟨k, hk, hq⟩ := by_steps base turn n _ _ h
        exact ⟨k, by omega, by rw [hS]; exact hq⟩
      | stutter hH hs _ ih =>
        intro _
        obtain ⟨k, hk, hq⟩ := ih hs
        exact ⟨k + 1, by omega, by rw [hH]; exact hq⟩
      | now hs =>
        intro _
        cases hs with
        | step hH hS hs =>
          obtain ⟨k, hk, hq⟩ := by_steps base turn n _ _ hs
          exact ⟨k + 1, by omega, by rw [hH, hS]; exact hq⟩
        | fail hH hS hq => exact ⟨1, by omega, by rw [hH 0, hS]; exact hq⟩
    obtain ⟨k, hk, hq⟩ := core 1 a c (turn a c h) h
    exact ⟨k, by omega, hq⟩

/-- a first call `R` (in Props/C03Prog: RUN) and `k` more -/
theorem run_by_turns (base : ∀ a c, Sim a c → Q (H 0 c) (S 0 a)) (turn : ∀ a c, Sim a c → Turn H S Sim Q 1 a c)
    {R : Nat → O} {a : A} (start : Start H S Sim Q R a) (k : Nat) :
    ∃ n, 1 ≤ n ∧ n ≤ k + 1 ∧ Q (R k) (S n a) := by
  cases start with
  | step hR hS hs =>
    obtain ⟨n, hn, hq⟩ := by_turns base turn k _ _ hs
    exact ⟨n + 1, by omega, by omega, by rw [hR, hS]; exact hq⟩
  | fail hR hS hq => exact ⟨1, by omega, by omega, by rw [hR, hS]; exact hq⟩

theorem run_by_steps (base : ∀ a c, Sim a c → Q (H 0 c) (S 0 a)) (turn : ∀ a c, Sim a c → Turn H S Sim Q 1 a c)
    {R : Nat → O} {a : A} (start : Start H S Sim Q R a) (n : Nat) :
    ∃ k, k ≤ 2 * n ∧ Q (R k) (S (n + 1) a) := by
  cases start with
  | step hR hS hs =>
    obtain ⟨k, hk, hq⟩ := by_steps base turn n _ _ hs
    exact ⟨k, hk, by rw [hR, hS]; exact hq⟩
  | fail hR hS hq => exact ⟨0, by omega, by rw [hR, hS]; exact hq⟩

end Abasic.RunSim
