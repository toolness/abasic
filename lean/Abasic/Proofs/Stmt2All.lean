import Abasic.Proofs.Stmt2Arrays
/-
  C03, control stack, DATA and arrays — the reference step of Ref/Stmt2.lean keeps the invariants `RInv` of the
  reference state (`exec2_inv`): an instance of `exec2_keeps`, which is stated for any property of the arrays
  that creation establishes and a cell store keeps (`ArrProp`).  (`stmt2_run`, the statement evaluator realises `RStmt2.exec`: Proofs/Stmt2Image.lean.)
-/
set_option linter.unusedSectionVars false

namespace Abasic.Stmt2L
open Abasic Abasic.Ref Abasic.StmtL Abasic.ProgL Abasic.Prog2L Abasic.Hoare M
open Abasic.ExprL hiding Quiet
open Abasic.ExprG (Quiet expr_eq main)

variable {F : Type} [NumOps F]

def Typed (vars : List (Str × Value F)) : Prop := ∀ k v, alGet k vars = some v → v.matchesName k = true

theorem typed_alSet {vars : List (Str × Value F)} (h : Typed vars) {k : Str} {v : Value F}
    (hm : v.matchesName k = true) : Typed (alSet k v vars) := Props.C16.alSet_all h hm

theorem closeLine_vars (res : RResult F) : res.closeLine.vars = res.vars := by
  unfold RResult.closeLine
  cases res.ctl <;> rfl

theorem exec_typed {vars : List (Str × Value F)} (h : Typed vars) : ∀ s : RStmt F, Typed (RStmt.exec vars s).vars
  | .letS x e => by
    cases he : foldE (envOf vars) e with
    | error err => simp only [RStmt.exec, he]; exact h
    | ok v =>
      cases hm : v.matchesName x with
      | true => simp only [RStmt.exec, he, hm, ↓reduceIte]; exact typed_alSet h hm
      | false => simp only [RStmt.exec, he, hm, Bool.false_eq_true, ↓reduceIte]; exact h
  | .printS items => by
    cases hp : printText (envOf vars) items false [] <;> simp only [RStmt.exec, hp] <;> exact h
  | .gotoS n => by simp only [RStmt.exec]; exact h
  | .endS => by simp only [RStmt.exec]; exact h
  | .ifS c t none => by
    cases he : foldE (envOf vars) c with
    | error err => simp only [RStmt.exec, he]; exact h
    | ok v =>
      cases hb : v.toBool with
      | true => simp only [RStmt.exec, he, hb, ↓reduceIte]; exact exec_typed h t
      | false => simp only [RStmt.exec, he, hb, Bool.false_eq_true, ↓reduceIte]; exact h
  | .ifS c t (some e) => by
    cases he : foldE (envOf vars) c with
    | error err => simp only [RStmt.exec, he]; exact h
    | ok v =>
      cases hb : v.toBool with
      | true => simp only [RStmt.exec, he, hb, ↓reduceIte]; rw [closeLine_vars]; exact exec_typed h t
      | false => simp only [RStmt.exec, he, hb, Bool.false_eq_true, ↓reduceIte]; exact exec_typed h e

theorem readAll_typed (items : List (Nat × DataElement F)) :
    ∀ (ts : List Str) (vars : List (Str × Value F)) (c : Nat), Typed vars → Typed (readAll items ts vars c).1
  | [], vars, c, h => h
  | t :: rest, vars, c, h => by
    cases hc : items[c]? with
    | none => simp only [readAll, hc]; exact h
    | some lnd =>
      obtain ⟨ln, d⟩ := lnd
      cases hco : Value.coerceFromData t d with
      | error e => simp only [readAll, hc, hco]; exact h
      | ok v =>
        have : readAll items (t :: rest) vars c = readAll items rest (alSet t v vars) (c + 1) := by
          simp only [readAll, hc, hco]
        rw [this]
        exact readAll_typed items rest _ _ (typed_alSet h (ArrayL.coerce_matches hco))

/-- a property of named arrays that a new array has and a cell store keeps: all that the reference step asks of
    an invariant of the array store (`sized`: as many cells as the dimensions say; `C06.kinded`: cells of the kind
    of the name) -/
structure ArrProp (P : Str → ArrayV F → Prop) : Prop where
  create : ∀ {name : Str} {index : List Nat} {a : ArrayV F}, ArrayV.create (F := F) name index = .ok a → P name a
  cellSet : ∀ {name : Str} {a a' : ArrayV F} {index : List Nat} {v : Value F},
    cellSet a index v = .ok a' → P name a → P name a'

def AllArr (P : Str → ArrayV F → Prop) (arrays : List (Str × ArrayV F)) : Prop :=
  ∀ k a, alGet k arrays = some a → P k a

theorem sized : ArrProp (F := F) fun _ a => a.cellCount = Props.C16.prod a.dims :=
  ⟨fun h => (Props.C16.create_spec _ _ _ h).1, ArrayL.cellSet_ok⟩

variable {P : Str → ArrayV F → Prop}

theorem ensureArr_all (hP : ArrProp P) {name : Str} {k : Nat} {arrays : List (Str × ArrayV F)} {a : ArrayV F}
    (h : ensureArr name k arrays = .ok a) (hok : AllArr P arrays) : P name a := by
  unfold ensureArr at h
  cases hg : alGet name arrays with
  | some a0 => rw [hg] at h; simp only [Except.ok.injEq] at h; subst h; exact hok name a0 hg
  | none => rw [hg] at h; exact hP.create h

theorem storeCell_all (hP : ArrProp P) {name : Str} {index : List Nat} {v : Value F}
    {arrays arrs : List (Str × ArrayV F)} (h : storeCell name index v arrays = .ok arrs) (hok : AllArr P arrays) :
    AllArr P arrs := by
  unfold storeCell at h
  split at h
  · cases h
  · split at h
    · cases h
    next a hea =>
      split at h
      · cases h
      next a' hcs =>
        cases h
        exact Props.C16.alSet_all hok (hP.cellSet hcs (ensureArr_all hP hea hok))

theorem exec2_keeps (hP : ArrProp P) (items : List (Nat × DataElement F)) (n j : Nat) {r : RState2 F}
    (ht : Typed r.vars) (ha : AllArr P r.arrays) (s : RStmt2 F) :
    Typed (s.exec items n j r).1.vars ∧ AllArr P (s.exec items n j r).1.arrays := by
  -- `h` closes every path on which the step fails: the state is as it was
  have h : Typed r.vars ∧ AllArr P r.arrays := ⟨ht, ha⟩
  cases s with
  | base s => exact ⟨exec_typed ht s, ha⟩
  | forS v a b c =>
    cases hna : numE (envOf r.vars) a with
    | error err => rw [exec_for_err_a hna]; exact h
    | ok x =>
      cases hnb : numE (envOf r.vars) b with
      | error err => rw [exec_for_err_b hna hnb]; exact h
      | ok y =>
        cases hnc : stepE (envOf r.vars) c with
        | error err => rw [exec_for_err_c hna hnb hnc]; exact h
        | ok z =>
          rw [exec_for hna hnb hnc]
          unfold forPush
          by_cases hcap : ((keptLoops v r.loops).length == Extracted.stackLimit) = true
          · rw [if_pos hcap]; exact h
          · rw [if_neg hcap]
            cases hd : endsWithDollar v with
            | true => simp only [↓reduceIte]; exact h
            | false =>
              simp only [Bool.false_eq_true, ↓reduceIte]
              exact ⟨typed_alSet ht (by simp [Value.matchesName, hd]), ha⟩
  | nextS v =>
    cases hv : envOf r.vars v with
    | str x => simp only [RStmt2.exec, hv]; exact h
    | num cur =>
      -- the one arm that uses `ht` and does not merely carry it: the step stores a number under `v` without a
      -- test of the name (FOR has one, READ coerces by the name), but `v` holds a number, so by `ht` it has no `$`
      have hm : ∀ y : F, (Value.num y : Value F).matchesName v = true := by
        intro y; simp only [Value.matchesName, envOf_num_name ht hv, Bool.not_false]
      cases hf : findLoop v r.loops with
      | none => simp only [RStmt2.exec, hv, hf]; exact h
      | some lr =>
        obtain ⟨l, rest⟩ := lr
        simp only [RStmt2.exec, hv, hf]
        split <;> split <;> exact ⟨typed_alSet ht (hm _), ha⟩
  | gosubS m =>
    simp only [RStmt2.exec]
    split
    · exact h
    · exact ⟨ht, ha⟩
  | returnS =>
    cases hr : r.rets with
    | nil => simp only [RStmt2.exec, hr]; exact h
    | cons a as => obtain ⟨ln, k⟩ := a; simp only [RStmt2.exec, hr]; exact ⟨ht, ha⟩
  | readS ts => exact ⟨readAll_typed items ts r.vars r.data ht, ha⟩
  | dataS items' => exact h
  | restoreS => exact ⟨ht, ha⟩
  | dimS name dims =>
    cases hfi : foldSubs (envOf r.vars) dims with
    | error err => rw [exec_dim_err hfi]; exact h
    | ok index =>
      cases hhas : alHas name r.arrays with
      | true => simp only [RStmt2.exec, hfi, hhas, ↓reduceIte]; exact h
      | false =>
        cases hcr : ArrayV.create (F := F) name index with
        | error err => simp only [RStmt2.exec, hfi, hhas, Bool.false_eq_true, ↓reduceIte, hcr]; exact h
        | ok a =>
          simp only [RStmt2.exec, hfi, hhas, Bool.false_eq_true, ↓reduceIte, hcr]
          exact ⟨ht, Props.C16.alSet_all ha (hP.create hcr)⟩
  | letCellS name idx e =>
    cases hfi : foldSubs (envOf r.vars) idx with
    | error err => rw [exec_letCell_err1 hfi]; exact h
    | ok index =>
      cases hev : foldE (envOf r.vars) e with
      | error err => rw [exec_letCell_err2 hfi hev]; exact h
      | ok v =>
        rw [exec_letCell hfi hev]
        cases hcs : storeCell name index v r.arrays with
        | error err => exact h
        | ok arrs => exact ⟨ht, storeCell_all hP hcs ha⟩

theorem exec2_inv (items : List (Nat × DataElement F)) (n j : Nat) {r : RState2 F} (h : RInv r) (s : RStmt2 F) :
    RInv (s.exec items n j r).1 :=
  have h' := exec2_keeps sized items n j h.typed h.arrs s
  ⟨h'.1, h'.2⟩

end Abasic.Stmt2L
