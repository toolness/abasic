import Abasic.Interp
import Abasic.Proofs.WalkAttr
/-
  A small Hoare-style framework for the evaluation monad `M F α = St F → Res F α`.

  `Respects R m` : every run of `m` (successful or failing) relates the initial
  and the final state by the transition relation `R`.  `R` is a *frame*:
  reflexive and transitive (`IsFrame R`).  `RespectsAt R m σ` is the same for
  one initial state; it is what lets a proof look through `let s ← get; … set
  { s with … }`.

  The structural rules are generic in `R`.  What the primitive operations do to the state is
  listed in Proofs/Step.lean, with the classes of frames that tolerate it; the induction over the
  evaluator itself is made in Proofs/Walk.lean, for any predicate on computations with such rules.
-/
namespace Abasic.Hoare
open Abasic M

variable {F : Type}

class IsFrame (R : St F → St F → Prop) : Prop where
  refl : ∀ σ, R σ σ
  trans : ∀ {a b c}, R a b → R b c → R a c

def RespectsAt {α : Type} (R : St F → St F → Prop) (m : M F α) (σ : St F) : Prop :=
  (∀ a σ', m σ = .ok a σ' → R σ σ') ∧ (∀ e σ', m σ = .err e σ' → R σ σ')

def Respects {α : Type} (R : St F → St F → Prop) (m : M F α) : Prop :=
  ∀ σ, (∀ a σ', m σ = .ok a σ' → R σ σ') ∧ (∀ e σ', m σ = .err e σ' → R σ σ')

section rules
variable {R : St F → St F → Prop} {α β : Type}

theorem Respects.at {m : M F α} (h : Respects R m) (σ : St F) : RespectsAt R m σ := h σ

theorem respects_of_at {m : M F α} (h : ∀ σ, RespectsAt R m σ) : Respects R m := h

theorem respectsAt_of_respects {m : M F α} {σ : St F} (h : Respects R m) : RespectsAt R m σ := h σ

theorem respectsAt_of_eq_ok {m : M F α} {σ σ' : St F} {a : α} (h : m σ = .ok a σ') (hr : R σ σ') :
    RespectsAt R m σ := by
  constructor
  · intro a' s' h'; rw [h] at h'; simp only [Res.ok.injEq] at h'; rw [← h'.2]; exact hr
  · intro e s' h'; rw [h] at h'; cases h'

theorem respectsAt_of_eq_err {m : M F α} {σ σ' : St F} {e : TErr} (h : m σ = .err e σ') (hr : R σ σ') :
    RespectsAt R m σ := by
  constructor
  · intro a' s' h'; rw [h] at h'; cases h'
  · intro e' s' h'; rw [h] at h'; simp only [Res.err.injEq] at h'; rw [← h'.2]; exact hr

theorem respects_pure [IsFrame R] (a : α) : Respects R (pure a : M F α) := by
  intro σ
  exact respectsAt_of_eq_ok (a := a) (σ' := σ) rfl (IsFrame.refl σ)

theorem respects_pureM [IsFrame R] (a : α) : Respects R (M.pureM a : M F α) := respects_pure a

theorem respects_fail [IsFrame R] (e : Err) : Respects R (M.fail e : M F α) := by
  intro σ
  exact respectsAt_of_eq_err (e := { err := e }) (σ' := σ) rfl (IsFrame.refl σ)

theorem respects_throw [IsFrame R] (e : TErr) : Respects R (M.throw e : M F α) := by
  intro σ
  exact respectsAt_of_eq_err (e := e) (σ' := σ) rfl (IsFrame.refl σ)

theorem respects_rpanic [IsFrame R] (site : String) : Respects R (M.rpanic site : M F α) := by
  intro σ
  exact respectsAt_of_eq_err (e := { err := .panic site }) (σ' := σ) rfl (IsFrame.refl σ)

theorem respects_get [IsFrame R] : Respects R (M.get : M F (St F)) := by
  intro σ
  exact respectsAt_of_eq_ok (a := σ) (σ' := σ) rfl (IsFrame.refl σ)

theorem respectsAt_bind [IsFrame R] {m : M F α} {f : α → M F β} {σ : St F}
    (hm : RespectsAt R m σ) (hf : ∀ a, Respects R (f a)) : RespectsAt R (m >>= f) σ := by
  show RespectsAt R (M.bindM m f) σ
  unfold RespectsAt M.bindM
  cases h : m σ with
  | ok a s =>
    have h1 := hm.1 a s h
    constructor
    · intro b s' h'; exact IsFrame.trans h1 ((hf a s).1 b s' h')
    · intro e s' h'; exact IsFrame.trans h1 ((hf a s).2 e s' h')
  | err e s =>
    have h1 := hm.2 e s h
    constructor
    · intro b s' h'; cases h'
    · intro e' s' h'
      simp only [Res.err.injEq] at h'
      rw [← h'.2]; exact h1

theorem respects_bind [IsFrame R] {m : M F α} {f : α → M F β}
    (hm : Respects R m) (hf : ∀ a, Respects R (f a)) : Respects R (m >>= f) :=
  fun σ => respectsAt_bind (hm σ) hf

theorem respects_modify {f : St F → St F} (h : ∀ σ, R σ (f σ)) : Respects R (M.modify f) := by
  intro σ
  exact respectsAt_of_eq_ok (a := ()) (σ' := f σ) rfl (h σ)

theorem respects_ite {c : Prop} [Decidable c] {t e : M F α}
    (ht : c → Respects R t) (he : ¬ c → Respects R e) : Respects R (if c then t else e) := by
  by_cases h : c
  · rw [if_pos h]; exact ht h
  · rw [if_neg h]; exact he h

/-! `match` on the usual scrutinees (the tactic uses `split`) -/

theorem respects_match_option {γ : Type} (o : Option γ) {n : M F α} {s : γ → M F α}
    (hn : o = none → Respects R n) (hs : ∀ x, o = some x → Respects R (s x)) :
    Respects R (match o with | none => n | some x => s x) := by
  cases o with
  | none => exact hn rfl
  | some x => exact hs x rfl

theorem respects_match_value (v : Value F) {fs : Str → M F α} {fn : F → M F α}
    (hs : ∀ x, v = .str x → Respects R (fs x)) (hn : ∀ x, v = .num x → Respects R (fn x)) :
    Respects R (match v with | .str x => fs x | .num x => fn x) := by
  cases v with
  | str x => exact hs x rfl
  | num x => exact hn x rfl

theorem respects_match_except {ε γ : Type} (r : Except ε γ) {fe : ε → M F α} {fo : γ → M F α}
    (he : ∀ e, r = .error e → Respects R (fe e)) (ho : ∀ x, r = .ok x → Respects R (fo x)) :
    Respects R (match r with | .error e => fe e | .ok x => fo x) := by
  cases r with
  | error e => exact he e rfl
  | ok x => exact ho x rfl

theorem respects_match_bool (b : Bool) {t e : M F α}
    (ht : b = true → Respects R t) (he : b = false → Respects R e) :
    Respects R (match b with | true => t | false => e) := by
  cases b with
  | true => exact ht rfl
  | false => exact he rfl

theorem respects_match_token_symbol (t : Option (Token F)) {fs : Str → M F α} {d : M F α}
    (hs : ∀ x, t = some (.symbol x) → Respects R (fs x)) (hd : Respects R d) :
    Respects R (match t with | some (.symbol x) => fs x | _ => d) := by
  split
  · exact hs _ rfl
  · exact hd

theorem respects_attempt [IsFrame R] {m : M F α} (hm : Respects R m) : Respects R (M.attempt m) := by
  intro σ
  unfold M.attempt
  cases h : m σ with
  | ok a s =>
    constructor
    · intro b s' h'; simp only [Res.ok.injEq] at h'; rw [← h'.2]; exact (hm σ).1 a s h
    · intro e s' h'; cases h'
  | err e s =>
    constructor
    · intro b s' h'; simp only [Res.ok.injEq] at h'; rw [← h'.2]; exact (hm σ).2 e s h
    · intro e s' h'; cases h'

theorem respects_ofExcept [IsFrame R] (r : Except TErr α) : Respects R (M.ofExcept r : M F α) := by
  cases r with
  | ok a => exact respects_pureM a
  | error e => exact respects_throw e

theorem respects_liftE [IsFrame R] (r : Except Err α) : Respects R (liftE r : M F α) := by
  cases r with
  | ok a => exact respects_pure a
  | error e => exact respects_fail e

theorem Respects.mono {R' : St F → St F → Prop} {m : M F α} (hsub : ∀ σ σ', R σ σ' → R' σ σ')
    (h : Respects R m) : Respects R' m :=
  fun σ => ⟨fun a s' e => hsub _ _ ((h σ).1 a s' e), fun a s' e => hsub _ _ ((h σ).2 a s' e)⟩

/-- the rule of consequence at one state -/
theorem Respects.post {Q : St F → Prop} {m : M F α} (h : Respects R m) (σ : St F)
    (hq : ∀ σ', R σ σ' → Q σ') : (∀ a σ', m σ = .ok a σ' → Q σ') ∧ (∀ e σ', m σ = .err e σ' → Q σ') :=
  ⟨fun a σ' hr => hq σ' ((h σ).1 a σ' hr), fun e σ' hr => hq σ' ((h σ).2 e σ' hr)⟩

/-- `postprocess` (`postprocess_result` in the Rust source) only changes `state`, and only on the error path -/
theorem respects_postprocess [IsFrame R] {m : M F α} (hidle : ∀ σ : St F, R σ { σ with state := .idle })
    (hm : Respects R m) : Respects R (postprocess m) := by
  intro σ
  unfold postprocess
  cases h : m σ with
  | ok a s =>
    constructor
    · intro b s' h'; simp only [Res.ok.injEq] at h'; rw [← h'.2]; exact (hm σ).1 a s h
    · intro e s' h'; cases h'
  | err e s =>
    constructor
    · intro b s' h'; cases h'
    · intro e' s' h'; simp only [Res.err.injEq] at h'; rw [← h'.2]
      exact IsFrame.trans ((hm σ).2 e s h) (hidle s)

theorem respects_get_bind {f : St F → M F β} (h : ∀ σ, RespectsAt R (f σ) σ) :
    Respects R (M.get >>= f) := h

theorem respectsAt_get_bind {f : St F → M F β} {σ : St F} (h : RespectsAt R (f σ) σ) :
    RespectsAt R (M.get >>= f) σ := h

theorem respectsAt_set {σ s : St F} (h : R σ s) : RespectsAt R (M.set s) σ :=
  respectsAt_of_eq_ok (a := ()) (σ' := s) rfl h

theorem respectsAt_modify {f : St F → St F} {σ : St F} (h : R σ (f σ)) : RespectsAt R (M.modify f) σ :=
  respectsAt_of_eq_ok (a := ()) (σ' := f σ) rfl h

theorem respectsAt_ite {c : Prop} [Decidable c] {t e : M F α} {σ : St F}
    (ht : c → RespectsAt R t σ) (he : ¬ c → RespectsAt R e σ) : RespectsAt R (if c then t else e) σ := by
  by_cases h : c
  · rw [if_pos h]; exact ht h
  · rw [if_neg h]; exact he h

end rules

/-- the state a run ends in, on either path -/
def _root_.Abasic.Res.final {α : Type} : Res F α → St F
  | .ok _ s => s
  | .err _ s => s

theorem final_bind {α β : Type} (m : M F α) (f : α → M F β) (σ : St F) :
    ((m >>= f) σ).final = match m σ with
      | .ok a s => (f a s).final
      | .err _ s => s := by
  show (M.bindM m f σ).final = _
  unfold M.bindM
  cases m σ <;> rfl

theorem Respects.final {R : St F → St F → Prop} {α : Type} {m : M F α} (h : Respects R m) (σ : St F) :
    R σ (m σ).final := by
  cases hr : m σ with
  | ok a s => exact (h σ).1 a s hr
  | err e s => exact (h σ).2 e s hr

theorem respects_of_final {R : St F → St F → Prop} {α : Type} {m : M F α}
    (h : ∀ σ, R σ (m σ).final) : Respects R m := by
  intro σ
  have key := h σ
  constructor
  · intro a s hs; rw [hs] at key; exact key
  · intro a s hs; rw [hs] at key; exact key

theorem tokens_state (σ : St F) : (tokens σ).final = σ := by
  unfold tokens tokensForLine
  cases σ.loc.line with
  | none => rfl
  | some n =>
    dsimp only
    cases σ.lines.get n <;> rfl

theorem ep_tokens {R : St F → St F → Prop} [IsFrame R] : Respects R (tokens (F := F)) :=
  respects_of_final fun σ => by rw [tokens_state]; exact IsFrame.refl σ

attribute [irreducible] Respects

attribute [walk] ep_tokens respects_pure respects_pureM respects_fail respects_throw respects_rpanic respects_ofExcept respects_liftE

/-! `respects_leaf` is extensible (`macro_rules`): it proves a side condition `R σ σ'` about explicit states. -/

syntax "respects_leaf" : tactic

macro_rules | `(tactic| respects_leaf) => `(tactic| exact IsFrame.refl _)

/-- one step: a hypothesis, a monad rule, a leaf of the monad or a lemma about the function called (looked up by
    the head among the `walk` lemmas), or a `split`; `intro` and the hypotheses at reducible transparency, so that the
    relation is never unfolded -/
macro "respects_step" : tactic => `(tactic| first
  | apply_assumption (transparency := .reducible) -exfalso -symm
  | with_reducible intro _
  | with_reducible apply respects_get_bind
  | with_reducible apply respectsAt_get_bind
  | with_reducible apply respects_bind
  | with_reducible apply respects_attempt
  | with_reducible apply respects_modify
  | with_reducible apply respectsAt_set
  | with_reducible apply respectsAt_modify
  | with_reducible apply respectsAt_bind
  | simp only [walk]
  | dsimp only
  | split
  | with_reducible apply respectsAt_of_respects
  | respects_leaf)

macro "respects_tac" : tactic => `(tactic| repeat' respects_step)


end Abasic.Hoare
