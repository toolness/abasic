import Abasic.Proofs.Data2Lemmas
/-
  The DATA items of a stored program of any statement type (Proofs/SeqLang.lean): the chunks
  `Lines.dataChunks` computes from a store that holds the program are the DATA statements of the program
  in program order — given only that the DATA items among the tokens of a statement are its `dataOf`.
-/
set_option linter.unusedSectionVars false

namespace Abasic.SeqL
open Abasic Abasic.Ref Abasic.ExprL Abasic.StmtL M
open Abasic.Prog2L (dataToks dataToks_append dataToks_cons_nodata flatItems flat_lineChunks flatItems_flatMap)

variable {F : Type} [NumOps F] {S : Type}

section
variable (L : Lang F S) (dataOf : S → List (DataElement F))

/-- the DATA chunks of a program, as `Lines.dataChunks` computes them from its store -/
def chunks (p : Prog S) : List (Loc × List (DataElement F)) :=
  p.flatMap fun l => Props.C03.lineChunks (l.1, L.rline l.2)

def allData (p : Prog S) : List (Nat × DataElement F) :=
  p.flatMap fun l => (l.2.flatMap dataOf).map fun d => (l.1, d)

end

variable {L : Lang F S} {dataOf : S → List (DataElement F)}

theorem holds_dataChunks {l : Lines F} {p : Prog S} (h : Holds L l p) (hwf : WF p) :
    l.dataChunks = some (chunks L p) := by
  unfold Lines.dataChunks chunks
  rw [holds_listTokens h hwf]
  simp only [Option.map_some, List.flatMap_map]
  rfl

theorem dataToks_tail (hdata : ∀ s, dataToks (L.render s) = dataOf s) (ss : List S) :
    dataToks (L.tail ss) = ss.flatMap dataOf := by
  induction ss with
  | nil => rw [L.tail_nil]; rfl
  | cons s rest ih =>
    rw [L.tail_cons, dataToks_cons_nodata _ rfl, dataToks_append, hdata, ih]
    rfl

theorem dataToks_line (hdata : ∀ s, dataToks (L.render s) = dataOf s) (ss : List S) :
    dataToks (L.rline ss) = ss.flatMap dataOf := by
  cases ss with
  | nil => rw [L.rline_nil]; rfl
  | cons s rest =>
    rw [L.rline_cons, dataToks_append, hdata, dataToks_tail hdata]
    rfl

theorem flat_chunks (hdata : ∀ s, dataToks (L.render s) = dataOf s) (p : Prog S) :
    flatItems (chunks L p) = (allData dataOf p).map fun x => (some x.1, x.2) := by
  unfold chunks allData
  rw [flatItems_flatMap, List.map_flatMap]
  congr 1
  funext l
  rw [flat_lineChunks, dataToks_line hdata, List.map_map]
  rfl

end Abasic.SeqL
