import Abasic.Proofs.Prims
import Abasic.Proofs.Step
/-
  Relation L (for C16): the FOR-loop stack stays within its cap.  The two
  operations that change it (`startLoop`, `endLoop`) are covered by `RNS`.
-/
namespace Abasic.Hoare
open Abasic M

variable {F : Type}

def RL (σ σ' : St F) : Prop :=
  σ.loops.length ≤ Extracted.stackLimit → σ'.loops.length ≤ Extracted.stackLimit

instance : IsFrame (RL (F := F)) where
  refl _ := id
  trans h1 h2 := fun h => h2 (h1 h)

theorem rns_sub_RL {σ σ' : St F} (h : RNS σ σ') : RL σ σ' := h.2.2

theorem rl_of_loops_eq {σ σ' : St F} (h : σ'.loops = σ.loops) : RL σ σ' := by
  intro hl; rw [h]; exact hl

theorem rl_of_loops_nil {σ σ' : St F} (h : σ'.loops = []) : RL σ σ' := by
  intro _; rw [h]; exact Nat.zero_le _

/-- none of the operations on nesting counter and stack touches the loops; the two resets empty them -/
instance : HostPrims (RL (F := F)) where
  sub := rns_sub_RL
  nested := nested_of_blind fun _ _ => rl_of_loops_eq rfl
  setImmediate _ := respects_modify fun _ => rl_of_loops_eq rfl
  gosubLine n := respects_of_final fun σ => by
    rw [gosubLine_eq]
    split
    · exact rl_of_loops_eq rfl
    · split <;> exact rl_of_loops_eq rfl
  returnFromGosub := respects_of_final fun σ => by
    rw [returnFromGosub_eq]
    cases σ.stack <;> exact rl_of_loops_eq rfl
  pushFunctionCall name b := respects_push b (fun _ _ _ => rl_of_loops_eq rfl) name
  popFunctionCall := respects_pop fun _ _ _ _ => rl_of_loops_eq rfl
  progBreak _ := rl_of_loops_eq rfl
  runFromFirst _ := rl_of_loops_nil (by rw [St.runFromFirst_eq]; rfl)
  setNumberedLine _ _ _ := rl_of_loops_nil rfl

end Abasic.Hoare
