import Abasic.Proofs.Stmt3Input
/-
  C03 / C08 — towards `BaseTurns` (defined in Props/C03Input.lean, proved in Props/C03InputAll.lean): the statement
  lemmas of Proofs/Stmt3*.lean for programs whose lines hold statements of
  Ref/Stmt3.lean AND `INPUT x` (`RProgramI`).

  A `ProgT` is an `RProgramI` together with the output emitted before the last reply was taken (`base`, newest
  first): `Mem3.out` is `σ.out = outRecs r.out ++ p.base` — the PRINT records of the reference state IN FRONT OF
  the older records.  `Mem3` is as in Stmt3Rel.lean, plus `input : σ.input = none` (no statement of
  Ref/Stmt3.lean touches a pending reply); the other relations are those of Proofs/Stmt3Input.lean (`HoldsI`,
  `AddrRelI`, …).  `view` is a `ProgT` as the statement lemmas see it (`ProgView`).

  What a `ProgT` needs beyond an `RProgram3`: an INPUT statement holds no DATA
  item (`dataToks_renderSI`), begins with a token that is neither `:` nor ELSE
  (`renderSI_head`): the two facts that make `Prog3I.lang` a language of numbered lines and its
  DATA chunks those of its statements.
-/
set_option linter.unusedSectionVars false

namespace Abasic.Stmt3T
open Abasic Abasic.Ref Abasic.ExprL Abasic.ExprL2 Abasic.StmtL Abasic.ProgL Abasic.Prog3L Abasic.Stmt3L M
open Abasic.Prog3I (HoldsI AddrRelI RetRelI LoopRelI DataRelI progChunksI preToksI renderSI_head)
open Abasic.Stmt3V (ProgView)
open Abasic.Prog2L (Rel2 dataToks flatItems)

variable {F : Type} [NumOps F]

structure ProgT (F : Type) where
  q : RProgramI F
  base : List Out

abbrev Holds (l : Lines F) (p : ProgT F) : Prop := HoldsI l p.q
abbrev AddrRel3 (p : ProgT F) (n j : Nat) (loc : Loc) : Prop := AddrRelI p.q n j loc
abbrev RetRel3 (p : ProgT F) (a : Nat × Nat) (f : Frame F) : Prop := RetRelI p.q a f
abbrev LoopRel3 (p : ProgT F) (l : RLoop F) (i : LoopInfo F) : Prop := LoopRelI p.q l i
abbrev progChunks3 (p : ProgT F) : List (Loc × List (DataElement F)) := progChunksI p.q
abbrev DataRel3 (p : ProgT F) (c : Nat) (d : Option (DataIter F)) : Prop := DataRelI p.q c d

structure Mem3 (p : ProgT F) (r : RState3 F) (σ : St F) : Prop where
  vars : σ.vars = r.vars
  arrays : σ.arrays = r.arrays
  rng : σ.rng = r.rng
  loops : Rel2 (LoopRel3 p) r.loops σ.loops
  stack : Rel2 (RetRel3 p) r.rets σ.stack
  data : DataRel3 p r.data σ.data
  out : σ.out = outRecs r.out ++ p.base
  fns : FnsLink σ r.fns
  fnLines : ∀ name fd, alGet name σ.fns = some fd → alGet name r.fnLines = some fd.line
  input : σ.input = none

structure Env3 (p : ProgT F) (σ : St F) : Prop where
  lines : Holds σ.lines p
  warnings : σ.warnings = false
  tracing : σ.tracing = false

theorem _root_.Abasic.Prog3L.Kept.envT {p : ProgT F} {σ σ' : St F} (h : Kept σ σ') (he : Env3 p σ) : Env3 p σ' :=
  ⟨by rw [h.lines]; exact he.lines, by rw [h.warnings]; exact he.warnings, by rw [h.tracing]; exact he.tracing⟩

theorem dataToks_renderSI (s : RStmtI F) : dataToks (renderSI s) = s.dataOf := by
  cases s with
  | base s => exact dataToks_renderS3 s
  | input t => cases t; rfl

/-- `σ'` differs from `σ` in the cursor, the counters and the run state only -/
structure Same (σ σ' : St F) : Prop where
  vars : σ'.vars = σ.vars
  arrays : σ'.arrays = σ.arrays
  rng : σ'.rng = σ.rng
  loops : σ'.loops = σ.loops
  stack : σ'.stack = σ.stack
  data : σ'.data = σ.data
  out : σ'.out = σ.out
  fns : σ'.fns = σ.fns
  lines : σ'.lines = σ.lines
  warnings : σ'.warnings = σ.warnings
  tracing : σ'.tracing = σ.tracing
  input : σ'.input = σ.input

theorem Same.refl (σ : St F) : Same σ σ := ⟨rfl, rfl, rfl, rfl, rfl, rfl, rfl, rfl, rfl, rfl, rfl, rfl⟩

theorem Same.trans {a b c : St F} (h1 : Same a b) (h2 : Same b c) : Same a c :=
  ⟨h2.vars.trans h1.vars, h2.arrays.trans h1.arrays, h2.rng.trans h1.rng, h2.loops.trans h1.loops,
   h2.stack.trans h1.stack, h2.data.trans h1.data, h2.out.trans h1.out, h2.fns.trans h1.fns,
   h2.lines.trans h1.lines, h2.warnings.trans h1.warnings, h2.tracing.trans h1.tracing, h2.input.trans h1.input⟩

/-- the model state `σ` realises the reference state `r` (cursor, counters and run state apart) -/
structure Sync (p : ProgT F) (r : RState3 F) (σ : St F) : Prop where
  wf : p.q.WF
  env : Env3 p σ
  mem : Mem3 p r σ
  inv : RInv3 r
  bodies : ∀ name d, alGet name r.fns = some d → Resolved r.fns d.body

/-- as `Stmt3L.Pos`, for `ProgT` -/
structure Pos (p : ProgT F) (σ : St F) (n j : Nat) (s : RStmt3 F) (pre rest : List (Token F))
    (after eol : Nat) : Prop where
  locline : σ.loc.line = some n
  cur : At σ pre (renderS3 s ++ rest)
  hafter : after = pre.length + (renderS3 s).length
  heol : eol = (pre ++ (renderS3 s ++ rest)).length
  addr : LineEnd3 rest → AddrRel3 p n (j + 1) { line := some n, idx := after }

theorem Pos.after_le {p : ProgT F} {σ : St F} {n j : Nat} {s : RStmt3 F} {pre rest : List (Token F)}
    {after eol : Nat} (h : Pos p σ n j s pre rest after eol) : after + rest.length = eol := by
  rw [h.hafter, h.heol]
  simp only [List.length_append]
  omega

def view (p : ProgT F) : ProgView F where
  Holds l := Holds l p
  Addr := AddrRel3 p
  data := allDataI p.q
  chunks := progChunks3 p
  base := p.base
  asks := true
  full := true

section view
variable {p : ProgT F} {r : RState3 F} {σ : St F}

theorem view_wf (hwf : p.q.WF) : (view p).WF :=
  ⟨fun hh ha => SeqL.addr_at (L := Prog3I.lang) hh.seq ha, fun h => SeqL.noElse hwf.seq h.seq,
    fun h => SeqL.holds_dataChunks h.seq hwf.seq, SeqL.flat_chunks (L := Prog3I.lang) dataToks_renderSI p.q⟩

theorem mem_view : Stmt3V.Mem3 (view p) r σ ↔ Mem3 p r σ :=
  ⟨fun h => ⟨h.vars, h.arrays, h.rng, h.loops, h.stack, h.data, h.out, h.fns, h.fnLines, h.input rfl⟩,
   fun h => ⟨h.vars, h.arrays, h.rng, h.loops, h.stack, h.data, h.out, h.fns, h.fnLines, fun _ => h.input⟩⟩

theorem Mem3.congr {p : ProgT F} {r : RState3 F} {σ σ' : St F} (h : Mem3 p r σ)
    (h1 : σ'.vars = σ.vars) (h2 : σ'.arrays = σ.arrays) (h3 : σ'.rng = σ.rng) (h4 : σ'.loops = σ.loops)
    (h5 : σ'.stack = σ.stack) (h6 : σ'.data = σ.data) (h7 : σ'.out = σ.out) (h8 : σ'.fns = σ.fns)
    (h9 : σ'.lines = σ.lines) (h10 : σ'.input = σ.input := by rfl) : Mem3 p r σ' :=
  mem_view.1 ((mem_view.2 h).congr h1 h2 h3 h4 h5 h6 h7 h8 h9 fun _ => h10)

theorem Sync.view (h : Sync p r σ) : Stmt3V.Sync (view p) r σ :=
  .ofInv (view_wf h.wf) ⟨h.env.lines, h.env.warnings, h.env.tracing⟩ (mem_view.2 h.mem) h.inv h.bodies

theorem sync_of_view (hwf : p.q.WF) (h : Stmt3V.Sync (view p) r σ) : Sync p r σ :=
  ⟨hwf, ⟨h.env.lines, h.env.warnings, h.env.tracing⟩, mem_view.1 h.mem, h.inv rfl, (h.exprs rfl).bodies⟩

theorem Pos.view {n j : Nat} {s : RStmt3 F} {pre rest : List (Token F)} {after eol : Nat}
    (h : Pos p σ n j s pre rest after eol) : Stmt3V.Pos (view p) σ n j s pre rest after eol :=
  ⟨h.locline, h.cur, h.hafter, h.heol, h.addr⟩

end view

end Abasic.Stmt3T
