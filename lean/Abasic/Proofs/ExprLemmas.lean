import Abasic.Proofs.ExprCursor
/-
  The side condition of Proofs/ExprLemmasG.lean for a state with an empty stack
  (main program level, the case `eval_render` is stated for), and the trees of
  `eval_render_stageA`.
-/
namespace Abasic.ExprL
open Abasic Abasic.Ref M

variable {F : Type} [NumOps F]

/-- as `ExprG.Quiet`, for an empty stack -/
def Quiet (σ : St F) : Prop := σ.stack = [] ∧ σ.warnings = false

omit [NumOps F] in
theorem Quiet.mv {σ : St F} (h : Quiet σ) (n r : Nat) : Quiet (ExprL.mv σ n r) := h
omit [NumOps F] in
theorem Quiet.nest {σ : St F} (h : Quiet σ) (k : Nat) : Quiet (ExprL.nest σ k) := h

/-- trees without unary operator and without ABS / INT (the restriction `eval_render_stageA` of
    Props/C02More.lean is stated for) -/
def StageA : Expr F → Prop
  | .num _ => True
  | .str _ => True
  | .var _ => True
  | .paren e => StageA e
  | .bin _ l r => StageA l ∧ StageA r
  | .un _ _ => False
  | .abs _ => False
  | .int _ => False

end Abasic.ExprL
