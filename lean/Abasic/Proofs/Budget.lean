import Abasic.Proofs.ArrayLemmas
import Abasic.Proofs.Cursor
import Abasic.Stmt
import Abasic.Proofs.WFAttr
/-
  Iteration budgets and recursion fuel are never the limit (helper for
  C01 / C05 / C20: Abasic/Props/C01Budget.lean, Abasic/Props/C05Total.lean).

  * `toks σ`, `cur σ`, `rem σ`: the tokens of the current line, the token under
    the cursor, the number of tokens left;
  * `Fr σ σ'`: the frame of everything that walks a line — same line, same
    program store and immediate line, cursor not moved back, same GOSUB/function
    stack, same nesting counter; `rem` does not grow along `Fr`;
  * `wp E m Q σ`: `m` from `σ` ends in `ok a σ'` with `Q a σ'`, or in an error
    `e`, state `σ'` with `E σ e σ'`.  Two error conditions are used:
    `NF d` (the error is not `outOfFuel`, provided `d ≤ nesting + 1` and
    `nesting ≤ nestingLimit`) for the interpreter, and `FrE` (the frame holds on
    the error path as well) for the analyzer;
  * `Sat E R m`: from every state, `wp` with the relation `R` as postcondition;
    `W E R σ0 m σ`: the same relative to a base state (the form the tactic
    `w_auto` works on);
  * `wp2`: `wp` for a pair of computations that moreover agree — one proof per
    loop gives both "the budget is not exhausted" and "the budget is irrelevant".
-/
namespace Abasic.Budget
open Abasic M

variable {F : Type}

/-- tokens of the current line (`none`: a numbered line that is not stored) -/
def toks (σ : St F) : Option (List (Token F)) :=
  match σ.loc.line with
  | none => some σ.imm
  | some n => σ.lines.get n

def cur (σ : St F) : Option (Token F) :=
  match toks σ with
  | some ts => ts[σ.loc.idx]?
  | none => none

def rem (σ : St F) : Nat :=
  match toks σ with
  | some ts => ts.length - σ.loc.idx
  | none => 0

structure Fr (σ σ' : St F) : Prop where
  line : σ'.loc.line = σ.loc.line
  lines : σ'.lines = σ.lines
  imm : σ'.imm = σ.imm
  idx : σ.loc.idx ≤ σ'.loc.idx
  stack : σ'.stack = σ.stack
  nesting : σ'.nesting = σ.nesting

theorem Fr.refl (σ : St F) : Fr σ σ := ⟨rfl, rfl, rfl, Nat.le_refl _, rfl, rfl⟩

/-- leaving a nested activation: the frame of the inner computation, with the counter put back -/
theorem Fr.unnest {σ σ' : St F} (h : Fr { σ with nesting := σ.nesting + 1 } σ') :
    Fr σ { σ' with nesting := σ.nesting } :=
  ⟨h.line, h.lines, h.imm, h.idx, h.stack, rfl⟩

theorem Fr.trans {a b c : St F} (h1 : Fr a b) (h2 : Fr b c) : Fr a c :=
  ⟨h2.line.trans h1.line, h2.lines.trans h1.lines, h2.imm.trans h1.imm, Nat.le_trans h1.idx h2.idx,
    h2.stack.trans h1.stack, h2.nesting.trans h1.nesting⟩

theorem Fr.upd {σ0 σ σ' : St F} (h : Fr σ0 σ) (h1 : σ'.loc.line = σ.loc.line) (h2 : σ'.lines = σ.lines)
    (h3 : σ'.imm = σ.imm) (h4 : σ.loc.idx ≤ σ'.loc.idx) (h5 : σ'.stack = σ.stack)
    (h6 : σ'.nesting = σ.nesting) : Fr σ0 σ' :=
  h.trans ⟨h1, h2, h3, h4, h5, h6⟩

theorem toks_congr {σ σ' : St F} (h1 : σ'.loc.line = σ.loc.line) (h2 : σ'.lines = σ.lines)
    (h3 : σ'.imm = σ.imm) : toks σ' = toks σ := by
  unfold toks
  rw [h1, h2, h3]

theorem Fr.toks {σ σ' : St F} (h : Fr σ σ') : toks σ' = toks σ := toks_congr h.line h.lines h.imm

theorem Fr.rem_le {σ σ' : St F} (h : Fr σ σ') : rem σ' ≤ rem σ := by
  unfold rem
  rw [h.toks]
  have := h.idx
  cases Budget.toks σ with
  | none => exact Nat.le_refl _
  | some ts => simp only; omega

def FrS (σ σ' : St F) : Prop := Fr σ σ' ∧ rem σ' < rem σ

theorem FrS.fr {σ σ' : St F} (h : FrS σ σ') : Fr σ σ' := h.1

theorem FrS.trans_fr {a b c : St F} (h1 : FrS a b) (h2 : Fr b c) : FrS a c :=
  ⟨h1.1.trans h2, Nat.lt_of_le_of_lt h2.rem_le h1.2⟩

theorem Fr.trans_frS {a b c : St F} (h1 : Fr a b) (h2 : FrS b c) : FrS a c :=
  ⟨h1.trans h2.1, Nat.lt_of_lt_of_le h2.2 h1.rem_le⟩

def adv (σ : St F) : St F := { σ with loc := { σ.loc with idx := σ.loc.idx + 1 } }

theorem fr_rd (σ : St F) : Fr σ (Cur.rd σ) := ⟨rfl, rfl, rfl, Nat.le_refl _, rfl, rfl⟩
theorem cur_rd (σ : St F) : cur (Cur.rd σ) = cur σ := rfl
theorem rem_rd (σ : St F) : rem (Cur.rd σ) = rem σ := rfl
theorem fr_adv (σ : St F) : Fr σ (adv σ) := ⟨rfl, rfl, rfl, Nat.le_succ _, rfl, rfl⟩

theorem cur_some_lt {σ : St F} {t : Token F} (h : cur σ = some t) : 0 < rem σ := by
  unfold cur at h
  unfold rem
  cases ht : toks σ with
  | none => rw [ht] at h; cases h
  | some ts =>
    rw [ht] at h
    have := (List.getElem?_eq_some_iff.mp h).1
    simp only
    omega

theorem frS_adv {σ : St F} (h : 0 < rem σ) : FrS σ (adv σ) := by
  refine ⟨fr_adv σ, ?_⟩
  have ht : toks (adv σ) = toks σ := rfl
  unfold rem at h ⊢
  rw [ht]
  cases hts : toks σ with
  | none => rw [hts] at h; exact absurd h (Nat.lt_irrefl 0)
  | some ts =>
    rw [hts] at h
    simp only at h ⊢
    show ts.length - (σ.loc.idx + 1) < ts.length - σ.loc.idx
    omega

/-- error postconditions: initial state, error, final state -/
abbrev EPost (F : Type) := St F → TErr → St F → Prop

def wp {α : Type} (E : EPost F) (m : M F α) (Q : α → St F → Prop) (σ : St F) : Prop :=
  match m σ with
  | .ok a σ' => Q a σ'
  | .err e σ' => E σ e σ'

def NF (d : Nat) : EPost F := fun σ e _ =>
  d ≤ σ.nesting + 1 → σ.nesting ≤ Extracted.nestingLimit → e.err ≠ .outOfFuel

def FrE : EPost F := fun σ _ σ' => Fr σ σ'

def SN (σ σ' : St F) : Prop := σ'.nesting = σ.nesting

theorem Fr.sn {σ σ' : St F} (h : Fr σ σ') : SN σ σ' := h.nesting

/-- an error condition and a transition relation that go together -/
class Compat (E : EPost F) (R : St F → St F → Prop) : Prop where
  refl : ∀ σ, R σ σ
  trans : ∀ {a b c}, R a b → R b c → R a c
  shift : ∀ {σ σ1 e s}, R σ σ1 → E σ1 e s → E σ e s
  fail : ∀ {σ0 σ e}, R σ0 σ → e.err ≠ .outOfFuel → E σ0 e σ

instance (d : Nat) : Compat (NF (F := F) d) Fr where
  refl := Fr.refl
  trans := Fr.trans
  shift := by
    intro σ σ1 e s h he h1 h2
    exact he (by rw [h.nesting]; exact h1) (by rw [h.nesting]; exact h2)
  fail := fun _ he _ _ => he

instance (d : Nat) : Compat (NF (F := F) d) SN where
  refl := fun _ => rfl
  trans := fun h1 h2 => Eq.trans h2 h1
  shift := by
    intro σ σ1 e s h he h1 h2
    have h : σ1.nesting = σ.nesting := h
    exact he (by rw [h]; exact h1) (by rw [h]; exact h2)
  fail := fun _ he _ _ => he

instance : Compat (FrE (F := F)) Fr where
  refl := Fr.refl
  trans := Fr.trans
  shift := fun h he => Fr.trans h he
  fail := fun h _ => h

section rules
variable {E : EPost F} {R : St F → St F → Prop} {α β : Type}

theorem wp_ok {m : M F α} {Q : α → St F → Prop} {σ σ' : St F} {a : α} (h : wp E m Q σ)
    (hm : m σ = .ok a σ') : Q a σ' := by
  unfold wp at h; rw [hm] at h; exact h

theorem wp_err {m : M F α} {Q : α → St F → Prop} {σ σ' : St F} {e : TErr} (h : wp E m Q σ)
    (hm : m σ = .err e σ') : E σ e σ' := by
  unfold wp at h; rw [hm] at h; exact h

theorem wp_mono {m : M F α} {P Q : α → St F → Prop} {σ : St F} (h : wp E m P σ)
    (hpq : ∀ a σ', P a σ' → Q a σ') : wp E m Q σ := by
  unfold wp at h ⊢
  cases hm : m σ with
  | ok a σ' => rw [hm] at h; exact hpq a σ' h
  | err e σ' => rw [hm] at h; exact h

theorem wp_pure {Q : α → St F → Prop} {σ : St F} {a : α} (h : Q a σ) : wp E (pure a : M F α) Q σ := h

theorem wp_pureM {Q : α → St F → Prop} {σ : St F} {a : α} (h : Q a σ) : wp E (M.pureM a : M F α) Q σ := h

theorem wp_bind [Compat E R] {m : M F α} {f : α → M F β} {P : α → St F → Prop} {Q : β → St F → Prop}
    {σ : St F} (hm : wp E m P σ) (hf : ∀ a σ1, P a σ1 → R σ σ1 ∧ wp E (f a) Q σ1) :
    wp E (m >>= f) Q σ := by
  show wp E (M.bindM m f) Q σ
  unfold wp M.bindM
  cases h : m σ with
  | ok a σ1 =>
    obtain ⟨hr, hw⟩ := hf a σ1 (wp_ok hm h)
    simp only
    cases h2 : f a σ1 with
    | ok b σ2 => exact wp_ok hw h2
    | err e σ2 => exact Compat.shift hr (wp_err hw h2)
  | err e σ1 => exact wp_err hm h

theorem wp_fail [Compat E R] {Q : α → St F → Prop} {σ : St F} {e : Err} (h : e ≠ .outOfFuel) :
    wp E (M.fail e : M F α) Q σ :=
  Compat.fail (R := R) (Compat.refl E σ) h

def Sat (E : EPost F) (R : St F → St F → Prop) (m : M F α) : Prop :=
  ∀ σ, wp E m (fun _ σ' => R σ σ') σ

def W (E : EPost F) (R : St F → St F → Prop) (σ0 : St F) (m : M F α) (σ : St F) : Prop :=
  R σ0 σ → match m σ with
    | .ok _ σ' => R σ0 σ'
    | .err e σ' => E σ0 e σ'

theorem Sat.of_W [Compat E R] {m : M F α} (h : ∀ σ, W E R σ m σ) : Sat E R m := by
  intro σ
  have := h σ (Compat.refl E σ)
  unfold wp
  cases hm : m σ with
  | ok a σ' => rw [hm] at this; exact this
  | err e σ' => rw [hm] at this; exact this

theorem W.of_sat [Compat E R] {m : M F α} {σ0 σ : St F} (h : Sat E R m) : W E R σ0 m σ := by
  intro hr
  have := h σ
  unfold wp at this
  cases hm : m σ with
  | ok a σ' => rw [hm] at this; exact Compat.trans E hr this
  | err e σ' => rw [hm] at this; exact Compat.shift hr this

theorem W.bind [Compat E R] {m : M F α} {f : α → M F β} {σ0 σ : St F} (hm : Sat E R m)
    (hf : ∀ a σ', W E R σ0 (f a) σ') : W E R σ0 (m >>= f) σ := by
  intro hr
  show match M.bindM m f σ with
    | .ok _ σ' => R σ0 σ'
    | .err e σ' => E σ0 e σ'
  have h1 := W.of_sat (σ0 := σ0) (σ := σ) hm hr
  unfold M.bindM
  cases h : m σ with
  | ok a σ1 =>
    rw [h] at h1
    exact hf a σ1 h1
  | err e σ1 =>
    rw [h] at h1
    exact h1

theorem W.pure {σ0 σ : St F} {a : α} : W E R σ0 (pure a : M F α) σ := fun h => h

theorem W.pureM {σ0 σ : St F} {a : α} : W E R σ0 (M.pureM a : M F α) σ := fun h => h

/-- an action that cannot fail, run by computation: `get`, `set`, `modify` -/
theorem W.run_bind {m : M F α} {f : α → M F β} {σ0 σ s : St F} {a : α} (hm : m σ = .ok a s)
    (h : R σ0 σ → R σ0 s) (hf : W E R σ0 (f a) s) : W E R σ0 (m >>= f) σ := by
  intro hr
  show match M.bindM m f σ with
    | .ok _ σ' => R σ0 σ'
    | .err e σ' => E σ0 e σ'
  unfold M.bindM
  rw [hm]
  exact hf (h hr)

theorem W.run {m : M F α} {σ0 σ s : St F} {a : α} (hm : m σ = .ok a s) (h : R σ0 σ → R σ0 s) :
    W E R σ0 m σ := by
  intro hr
  rw [hm]
  exact h hr

theorem W.fail [Compat E R] {σ0 σ : St F} {e : Err} (h : e ≠ .outOfFuel) : W E R σ0 (M.fail e : M F α) σ :=
  fun hr => Compat.fail hr h

theorem W.rpanic [Compat E R] {σ0 σ : St F} {site : String} : W E R σ0 (M.rpanic site : M F α) σ :=
  fun hr => Compat.fail (e := { err := .panic site }) hr (by intro h; cases h)

theorem W.throw [Compat E R] {σ0 σ : St F} {e : TErr} (h : e.err ≠ .outOfFuel) :
    W E R σ0 (M.throw e : M F α) σ :=
  fun hr => Compat.fail hr h

theorem Sat.mono {R' : St F → St F → Prop} {m : M F α} (h : Sat E R m) (hsub : ∀ σ σ', R σ σ' → R' σ σ') :
    Sat E R' m := fun σ => wp_mono (h σ) fun _ σ' hr => hsub σ σ' hr

theorem Sat.sn {m : M F α} (h : Sat E Fr m) : Sat E SN m := h.mono fun _ _ hr => hr.sn

theorem Sat.pure [Compat E R] (a : α) : Sat E R (pure a : M F α) := fun σ => Compat.refl E σ

theorem Sat.fail [Compat E R] {e : Err} (h : e ≠ .outOfFuel) : Sat E R (M.fail e : M F α) :=
  fun _ => wp_fail (R := R) h

theorem Sat.rpanic [Compat E R] (site : String) : Sat E R (M.rpanic site : M F α) :=
  fun σ => Compat.fail (R := R) (e := { err := .panic site }) (Compat.refl E σ) (by intro h; cases h)

theorem wp_bind_sat [Compat E R] {m : M F α} {f : α → M F β} {Q : β → St F → Prop} {σ : St F}
    (hm : Sat E R m) (hf : ∀ a σ1, R σ σ1 → wp E (f a) Q σ1) : wp E (m >>= f) Q σ :=
  wp_bind (R := R) (hm σ) fun a σ1 hr => ⟨hr, hf a σ1 hr⟩

theorem W.of_wp [Compat E R] {m : M F α} {σ0 σ : St F} (h : wp E m (fun _ σ' => R σ σ') σ) :
    W E R σ0 m σ := by
  intro hr
  unfold wp at h
  cases hm : m σ with
  | ok a σ' => rw [hm] at h; exact Compat.trans E hr h
  | err e σ' => rw [hm] at h; exact Compat.shift hr h

def wp2 (E : EPost F) (m1 m2 : M F α) (Q : α → St F → Prop) (σ : St F) : Prop :=
  m1 σ = m2 σ ∧ wp E m1 Q σ

theorem wp2_refl {m : M F α} {Q : α → St F → Prop} {σ : St F} (h : wp E m Q σ) : wp2 E m m Q σ := ⟨rfl, h⟩

theorem wp2_mono {m1 m2 : M F α} {P Q : α → St F → Prop} {σ : St F} (h : wp2 E m1 m2 P σ)
    (hpq : ∀ a σ', P a σ' → Q a σ') : wp2 E m1 m2 Q σ := ⟨h.1, wp_mono h.2 hpq⟩

theorem wp2_bind [Compat E R] {m : M F α} {f1 f2 : α → M F β} {P : α → St F → Prop} {Q : β → St F → Prop}
    {σ : St F} (hm : wp E m P σ) (hf : ∀ a σ1, P a σ1 → R σ σ1 ∧ wp2 E (f1 a) (f2 a) Q σ1) :
    wp2 E (m >>= f1) (m >>= f2) Q σ := by
  refine ⟨?_, wp_bind (R := R) hm fun a σ1 hp => ⟨(hf a σ1 hp).1, (hf a σ1 hp).2.2⟩⟩
  show M.bindM m f1 σ = M.bindM m f2 σ
  unfold M.bindM
  cases h : m σ with
  | ok a σ1 => exact (hf a σ1 (wp_ok hm h)).2.1
  | err e σ1 => rfl

/-- The fuel argument common to every budget loop `loop : fuel → x → M`.  If one more round of `loop n1`
    and of `loop n2` agree from `σ`, GIVEN that the loops themselves agree from every later state
    with fewer tokens left, then `loop n1` and `loop n2` agree from `σ` as soon as both fuels exceed
    the number of tokens left. -/
theorem fuel_wp2 {X : Type} {loop : Nat → X → M F β}
    (step : ∀ n1 n2 x σ,
      (∀ x' σ', Fr σ σ' → rem σ' < rem σ → wp2 E (loop n1 x') (loop n2 x') (fun _ σ'' => Fr σ σ'') σ') →
      wp2 E (loop (n1 + 1) x) (loop (n2 + 1) x) (fun _ σ' => Fr σ σ') σ) :
    ∀ n1 n2 x σ, rem σ < n1 → rem σ < n2 → wp2 E (loop n1 x) (loop n2 x) (fun _ σ' => Fr σ σ') σ := by
  intro n1
  induction n1 with
  | zero => intro n2 x σ h; omega
  | succ n1 ih =>
    intro n2 x σ h1 h2
    cases n2 with
    | zero => omega
    | succ n2 =>
      exact step n1 n2 x σ fun x' σ' hf hlt =>
        wp2_mono (ih n2 x' σ' (by omega) (by omega)) fun _ _ h => hf.trans h

end rules

def SatS {α : Type} (E : EPost F) (m : M F α) : Prop := ∀ σ, wp E m (fun _ σ' => FrS σ σ') σ

theorem SatS.sat {α : Type} {E : EPost F} {m : M F α} (h : SatS E m) : Sat E Fr m :=
  fun σ => wp_mono (h σ) fun _ _ hs => hs.1

theorem SatS.bind_left {α β : Type} {E : EPost F} [Compat E Fr] {m : M F α} {f : α → M F β}
    (hm : SatS E m) (hf : ∀ a, Sat E Fr (f a)) : SatS E (m >>= f) :=
  fun σ => wp_bind (R := Fr) (hm σ) fun a σ1 h1 =>
    ⟨h1.1, wp_mono (hf a σ1) fun _ _ h2 => h1.trans_fr h2⟩

theorem SatS.bind_right {α β : Type} {E : EPost F} [Compat E Fr] {m : M F α} {f : α → M F β}
    (hm : Sat E Fr m) (hf : ∀ a, SatS E (f a)) : SatS E (m >>= f) :=
  fun σ => wp_bind (R := Fr) (hm σ) fun a σ1 h1 =>
    ⟨h1, wp_mono (hf a σ1) fun _ _ h2 => h1.trans_frS h2⟩

/-- with the frame as error condition every error is fine -/
theorem W.fail_frE {α : Type} {σ0 σ : St F} {e : Err} : W FrE Fr σ0 (M.fail e : M F α) σ := fun hr => hr

section cursor
variable {E : EPost F} [Compat E Fr]

theorem sat_tokens : Sat E Fr (tokens (F := F)) := by
  intro σ
  unfold wp
  rw [Cur.tokens_eq]
  cases Cur.toks σ with
  | none => exact Compat.fail (R := Fr) (Fr.refl σ) (by intro h; cases h)
  | some ts => exact Fr.refl σ

theorem wp_curOp {α : Type} {f : Loc → Option (Token F) → Bool × Except TErr α} (hf : Cur.Op f) (σ : St F) :
    wp E (Cur.curOp f) (fun a σ' => ∃ mv, f σ.loc (cur σ) = (mv, .ok a) ∧
      σ' = (if mv then adv (Cur.rd σ) else Cur.rd σ) ∧ Fr σ σ' ∧ (mv = true → rem σ' < rem σ)) σ := by
  unfold wp
  cases ht : Cur.toks σ with
  | none =>
    rw [Cur.curOp_none f ht]
    exact Compat.fail (R := Fr) (fr_rd σ) (by intro h; cases h)
  | some ts =>
    have hc : cur σ = ts[σ.loc.idx]? := by
      have ht' : toks σ = some ts := ht
      unfold cur; rw [ht']
    rw [Cur.curOp_some f ht, ← hc]
    cases h : f σ.loc (cur σ) with
    | mk mv r =>
      have hst : Fr σ (if mv = true then adv (Cur.rd σ) else Cur.rd σ) ∧
          (mv = true → rem (if mv = true then adv (Cur.rd σ) else Cur.rd σ) < rem σ) := by
        cases mv with
        | false => exact ⟨fr_rd σ, fun h => by cases h⟩
        | true =>
          obtain ⟨t, htk⟩ := Option.isSome_iff_exists.mp (hf.some_of_step _ _ _ h)
          have := frS_adv (cur_some_lt (σ := Cur.rd σ) htk)
          exact ⟨(fr_rd σ).trans this.1, fun _ => this.2⟩
      cases r with
      | ok a => exact ⟨mv, rfl, rfl, hst.1, hst.2⟩
      | error e =>
        refine Compat.fail (R := Fr) hst.1 ?_
        rcases hf.err _ _ _ _ h with rfl | ⟨k, rfl⟩ <;> (intro h; cases h)

theorem wp_peek (σ : St F) : wp E peek (fun o σ' => σ' = Cur.rd σ ∧ o = cur σ) σ :=
  Cur.peek_eq ▸ wp_mono (wp_curOp Cur.op_peek σ) fun _ _ ⟨_, h, hσ, _⟩ => by cases h; exact ⟨hσ, rfl⟩

theorem sat_curOp {α : Type} {f : Loc → Option (Token F) → Bool × Except TErr α} (hf : Cur.Op f) :
    Sat E Fr (Cur.curOp f) := fun σ => wp_mono (wp_curOp hf σ) fun _ _ ⟨_, _, _, h, _⟩ => h

theorem sat_peek : Sat E Fr (peek (F := F)) := Cur.peek_eq ▸ sat_curOp Cur.op_peek

theorem advance_eq (σ : St F) : advance σ = .ok () (adv σ) := rfl

theorem wp_next (σ : St F) :
    wp E next (fun o σ' => Fr σ σ' ∧ o = cur σ ∧ (o ≠ none → rem σ' < rem σ)) σ :=
  Cur.next_eq ▸ wp_mono (wp_curOp Cur.op_next σ) fun _ _ ⟨_, h, _, hfr, hlt⟩ => by
    cases h; exact ⟨hfr, rfl, fun hne => hlt (Option.isSome_iff_ne_none.mpr hne)⟩

theorem sat_next : Sat E Fr (next (F := F)) := Cur.next_eq ▸ sat_curOp Cur.op_next

theorem wp_hasNext (σ : St F) : wp E hasNext (fun b σ' => σ' = Cur.rd σ ∧ b = (cur σ).isSome) σ :=
  Cur.hasNext_eq ▸ wp_mono (wp_curOp Cur.op_hasNext σ) fun _ _ ⟨_, h, hσ, _⟩ => by cases h; exact ⟨hσ, rfl⟩

theorem sat_hasNext : Sat E Fr (hasNext (F := F)) := Cur.hasNext_eq ▸ sat_curOp Cur.op_hasNext

theorem wp_nextUnwrapped (σ : St F) : wp E nextUnwrapped (fun _ σ' => FrS σ σ') σ :=
  Cur.nextUnwrapped_eq ▸ wp_mono (wp_curOp Cur.op_nextUnwrapped σ) fun _ _ ⟨_, h, _, hfr, hlt⟩ => by
    cases hc : cur σ <;> rw [hc] at h <;> cases h
    exact ⟨hfr, hlt rfl⟩

theorem sat_nextUnwrapped : Sat E Fr (nextUnwrapped (F := F)) :=
  Cur.nextUnwrapped_eq ▸ sat_curOp Cur.op_nextUnwrapped

theorem wp_expect (k : Kw) (σ : St F) : wp E (expect k) (fun _ σ' => FrS σ σ') σ :=
  Cur.expect_eq k ▸ wp_mono (wp_curOp (Cur.op_expect k) σ) fun _ _ ⟨mv, h, _, hfr, hlt⟩ => by
    cases hc : cur σ with
    | none => rw [hc] at h; cases (Prod.mk.inj h).2
    | some t => rw [hc] at h; cases (Prod.mk.inj h).1; exact ⟨hfr, hlt rfl⟩

theorem sat_expect (k : Kw) : Sat E Fr (expect (F := F) k) := Cur.expect_eq k ▸ sat_curOp (Cur.op_expect k)

theorem wp_accept (k : Kw) (σ : St F) :
    wp E (accept k) (fun b σ' => Fr σ σ' ∧ (b = true → rem σ' < rem σ)) σ :=
  Cur.accept_eq k ▸ wp_mono (wp_curOp (Cur.op_accept k) σ) fun b _ ⟨mv, h, _, hfr, hlt⟩ => by
    refine ⟨hfr, fun hb => hlt ?_⟩
    subst hb
    cases hc : cur σ <;> rw [hc] at h
    · cases h
    · dsimp only [Cur.acceptF] at h; split at h <;> cases h; rfl

theorem sat_accept (k : Kw) : Sat E Fr (accept (F := F) k) := Cur.accept_eq k ▸ sat_curOp (Cur.op_accept k)

theorem sat_peekIsKw (k : Kw) : Sat E Fr (peekIsKw (F := F) k) :=
  Cur.peekIsKw_eq k ▸ sat_curOp (Cur.op_peekIsKw k)

theorem wp_tryNext {γ : Type} (f : Token F → Option γ) (σ : St F) :
    wp E (tryNext f) (fun o σ' => Fr σ σ' ∧ (o ≠ none → rem σ' < rem σ)) σ :=
  Cur.tryNext_eq f ▸ wp_mono (wp_curOp (Cur.op_tryNext f) σ) fun o _ ⟨mv, h, _, hfr, hlt⟩ => by
    refine ⟨hfr, fun ho => hlt ?_⟩
    dsimp only [Cur.tryNextF] at h
    split at h <;> cases h
    · rfl
    · exact absurd rfl ho

theorem sat_tryNext {γ : Type} (f : Token F → Option γ) : Sat E Fr (tryNext f) :=
  Cur.tryNext_eq f ▸ sat_curOp (Cur.op_tryNext f)

theorem wp_lineBudget (σ : St F) : wp E lineBudget (fun b σ' => σ' = σ ∧ rem σ < b) σ := by
  unfold wp rem
  rw [Cur.lineBudget_eq, show Cur.toks σ = toks σ from rfl]
  cases toks σ with
  | none => exact Compat.fail (R := Fr) (Fr.refl σ) (by intro h; cases h)
  | some ts => exact ⟨rfl, by simp only; omega⟩

/-- `lineBudget` stays where it is and hands out more than the tokens that remain -/
theorem wp_lineBudget_bind {β : Type} {f : Nat → M F β} {Q : β → St F → Prop} {σ : St F}
    (h : ∀ b, rem σ < b → wp E (f b) Q σ) : wp E (lineBudget >>= f) Q σ :=
  wp_bind (R := Fr) (wp_lineBudget σ) fun b σ1 hb => by
    obtain ⟨rfl, hb⟩ := hb
    exact ⟨Fr.refl _, h b hb⟩

theorem sat_lineBudget : Sat E Fr (lineBudget (F := F)) :=
  fun σ => wp_mono (wp_lineBudget σ) fun _ _ h => h.1 ▸ Fr.refl σ

end cursor

/-! ### the tactic

  `w_auto` works on goals `W E R σ0 m σ` and goes by the shape of `m`.  A bind `m >>= f` needs
  `Sat E R m`: the lemma of the function called (tagged `sat`, or a hypothesis) is found by `simp` from the
  head of `m`, `Sat.sn` (in the set) letting a lemma for `Fr` serve at `SN`; where nothing is found, `m` is
  `get`, `set` or `modify` and is run (`W.run_bind`).  Then `if` and `match`.  What is left is a leaf: a call,
  `pure` and `rpanic` are looked up like a bound action, an error has to be another than `outOfFuel`
  (a constructor, or `w_err`), a state update is run (`W.run`); `w_leaf` shows that a new state is in `R`.
  `lineBudget` is not in the set: what a loop does depends on the budget handed out, so
  `lineBudget >>= loop` is looked up as a whole (`sat_ifSkip`). -/

attribute [sat] Sat.sn Sat.pure Sat.rpanic sat_peek sat_tokens sat_next sat_hasNext sat_nextUnwrapped sat_expect
  sat_accept sat_peekIsKw sat_tryNext

/-- `R σ0 σ → R σ0 s` for the `s` of an update: the same statement once unfolded (`SN`), or field by field (`Fr`) -/
macro "w_leaf" : tactic => `(tactic| (intro h; first
  | apply h
  | exact Fr.upd h rfl rfl rfl (Nat.le_refl _) rfl rfl))

macro "w_prim" : tactic => `(tactic| focus (simp only [sat, *]; done))

/-- the error of a pure helper, by its lemma -/
syntax "w_err" : tactic

macro "w_step" : tactic => `(tactic| first
  | ((with_reducible refine W.bind ?_ ?_); w_prim; intro _ _)
  | ((with_reducible apply W.run_bind); exact rfl; w_leaf; try dsimp only)
  | split
  | ((with_reducible refine W.of_sat ?_); w_prim)
  | ((with_reducible refine W.fail ?_); first | (intro h; cases h; done) | w_err)
  | ((with_reducible apply W.run); exact rfl; w_leaf)
  | dsimp only)

macro "w_auto" : tactic => `(tactic| repeat' w_step)

/-- start a `Sat` proof for a definition: unfold it first, then `sat_start; w_auto` -/
macro "sat_start" : tactic => `(tactic| (refine Sat.of_W (fun σ => ?_)))

theorem wp_next_then {E : EPost F} [Compat E Fr] {β : Type} {f : Option (Token F) → M F β}
    (hf : ∀ o, Sat E Fr (f o)) (σ : St F) :
    wp E (next >>= f) (fun _ σ' => Fr σ σ' ∧ (cur σ ≠ none → rem σ' < rem σ)) σ := by
  refine wp_bind (R := Fr) (wp_next σ) ?_
  rintro o σ1 ⟨hf1, ho, hlt1⟩
  refine ⟨hf1, wp_mono (hf o σ1) ?_⟩
  intro _ σ2 hf2
  refine ⟨hf1.trans hf2, fun hc => ?_⟩
  have := hlt1 (by rw [ho]; exact hc)
  have := hf2.rem_le
  omega

section prims
variable {E : EPost F} [Compat E Fr]

omit [Compat E Fr] in
theorem sat_liftE {α : Type} {R : St F → St F → Prop} [Compat E R] (r : Except Err α)
    (h : ∀ e, r = .error e → e ≠ .outOfFuel) : Sat E R (liftE r : M F α) := by
  cases r with
  | ok a => exact Sat.pure a
  | error e => exact Sat.fail (h e rfl)

@[sat] theorem sat_emit (o : Out) : Sat E Fr (emit (F := F) o) := by
  unfold emit; sat_start; w_auto

@[sat] theorem sat_warn (msg : Str) : Sat E Fr (warn (F := F) msg) := by
  unfold warn; sat_start; w_auto

@[sat] theorem sat_warnUndeclaredArray (name : Str) : Sat E Fr (warnUndeclaredArray (F := F) name) := by
  unfold warnUndeclaredArray; sat_start; w_auto

@[sat] theorem sat_setVar (name : Str) (v : Value F) : Sat E Fr (setVar name v) := by
  unfold setVar; sat_start; w_auto

@[sat] theorem sat_defineFunction (name : Str) (args : List Str) : Sat E Fr (defineFunction (F := F) name args) := by
  unfold defineFunction; sat_start; w_auto

@[sat] theorem sat_startLoop (sym : Str) (a b c : F) : Sat E Fr (startLoop sym a b c) := by
  unfold startLoop
  sat_start
  refine W.run_bind rfl ?_ ?_
  · intro h
    dsimp only
    split
    · exact Fr.upd h rfl rfl rfl (Nat.le_refl _) rfl rfl
    · exact h
  · w_auto

@[sat] theorem sat_nextDataElement : Sat E Fr (nextDataElement (F := F)) := by
  unfold nextDataElement; sat_start; w_auto

theorem create_err [NumOps F] {name : Str} {idx : List Nat} {e : Err}
    (h : ArrayV.create (F := F) name idx = .error e) : e ≠ .outOfFuel := by
  rcases ArrayL.create_err h with rfl | rfl <;> (intro h; cases h)

theorem linearIndex_err {idx dims : List Nat} {e : Err} (h : linearIndex idx dims = .error e) :
    e ≠ .outOfFuel := by
  rw [ArrayL.linearIndex_err h]; intro h; cases h

macro_rules | `(tactic| w_err) => `(tactic| exact create_err (by assumption))
macro_rules | `(tactic| w_err) => `(tactic| exact linearIndex_err (by assumption))

variable [NumOps F]

@[sat] theorem sat_ensureArray (name : Str) (k : Nat) : Sat E Fr (ensureArray (F := F) name k) := by
  unfold ensureArray; sat_start; w_auto

@[sat] theorem sat_arrayGet (name : Str) (idx : List Nat) : Sat E Fr (arrayGet (F := F) name idx) := by
  unfold arrayGet; sat_start; w_auto

@[sat] theorem sat_arraySet (name : Str) (idx : List Nat) (v : Value F) : Sat E Fr (arraySet name idx v) := by
  unfold arraySet; sat_start; w_auto

@[sat] theorem sat_arrayCreate (name : Str) (idx : List Nat) : Sat E Fr (arrayCreate (F := F) name idx) := by
  unfold arrayCreate; sat_start; w_auto

@[sat] theorem sat_rnd (x : F) : Sat E Fr (rnd x) := by
  unfold rnd
  sat_start
  refine W.run_bind rfl id ?_
  split
  · w_auto
  · split
    · w_auto
    · dsimp only
      split
      · exact W.rpanic
      · exact W.run_bind rfl (fun h => Fr.upd h rfl rfl rfl (Nat.le_refl _) rfl rfl) W.pure

@[sat] theorem sat_takeInput : Sat E Fr (takeInput (F := F)) := by
  unfold takeInput; sat_start; w_auto

omit [NumOps F] in
@[sat] theorem sat_traceHere : Sat E Fr (traceHere (F := F)) := by
  unfold traceHere; sat_start; w_auto

end prims

end Abasic.Budget
