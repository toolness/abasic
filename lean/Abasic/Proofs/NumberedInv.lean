import Abasic.Proofs.ExprFrame
import Abasic.Proofs.Transparency
import Abasic.Proofs.Turn
/-
  The invariant behind C07 `run_numbered`:

    Live κ σ — the cursor is in a numbered line, (for `κ = True`) no breakpoint is pending, every
              return address on the GOSUB / function stack and every FOR loop
              start is in a numbered line;
    Dead σ  — the cursor is on the EMPTY immediate line (what END, STOP and
              running off the end of the program leave), return addresses and
              loop starts numbered.

  From a `Live` state every statement leads to a `Live` or a `Dead` state
  (`J κ σ` = `Live κ σ ∨ Dead σ`; `SP`); from a `Dead` state nothing can be executed.  `G κ σ`
  (`Live κ σ`, or `Dead σ` and idle) is preserved by every `continue_evaluating` /
  `provide_input` turn and established by RUN.
-/
set_option linter.unusedSectionVars false

namespace Abasic.Proofs.NumInv
open Abasic Abasic.Hoare Abasic.Proofs.XF M

variable {F : Type} [NumOps F]

def StackNum (σ : St F) : Prop := σ.stack.all (fun f => f.ret.line.isSome) = true
def LoopsNum (σ : St F) : Prop := σ.loops.all (fun l => l.loc.line.isSome) = true

def Live (κ : Prop) (σ : St F) : Prop :=
  σ.loc.line.isSome = true ∧ (κ → σ.bp = none) ∧ StackNum σ ∧ LoopsNum σ

def Dead (σ : St F) : Prop :=
  σ.loc.line = none ∧ σ.imm = [] ∧ StackNum σ ∧ LoopsNum σ

def J (κ : Prop) (σ : St F) : Prop := Live κ σ ∨ Dead σ

def G (κ : Prop) (σ : St F) : Prop := Live κ σ ∨ (Dead σ ∧ σ.state = .idle)

variable {κ : Prop}

theorem g_j {σ : St F} (h : G κ σ) : J κ σ := h.elim Or.inl (fun h => Or.inr h.1)

def RLive (κ : Prop) (σ σ' : St F) : Prop := Live κ σ → Live κ σ'
def R2 (κ : Prop) (σ σ' : St F) : Prop := (Live κ σ → Live κ σ') ∧ (Dead σ → Dead σ')
def RJ (κ : Prop) (σ σ' : St F) : Prop := J κ σ → J κ σ'

instance : IsFrame (RLive (F := F) κ) where
  refl _ := id
  trans h1 h2 := fun h => h2 (h1 h)

instance : IsFrame (R2 (F := F) κ) where
  refl _ := ⟨id, id⟩
  trans h1 h2 := ⟨fun h => h2.1 (h1.1 h), fun h => h2.2 (h1.2 h)⟩

instance : IsFrame (RJ (F := F) κ) where
  refl _ := id
  trans h1 h2 := fun h => h2 (h1 h)

theorem rx_sub_rlive {σ σ' : St F} (h : RX σ σ') : RLive κ σ σ' := by
  intro hl
  unfold Live StackNum LoopsNum at *
  rw [h.line, h.bp, h.stack, h.loops]
  exact hl

theorem rx_sub_r2 {σ σ' : St F} (h : RX σ σ') : R2 κ σ σ' := by
  refine ⟨rx_sub_rlive h, fun hd => ?_⟩
  unfold Dead StackNum LoopsNum at *
  rw [h.line, h.imm, h.stack, h.loops]
  exact hd

theorem r2_sub_rj {σ σ' : St F} (h : R2 κ σ σ') : RJ κ σ σ' :=
  fun hj => hj.elim (fun x => Or.inl (h.1 x)) (fun x => Or.inr (h.2 x))

theorem r2_sub_rlive {σ σ' : St F} (h : R2 κ σ σ') : RLive κ σ σ' := h.1

theorem rl_of_rx {α : Type} {m : M F α} (h : Respects RX m) : Respects (RLive κ) m :=
  h.mono fun _ _ => rx_sub_rlive

theorem r2_of_rx {α : Type} {m : M F α} (h : Respects RX m) : Respects (R2 κ) m :=
  h.mono fun _ _ => rx_sub_r2

/-! ### `RLive κ` is a frame of every statement but END and STOP -/

theorem rl_cstep {σ σ' : St F} (h : CStep σ σ') : RLive κ σ σ' := by
  cases h <;> exact fun hl => ⟨hl.1, hl.2.1, hl.2.2.1, hl.2.2.2⟩

theorem Live.inv {σ : St F} (hl : Live κ σ) : Sim.Inv σ := ⟨hl.1, hl.2.2.1, hl.2.2.2⟩

theorem live_of_inv {σ : St F} (hi : Sim.Inv σ) (hb : κ → σ.bp = none) : Live κ σ := ⟨hi.1, hb, hi.2.1, hi.2.2⟩

/-- `Live κ` is `Sim.Inv` and the breakpoint clause: the first is kept by every statement (`Sim.RI`), and the
    breakpoint is only ever cleared -/
instance : StmtFrame (RLive (F := F) κ) where
  vstep h := by cases h <;> exact fun hl => ⟨hl.1, hl.2.1, hl.2.2.1, hl.2.2.2⟩
  cstep := rl_cstep
  nested := nested_of_blind fun _ _ hl => ⟨hl.1, hl.2.1, hl.2.2.1, hl.2.2.2⟩
  call := call_of_push_pop rl_cstep
    (fun σ b d _ hl => live_of_inv (hl.inv.push b d.line d.idx σ.bp) hl.2.1)
    (fun σ f rest hs hl => live_of_inv (hl.inv.pop hs σ.bp) hl.2.1)
  idx _ _ _ := fun hl => ⟨hl.1, hl.2.1, hl.2.2.1, hl.2.2.2⟩
  dstep h hl := live_of_inv (Sim.ri_dstep h hl.inv) (by cases h <;> exact hl.2.1)
  gstep h hl := live_of_inv (Sim.ri_gstep h hl.inv) (by
    cases h with
    | clearBp => exact fun _ => rfl
    | gosub n hc hh => exact fun _ => rfl
    | ret f rest hs => exact fun _ => rfl
    | _ => exact hl.2.1)

theorem rl_traceHere : Respects (RLive κ) (traceHere (F := F)) := by
  unfold traceHere
  have : ∀ o, Respects (RLive κ) (emit (F := F) o) :=
    fun o => respects_modify fun _ hl => ⟨hl.1, hl.2.1, hl.2.2.1, hl.2.2.2⟩
  respects_tac

theorem rl_gotoStatement : Respects (RLive κ) (gotoStatement (F := F)) := walk_gotoStatement (StmtFrame.walk (RLive κ))


/-! ### statements that may end the run: `Live κ` to `Live κ ∨ Dead` -/

def SP (κ : Prop) {α : Type} (m : M F α) : Prop := ∀ σ, Live κ σ → J κ (m σ).final

theorem sp_of_rlive {α : Type} {m : M F α} (h : Respects (RLive κ) m) : SP κ m :=
  fun σ hl => Or.inl (h.final σ hl)

theorem sp_bind {α β : Type} {m : M F α} {f : α → M F β} (hm : Respects (RLive κ) m) (hf : ∀ a, SP κ (f a)) :
    SP κ (m >>= f) := by
  intro σ hl
  rw [final_bind]
  have h1 := hm.final σ hl
  cases hr : m σ with
  | ok a s => rw [hr] at h1; exact hf a s h1
  | err e s => rw [hr] at h1; exact Or.inl h1

theorem sp_bind_j {α β : Type} {m : M F α} {f : α → M F β} (hm : SP κ m) (hf : ∀ a, Respects (RJ κ) (f a)) :
    SP κ (m >>= f) := by
  intro σ hl
  rw [final_bind]
  have h1 := hm σ hl
  cases hr : m σ with
  | ok a s => rw [hr] at h1; exact (hf a).final s h1
  | err e s => rw [hr] at h1; exact h1

theorem sp_ite {α : Type} {c : Prop} [Decidable c] {t e : M F α} (ht : SP κ t) (he : SP κ e) :
    SP κ (if c then t else e) := by
  by_cases h : c
  · rw [if_pos h]; exact ht
  · rw [if_neg h]; exact he

theorem sp_pure {α : Type} (a : α) : SP κ (pure a : M F α) := sp_of_rlive (respects_pure a)

theorem sp_attempt {α : Type} {m : M F α} (hm : SP κ m) : SP κ (M.attempt m) := by
  intro σ hl
  have h1 := hm σ hl
  unfold M.attempt
  cases hr : m σ with
  | ok a s => rw [hr] at h1; exact h1
  | err e s => rw [hr] at h1; exact h1

/-! the glue that runs after a statement that may have ended the run -/

theorem r2_peek : Respects (R2 κ) (peek (F := F)) := r2_of_rx fr_peek
theorem r2_peekIsKw (k : Kw) : Respects (R2 κ) (peekIsKw (F := F) k) :=
  r2_of_rx (fr_peekIsKw k)
theorem r2_hasNext : Respects (R2 κ) (hasNext (F := F)) := r2_of_rx fr_hasNext
theorem r2_discardRemaining : Respects (R2 κ) (discardRemaining (F := F)) :=
  r2_of_rx rx_discardRemaining
theorem r2_exitNested : Respects (R2 κ) (exitNested (F := F)) := r2_of_rx (exitNested_of_blind fun _ _ => rx_same rfl rfl rfl rfl rfl rfl rfl rfl rfl rfl rfl rfl rfl rfl)

theorem rj_of_r2 {α : Type} {m : M F α} (h : Respects (R2 κ) m) : Respects (RJ κ) m :=
  Respects.mono (fun _ _ => r2_sub_rj) h

theorem stackNum_setImmediate (σ : St F) (ts : List (Token F)) (h : StackNum σ) :
    StackNum (σ.setImmediate ts) := by
  unfold StackNum St.setImmediate at *
  dsimp only
  split
  · rfl
  · exact h

theorem dead_setImmediate (σ : St F) (h : J κ σ) : Dead (σ.setImmediate []) := by
  have hs : StackNum σ := h.elim (fun h => h.2.2.1) (fun h => h.2.2.1)
  have hlp : LoopsNum σ := h.elim (fun h => h.2.2.2) (fun h => h.2.2.2)
  exact ⟨rfl, rfl, stackNum_setImmediate σ [] hs, hlp⟩

theorem rj_setImmediate_nil : Respects (RJ κ) (setImmediate (F := F) []) := by
  unfold setImmediate
  apply respects_modify
  intro σ hj
  exact Or.inr (dead_setImmediate σ hj)

theorem sp_setImmediate_nil : SP κ (setImmediate (F := F) []) :=
  fun σ hl => Or.inr (dead_setImmediate σ (Or.inl hl))

theorem dead_progBreak (σ : St F) (h : J κ σ) : Dead σ.progBreak := by
  have hs : StackNum σ := h.elim (fun h => h.2.2.1) (fun h => h.2.2.1)
  have hlp : LoopsNum σ := h.elim (fun h => h.2.2.2) (fun h => h.2.2.2)
  unfold St.progBreak
  exact ⟨rfl, rfl, stackNum_setImmediate _ [] hs, hlp⟩

theorem sp_breakAtCurrentLocation : SP κ (breakAtCurrentLocation (F := F)) := by
  intro σ hl
  refine Or.inr (dead_progBreak (κ := κ) _ (Or.inl ?_))
  exact hl

theorem sp_nested {α : Type} {m : M F α} (hm : SP κ m) : SP κ (nested m) := by
  unfold nested
  refine sp_bind (rl_of_rx (enterNested_of_blind fun _ _ => rx_same rfl rfl rfl rfl rfl rfl rfl rfl rfl rfl rfl rfl rfl rfl)) fun _ => ?_
  refine sp_bind_j (sp_attempt hm) fun r => ?_
  exact respects_bind (rj_of_r2 r2_exitNested) fun _ => respects_ofExcept r

section stmts2
variable (ev : Evals F) (hx : Respects RX ev.expr) (hs : SP κ ev.stmt)
include hs

theorem sp_statementOrGoto : SP κ (statementOrGoto ev) := by
  unfold statementOrGoto
  refine sp_bind (rl_of_rx fr_peek) fun t => ?_
  split
  · exact sp_of_rlive rl_gotoStatement
  · exact sp_nested hs

theorem sp_ifSkipLoop (n : Nat) : SP κ (ifSkipLoop ev n) := by
  induction n with
  | zero => unfold ifSkipLoop; exact sp_of_rlive (respects_fail _)
  | succ n ih =>
    unfold ifSkipLoop
    refine sp_bind (rl_of_rx fr_next) fun t => ?_
    cases t with
    | none => exact sp_pure _
    | some t =>
      dsimp only
      refine sp_ite ?_ (sp_ite (sp_statementOrGoto ev hs) ih)
      exact sp_bind (rl_of_rx rx_discardRemaining) fun _ => ih

include hx

theorem sp_ifStatement : SP κ (ifStatement ev) := by
  unfold ifStatement
  refine sp_bind (rl_of_rx hx) fun c => ?_
  refine sp_bind (rl_of_rx (fr_expect _)) fun _ => ?_
  refine sp_ite ?_ ?_
  · refine sp_bind_j (sp_statementOrGoto ev hs) fun _ => ?_
    refine respects_bind (rj_of_r2 (r2_peekIsKw _)) fun b => ?_
    exact respects_ite (fun _ => rj_of_r2 r2_discardRemaining) (fun _ => respects_pure _)
  · exact sp_bind (rl_of_rx fr_lineBudget) fun b => sp_ifSkipLoop ev hs b

theorem sp_dispatch : SP κ (dispatch ev) := by
  rw [Indep.dispatch_eq]
  refine sp_bind (rl_of_rx fr_next) fun t => ?_
  by_cases hif : t = some (.kw .If)
  · rw [hif, Indep.dispatchK_if]; exact sp_ifStatement ev hx hs
  by_cases hend : t = some (.kw .End)
  · rw [hend]; exact sp_setImmediate_nil
  by_cases hstop : t = some (.kw .Stop)
  · rw [hstop]; exact sp_breakAtCurrentLocation
  exact sp_of_rlive (fr_dispatchK ev (rl_of_rx hx) t hif hend hstop)

theorem sp_stmtBody : SP κ (stmtBody ev) := by
  unfold stmtBody
  exact sp_bind rl_traceHere fun _ => sp_dispatch ev hx hs

end stmts2

theorem sp_evalN_stmt (n : Nat) : SP κ (evalN (F := F) n).stmt := by
  induction n with
  | zero => exact sp_of_rlive (respects_fail _)
  | succ n ih => exact sp_stmtBody _ (rx_evalN_expr n) ih

theorem sp_stmtBody_evalN (n : Nat) : SP κ (stmtBody (evalN (F := F) n)) :=
  sp_stmtBody _ (rx_evalN_expr n) (sp_evalN_stmt n)

def Post {α : Type} (r : Res F α) (Q : α → St F → Prop) (E : St F → Prop) : Prop :=
  match r with
  | .ok a s => Q a s
  | .err _ s => E s

theorem post_bind {α β : Type} {m : M F α} {f : α → M F β} {σ : St F}
    {Q : α → St F → Prop} {Q' : β → St F → Prop} {E : St F → Prop}
    (hm : Post (m σ) Q E) (hf : ∀ a s, Q a s → Post (f a s) Q' E) : Post ((m >>= f) σ) Q' E := by
  simp only [bind, M.bindM]
  cases hr : m σ with
  | ok a s => rw [hr] at hm; exact hf a s hm
  | err e s => rw [hr] at hm; exact hm

theorem post_respects {α : Type} {R : St F → St F → Prop} {m : M F α} (h : Respects R m) (σ : St F)
    {Q E : St F → Prop} (hq : ∀ s, R σ s → Q s) (he : ∀ s, R σ s → E s) :
    Post (m σ) (fun _ => Q) E := by
  have h1 := h.final σ
  cases hr : m σ with
  | ok a s => rw [hr] at h1; exact hq s h1
  | err e s => rw [hr] at h1; exact he s h1

theorem post_of_final {α : Type} {r : Res F α} {Q : St F → Prop} (h : Q r.final) : Post r (fun _ => Q) Q := by
  cases r <;> exact h

theorem final_of_post {α : Type} {r : Res F α} {Q : St F → Prop} (h : Post r (fun _ => Q) Q) : Q r.final := by
  cases r <;> exact h

omit [NumOps F] in
theorem dead_toks {σ : St F} (h : Dead σ) : ExprL.lineToks σ = some [] := by
  unfold ExprL.lineToks; rw [h.1, h.2.1]

theorem rl_nextLine : Respects (RLive κ) (nextLine (F := F)) := by
  unfold nextLine
  apply respects_get_bind
  intro σ
  cases σ.loc.line with
  | none => exact (respects_pure _).at σ
  | some n =>
    dsimp only
    cases σ.lines.after n with
    | none => exact (respects_pure _).at σ
    | some m =>
      refine respectsAt_bind (respectsAt_set fun hl => ?_) (fun _ => respects_pure _)
      exact ⟨rfl, hl.2.1, hl.2.2.1, hl.2.2.2⟩

theorem tail_post (σ : St F) (h : J κ σ) : Post (Props.C09.sequence σ) (fun _ => G κ) (J κ) := by
  rcases h with hl | hd
  · unfold Props.C09.sequence
    refine post_bind (Q := fun _ => Live κ)
      (post_respects (rl_of_rx fr_hasNext) σ (fun s h => h hl)
        (fun s h => Or.inl (h hl))) fun b s hs => ?_
    cases b with
    | true => exact Or.inl hs
    | false =>
      simp only [Bool.not_false, if_true]
      refine post_bind (Q := fun _ => Live κ)
        (post_respects rl_nextLine s (fun s h => h hs) (fun s h => Or.inl (h hs))) fun c s2 hs2 => ?_
      cases c with
      | true => exact Or.inl hs2
      | false => exact Or.inr ⟨dead_setImmediate s2 (Or.inl hs2), rfl⟩
  · rw [Turn.sequence_eq (dead_toks hd), Turn.lineEndSt_imm hd.1 (by rw [hd.2.1]; rfl)]
    exact Or.inr ⟨dead_setImmediate (κ := κ) _
      (Or.inr (show Dead ({ σ with reads := σ.reads + 1 } : St F) from hd)), rfl⟩

/-- The second case: from a `Dead` state nothing is executed, the turn is the end of the emptied immediate line. -/
theorem rns_post (fuel : Nat) (σ : St F) (h : J κ σ) : Post (runNextStatement fuel σ) (fun _ => G κ) (J κ) := by
  rcases h with hl | hd
  · rw [Props.C09.turn_anatomy]
    refine post_bind (Q := fun _ => Live κ) (E := J κ) (σ := σ)
      (m := M.modify fun s => { s with state := .running }) hl fun _ s hs => ?_
    refine post_bind (Q := fun _ => Live κ)
      (post_respects (rl_of_rx fr_hasNext) s (fun s h => h hs) (fun s h => Or.inl (h hs))) fun b s1 hs1 => ?_
    cases b with
    | false => exact tail_post s1 (Or.inl hs1)
    | true =>
      exact post_bind (Q := fun _ => J κ) (post_of_final (sp_stmtBody_evalN fuel s1 hs1))
        fun _ s2 hs2 => tail_post s2 hs2
  · rw [Turn.turn_end fuel (dead_toks hd) rfl,
      Turn.lineEndSt_imm (s := Props.C17.turnStart σ) hd.1 (by show σ.imm[σ.loc.idx]? = none; rw [hd.2.1]; rfl)]
    exact Or.inr ⟨dead_setImmediate (κ := κ) _
      (Or.inr (show Dead ({ Props.C17.turnStart σ with reads := σ.reads + 1 + 1 } : St F) from hd)), rfl⟩

theorem j_idle {σ : St F} (h : J κ σ) : G κ { σ with state := .idle } :=
  h.elim (fun hl => Or.inl hl) (fun hd => Or.inr ⟨hd, rfl⟩)

theorem g_postprocess {α : Type} {m : M F α} {σ : St F} (h : Post (m σ) (fun _ => G κ) (J κ)) :
    G κ (postprocess m σ).final := by
  unfold postprocess
  cases hr : m σ with
  | ok a s => rw [hr] at h; exact h
  | err e s => rw [hr] at h; exact j_idle h

theorem g_continueEvaluating (fuel : Nat) (σ : St F) (h : G κ σ) : G κ (continueEvaluating fuel σ).final := by
  unfold continueEvaluating
  simp only [bind, M.bindM, M.get]
  by_cases hs : (σ.state != .running) = true
  · rw [if_pos hs]; exact h
  · rw [if_neg hs]
    exact g_postprocess (rns_post fuel σ (g_j h))

theorem g_provideInput (text : Str) (σ : St F) (h : G κ σ) : G κ (provideInput text σ).final := by
  unfold provideInput
  simp only [bind, M.bindM, M.get]
  by_cases hs : (σ.state != .awaitingInput) = true
  · rw [if_pos hs]; exact h
  · rw [if_neg hs]
    have hst : σ.state = .awaitingInput := by simpa using hs
    rcases h with hl | ⟨_, hi⟩
    · exact Or.inl hl
    · rw [hst] at hi; cases hi

theorem j_runFromFirst (s : St F) : J κ s.runFromFirst := by
  unfold St.runFromFirst
  dsimp only
  cases hf : (s.resetRuntime).lines.first with
  | none =>
    refine Or.inr ⟨rfl, rfl, ?_, rfl⟩
    simp [StackNum, St.resetRuntime, St.setImmediate]
  | some n =>
    refine Or.inl ⟨rfl, fun _ => rfl, ?_, rfl⟩
    simp [StackNum, St.resetRuntime, St.setImmediate]

theorem runFromFirst_empty (s : St F) : s.runFromFirst.stack = [] ∧ s.runFromFirst.loops = [] := by
  rw [St.runFromFirst_eq]
  exact ⟨rfl, rfl⟩

theorem g_run (fuel : Nat) (line : Str) (s : St F) (hs : s.state = .idle)
    (hrun : (commandWord line).bind Command.ofWord = some .run) :
    G κ (startEvaluating fuel line s).final := by
  rw [startEvaluating_run fuel hs hrun]
  exact g_postprocess (rns_post fuel _ (j_runFromFirst _))

end Abasic.Proofs.NumInv
