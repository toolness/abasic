import Abasic.Arrays
/-
  What the pure primitives of Arrays.lean and Program.lean can fail with, each as the exact set of errors:
  the dimension arithmetic, array creation, the linear index of a cell, the operators on values, the
  coercion of a DATA item.  Weaker facts about these errors (not a panic, not OUT OF FUEL, not DATA TYPE
  MISMATCH, a run-time error of a checked program) are read off these sets where they are needed.
  On the success side: the array `ArrayV.create` returns (`create_ok`; its shape, size, kind and cells are read
  off it in C03.lean, C16.lean, ArrOk.lean, LoopsTyping.lean) and the value a DATA item is coerced to.
-/
namespace Abasic.ArrayL

variable {F : Type}

theorem dimSizes_err {e : Err} : ∀ (idx : List Nat) (total : Nat) (acc : List Nat),
    dimSizes idx total acc = .error e → e = .oomArray
  | [], _, _, h => by cases h
  | m :: rest, t, ds, h => by
    simp only [dimSizes] at h
    split at h
    · cases h; rfl
    · split at h
      · cases h; rfl
      · exact dimSizes_err rest _ _ h

theorem linearIndexAux_err {e : Err} : ∀ (index dims : List Nat) (lin stride : Nat),
    linearIndexAux index dims lin stride = .error e → e = .badSubscript
  | [], [], _, _, h => by cases h
  | [], _ :: _, _, _, h | _ :: _, [], _, _, h => by cases h; rfl
  | i :: is, d :: ds, lin, stride, h => by
    simp only [linearIndexAux] at h
    split at h
    · cases h; rfl
    · exact linearIndexAux_err is ds _ _ h

theorem linearIndex_err {index dims : List Nat} {e : Err} (h : linearIndex index dims = .error e) :
    e = .badSubscript := by
  unfold linearIndex at h
  split at h
  · cases h; rfl
  · exact linearIndexAux_err _ _ _ _ h

theorem coerce_err [NumOps F] {name : Str} {d : DataElement F} {e : Err}
    (h : Value.coerceFromData name d = .error e) : e = .dataTypeMismatch := by
  unfold Value.coerceFromData at h
  split at h <;> split at h <;> cases h
  rfl

theorem coerce_matches [NumOps F] {name : Str} {d : DataElement F} {v : Value F}
    (h : Value.coerceFromData name d = .ok v) : v.matchesName name = true := by
  unfold Value.coerceFromData at h
  split at h <;> split at h <;> cases h <;> simp_all [Value.matchesName]

theorem dimSizes_dims (idx : List Nat) (total : Nat) (acc : List Nat) (dims : List Nat) (t : Nat)
    (h : dimSizes idx total acc = .ok (dims, t)) : dims = acc.reverse ++ idx.map (· + 1) := by
  induction idx generalizing total acc with
  | nil =>
    simp [dimSizes] at h
    rw [← h.1]; simp
  | cons m rest ih =>
    simp only [dimSizes] at h
    split at h
    · simp at h
    · split at h
      · simp at h
      · rw [ih _ _ h]
        simp

variable [NumOps F]

theorem create_ok {name : Str} {idx : List Nat} {a : ArrayV F} (h : ArrayV.create name idx = .ok a) :
    idx ≠ [] ∧ ∃ total, dimSizes idx 1 [] = .ok (idx.map (· + 1), total) ∧ total ≤ Extracted.maxDimTotalElements ∧
      a = if endsWithDollar name then .strs (idx.map (· + 1)) (List.replicate total [])
          else .nums (idx.map (· + 1)) (List.replicate total NumOps.zero) := by
  unfold ArrayV.create at h
  split at h
  · cases h
  next he =>
    split at h
    · cases h
    next dims total hd =>
      have hdims : dims = idx.map (· + 1) := by simpa using dimSizes_dims idx 1 [] dims total hd
      subst hdims
      split at h
      · cases h
      next hle =>
        refine ⟨by simpa using he, total, hd, Nat.le_of_not_gt hle, ?_⟩
        split at h <;> rename_i hs <;> cases h
        · rw [if_pos hs]
        · rw [if_neg hs]

theorem create_err {name : Str} {idx : List Nat} {e : Err} (h : ArrayV.create (F := F) name idx = .error e) :
    e = .badSubscript ∨ e = .oomArray := by
  unfold ArrayV.create at h
  split at h
  · cases h; exact .inl rfl
  · split at h
    next hd => cases h; exact .inr (dimSizes_err _ _ _ hd)
    · split at h
      · cases h; exact .inr rfl
      · split at h <;> cases h

theorem unop_err {op : UnOp} {v : Value F} {e : Err} (h : op.eval v = .error e) : e = .typeMismatch := by
  cases op <;> cases v <;> cases h
  rfl

theorem binop_err {op : BinOp} {a b : Value F} {e : Err} (h : op.eval a b = .error e) :
    e = .typeMismatch ∨ e = .divisionByZero := by
  cases op <;> cases a <;> cases b <;> simp only [BinOp.eval] at h <;>
    first
    | (cases h; exact .inl rfl)
    | (split at h <;> cases h; exact .inr rfl)
    | cases h

end Abasic.ArrayL
