import Abasic.Proofs.Stmt3TRel
/-
  C03 / C08 — a statement of Ref/Stmt3.lean that stands in a program with INPUT statements, for the turn
  (Proofs/Stmt3Prog.lean for `RProgramI`).

  The statement lemmas speak of a `ProgT` and `Mem3`, the machine with INPUT of
  `MemI` / `CoreI` / `Sync` (Proofs/Stmt3Input.lean).  `progOf` is the `ProgT` of
  a state of that machine; with it `Mem3` IS `MemI` (`mem3_of_memI`,
  `memI_of_mem3`: the log of the machine is the `base` of the `ProgT`), so what the statement theorem
  gives (`Outcome3`) is what the turn of that machine needs (`outcome_seq`).
-/
set_option linter.unusedSectionVars false

namespace Abasic.Stmt3T
open Abasic Abasic.Ref Abasic.ExprL Abasic.ExprL2 Abasic.StmtL Abasic.ProgL Abasic.Prog3L Abasic.Stmt3L M
open Abasic.Prog3I (MemI CoreI)
open Abasic.Props
open Abasic.Prog2L (Rel2)

variable {F : Type} [NumOps F]

/-- what the model state shares with the reference state, cursor and run state apart -/
structure Core3 (p : ProgT F) (r : RState3 F) (σ : St F) : Prop where
  env : Env3 p σ
  mem : Mem3 p r σ
  inv : RInv3 r
  nesting : σ.nesting = 0

/-- the program as the statement lemmas see it when the machine with INPUT is in
    state `x`: `q`, and what was emitted before the last reply was taken (newest first) -/
def progOf (q : RProgramI F) (x : RStateI F) : ProgT F := ⟨q, x.log.reverse⟩

theorem out_split (x : RStateI F) : x.output.reverse = outRecs x.st.out ++ x.log.reverse := by
  simp only [RStateI.output, outRecs, List.reverse_append]

theorem mem3_of_memI {q : RProgramI F} {x : RStateI F} {σ : St F} (h : MemI q x σ) :
    Mem3 (progOf q x) x.st σ :=
  ⟨h.vars, h.arrays, h.rng, h.loops, h.stack, h.data, h.out.trans (out_split x), h.fns, h.fnLines, h.input⟩

/-- back: for ANY reference state `r'` in place of `x.st` (log and prompt flag of `x`) -/
theorem memI_of_mem3 {q : RProgramI F} {x : RStateI F} {r' : RState3 F} {σ : St F} (b : Bool)
    (h : Mem3 (progOf q x) r' σ) : MemI q { x with st := r', prompted := b } σ :=
  ⟨h.vars, h.arrays, h.rng, h.loops, h.stack, h.data,
    h.out.trans (out_split { x with st := r', prompted := b }).symm, h.fns, h.fnLines, h.input⟩

theorem core3_of_coreI {q : RProgramI F} {x : RStateI F} {σ : St F} (h : CoreI q x σ) :
    Core3 (progOf q x) x.st σ :=
  ⟨⟨h.env.lines, h.env.warnings, h.env.tracing⟩, mem3_of_memI h.mem, h.inv, h.nesting⟩

theorem coreI_of_core3 {q : RProgramI F} {x : RStateI F} {r' : RState3 F} {σ : St F} (b : Bool)
    (h : Core3 (progOf q x) r' σ) : CoreI q { x with st := r', prompted := b } σ :=
  ⟨⟨h.env.lines, h.env.warnings, h.env.tracing⟩, memI_of_mem3 b h.mem, h.inv, h.nesting⟩

theorem outcome_seq {q : RProgramI F} {x : RStateI F} {σ : St F} (henv : Env3 (progOf q x) σ)
    (hmem : Mem3 (progOf q x) x.st σ) (hnest : σ.nesting = 0) (hrun : σ.state = .running)
    {n after eol : Nat} {res : Res F Unit} {r' : RState3 F} (hI : RInv3 r') {c : Ctl2}
    (h : Stmt3V.Outcome3 (view (progOf q x)) σ n after eol res r' c) :
    SeqL.Outcome Prog3I.lang q (fun σ' => CoreI q { x with st := r', prompted := false } σ' ∧ σ'.state = .running)
      (Prog3I.FinalI { x with st := r', prompted := false }) (DefLine x.st) σ n after eol res c :=
  (Stmt3V.outcome_seq (L := Prog3I.lang) (q := q) id hmem.fnLines h).mono
    (fun _ ⟨hk, hm⟩ => ⟨coreI_of_core3 false ⟨hk.envT henv, mem_view.1 hm, hI, hk.nesting.trans hnest⟩,
      hk.state.trans hrun⟩)
    (fun _ ⟨h1, h2, h3, h4⟩ => ⟨h1, h2, h3, h4.trans (out_split { x with st := r', prompted := false }).symm⟩)
    (fun _ => id)

end Abasic.Stmt3T
