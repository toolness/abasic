import Abasic.Ref.Stmt3
/-
  C03 — READ: which of two failures that meet on one target is reported.  (An
  implementation that takes the DATA item BEFORE it works out the target reports
  OUT OF DATA where the documented order reports the failing subscript.)

  For the reference step of a cell target (`readCellSpec`, refined by the model's
  `readLoop`: `read_cell_refines`):
  * `read_subscript_failure_first`: when the subscripts cannot be evaluated, THAT
    error is the outcome — whatever DATA there is or is not, and the DATA cursor
    does not move;
  * `read_out_of_data_after_subscripts`: when the subscripts were evaluated and no
    item is left, OUT OF DATA is the outcome — in the state the
    evaluation of the subscripts produced (its random draws, arrays it created).
-/

namespace Abasic.Props.C03
open Abasic Abasic.Ref

variable {F : Type} [NumOps F]

theorem read_subscript_failure_first (items : List (Nat × DataElement F)) (r : RState3 F) (name : Str)
    (idx : List (Expr2 F)) (err : Err) (h : evalIdx r idx = .error err) :
    readCellSpec items r name idx = (r, .error err) := by
  simp [readCellSpec, h]

theorem read_out_of_data_after_subscripts (items : List (Nat × DataElement F)) (r r1 : RState3 F) (name : Str)
    (idx : List (Expr2 F)) (index : List Nat) (h : evalIdx r idx = .ok (index, r1)) (hnone : items[r1.data]? = none) :
    readCellSpec items r name idx = (r1, .error .outOfData) := by
  simp [readCellSpec, h, hnone]

/-- the seed's trigger: no DATA at all and a failing subscript — the subscript's error -/
theorem read_no_data_failing_subscript (r : RState3 F) (name : Str) (idx : List (Expr2 F)) (err : Err)
    (h : evalIdx r idx = .error err) :
    readCellSpec ([] : List (Nat × DataElement F)) r name idx = (r, .error err) :=
  read_subscript_failure_first [] r name idx err h

end Abasic.Props.C03

namespace Abasic.Props.C03
open Abasic Abasic.Ref

/-- non-vacuity (carrier `Unit`): `READ Q("s")` with no DATA at all is a TYPE MISMATCH, not OUT OF DATA -/
example : readCellSpec ([] : List (Nat × DataElement Unit)) ({} : RState3 Unit) "Q".toList [Expr2.str "s".toList]
    = (({} : RState3 Unit), Ctl2.error Err.typeMismatch) := by
  apply read_subscript_failure_first
  simp [evalIdx, foldIdx, fold2, subscript]

end Abasic.Props.C03
