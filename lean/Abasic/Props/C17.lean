import Abasic.Stmt
/-
  C17 — tracing and warnings never change what a program does.

  The flags are read at exactly three places in the model, mirroring the Rust
  code: `warn` (via `warnUndeclaredArray` and the scalar read in `term`) and
  `traceHere`.  Proved here, for every state: each of these only ever appends
  Warning / Trace records to the output queue and changes nothing else; with the
  flag off it is the identity; and exactly when each fires.  The lift "the whole
  evaluator commutes with erasing the flags and filtering the queue"
  (`flags_transparent`) is C17More.lean; what the trace records say is
  C17Trace.lean and C17Repeat.lean, `DIM X` without parentheses C17Dim.lean.
-/
namespace Abasic.Props.C17
open Abasic

variable {F : Type} [NumOps F]

omit [NumOps F] in
/-- `warn` appends one Warning record iff warnings are enabled; nothing else changes. -/
theorem warn_effect (msg : Str) (σ : St F) :
    warn msg σ = .ok () (if σ.warnings then { σ with out := .warning msg σ.loc.line :: σ.out } else σ) := by
  by_cases h : σ.warnings = true
  · simp [warn, bind, M.bindM, M.get, h, emit, M.modify]
  · have h' : σ.warnings = false := by simpa using h
    simp [warn, bind, M.bindM, M.get, h', pure, M.pureM]

omit [NumOps F] in
/-- The array warning fires exactly when warnings are on and the array does not exist yet. -/
theorem array_warning_iff (name : Str) (σ : St F) :
    ((σ.warnings && !alHas name σ.arrays) = true →
      ∃ msg, warnUndeclaredArray name σ = .ok () { σ with out := .warning msg σ.loc.line :: σ.out }) ∧
    ((σ.warnings && !alHas name σ.arrays) = false → warnUndeclaredArray name σ = .ok () σ) := by
  constructor
  · intro h
    have hw : σ.warnings = true := by
      cases hw : σ.warnings <;> simp [hw] at h ⊢
    refine ⟨"Use of undeclared array '".toList ++ name ++ "'.".toList, ?_⟩
    have hb : (!alHas name σ.arrays) = true := by rw [hw] at h; simpa using h
    unfold warnUndeclaredArray
    simp only [bind, M.bindM, M.get, hw, hb, Bool.and_self, ↓reduceIte, warn_effect]
  · intro h
    unfold warnUndeclaredArray
    simp only [bind, M.bindM, M.get, h, Bool.false_eq_true, ↓reduceIte, pure, M.pureM]

omit [NumOps F] in
/-- The trace record: exactly one `Trace n` when tracing is on and the cursor is
    on numbered line `n`; nothing otherwise; nothing else changes. -/
theorem trace_effect (σ : St F) :
    traceHere σ = .ok () (match σ.tracing, σ.loc.line with
      | true, some n => { σ with out := .trace n :: σ.out }
      | _, _ => σ) := by
  cases ht : σ.tracing <;> cases hl : σ.loc.line <;>
    simp [traceHere, bind, M.bindM, M.get, ht, hl, emit, M.modify, pure, M.pureM]

/-- Non-vacuity. -/
example : let σ : St Unit := { warnings := true, tracing := true, loc := { line := some 10, idx := 0 } }
    σ.warnings = true ∧ σ.loc.line = some 10 := by decide

end Abasic.Props.C17
