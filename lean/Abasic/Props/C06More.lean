import Abasic.Props.C02More
import Abasic.Proofs.Analyzer2
/-
  C06 for expressions: the static analyzer and the evaluator agree.

  `typeOf` is the spec's static typing of a syntax tree (what the analyzer
  computes), `accs` the symbol accesses it logs.  `analyze_render` (the
  token-stream analyzer on `render e` returns `typeOf e`) is the case of the
  full expression language (`atier_run`, `aexpr_run`,
  Abasic/Proofs/Analyzer2.lean) for the trees without cells and calls: `emb`
  puts them among the trees of `Expr2`, with the same rendering, depth, static
  type (whatever the signatures) and accesses.
-/
set_option linter.unusedSectionVars false

namespace Abasic.Props.C06
open Abasic Abasic.Ref Abasic.ExprL Abasic.ExprL2 Abasic.AnaL M

variable {F : Type} [NumOps F]

/-- The static type of an expression, as the analyzer computes it. -/
def typeOf : Expr F → Except Err VT
  | .num _ => .ok .num
  | .str _ => .ok .str
  | .var n => .ok (VT.ofName n)
  | .un op e =>
    match typeOf e with
    | .error x => .error x
    | .ok t =>
      match unaryRule op t with
      | some t' => .ok t'
      | none => .error .typeMismatch
  | .bin op l r =>
    match typeOf l with
    | .error x => .error x
    | .ok a =>
      match typeOf r with
      | .error x => .error x
      | .ok b =>
        match tierRule (tierOf op) a b with
        | some t => .ok t
        | none => .error .typeMismatch
  | .paren e => typeOf e
  | .abs e =>
    match typeOf e with
    | .ok .num => .ok .num
    | .ok .str => .error .typeMismatch
    | .error x => .error x
  | .int e =>
    match typeOf e with
    | .ok .num => .ok .num
    | .ok .str => .error .typeMismatch
    | .error x => .error x

/-- The symbol accesses the analyzer logs for `render e` standing at token index
    `off` of line `ln`: one read per variable occurrence, left to right, at the
    index of its token (ABS / INT are not logged). -/
def accs (ln : Nat) : Nat → Expr F → List Acc
  | _, .num _ => []
  | _, .str _ => []
  | off, .var n => [(n, ln, off, .read)]
  | off, .un _ e => accs ln (if e.prec < 8 then off + 1 + 1 else off + 1) e
  | off, .bin op l r =>
    accs ln (if l.prec < BinOp.prec op then off + 1 else off) l ++
    accs ln (if r.prec < BinOp.prec op + 1
              then off + (render (fixP (BinOp.prec op) l)).length + 1 + 1
              else off + (render (fixP (BinOp.prec op) l)).length + 1) r
  | off, .paren e => accs ln (off + 1) e
  | off, .abs e => accs ln (off + 2) e
  | off, .int e => accs ln (off + 2) e

theorem typeOf_un (op : UnOp) (e : Expr F) :
    typeOf (.un op e) =
      typeOf e >>= fun t =>
        match unaryRule op t with
        | some t' => .ok t'
        | none => .error .typeMismatch := by
  rw [typeOf]
  cases typeOf e with
  | error x => rfl
  | ok t => cases unaryRule op t <;> rfl

theorem typeOf_bin (op : BinOp) (l r : Expr F) :
    typeOf (.bin op l r) =
      typeOf l >>= fun a => typeOf r >>= fun b =>
        match tierRule (tierOf op) a b with
        | some t => .ok t
        | none => .error .typeMismatch := by
  rw [typeOf]
  cases typeOf l with
  | error x => rfl
  | ok a =>
    cases typeOf r with
    | error x => rfl
    | ok b => cases tierRule (tierOf op) a b <;> rfl

theorem typeOf_abs (e : Expr F) : typeOf (.abs e) = numArgT (typeOf e) := by
  rw [typeOf]
  cases typeOf e with
  | error x => rfl
  | ok t => cases t <;> rfl

theorem typeOf_int (e : Expr F) : typeOf (.int e) = numArgT (typeOf e) := by
  rw [typeOf]
  cases typeOf e with
  | error x => rfl
  | ok t => cases t <;> rfl

theorem accs_fixP (ln off p : Nat) (e : Expr F) :
    accs ln off (fixP p e) = accs ln (if e.prec < p then off + 1 else off) e := by
  unfold fixP; split <;> rfl

theorem accs_un (ln off : Nat) (op : UnOp) (e : Expr F) :
    accs ln off (.un op e) = accs ln (off + 1) (fixP 8 e) := by
  rw [accs_fixP]; rfl

theorem accs_bin (ln off : Nat) (op : BinOp) (l r : Expr F) :
    accs ln off (.bin op l r) =
      accs ln off (fixP (BinOp.prec op) l) ++
      accs ln (off + (render (fixP (BinOp.prec op) l)).length + 1) (fixP (BinOp.prec op + 1) r) := by
  rw [accs_fixP, accs_fixP]; rfl

theorem getElem?_append_some {α : Type} {l1 l2 : List α} {i : Nat} {x : α} (h : l1[i]? = some x) :
    (l1 ++ l2)[i]? = some x := by
  have hi : i < l1.length := (List.getElem?_eq_some_iff.1 h).1
  rw [List.getElem?_append_left hi]; exact h

/-- every logged access is the read of a symbol token of `render e`, at that token's index -/
def AccsOk (ln : Nat) (e : Expr F) : Prop :=
  ∀ off a, a ∈ accs ln off e →
    ∃ name i, a = (name, ln, off + i, Access.read) ∧ (render e)[i]? = some (.symbol name)

theorem accsOk_wrap (ln : Nat) (x : Expr F) (hx : AccsOk ln x) :
    ∀ off a, a ∈ accs ln (off + 1) x →
      ∃ name i, a = (name, ln, off + i, Access.read) ∧
        (Token.kw Kw.LeftParen :: (render x ++ [Token.kw Kw.RightParen]))[i]? = some (.symbol name) := by
  intro off a ha
  obtain ⟨name, i, rfl, hi⟩ := hx (off + 1) a ha
  refine ⟨name, i + 1, by rw [Nat.add_assoc, Nat.add_comm 1 i], ?_⟩
  rw [List.getElem?_cons_succ]
  exact getElem?_append_some hi

theorem accsOk_fixP (ln p : Nat) (x : Expr F) (hx : AccsOk ln x) : AccsOk ln (fixP p x) := by
  unfold fixP; split
  · intro off a ha
    rw [render_paren]
    exact accsOk_wrap ln x hx off a ha
  · exact hx

theorem accs_ok (ln : Nat) (e : Expr F) : AccsOk ln e := by
  induction e with
  | num x => intro off a ha; simp [accs] at ha
  | str s => intro off a ha; simp [accs] at ha
  | var n =>
    intro off a ha
    simp only [accs, List.mem_singleton] at ha
    exact ⟨n, 0, ha, by rw [render_var]; rfl⟩
  | paren x ih =>
    intro off a ha
    rw [render_paren]
    exact accsOk_wrap ln x ih off a ha
  | abs x ih =>
    intro off a ha
    obtain ⟨name, i, rfl, hi⟩ := accsOk_wrap ln x ih (off + 1) a ha
    refine ⟨name, i + 1, by rw [Nat.add_assoc, Nat.add_comm 1 i], ?_⟩
    rw [render_abs, List.getElem?_cons_succ]
    exact hi
  | int x ih =>
    intro off a ha
    obtain ⟨name, i, rfl, hi⟩ := accsOk_wrap ln x ih (off + 1) a ha
    refine ⟨name, i + 1, by rw [Nat.add_assoc, Nat.add_comm 1 i], ?_⟩
    rw [render_int, List.getElem?_cons_succ]
    exact hi
  | un op x ih =>
    intro off a ha
    rw [accs_un] at ha
    obtain ⟨name, i, rfl, hi⟩ := accsOk_fixP ln 8 x ih (off + 1) a ha
    refine ⟨name, i + 1, by rw [Nat.add_assoc, Nat.add_comm 1 i], ?_⟩
    rw [render_un, List.getElem?_cons_succ]
    exact hi
  | bin op l r ihl ihr =>
    intro off a ha
    rw [accs_bin, List.mem_append] at ha
    rw [render_bin]
    rcases ha with ha | ha
    · obtain ⟨name, i, rfl, hi⟩ := accsOk_fixP ln _ l ihl off a ha
      exact ⟨name, i, rfl, getElem?_append_some hi⟩
    · obtain ⟨name, i, rfl, hi⟩ := accsOk_fixP ln _ r ihr _ a ha
      refine ⟨name, (render (fixP (BinOp.prec op) l)).length + 1 + i, by simp only [Nat.add_assoc], ?_⟩
      rw [List.getElem?_append_right (by omega)]
      have : (render (fixP (BinOp.prec op) l)).length + 1 + i - (render (fixP (BinOp.prec op) l)).length
          = i + 1 := by omega
      rw [this, List.getElem?_cons_succ]
      exact hi

def varCount : Expr F → Nat
  | .num _ => 0
  | .str _ => 0
  | .var _ => 1
  | .un _ e => varCount e
  | .bin _ l r => varCount l + varCount r
  | .paren e => varCount e
  | .abs e => varCount e
  | .int e => varCount e

theorem accs_length (ln off : Nat) (e : Expr F) : (accs ln off e).length = varCount e := by
  induction e generalizing off with
  | bin op l r ihl ihr => simp only [accs, List.length_append, ihl, ihr, varCount]
  | _ => simp [accs, varCount, *]

theorem adepth_emb (e : Expr F) : adepth (emb e) = depth e := depth2_emb _ 0 e

theorem typeOf2_emb (sig : Sig) (e : Expr F) : typeOf2 sig (emb e) = typeOf e := by
  induction e with
  -- `rfl`: the `match` in `typeOf2_un` and the one in `typeOf_un` are two auxiliary functions with one body
  | un op e ih => rw [emb, typeOf2_un, typeOf_un, ih]; rfl
  | bin op l r ihl ihr => rw [emb, typeOf2_bin, typeOf_bin, ihl, ihr]; rfl
  | abs e ih => rw [emb, typeOf2_abs, typeOf_abs, ih]
  | int e ih => rw [emb, typeOf2_int, typeOf_int, ih]
  | _ => simp only [emb, typeOf2, typeOf, *]

theorem accs2_emb (sig : Sig) (ln off : Nat) (e : Expr F) : accs2 sig ln off (emb e) = accs ln off e := by
  induction e generalizing off with
  | bin op l r ihl ihr => simp only [emb, accs2, accs, prec_emb, fixP2_emb, render2_emb, ihl, ihr]
  | _ => simp only [emb, accs2, accs, prec_emb, *]

theorem resolved2_emb (sig : Sig) (e : Expr F) : Resolved2 sig (emb e) := by
  induction e with
  | bin op l r ihl ihr => exact ⟨ihl, ihr⟩
  | _ => simp only [emb, Resolved2, *]

theorem atier_runs1 (e : Expr F) (c : Ctx) (off f j : Nat)
    (hd : depth e ≤ f) (hn : c.nest + depth e ≤ Extracted.nestingLimit) (hlv : lv e ≤ j) (hj : j ≤ 6) :
    Runs c off (Ends j) (atier (aEvalN f) j) (render e) (typeOf e) (accs c.ln off e) pure := by
  have h := atier_run (emb e) c off f j
  unfold lv2 at h
  rw [adepth_emb, prec_emb, render2_emb, typeOf2_emb, accs2_emb] at h
  exact h hd hn hlv hj (resolved2_emb _ e)

theorem aexpr_runs1 (x : Expr F) (c : Ctx) (off f : Nat)
    (hd : depth x + 1 ≤ f) (hn : c.nest + (depth x + 1) ≤ Extracted.nestingLimit) :
    Runs c off (Ends 6) (aEvalN f).expr (render x) (typeOf x) (accs c.ln off x) pure := by
  have h := aexpr_run (emb x) c off f
  rw [adepth_emb, render2_emb, typeOf2_emb, accs2_emb] at h
  exact h hd hn (resolved2_emb _ x)

/-- The hypotheses of `analyze_render` (the analogue of `C02.Ready`).  The line is
    NUMBERED: the analyzer only ever walks numbered lines, `logAccess` unwraps the
    line number. -/
structure AReady (σ : St F) (ln : Nat) (pre : List (Token F)) (e : Expr F) (rest : List (Token F))
    (n : Nat) : Prop where
  line : σ.loc.line = some ln
  toks : tokens σ = .ok (pre ++ render e ++ rest) σ
  idx : σ.loc.idx = pre.length
  nesting : σ.nesting + depth e < Extracted.nestingLimit
  fuel : depth e + 1 ≤ n
  follows : C02.Follows rest

theorem accepts_iff_of_clauses {α : Type} {res : Res F α} {ty : Except Err α} {σ : St F} {S : α → Nat → St F}
    (h1 : ∀ t, ty = .ok t → ∃ r, σ.reads < r ∧ res = .ok t (S t r))
    (h2 : ∀ x, ty = .error x → ∃ σ', res = .err { err := x } σ' ∧ σ'.nesting = σ.nesting) (t : α) :
    (∃ σ', res = .ok t σ') ↔ ty = .ok t := by
  constructor
  · rintro ⟨σ', hσ'⟩
    cases hev : ty with
    | ok t' =>
      obtain ⟨r, _, hr⟩ := h1 t' hev
      rw [hr] at hσ'
      rw [(Res.ok.inj hσ').1]
    | error x =>
      obtain ⟨σ'', hσ'', _⟩ := h2 x hev
      rw [hσ''] at hσ'
      cases hσ'
  · intro ht
    obtain ⟨r, _, hr⟩ := h1 t ht
    exact ⟨_, hr⟩

/-- The analyzer on a rendering.  For every tree `e`, the six analyzer tiers
    run on `render e` return `typeOf e`, having consumed exactly `render e`,
    logged exactly `accs ln |pre| e`, and changed nothing else (lines, variables,
    nesting counter, … are those of `σ`; the read counter grew); if `typeOf e` is
    an error the run fails with that error, the nesting counter restored. -/
theorem analyze_render (e : Expr F) (n ln : Nat) (σ : St F) (pre rest : List (Token F))
    (h : AReady σ ln pre e rest n) :
    (∀ t, typeOf e = .ok t → ∃ r, σ.reads < r ∧
      aOrExpr (aEvalN n) σ =
        .ok t { σ with loc := { σ.loc with idx := pre.length + (render e).length }, reads := r,
                       accesses := σ.accesses ++ accs ln pre.length e }) ∧
    (∀ x, typeOf e = .error x → ∃ σ',
      aOrExpr (aEvalN n) σ = .err { err := x } σ' ∧ σ'.nesting = σ.nesting) := by
  have hA := (atier_runs1 e (Ctx.at σ ln) _ n 6 (by have := h.fuel; omega)
    (by have := h.nesting; show σ.nesting + _ ≤ _; omega)
    (by have := prec_bounds e; unfold lv; omega) (Nat.le_refl _)).run (.of_tokens h.toks h.idx) h.line
    (C02.ends_of_follows h.follows)
  rw [atier_six] at hA
  exact hA.final h.idx

/-- the recursive entry `aExprBody` = `(aEvalN (n+1)).expr` (one nesting level
    deeper, restored on exit) is the entry used by statements -/
theorem analyze_render_body (e : Expr F) (n ln : Nat) (σ : St F) (pre rest : List (Token F))
    (h : AReady σ ln pre e rest n) :
    (∀ t, typeOf e = .ok t → ∃ r, σ.reads < r ∧
      aExprBody (aEvalN n) σ =
        .ok t { σ with loc := { σ.loc with idx := pre.length + (render e).length }, reads := r,
                       accesses := σ.accesses ++ accs ln pre.length e }) ∧
    (∀ x, typeOf e = .error x → ∃ σ',
      aExprBody (aEvalN n) σ = .err { err := x } σ' ∧ σ'.nesting = σ.nesting) := by
  have hA := (aexpr_runs1 e (Ctx.at σ ln) _ (n + 1) (by have := h.fuel; omega)
    (by have := h.nesting; show σ.nesting + _ ≤ _; omega)).run (.of_tokens h.toks h.idx) h.line
    (C02.ends_of_follows h.follows)
  have hb : (aEvalN (F := F) (n + 1)).expr = aExprBody (aEvalN n) := rfl
  rw [hb] at hA
  exact hA.final h.idx

theorem analyze_render_outcome (e : Expr F) (n ln : Nat) (σ : St F) (pre rest : List (Token F))
    (h : AReady σ ln pre e rest n) :
    C02.outcome (aOrExpr (aEvalN n) σ) =
      (match typeOf e with
       | .ok t => .ok t
       | .error x => .error { err := x }) := by
  obtain ⟨h1, h2⟩ := analyze_render e n ln σ pre rest h
  cases hev : typeOf e with
  | ok t => obtain ⟨r, _, hr⟩ := h1 t hev; rw [hr]; rfl
  | error x => obtain ⟨σ', hσ', _⟩ := h2 x hev; rw [hσ']; rfl

theorem analyzer_accepts_iff (e : Expr F) (n ln : Nat) (σ : St F) (pre rest : List (Token F))
    (h : AReady σ ln pre e rest n) (t : VT) :
    (∃ σ', aOrExpr (aEvalN n) σ = .ok t σ') ↔ typeOf e = .ok t := by
  obtain ⟨h1, h2⟩ := analyze_render e n ln σ pre rest h
  exact accepts_iff_of_clauses h1 h2 t

theorem bind_eq_error {α β : Type} {a : Except Err α} {f : α → Except Err β} {x : Err}
    (h : a >>= f = .error x) : a = .error x ∨ ∃ t, a = .ok t ∧ f t = .error x := by
  cases a with
  | error y => exact .inl (congrArg _ (Except.error.inj h))
  | ok t => exact .inr ⟨t, rfl, h⟩

theorem bind_eq_ok {α β : Type} {a : Except Err α} {f : α → Except Err β} {u : β}
    (h : a >>= f = .ok u) : ∃ t, a = .ok t ∧ f t = .ok u := by
  cases a with
  | error y => cases h
  | ok t => exact ⟨t, rfl, h⟩

theorem typeOf_error (e : Expr F) (x : Err) (h : typeOf e = .error x) : x = .typeMismatch := by
  induction e generalizing x with
  | num _ => cases h
  | str _ => cases h
  | var _ => cases h
  | paren e ih => exact ih x h
  | un op e ih =>
    rw [typeOf_un] at h
    rcases bind_eq_error h with h | ⟨a, _, h⟩
    · exact ih x h
    · split at h
      · cases h
      · exact (Except.error.inj h).symm
  | bin op l r ihl ihr =>
    rw [typeOf_bin] at h
    rcases bind_eq_error h with h | ⟨a, _, h⟩
    · exact ihl x h
    · rcases bind_eq_error h with h | ⟨b, _, h⟩
      · exact ihr x h
      · split at h
        · cases h
        · exact (Except.error.inj h).symm
  | abs e ih =>
    rw [typeOf_abs, numArgT_bind] at h
    rcases bind_eq_error h with h | ⟨a, _, h⟩
    · exact ih x h
    · cases a with
      | num => cases h
      | str => exact (Except.error.inj h).symm
  | int e ih =>
    rw [typeOf_int, numArgT_bind] at h
    rcases bind_eq_error h with h | ⟨a, _, h⟩
    · exact ih x h
    · cases a with
      | num => cases h
      | str => exact (Except.error.inj h).symm

def WellTypedEnv (env : Str → Value F) : Prop := ∀ name, (env name).matchesName name = true

/-- the fold `res` of a tree against its static type `ty` -/
def FoldsAs (ty : Except Err VT) (res : Except Err (Value F)) : Prop :=
  match ty with
  | .ok t => (∃ v, res = .ok v ∧ kindOf v = t) ∨ res = .error .divisionByZero
  | .error _ => res = .error .typeMismatch ∨ res = .error .divisionByZero

theorem FoldsAs.dz (ty : Except Err VT) : FoldsAs (F := F) ty (.error .divisionByZero) := by
  cases ty <;> exact .inr rfl

/-- it is enough to know the operator on values -/
theorem FoldsAs.bind {ty : Except Err VT} {res : Except Err (Value F)} {f : VT → Except Err VT}
    {g : Value F → Except Err (Value F)} (h : FoldsAs ty res) (hk : ∀ v, FoldsAs (f (kindOf v)) (g v)) :
    FoldsAs (ty >>= f) (res >>= g) := by
  cases ty with
  | error x =>
    rcases h with rfl | rfl
    · exact .inl rfl
    · exact .inr rfl
  | ok t =>
    rcases h with ⟨v, rfl, rfl⟩ | rfl
    · exact hk v
    · exact .dz _

theorem foldsAs_un (op : UnOp) (v : Value F) :
    FoldsAs (match unaryRule op (kindOf v) with
      | some t => .ok t
      | none => .error .typeMismatch) (op.eval v) := by
  have hag := unop_agrees op v
  cases hop : op.eval v with
  | ok w => rw [hag.2.1 w hop]; exact .inl ⟨w, rfl, rfl⟩
  | error x =>
    obtain rfl := hag.2.2 x hop
    rw [hag.1.1 hop]; exact .inl rfl

theorem foldsAs_bin (op : BinOp) (a b : Value F) :
    FoldsAs (match tierRule (tierOf op) (kindOf a) (kindOf b) with
      | some t => .ok t
      | none => .error .typeMismatch) (op.eval a b) := by
  have hag := binop_agrees op a b
  cases hop : op.eval a b with
  | ok w => rw [hag.2.1 w hop]; exact .inl ⟨w, rfl, rfl⟩
  | error x =>
    rcases hag.2.2 x hop with rfl | rfl
    · rw [hag.1.1 hop]; exact .inl rfl
    · exact .dz _

theorem foldE_un (env : Str → Value F) (op : UnOp) (e : Expr F) :
    foldE env (.un op e) = foldE env e >>= op.eval := by
  rw [foldE]; cases foldE env e <;> rfl

theorem foldE_bin (env : Str → Value F) (op : BinOp) (l r : Expr F) :
    foldE env (.bin op l r) = foldE env l >>= fun a => foldE env r >>= fun b => op.eval a b := by
  rw [foldE]; cases foldE env l <;> cases foldE env r <;> rfl

theorem foldE_abs (env : Str → Value F) (e : Expr F) :
    foldE env (.abs e) = foldE env e >>= fun v =>
      match v with
      | .num x => .ok (.num (NumOps.abs x))
      | .str _ => .error .typeMismatch := by
  rw [foldE]
  cases foldE env e with
  | error x => rfl
  | ok v => cases v <;> rfl

theorem foldE_int (env : Str → Value F) (e : Expr F) :
    foldE env (.int e) = foldE env e >>= fun v =>
      match v with
      | .num x => .ok (.num (NumOps.floor x))
      | .str _ => .error .typeMismatch := by
  rw [foldE]
  cases foldE env e with
  | error x => rfl
  | ok v => cases v <;> rfl

/-- ABS and INT -/
theorem foldsAs_numFn (fn : F → F) (v : Value F) :
    FoldsAs (match kindOf v with
      | .num => .ok .num
      | .str => .error .typeMismatch)
      (match v with
      | .num x => .ok (.num (fn x))
      | .str _ => .error .typeMismatch) := by
  cases v with
  | num x => exact .inl ⟨_, rfl, rfl⟩
  | str s => exact .inl rfl

theorem foldsAs_typeOf (env : Str → Value F) (henv : WellTypedEnv env) (e : Expr F) :
    FoldsAs (typeOf e) (foldE env e) := by
  induction e with
  | num x => exact .inl ⟨_, rfl, rfl⟩
  | str s => exact .inl ⟨_, rfl, rfl⟩
  | var n => exact .inl ⟨_, rfl, matches_iff_kindOf.1 (henv n)⟩
  | paren e ih => exact ih
  | un op e ih =>
    rw [typeOf_un, foldE_un]
    exact ih.bind (foldsAs_un op)
  | bin op l r ihl ihr =>
    rw [typeOf_bin, foldE_bin]
    exact ihl.bind fun a => ihr.bind (foldsAs_bin op a)
  | abs e ih =>
    rw [typeOf_abs, numArgT_bind, foldE_abs]
    exact ih.bind (foldsAs_numFn _)
  | int e ih =>
    rw [typeOf_int, numArgT_bind, foldE_int]
    exact ih.bind (foldsAs_numFn _)

theorem fold_typeOf (env : Str → Value F) (henv : WellTypedEnv env) (e : Expr F) :
    (∀ t, typeOf e = .ok t →
      (∃ v, foldE env e = .ok v ∧ kindOf v = t) ∨ foldE env e = .error .divisionByZero) ∧
    (∀ x, typeOf e = .error x →
      foldE env e = .error .typeMismatch ∨ foldE env e = .error .divisionByZero) := by
  have h := foldsAs_typeOf env henv e
  exact ⟨fun t ht => by rw [ht] at h; exact h, fun x hx => by rw [hx] at h; exact h⟩

/-- Typed trees have typed values, in an environment where every variable holds a
    value of the kind its name announces. -/
theorem typed_value (env : Str → Value F) (henv : WellTypedEnv env) (e : Expr F) (t : VT)
    (h : typeOf e = .ok t) :
    foldE env e ≠ .error .typeMismatch ∧
    (∀ v, foldE env e = .ok v → kindOf v = t) ∧
    (∀ x, foldE env e = .error x → x = .divisionByZero) := by
  rcases (fold_typeOf env henv e).1 t h with ⟨v, hv, hk⟩ | hdz
  · rw [hv]
    refine ⟨by simp, fun w hw => ?_, fun x hx => by simp at hx⟩
    simp only [Except.ok.injEq] at hw; subst hw; exact hk
  · rw [hdz]
    refine ⟨by simp, fun w hw => by simp at hw, fun x hx => ?_⟩
    simp only [Except.error.injEq] at hx; exact hx.symm

/-- The converse: the fold of a rejected tree fails, with TYPE MISMATCH unless a
    sub-expression evaluated earlier divides by zero first. -/
theorem untyped_value (env : Str → Value F) (henv : WellTypedEnv env) (e : Expr F) (x : Err)
    (h : typeOf e = .error x) :
    x = .typeMismatch ∧
    (foldE env e = .error .typeMismatch ∨ foldE env e = .error .divisionByZero) :=
  ⟨typeOf_error e x h, (fold_typeOf env henv e).2 x h⟩

/-- The clean converse "rejected ⇒ the fold is TYPE MISMATCH" is false: in
    `1 / 0 + "A"` (over the degenerate carrier, where every number equals zero) the
    division fails first. -/
example :
    typeOf (F := Unit) (.bin .add (.bin .div (.num ()) (.num ())) (.str ['A'])) = .error .typeMismatch ∧
    foldE (F := Unit) (fun n => Value.defaultFor n)
      (.bin .add (.bin .div (.num ()) (.num ())) (.str ['A'])) = .error .divisionByZero := by
  constructor <;> rfl

/-- And well-typedness of the environment is needed: with `X` holding a string,
    the typed tree `X + 1` folds to TYPE MISMATCH. -/
example :
    typeOf (F := Unit) (.bin .add (.var ['X']) (.num ())) = .ok .num ∧
    foldE (F := Unit) (fun _ => Value.str []) (.bin .add (.var ['X']) (.num ())) = .error .typeMismatch := by
  constructor <;> rfl

/-- `setVar` = `Variables::set` maintains this: it checks `matchesName` -/
def WellTyped (σ : St F) : Prop := ∀ name v, alGet name σ.vars = some v → v.matchesName name = true

theorem defaultFor_matches (name : Str) : (Value.defaultFor (F := F) name).matchesName name = true := by
  unfold Value.defaultFor
  cases h : endsWithDollar name <;> simp [Value.matchesName, h]

theorem wellTypedEnv_getVar {σ : St F} (h : WellTyped σ) : WellTypedEnv (getVar σ) := by
  intro name
  unfold getVar
  cases hg : alGet name σ.vars with
  | none => exact defaultFor_matches name
  | some v => exact h name v hg

theorem wellTyped_empty : WellTyped ({} : St F) := by
  intro name v h
  simp [alGet] at h

theorem setVar_wellTyped {σ σ' : St F} {name : Str} {v : Value F}
    (h : WellTyped σ) (hs : setVar name v σ = .ok () σ') : WellTyped σ' := by
  unfold setVar at hs
  cases hm : v.matchesName name with
  | false =>
    simp only [hm, Bool.false_eq_true, ↓reduceIte] at hs
    cases hs
  | true =>
    simp only [hm, ↓reduceIte] at hs
    have : σ' = { σ with vars := alSet name v σ.vars } := by
      simp only [M.modify, Res.ok.injEq, true_and] at hs
      exact hs.symm
    subst this
    exact C16.alSet_all h hm

/-- C06 for expressions.  If the analyzer accepts the rendering of `e` with
    type `t` (run from any state `σa` standing on it, on a numbered line), then the
    evaluator run on the same tokens — from any state `σ` standing on a rendering
    of `e` (C02's `Ready`) whose variables are well-typed — either yields a value
    of kind `t`, leaving `σ` untouched but for the cursor and the read counter, or
    fails with DIVISION BY ZERO.  (`typeOf e = .ok t` is the link.) -/
theorem sound_expr_strong (e : Expr F) (t : VT)
    (na ln : Nat) (σa σa' : St F) (prea resta : List (Token F))
    (ha : AReady σa ln prea e resta na) (hacc : aOrExpr (aEvalN na) σa = .ok t σa')
    (n : Nat) (σ : St F) (pre rest : List (Token F))
    (hr : C02.Ready σ pre e rest n) (hwt : WellTyped σ) :
    typeOf e = .ok t ∧
    ((∃ v r, kindOf v = t ∧ foldE (getVar σ) e = .ok v ∧ σ.reads < r ∧
        orExpr (evalN n) σ =
          .ok v { σ with loc := { σ.loc with idx := pre.length + (render e).length }, reads := r }) ∨
     (∃ σ', orExpr (evalN n) σ = .err { err := .divisionByZero } σ' ∧ σ'.nesting = σ.nesting)) := by
  have hty : typeOf e = .ok t := (analyzer_accepts_iff e na ln σa prea resta ha t).1 ⟨σa', hacc⟩
  refine ⟨hty, ?_⟩
  obtain ⟨h1, h2⟩ := C02.eval_render e n σ pre rest hr
  rcases (fold_typeOf (getVar σ) (wellTypedEnv_getVar hwt) e).1 t hty with ⟨v, hv, hk⟩ | hdz
  · obtain ⟨r, hlt, hrun⟩ := h1 v hv
    exact .inl ⟨v, r, hk, hv, hlt, hrun⟩
  · exact .inr (h2 _ hdz)

/-- If the analyzer accepts the rendering, the evaluator run on the same tokens,
    from any `Ready` state whose variables are well-typed, does not fail with
    TYPE MISMATCH nor with a syntax error (nor with anything but DIVISION BY
    ZERO), and any value it returns has the kind the analyzer computed. -/
theorem sound_expr (e : Expr F) (t : VT)
    (na ln : Nat) (σa σa' : St F) (prea resta : List (Token F))
    (ha : AReady σa ln prea e resta na) (hacc : aOrExpr (aEvalN na) σa = .ok t σa')
    (n : Nat) (σ : St F) (pre rest : List (Token F))
    (hr : C02.Ready σ pre e rest n) (hwt : WellTyped σ) :
    (∀ te σ', orExpr (evalN n) σ = .err te σ' →
      te.err ≠ .typeMismatch ∧ (∀ s, te.err ≠ .syntax s) ∧ te.err = .divisionByZero) ∧
    (∀ v σ', orExpr (evalN n) σ = .ok v σ' → kindOf v = t) := by
  obtain ⟨_, h⟩ := sound_expr_strong e t na ln σa σa' prea resta ha hacc n σ pre rest hr hwt
  rcases h with ⟨v, r, hk, _, _, hrun⟩ | ⟨σ'', hrun, _⟩
  · rw [hrun]
    refine ⟨fun te σ' h => (by cases h), fun w σ' h => ?_⟩
    simp only [Res.ok.injEq] at h
    rw [← h.1]; exact hk
  · rw [hrun]
    refine ⟨fun te σ' h => ?_, fun w σ' h => by cases h⟩
    simp only [Res.err.injEq] at h
    rw [← h.1]
    exact ⟨by simp, fun s => by simp, rfl⟩

/-- The same when analyzer and evaluator start from the SAME state (a numbered
    line, no frames, warnings off — the analyzer's own `Program` is such a state). -/
theorem sound_expr_same (e : Expr F) (t : VT) (n ln : Nat) (σ σa' : St F) (pre rest : List (Token F))
    (hr : C02.Ready σ pre e rest n) (hl : σ.loc.line = some ln) (hwt : WellTyped σ)
    (hacc : aOrExpr (aEvalN n) σ = .ok t σa') :
    (∀ te σ', orExpr (evalN n) σ = .err te σ' →
      te.err ≠ .typeMismatch ∧ (∀ s, te.err ≠ .syntax s) ∧ te.err = .divisionByZero) ∧
    (∀ v σ', orExpr (evalN n) σ = .ok v σ' → kindOf v = t) :=
  sound_expr e t n ln σ σa' pre rest ⟨hl, hr.toks, hr.idx, hr.nesting, hr.fuel, hr.follows⟩ hacc n σ pre rest hr hwt

/-- Completeness at the level of expressions: if the analyzer REJECTS the
    rendering, the evaluator (well-typed variables) fails too — with TYPE MISMATCH
    unless a division by zero comes first. -/
theorem complete_expr (e : Expr F) (na ln : Nat) (σa σa' : St F) (prea resta : List (Token F)) (te : TErr)
    (ha : AReady σa ln prea e resta na) (hrej : aOrExpr (aEvalN na) σa = .err te σa')
    (n : Nat) (σ : St F) (pre rest : List (Token F))
    (hr : C02.Ready σ pre e rest n) (hwt : WellTyped σ) :
    te = { err := .typeMismatch } ∧
    ∃ σ', (orExpr (evalN n) σ = .err { err := .typeMismatch } σ' ∨
           orExpr (evalN n) σ = .err { err := .divisionByZero } σ') ∧ σ'.nesting = σ.nesting := by
  obtain ⟨a1, a2⟩ := analyze_render e na ln σa prea resta ha
  cases hty : typeOf e with
  | ok t =>
    obtain ⟨r, _, hrun⟩ := a1 t hty
    rw [hrun] at hrej
    cases hrej
  | error x =>
    obtain ⟨σ'', hrun, _⟩ := a2 x hty
    have hx := typeOf_error e x hty
    subst hx
    rw [hrun] at hrej
    simp only [Res.err.injEq] at hrej
    refine ⟨hrej.1.symm, ?_⟩
    obtain ⟨_, h2⟩ := C02.eval_render e n σ pre rest hr
    rcases (fold_typeOf (getVar σ) (wellTypedEnv_getVar hwt) e).2 _ hty with hf | hf
    · obtain ⟨σ', hσ', hn⟩ := h2 _ hf
      exact ⟨σ', .inl hσ', hn⟩
    · obtain ⟨σ', hσ', hn⟩ := h2 _ hf
      exact ⟨σ', .inr hσ', hn⟩

/-! ### non-vacuity -/

def lineState (ln : Nat) (ts : List (Token F)) (vars : List (Str × Value F)) : St F :=
  { lines := { map := [(ln, ts)], sorted := [ln] }, loc := { line := some ln, idx := 0 }, vars := vars }

theorem tokens_lineState (ln : Nat) (ts : List (Token F)) (vars : List (Str × Value F)) :
    tokens (lineState ln ts vars) = .ok ts (lineState ln ts vars) := by
  simp [tokens, tokensForLine, lineState, Lines.get, Lines.getMap]

theorem aready_line (e : Expr F) (ln : Nat) (rest : List (Token F)) (vars : List (Str × Value F)) (n : Nat)
    (hd : depth e < Extracted.nestingLimit) (hn : depth e + 1 ≤ n) (hrest : C02.Follows rest) :
    AReady (lineState ln ([] ++ render e ++ rest) vars) ln [] e rest n where
  line := rfl
  toks := tokens_lineState _ _ _
  idx := rfl
  nesting := by show 0 + depth e < _; omega
  fuel := hn
  follows := hrest

theorem ready_line (e : Expr F) (ln : Nat) (rest : List (Token F)) (vars : List (Str × Value F)) (n : Nat)
    (hd : depth e < Extracted.nestingLimit) (hn : depth e + 1 ≤ n) (hrest : C02.Follows rest) :
    C02.Ready (lineState ln ([] ++ render e ++ rest) vars) [] e rest n where
  toks := tokens_lineState _ _ _
  idx := rfl
  stack := rfl
  warnings := rfl
  nesting := by show 0 + depth e < _; omega
  fuel := hn
  follows := hrest

theorem analyze_render_line (e : Expr F) (ln : Nat) (vars : List (Str × Value F))
    (hd : depth e < Extracted.nestingLimit) :
    C02.outcome (aOrExpr (aEvalN defaultFuel) (lineState ln ([] ++ render e ++ []) vars)) =
      (match typeOf e with
       | .ok t => .ok t
       | .error x => .error { err := x }) :=
  analyze_render_outcome e _ ln _ [] [] (aready_line e ln [] vars defaultFuel hd (by unfold defaultFuel; omega)
    C02.follows_nil)

/-- on line 10 holding `A$ = "X" AND - B < x` the analyzer answers "number" and logs
    the reads of `A$` (token 0) and `B` (token 5) -/
example (x : F) :
    ∃ r, aOrExpr (aEvalN defaultFuel)
      (lineState 10 [.symbol ['A', '$'], .kw .Equals, .str ['X'], .kw .And, .kw .Minus, .symbol ['B'],
        .kw .LessThan, .num x] [] : St F)
      = .ok .num
          { (lineState 10 [.symbol ['A', '$'], .kw .Equals, .str ['X'], .kw .And, .kw .Minus, .symbol ['B'],
              .kw .LessThan, .num x] [] : St F) with
            loc := { line := some 10, idx := 8 }, reads := r,
            accesses := [(['A', '$'], 10, 0, .read), (['B'], 10, 5, .read)] } := by
  let e : Expr F := .bin .and (.bin (.cmp .eq) (.var ['A', '$']) (.str ['X']))
    (.bin (.cmp .lt) (.un .neg (.var ['B'])) (.num x))
  have hd : depth e = 0 := by simp [e, depth, Expr.prec, BinOp.prec]
  have h := (analyze_render e defaultFuel 10 _ [] []
    (aready_line e 10 [] [] defaultFuel (by rw [hd]; decide) (by rw [hd]; unfold defaultFuel; omega)
      C02.follows_nil)).1 .num (by
        simp [e, typeOf, tierRule, tierOf, unaryRule, VT.ofName, endsWithDollar])
  obtain ⟨r, _, hr⟩ := h
  refine ⟨r, ?_⟩
  simpa [e, render, renderAt, Expr.prec, BinOp.prec, BinOp.token, UnOp.token, accs, fixP, lineState] using hr

example (x : F) :
    C02.outcome (aOrExpr (aEvalN defaultFuel)
      (lineState 10 [.symbol ['A', '$'], .kw .Plus, .num x] [] : St F))
      = .error { err := .typeMismatch } := by
  have h := analyze_render_line (.bin .add (.var ['A', '$']) (.num x)) 10 []
    (by simp [depth, Expr.prec, BinOp.prec]; decide)
  simpa [render, renderAt, Expr.prec, BinOp.prec, BinOp.token, typeOf, tierRule, tierOf, VT.ofName,
    endsWithDollar] using h

/-- The line must be numbered: on the immediate line the analyzer panics at the
    first variable (`log_access` unwraps the line number) — hence `AReady.line`. -/
example :
    C02.outcome (aOrExpr (aEvalN defaultFuel) ({ imm := [.symbol ['B']] } : St Unit))
      = .error { err := .panic "log_access: unwrap on a non-numbered location" } := by
  rfl

/-- `sound_expr` applies to `B * x < C` on line 10 -/
example (x : F) (vars : List (Str × Value F))
    (hwt : WellTyped (lineState 10 ([] ++ render (.bin (.cmp .lt) (.bin .mul (.var ['B']) (.num x)) (.var ['C'])
      : Expr F) ++ []) vars)) (σa' : St F)
    (hacc : aOrExpr (aEvalN defaultFuel)
      (lineState 10 ([] ++ render (.bin (.cmp .lt) (.bin .mul (.var ['B']) (.num x)) (.var ['C']) : Expr F) ++ [])
        vars) = .ok .num σa') :
    ∀ v σ', orExpr (evalN defaultFuel)
      (lineState 10 ([] ++ render (.bin (.cmp .lt) (.bin .mul (.var ['B']) (.num x)) (.var ['C']) : Expr F) ++ [])
        vars) = .ok v σ' → kindOf v = .num := by
  have hd : depth (.bin (.cmp .lt) (.bin .mul (.var ['B']) (.num x)) (.var ['C']) : Expr F) = 0 := by
    simp [depth, Expr.prec, BinOp.prec]
  exact (sound_expr_same _ .num defaultFuel 10 _ σa' [] []
    (ready_line _ 10 [] vars defaultFuel (by rw [hd]; decide) (by rw [hd]; unfold defaultFuel; omega)
      C02.follows_nil) rfl hwt hacc).2

end Abasic.Props.C06
