import Abasic.Props.C03Full
import Abasic.Props.C02Full
import Abasic.Proofs.Stmt3Prog
import Abasic.Proofs.Stmt3Static
/-
  C03, third layer: ONE reference machine for the whole statement language
  (INPUT apart), over the full expression language.

  The reference semantics is Abasic/Ref/Stmt3.lean (`RStmt3`, `RStmt3.exec`: LET,
  PRINT, GOTO, END, IF with arbitrary branches and `THEN n` / `ELSE n`, FOR /
  NEXT, GOSUB / RETURN, READ (scalar targets and array cells `a(e…)` in any
  mixture, `RTarget`) / DATA / RESTORE, DIM, `LET a(i) = e`, DEF FN; every
  expression is an `Expr2` — array cells, RND, calls of user functions — and is
  evaluated with `fold2`) and Abasic/Ref/Prog3.lean (`RStep3`, `RSteps3`).
  Proved here, about the model of the real code: one activation of the
  statement evaluator on the rendering of a covered statement does what
  `RStmt3.exec` says (`Outcome3`, Proofs/Stmt3Rel.lean); executing DEF FN
  establishes, for the new function table, the relation `EnvOf` that
  `eval_render2` (C02Full.lean) assumes, so calls of functions defined earlier in
  the run are covered; a turn on a colon stutters, a turn on a statement is
  exactly one `RStep3` (`Sim3`); whole runs, as in C03Full.lean.

  Side conditions.  Static (`Fits3`): the program is well formed and every
  statement is `Covered` (Ref/Stmt3.lean).  Along the reference run (`StepOk`,
  `SafeRun`): in every state the reference machine reaches, the names used by
  the statement at the program counter and by the bodies of the functions
  defined so far are consistent with the function table (`Resolved`: an array is
  not named like a defined function — a later DEF would change the meaning of
  `A(1)`), and the statement fits the recursion fuel and the nesting cap
  (`sdepth3`, which looks through the bodies of the functions it calls).
  `safeRun_of_static` gives a sufficient condition on the program text.

  Errors.  A failing run fails with the same error after the same output.  The
  line it is attributed to is the line of the failing statement — except that an
  error raised while the BODY of a user function is evaluated is attributed (by
  the interpreter) to the line of that function's DEF; `TurnStep3` / `RunMatch3`
  say: the line of the statement, or the line of the definition of one of the
  functions defined so far (`RState3.fnLines`).  The spec `fold2` does not say
  in which body an error arose, so the theorems cannot be more precise.
-/
set_option linter.unusedSectionVars false

namespace Abasic.Props.C03
open Abasic Abasic.Ref Abasic.ExprL Abasic.ExprL2 Abasic.StmtL Abasic.ProgL Abasic.Prog3L Abasic.Stmt3L

variable {F : Type} [NumOps F]

/-- Statement refinement for every statement of `RStmt3`: with the model
    state `σ` corresponding to the reference state `r` (`SReady3`), one
    activation of the statement evaluator realises the reference step
    `RStmt3.exec`. -/
theorem stmt3_refines {p : RProgram3 F} {r : RState3 F} {σ : St F} {n j : Nat} {ss : List (RStmt3 F)}
    {s : RStmt3 F} {fuel : Nat} (h : SReady3 p r σ n j ss s fuel) :
    Outcome3 p σ n ((preToks3 ss j).length + (renderS3 s).length) (renderLine3 ss).length
      (stmtBody (evalN fuel) σ) (s.exec (allData3 p) n j r).1 (s.exec (allData3 p) n j r).2 :=
  stmt3_run h

theorem envOf_of_mem {p : RProgram3 F} {r : RState3 F} {σ : St F} (hm : Mem3 p r σ) : C02.EnvOf σ r.env where
  vars := hm.vars
  frames := Stmt3V.frames_rets (p := view p) hm.stack
  arrays := hm.arrays
  rng := hm.rng
  fns_undef := hm.fns.undef
  fns_def := fun name d hd => by
    obtain ⟨fd, pre, tail, h1, h2, h3, h4, h5⟩ := hm.fns.defd name d hd
    exact ⟨fd, pre, tail, h1, h2, by rw [h3, List.append_assoc], h4, C02.follows_of_ends h5⟩

/-- After `DEF f(ps) = body` has been executed
    (as statement `j` of line `n`), the model state realises the environment of
    the new reference state — whose function table has `f` — in the sense
    `eval_render2` assumes: `f` is recorded with the parameters `ps`, on line `n`,
    pointing at the rendering of `body`.  So a later call `f(…)` is covered by
    `eval_render2` (and by the statement theorems above, which use it). -/
theorem def_establishes_envOf {p : RProgram3 F} {r : RState3 F} {σ : St F} {n j : Nat} {ss : List (RStmt3 F)}
    {f : Str} {ps : List Str} {body : Expr2 F} {fuel : Nat} (h : SReady3 p r σ n j ss (.defS f ps body) fuel) :
    ∃ σ', stmtBody (evalN fuel) σ = .ok () σ' ∧
      C02.EnvOf σ' ((RStmt3.defS f ps body).exec (allData3 p) n j r).1.env ∧
      alGet f ((RStmt3.defS f ps body).exec (allData3 p) n j r).1.env.fns = some { params := ps, body := body } ∧
      ∃ fd, alGet f σ'.fns = some fd ∧ fd.args = ps ∧ fd.line = n := by
  obtain ⟨σ', hres, _, hm, _, _⟩ := stmt3_run h
  refine ⟨σ', hres, envOf_of_mem hm, ?_, ?_⟩
  · show alGet f (alSet f _ r.fns) = _
    exact Props.C16.alGet_alSet_self _ _ _
  · obtain ⟨fd, pre, tail, h1, h2, _⟩ := hm.fns.defd f { params := ps, body := body }
      (by show alGet f (alSet f _ r.fns) = _; exact Props.C16.alGet_alSet_self _ _ _)
    refine ⟨fd, h1, h2, ?_⟩
    have := hm.fnLines f fd h1
    have h' : alGet f (alSet f n r.fnLines) = some n := Props.C16.alGet_alSet_self _ _ _
    rw [show ((RStmt3.defS f ps body).exec (allData3 p) n j r).1.fnLines = alSet f n r.fnLines from rfl, h'] at this
    exact (Option.some.inj this).symm

structure Fits3 (p : RProgram3 F) : Prop where
  wf : p.WF
  covered : ∀ l ∈ p, ∀ s ∈ l.2, s.Covered

structure StepOk (p : RProgram3 F) (fuel : Nat) (r : RState3 F) : Prop where
  bodies : ∀ name d, alGet name r.fns = some d → Resolved r.fns d.body
  stmt : ∀ n j ss s, r.pc = some (n, j) → p.line n = some ss → ss[j]? = some s →
    ResolvedS r.fns s ∧ sdepth3 r.fns s ≤ fuel ∧ sdepth3 r.fns s ≤ Extracted.nestingLimit

def SafeRun (p : RProgram3 F) (fuel : Nat) (r : RState3 F) : Prop :=
  ∀ m r', RSteps3 p m r = .inl r' → StepOk p fuel r'

theorem SafeRun.here {p : RProgram3 F} {fuel : Nat} {r : RState3 F} (h : SafeRun p fuel r) : StepOk p fuel r :=
  h 0 r rfl

theorem SafeRun.step {p : RProgram3 F} {fuel : Nat} {r r' : RState3 F} (h : SafeRun p fuel r)
    (hs : RStep3 p r = .inl r') : SafeRun p fuel r' :=
  fun m r'' hm => h (m + 1) r'' (by rw [rsteps3_ok m hs]; exact hm)

/-- the outcome of a turn (or of RUN) against the outcome of a reference step from `r`:
    on `.inr (e, ln)` the model fails with `e`, located on line `ln` or — an error
    raised in the body of a user function — on the line of the definition of one
    of the functions defined so far; it is idle, and the failing statement has
    printed nothing -/
def TurnStep3 (p : RProgram3 F) (r : RState3 F) (res : Res F Unit) : RState3 F ⊕ (Err × Nat) → Prop
  | .inl r' => ∃ σ', res = .ok () σ' ∧ Sim3 p r' σ'
  | .inr (e, ln) => ∃ σ' l, res = .err { err := e, loc := some l } σ' ∧
      (l.line = some ln ∨ ∃ name m, alGet name r.fnLines = some m ∧ l.line = some m) ∧
      σ'.state = .idle ∧ σ'.out = outRecs r.out

theorem turnStep3_of_seq {p : RProgram3 F} {r r' : RState3 F} {σ : St F} {m : M F Unit}
    {x : Option (Nat × Nat) ⊕ (Err × Nat)} (hout : σ.out = outRecs r.out)
    (h : SeqL.StepsTo Prog3L.lang p (Core3 p r') (Final3 r') (DefLine r) σ (m σ) x) :
    TurnStep3 p r (postprocess m σ) (x.map (fun pc => { r' with pc := pc }) id) := by
  cases x with
  | inl pc =>
    obtain ⟨σ', hσ', hland⟩ := h
    refine ⟨σ', C01.postprocess_of_ok hσ', sim3_lands.2 ?_⟩
    cases pc with
    | none => exact hland
    | some nj => exact ⟨hland.1.pc _, hland.2⟩
  | inr eln =>
    obtain ⟨e, ln⟩ := eln
    obtain ⟨σ', te, l, hσ', ho, hpop, hl⟩ := h
    refine ⟨{ σ' with state := .idle }, l, ?_, hl.imp_right fun ⟨m, ⟨name, hm⟩, hl⟩ => ⟨name, m, hm, hl⟩, rfl,
      by show σ'.out = _; rw [ho, hout]⟩
    unfold postprocess
    rw [hσ']
    show Res.err (σ'.populate te) _ = _
    rw [hpop]

theorem sready3_turn {p : RProgram3 F} {fuel : Nat} (hfit : Fits3 p) {r : RState3 F} (hok : StepOk p fuel r)
    {σ : St F} (hc : Core3 p r σ) {n j : Nat} {ss : List (RStmt3 F)} {s : RStmt3 F}
    (hpc : r.pc = some (n, j)) (hl : p.line n = some ss) (hs : ss[j]? = some s)
    (hloc : σ.loc = { line := some n, idx := (preToks3 ss j).length }) :
    SReady3 p r (mv { σ with state := .running } 0 (σ.reads + 1)) n j ss s fuel where
  wf := hfit.wf
  env := ⟨hc.env.lines, hc.env.warnings, hc.env.tracing⟩
  mem := hc.mem.congr rfl rfl rfl rfl rfl rfl rfl rfl rfl
  inv := hc.inv
  nesting := hc.nesting
  line := hl
  stmt := hs
  locline := by show σ.loc.line = _; rw [hloc]
  idx := by show σ.loc.idx + 0 = _; rw [hloc]; rfl
  covered := hfit.covered _ (line_mem hl) s (List.mem_of_getElem? hs)
  bodies := hok.bodies
  resolved := (hok.stmt n j ss s hpc hl hs).1
  fuel := (hok.stmt n j ss s hpc hl hs).2.1
  nest := (hok.stmt n j ss s hpc hl hs).2.2

theorem rns3_refines {p : RProgram3 F} {fuel : Nat} (hfit : Fits3 p) {r : RState3 F} (hok : StepOk p fuel r)
    {σ : St F} (hc : Core3 p r σ) {n j : Nat} {ss : List (RStmt3 F)} {s : RStmt3 F}
    (hpc : r.pc = some (n, j)) (hl : p.line n = some ss) (hs : ss[j]? = some s)
    (hloc : σ.loc = { line := some n, idx := (preToks3 ss j).length }) :
    TurnStep3 p r (postprocess (runNextStatement fuel) σ) (RStep3 p r) := by
  have hr := sready3_turn hfit hok hc hpc hl hs hloc
  rw [rstep_seq hpc hl hs]
  exact turnStep3_of_seq hc.mem.out (SeqL.turn (frame p _) hfit.wf.seq hc.env.lines.seq hl hs hloc
    (outcome_seq hr.env hr.mem hr.nesting rfl (exec3_inv (allData3 p) n j s r hr.inv) (stmt3_run hr)))

/-- **A turn on a colon.**  With the cursor on the colon in front of the
    statement the reference machine is at, a turn succeeds, moves the cursor to
    the first token of that statement and changes nothing else the simulation
    relation sees: the reference machine does not move. -/
theorem turn3_colon {p : RProgram3 F} {fuel : Nat} {r : RState3 F} {σ : St F}
    (h : Sim3 p r σ) {n j : Nat} {ss : List (RStmt3 F)} (hpc : r.pc = some (n, j)) (hl : p.line n = some ss)
    (hidx : σ.loc.idx + 1 = (preToks3 ss j).length) :
    ∃ σ', continueEvaluating fuel σ = .ok () σ' ∧ Sim3 p r σ' ∧ σ'.loc.idx = (preToks3 ss j).length := by
  have hL := sim3_lands.1 h
  rw [hpc] at hL
  obtain ⟨σ', h1, h2, h3⟩ := SeqL.colon_lands (frame p r) (fuel := fuel) hL hl hidx
  exact ⟨σ', h1, sim3_lands.2 (by rw [hpc]; exact h2), h3⟩

/-- **A turn on a statement is one reference step.**  With the cursor on the
    first token of the statement at the program counter, `continueEvaluating`
    does what `RStep3` says (`TurnStep3`). -/
theorem turn3_refines {p : RProgram3 F} {fuel : Nat} (hfit : Fits3 p) {r : RState3 F} (hok : StepOk p fuel r)
    {σ : St F} (h : Sim3 p r σ) {n j : Nat} {ss : List (RStmt3 F)} (hpc : r.pc = some (n, j))
    (hl : p.line n = some ss) (hidx : σ.loc.idx = (preToks3 ss j).length) :
    TurnStep3 p r (continueEvaluating fuel σ) (RStep3 p r) := by
  unfold Sim3 at h
  rw [hpc] at h
  obtain ⟨hc, hrun, hline, ss', hl', hj, _⟩ := h
  rw [hl] at hl'
  cases hl'
  rw [C09.continue_is_one_turn fuel σ hrun]
  exact rns3_refines hfit hok hc hpc hl (List.getElem?_eq_getElem hj) (by rw [← hidx, ← hline])

/-- what RUN needs of the state it is typed into -/
structure PReady3 (p : RProgram3 F) (σ : St F) : Prop where
  idle : σ.state = .idle
  lines : Holds σ.lines p
  warnings : σ.warnings = false
  tracing : σ.tracing = false
  nesting : σ.nesting = 0
  out : σ.out = []
  /-- the generator state is reduced (true in every reachable state: `WFσ.rng`) -/
  rng : σ.rng < Extracted.rngModulus

theorem rinv3_start (p : RProgram3 F) {g : Nat} (hg : g < Extracted.rngModulus) : RInv3 (p.start g) :=
  ⟨fun k v h => by simp [RProgram3.start, alGet] at h, fun k a h => by simp [RProgram3.start, alGet] at h,
   hg, Nat.zero_le _⟩

theorem core3_start {p : RProgram3 F} {σ : St F} (h : PReady3 p σ) (loc : Loc) :
    Core3 p (p.start σ.rng)
      ({ (({ σ.setImmediate [] with input := none, vars := [], arrays := [] } : St F).resetRuntime) with loc := loc }) where
  env := ⟨h.lines, h.warnings, h.tracing⟩
  mem := {
    vars := rfl
    arrays := rfl
    rng := rfl
    loops := Prog2L.Rel2.nil
    stack := Prog2L.Rel2.nil
    data := rfl
    out := h.out
    fns := ⟨fun _ _ => rfl, fun name d hd => by cases hd⟩
    fnLines := fun name fd hfd => by cases hfd }
  inv := rinv3_start p h.rng
  nesting := h.nesting

/-- **RUN is the first reference step**: it clears variables, arrays, both
    stacks, the DATA cursor and the function table (not the random number
    generator), puts the cursor on the first line and runs its first statement
    in the same call. -/
theorem run3_start {p : RProgram3 F} {fuel : Nat} (hfit : Fits3 p) {σ : St F} (h : PReady3 p σ)
    (hok : StepOk p fuel (p.start σ.rng)) :
    TurnStep3 p (p.start σ.rng) (startEvaluating fuel "RUN".toList σ) (RStep3 p (p.start σ.rng)) := by
  rw [startEvaluating_run fuel σ h.idle]
  cases hf : p.first with
  | none =>
    have hp : p = [] := by cases p with | nil => rfl | cons _ _ => cases hf
    subst hp
    obtain ⟨σ', hσ', hfin⟩ := run_no_lines fuel (σ := σ) (by rw [holds_first h.lines]; rfl) h.out
    exact ⟨σ', C01.postprocess_of_ok hσ', hfin⟩
  | some n =>
    obtain ⟨ss, hl, hlen, hinit⟩ := runInit_line hfit.wf.seq h.lines.seq hf
    have hc : Core3 p (p.start σ.rng) (runInit σ) := by rw [hinit]; exact core3_start h _
    exact rns3_refines hfit hok hc (by show (p.first.map fun n => (n, 0)) = _; rw [hf]; rfl) hl
      (List.getElem?_eq_getElem hlen) (by rw [hinit])

/-- the outcome of a run of the model against the outcome of a run of the
    reference machine: related states, or the same error with the same PRINT
    records before it, located on the same line — or, for an error raised in the
    body of a user function, on a line of the program with a DEF statement -/
def RunMatch3 (p : RProgram3 F) (res : Res F Unit) : RState3 F ⊕ (Err × Nat × List Str) → Prop
  | .inl r' => ∃ σ', res = .ok () σ' ∧ Sim3 p r' σ'
  | .inr (e, ln, out) => ∃ σ' l, res = .err { err := e, loc := some l } σ' ∧
      (l.line = some ln ∨ ∃ m name d, l.line = some m ∧ DefAt p m name d) ∧
      σ'.state = .idle ∧ σ'.out = outRecs out

/-- `TableOf` (the functions defined so far are defined by the program) turns the line recorded for a function
    into a line of the program with a DEF statement -/
theorem turnStep3_run {p : RProgram3 F} {r : RState3 F} {res : Res F Unit} (ht : TableOf p r)
    (h : TurnStep3 p r res (RStep3 p r)) : RunMatch3 p res (RSteps3 p 1 r) := by
  unfold RSteps3
  cases hs : RStep3 p r with
  | inl r' => rw [hs] at h; exact h
  | inr x =>
    obtain ⟨e, ln⟩ := x
    rw [hs] at h
    obtain ⟨σ', l, h1, h2, h3⟩ := h
    exact ⟨σ', l, h1, h2.imp_right fun ⟨name, m, a, b⟩ => let ⟨d, hd⟩ := ht.2 name m a; ⟨m, name, d, b, hd⟩, h3⟩

/-- the runs carry along the side conditions and the origin of the function table for the rest of the reference run -/
theorem run3_machine {p : RProgram3 F} {fuel : Nat} (hfit : Fits3 p) :
    SeqL.Run Prog3L.lang p fuel RState3.pc (RStep3 p) (fun r x => (x.1, x.2, r.out)) (RSteps3 p) (Core3 p) Final3
      (fun r => SafeRun p fuel r ∧ TableOf p r) (RunMatch3 p) where
  iter := rsteps3_iterates p
  ended h := by simp only [RStep3, h]
  keeps h hs := ⟨h.1.step hs, tableOf_step h.2 hs⟩
  frame := frame p
  idle h := h.1
  ok := exists_congr fun _ => and_congr_right fun _ => sim3_lands
  err {_ x} h := by obtain ⟨e, ln, o⟩ := x; obtain ⟨σ, l, h, _⟩ := h; exact ⟨_, σ, h⟩
  turn hI hpc h hl hidx := turnStep3_run hI.2 (turn3_refines hfit hI.1.here (sim3_lands.2 (hpc ▸ h)) hpc hl hidx)

/-- **Whole runs, by turns.**  RUN followed by `k` turns of the host loop does
    what `n` reference steps from the start of the program do, for some `n`
    between 1 and `k + 1`. -/
theorem run3_refines {p : RProgram3 F} {fuel : Nat} (hfit : Fits3 p) {σ : St F} (h : PReady3 p σ)
    (hsafe : SafeRun p fuel (p.start σ.rng)) (k : Nat) :
    ∃ n, 1 ≤ n ∧ n ≤ k + 1 ∧ RunMatch3 p (runTurns fuel k σ) (RSteps3 p n (p.start σ.rng)) :=
  RunSim.run_by_turns (run3_machine hfit).zero (run3_machine hfit).turn_cases ((run3_machine hfit).first
    (turnStep3_run (tableOf_start p _) (run3_start hfit h hsafe.here)) ⟨hsafe, tableOf_start p _⟩) k

/-- **Whole runs, by reference steps.**  `n + 1` reference steps from the start of
    the program are RUN followed by some `k ≤ 2 n` turns of the host loop. -/
theorem run3_refines_steps {p : RProgram3 F} {fuel : Nat} (hfit : Fits3 p) {σ : St F} (h : PReady3 p σ)
    (hsafe : SafeRun p fuel (p.start σ.rng)) (n : Nat) :
    ∃ k, k ≤ 2 * n ∧ RunMatch3 p (runTurns fuel k σ) (RSteps3 p (n + 1) (p.start σ.rng)) :=
  RunSim.run_by_steps (run3_machine hfit).zero (run3_machine hfit).turn_cases ((run3_machine hfit).first
    (turnStep3_run (tableOf_start p _) (run3_start hfit h hsafe.here)) ⟨hsafe, tableOf_start p _⟩) n

/-- **A program that ends, ends the same way in the model**: if the reference
    machine has reached its end after `n + 1` steps, then RUN and some `k ≤ 2 n`
    turns leave the interpreter idle, holding the reference variables and arrays,
    and the host takes exactly the reference PRINT records from the output queue. -/
theorem run3_ends {p : RProgram3 F} {fuel : Nat} (hfit : Fits3 p) {σ : St F} (h : PReady3 p σ)
    (hsafe : SafeRun p fuel (p.start σ.rng)) (n : Nat)
    {r' : RState3 F} (hr : RSteps3 p (n + 1) (p.start σ.rng) = .inl r') (hend : r'.pc = none) :
    ∃ k σ', k ≤ 2 * n ∧ runTurns fuel k σ = .ok () σ' ∧ σ'.state = .idle ∧ σ'.vars = r'.vars ∧
      σ'.arrays = r'.arrays ∧ (takeOutput σ').1 = r'.out.map Out.print := by
  obtain ⟨k, hk, hm⟩ := run3_refines_steps hfit h hsafe n
  rw [hr] at hm
  obtain ⟨σ', hσ', hsim⟩ := hm
  unfold Sim3 at hsim
  rw [hend] at hsim
  exact ⟨k, σ', hk, hσ', hsim.1, hsim.2.1, hsim.2.2.1, takeOutput_outRecs hsim.2.2.2⟩

/-- **A program that fails, fails the same way in the model**: the same error,
    after the same printed output, attributed to the same line — or, when the
    error was raised in the body of a user function, to a line of the program
    with a DEF statement. -/
theorem run3_fails {p : RProgram3 F} {fuel : Nat} (hfit : Fits3 p) {σ : St F} (h : PReady3 p σ)
    (hsafe : SafeRun p fuel (p.start σ.rng)) (n : Nat)
    {e : Err} {ln : Nat} {out : List Str} (hr : RSteps3 p (n + 1) (p.start σ.rng) = .inr (e, ln, out)) :
    ∃ k σ' l, k ≤ 2 * n ∧
      runTurns fuel k σ = .err { err := e, loc := some l } σ' ∧
      (l.line = some ln ∨ ∃ m name d, l.line = some m ∧ DefAt p m name d) ∧
      σ'.state = .idle ∧ (takeOutput σ').1 = out.map Out.print := by
  obtain ⟨k, hk, hm⟩ := run3_refines_steps hfit h hsafe n
  rw [hr] at hm
  obtain ⟨σ', l, hσ', hloc, hidle, hout⟩ := hm
  exact ⟨k, σ', l, hk, hσ', hloc, hidle, takeOutput_outRecs hout⟩

/-- For every function table made of definitions that occur in the program:
    the bodies and all statements of the program use names consistently with it,
    and all statements fit the fuel and the nesting cap. -/
structure Static (p : RProgram3 F) (fuel : Nat) : Prop where
  ok : ∀ fns : List (Str × FnDefSpec F), FnsOf p fns →
    (∀ name d, alGet name fns = some d → Resolved fns d.body) ∧
    ∀ l ∈ p, ∀ s ∈ l.2, ResolvedS fns s ∧ sdepth3 fns s ≤ fuel ∧ sdepth3 fns s ≤ Extracted.nestingLimit

theorem stepOk_of_static {p : RProgram3 F} {fuel : Nat} (h : Static p fuel) {r : RState3 F} (ht : TableOf p r) :
    StepOk p fuel r := by
  obtain ⟨h1, h2⟩ := h.ok r.fns ht.1
  exact ⟨h1, fun n j ss s _ hl hs => h2 (n, ss) (line_mem hl) s (List.mem_of_getElem? hs)⟩

theorem safeRun_of_static {p : RProgram3 F} {fuel : Nat} (h : Static p fuel) (g : Nat) :
    SafeRun p fuel (p.start g) :=
  fun m r' hm => stepOk_of_static h (tableOf_steps m _ r' (tableOf_start p g) hm)

theorem fnsOf_nil_of_noDef {p : RProgram3 F} (hnd : ∀ l ∈ p, ∀ s ∈ l.2, ∀ name d, ¬ Defines s name d)
    {fns : List (Str × FnDefSpec F)} (h : FnsOf p fns) : ∀ name, alGet name fns = none := fun name =>
  Option.eq_none_iff_forall_ne_some.2 fun d hg => let ⟨l, hl, s, hs, hd⟩ := fnsOf_mem h hg; hnd l hl s hs name d hd

/-! ### non-vacuity (on the degenerate carrier `Unit`: every number is `()`, printed as `0`; `toU64 () = 0`;
  every comparison holds; a number is false, a non-empty string is true)

  1. DEF FN, a call of the function, IF with PRINT / `ELSE 0` branches: `Fits3`, `Static` (hence `SafeRun`), the
     reference run, the run theorem, and the same output by computation on the model.
  2. An error inside the body of a function: the reference machine reports the line of the failing statement, the
     interpreter the line of the DEF (`body_error_line`, by computation) — the disjunction in `run3_fails`.
  3. Why GOSUB / FOR / DEF are excluded as a THEN branch in front of ELSE (`RStmt3.closes`). -/

namespace Demo3

def fna : Str := ['F', 'N', 'A']
def fnaDef : FnDefSpec Unit := { params := [['X']], body := .var ['X'] }

/-- `0 DEF FNA(X) = X : PRINT FNA(0); : IF "A" THEN PRINT "T"; ELSE 0` -/
def prog : RProgram3 Unit :=
  [ (0, [ .defS fna [['X']] (.var ['X']),
          .printS [.expr (.call fna [.num ()]), .semi],
          .ifS (.str ['A']) (.printS [.expr (.str ['T']), .semi]) (some (.lineS 0)) ]) ]

theorem prog_fits : Fits3 prog where
  wf := ⟨by decide, by simp [prog]⟩
  covered := by
    simp [prog, RStmt3.Covered, RStmt3.CoveredB, RStmt3.closes, RStmt3.isLine, separated3, NumOps.toU64]

theorem prog_defs {fns : List (Str × FnDefSpec Unit)} (h : FnsOf prog fns) (name : Str) (d : FnDefSpec Unit)
    (hg : alGet name fns = some d) : name = fna ∧ d = fnaDef := by
  simpa [prog, Defines, fnaDef] using fnsOf_mem h hg

theorem call_depth {fns : List (Str × FnDefSpec Unit)} (h : FnsOf prog fns) :
    depth2 fns callFuel (.call fna [.num ()]) = 1 := by
  cases hg : alGet fna fns with
  | none =>
    rw [depth2.eq_def]
    simp [depthArgs, depth2, hg]
  | some d =>
    obtain ⟨_, rfl⟩ := prog_defs h fna d hg
    show depth2 fns (32 + 1) _ = 1
    rw [depth2_call_some fns 32 _ _ fnaDef hg]
    simp [depthArgs, depth2, fnaDef]

theorem prog_static : Static prog defaultFuel where
  ok := by
    intro fns hf
    refine ⟨fun name d hg => ?_, ?_⟩
    · obtain ⟨_, rfl⟩ := prog_defs hf name d hg
      simp [fnaDef, Resolved]
    · simp [prog, ResolvedS, ResolvedItems, Resolved, ResolvedL, sdepth3, itemsDepth3, edepth, depth2, call_depth hf,
        defaultFuel, Extracted.nestingLimit]
      decide

def r1 : RState3 Unit := { fns := [(fna, fnaDef)], fnLines := [(fna, 0)], pc := some (0, 1) }
def r2 : RState3 Unit := { r1 with out := [['0']], pc := some (0, 2) }
def r3 : RState3 Unit := { r2 with out := [['0'], ['T']], pc := none }

theorem step1 : RStep3 prog (prog.start 0) = .inl r1 := by
  simp [RStep3, prog, RProgram3.start, RProgram3.first, RProgram3.line, RStmt3.exec, alSet, RProgram3.resume, r1, fnaDef]

theorem fold_call : fold2 callFuel r1.env (.call fna [.num ()]) = .ok (.num (), r1.env) := by
  show fold2 (32 + 1) _ _ = _
  simp [fold2, bindArgs2, r1, RState3.env, fna, fnaDef, alGet, Value.matchesName, endsWithDollar, alSet, RefEnv.lookup,
    lookupFrames, Extracted.stackLimit]

theorem step2 : RStep3 prog r1 = .inl r2 := by
  have h : evalE r1 (.call fna [.num ()]) = .ok (.num (), r1) := by
    simp only [evalE, fold_call]
    rfl
  have hex : (RStmt3.printS [.expr (.call fna [.num ()]), .semi]).exec (allData3 prog) 0 1 r1 =
      ({ r1 with out := r1.out ++ [['0']] }, .next) := by
    simp only [RStmt3.exec, printText3, h, valueText]
    rfl
  rw [Prog3L.rstep_seq (ss := _) rfl rfl rfl, hex]
  rfl

theorem step3 : RStep3 prog r2 = .inl r3 := by
  have h : evalE r2 (.str ['A']) = .ok (.str ['A'], r2) := by
    simp only [evalE, fold2]
    rfl
  have h' : evalE r2 (.str ['T']) = .ok (.str ['T'], r2) := by
    simp only [evalE, fold2]
    rfl
  have hex : (RStmt3.ifS (.str ['A']) (.printS [.expr (.str ['T']), .semi]) (some (.lineS 0))).exec (allData3 prog) 0 2 r2 =
      ({ r2 with out := r2.out ++ [['T']] }, .skipLine) := by
    simp only [RStmt3.exec, printText3, h, h', valueText]
    rfl
  rw [Prog3L.rstep_seq (ss := _) rfl rfl rfl, hex]
  rfl

theorem prog_ref : RSteps3 prog 3 (prog.start 0) = .inl r3 := by
  simp only [RSteps3, step1, step2, step3]


theorem ready3_compile (p : RProgram3 Unit) : PReady3 p ({ lines := compileP3 p } : St Unit) :=
  ⟨rfl, holds_compile p, rfl, rfl, rfl, rfl, by show (0 : Nat) < Extracted.rngModulus; decide⟩

/-- by the theorems: the model ends idle having printed `0` and `T` -/
example : ∃ k σ', k ≤ 4 ∧ runTurns defaultFuel k ({ lines := compileP3 prog } : St Unit) = .ok () σ' ∧
    σ'.state = .idle ∧ (takeOutput σ').1 = [.print ['0'], .print ['T']] := by
  obtain ⟨k, σ', hk, hrun, hidle, _, _, ho⟩ :=
    run3_ends prog_fits (ready3_compile prog) (safeRun_of_static prog_static 0) 2 prog_ref rfl
  exact ⟨k, σ', hk, hrun, hidle, by rw [ho]; rfl⟩

def outOf : Res Unit Unit → List Out
  | .ok _ s => (takeOutput s).1
  | .err _ s => (takeOutput s).1

def progLines : Lines Unit :=
  { map := [ (0, [.kw .Def, .symbol fna, .kw .LeftParen, .symbol ['X'], .kw .RightParen, .kw .Equals, .symbol ['X'],
                  .kw .Colon, .kw .Print, .symbol fna, .kw .LeftParen, .num (), .kw .RightParen, .kw .Semicolon,
                  .kw .Colon, .kw .If, .str ['A'], .kw .Then, .kw .Print, .str ['T'], .kw .Semicolon, .kw .Else,
                  .num ()]) ],
    sorted := [0] }

theorem prog_compile : compileP3 prog = progLines := by
  simp [compileP3, prog, progLines, renderLine3, renderTail3, renderS3, renderItems3, PItem3.render, render2,
    renderArgs, renderTargets]

/-- … and by computation on the model -/
example : outOf (runTurns defaultFuel 4 ({ lines := compileP3 prog } : St Unit)) = [.print ['0'], .print ['T']] := by
  rw [prog_compile]
  decide +kernel


def fnb : Str := ['F', 'N', 'B']

/-- ```
    0 DEF FNB(X) = X + "A"
    10 PRINT FNB(0)
    ``` -/
def errProg : RProgram3 Unit :=
  [ (0, [ .defS fnb [['X']] (.bin .add (.var ['X']) (.str ['A'])) ]),
    (10, [ .printS [.expr (.call fnb [.num ()])] ]) ]

def errLines : Lines Unit :=
  { map := [ (0, [.kw .Def, .symbol fnb, .kw .LeftParen, .symbol ['X'], .kw .RightParen, .kw .Equals, .symbol ['X'],
                  .kw .Plus, .str ['A']]),
             (10, [.kw .Print, .symbol fnb, .kw .LeftParen, .num (), .kw .RightParen]) ],
    sorted := [0, 10] }

theorem err_compile : compileP3 errProg = errLines := by
  simp [compileP3, errProg, errLines, renderLine3, renderTail3, renderS3, renderItems3, PItem3.render, render2,
    renderAt2, Expr2.prec, BinOp.prec, BinOp.token, renderArgs, renderTargets]

def errOf3 : Res Unit Unit → Option TErr
  | .ok _ _ => none
  | .err e _ => some e

/-- by computation on the model: TYPE MISMATCH, located on line 0 — the line of the DEF, not the line of the PRINT -/
theorem body_error_line : errOf3 (runTurns defaultFuel 1 ({ lines := compileP3 errProg } : St Unit)) =
    some { err := .typeMismatch, loc := some { line := some 0, idx := 8 } } := by
  rw [err_compile]
  decide +kernel


def fnbDef : FnDefSpec Unit := { params := [['X']], body := .bin .add (.var ['X']) (.str ['A']) }

theorem err_fits : Fits3 errProg where
  wf := ⟨by decide, by simp [errProg]⟩
  covered := by simp [errProg, RStmt3.Covered, RStmt3.CoveredB, RStmt3.isLine, separated3]

theorem err_defs {fns : List (Str × FnDefSpec Unit)} (h : FnsOf errProg fns) (name : Str) (d : FnDefSpec Unit)
    (hg : alGet name fns = some d) : name = fnb ∧ d = fnbDef := by
  simpa [errProg, Defines, fnbDef] using fnsOf_mem h hg

theorem err_call_depth {fns : List (Str × FnDefSpec Unit)} (h : FnsOf errProg fns) :
    depth2 fns callFuel (.call fnb [.num ()]) = 1 := by
  cases hg : alGet fnb fns with
  | none =>
    rw [depth2.eq_def]
    simp [depthArgs, depth2, hg]
  | some d =>
    obtain ⟨_, rfl⟩ := err_defs h fnb d hg
    show depth2 fns (32 + 1) _ = 1
    rw [depth2_call_some fns 32 _ _ fnbDef hg]
    simp [depthArgs, depth2, fnbDef, Expr2.prec, BinOp.prec]

theorem err_static : Static errProg defaultFuel where
  ok := by
    intro fns hf
    refine ⟨fun name d hg => ?_, ?_⟩
    · obtain ⟨_, rfl⟩ := err_defs hf name d hg
      simp [fnbDef, Resolved]
    · simp [errProg, ResolvedS, ResolvedItems, Resolved, ResolvedL, sdepth3, itemsDepth3, edepth, err_call_depth hf,
        defaultFuel, Extracted.nestingLimit]
      decide

def e1 : RState3 Unit := { fns := [(fnb, fnbDef)], fnLines := [(fnb, 0)], pc := some (10, 0) }

theorem err_step1 : RStep3 errProg (errProg.start 0) = .inl e1 := by
  simp [RStep3, errProg, RProgram3.start, RProgram3.first, RProgram3.line, RStmt3.exec, alSet, RProgram3.resume, e1,
    fnbDef, RProgram3.after]

theorem err_fold : fold2 callFuel e1.env (.call fnb [.num ()]) = .error .typeMismatch := by
  show fold2 (32 + 1) _ _ = _
  simp [fold2, bindArgs2, e1, RState3.env, fnb, fnbDef, alGet, Value.matchesName, endsWithDollar, alSet, RefEnv.lookup,
    lookupFrames, Extracted.stackLimit, BinOp.eval]

theorem err_step2 : RStep3 errProg e1 = .inr (.typeMismatch, 10) := by
  have h : evalE e1 (.call fnb [.num ()]) = .error .typeMismatch := by
    simp only [evalE, err_fold]
  have hex : (RStmt3.printS [.expr (.call fnb [.num ()])]).exec (allData3 errProg) 10 0 e1 =
      (e1, .error .typeMismatch) := by
    simp only [RStmt3.exec, printText3, h]
  rw [Prog3L.rstep_seq (ss := _) rfl rfl rfl, hex]
  rfl

/-- the reference machine: TYPE MISMATCH, reported for line 10, the line of the PRINT -/
theorem err_ref : RSteps3 errProg 2 (errProg.start 0) = .inr (.typeMismatch, 10, []) := by
  simp only [RSteps3, err_step1, err_step2]
  rfl

/-- by the theorems: the model fails with TYPE MISMATCH on line 10 or on a line with a DEF
    (`body_error_line`: it is line 0, the line of the DEF) -/
example : ∃ k σ' l, k ≤ 2 ∧ runTurns defaultFuel k ({ lines := compileP3 errProg } : St Unit) =
      .err { err := .typeMismatch, loc := some l } σ' ∧
    (l.line = some 10 ∨ ∃ m name d, l.line = some m ∧ DefAt errProg m name d) ∧ σ'.state = .idle := by
  obtain ⟨k, σ', l, hk, hr, hl, hi, _⟩ :=
    run3_fails err_fits (ready3_compile errProg) (safeRun_of_static err_static 0) 1 err_ref
  exact ⟨k, σ', l, hk, hr, hl, hi⟩


/-- `0 IF "A" THEN DEF FNA(X) = X ELSE PRINT "E"; : PRINT "C";` -/
def defElseLines : Lines Unit :=
  { map := [ (0, [.kw .If, .str ['A'], .kw .Then, .kw .Def, .symbol fna, .kw .LeftParen, .symbol ['X'], .kw .RightParen,
                  .kw .Equals, .symbol ['X'], .kw .Else, .kw .Print, .str ['E'], .kw .Semicolon, .kw .Colon,
                  .kw .Print, .str ['C'], .kw .Semicolon]) ],
    sorted := [0] }

/-- `0 IF "A" THEN LET A = 0 ELSE PRINT "E"; : PRINT "C";` -/
def letElseLines : Lines Unit :=
  { map := [ (0, [.kw .If, .str ['A'], .kw .Then, .kw .Let, .symbol ['A'], .kw .Equals, .num (), .kw .Else,
                  .kw .Print, .str ['E'], .kw .Semicolon, .kw .Colon, .kw .Print, .str ['C'], .kw .Semicolon]) ],
    sorted := [0] }

/-- A THEN branch in front of an ELSE abandons the rest of the line — unless it is
    a DEF: the definition skips to the next colon (swallowing the ELSE branch) and
    the statements behind that colon DO run.  By computation on the model: with
    DEF as the THEN branch `C` is printed, with LET it is not. -/
theorem def_before_else_runs_on :
    outOf (runTurns defaultFuel 3 ({ lines := defElseLines } : St Unit)) = [.print ['C']] ∧
    outOf (runTurns defaultFuel 3 ({ lines := letElseLines } : St Unit)) = [] := by
  constructor <;> decide +kernel

/-- ```
    0 IF "A" THEN FOR I = 0 TO 0 ELSE PRINT "E";
    1 NEXT I
    ``` -/
def forElseLines : Lines Unit :=
  { map := [ (0, [.kw .If, .str ['A'], .kw .Then, .kw .For, .symbol ['I'], .kw .Equals, .num (), .kw .To, .num (),
                  .kw .Else, .kw .Print, .str ['E'], .kw .Semicolon]),
             (1, [.kw .Next, .symbol ['I']]) ],
    sorted := [0, 1] }

/-- A FOR as the THEN branch in front of an ELSE: the repeating NEXT lands on the
    ELSE token and the next turn fails with SYNTAX ERROR (the known finding
    KF-ELSE-RESUME for GOSUB / INPUT, here for FOR).  (On `Unit` every comparison
    holds, so the loop repeats.) -/
theorem for_before_else_fails :
    errOf3 (runTurns defaultFuel 2 ({ lines := forElseLines } : St Unit)) =
      some { err := .syntax .unexpectedToken, loc := some { line := some 0, idx := 9 } } := by
  decide +kernel

end Demo3

end Abasic.Props.C03
