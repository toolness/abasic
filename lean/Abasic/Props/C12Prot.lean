import Abasic.Proofs.C12Suffix
import Abasic.Proofs.DataLemmas
import Abasic.Proofs.DataRun
import Abasic.Props.C12Case
import Abasic.Proofs.TokFast
/-
  C12 for lines with protected text (string literals, REM, DATA): a blank inserted or
  removed, or letter case changed, anywhere *outside* the protected text changes no
  token.  The protected text is determined by the tokenizer itself (see `InsOutside`,
  `CaseEqOutside`).  Also: blanks around DATA items do not matter (`data_blank_*`),
  and checked examples showing that the side conditions are needed.
-/
namespace Abasic.Props.C12
open Abasic

theorem Ins.eq_or_length {w : Char} {r r' : Str} (h : Ins w r r') : r' = r ∨ r'.length = r.length + 1 := by
  induction h with
  | same r => exact Or.inl rfl
  | here r => exact Or.inr rfl
  | cons c _ ih =>
    rcases ih with e | e
    · exact Or.inl (by rw [e])
    · exact Or.inr (by simp only [List.length_cons, e])

theorem Ins.append_right {w : Char} {p p' : Str} (h : Ins w p p') (s : Str) : Ins w (p ++ s) (p' ++ s) := by
  induction h with
  | same r => exact Ins.same _
  | here r => exact Ins.here _
  | cons c _ ih => exact Ins.cons c ih

theorem Ins.append_left {w : Char} (p : Str) {r r' : Str} (h : Ins w r r') : Ins w (p ++ r) (p ++ r') := by
  induction p with
  | nil => exact h
  | cons c p ih => exact Ins.cons c ih

theorem Ins.head_eq {w : Char} : ∀ (r : Str) (x : Char), Ins w r (x :: r) → x = w := by
  intro r
  induction r with
  | nil =>
    intro x h
    cases h with
    | here => rfl
  | cons c r ih =>
    intro x h
    cases h with
    | here => rfl
    | cons d h' => exact ih _ h'

theorem ins_suffix_cases {w : Char} {rest r'' q : Str} (h : Ins w rest r'') (hs : r'' <:+ q ++ rest) :
    r'' = rest ∨ r'' = w :: rest := by
  rcases h.eq_or_length with e | e
  · exact Or.inl e
  · have h1 : rest <:+ r'' := List.suffix_of_suffix_length_le (List.suffix_append q rest) hs (by omega)
    obtain ⟨pre, hp⟩ := h1
    have hl : pre.length = 1 := by
      have := congrArg List.length hp
      simp only [List.length_append] at this; omega
    match pre, hl with
    | [x], _ =>
      subst hp
      exact Or.inr (by rw [Ins.head_eq rest x h]; rfl)

theorem suffix_eq_of_length {a b l : Str} (ha : a <:+ l) (hb : b <:+ l) (h : a.length = b.length) : a = b :=
  (List.suffix_of_suffix_length_le ha hb (by omega)).eq_of_length h

theorem skipWs_nonblank (c : Char) (cs : Str) (hc : isBasicWs c = false) : skipWs (c :: cs) = c :: cs := by
  simp only [skipWs, hc, Bool.false_eq_true, ↓reduceIte]

theorem chompKeyword_local (kw cs pl : Str) (h : chompKeyword kw cs = some pl) :
    ∃ pre, cs = pre ++ pl ∧ ∀ y, chompKeyword kw (pre ++ y) = some y :=
  let ⟨m, hm, hl, _⟩ := C13.chompKeyword_cut kw cs pl h
  ⟨m, hm, hl⟩

variable {F : Type} [NumOps F]

/-- Tokens whose text ends at a delimiter of their own: everything except REM (runs to
    the end of the line) and DATA (runs to the next unquoted colon). -/
def Closed : Token F → Bool
  | .remark _ => false
  | .data _ => false
  | _ => true

theorem tokList_nonblank_tok (fuel : Nat) (c : Char) (t : Str) (hc : isBasicWs c = false)
    (tk : Token F) (rest : Str) (hn : nextToken (F := F) (c :: t) = .tok tk rest) :
    tokList (F := F) (fuel + 1) (c :: t) = (tokList fuel rest).map (tk :: ·) :=
  tokList_succ_tok fuel (c :: t) c t (skipWs_nonblank c t hc) tk rest hn

theorem tokList_congr_step {c d : Char} {t t' : Str} (hc : isBasicWs c = false) (hd : isBasicWs d = false)
    (h : nextToken (F := F) (d :: t') = nextToken (F := F) (c :: t)) (fuel : Nat) :
    tokList (F := F) fuel (d :: t') = tokList (F := F) fuel (c :: t) := by
  cases fuel with
  | zero => rfl
  | succ fuel =>
    rw [tokList_succ_cons fuel _ d t' (skipWs_nonblank d t' hd),
      tokList_succ_cons fuel _ c t (skipWs_nonblank c t hc), h]

/-- What the loop needs of a relation besides `Respects`: if `b'`, the end of the edited
    text, tokenizes like `a`, so does every other end `b` of it that is related to `a`
    (for inserted blanks `b` is `b'` or `b'` without its first character, a blank; for
    letter case it is `b'`). -/
structure Stable (F : Type) [NumOps F] (R : Str → Str → Prop) : Prop extends Respects R where
  suffix : ∀ {a b b' x : Str}, R a b → R a b' → b <:+ x ++ b' →
    (∀ fuel, tokList (F := F) fuel b' = tokList (F := F) fuel a) →
    ∀ fuel, tokList (F := F) fuel b = tokList (F := F) fuel a

section
variable {R : Str → Str → Prop} (hS : Stable F R)
include hS

theorem tokList_step_unprotected {c d : Char} {p p' rest rest' : Str} {tk : Token F}
    (hc : isBasicWs c = false) (hd : isBasicWs d = false) (hu : asciiUpper c = asciiUpper d)
    (hn : nextToken (F := F) (c :: (p ++ rest)) = .tok tk rest) (hun : Unprotected tk = true)
    (hE : R (c :: (p ++ rest)) (d :: (p' ++ rest'))) (hi : R rest rest')
    (ih : ∀ fuel, tokList (F := F) fuel rest' = tokList (F := F) fuel rest) (fuel : Nat) :
    tokList (F := F) fuel (d :: (p' ++ rest')) = tokList (F := F) fuel (c :: (p ++ rest)) := by
  cases fuel with
  | zero => rfl
  | succ fuel =>
    obtain ⟨r'', hn', hr⟩ := (nextToken_rel hS.toRespects hu hE).unprotected hun hn
    rw [tokList_nonblank_tok fuel c _ hc tk rest hn, tokList_nonblank_tok fuel d _ hd tk r'' hn',
      hS.suffix (x := d :: p') hr hi (nextToken_suffix d _ tk r'' hn') ih fuel]

theorem tokList_step_closed {c : Char} {p rest rest' : Str} {tk : Token F}
    (hc : isBasicWs c = false) (hn : nextToken (F := F) (c :: (p ++ rest)) = .tok tk rest)
    (hcl : Closed tk = true) (hE : R (c :: (p ++ rest)) (c :: (p ++ rest'))) (hi : R rest rest')
    (ih : ∀ fuel, tokList (F := F) fuel rest' = tokList (F := F) fuel rest) (fuel : Nat) :
    tokList (F := F) fuel (c :: (p ++ rest')) = tokList (F := F) fuel (c :: (p ++ rest)) := by
  cases tk with
  | str s =>
    -- a string literal ends at its closing quote, whatever follows
    obtain ⟨q, q', e, e', hs, h2⟩ := (nextToken_rel (F := F) hS.toRespects rfl hE).strTok hn
    injection e with ec eq
    injection e' with _ eq'
    subst ec eq eq'
    obtain ⟨e1, hq⟩ := C13.splitAtQuote_spec _ s rest hs
    have hp : p = s ++ ['"'] :=
      List.append_cancel_right (by rw [e1]; simp : p ++ rest = (s ++ ['"']) ++ rest)
    have hs' : splitAtQuote (p ++ rest') = some (s, rest') := by
      rw [hp, List.append_assoc]
      exact C13.splitAtQuote_append s rest' hq
    rw [quoteOutcome, hs'] at h2
    cases fuel with
    | zero => rfl
    | succ fuel =>
      rw [tokList_nonblank_tok fuel '"' _ hc _ rest hn, tokList_nonblank_tok fuel '"' _ hc _ rest' h2, ih fuel]
  | remark _ => cases hcl
  | data _ => cases hcl
  | _ => exact tokList_step_unprotected hS hc hc rfl hn rfl hE hi ih fuel

theorem tokList_step_afterData {c : Char} {p r r' : Str} {items : List (DataElement F)}
    (hc : isBasicWs c = false)
    (hn : nextToken (F := F) (c :: (p ++ ':' :: r)) = .tok (.data items) (':' :: r))
    (hE : R (c :: (p ++ ':' :: r)) (c :: (p ++ ':' :: r')))
    (ih : ∀ fuel, tokList (F := F) fuel (':' :: r') = tokList (F := F) fuel (':' :: r)) (fuel : Nat) :
    tokList (F := F) fuel (c :: (p ++ ':' :: r')) = tokList (F := F) fuel (c :: (p ++ ':' :: r)) := by
  cases fuel with
  | zero => rfl
  | succ fuel =>
    obtain ⟨pl, pl', h0, h0', _, h1a, h1b, h2⟩ := (nextToken_rel (F := F) hS.toRespects rfl hE).dataTok hn
    obtain ⟨pre, e1, hloc⟩ := chompKeyword_local _ _ pl h0
    obtain ⟨a, ha⟩ : (':' :: r) <:+ pl := h1b ▸ dropBytes_suffix _ _
    subst ha
    have hcp : c :: p = pre ++ a :=
      List.append_cancel_right (by rw [List.append_assoc, ← e1]; rfl : (c :: p) ++ (':' :: r) = (pre ++ a) ++ (':' :: r))
    have hpl' : pl' = a ++ ':' :: r' := by
      have : c :: (p ++ ':' :: r') = pre ++ (a ++ ':' :: r') := by
        rw [← List.append_assoc, ← hcp]; rfl
      rw [this, hloc] at h0'
      exact (Option.some.inj h0').symm
    subst hpl'
    have hcut := DataParser.cut_of_rest (F := F) h1b.symm
    have hq := (hcut.stop.resolve_left (List.cons_ne_nil _ _)).1
    rw [(DataParser.Cut.mk hcut.unfinished (.inr ⟨hq, r', rfl⟩)).parseData_eq, dropBytes_len8] at h2
    rw [hcut.parseData_eq] at h1a
    rw [tokList_nonblank_tok fuel c _ hc _ _ hn, tokList_nonblank_tok fuel c _ hc _ _ h2, ih fuel, h1a]

/-- The edit is in the keyword REM (`c :: k` on the one text, `d :: k'` on the other), and
    what the keyword matcher leaves of the edited text can only be the remark itself. -/
theorem tokList_step_rem {c d : Char} {k k' pay : Str} (hc : isBasicWs c = false) (hd : isBasicWs d = false)
    (hu : asciiUpper c = asciiUpper d)
    (hn : nextToken (F := F) (c :: (k ++ pay)) = .tok (.remark pay) [])
    (hE : R (c :: (k ++ pay)) (d :: (k' ++ pay)))
    (hfix : ∀ r', R pay r' → r' <:+ (d :: k') ++ pay → r' = pay) :
    ∀ fuel, tokList (F := F) fuel (d :: (k' ++ pay)) = tokList (F := F) fuel (c :: (k ++ pay)) := by
  refine tokList_congr_step hc hd ?_
  obtain ⟨_, _, r', h0', hr, h2⟩ := (nextToken_rel (F := F) hS.toRespects hu hE).remarkTok hn
  obtain rfl := hfix r' hr (chompKeyword_suffix _ _ _ h0')
  rw [h2, hn]

theorem tokList_step_dataKw {c d : Char} {k k' pl rest : Str} {items : List (DataElement F)}
    (hc : isBasicWs c = false) (hd : isBasicWs d = false) (hu : asciiUpper c = asciiUpper d)
    (hn : nextToken (F := F) (c :: (k ++ pl)) = .tok (.data items) rest)
    (hk : chompKeyword Extracted.dataKeyword.toList (c :: (k ++ pl)) = some pl)
    (hE : R (c :: (k ++ pl)) (d :: (k' ++ pl)))
    (hfix : ∀ r', R pl r' → r' <:+ (d :: k') ++ pl → r' = pl) :
    ∀ fuel, tokList (F := F) fuel (d :: (k' ++ pl)) = tokList (F := F) fuel (c :: (k ++ pl)) := by
  refine tokList_congr_step hc hd ?_
  obtain ⟨pl0, pl', h0, h0', hr, h1a, h1b, h2⟩ := (nextToken_rel (F := F) hS.toRespects hu hE).dataTok hn
  obtain rfl := Option.some.inj (hk.symm.trans h0)
  obtain rfl := hfix pl' hr (chompKeyword_suffix _ _ _ h0')
  rw [h2, hn, h1a, h1b]
end

/-- `InsOutside F w line line'`: `line'` is `line` with at most one `w` inserted at a
    position that is not inside protected text.  The definition follows the tokenizer's own
    run over `line` (`chomp_next_token` is `nextToken`, always called at a non-blank
    character), so "protected" means exactly what the tokenizer treats as literal text:

    * `same`, `here`: nothing inserted / inserted in front of what is left (a token boundary);
    * `blank`: step over a blank that separates tokens;
    * `inTok`: the next token is unprotected (keyword/operator, number, identifier), it
      consumes `c :: p`, and the insertion is anywhere after `c` up to and including the
      position just behind the token (`Ins w p p'`) — `G OTO`, `GOTO `, `1 0`;
    * `later`: the next token — of any kind whose text is delimited by itself, in
      particular a string literal `"…"` — is consumed identically (`c :: p`), and the
      insertion is outside protected text in what is left.  This is the constructor that
      steps *over* a string literal: no constructor inserts between its quotes;
    * `afterData`: the next token is a DATA statement whose payload ends at the unquoted
      colon shown, and the insertion is outside protected text after that colon (both
      rests start with the colon, so the insertion is not in front of it);
    * `inRem`, `inData`: the insertion is between the letters of the keyword REM / DATA
      itself (before its last letter `m`), the remark text / DATA payload is untouched.

    There is no way to derive an insertion inside a string literal, inside the text of a
    remark, or inside a DATA payload (between the `A` of DATA and the terminating colon
    or end of line). -/
inductive InsOutside (F : Type) [NumOps F] (w : Char) : Str → Str → Prop
  | same (cs : Str) : InsOutside F w cs cs
  | here (cs : Str) : InsOutside F w cs (w :: cs)
  | blank (b : Char) {cs cs' : Str} : isBasicWs b = true → InsOutside F w cs cs' →
      InsOutside F w (b :: cs) (b :: cs')
  | inTok (c : Char) (p p' rest : Str) (tk : Token F) : isBasicWs c = false →
      nextToken (F := F) (c :: (p ++ rest)) = .tok tk rest → Unprotected tk = true → Ins w p p' →
      InsOutside F w (c :: (p ++ rest)) (c :: (p' ++ rest))
  | later (c : Char) (p rest rest' : Str) (tk : Token F) : isBasicWs c = false →
      nextToken (F := F) (c :: (p ++ rest)) = .tok tk rest → Closed tk = true →
      InsOutside F w rest rest' → InsOutside F w (c :: (p ++ rest)) (c :: (p ++ rest'))
  | afterData (c : Char) (p r r' : Str) (items : List (DataElement F)) : isBasicWs c = false →
      nextToken (F := F) (c :: (p ++ ':' :: r)) = .tok (.data items) (':' :: r) →
      InsOutside F w (':' :: r) (':' :: r') → InsOutside F w (c :: (p ++ ':' :: r)) (c :: (p ++ ':' :: r'))
  | inRem (c m : Char) (p p' pay : Str) : isBasicWs c = false → isBasicWs m = false →
      nextToken (F := F) (c :: (p ++ m :: pay)) = .tok (.remark pay) [] → Ins w p p' →
      InsOutside F w (c :: (p ++ m :: pay)) (c :: (p' ++ m :: pay))
  | inData (c m : Char) (p p' pl rest : Str) (items : List (DataElement F)) : isBasicWs c = false →
      isBasicWs m = false →
      nextToken (F := F) (c :: (p ++ m :: pl)) = .tok (.data items) rest →
      chompKeyword Extracted.dataKeyword.toList (c :: (p ++ m :: pl)) = some pl → Ins w p p' →
      InsOutside F w (c :: (p ++ m :: pl)) (c :: (p' ++ m :: pl))

theorem InsOutside.toIns {w : Char} {cs cs' : Str} (h : InsOutside F w cs cs') : Ins w cs cs' := by
  induction h with
  | same cs => exact Ins.same _
  | here cs => exact Ins.here _
  | blank b _ _ ih => exact Ins.cons b ih
  | inTok c p p' rest tk _ _ _ hi => exact Ins.cons c (hi.append_right rest)
  | later c p rest rest' tk _ _ _ _ ih => exact Ins.cons c (Ins.append_left p ih)
  | afterData c p r r' items _ _ _ ih => exact Ins.cons c (Ins.append_left p ih)
  | inRem c m p p' pay _ _ _ hi => exact Ins.cons c (hi.append_right _)
  | inData c m p p' pl rest items _ _ _ _ hi => exact Ins.cons c (hi.append_right _)

/-! The constructors that step over or into a token, with the token's text given by its length: for the
    checked examples, where no part of the line then has to be written out (and decoded) a second time. -/

theorem InsOutside.later_at {w c : Char} {t t' : Str} (n : Nat) (tk : Token F) (hc : isBasicWs c = false)
    (hn : nextToken (F := F) (c :: t) = .tok tk (t.drop n)) (hcl : Closed tk = true)
    (hp : t'.take n = t.take n) (h : InsOutside F w (t.drop n) (t'.drop n)) :
    InsOutside F w (c :: t) (c :: t') := by
  have e := InsOutside.later c (t.take n) (t.drop n) (t'.drop n) tk hc (by rw [List.take_append_drop]; exact hn) hcl h
  rw [List.take_append_drop] at e
  rw [← List.take_append_drop n t', hp]
  exact e

/-- the blank goes behind the first `m` of the `n` characters that follow `c` in the token -/
theorem InsOutside.inTok_at {w c : Char} {t t' : Str} (n m : Nat) (tk : Token F) (hc : isBasicWs c = false)
    (hn : nextToken (F := F) (c :: t) = .tok tk (t.drop n)) (hu : Unprotected tk = true)
    (ht' : t' = ((t.take n).take m ++ w :: (t.take n).drop m) ++ t.drop n) :
    InsOutside F w (c :: t) (c :: t') := by
  have e := InsOutside.inTok c (t.take n) _ (t.drop n) tk hc (by rw [List.take_append_drop]; exact hn) hu
    (Ins.at w (t.take n) m)
  rw [List.take_append_drop] at e
  rw [ht']
  exact e

theorem InsOutside.afterData_at {w c : Char} {t t' r r' : Str} (n : Nat) (items : List (DataElement F))
    (hc : isBasicWs c = false) (hn : nextToken (F := F) (c :: t) = .tok (.data items) (t.drop n))
    (e : t.drop n = ':' :: r) (e' : t'.drop n = ':' :: r') (hp : t'.take n = t.take n)
    (h : InsOutside F w (':' :: r) (':' :: r')) : InsOutside F w (c :: t) (c :: t') := by
  have := InsOutside.afterData c (t.take n) r r' items hc (by rw [← e, List.take_append_drop]; exact e ▸ hn) h
  rw [← e, List.take_append_drop, ← hp, ← e', List.take_append_drop] at this
  exact this

/-- the blank goes behind the first `m` of the `n` keyword characters between `c` and the last letter of REM -/
theorem InsOutside.inRem_at {w c l : Char} {t t' pay : Str} (n m : Nat) (hc : isBasicWs c = false)
    (hl : isBasicWs l = false) (e : t.drop n = l :: pay)
    (hn : nextToken (F := F) (c :: t) = .tok (.remark pay) [])
    (ht' : t' = ((t.take n).take m ++ w :: (t.take n).drop m) ++ l :: pay) :
    InsOutside F w (c :: t) (c :: t') := by
  have := InsOutside.inRem c l (t.take n) _ pay hc hl (by rw [← e, List.take_append_drop]; exact hn)
    (Ins.at w (t.take n) m)
  rw [← e, List.take_append_drop, e, ← ht'] at this
  exact this

theorem stable_ins (w : Char) (hw : isBasicWs w = true) : Stable F (Ins w) where
  toRespects := respects_ins w hw
  suffix := by
    intro a b b' x hab hab' hs ih fuel
    rcases hab.eq_or_length with e | e
    · rw [e]
    rcases hab'.eq_or_length with e' | e'
    · subst e'
      rcases ins_suffix_cases hab hs with e2 | e2
      · rw [e2]
      · rw [e2, tokList_blank fuel w hw]
    · rw [suffix_eq_of_length hs (List.suffix_append _ _) (by omega), ih fuel]

/-- a blank inserted before the last letter `m` of a keyword does not reach what the keyword matcher leaves -/
theorem ins_keyword_fix {w m c : Char} (hw : isBasicWs w = true) (hm : isBasicWs m = false) {p' pay : Str} :
    ∀ r', Ins w pay r' → r' <:+ (c :: (p' ++ [m])) ++ pay → r' = pay := by
  intro r' hr hs
  rcases ins_suffix_cases hr hs with e | e
  · exact e
  · exfalso
    have hs2 : (m :: pay) <:+ (c :: (p' ++ [m])) ++ pay := by
      have : (c :: (p' ++ [m])) ++ pay = (c :: p') ++ (m :: pay) := by simp
      rw [this]; exact List.suffix_append _ _
    have := suffix_eq_of_length (e ▸ hs) hs2 (by simp)
    injection this with hwm _
    rw [hwm, hm] at hw
    cases hw

theorem tokList_insOutside (w : Char) (hw : isBasicWs w = true) {cs cs' : Str} (h : InsOutside F w cs cs') :
    ∀ fuel, tokList (F := F) fuel cs' = tokList (F := F) fuel cs := by
  induction h with
  | same cs => intro fuel; rfl
  | here cs => intro fuel; exact tokList_blank fuel w hw cs
  | blank b hb _ ih => intro fuel; rw [tokList_blank fuel b hb, tokList_blank fuel b hb, ih fuel]
  | inTok c p p' rest tk hc hn hu hi =>
    exact tokList_step_unprotected (stable_ins w hw) hc hc rfl hn hu (Ins.cons c (hi.append_right rest))
      (Ins.same _) fun _ => rfl
  | later c p rest rest' tk hc hn hcl hio ih =>
    exact tokList_step_closed (stable_ins w hw) hc hn hcl (Ins.cons c (Ins.append_left p hio.toIns)) hio.toIns ih
  | afterData c p r r' items hc hn hio ih =>
    exact tokList_step_afterData (stable_ins w hw) hc hn (Ins.cons c (Ins.append_left p hio.toIns)) ih
  | inRem c m p p' pay hc hm hn hi =>
    have e : ∀ q : Str, c :: (q ++ m :: pay) = c :: ((q ++ [m]) ++ pay) := fun q => by simp
    rw [e, e] at *
    exact tokList_step_rem (stable_ins w hw) hc hc rfl hn (Ins.cons c ((hi.append_right [m]).append_right pay))
      (ins_keyword_fix hw hm)
  | inData c m p p' pl rest items hc hm hn hk hi =>
    have e : ∀ q : Str, c :: (q ++ m :: pl) = c :: ((q ++ [m]) ++ pl) := fun q => by simp
    rw [e, e] at *
    exact tokList_step_dataKw (stable_ins w hw) hc hc rfl hn hk
      (Ins.cons c ((hi.append_right [m]).append_right pl)) (ins_keyword_fix hw hm)

theorem tokenize_iff_of_tokList {line line' : Str}
    (h : ∀ fuel, tokList (F := F) fuel line' = tokList (F := F) fuel line) (ts : List (Token F)) :
    tokenize (F := F) line 0 = .ok ts ↔ tokenize (F := F) line' 0 = .ok ts := by
  rw [tokenize_iff_toks, tokenize_iff_toks, toks_iff_tokList, toks_iff_tokList, h]

/-- A blank inserted outside protected text: the two lines tokenize to the same
    tokens, or both fail. -/
theorem tokenize_ins_outside_iff (w : Char) (hw : isBasicWs w = true) {line line' : Str}
    (h : InsOutside F w line line') (ts : List (Token F)) :
    tokenize (F := F) line 0 = .ok ts ↔ tokenize (F := F) line' 0 = .ok ts :=
  tokenize_iff_of_tokList (tokList_insOutside w hw h) ts

/-- Inserting a blank outside protected text changes no token. -/
theorem tokenize_ins_outside (w : Char) (hw : isBasicWs w = true) {line line' : Str}
    (h : InsOutside F w line line') (ts : List (Token F)) (hok : tokenize (F := F) line 0 = .ok ts) :
    tokenize (F := F) line' 0 = .ok ts :=
  (tokenize_ins_outside_iff w hw h ts).mp hok

/-- Removing a blank outside protected text changes no token. -/
theorem tokenize_del_outside (w : Char) (hw : isBasicWs w = true) {line line' : Str}
    (h : InsOutside F w line line') (ts : List (Token F)) (hok : tokenize (F := F) line' 0 = .ok ts) :
    tokenize (F := F) line 0 = .ok ts :=
  (tokenize_ins_outside_iff w hw h ts).mpr hok

inductive InsBlanksOutside (F : Type) [NumOps F] : Str → Str → Prop
  | refl (r : Str) : InsBlanksOutside F r r
  | step {a b c : Str} (w : Char) : InsBlanksOutside F a b → isBasicWs w = true → InsOutside F w b c →
      InsBlanksOutside F a c

/-- Any number of blanks inserted (or removed) outside protected text. -/
theorem tokenize_insBlanks_outside_iff {line line' : Str} (h : InsBlanksOutside F line line')
    (ts : List (Token F)) :
    tokenize (F := F) line 0 = .ok ts ↔ tokenize (F := F) line' 0 = .ok ts := by
  induction h with
  | refl => exact Iff.rfl
  | step w _ hw hi ih => exact ih.trans (tokenize_ins_outside_iff w hw hi ts)

omit [NumOps F] in
theorem CaseEq.append {a a' b b' : Str} (h1 : CaseEq a a') (h2 : CaseEq b b') : CaseEq (a ++ b) (a' ++ b') := by
  induction h1 with
  | nil => exact h2
  | cons hu hb _ ih => exact CaseEq.cons hu hb ih

/-- `CaseEqOutside F line line'`: `line'` is `line` with the case of some ASCII letters
    changed, none of them inside protected text.  Again the definition follows the
    tokenizer's run over `line`:

    * `same`: nothing changed in what is left (this is how the text of a remark, which
      runs to the end of the line, is passed);
    * `blank`: step over a blank between tokens;
    * `inTok`: the next token is unprotected and consumes `c :: p`; letters may change in
      it (`CaseEq (c :: p) (d :: p')`) and, outside protected text, in what is left;
    * `later`: the next token, e.g. a string literal, is consumed and left *unchanged*;
      changes outside protected text in what is left;
    * `afterData`: the next token is a DATA statement up to the colon shown, unchanged;
      changes outside protected text after the colon;
    * `remKw`, `dataKw`: the letters of the keyword REM / DATA itself change case
      (`rem`, `Data`), the remark text / DATA payload and everything after is unchanged.
      (Changes on both sides of a DATA statement are obtained by chaining two steps,
      `tokenize_caseEq_outside_iff` being an equivalence.) -/
inductive CaseEqOutside (F : Type) [NumOps F] : Str → Str → Prop
  | same (cs : Str) : CaseEqOutside F cs cs
  | blank (b : Char) {cs cs' : Str} : isBasicWs b = true → CaseEqOutside F cs cs' →
      CaseEqOutside F (b :: cs) (b :: cs')
  | inTok (c d : Char) (p p' rest rest' : Str) (tk : Token F) : isBasicWs c = false →
      nextToken (F := F) (c :: (p ++ rest)) = .tok tk rest → Unprotected tk = true →
      CaseEq (c :: p) (d :: p') → CaseEqOutside F rest rest' →
      CaseEqOutside F (c :: (p ++ rest)) (d :: (p' ++ rest'))
  | later (c : Char) (p rest rest' : Str) (tk : Token F) : isBasicWs c = false →
      nextToken (F := F) (c :: (p ++ rest)) = .tok tk rest → Closed tk = true →
      CaseEqOutside F rest rest' → CaseEqOutside F (c :: (p ++ rest)) (c :: (p ++ rest'))
  | afterData (c : Char) (p r r' : Str) (items : List (DataElement F)) : isBasicWs c = false →
      nextToken (F := F) (c :: (p ++ ':' :: r)) = .tok (.data items) (':' :: r) →
      CaseEqOutside F (':' :: r) (':' :: r') → CaseEqOutside F (c :: (p ++ ':' :: r)) (c :: (p ++ ':' :: r'))
  | remKw (c d : Char) (p p' pay : Str) : isBasicWs c = false →
      nextToken (F := F) (c :: (p ++ pay)) = .tok (.remark pay) [] → CaseEq (c :: p) (d :: p') →
      CaseEqOutside F (c :: (p ++ pay)) (d :: (p' ++ pay))
  | dataKw (c d : Char) (p p' pl rest : Str) (items : List (DataElement F)) : isBasicWs c = false →
      nextToken (F := F) (c :: (p ++ pl)) = .tok (.data items) rest →
      chompKeyword Extracted.dataKeyword.toList (c :: (p ++ pl)) = some pl → CaseEq (c :: p) (d :: p') →
      CaseEqOutside F (c :: (p ++ pl)) (d :: (p' ++ pl))

theorem CaseEqOutside.toCaseEq {cs cs' : Str} (h : CaseEqOutside F cs cs') : CaseEq cs cs' := by
  induction h with
  | same cs => exact CaseEq.refl _
  | blank b _ _ ih => exact CaseEq.cons rfl rfl ih
  | inTok c d p p' rest rest' tk _ _ _ hi _ ih => exact CaseEq.append hi ih
  | later c p rest rest' tk _ _ _ _ ih => exact CaseEq.append (CaseEq.refl (c :: p)) ih
  | afterData c p r r' items _ _ _ ih => exact CaseEq.append (CaseEq.refl (c :: p)) ih
  | remKw c d p p' pay _ _ hi => exact CaseEq.append hi (CaseEq.refl _)
  | dataKw c d p p' pl rest items _ _ _ hi => exact CaseEq.append hi (CaseEq.refl _)

theorem CaseEqOutside.later_at {c : Char} {t t' : Str} (n : Nat) (tk : Token F) (hc : isBasicWs c = false)
    (hn : nextToken (F := F) (c :: t) = .tok tk (t.drop n)) (hcl : Closed tk = true)
    (hp : t'.take n = t.take n) (h : CaseEqOutside F (t.drop n) (t'.drop n)) :
    CaseEqOutside F (c :: t) (c :: t') := by
  have e := CaseEqOutside.later c (t.take n) (t.drop n) (t'.drop n) tk hc (by rw [List.take_append_drop]; exact hn) hcl h
  rw [List.take_append_drop] at e
  rw [← List.take_append_drop n t', hp]
  exact e

theorem CaseEqOutside.inTok_at {c d : Char} {t t' : Str} (n : Nat) (tk : Token F) (hc : isBasicWs c = false)
    (hn : nextToken (F := F) (c :: t) = .tok tk (t.drop n)) (hu : Unprotected tk = true)
    (hi : CaseEq (c :: t.take n) (d :: t'.take n)) (h : CaseEqOutside F (t.drop n) (t'.drop n)) :
    CaseEqOutside F (c :: t) (d :: t') := by
  have e := CaseEqOutside.inTok c d (t.take n) (t'.take n) (t.drop n) (t'.drop n) tk hc
    (by rw [List.take_append_drop]; exact hn) hu hi h
  rwa [List.take_append_drop, List.take_append_drop] at e

theorem CaseEqOutside.remKw_at {c d : Char} {t t' : Str} (n : Nat) (hc : isBasicWs c = false)
    (hn : nextToken (F := F) (c :: t) = .tok (.remark (t.drop n)) [])
    (hi : CaseEq (c :: t.take n) (d :: t'.take n)) (hp : t'.drop n = t.drop n) :
    CaseEqOutside F (c :: t) (d :: t') := by
  have e := CaseEqOutside.remKw c d (t.take n) (t'.take n) (t.drop n) hc
    (by rw [List.take_append_drop]; exact hn) hi
  rwa [List.take_append_drop, ← hp, List.take_append_drop] at e

omit [NumOps F] in
theorem CaseEq.head_blank {c d : Char} {t t' : Str} (h : CaseEq (c :: t) (d :: t')) : isBasicWs c = isBasicWs d := by
  cases h with
  | cons _ h2 _ => exact h2

theorem stable_caseEq : Stable F CaseEq where
  toRespects := respects_caseEq
  suffix := fun hab hab' hs ih fuel => by
    rw [suffix_eq_of_length hs (List.suffix_append _ _) (by rw [← hab.length_eq, hab'.length_eq]), ih fuel]

omit [NumOps F] in
theorem caseEq_keyword_fix {x pay : Str} : ∀ r', CaseEq pay r' → r' <:+ x ++ pay → r' = pay :=
  fun _ hr hs => suffix_eq_of_length hs (List.suffix_append _ _) hr.length_eq.symm

theorem tokList_caseEqOutside {cs cs' : Str} (h : CaseEqOutside F cs cs') :
    ∀ fuel, tokList (F := F) fuel cs' = tokList (F := F) fuel cs := by
  induction h with
  | same cs => intro fuel; rfl
  | blank b hb _ ih => intro fuel; rw [tokList_blank fuel b hb, tokList_blank fuel b hb, ih fuel]
  | inTok c d p p' rest rest' tk hc hn hu hi hio ih =>
    exact tokList_step_unprotected stable_caseEq hc (hi.head_blank ▸ hc) hi.head hn hu
      (CaseEq.append hi hio.toCaseEq) hio.toCaseEq ih
  | later c p rest rest' tk hc hn hcl hio ih =>
    exact tokList_step_closed stable_caseEq hc hn hcl (CaseEq.append (CaseEq.refl (c :: p)) hio.toCaseEq)
      hio.toCaseEq ih
  | afterData c p r r' items hc hn hio ih =>
    exact tokList_step_afterData stable_caseEq hc hn (CaseEq.append (CaseEq.refl (c :: p)) hio.toCaseEq) ih
  | remKw c d p p' pay hc hn hi =>
    exact tokList_step_rem stable_caseEq hc (hi.head_blank ▸ hc) hi.head hn (CaseEq.append hi (CaseEq.refl pay))
      caseEq_keyword_fix
  | dataKw c d p p' pl rest items hc hn hk hi =>
    exact tokList_step_dataKw stable_caseEq hc (hi.head_blank ▸ hc) hi.head hn hk
      (CaseEq.append hi (CaseEq.refl pl)) caseEq_keyword_fix

/-- Two lines that differ in letter case only outside protected text tokenize to the
    same tokens, or both fail. -/
theorem tokenize_caseEq_outside_iff {line line' : Str} (h : CaseEqOutside F line line') (ts : List (Token F)) :
    tokenize (F := F) line 0 = .ok ts ↔ tokenize (F := F) line' 0 = .ok ts :=
  tokenize_iff_of_tokList (tokList_caseEqOutside h) ts

/-- A change of letter case outside protected text changes no token. -/
theorem tokenize_caseEq_outside {line line' : Str} (h : CaseEqOutside F line line') (ts : List (Token F))
    (hok : tokenize (F := F) line 0 = .ok ts) : tokenize (F := F) line' 0 = .ok ts :=
  (tokenize_caseEq_outside_iff h ts).mp hok

theorem tokenize_caseEq_outside_conv {line line' : Str} (h : CaseEqOutside F line line') (ts : List (Token F))
    (hok : tokenize (F := F) line' 0 = .ok ts) : tokenize (F := F) line 0 = .ok ts :=
  (tokenize_caseEq_outside_iff h ts).mpr hok

/-! Blanks around DATA items are stated per parser state: `DataParser.run {} a` is the state
  of `parse_data_until_colon` after reading the text `a` of the payload.  "At the start of an item" means: outside
  quotes, and the current item consists of blanks only so far (`trim cur = []`) — that is
  the state at the start of the payload, after a comma, and after the closing quote of a
  quoted item (`data_state_start`, `data_state_after_comma`, `data_state_after_quote`);
  it is also the state in front of the opening quote of a quoted item.  "At the end of an
  unquoted item" means: outside quotes, in front of a comma, the terminating colon, or
  the end of the text. -/

theorem parseData_items (s : Str) :
    (parseData (F := F) s).1 = (DataParser.run ({} : DataParser F) s).finish.elements := rfl

theorem run_append_blank (a s : Str) (w : Char) (hw : isBasicWs w = true)
    (hf : (DataParser.run ({} : DataParser F) a).finished = false)
    (hq : (DataParser.run ({} : DataParser F) a).inQuote = false) :
    DataParser.run ({} : DataParser F) (a ++ w :: s) =
      DataParser.run ((DataParser.run ({} : DataParser F) a).parseChar w) s := by
  have hnf : ((DataParser.run ({} : DataParser F) a).parseChar w).finished = false := by
    rw [DataParser.parseChar_blank _ w hw hq hf]; exact hf
  rw [DataParser.run_append a _ hf, DataParser.run_cons, hnf]
  simp only [Bool.false_eq_true, ↓reduceIte]

/-- DATA blanks, start of an item / around a quoted item: a blank where the current item is
    still blank changes no item. -/
theorem data_blank_start (a s : Str) (w : Char) (hw : isBasicWs w = true)
    (hf : (DataParser.run ({} : DataParser F) a).finished = false)
    (hq : (DataParser.run ({} : DataParser F) a).inQuote = false)
    (he : trim (DataParser.run ({} : DataParser F) a).cur = []) :
    (parseData (F := F) (a ++ w :: s)).1 = (parseData (F := F) (a ++ s)).1 := by
  rw [parseData_items, parseData_items, run_append_blank a s w hw hf hq, DataParser.run_append a _ hf]
  exact ((DataParser.sim_blank_start _ w hw hq hf he).run s).finish.2.1

/-- DATA blanks, end of an unquoted item (or behind a quoted one), in front of a separator. -/
theorem data_blank_end (a s : Str) (w t : Char) (hw : isBasicWs w = true) (ht : t = ',' ∨ t = ':')
    (hf : (DataParser.run ({} : DataParser F) a).finished = false)
    (hq : (DataParser.run ({} : DataParser F) a).inQuote = false) :
    (parseData (F := F) (a ++ w :: t :: s)).1 = (parseData (F := F) (a ++ t :: s)).1 := by
  rw [parseData_items, parseData_items, run_append_blank a _ w hw hf hq, DataParser.run_append a _ hf,
    DataParser.run_cons, DataParser.run_cons]
  have hsim := DataParser.sim_blank_end _ w t hw hq hf ht
  rw [← hsim.2.2.1]
  by_cases hfin : (((DataParser.run ({} : DataParser F) a).parseChar w).parseChar t).finished = true
  · rw [if_pos hfin, if_pos hfin]; exact hsim.finish.2.1
  · rw [if_neg hfin, if_neg hfin]; exact (hsim.run s).finish.2.1

/-- DATA blanks, end of the last item: a blank at the very end of the payload. -/
theorem data_blank_eol (a : Str) (w : Char) (hw : isBasicWs w = true)
    (hf : (DataParser.run ({} : DataParser F) a).finished = false)
    (hq : (DataParser.run ({} : DataParser F) a).inQuote = false) :
    (parseData (F := F) (a ++ [w])).1 = (parseData (F := F) a).1 := by
  rw [parseData_items, parseData_items, run_append_blank a [] w hw hf hq, DataParser.run_nil]
  exact DataParser.blank_end_finish _ w hw hq hf

theorem data_state_start :
    (DataParser.run ({} : DataParser F) []).finished = false ∧
    (DataParser.run ({} : DataParser F) []).inQuote = false ∧
    trim (DataParser.run ({} : DataParser F) []).cur = [] := ⟨rfl, rfl, rfl⟩

theorem data_state_after_comma (a : Str)
    (hf : (DataParser.run ({} : DataParser F) a).finished = false)
    (hq : (DataParser.run ({} : DataParser F) a).inQuote = false) :
    (DataParser.run ({} : DataParser F) (a ++ [','])).finished = false ∧
    (DataParser.run ({} : DataParser F) (a ++ [','])).inQuote = false ∧
    trim (DataParser.run ({} : DataParser F) (a ++ [','])).cur = [] := by
  rw [DataParser.run_append a _ hf, DataParser.run_cons]
  generalize DataParser.run ({} : DataParser F) a = p at hf hq
  obtain ⟨q, els, ch, cur, fin⟩ := p
  simp only at hf hq
  subst hf; subst hq
  have hnil : trim ([] : Str) = [] := rfl
  by_cases he : trim cur = [] <;>
  simp [DataParser.parseChar, DataParser.pushCurrent, DataParser.run, he, hnil]

theorem data_state_after_quote (a : Str)
    (hf : (DataParser.run ({} : DataParser F) a).finished = false)
    (hq : (DataParser.run ({} : DataParser F) a).inQuote = true) :
    (DataParser.run ({} : DataParser F) (a ++ ['"'])).finished = false ∧
    (DataParser.run ({} : DataParser F) (a ++ ['"'])).inQuote = false ∧
    trim (DataParser.run ({} : DataParser F) (a ++ ['"'])).cur = [] := by
  rw [DataParser.run_append a _ hf, DataParser.run_cons]
  generalize DataParser.run ({} : DataParser F) a = p at hf hq
  obtain ⟨q, els, ch, cur, fin⟩ := p
  simp only at hf hq
  subst hf; subst hq
  have hnil : trim ([] : Str) = [] := rfl
  simp [DataParser.parseChar, DataParser.pushCurrent, DataParser.run, hnil]

/-- Example: `DATA a , "b" ,c` has the items of `DATA a,"b",c` (end of an unquoted item,
    behind a quoted item; checked by evaluation as a sanity test of the statements). -/
example : (parseData (F := Unit) "a , \"b\" ,c ".toList).1.map DataElement.render =
    (parseData (F := Unit) "a,\"b\",c".toList).1.map DataElement.render := by decide

/-- Two lines that an edit relates tokenize alike, so lines with different tokens refute the edit. -/
theorem tokens_eq_of_iff {line line' : Str} {ts ts' : List (Token F)}
    (hiff : tokenize (F := F) line 0 = .ok ts ↔ tokenize (F := F) line' 0 = .ok ts)
    (h1 : tokenize (F := F) line 0 = .ok ts) (h2 : tokenize (F := F) line' 0 = .ok ts') : ts = ts' :=
  Except.ok.inj ((hiff.mp h1).symm.trans h2)

/-- Non-vacuity, stepping over a string literal: `PRINT "a b";X` and `PRINT "a b"; X`
    (blank inserted after the string and the semicolon) — the string token keeps its blank. -/
example : tokenize (F := Unit) "PRINT \"a b\"; X".toList 0 =
    .ok [.kw .Print, .str "a b".toList, .kw .Semicolon, .symbol ['X']] := by
  refine tokenize_ins_outside (line := "PRINT \"a b\";X".toList) ' ' (by decide) ?_ _ ?_
  all_goals literal_chars
  · refine InsOutside.later_at 4 (.kw .Print) (by decide) (by rw [Fast.nextTokenC_eq]; rfl) rfl rfl ?_
    refine InsOutside.blank ' ' (by decide) ?_
    refine InsOutside.later_at 4 (.str ['a', ' ', 'b']) (by decide) (by rw [Fast.nextTokenC_eq]; rfl) rfl rfl ?_
    refine InsOutside.later_at 0 (.kw .Semicolon) (by decide) (by rw [Fast.nextTokenC_eq]; rfl) rfl rfl ?_
    exact InsOutside.here _
  · rw [Fast.tokenize_eq]; rfl

/-- Non-vacuity, inside a keyword in front of a string: `PRI NT "a b"`. -/
example : tokenize (F := Unit) "PRI NT \"a b\"".toList 0 = .ok [.kw .Print, .str "a b".toList] := by
  refine tokenize_ins_outside (line := "PRINT \"a b\"".toList) ' ' (by decide) ?_ _ ?_
  all_goals literal_chars
  · exact InsOutside.inTok_at 4 2 (.kw .Print) (by decide) (by rw [Fast.nextTokenC_eq]; rfl) rfl rfl
  · rw [Fast.tokenize_eq]; rfl

/-- Non-vacuity, between the letters of REM: `R EM a b` is the remark ` a b`. -/
example : tokenize (F := Unit) "R EM a b".toList 0 = .ok [.remark " a b".toList] := by
  refine tokenize_ins_outside (line := "REM a b".toList) ' ' (by decide) ?_ _ ?_
  all_goals literal_chars
  · exact InsOutside.inRem_at 1 0 (by decide) (by decide) rfl (by rw [Fast.nextTokenC_eq]; rfl) rfl
  · rw [Fast.tokenize_eq]; rfl

/-- Non-vacuity, after a DATA statement: `DATA a b:X` and `DATA a b: X`. -/
example : tokenize (F := Unit) "DATA a b: X".toList 0 =
    .ok [.data [.str "a b".toList], .kw .Colon, .symbol ['X']] := by
  refine tokenize_ins_outside (line := "DATA a b:X".toList) ' ' (by decide) ?_ _ ?_
  all_goals literal_chars
  · refine InsOutside.afterData_at 7 [.str ['a', ' ', 'b']] (by decide) (by rw [Fast.nextTokenC_eq]; rfl) rfl rfl rfl ?_
    refine InsOutside.later_at 0 (.kw .Colon) (by decide) (by rw [Fast.nextTokenC_eq]; rfl) rfl rfl ?_
    exact InsOutside.here _
  · rw [Fast.tokenize_eq]; rfl

/-- Non-vacuity for letter case: `print "Ab";x` and `PRINT "Ab";X`. -/
example : tokenize (F := Unit) "PRINT \"Ab\";X".toList 0 =
    .ok [.kw .Print, .str "Ab".toList, .kw .Semicolon, .symbol ['X']] := by
  refine tokenize_caseEq_outside (line := "print \"Ab\";x".toList) ?_ _ ?_
  all_goals literal_chars
  · refine CaseEqOutside.inTok_at 4 (.kw .Print) (by decide) (by rw [Fast.nextTokenC_eq]; rfl) rfl (.of_map (by decide) (by decide)) ?_
    refine CaseEqOutside.blank ' ' (by decide) ?_
    refine CaseEqOutside.later_at 3 (.str ['A', 'b']) (by decide) (by rw [Fast.nextTokenC_eq]; rfl) rfl rfl ?_
    refine CaseEqOutside.later_at 0 (.kw .Semicolon) (by decide) (by rw [Fast.nextTokenC_eq]; rfl) rfl rfl ?_
    exact CaseEqOutside.inTok_at 0 (.symbol ['X']) (by decide) (by rw [Fast.nextTokenC_eq]; rfl) rfl (.of_map (by decide) (by decide))
      (CaseEqOutside.same _)
  · rw [Fast.tokenize_eq]; rfl

/-- Non-vacuity for letter case in the keyword REM: `rem Ab` and `REM Ab`. -/
example : tokenize (F := Unit) "REM Ab".toList 0 = .ok [.remark " Ab".toList] := by
  refine tokenize_caseEq_outside (line := "rem Ab".toList) ?_ _ ?_
  all_goals literal_chars
  · exact CaseEqOutside.remKw_at 2 (by decide) (by rw [Fast.nextTokenC_eq]; rfl) (.of_map (by decide) (by decide)) rfl
  · rw [Fast.tokenize_eq]; rfl

/-- The side condition is needed (blank inside a string literal): `"ab"` and `"a b"` are
    related by `Ins` but give different tokens, so they are not related by `InsOutside`. -/
example : Ins ' ' "\"ab\"".toList "\"a b\"".toList ∧
    tokenize (F := Unit) "\"ab\"".toList 0 = .ok [.str "ab".toList] ∧
    tokenize (F := Unit) "\"a b\"".toList 0 = .ok [.str "a b".toList] ∧
    ¬ InsOutside Unit ' ' "\"ab\"".toList "\"a b\"".toList := by
  have h1 : tokenize (F := Unit) "\"ab\"".toList 0 = .ok [.str "ab".toList] := by rw [Fast.tokenize_eq]; rfl
  have h2 : tokenize (F := Unit) "\"a b\"".toList 0 = .ok [.str "a b".toList] := by rw [Fast.tokenize_eq]; rfl
  refine ⟨Ins.cons '"' (Ins.cons 'a' (Ins.here _)), h1, h2, fun h => ?_⟩
  have e := tokens_eq_of_iff (tokenize_ins_outside_iff ' ' (by decide) h _) h1 h2
  simp at e

/-- … in the text of a remark … -/
example : Ins ' ' "REMab".toList "REMa b".toList ∧
    tokenize (F := Unit) "REMab".toList 0 = .ok [.remark "ab".toList] ∧
    tokenize (F := Unit) "REMa b".toList 0 = .ok [.remark "a b".toList] ∧
    ¬ InsOutside Unit ' ' "REMab".toList "REMa b".toList := by
  have h1 : tokenize (F := Unit) "REMab".toList 0 = .ok [.remark "ab".toList] := by rw [Fast.tokenize_eq]; rfl
  have h2 : tokenize (F := Unit) "REMa b".toList 0 = .ok [.remark "a b".toList] := by rw [Fast.tokenize_eq]; rfl
  refine ⟨Ins.cons 'R' (Ins.cons 'E' (Ins.cons 'M' (Ins.cons 'a' (Ins.here _)))), h1, h2, fun h => ?_⟩
  have e := tokens_eq_of_iff (tokenize_ins_outside_iff ' ' (by decide) h _) h1 h2
  simp at e

/-- … and in a DATA payload (inside an unquoted item). -/
example : Ins ' ' "DATAab".toList "DATAa b".toList ∧
    tokenize (F := Unit) "DATAab".toList 0 = .ok [.data [.str "ab".toList]] ∧
    tokenize (F := Unit) "DATAa b".toList 0 = .ok [.data [.str "a b".toList]] ∧
    ¬ InsOutside Unit ' ' "DATAab".toList "DATAa b".toList := by
  have h1 : tokenize (F := Unit) "DATAab".toList 0 = .ok [.data [.str "ab".toList]] := by rw [Fast.tokenize_eq]; rfl
  have h2 : tokenize (F := Unit) "DATAa b".toList 0 = .ok [.data [.str "a b".toList]] := by rw [Fast.tokenize_eq]; rfl
  refine ⟨Ins.cons 'D' (Ins.cons 'A' (Ins.cons 'T' (Ins.cons 'A' (Ins.cons 'a' (Ins.here _))))), h1, h2, fun h => ?_⟩
  have e := tokens_eq_of_iff (tokenize_ins_outside_iff ' ' (by decide) h _) h1 h2
  simp at e

/-- The side condition is needed for letter case too: `"ab"` and `"aB"` are `CaseEq` but
    give different string tokens, so they are not `CaseEqOutside`. -/
example : CaseEq "\"ab\"".toList "\"aB\"".toList ∧
    tokenize (F := Unit) "\"ab\"".toList 0 = .ok [.str "ab".toList] ∧
    tokenize (F := Unit) "\"aB\"".toList 0 = .ok [.str "aB".toList] ∧
    ¬ CaseEqOutside Unit "\"ab\"".toList "\"aB\"".toList := by
  have h1 : tokenize (F := Unit) "\"ab\"".toList 0 = .ok [.str "ab".toList] := by rw [Fast.tokenize_eq]; rfl
  have h2 : tokenize (F := Unit) "\"aB\"".toList 0 = .ok [.str "aB".toList] := by rw [Fast.tokenize_eq]; rfl
  refine ⟨.of_map (by decide) (by decide), h1, h2, fun h => ?_⟩
  have e := tokens_eq_of_iff (tokenize_caseEq_outside_iff h _) h1 h2
  simp at e

end Abasic.Props.C12
