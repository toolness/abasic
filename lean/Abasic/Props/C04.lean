import Abasic.Proofs.LinesLemmas
import Abasic.Props.C01
/-
  C04 — the program store is a last-writer-wins map, listed and run in line order.

  `Lines` (Lines.lean) models BOTH indexes of program_lines.rs: the token map
  (`HashMap`) and the ordered set of line numbers (`BTreeSet`).  That they agree
  is a theorem here, not an assumption.
-/
namespace Abasic.Props.C04
open Abasic Abasic.Lines

variable {F : Type}

structure WF (l : Lines F) : Prop where
  sorted : l.sorted.Pairwise (· < ·)
  agree : ∀ n, n ∈ l.sorted ↔ (l.get n).isSome

theorem wf_empty : WF ({} : Lines F) := ⟨by simp, by intro n; simp [Lines.get, getMap]⟩

/-- The store as a finite map: an edit writes (or erases, for an empty token
    list) exactly its own key — last writer wins. -/
theorem get_set (l : Lines F) (n m : Nat) (ts : List (Token F)) :
    (l.set n ts).get m = if m = n then (if ts.isEmpty then none else some ts) else l.get m := by
  unfold Lines.set Lines.get
  by_cases he : ts.isEmpty
  · simp only [he, ↓reduceIte, getMap_eraseMap]
  · simp only [he, Bool.false_eq_true, ↓reduceIte, getMap_setMap]

theorem wf_set (l : Lines F) (h : WF l) (n : Nat) (ts : List (Token F)) : WF (l.set n ts) := by
  constructor
  · unfold Lines.set
    split
    · exact sorted_eraseSorted n _ h.sorted
    · exact sorted_insertSorted n _ h.sorted
  · intro m
    rw [get_set]
    unfold Lines.set
    by_cases he : ts.isEmpty
    · simp only [he, ↓reduceIte, mem_eraseSorted]
      by_cases hm : m = n
      · simp [hm]
      · simp [hm, h.agree m]
    · simp only [he, Bool.false_eq_true, ↓reduceIte, mem_insertSorted]
      by_cases hm : m = n
      · simp [hm]
      · simp [hm, h.agree m]

theorem wf_reachable (edits : List (Nat × List (Token F))) :
    WF (edits.foldl (fun l e => l.set e.1 e.2) ({} : Lines F)) := by
  suffices ∀ l : Lines F, WF l → WF (edits.foldl (fun l e => l.set e.1 e.2) l) from this _ wf_empty
  induction edits with
  | nil => intro l h; exact h
  | cons e es ih => intro l h; exact ih _ (wf_set l h e.1 e.2)

/-- The abstract spec: a finite map from line number to token list. -/
abbrev Spec (F : Type) := Nat → Option (List (Token F))
def Spec.edit (m : Spec F) (n : Nat) (ts : List (Token F)) : Spec F :=
  fun k => if k = n then (if ts.isEmpty then none else some ts) else m k

/-- Refinement: after any edit history the store denotes the map obtained by
    applying the same edits to the spec (including deletions by a bare number). -/
theorem store_refines (edits : List (Nat × List (Token F))) (l : Lines F) :
    (edits.foldl (fun l e => l.set e.1 e.2) l).get =
    edits.foldl (fun m e => Spec.edit m e.1 e.2) (l.get : Spec F) := by
  induction edits generalizing l with
  | nil => rfl
  | cons e es ih =>
    have : (l.set e.1 e.2).get = Spec.edit (l.get : Spec F) e.1 e.2 := by
      funext k
      simp [get_set, Spec.edit]
    rw [List.foldl_cons, ih, this, List.foldl_cons]

/-- Order of entry is irrelevant: edits to different line numbers commute —
    same map, same ordered index. -/
theorem set_comm (l : Lines F) (h : WF l) (n m : Nat) (a b : List (Token F)) (hnm : n ≠ m) :
    ((l.set n a).set m b).get = ((l.set m b).set n a).get ∧
    ((l.set n a).set m b).sorted = ((l.set m b).set n a).sorted := by
  have h1 := wf_set _ (wf_set l h n a) m b
  have h2 := wf_set _ (wf_set l h m b) n a
  have hget : ((l.set n a).set m b).get = ((l.set m b).set n a).get := by
    funext k
    simp only [get_set]
    by_cases hk : k = m
    · subst hk; simp [Ne.symm hnm]
    · by_cases hk2 : k = n
      · subst hk2; simp [hnm]
      · simp [hk, hk2]
  refine ⟨hget, sorted_ext _ _ h1.sorted h2.sorted ?_⟩
  intro x
  rw [h1.agree, h2.agree, hget]

/-- LIST never hits the `unwrap()`: it yields exactly the stored lines in
    ascending numeric order, each with the tokens last written for it. -/
theorem list_sorted (l : Lines F) (h : WF l) :
    ∃ entries, l.listTokens = some entries ∧ entries.map (·.1) = l.sorted ∧
      ∀ e ∈ entries, l.get e.1 = some e.2 := by
  unfold Lines.listTokens
  have hall : ∀ n ∈ l.sorted, (l.get n).isSome := fun n hn => (h.agree n).mp hn
  generalize l.sorted = keys at hall
  induction keys with
  | nil => exact ⟨[], rfl, rfl, by simp⟩
  | cons k ks ih =>
    obtain ⟨es, he, hk, hg⟩ := ih (fun n hn => hall n (List.mem_cons_of_mem _ hn))
    have hsome := hall k (List.mem_cons_self ..)
    obtain ⟨ts, hts⟩ := Option.isSome_iff_exists.mp hsome
    refine ⟨(k, ts) :: es, ?_, ?_, ?_⟩
    · simp [List.mapM_cons, hts, he]
    · simp [hk]
    · intro e hemem
      rcases List.mem_cons.mp hemem with rfl | hemem
      · exact hts
      · exact hg e hemem

/-- `after n` is the least stored line number greater than `n` — for every `n`
    (the model's numbers are unbounded; `n = 2^64 - 1` is not special). -/
theorem afterList_spec (n : Nat) (keys : List Nat) (hs : keys.Pairwise (· < ·)) :
    (∀ m, afterList n keys = some m → m ∈ keys ∧ n < m ∧ ∀ k ∈ keys, n < k → m ≤ k) ∧
    (afterList n keys = none → ∀ k ∈ keys, k ≤ n) := by
  rw [afterList_find]
  refine ⟨fun m hm => ?_, fun h k hk => Nat.le_of_not_lt (by simpa using List.find?_eq_none.1 h k hk)⟩
  obtain ⟨hlt, as, bs, rfl, has⟩ := List.find?_eq_some_iff_append.1 hm
  refine ⟨by simp, by simpa using hlt, fun k hk hnk => ?_⟩
  rcases List.mem_append.1 hk with h | h
  · simpa [hnk] using has k h
  · rcases List.mem_cons.1 h with rfl | h
    · exact Nat.le_refl _
    · exact Nat.le_of_lt ((List.pairwise_cons.1 (List.pairwise_append.1 hs).2.1).1 k h)

theorem after_least (l : Lines F) (h : WF l) (n : Nat) :
    (∀ m, l.after n = some m → m ∈ l.sorted ∧ n < m ∧ ∀ k ∈ l.sorted, n < k → m ≤ k) ∧
    (l.after n = none → ∀ k ∈ l.sorted, k ≤ n) :=
  afterList_spec n l.sorted h.sorted

/-- RUN order: starting at `first` and following `after` visits exactly the
    stored line numbers in ascending order. -/
def visit (l : Lines F) : Nat → Option Nat → List Nat
  | 0, _ => []
  | _ + 1, none => []
  | fuel + 1, some n => n :: visit l fuel (l.after n)

theorem run_order (l : Lines F) (h : WF l) :
    visit l (l.sorted.length + 1) l.first = l.sorted := by
  unfold Lines.first
  have hs := h.sorted
  -- generalise over the suffix still to be visited
  suffices ∀ (pre suf : List Nat), l.sorted = pre ++ suf →
      visit l (suf.length + 1) suf.head? = suf from this [] l.sorted rfl
  intro pre suf
  induction suf generalizing pre with
  | nil => intro _; simp [visit]
  | cons k ks ih =>
    intro hsplit
    simp only [List.head?_cons, List.length_cons, visit]
    congr 1
    have hafter : l.after k = ks.head? := by
      rw [hsplit] at hs
      obtain ⟨_, hsuf, hpre⟩ := List.pairwise_append.1 hs
      rw [Lines.after, hsplit, afterList_find, List.find?_append,
        List.find?_eq_none.2 (fun a ha => by simpa using Nat.le_of_lt (hpre a ha k (List.mem_cons_self ..))),
        Option.none_or, List.find?_cons_of_neg (by simp)]
      cases ks with
      | nil => rfl
      | cons j js => exact List.find?_cons_of_pos (by simpa using (List.pairwise_cons.1 hsuf).1 j (List.mem_cons_self ..))
    rw [hafter]
    exact ih (pre ++ [k]) (by simp [hsplit])

/-! ### the interpreter level: what entering a line does to the store -/

variable [NumOps F]

/-- A successfully tokenized numbered line is written to the store (an empty
    token list, i.e. a bare number, deletes the line). -/
theorem submit_numbered (fuel : Nat) (line : Str) (σ : St F) (n k : Nat) (ts : List (Token F))
    (hidle : σ.state = .idle)
    (hcmd : (commandWord line).bind Command.ofWord = none)
    (hn : parseLineNumber line = some (n, k))
    (ht : tokenize (F := F) line k = .ok ts) :
    ∃ σ', startEvaluating fuel line σ = .ok () σ' ∧ σ'.lines = σ.lines.set n ts :=
  ⟨_, C01.start_numbered fuel line σ n k ts hidle hcmd hn ht, rfl⟩

/-- A line that fails to tokenize changes nothing in the store. -/
theorem submit_failed (fuel : Nat) (line : Str) (σ : St F) (e : TokErr)
    (hidle : σ.state = .idle)
    (hcmd : (commandWord line).bind Command.ofWord = none)
    (ht : tokenize (F := F) line ((parseLineNumber line).map (·.2) |>.getD 0) = .error e) :
    ∃ σ' te, startEvaluating fuel line σ = .err te σ' ∧ te.err = .syntax (.tokenization e) ∧
      σ'.lines = σ.lines :=
  ⟨_, _, C01.start_tok_error fuel line σ e hidle hcmd ht, rfl, rfl⟩

/-- Non-vacuity: a concrete history with a replace, a delete and a re-add is
    well formed and lists in numeric order. -/
example :
    let l : Lines Unit := ((((({} : Lines Unit).set 20 [.kw .End]).set 10 [.kw .Stop]).set 20 []).set 5 [.kw .End]).set 10 [.kw .End]
    l.sorted = [5, 10] ∧ (l.get 10).isSome ∧ (l.get 20).isNone ∧ l.after 5 = some 10 ∧ l.after 10 = none := by
  decide

end Abasic.Props.C04
