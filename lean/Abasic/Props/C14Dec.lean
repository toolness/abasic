import Abasic.Props.C14Run
import Abasic.Proofs.TokFast
/-
  C14: `NumLaws` holds on a carrier with REAL numerals.

  `NumLaws Unit` (Props/C14Run.lean) is true only because the degenerate carrier
  parses nothing.  Here the laws are proved for the decimal carrier
  `Dec = Nat × Nat` of C14Run (`decOps`: all digits read as one number, number of
  fraction digits; `1.5 ↦ (15, 1)`, `.5 ↦ (5, 1)`, `1.50 ↦ (150, 2)`, `007 ↦ (7, 0)`).
  `decParse (decRender x) = some x` holds for EVERY `x : Dec`: the carrier keeps trailing
  zeros of the fraction, so no normalisation is needed; leading zeros of the integer part
  are not kept and not rendered.

  So `list_fixpoint`, `reload_same_run`, `reload_data_sequence` (and the other
  `reload_*` theorems) are instantiated on a carrier in which `1.5`, `.5` after an
  identifier and DATA numbers are numbers.
-/
namespace Abasic.Props.C14
open Abasic Abasic.Hoare Abasic.Props.C01 Abasic.Props.C15
open Abasic.Props.C04 Abasic.DataRT

theorem digit_ne_point (c : Char) (h : isAsciiDigit c = true) : (c != '.') = true := by
  have hb := (Abasic.Props.C12.digit_bounds c).mp h
  simp only [bne_iff_ne, ne_eq]
  intro e; subst e; revert hb; decide

theorem split_digits (a t : Str) (ha : ∀ c ∈ a, isAsciiDigit c = true) (ht : t = [] ∨ ∃ b, t = '.' :: b) :
    (a ++ t).takeWhile (· != '.') = a ∧ (a ++ t).dropWhile (· != '.') = t := by
  have hp : ∀ c ∈ a, (c != '.') = true := fun c hc => digit_ne_point c (ha c hc)
  rw [List.takeWhile_append_of_pos hp, List.dropWhile_append_of_pos hp]
  rcases ht with rfl | ⟨b, rfl⟩ <;> simp

theorem decParse_split (a t : Str) (ha : ∀ c ∈ a, isAsciiDigit c = true) (ht : t = [] ∨ ∃ b, t = '.' :: b) :
    decParse (a ++ t) = if (a ++ t.drop 1).isEmpty || !(a ++ t.drop 1).all isAsciiDigit then none
      else some (digitsValue (a ++ t.drop 1) 0, (t.drop 1).length) := by
  unfold decParse
  simp only [split_digits a t ha ht]

theorem digits_cond (s : Str) :
    (s.isEmpty || !s.all isAsciiDigit) = false ↔ s ≠ [] ∧ ∀ c ∈ s, isAsciiDigit c = true := by
  cases s <;> simp

theorem decParse_point (a b : Str) (ha : ∀ c ∈ a, isAsciiDigit c = true) (hb : ∀ c ∈ b, isAsciiDigit c = true)
    (hne : a ++ b ≠ []) : decParse (a ++ '.' :: b) = some (digitsValue (a ++ b) 0, b.length) := by
  rw [decParse_split a _ ha (.inr ⟨b, rfl⟩), List.drop_succ_cons, List.drop_zero,
    (digits_cond _).mpr ⟨hne, fun c hc => (List.mem_append.mp hc).elim (ha c) (hb c)⟩]
  rfl

theorem decParse_plain (a : Str) (ha : ∀ c ∈ a, isAsciiDigit c = true) (hne : a ≠ []) :
    decParse a = some (digitsValue a 0, 0) := by
  have h := decParse_split a [] ha (.inl rfl)
  rw [List.drop_nil, List.append_nil, (digits_cond a).mpr ⟨hne, ha⟩] at h
  exact h

theorem decParse_leading_point (d : Str) (x : Dec) (h : decParse ('.' :: d) = some x) :
    d ≠ [] ∧ (∀ c ∈ d, isAsciiDigit c = true) ∧ x = (digitsValue d 0, d.length) := by
  have h' := decParse_split [] ('.' :: d) (fun c hc => by cases hc) (.inr ⟨d, rfl⟩)
  rw [List.nil_append, List.nil_append, List.drop_succ_cons, List.drop_zero, h] at h'
  cases hc : (d.isEmpty || !d.all isAsciiDigit) with
  | true => rw [hc, if_pos rfl] at h'; cases h'
  | false =>
    rw [hc] at h'
    injection h' with h'
    exact ⟨((digits_cond d).mp hc).1, ((digits_cond d).mp hc).2, h'⟩

def padDigits (x : Dec) : Str :=
  List.replicate (x.2 + 1 - (Nat.toDigits 10 x.1).length) '0' ++ Nat.toDigits 10 x.1

theorem padDigits_digits (x : Dec) : ∀ c ∈ padDigits x, isAsciiDigit c = true := by
  intro c hc
  rcases List.mem_append.mp hc with h | h
  · rw [(List.mem_replicate.mp h).2]; decide
  · exact toDigits_digits x.1 c h

theorem padDigits_length (x : Dec) : x.2 + 1 ≤ (padDigits x).length := by
  unfold padDigits
  rw [List.length_append, List.length_replicate]
  omega

theorem padDigits_value (x : Dec) : digitsValue (padDigits x) 0 = x.1 := by
  unfold padDigits
  rw [digitsValue_append]
  have h0 : digitsValue (List.replicate (x.2 + 1 - (Nat.toDigits 10 x.1).length) '0') 0 = 0 := by
    rw [digitsValue_eq_ofDigitChars, Nat.ofDigitChars_replicate_zero, Nat.mul_zero]
  rw [h0]
  exact decValue_toDigits x.1

theorem decRender_eq (x : Dec) :
    decRender x = if x.2 = 0 then padDigits x
      else (padDigits x).take ((padDigits x).length - x.2) ++ '.' :: (padDigits x).drop ((padDigits x).length - x.2) :=
  rfl

theorem decParse_decRender (x : Dec) : decParse (decRender x) = some x := by
  rw [decRender_eq]
  have hd := padDigits_digits x
  have hl := padDigits_length x
  by_cases h0 : x.2 = 0
  · rw [if_pos h0, decParse_plain _ hd (by intro e; rw [e] at hl; simp at hl), padDigits_value]
    obtain ⟨v, k⟩ := x
    simp only at h0
    rw [h0]
  · rw [if_neg h0]
    have ha : ∀ c ∈ (padDigits x).take ((padDigits x).length - x.2), isAsciiDigit c = true :=
      fun c hc => hd c (List.mem_of_mem_take hc)
    have hb : ∀ c ∈ (padDigits x).drop ((padDigits x).length - x.2), isAsciiDigit c = true :=
      fun c hc => hd c (List.mem_of_mem_drop hc)
    rw [decParse_point _ _ ha hb (by rw [List.take_append_drop]; intro e; rw [e] at hl; simp at hl),
      List.take_append_drop, padDigits_value, List.length_drop]
    have : (padDigits x).length - ((padDigits x).length - x.2) = x.2 := by omega
    rw [this]

theorem digdot_of_digit (c : Char) (h : isAsciiDigit c = true) : digdot c = true := by
  unfold digdot
  rw [h]; rfl

theorem digits_shape (a t : Str) (ha : ∀ c ∈ a, isAsciiDigit c = true) (hne : a ≠ [])
    (ht : t = [] ∨ ∃ b, t = '.' :: b ∧ b ≠ [] ∧ ∀ c ∈ b, isAsciiDigit c = true) :
    ∃ h tl, a ++ t = h :: tl ∧ isAsciiDigit h = true ∧
      (∀ l, (h :: tl).getLast? = some l → isAsciiDigit l = true) ∧ (∀ c ∈ h :: tl, digdot c = true) := by
  cases a with
  | nil => exact absurd rfl hne
  | cons h tl =>
    refine ⟨h, tl ++ t, rfl, ha h (List.mem_cons_self ..), ?_, ?_⟩ <;>
      rcases ht with rfl | ⟨b, rfl, hbne, hb⟩
    · intro l hl
      rw [List.append_nil] at hl
      exact ha l (List.mem_of_getLast? hl)
    · cases b with
      | nil => exact absurd rfl hbne
      | cons y b =>
        intro l hl
        rw [← List.cons_append, List.getLast?_append, List.getLast?_cons_cons,
          List.getLast?_eq_some_getLast (List.cons_ne_nil y b), Option.some_or] at hl
        injection hl with hl
        rw [← hl]
        exact hb _ (List.getLast_mem _)
    · intro c hc
      rw [List.append_nil] at hc
      exact digdot_of_digit c (ha c hc)
    · intro c hc
      rw [← List.cons_append] at hc
      rcases List.mem_append.mp hc with h1 | h1
      · exact digdot_of_digit c (ha c h1)
      · rcases List.mem_cons.mp h1 with rfl | h2
        · rfl
        · exact digdot_of_digit c (hb c h2)

theorem decRender_shape (x : Dec) :
    ∃ h tl, decRender x = h :: tl ∧ isAsciiDigit h = true ∧
      (∀ l, (h :: tl).getLast? = some l → isAsciiDigit l = true) ∧ (∀ c ∈ h :: tl, digdot c = true) := by
  have hd := padDigits_digits x
  have hl := padDigits_length x
  rw [decRender_eq]
  by_cases h0 : x.2 = 0
  · have h := digits_shape (padDigits x) [] hd (List.ne_nil_of_length_pos (by omega)) (.inl rfl)
    rwa [if_pos h0, ← List.append_nil (padDigits x)]
  · rw [if_neg h0]
    exact digits_shape _ _ (fun c hc => hd c (List.mem_of_mem_take hc))
      (List.ne_nil_of_length_pos (by rw [List.length_take]; omega))
      (.inr ⟨_, rfl, List.ne_nil_of_length_pos (by rw [List.length_drop]; omega),
        fun c hc => hd c (List.mem_of_mem_drop hc)⟩)

theorem decRender_frac (x : Dec) (hk : 0 < x.2) (hv : x.1 < 10 ^ x.2) :
    ∃ tl, decRender x = '0' :: '.' :: tl ∧ decParse ('.' :: tl) = some x := by
  have hlen : (Nat.toDigits 10 x.1).length ≤ x.2 := (Nat.length_toDigits_le_iff (by decide) hk).mpr hv
  -- no more than `x.2` digits, so the padding is not empty: a zero and `x.2` more digits
  obtain ⟨tl, hpad, htl⟩ : ∃ tl, padDigits x = '0' :: tl ∧ tl.length = x.2 := by
    refine ⟨List.replicate (x.2 - (Nat.toDigits 10 x.1).length) '0' ++ Nat.toDigits 10 x.1, ?_, ?_⟩
    · unfold padDigits
      rw [show x.2 + 1 - (Nat.toDigits 10 x.1).length = (x.2 - (Nat.toDigits 10 x.1).length) + 1 by omega,
        List.replicate_succ, List.cons_append]
    · rw [List.length_append, List.length_replicate]; omega
  have hd : ∀ c ∈ tl, isAsciiDigit c = true := fun c hc =>
    padDigits_digits x c (by rw [hpad]; exact List.mem_cons_of_mem _ hc)
  refine ⟨tl, ?_, ?_⟩
  · rw [decRender_eq, if_neg (by omega), hpad, List.length_cons, htl, show x.2 + 1 - x.2 = 1 by omega]
    rfl
  · have hp := decParse_point [] tl (by intro c hc; cases hc) hd
      (by rw [List.nil_append]; intro e; rw [e] at htl; exact absurd htl.symm (Nat.ne_of_gt hk))
    rw [List.nil_append, List.nil_append] at hp
    have hval : digitsValue tl 0 = x.1 := by
      have hz := digitsValue_zero_cons tl
      unfold decValue at hz
      rw [← hz, ← hpad]; exact padDigits_value x
    rw [hp, hval, htl]

section
attribute [local instance] decOps

theorem renderOK_dec (x : Dec) : RenderOK x := by
  obtain ⟨h, tl, e, _, _, hd⟩ := decRender_shape x
  refine ⟨h, tl, e, hd, ?_⟩
  show decParse (h :: tl) = some x
  rw [← e]; exact decParse_decRender x

theorem digit_not_unicodeWs (c : Char) (h : isAsciiDigit c = true) : isUnicodeWs c = false := by
  have hb := (Abasic.Props.C12.digit_bounds c).mp h
  unfold isUnicodeWs
  simp only [Bool.or_eq_false_iff, Bool.and_eq_false_iff, decide_eq_false_iff_not, beq_eq_false_iff_ne, ne_eq]
  omega

theorem dataNumOK_dec (x : Dec) : DataNumOK x := by
  obtain ⟨h, tl, e, hh, hlast, hd⟩ := decRender_shape x
  refine ⟨⟨h, tl, e, ⟨?_, ?_⟩, ?_, ?_⟩, decParse_decRender x⟩
  · show trimStart (decRender x) = decRender x
    rw [e]; exact trimStart_cons_nonws h tl (digit_not_unicodeWs h hh)
  · show trimStart (decRender x).reverse = (decRender x).reverse
    rw [e]
    cases hr : (h :: tl).reverse with
    | nil => rfl
    | cons l m =>
      have hl : (h :: tl).getLast? = some l := by
        rw [List.getLast?_eq_head?_reverse, hr]; rfl
      exact trimStart_cons_nonws l m (digit_not_unicodeWs l (hlast l hl))
  · intro e'; rw [e'] at hh; exact absurd hh (by decide)
  · intro c hc
    show c ≠ ',' ∧ c ≠ ':'
    have hdd : digdot c = true := hd c (by
      have : NumOps.render x = decRender x := rfl
      rw [this, e] at hc; exact hc)
    constructor
    · intro e'; rw [e'] at hdd; exact absurd hdd (by decide)
    · intro e'; rw [e'] at hdd; exact absurd hdd (by decide)

/-- The three laws `list_fixpoint` and the reload theorems need hold for
    the decimal carrier `decOps` as defined in C14Run. -/
theorem numLaws_dec : NumLaws Dec where
  numeral := fun _ x _ _ _ _ => renderOK_dec x
  leadingPoint := fun d x _ hp _ => by
    obtain ⟨hne, hdig, hx⟩ := decParse_leading_point d x hp
    have hk : 0 < x.2 := by
      rw [hx]
      cases d with
      | nil => exact absurd rfl hne
      | cons _ _ => simp
    have hv : x.1 < 10 ^ x.2 := by rw [hx]; exact digitsValue_lt d hdig
    obtain ⟨tl, h1, h2⟩ := decRender_frac x hk hv
    exact .inr (.inl ⟨tl, h1, h2⟩)
  dataItem := fun _ x _ => dataNumOK_dec x

theorem list_fixpoint_dec (line : Str) (ts : List (Token Dec)) (h : tokenize (F := Dec) line 0 = .ok ts) :
    tokenize (F := Dec) (listLine ts) 0 = .ok ts :=
  list_fixpoint numLaws_dec line ts h

/-- `print a.5;1.5;.25:data 1.5, .5,007, x 1` — a numeral after an identifier, numerals after
    operators, DATA numbers — as the tokenizer reads it, as LIST prints it, and read again -/
example :
    tokenize (F := Dec) "print a.5;1.5;.25:data 1.5, .5,007, x 1".toList 0 =
      .ok [.kw .Print, .symbol ['A'], .num (5, 1), .kw .Semicolon, .num (15, 1), .kw .Semicolon, .num (25, 2),
           .kw .Colon, .data [.num (15, 1), .num (5, 1), .num (7, 0), .str "x 1".toList]] ∧
    listLine (F := Dec) [.kw .Print, .symbol ['A'], .num (5, 1), .kw .Semicolon, .num (15, 1), .kw .Semicolon, .num (25, 2),
           .kw .Colon, .data [.num (15, 1), .num (5, 1), .num (7, 0), .str "x 1".toList]] =
      "PRINT A .5 ; 1.5 ; 0.25 : DATA 1.5, 0.5, 7, \"x 1\"".toList ∧
    tokenize (F := Dec) "PRINT A .5 ; 1.5 ; 0.25 : DATA 1.5, 0.5, 7, \"x 1\"".toList 0 =
      .ok [.kw .Print, .symbol ['A'], .num (5, 1), .kw .Semicolon, .num (15, 1), .kw .Semicolon, .num (25, 2),
           .kw .Colon, .data [.num (15, 1), .num (5, 1), .num (7, 0), .str "x 1".toList]] := by
  have h : tokenize (F := Dec) "print a.5;1.5;.25:data 1.5, .5,007, x 1".toList 0 =
      .ok [.kw .Print, .symbol ['A'], .num (5, 1), .kw .Semicolon, .num (15, 1), .kw .Semicolon, .num (25, 2),
           .kw .Colon, .data [.num (15, 1), .num (5, 1), .num (7, 0), .str "x 1".toList]] := by
    literal_chars
    rw [Fast.tokenize_eq]
    rfl
  have hl : listLine (F := Dec) [.kw .Print, .symbol ['A'], .num (5, 1), .kw .Semicolon, .num (15, 1), .kw .Semicolon, .num (25, 2),
           .kw .Colon, .data [.num (15, 1), .num (5, 1), .num (7, 0), .str "x 1".toList]] =
      "PRINT A .5 ; 1.5 ; 0.25 : DATA 1.5, 0.5, 7, \"x 1\"".toList := by
    literal_chars
    decide +kernel
  refine ⟨h, hl, ?_⟩
  rw [← hl]
  exact list_fixpoint_dec _ _ h

/-- the session of C14Run (`sessionD`), evaluated once by the kernel -/
theorem sessionD_facts :
    sessionD.state = .idle ∧
    sessionD.lines.list = some ["10 DATA \"A, B\", 1.5, \"x y\"\n".toList, "20 READ A$ , B , C$\n".toList,
      "30 PRINT A .5\n".toList, "40 PRINT A$ ; B ; C$\n".toList] ∧
    sessionD.lines.dataChunks =
      some [({ line := some 10, idx := 0 }, [.str "A, B".toList, .num (15, 1), .str "x y".toList])] ∧
    sessionD.lines.map.map (·.1) = [30, 10, 20, 40] ∧ sessionD.lines.canon.map.map (·.1) = [10, 20, 30, 40] ∧
    transcript 50 [runCall, .cont, .cont, .cont] sessionD =
      [(none, []), (none, []), (none, [.print "00.5\n".toList]),
       (none, [.print "A, B1.5x y\n".toList, .print "00.5\n".toList])] := by
  unfold sessionD
  literal_chars
  decide +kernel

/-- Non-vacuity: the listing shows the numeral after the identifier as `.5`; the reloaded
    store agrees with the session's while the token maps differ in order; RUN and three
    further turns print `00.5` and `A, B1.5x y`.  What is said of the session itself is `sessionD_facts`; what is
    said of the reloaded interpreter are the `reload_*` theorems at `numLaws_dec`. -/
theorem reload_example :
    Reachable 50 sessionD ∧ sessionD.state = .idle ∧
    sessionD.lines.list = some ["10 DATA \"A, B\", 1.5, \"x y\"\n".toList, "20 READ A$ , B , C$\n".toList,
      "30 PRINT A .5\n".toList, "40 PRINT A$ ; B ; C$\n".toList] ∧
    (reload 50 sessionD).lines.sorted = sessionD.lines.sorted ∧
    (sessionD.lines.sorted.all fun n => decide ((reload 50 sessionD).lines.get n = sessionD.lines.get n)) = true ∧
    (reload 50 sessionD).lines = sessionD.lines.canon ∧
    (reload 50 sessionD).lines.list = sessionD.lines.list ∧
    (reload 50 sessionD).lines.dataChunks = sessionD.lines.dataChunks ∧
    sessionD.lines.dataChunks =
      some [({ line := some 10, idx := 0 }, [.str "A, B".toList, .num (15, 1), .str "x y".toList])] ∧
    sessionD.lines.map.map (·.1) = [30, 10, 20, 40] ∧ (reload 50 sessionD).lines.map.map (·.1) = [10, 20, 30, 40] ∧
    transcript 50 [runCall, .cont, .cont, .cont] (reload 50 sessionD) =
      transcript 50 [runCall, .cont, .cont, .cont] sessionD ∧
    transcript 50 [runCall, .cont, .cont, .cont] sessionD =
      [(none, []), (none, []), (none, [.print "00.5\n".toList]),
       (none, [.print "A, B1.5x y\n".toList, .print "00.5\n".toList])] := by
  have hr : Reachable 50 sessionD := reachable_applyCalls 50 _ _ .init
  obtain ⟨hidle, hlist, hdata, hmap, hcanon, hrun⟩ := sessionD_facts
  have hc := reload_lines_eq_partial numLaws_dec 50 50 _ hr
  exact ⟨hr, hidle, hlist, reload_sorted numLaws_dec 50 50 _ hr,
    List.all_eq_true.mpr fun n _ => decide_eq_true (reload_get numLaws_dec 50 50 _ hr n), hc,
    reload_list numLaws_dec 50 50 _ hr, reload_data_sequence numLaws_dec 50 50 _ hr, hdata, hmap,
    by rw [hc]; exact hcanon, (reload_same_run numLaws_dec 50 50 _ hr hidle _).1, hrun⟩

/-- a program entered out of order: `1.5` in an expression, `.5` after an identifier,
    DATA numbers (with and without integer part, with leading zeros) and strings -/
def sessionE : St Dec :=
  applyCalls 50 [.start "40 PRINT A .5; B; C; D; A$".toList, .start "10 DATA 1.5, .25, 007, \"A, B\"".toList,
    .start "30 X = 1.5 : PRINT X; 2.50".toList, .start "20 READ B, C, D, A$".toList] {}

theorem sessionE_reachable : Reachable 50 sessionE := reachable_applyCalls 50 _ _ .init

theorem sessionE_idle : sessionE.state = .idle := by
  unfold sessionE
  literal_chars
  decide +kernel

theorem reload_same_run_dec (cs : List Call) :
    transcript 50 (runCall :: cs) (reload 50 sessionE) = transcript 50 (runCall :: cs) sessionE :=
  (reload_same_run numLaws_dec 50 50 sessionE sessionE_reachable sessionE_idle cs).1

theorem reload_data_sequence_dec : (reload 50 sessionE).lines.dataChunks = sessionE.lines.dataChunks :=
  reload_data_sequence numLaws_dec 50 50 sessionE sessionE_reachable

theorem reload_list_dec : (reload 50 sessionE).lines.list = sessionE.lines.list :=
  reload_list numLaws_dec 50 50 sessionE sessionE_reachable

theorem reload_lines_dec : (reload 50 sessionE).lines = sessionE.lines.canon :=
  reload_lines_eq_partial numLaws_dec 50 50 sessionE sessionE_reachable

/-- The conclusions are not trivial (checked by evaluation): the listing, the DATA chunks
    with their numbers, the differing orders of the token maps, and the transcript of RUN and
    five further turns (one per statement), which prints `1.52.50` and `00.51.50.257A, B`. -/
theorem sessionE_facts :
    sessionE.lines.list = some ["10 DATA 1.5, 0.25, 7, \"A, B\"\n".toList, "20 READ B , C , D , A$\n".toList,
      "30 X = 1.5 : PRINT X ; 2.50\n".toList, "40 PRINT A .5 ; B ; C ; D ; A$\n".toList] ∧
    sessionE.lines.dataChunks =
      some [({ line := some 10, idx := 0 }, [.num (15, 1), .num (25, 2), .num (7, 0), .str "A, B".toList])] ∧
    sessionE.lines.map.map (·.1) = [40, 10, 30, 20] ∧ (reload 50 sessionE).lines.map.map (·.1) = [10, 20, 30, 40] ∧
    transcript 50 [runCall, .cont, .cont, .cont, .cont, .cont] sessionE =
      [(none, []), (none, []), (none, []), (none, []), (none, [.print "1.52.50\n".toList]),
       (none, [.print "00.51.50.257A, B\n".toList, .print "1.52.50\n".toList])] := by
  rw [reload_lines_dec]
  unfold sessionE
  literal_chars
  decide +kernel

end

end Abasic.Props.C14
