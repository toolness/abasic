import Abasic.Props.C18Host
/-
  C18 — the scaled value `n / 2^33` is exactly representable and lies in [0, 1).

  `rngValue n = NumOps.div (NumOps.ofNat n) (NumOps.ofNat 2^33)` is computed in the
  abstract number carrier.  The IEEE-754 guarantee for a division is: the result is
  the correctly rounded EXACT quotient, so when the exact quotient is itself a
  double, the division returns it.  IEEE arithmetic is not formalised here; what is
  proved is: for every `n < 2^33` the operands `n`, `2^33` and the exact quotient
  `n / 2^33` are finite binary64 numbers `m · 2^e` (`m < 2^53`, `-1074 ≤ e ≤ 971`), so
  no rounding takes place in `seed as f64`, `MODULUS as f64` and in the division; the
  exact quotient is in [0, 1), and below 1 by at least `2^-33`; the exact quotients of
  different states are different, hence so are the doubles; and, under
  the explicit hypothesis class `ExactDiv F` — "dividing a natural number below
  2^53 by a power of two 2^k, k ≤ 63, is exact and the carrier's `<` on such
  quotients is the order of the rationals" — the carrier element `rngValue σ.rng`
  is `≥ 0`, `< 1` and determines `σ.rng`, in every state a host can reach.

  Rationals are avoided by cross-multiplying.  All statements that mention the
  literals 2^33 / 2^53 together with an open term are proved from generic lemmas
  (an arbitrary denominator `d`, an arbitrary exponent `k`) instantiated once, or by
  `omega`; nothing here unfolds a power against an open term.
-/
namespace Abasic.Props.C18
open Abasic Abasic.Props.C01

/-- `m · 2^e` is a finite non-negative binary64 number (normal or subnormal): the
    significand has at most 53 bits and the exponent of its last bit is between
    `-1074` (smallest subnormal) and `971 = 1023 - 52`. -/
def IsBinary64 (m : Nat) (e : Int) : Prop := m < 2 ^ 53 ∧ -1074 ≤ e ∧ e ≤ 971

/-- `m · 2^e = n / d`, without rationals: both sides multiplied by `d · 2^(-e)`
    (one of `e.toNat`, `(-e).toNat` is 0). -/
def ValueIsQuot (m : Nat) (e : Int) (n d : Nat) : Prop :=
  m * 2 ^ e.toNat * d = n * 2 ^ (-e).toNat

theorem toNat_neg_ofNat (k : Nat) : (-(k : Int)).toNat = 0 := by omega
theorem toNat_neg_neg_ofNat (k : Nat) : (-(-(k : Int))).toNat = k := by omega

/-- `n / 2^k` is `n · 2^(-k)`: the significand is the numerator itself -/
theorem valueIsQuot_dyadic (n k : Nat) : ValueIsQuot n (-(k : Int)) n (2 ^ k) := by
  unfold ValueIsQuot
  rw [toNat_neg_ofNat, toNat_neg_neg_ofNat, Nat.pow_zero, Nat.mul_one]

theorem two33_le_two53 : 2 ^ 33 ≤ 2 ^ 53 := Nat.pow_le_pow_right (by decide) (by decide)

theorem lt_two53_of_lt_two33 {n : Nat} (h : n < 2 ^ 33) : n < 2 ^ 53 :=
  Nat.lt_of_lt_of_le h two33_le_two53

theorem dyadic_is_double (m k : Nat) (hm : m < 2 ^ 53) (hk : k ≤ 1074) :
    IsBinary64 m (-(k : Int)) ∧ ValueIsQuot m (-(k : Int)) m (2 ^ k) :=
  ⟨⟨hm, by omega, by omega⟩, valueIsQuot_dyadic m k⟩

/-- **The exact quotient `n / 2^33` is a binary64 number**, namely `n · 2^-33`. -/
theorem quotient_is_double (n : Nat) (h : n < 2 ^ 33) :
    ∃ m e, IsBinary64 m e ∧ ValueIsQuot m e n (2 ^ 33) :=
  ⟨n, -((33 : Nat) : Int), (dyadic_is_double n 33 (lt_two53_of_lt_two33 h) (by decide)).1,
    valueIsQuot_dyadic n 33⟩

/-- the same with the witnesses named: significand `n`, exponent `-33` -/
theorem quotient_is_double' (n : Nat) (h : n < 2 ^ 33) :
    IsBinary64 n (-33) ∧ ValueIsQuot n (-33) n (2 ^ 33) :=
  ⟨(dyadic_is_double n 33 (lt_two53_of_lt_two33 h) (by decide)).1, valueIsQuot_dyadic n 33⟩

/-- the numerator `seed as f64` is exact: `n = n · 2^0` with `n < 2^53` -/
theorem seed_is_double (n : Nat) (h : n < 2 ^ 33) : IsBinary64 n 0 ∧ ValueIsQuot n 0 n 1 :=
  ⟨⟨lt_two53_of_lt_two33 h, by decide, by decide⟩, by
    unfold ValueIsQuot
    show n * 2 ^ 0 * 1 = n * 2 ^ 0
    rw [Nat.mul_one]⟩

/-- the denominator `MODULUS as f64` is exact: `2^33 = 2^33 · 2^0 = 1 · 2^33` -/
theorem modulus_is_double :
    IsBinary64 Extracted.rngModulus 0 ∧ ValueIsQuot Extracted.rngModulus 0 (2 ^ 33) 1 ∧
    IsBinary64 1 33 ∧ ValueIsQuot 1 33 (2 ^ 33) 1 := by
  refine ⟨⟨?_, by decide, by decide⟩, ?_, ⟨by decide, by decide, by decide⟩, ?_⟩
  · rw [constants.1]; exact Nat.pow_lt_pow_right (by decide) (by decide)
  · unfold ValueIsQuot; rw [constants.1]; decide
  · unfold ValueIsQuot; decide

/-- `0 ≤ n/2^33 < 1` cross-multiplied (`0/1 ≤ n/2^33`, `n/2^33 < 1/1`), and the distance to 1
    is at least `2^-33` (`n/2^33 + 1/2^33 ≤ 1`). -/
theorem scaled_in_unit_interval (n : Nat) (h : n < 2 ^ 33) :
    0 * 2 ^ 33 ≤ n * 1 ∧ n * 1 < 1 * 2 ^ 33 ∧ n + 1 ≤ 2 ^ 33 := by
  omega

/-- the largest value is `(2^33 - 1) / 2^33 = 1 - 2^-33`, reached only by the state `2^33 - 1` -/
theorem scaled_max (n : Nat) (h : n < 2 ^ 33) : n * 1 ≤ (2 ^ 33 - 1) * 1 := by
  omega

theorem quot_injective (n₁ n₂ d : Nat) (hd : 0 < d) (h : n₁ * d = n₂ * d) : n₁ = n₂ :=
  Nat.eq_of_mul_eq_mul_right hd h

/-- `n₁/2^33 ≠ n₂/2^33` cross-multiplied: the map state ↦ exact value is injective -/
theorem distinct_states_distinct_values (n₁ n₂ : Nat) (_h₁ : n₁ < 2 ^ 33) (_h₂ : n₂ < 2 ^ 33)
    (hne : n₁ ≠ n₂) : n₁ * 2 ^ 33 ≠ n₂ * 2 ^ 33 :=
  fun h => hne (quot_injective n₁ n₂ (2 ^ 33) (Nat.pow_pos (by decide)) h)

theorem states_ordered_as_values (n₁ n₂ : Nat) : n₁ * 2 ^ 33 < n₂ * 2 ^ 33 ↔ n₁ < n₂ :=
  Nat.mul_lt_mul_right (Nat.pow_pos (by decide))

theorem valueIsQuot_numerator_unique (m : Nat) (e : Int) (n₁ n₂ d : Nat)
    (h₁ : ValueIsQuot m e n₁ d) (h₂ : ValueIsQuot m e n₂ d) : n₁ = n₂ := by
  unfold ValueIsQuot at h₁ h₂
  exact quot_injective n₁ n₂ (2 ^ (-e).toNat) (Nat.pow_pos (by decide)) (h₁.symm.trans h₂)

/-- **RND's exact value determines the generator state**: the same double `m · 2^e` cannot be
    the scaled value of two different states. -/
theorem distinct_states_distinct_doubles (m : Nat) (e : Int) (n₁ n₂ : Nat)
    (h₁ : ValueIsQuot m e n₁ (2 ^ 33)) (h₂ : ValueIsQuot m e n₂ (2 ^ 33)) : n₁ = n₂ :=
  valueIsQuot_numerator_unique m e n₁ n₂ (2 ^ 33) h₁ h₂

/-! ### the model's `rngValue`, under an explicit exactness hypothesis on the carrier -/

section Carrier
variable {F : Type} [NumOps F]

def dyadic (F : Type) [NumOps F] (m k : Nat) : F :=
  NumOps.div (NumOps.ofNat m) (NumOps.ofNat (2 ^ k))

/-- **Hypothesis on the number carrier** (true of IEEE binary64; tested, not proved).
    For `m < 2^53` and `k ≤ 63` (both operands below 2^64, the documented domain of
    `NumOps.ofNat` = Rust's `u64 as f64`) the three numbers `m`, `2^k` and `m / 2^k` are doubles
    (`dyadic_is_double`), so `ofNat m`, `ofNat (2^k)` and the division are exact and
    `dyadic m k` is THE carrier element denoting `m · 2^-k`; the carrier's `<` on such elements
    is then the order of the rationals, here cross-multiplied.  `zero` and `one` are the
    quotients `0/1` and `1/1`. -/
class ExactDiv (F : Type) [NumOps F] : Prop where
  dyadic_lt : ∀ m₁ k₁ m₂ k₂ : Nat, m₁ < 2 ^ 53 → m₂ < 2 ^ 53 → k₁ ≤ 63 → k₂ ≤ 63 →
    NumOps.lt (dyadic F m₁ k₁) (dyadic F m₂ k₂) = decide (m₁ * 2 ^ k₂ < m₂ * 2 ^ k₁)
  zero_dyadic : (NumOps.zero : F) = dyadic F 0 0
  one_dyadic : (NumOps.one : F) = dyadic F 1 0

/-- The hypothesis as an executable test on sample points `(m₁, k₁, m₂, k₂)` (for the harness:
    run it on the executable carrier; samples outside the hypothesis' domain pass trivially). -/
def exactDivCheck (F : Type) [NumOps F] (samples : List (Nat × Nat × Nat × Nat)) : Bool :=
  samples.all fun (m₁, k₁, m₂, k₂) =>
    !(decide (m₁ < 2 ^ 53) && decide (m₂ < 2 ^ 53) && decide (k₁ ≤ 63) && decide (k₂ ≤ 63)) ||
    ((NumOps.lt (dyadic F m₁ k₁) (dyadic F m₂ k₂) == decide (m₁ * 2 ^ k₂ < m₂ * 2 ^ k₁)) &&
     (NumOps.lt (dyadic F m₁ k₁) (NumOps.one : F) == decide (m₁ < 2 ^ k₁)) &&
     (NumOps.lt (dyadic F m₁ k₁) (NumOps.zero : F) == false) &&
     (NumOps.lt (NumOps.zero : F) (dyadic F m₁ k₁) == decide (0 < m₁)))

theorem rngValue_eq_dyadic (n : Nat) : rngValue (F := F) n = dyadic F n 33 := by
  unfold rngValue dyadic
  rw [constants.1]

variable [ExactDiv F]

theorem dyadic_lt_same (m₁ m₂ k : Nat) (h₁ : m₁ < 2 ^ 53) (h₂ : m₂ < 2 ^ 53) (hk : k ≤ 63) :
    NumOps.lt (dyadic F m₁ k) (dyadic F m₂ k) = decide (m₁ < m₂) := by
  rw [ExactDiv.dyadic_lt m₁ k m₂ k h₁ h₂ hk hk]
  exact decide_eq_decide.mpr (Nat.mul_lt_mul_right (Nat.pow_pos (by decide)))

theorem dyadic_injective (m₁ m₂ k : Nat) (h₁ : m₁ < 2 ^ 53) (h₂ : m₂ < 2 ^ 53) (hk : k ≤ 63)
    (h : dyadic F m₁ k = dyadic F m₂ k) : m₁ = m₂ := by
  -- neither numerator is below the other: both comparisons are that of `m₂ / 2^k` with itself
  have a := dyadic_lt_same (F := F) m₁ m₂ k h₁ h₂ hk
  have b := dyadic_lt_same (F := F) m₂ m₁ k h₂ h₁ hk
  rw [h, dyadic_lt_same (F := F) m₂ m₂ k h₂ h₂ hk, decide_eq_decide] at a b
  omega

theorem dyadic_lt_one (m k : Nat) (h : m < 2 ^ 53) (hk : k ≤ 63) :
    NumOps.lt (dyadic F m k) NumOps.one = decide (m < 2 ^ k) := by
  rw [ExactDiv.one_dyadic, ExactDiv.dyadic_lt m k 1 0 h (Nat.one_lt_two_pow (by decide)) hk (by decide),
    Nat.pow_zero, Nat.mul_one, Nat.one_mul]

theorem dyadic_lt_zero (m k : Nat) (h : m < 2 ^ 53) (hk : k ≤ 63) :
    NumOps.lt (dyadic F m k) NumOps.zero = false := by
  rw [ExactDiv.zero_dyadic, ExactDiv.dyadic_lt m k 0 0 h (Nat.pow_pos (by decide)) hk (by decide),
    Nat.zero_mul]
  exact decide_eq_false (Nat.not_lt_zero _)

theorem dyadic_zero_lt (m k : Nat) (h : m < 2 ^ 53) (hk : k ≤ 63) :
    NumOps.lt NumOps.zero (dyadic F m k) = decide (0 < m) := by
  rw [ExactDiv.zero_dyadic, ExactDiv.dyadic_lt 0 0 m k (Nat.pow_pos (by decide)) h (by decide) hk,
    Nat.zero_mul, Nat.pow_zero, Nat.mul_one]

theorem rngValue_in_range (n : Nat) (h : n < 2 ^ 33) :
    NumOps.lt (rngValue (F := F) n) NumOps.one = true ∧
    NumOps.lt (rngValue (F := F) n) NumOps.zero = false := by
  rw [rngValue_eq_dyadic]
  exact ⟨(dyadic_lt_one n 33 (lt_two53_of_lt_two33 h) (by decide)).trans (decide_eq_true h),
    dyadic_lt_zero n 33 (lt_two53_of_lt_two33 h) (by decide)⟩

theorem rngValue_lt (n₁ n₂ : Nat) (h₁ : n₁ < 2 ^ 33) (h₂ : n₂ < 2 ^ 33) :
    NumOps.lt (rngValue (F := F) n₁) (rngValue (F := F) n₂) = decide (n₁ < n₂) := by
  rw [rngValue_eq_dyadic, rngValue_eq_dyadic]
  exact dyadic_lt_same n₁ n₂ 33 (lt_two53_of_lt_two33 h₁) (lt_two53_of_lt_two33 h₂) (by decide)

theorem rngValue_injective (n₁ n₂ : Nat) (h₁ : n₁ < 2 ^ 33) (h₂ : n₂ < 2 ^ 33)
    (h : rngValue (F := F) n₁ = rngValue (F := F) n₂) : n₁ = n₂ := by
  rw [rngValue_eq_dyadic, rngValue_eq_dyadic] at h
  exact dyadic_injective n₁ n₂ 33 (lt_two53_of_lt_two33 h₁) (lt_two53_of_lt_two33 h₂) (by decide) h

theorem rngValue_pos (n : Nat) (h : n < 2 ^ 33) :
    NumOps.lt NumOps.zero (rngValue (F := F) n) = decide (0 < n) := by
  rw [rngValue_eq_dyadic]
  exact dyadic_zero_lt n 33 (lt_two53_of_lt_two33 h) (by decide)

/-- **In every state a host can reach, the value of the generator state is in [0, 1)**:
    `value < 1` and not `value < 0`, by the carrier's own comparison. -/
theorem rnd_value_in_range (fuel : Nat) (σ : St F) (h : Reachable fuel σ) :
    NumOps.lt (rngValue (F := F) σ.rng) NumOps.one = true ∧
    NumOps.lt (rngValue (F := F) σ.rng) NumOps.zero = false :=
  rngValue_in_range σ.rng (rng_reduced_of_reachable fuel σ h)

/-- … and so is the value of the NEXT state, the one `RND(1)` returns -/
theorem rnd_next_value_in_range (n : Nat) :
    NumOps.lt (rngValue (F := F) (lcg n)) NumOps.one = true ∧
    NumOps.lt (rngValue (F := F) (lcg n)) NumOps.zero = false :=
  rngValue_in_range (lcg n) (lcg_lt n)

/-- **In reachable states the value determines the generator state**: two reachable
    interpreters (reached with any fuels) whose current values are the same carrier element
    have the same generator state — hence the same future sequence. -/
theorem rnd_value_injective (fuel₁ fuel₂ : Nat) (σ₁ σ₂ : St F)
    (h₁ : Reachable fuel₁ σ₁) (h₂ : Reachable fuel₂ σ₂)
    (h : rngValue (F := F) σ₁.rng = rngValue (F := F) σ₂.rng) : σ₁.rng = σ₂.rng :=
  rngValue_injective σ₁.rng σ₂.rng (rng_reduced_of_reachable fuel₁ σ₁ h₁)
    (rng_reduced_of_reachable fuel₂ σ₂ h₂) h

theorem rnd_value_lt (fuel₁ fuel₂ : Nat) (σ₁ σ₂ : St F)
    (h₁ : Reachable fuel₁ σ₁) (h₂ : Reachable fuel₂ σ₂) :
    NumOps.lt (rngValue (F := F) σ₁.rng) (rngValue (F := F) σ₂.rng) = decide (σ₁.rng < σ₂.rng) :=
  rngValue_lt σ₁.rng σ₂.rng (rng_reduced_of_reachable fuel₁ σ₁ h₁)
    (rng_reduced_of_reachable fuel₂ σ₂ h₂)

/-- **Whatever `RND(x)` returns in a reachable state is in [0, 1)** and is the value of the
    generator state it leaves behind. -/
theorem rnd_result_in_range (fuel : Nat) (σ : St F) (h : Reachable fuel σ) (x v : F) (σ' : St F)
    (hr : rnd x σ = .ok v σ') :
    v = rngValue σ'.rng ∧ σ'.rng < 2 ^ 33 ∧
    NumOps.lt v NumOps.one = true ∧ NumOps.lt v NumOps.zero = false := by
  have hs := rng_reduced_of_reachable fuel σ h
  cases hneg : NumOps.lt x (NumOps.zero : F) with
  | true => rw [rnd_negative x σ hneg] at hr; cases hr
  | false =>
    cases hz : NumOps.eq x (NumOps.zero : F) with
    | true =>
      rw [rnd_zero x σ hneg hz] at hr
      cases hr
      exact ⟨rfl, hs, rngValue_in_range _ hs⟩
    | false =>
      rw [rnd_positive x σ hs hneg hz] at hr
      cases hr
      exact ⟨rfl, lcg_lt _, rngValue_in_range _ (lcg_lt _)⟩

end Carrier

/-! ### non-vacuity: the hypothesis class is satisfiable

  A carrier of unreduced non-negative fractions `num / den` with exact division and
  cross-multiplied comparison (no rounding at all) satisfies `ExactDiv`; the operations the
  class does not mention are arbitrary. -/

structure Frac where
  num : Nat
  den : Nat

instance : NumOps Frac where
  zero := ⟨0, 1⟩
  one := ⟨1, 1⟩
  add := fun a b => ⟨a.num * b.den + b.num * a.den, a.den * b.den⟩
  sub := fun a b => ⟨a.num * b.den - b.num * a.den, a.den * b.den⟩
  mul := fun a b => ⟨a.num * b.num, a.den * b.den⟩
  div := fun a b => ⟨a.num * b.den, a.den * b.num⟩
  pow := fun a _ => a
  neg := fun a => a
  abs := fun a => a
  floor := fun a => ⟨a.num / a.den, 1⟩
  lt := fun a b => decide (a.num * b.den < b.num * a.den)
  le := fun a b => decide (a.num * b.den ≤ b.num * a.den)
  eq := fun a b => decide (a.num * b.den = b.num * a.den)
  toI64 := fun a => ((a.num / a.den : Nat) : Int)
  toU64 := fun a => a.num / a.den
  ofNat := fun n => ⟨n, 1⟩
  parse := fun _ => none
  render := fun _ => []
  isFinite := fun _ => true

theorem frac_dyadic (m k : Nat) : dyadic Frac m k = ⟨m * 1, 1 * 2 ^ k⟩ := rfl

instance : ExactDiv Frac where
  dyadic_lt := fun m₁ k₁ m₂ k₂ _ _ _ _ => by
    rw [frac_dyadic, frac_dyadic]
    show decide (m₁ * 1 * (1 * 2 ^ k₂) < m₂ * 1 * (1 * 2 ^ k₁)) = _
    rw [Nat.mul_one, Nat.mul_one, Nat.one_mul, Nat.one_mul]
  zero_dyadic := rfl
  one_dyadic := rfl

/-- the theorems under `ExactDiv` instantiated: a session on the exact carrier -/
example :
    let σ : St Frac := applyCall 4 (.start "PRINT RND(1)".toList) (applyCall 4 (.seed 7) {})
    NumOps.lt (rngValue (F := Frac) σ.rng) NumOps.one = true ∧
    NumOps.lt (rngValue (F := Frac) σ.rng) NumOps.zero = false :=
  rnd_value_in_range 4 _ (.step (.start "PRINT RND(1)".toList) (.step (.seed 7) .init))

/-- the bounds are attained: the state `2^33 - 1` is reduced and its value is the largest -/
example : IsBinary64 (2 ^ 33 - 1) (-33) ∧ ValueIsQuot (2 ^ 33 - 1) (-33) (2 ^ 33 - 1) (2 ^ 33) ∧
    IsBinary64 0 (-33) ∧ ValueIsQuot 0 (-33) 0 (2 ^ 33) :=
  ⟨(quotient_is_double' _ (by decide)).1, (quotient_is_double' _ (by decide)).2,
   (quotient_is_double' 0 (by decide)).1, (quotient_is_double' 0 (by decide)).2⟩

end Abasic.Props.C18
