import Abasic.Proofs.DataRun
import Abasic.Proofs.TextLemmas
/-
  C14 (continued) — DATA items survive LIST and reload.

  `renderData items` is what LIST prints after `DATA ` (Token.render); the
  tokenizer hands `parseData` everything after the keyword, i.e. the blank, the
  rendered items and whatever follows on the line.  `data_roundtrip` says that
  `parseData` gives back exactly `items` (and consumes exactly the rendered
  text), for all item lists satisfying `ItemsOk`.
-/
namespace Abasic.Props.C14
open Abasic

deriving instance DecidableEq for DataElement

variable {F : Type} [NumOps F]

/-- all characters are (Unicode) white space — what `str::trim` removes -/
def AllWs (s : Str) : Prop := ∀ c ∈ s, isUnicodeWs c = true

theorem allWs_nil : AllWs [] := by intro c hc; cases hc

theorem allWs_append {a b : Str} (ha : AllWs a) (hb : AllWs b) : AllWs (a ++ b) := by
  intro c hc
  rcases List.mem_append.mp hc with h | h
  · exact ha c h
  · exact hb c h

theorem allWs_reverse {a : Str} (ha : AllWs a) : AllWs a.reverse := by
  intro c hc
  exact ha c (List.mem_reverse.mp hc)

theorem allWs_singleton {w : Char} (hw : isUnicodeWs w = true) : AllWs [w] := by
  intro c hc
  rw [List.mem_singleton.mp hc]
  exact hw

theorem allWs_blank : AllWs [' '] := allWs_singleton rfl

theorem ws_not_special (c : Char) (h : isUnicodeWs c = true) : c ≠ ':' ∧ c ≠ ',' ∧ c ≠ '"' := by
  refine ⟨?_, ?_, ?_⟩ <;> (rintro rfl; revert h; decide)

theorem trimStart_ws_append (a s : Str) (ha : AllWs a) : trimStart (a ++ s) = trimStart s := by
  induction a with
  | nil => rfl
  | cons c cs ih =>
    simp only [List.cons_append, trimStart, ha c (List.mem_cons_self ..), ↓reduceIte]
    exact ih (fun x hx => ha x (List.mem_cons_of_mem _ hx))

theorem trimStart_cons_nonws (h : Char) (s : Str) (hh : isUnicodeWs h = false) :
    trimStart (h :: s) = h :: s := by
  simp [trimStart, hh]

theorem trimStart_head (s : Str) :
    trimStart s = [] ∨ ∃ h t, trimStart s = h :: t ∧ isUnicodeWs h = false := by
  induction s with
  | nil => exact .inl rfl
  | cons c cs ih =>
    cases hw : isUnicodeWs c with
    | true => simpa [trimStart, hw] using ih
    | false => exact .inr ⟨c, cs, by simp [trimStart, hw], hw⟩

theorem trimStart_suffix (s : Str) : trimStart s <:+ s := by
  induction s with
  | nil => exact List.suffix_refl _
  | cons c cs ih =>
    simp only [trimStart]
    split
    · exact List.IsSuffix.trans ih (List.suffix_cons _ _)
    · exact List.suffix_refl _

theorem trimStart_eq_nil_iff (s : Str) : trimStart s = [] ↔ AllWs s := by
  induction s with
  | nil => exact ⟨fun _ => allWs_nil, fun _ => rfl⟩
  | cons c cs ih =>
    simp only [AllWs] at ih ⊢
    cases hw : isUnicodeWs c <;> simp [trimStart, hw, ih]

theorem trimStart_idem (s : Str) : trimStart (trimStart s) = trimStart s := by
  rcases trimStart_head s with h | ⟨h, t, e, hh⟩
  · rw [h]; rfl
  · rw [e, trimStart_cons_nonws h t hh]

theorem trimStart_append_of_ne (s x : Str) (h : trimStart s ≠ []) :
    trimStart (s ++ x) = trimStart s ++ x := by
  induction s with
  | nil => exact absurd rfl h
  | cons c cs ih =>
    cases hw : isUnicodeWs c with
    | true =>
      simp only [List.cons_append, trimStart, hw, ↓reduceIte] at h ⊢
      exact ih h
    | false => simp [trimStart, hw]

theorem trim_prefix (s : Str) : trim s <+: trimStart s := by
  unfold trim
  have := trimStart_suffix (trimStart s).reverse
  have := List.reverse_prefix.mpr this
  simpa using this

theorem mem_of_mem_trim (s : Str) (c : Char) (h : c ∈ trim s) : c ∈ s :=
  (trimStart_suffix s).subset ((trim_prefix s).subset h)

theorem trim_eq_nil_iff (s : Str) : trim s = [] ↔ AllWs s := by
  unfold trim
  rw [List.reverse_eq_nil_iff, trimStart_eq_nil_iff]
  constructor
  · intro h
    rcases trimStart_head s with e | ⟨x, t, e, hx⟩
    · exact (trimStart_eq_nil_iff s).mp e
    · rw [h x (by simp [e])] at hx
      cases hx
  · intro h
    rw [(trimStart_eq_nil_iff s).mpr h]
    exact allWs_nil

theorem trim_append_ws (a : Str) (w : Char) (hw : isUnicodeWs w = true) : trim (a ++ [w]) = trim a := by
  by_cases hs : trimStart a = []
  · have ha := (trimStart_eq_nil_iff a).mp hs
    rw [(trim_eq_nil_iff a).mpr ha, (trim_eq_nil_iff _).mpr (allWs_append ha (allWs_singleton hw))]
  · unfold trim
    rw [trimStart_append_of_ne a [w] hs, List.reverse_append]
    exact congrArg List.reverse (trimStart_ws_append [w] _ (allWs_singleton hw))

theorem trim_ne_nil_of_nonws (s : Str) (h : ∃ c ∈ s, isUnicodeWs c = false) : trim s ≠ [] := by
  obtain ⟨c, hc, hw⟩ := h
  intro e
  rw [(trim_eq_nil_iff s).mp e c hc] at hw
  cases hw

theorem trim_head (s : Str) (a : Char) (w : Str) (h : trim s = a :: w) : isUnicodeWs a = false := by
  obtain ⟨r, hr⟩ := trim_prefix s
  rcases trimStart_head s with e | ⟨x, t, e, hx⟩ <;> rw [h, e] at hr
  · cases hr
  · injection hr with h1 _
    rw [h1]; exact hx

theorem trimmed_head (t : Str) (hne : t ≠ []) (ht : trim t = t) :
    ∃ h t', t = h :: t' ∧ isUnicodeWs h = false := by
  cases t with
  | nil => exact absurd rfl hne
  | cons h t' => exact ⟨h, t', rfl, trim_head _ h t' ht⟩

theorem trim_sandwich (a b : Str) (h : Char) (t : Str) (ha : AllWs a) (hb : AllWs b)
    (hh : isUnicodeWs h = false) : trim (a ++ (h :: t) ++ b) = trim (h :: t) := by
  unfold trim
  rw [List.append_assoc, trimStart_ws_append a _ ha, List.cons_append, trimStart_cons_nonws h _ hh,
    trimStart_cons_nonws h _ hh]
  have : (h :: (t ++ b)).reverse = b.reverse ++ (h :: t).reverse := by simp
  rw [this, trimStart_ws_append _ _ (allWs_reverse hb)]

theorem trim_idem (s : Str) : trim (trim s) = trim s := by
  have hs : trimStart (trim s) = trim s := by
    cases hw : trim s with
    | nil => rfl
    | cons a w => exact trimStart_cons_nonws a w (trim_head s a w hw)
  show (trimStart (trimStart (trim s)).reverse).reverse = trim s
  rw [hs]
  show (trimStart (trimStart (trimStart s).reverse).reverse.reverse).reverse = trim s
  rw [List.reverse_reverse, trimStart_idem]
  rfl

/-- A text that survives the unquoted form: non-empty, no blanks around it, no
    comma or colon in it, not starting with a double quote. -/
structure BareText (t : Str) : Prop where
  ne : t ≠ []
  trimmed : trim t = t
  no_sep : ∀ c ∈ t, c ≠ ':' ∧ c ≠ ','
  no_open : t.head? ≠ some '"'

/-- What may occur in a DATA token:
    * a string without a double quote is printed quoted — anything goes;
    * a string with a double quote (it can only have come from the unquoted
      form) is printed as it is, so it must be a `BareText` that does not read
      as a number;
    * a number is printed by `NumOps.render`, and that rendering must be a
      `BareText` (true of Rust's `Display for f64`: digits, `.`, `-`, `e`,
      `inf`, `NaN`). -/
def ItemOk : DataElement F → Prop
  | .str s => s.contains '"' = true → BareText s ∧ NumOps.parse (F := F) s = none
  | .num x => BareText (NumOps.render x)

def ItemsOk (items : List (DataElement F)) : Prop := items ≠ [] ∧ ∀ e ∈ items, ItemOk e

def numbers : List (DataElement F) → List F
  | [] => []
  | .num x :: r => x :: numbers r
  | .str _ :: r => numbers r

/-- what `pushCurrent` makes of an unquoted text -/
def elemOf (t : Str) : DataElement F :=
  match NumOps.parse (F := F) t with
  | some x => .num x
  | none => .str t

theorem step_plain (es : List (DataElement F)) (ch : Nat) (cur : Str) (c : Char)
    (h1 : c ≠ ':') (h2 : c ≠ ',') (h3 : c = '"' → trim cur ≠ []) :
    DataParser.parseChar (⟨false, es, ch, cur, false⟩ : DataParser F) c =
      ⟨false, es, ch + c.utf8Size, cur ++ [c], false⟩ := by
  by_cases hq : c = '"'
  · subst hq
    have := h3 rfl
    simp [DataParser.parseChar, this]
  · simp [DataParser.parseChar, h1, h2, hq]

theorem step_open (es : List (DataElement F)) (ch : Nat) (cur : Str) (h : trim cur = []) :
    DataParser.parseChar (⟨false, es, ch, cur, false⟩ : DataParser F) '"' = ⟨true, es, ch + 1, [], false⟩ := by
  simp [DataParser.parseChar, h]
  rfl

theorem step_inq (es : List (DataElement F)) (ch : Nat) (cur : Str) (c : Char) (h : c ≠ '"') :
    DataParser.parseChar (⟨true, es, ch, cur, false⟩ : DataParser F) c =
      ⟨true, es, ch + c.utf8Size, cur ++ [c], false⟩ := by
  simp [DataParser.parseChar, h]

theorem step_close (es : List (DataElement F)) (ch : Nat) (cur : Str) :
    DataParser.parseChar (⟨true, es, ch, cur, false⟩ : DataParser F) '"' =
      ⟨false, es ++ [.str cur], ch + 1, [], false⟩ := by
  simp [DataParser.parseChar, DataParser.pushCurrent]
  rfl

theorem step_comma_ws (es : List (DataElement F)) (ch : Nat) (cur : Str) (h : trim cur = []) :
    DataParser.parseChar (⟨false, es, ch, cur, false⟩ : DataParser F) ',' = ⟨false, es, ch + 1, cur, false⟩ := by
  simp [DataParser.parseChar, h]
  rfl

theorem step_comma_push (es : List (DataElement F)) (ch : Nat) (cur : Str) (h : trim cur ≠ []) :
    DataParser.parseChar (⟨false, es, ch, cur, false⟩ : DataParser F) ',' =
      ⟨false, es ++ [elemOf (trim cur)], ch + 1, [], false⟩ := by
  cases hp : NumOps.parse (F := F) (trim cur) <;>
    simp [DataParser.parseChar, DataParser.pushCurrent, elemOf, h, hp] <;> rfl

theorem finish_push (es : List (DataElement F)) (ch : Nat) (cur : Str) (h : trim cur ≠ []) :
    DataParser.finish (⟨false, es, ch, cur, false⟩ : DataParser F) =
      ⟨false, es ++ [elemOf (trim cur)], ch, [], true⟩ := by
  cases hp : NumOps.parse (F := F) (trim cur) <;>
    simp [DataParser.finish, DataParser.pushCurrent, elemOf, h, hp]

theorem finish_ws (es : List (DataElement F)) (ch : Nat) (cur : Str) (h : trim cur = []) (he : es ≠ []) :
    DataParser.finish (⟨false, es, ch, cur, false⟩ : DataParser F) = ⟨false, es, ch, cur, true⟩ := by
  simp [DataParser.finish, h, he]

inductive Stop : Str → Prop
  | eol : Stop []
  | colon (more : Str) : Stop (':' :: more)

/-- Outside a finished state the parser reads `s`, goes from `(q, es, cur)` to `(q', es', cur')` and counts the
    bytes of `s`. -/
def Reads (q : Bool) (es : List (DataElement F)) (cur s : Str) (q' : Bool) (es' : List (DataElement F))
    (cur' : Str) : Prop :=
  ∀ ch, DataParser.run (⟨q, es, ch, cur, false⟩ : DataParser F) s = ⟨q', es', ch + len8 s, cur', false⟩

section
variable {q q' q'' : Bool} {es es' es'' : List (DataElement F)} {cur cur' cur'' s t : Str}

theorem Reads.nil : Reads q es cur [] q es cur := fun _ => rfl

theorem Reads.trans (h1 : Reads q es cur s q' es' cur') (h2 : Reads q' es' cur' t q'' es'' cur'') :
    Reads q es cur (s ++ t) q'' es'' cur'' := fun ch => by
  rw [DataParser.run_append s _ (by rw [h1]), h1, h2, len8_append, Nat.add_assoc]

theorem Reads.char {c : Char}
    (h : ∀ ch, DataParser.parseChar (⟨q, es, ch, cur, false⟩ : DataParser F) c = ⟨q', es', ch + c.utf8Size, cur', false⟩) :
    Reads q es cur [c] q' es' cur' := fun ch => by
  rw [DataParser.run_cons, h]; rfl

theorem Reads.cons {c : Char} (h1 : Reads q es cur [c] q' es' cur') (h2 : Reads q' es' cur' t q'' es'' cur'') :
    Reads q es cur (c :: t) q'' es'' cur'' := h1.trans h2

theorem Reads.parseData_eq {stop : Str} (h : Reads false [] [] s false es cur) (hstop : Stop stop) :
    parseData (F := F) (s ++ stop) =
      ((DataParser.finish (⟨false, es, len8 s, cur, false⟩ : DataParser F)).elements, len8 s) := by
  have h0 : DataParser.run ({} : DataParser F) s = ⟨false, es, len8 s, cur, false⟩ :=
    (h 0).trans (by rw [Nat.zero_add])
  have hc : DataParser.Cut ({} : DataParser F) s stop := ⟨by rw [h0], by
    cases hstop with
    | eol => exact .inl rfl
    | colon more => exact .inr ⟨by rw [h0], more, rfl⟩⟩
  rw [hc.parseData_eq, h0]
end

/-- Unquoted characters other than separators are collected; a double quote is
    collected too once something non-blank has been read. -/
theorem reads_plain (es : List (DataElement F)) (cur s : Str)
    (hs : ∀ c ∈ s, c ≠ ':' ∧ c ≠ ',')
    (hq : (∃ c ∈ cur, isUnicodeWs c = false) ∨ '"' ∉ s) :
    Reads false es cur s false es (cur ++ s) := by
  induction s generalizing cur with
  | nil => rw [List.append_nil]; exact .nil
  | cons c cs ih =>
    have hc := hs c (List.mem_cons_self ..)
    have h1 : Reads false es cur [c] false es (cur ++ [c]) := .char fun ch => step_plain es ch cur c hc.1 hc.2 (by
      intro hcq
      rcases hq with hq | hq
      · exact trim_ne_nil_of_nonws cur hq
      · exact absurd (hcq ▸ List.mem_cons_self ..) hq)
    have := h1.cons (ih (cur ++ [c]) (fun x hx => hs x (List.mem_cons_of_mem _ hx)) (by
        rcases hq with ⟨x, hx, hw⟩ | hq
        · exact .inl ⟨x, List.mem_append_left _ hx, hw⟩
        · exact .inr (fun h => hq (List.mem_cons_of_mem _ h))))
    rwa [List.append_assoc] at this

theorem reads_ws (es : List (DataElement F)) (cur ws : Str) (hws : AllWs ws) :
    Reads false es cur ws false es (cur ++ ws) :=
  reads_plain es cur ws
    (fun c hc => ⟨(ws_not_special c (hws c hc)).1, (ws_not_special c (hws c hc)).2.1⟩)
    (.inr fun h => (ws_not_special _ (hws _ h)).2.2 rfl)

theorem reads_inq (es : List (DataElement F)) (cur s : Str) (hs : '"' ∉ s) :
    Reads true es cur s true es (cur ++ s) := by
  induction s generalizing cur with
  | nil => rw [List.append_nil]; exact .nil
  | cons c cs ih =>
    have := (Reads.char fun ch => step_inq es ch cur c fun h => hs (h ▸ List.mem_cons_self ..)).cons
      (ih (cur ++ [c]) fun h => hs (List.mem_cons_of_mem _ h))
    rwa [List.append_assoc] at this

theorem reads_quoted (es : List (DataElement F)) (cur s : Str) (hcur : AllWs cur) (hs : '"' ∉ s) :
    Reads false es cur ('"' :: s ++ ['"']) false (es ++ [.str s]) [] :=
  (Reads.char fun ch => step_open es ch cur ((trim_eq_nil_iff cur).mpr hcur)).cons
    ((reads_inq es [] s hs).trans (.char fun ch => step_close es ch _))

theorem reads_bare (es : List (DataElement F)) (cur t : Str) (ht : BareText t) :
    Reads false es cur t false es (cur ++ t) := by
  obtain ⟨h, t', rfl, hh⟩ := trimmed_head t ht.ne ht.trimmed
  have hsep := ht.no_sep
  have := (reads_plain es cur [h] (fun c hc => hsep c (by simp at hc; simp [hc]))
      (.inr (by simpa using fun e : '"' = h => ht.no_open (by simp [← e])))).cons
    (reads_plain es (cur ++ [h]) t' (fun c hc => hsep c (List.mem_cons_of_mem _ hc)) (.inl ⟨h, by simp, hh⟩))
  rwa [List.append_assoc] at this

theorem trim_cur_bare (cur t ws : Str) (hcur : AllWs cur) (hws : AllWs ws) (ht : BareText t) :
    trim (cur ++ t ++ ws) = t := by
  obtain ⟨h, t', rfl, hh⟩ := trimmed_head t ht.ne ht.trimmed
  rw [trim_sandwich cur ws h t' hcur hws hh, ht.trimmed]

theorem elemOf_str (s : Str) (h : NumOps.parse (F := F) s = none) : elemOf (F := F) s = .str s := by
  simp [elemOf, h]

theorem elemOf_num (x : F) (h : NumOps.parse (F := F) (NumOps.render x) = some x) :
    elemOf (F := F) (NumOps.render x) = .num x := by
  simp [elemOf, h]

theorem render_cases (e : DataElement F) (he : ItemOk e)
    (hn : ∀ x, e = .num x → NumOps.parse (F := F) (NumOps.render x) = some x) :
    (∃ s, e = .str s ∧ '"' ∉ s ∧ DataElement.render e = '"' :: s ++ ['"']) ∨
    (BareText (DataElement.render e) ∧ elemOf (F := F) (DataElement.render e) = e) := by
  cases e with
  | str s =>
    cases hc : s.contains '"' with
    | true =>
      obtain ⟨hb, hp⟩ := he hc
      refine .inr ?_
      simp only [DataElement.render, hc, ↓reduceIte]
      exact ⟨hb, elemOf_str s hp⟩
    | false =>
      refine .inl ⟨s, rfl, ?_, ?_⟩
      · simpa using hc
      · simp only [DataElement.render, hc, Bool.false_eq_true, ↓reduceIte]
  | num x =>
    refine .inr ?_
    simp only [DataElement.render]
    exact ⟨he, elemOf_num x (hn x rfl)⟩

/-- `(es', cur')` is a state of the unquoted parser behind the item `e`, read from `es`: a separator, or the end
    of the items behind further blanks, makes `es ++ [e]` of it.  A quoted item is pushed already, a bare one is
    still in `cur'`. -/
def Behind (es : List (DataElement F)) (e : DataElement F) (es' : List (DataElement F)) (cur' : Str) : Prop :=
  (es' = es ++ [e] ∧ cur' = []) ∨
  (es' = es ∧ ∀ ws, AllWs ws → trim (cur' ++ ws) ≠ [] ∧ elemOf (F := F) (trim (cur' ++ ws)) = e)

theorem reads_item (es : List (DataElement F)) (cur : Str) (e : DataElement F)
    (hcur : AllWs cur) (he : ItemOk e)
    (hn : ∀ x, e = .num x → NumOps.parse (F := F) (NumOps.render x) = some x) :
    ∃ es' cur', Reads false es cur (DataElement.render e) false es' cur' ∧ Behind es e es' cur' := by
  rcases render_cases e he hn with ⟨s, rfl, hs, hr⟩ | ⟨hb, hel⟩
  · exact ⟨_, _, hr ▸ reads_quoted es cur s hcur hs, .inl ⟨rfl, rfl⟩⟩
  · refine ⟨_, _, reads_bare es cur _ hb, .inr ⟨rfl, fun ws hws => ?_⟩⟩
    rw [trim_cur_bare cur _ ws hcur hws hb]
    exact ⟨hb.ne, hel⟩

theorem Behind.comma {es es' : List (DataElement F)} {e : DataElement F} {cur' : Str} (h : Behind es e es' cur') :
    Reads false es' cur' [','] false (es ++ [e]) [] := by
  rcases h with ⟨rfl, rfl⟩ | ⟨rfl, h⟩
  · exact .char fun ch => step_comma_ws _ ch [] rfl
  · obtain ⟨h1, h2⟩ := h [] allWs_nil
    rw [List.append_nil] at h1 h2
    exact .char fun ch => h2 ▸ step_comma_push es' ch cur' h1

theorem Behind.finish {es es' : List (DataElement F)} {e : DataElement F} {cur' ws : Str} (h : Behind es e es' cur')
    (hws : AllWs ws) (ch : Nat) :
    (DataParser.finish (⟨false, es', ch, cur' ++ ws, false⟩ : DataParser F)).elements = es ++ [e] := by
  rcases h with ⟨rfl, rfl⟩ | ⟨rfl, h⟩
  · rw [finish_ws _ _ _ ((trim_eq_nil_iff ([] ++ ws)).mpr hws) (by simp)]
  · rw [finish_push _ _ _ (h ws hws).1, (h ws hws).2]

theorem renderData_cons_cons (e e' : DataElement F) (items : List (DataElement F)) :
    renderData (e :: e' :: items) = DataElement.render e ++ [',', ' '] ++ renderData (e' :: items) := by
  simp [renderData, joinWith]

theorem renderData_single (e : DataElement F) : renderData [e] = DataElement.render e := by
  simp [renderData, joinWith]

omit [NumOps F] in
theorem mem_numbers (x : F) (items : List (DataElement F)) :
    x ∈ numbers items ↔ DataElement.num x ∈ items := by
  induction items with
  | nil => simp [numbers]
  | cons e r ih => cases e <;> simp [numbers, ih]

theorem reads_items : ∀ (items es : List (DataElement F)) (cur : Str), items ≠ [] → AllWs cur →
    (∀ a ∈ items, ItemOk a ∧ ∀ x, a = .num x → NumOps.parse (F := F) (NumOps.render x) = some x) →
    ∃ es' cur', Reads false es cur (renderData items) false es' cur' ∧ ∀ ws, AllWs ws → ∀ ch,
      (DataParser.finish (⟨false, es', ch, cur' ++ ws, false⟩ : DataParser F)).elements = es ++ items
  | [], _, _, hne, _, _ => absurd rfl hne
  | [e], es, cur, _, hcur, hok => by
    obtain ⟨es1, cur1, h1, hb⟩ := reads_item es cur e hcur (hok e (by simp)).1 (hok e (by simp)).2
    exact ⟨es1, cur1, renderData_single e ▸ h1, fun ws hws ch => hb.finish hws ch⟩
  | e :: e' :: items, es, cur, _, hcur, hok => by
    obtain ⟨es1, cur1, h1, hb⟩ := reads_item es cur e hcur (hok e (by simp)).1 (hok e (by simp)).2
    obtain ⟨es', cur', h3, hf⟩ := reads_items (e' :: items) (es ++ [e]) [' '] (List.cons_ne_nil _ _) allWs_blank
      fun a ha => hok a (List.mem_cons_of_mem _ ha)
    refine ⟨es', cur', ?_, fun ws hws ch => by rw [hf ws hws ch, List.append_assoc]; rfl⟩
    rw [renderData_cons_cons, List.append_assoc]
    exact h1.trans (hb.comma.cons ((reads_ws _ [] [' '] allWs_blank).trans h3))

/-- DATA round trip, general form.  Let `items` satisfy `ItemsOk`, and let
    every number occurring in it satisfy the `NumOps` law
    `parse (render x) = some x` (explicit hypothesis `hn`).  Then parsing
    blanks, the LIST spelling of the items, blanks again, and then either the
    end of the text or a colon followed by anything, gives back exactly `items`,
    and the number of bytes consumed is everything before the stop. -/
theorem data_roundtrip_general (items : List (DataElement F)) (pre ws stop : Str)
    (hok : ItemsOk items) (hpre : AllWs pre) (hws : AllWs ws) (hstop : Stop stop)
    (hn : ∀ x ∈ numbers items, NumOps.parse (F := F) (NumOps.render x) = some x) :
    parseData (F := F) (pre ++ renderData items ++ ws ++ stop) =
      (items, len8 (pre ++ renderData items ++ ws)) := by
  obtain ⟨es', cur', h, hf⟩ := reads_items items [] ([] ++ pre) hok.1 (by simpa using hpre)
    fun a ha => ⟨hok.2 a ha, fun x hx => hn x ((mem_numbers x _).mpr (hx ▸ ha))⟩
  rw [(((reads_ws [] [] pre hpre).trans h).trans (reads_ws _ _ ws hws)).parseData_eq hstop, hf ws hws]
  rfl

/-- DATA round trip for the text the tokenizer hands to `parseData` when it
    reads back a listed DATA token (`Token.render (.data items)` is
    `DATA`, a blank, `renderData items`): the items come back unchanged. -/
theorem data_roundtrip (items : List (DataElement F)) (hok : ItemsOk items)
    (hn : ∀ x ∈ numbers items, NumOps.parse (F := F) (NumOps.render x) = some x) :
    (parseData (F := F) (' ' :: renderData items)).1 = items ∧
    (parseData (F := F) (renderData items)).1 = items := by
  have h1 := data_roundtrip_general items [' '] [] [] hok allWs_blank allWs_nil .eol hn
  have h2 := data_roundtrip_general items [] [] [] hok allWs_nil allWs_nil .eol hn
  simp only [List.append_nil, List.nil_append, List.cons_append] at h1 h2
  rw [h1, h2]
  exact ⟨rfl, rfl⟩

/-- The listed token as a whole: after the keyword, the rest of `Token.render`
    parses back to the items and is consumed completely — also when another
    statement follows after ` : `. -/
theorem data_token_roundtrip (items : List (DataElement F)) (hok : ItemsOk items)
    (hn : ∀ x ∈ numbers items, NumOps.parse (F := F) (NumOps.render x) = some x) (more : Str) :
    Token.render (.data items : Token F) = Extracted.dataKeyword.toList ++ ' ' :: renderData items ∧
    parseData (F := F) (' ' :: renderData items) = (items, len8 (' ' :: renderData items)) ∧
    parseData (F := F) (' ' :: renderData items ++ ' ' :: ':' :: more) =
      (items, len8 (' ' :: renderData items ++ [' '])) := by
  have h1 := data_roundtrip_general items [' '] [] [] hok allWs_blank allWs_nil .eol hn
  have h2 := data_roundtrip_general items [' '] [' '] (':' :: more) hok allWs_blank allWs_blank (.colon more) hn
  simp only [List.append_nil, List.nil_append, List.cons_append, List.append_assoc] at h1 h2
  refine ⟨rfl, h1, ?_⟩
  simp only [List.cons_append]
  exact h2

theorem trimStart_ne_of_trim_ne (s : Str) (h : trim s ≠ []) : trimStart s ≠ [] := by
  intro e
  have := trim_prefix s
  rw [e] at this
  exact h (List.prefix_nil.mp this)

def CurOk (cur : Str) : Prop := (∀ c ∈ cur, c ≠ ':' ∧ c ≠ ',') ∧ (trimStart cur).head? ≠ some '"'

theorem curOk_nil : CurOk [] := ⟨(by intro c hc; cases hc), (by simp [trimStart])⟩

theorem curOk_snoc (cur : Str) (c : Char) (h : CurOk cur) (h1 : c ≠ ':') (h2 : c ≠ ',')
    (h3 : c = '"' → trim cur ≠ []) : CurOk (cur ++ [c]) := by
  refine ⟨?_, ?_⟩
  · intro x hx
    rcases List.mem_append.mp hx with hx | hx
    · exact h.1 x hx
    · simp only [List.mem_singleton] at hx; subst hx; exact ⟨h1, h2⟩
  · by_cases hn : trimStart cur = []
    · rw [trimStart_ws_append cur _ ((trimStart_eq_nil_iff cur).mp hn)]
      have hq : c ≠ '"' := by
        intro hc
        apply h3 hc
        have := trim_prefix cur
        rw [hn] at this
        exact List.prefix_nil.mp this
      simp only [trimStart]
      split
      · simp
      · simpa using hq
    · rw [trimStart_append_of_ne cur _ hn]
      have := h.2
      cases hc : trimStart cur with
      | nil => exact absurd hc hn
      | cons a b => rw [hc] at this; simpa using this

/-- The shape law assumed of the number printer: every rendering is a `BareText`. -/
def RenderBare (F : Type) [NumOps F] : Prop := ∀ x : F, BareText (NumOps.render x)

theorem bareText_trim (cur : Str) (h : CurOk cur) (hc : (trim cur).contains '"' = true) :
    BareText (trim cur) := by
  have hne : trim cur ≠ [] := by intro e; rw [e] at hc; simp at hc
  refine ⟨hne, trim_idem cur, fun c hc => h.1 c (mem_of_mem_trim cur c hc), ?_⟩
  obtain ⟨r, hr⟩ := trim_prefix cur
  have h2 := h.2
  rw [← hr] at h2
  cases ht : trim cur with
  | nil => exact absurd ht hne
  | cons a b => rw [ht] at h2; simpa using h2

/-- A predicate on items that holds of everything `pushCurrent` can append: a quoted
    text (free of double quotes) as a string, an unquoted collector as `elemOf` of its trim. -/
structure Pushed (P : DataElement F → Prop) : Prop where
  quoted : ∀ s, '"' ∉ s → P (.str s)
  bare : ∀ cur, CurOk cur → P (elemOf (trim cur))

theorem pushed_itemOk (hshape : RenderBare F) : Pushed (ItemOk (F := F)) where
  quoted s h hc := absurd (by simpa using hc) h
  bare cur h := by
    unfold elemOf
    cases hp : NumOps.parse (F := F) (trim cur) with
    | some x => exact hshape x
    | none => exact fun hc => ⟨bareText_trim cur h hc, hp⟩

/-- The invariant of the parser; `P` is what is known of the items. -/
structure Inv (P : DataElement F → Prop) (p : DataParser F) : Prop where
  elems : ∀ e ∈ p.elements, P e
  inq : p.inQuote = true → '"' ∉ p.cur
  bare : p.inQuote = false → CurOk p.cur
  fin : p.finished = true → p.elements ≠ []

variable {P : DataElement F → Prop}

omit [NumOps F] in
theorem inv_init : Inv P ({} : DataParser F) :=
  ⟨(by intro e he; cases he), (by intro h; cases h), fun _ => curOk_nil, (by intro h; cases h)⟩

theorem inv_push (hP : Pushed P) (p : DataParser F) (h : Inv P p) :
    Inv P p.pushCurrent ∧ p.pushCurrent.elements ≠ [] ∧ p.pushCurrent.inQuote = p.inQuote ∧
      p.pushCurrent.finished = p.finished ∧ p.pushCurrent.cur = [] := by
  obtain ⟨iq, es, ch, cur, fin⟩ := p
  obtain ⟨h1, h2, h3, h4⟩ := h
  simp only at h1 h2 h3 h4
  have hnew : P (if iq then .str cur else elemOf (trim cur)) := by
    cases iq with
    | true => exact hP.quoted cur (h2 rfl)
    | false => exact hP.bare cur (h3 rfl)
  have heq : DataParser.pushCurrent (⟨iq, es, ch, cur, fin⟩ : DataParser F) =
      ⟨iq, es ++ [if iq then .str cur else elemOf (trim cur)], ch, [], fin⟩ := by
    cases iq with
    | true => simp [DataParser.pushCurrent]
    | false =>
      cases hp : NumOps.parse (F := F) (trim cur) <;> simp [DataParser.pushCurrent, elemOf, hp]
  rw [heq]
  refine ⟨⟨?_, ?_, ?_, ?_⟩, by simp, rfl, rfl, rfl⟩
  · intro e he
    rcases List.mem_append.mp he with he | he
    · exact h1 e he
    · simp only [List.mem_singleton] at he; rw [he]; exact hnew
  · intro _; simp
  · intro _; exact curOk_nil
  · intro _; simp

theorem inv_finish (hP : Pushed P) (p : DataParser F) (h : Inv P p) : Inv P p.finish := by
  unfold DataParser.finish
  by_cases hf : p.finished = true
  · simp only [hf, ↓reduceIte]; exact h
  · simp only [hf, Bool.false_eq_true, ↓reduceIte]
    obtain ⟨hp, hpne, hpq, _, _⟩ := inv_push hP p h
    by_cases ht : (trim p.cur).isEmpty = true
    · by_cases he : p.elements.isEmpty = true
      · simp only [ht, Bool.not_true, Bool.false_eq_true, ↓reduceIte, he]
        exact ⟨hp.elems, hp.inq, hp.bare, fun _ => hpne⟩
      · simp only [ht, Bool.not_true, Bool.false_eq_true, ↓reduceIte, he]
        exact ⟨h.elems, h.inq, h.bare, fun _ => by simpa using he⟩
    · simp only [ht, Bool.not_false, ↓reduceIte]
      exact ⟨hp.elems, hp.inq, hp.bare, fun _ => hpne⟩

omit [NumOps F] in
theorem inv_chomp (p : DataParser F) (h : Inv P p) (k : Nat) : Inv P { p with chomped := k } :=
  ⟨h.elems, h.inq, h.bare, h.fin⟩

omit [NumOps F] in
theorem inv_snoc (p : DataParser F) (c : Char) (h : Inv P p) (hq : p.inQuote = true → c ≠ '"')
    (hb : p.inQuote = false → c ≠ ':' ∧ c ≠ ',' ∧ (c = '"' → trim p.cur ≠ [])) :
    Inv P { p with cur := p.cur ++ [c] } :=
  ⟨h.elems,
   fun hi => by
     simp only [List.mem_append, List.mem_singleton, not_or]
     exact ⟨h.inq hi, fun e => hq hi e.symm⟩,
   fun hi => curOk_snoc p.cur c (h.bare hi) (hb hi).1 (hb hi).2.1 (hb hi).2.2, h.fin⟩

theorem inv_parseChar (hP : Pushed P) (p : DataParser F) (c : Char) (h : Inv P p) :
    Inv P (p.parseChar c) := by
  unfold DataParser.parseChar
  -- it suffices to treat the part before the byte count
  suffices hmain : Inv P (if !p.inQuote then
      if c == ':' then p.finish
      else if c == ',' then
        if !(trim p.cur).isEmpty then p.pushCurrent else p
      else if c == '"' then
        if (trim p.cur).isEmpty then { p with cur := [], inQuote := true }
        else { p with cur := p.cur ++ [c] }
      else { p with cur := p.cur ++ [c] }
    else
      if c == '"' then { p.pushCurrent with inQuote := false }
      else { p with cur := p.cur ++ [c] }) by
    have key : ∀ q : DataParser F, Inv P q →
        Inv P (if !q.finished then { q with chomped := q.chomped + c.utf8Size } else q) := by
      intro q hq
      split
      · exact inv_chomp _ hq _
      · exact hq
    exact key _ hmain
  obtain ⟨hp, hpne, _, _, hpc⟩ := inv_push hP p h
  by_cases hq : p.inQuote = true
  · rw [if_neg (by simp [hq])]
    split
    · exact ⟨hp.elems, fun hh => by simp at hh, fun _ => by simp only [hpc]; exact curOk_nil, fun _ => hpne⟩
    next h3 => exact inv_snoc p c h (fun _ => by simpa using h3) (by simp [hq])
  · rw [if_pos (by simpa using hq)]
    split
    · exact inv_finish hP p h
    next h1 =>
    split
    · split
      · exact hp
      · exact h
    next h2 =>
    have hsnoc := fun ht => inv_snoc p c h (by simp [hq])
      (fun _ => ⟨by simpa using h1, by simpa using h2, ht⟩)
    split
    · split
      · exact ⟨h.elems, fun _ => by simp, fun hh => by simp at hh, h.fin⟩
      next _ ht => exact hsnoc fun _ => by simpa using ht
    next h3 => exact hsnoc fun e => absurd e (by simpa using h3)

theorem inv_run (hP : Pushed P) (p : DataParser F) (s : Str) (h : Inv P p) :
    Inv P (DataParser.run p s) := by
  induction s generalizing p with
  | nil => exact h
  | cons c cs ih =>
    simp only [DataParser.run]
    split
    · exact inv_parseChar hP p c h
    · exact ih _ (inv_parseChar hP p c h)

theorem parseData_pushed (hP : Pushed P) (s : Str) :
    (parseData (F := F) s).1 ≠ [] ∧ ∀ e ∈ (parseData (F := F) s).1, P e :=
  have h := inv_finish hP _ (inv_run hP ({} : DataParser F) s inv_init)
  ⟨h.fin (DataParser.finish_finished _), h.elems⟩

/-- Whatever `parseData` returns satisfies `ItemsOk` — provided the number
    printer only produces `BareText`s. -/
theorem parseData_itemsOk (hshape : RenderBare F) (s : Str) : ItemsOk (parseData (F := F) s).1 :=
  parseData_pushed (pushed_itemOk hshape) s

/-- LIST then reload is the identity on DATA tokens.  The items the
    tokenizer puts into a DATA token (`parseData` of whatever followed the
    keyword), listed and read back, are the same items.  Assumed of `NumOps`
    (both true of Rust's `f64`): renderings are `BareText`s, and
    `parse (render x) = some x` for the numbers that occur. -/
theorem data_reload (hshape : RenderBare F) (s : Str)
    (hn : ∀ x ∈ numbers (parseData (F := F) s).1, NumOps.parse (F := F) (NumOps.render x) = some x) :
    (parseData (F := F) (' ' :: renderData (parseData (F := F) s).1)).1 = (parseData (F := F) s).1 :=
  (data_roundtrip _ (parseData_itemsOk hshape s) hn).1

/-! ### the excluded shapes are really excluded -/

/-- The empty item list does not round-trip (the parser always yields at least one item);
    the tokenizer never produces it. -/
example : (parseData (F := Unit) (renderData ([] : List (DataElement Unit)))).1 = [.str []] := by
  decide

/-- A string with a quote *and* a comma does not round-trip: it is listed
    unquoted and read back as two items. -/
example : (parseData (F := Unit) (renderData [(.str "a\"b,c".toList : DataElement Unit)])).1 =
    [.str "a\"b".toList, .str ['c']] := by
  decide

/-- A string that starts with a quote and has another one inside is listed
    unquoted and read back differently. -/
example : (parseData (F := Unit) (renderData [(.str "\"a".toList : DataElement Unit)])).1 = [.str ['a']] := by
  decide

/-- A string with a quote and a blank at the end loses the blank. -/
example : (parseData (F := Unit) (renderData [(.str "a\" ".toList : DataElement Unit)])).1 =
    [.str "a\"".toList] := by
  decide

/-- strings only: a quoted item with a comma and a colon in it, an empty one,
    one with an embedded quote -/
def sample : List (DataElement Unit) := [.str "A, B: C".toList, .str [], .str "x\"y".toList, .str "  pad ".toList]

example : renderData sample = "\"A, B: C\", \"\", x\"y, \"  pad \"".toList := by
  -- explicit characters first: a string literal is decoded at a cost that grows faster than
  -- its length
  rw [String.toList_ofList]
  decide +kernel

theorem sample_ok : ItemsOk sample := by
  refine ⟨by decide, ?_⟩
  intro e he
  simp only [sample, List.mem_cons, List.not_mem_nil, or_false] at he
  rcases he with rfl | rfl | rfl | rfl
  · intro h; exact absurd h (by decide)
  · intro h; exact absurd h (by decide)
  · intro _
    exact ⟨⟨by decide, by decide, by decide, by decide⟩, rfl⟩
  · intro h; exact absurd h (by decide)

example : (parseData (F := Unit) (' ' :: renderData sample)).1 = sample :=
  (data_roundtrip sample sample_ok (by intro x hx; simp [sample, numbers] at hx)).1

/-- the same by evaluation, and with a following statement -/
example : parseData (F := Unit) (" \"A, B: C\", \"\", x\"y, \"  pad \" : PRINT".toList) =
    (sample, 30) := by
  rw [String.toList_ofList]
  decide +kernel

/-! `NumOps Unit` cannot serve here (its `parse` never succeeds, so the law
  `parse (render x) = some x` fails for it).  A toy carrier with a real decimal
  printer and reader makes the number case of `data_roundtrip` non-vacuous. -/

/-- natural numbers with decimal `render` / `parse`; the arithmetic is irrelevant here -/
@[instance_reducible] def natOps : NumOps Nat where
  zero := 0
  one := 1
  add := (· + ·)
  sub := (· - ·)
  mul := (· * ·)
  div := (· / ·)
  pow := (· ^ ·)
  neg := fun _ => 0
  abs := id
  floor := id
  lt := fun a b => decide (a < b)
  le := fun a b => decide (a ≤ b)
  eq := fun a b => a == b
  toI64 := fun a => a
  toU64 := id
  ofNat := id
  parse := fun s =>
    if s.all Char.isDigit && !s.isEmpty then some (s.foldl (fun a c => a * 10 + (c.toNat - 48)) 0) else none
  render := Nat.toDigits 10
  isFinite := fun _ => true

section
attribute [local instance] natOps

def sampleNum : List (DataElement Nat) := [.num 42, .str "HELLO".toList, .num 0, .str "say \"hi\"".toList, .num 1000]

example : renderData sampleNum = "42, \"HELLO\", 0, say \"hi\", 1000".toList := by
  rw [String.toList_ofList]
  decide +kernel

theorem sampleNum_ok : ItemsOk sampleNum := by
  refine ⟨by decide, ?_⟩
  intro e he
  simp only [sampleNum, List.mem_cons, List.not_mem_nil, or_false] at he
  rcases he with rfl | rfl | rfl | rfl | rfl
  · exact ⟨by decide, by decide, by decide, by decide⟩
  · intro h; exact absurd h (by decide)
  · exact ⟨by decide, by decide, by decide, by decide⟩
  · intro _
    exact ⟨⟨by decide, by decide, by decide, by decide⟩, by decide⟩
  · exact ⟨by decide, by decide, by decide, by decide⟩

theorem sampleNum_law : ∀ x ∈ numbers sampleNum, NumOps.parse (F := Nat) (NumOps.render x) = some x := by
  intro x hx
  simp only [sampleNum, numbers, List.mem_cons, List.not_mem_nil, or_false] at hx
  rcases hx with rfl | rfl | rfl <;> decide

example : (parseData (F := Nat) (' ' :: renderData sampleNum)).1 = sampleNum :=
  (data_roundtrip sampleNum sampleNum_ok sampleNum_law).1

/-- the same by evaluation, followed by another statement -/
example : parseData (F := Nat) " 42, \"HELLO\", 0, say \"hi\", 1000 : PRINT".toList = (sampleNum, 32) := by
  rw [String.toList_ofList]
  decide +kernel

/-- an unquoted numeral-looking string is a number item, a quoted one is a string item -/
example : (parseData (F := Nat) " 007, \"007\"".toList).1 = [.num 7, .str "007".toList] := by decide
end

end Abasic.Props.C14
