import Abasic.Props.C15
import Abasic.Props.C10
import Abasic.Props.C05File
import Abasic.Proofs.AnalyzerFrame
import Abasic.Proofs.AccFrame
import Abasic.Proofs.LoadLine
import Abasic.Props.C04More
/-
  C15 (continued) — loading a program from a file and typing it in behave the same;
  with C10 — RUN starts clean.

  For EVERY file the interpreter file mode builds (`cliLoad`: analyse, `into_interpreter`,
  configure) is the freshly created one holding the fold of the file's `lineEdit`s.  The
  analyzer side rests on the frame lemma `C05.analyzeFile_key` (Abasic/Props/C05File.lean):
  the static passes never change the program store and leave the nesting counter at 0.
  For a file of good and empty lines (`FileLines`; every file that ends in a newline has an
  empty line), typing the lines at the prompt of a freshly created interpreter
  (`typeLines … (cliCreate …)`) gives the loaded interpreter with two more token reads per
  empty line on the hook counter; without empty lines the two are EQUAL — every field.
  What the RUN command (and the whole run that follows) can depend on is program, flags,
  generator, nesting counter (`RunEq`).  Everything else is reset by RUN (C10) or is a
  write-only accumulator (pending output, read counter, access log; frame lemma in
  Abasic/Proofs/AccFrame.lean).
-/
namespace Abasic.Props.C15
open Abasic

variable {F : Type} [NumOps F]

theorem skipAsciiWs_eq (s : Str) : skipAsciiWs s = s.dropWhile isAsciiWs := by
  induction s with
  | nil => rfl
  | cons c cs ih => simp only [skipAsciiWs, List.dropWhile_cons, ih]

/-- the first non-blank character of a numbered line is a digit (read off the parser's closed form `C04.aux_eq`) -/
theorem skip_of_parse (s : Str) (r : Nat × Nat) (h : parseLineNumber s = some r) :
    ∃ c cs, skipAsciiWs s = c :: cs ∧ isAsciiDigit c = true := by
  rw [parseLineNumber, C04.aux_eq] at h
  split at h
  · next hc =>
    rw [skipAsciiWs_eq]
    cases hd : s.dropWhile isAsciiWs with
    | nil => rw [hd] at hc; exact absurd rfl hc.1
    | cons c cs =>
      refine ⟨c, cs, rfl, ?_⟩
      cases hcd : isAsciiDigit c with
      | true => rfl
      | false => rw [hd, List.takeWhile_cons_of_neg (by simp [hcd])] at hc; exact absurd rfl hc.1
  · cases h

/-- A line that starts with a line number is never one of the commands: its command word
    would start with a digit (`Proofs.LoadLine.cmd_none`). -/
theorem numbered_not_command (line : Str) (r : Nat × Nat) (h : parseLineNumber line = some r) :
    (commandWord line).bind Command.ofWord = none := by
  obtain ⟨c, cs, h1, h2⟩ := skip_of_parse line r h
  have h3 : skipAsciiWs (c :: cs) = c :: cs := by simp [skipAsciiWs, (Proofs.LoadLine.digit_facts c h2).1]
  have := Proofs.LoadLine.cmd_none c cs h2
  rwa [commandWord, h3, ← h1] at this

/-- the interpreter right after start-up with the command-line options, holding program `L` -/
def entered (w t : Bool) (seed : Nat) (L : Lines F) : St F :=
  { lines := L, warnings := w, tracing := t, rng := rngNew seed }

theorem typed_exact (fuel : Nat) (line : Str) (σ : St F) (n : Nat) (ts : List (Token F))
    (h : GoodLine F line n ts) (hidle : σ.state = .idle) :
    startEvaluating fuel line σ = .ok () ((σ.setImmediate []).setNumberedLine n ts) := by
  obtain ⟨_, k, rts, hp, ht, rfl, _⟩ := h
  exact typed_numbered fuel line σ n k rts hp ht hidle (numbered_not_command line _ hp)

def enteredR (w t : Bool) (seed : Nat) (r : Nat) (L : Lines F) : St F :=
  { lines := L, warnings := w, tracing := t, rng := rngNew seed, reads := r }

theorem type_good (fuel : Nat) (w t : Bool) (seed r : Nat) (L : Lines F) (line : Str) (n : Nat)
    (ts : List (Token F)) (h : GoodLine F line n ts) :
    startEvaluating fuel line (enteredR w t seed r L) = .ok () (enteredR w t seed r (L.set n ts)) := by
  rw [typed_exact fuel line _ n ts h rfl]
  rfl

/-- Typing an empty line runs the (empty) immediate line: two token reads, nothing else. -/
theorem type_blank (fuel : Nat) (w t : Bool) (seed r : Nat) (L : Lines F) :
    startEvaluating fuel [] (enteredR w t seed r L) = .ok () (enteredR w t seed (r + 2) L) := by
  exact Turn.start_typed_nil fuel [] rfl (by decide) rfl ((tokenize_iff_toks _ _).mpr (.nil rfl))

theorem typeLines_fileLines (fuel : Nat) (w t : Bool) (seed : Nat) (lines : List Str)
    (edits : List (Nat × List (Token F))) (h : FileLines F lines edits) (r : Nat) (L : Lines F) :
    typeLines fuel lines (enteredR w t seed r L) =
      enteredR w t seed (r + 2 * lines.count []) (edits.foldl (fun l e => l.set e.1 e.2) L) := by
  induction h generalizing r L with
  | nil => rfl
  | @good line _ _ _ _ hl _ ih =>
    simp only [typeLines, List.foldl_cons, type_good fuel w t seed r L _ _ _ hl, ih,
      List.count_cons_of_ne hl.1]
  | blank _ ih =>
    simp only [typeLines, type_blank, ih, List.count_cons_self]
    congr 1; omega

theorem GoodFile.count_blank {lines : List Str} {edits : List (Nat × List (Token F))}
    (h : GoodFile F lines edits) : lines.count [] = 0 := by
  induction h with
  | nil => rfl
  | cons hl _ ih => rw [List.count_cons_of_ne hl.1, ih]

/-- The program file mode runs, for EVERY file (with `--skip-check`, or when the
    check passes: `skip_check_same_program`): the fold of the file's edits over the
    empty program.  Everything else in the loaded interpreter is initial or an option
    (`loaded_is_fresh`, `cli_flags_file`). -/
theorem cliLoad_eq_general (fuel : Nat) (w t : Bool) (seed : Nat) (text : Str) :
    cliLoad (F := F) fuel w t seed text = entered w t seed (applyEdits (fileEdits F (splitLF text)) {}) := by
  have hk := C05.analyzeFile_key (F := F) fuel (splitLF text)
  rw [load_store_general] at hk
  simp only [cliLoad, cliConfigure, Analysis.intoInterpreter, analyzeText, hk.1, hk.2, entered]

theorem cliLoad_store (fuel : Nat) (w t : Bool) (seed : Nat) (text : Str) :
    (cliLoad (F := F) fuel w t seed text).lines = applyEdits (fileEdits F (splitLF text)) {} := by
  rw [cliLoad_eq_general]; rfl

theorem cliLoad_eq_fileLines (fuel : Nat) (w t : Bool) (seed : Nat) (text : Str)
    (edits : List (Nat × List (Token F))) (h : FileLines F (splitLF text) edits) :
    cliLoad (F := F) fuel w t seed text = entered w t seed (edits.foldl (fun l e => l.set e.1 e.2) {}) := by
  rw [cliLoad_eq_general, h.fileEdits]; rfl

/-- Typing a file in gives the loaded interpreter but for the read counter: two token reads per
    empty line, every other field equal. -/
theorem typed_eq_load (fuel : Nat) (w t : Bool) (seed : Nat) (text : Str)
    (edits : List (Nat × List (Token F))) (h : FileLines F (splitLF text) edits) :
    typeLines fuel (splitLF text) (cliCreate w t seed) =
      { cliLoad (F := F) fuel w t seed text with reads := 2 * (splitLF text).count [] } := by
  rw [cliLoad_eq_fileLines fuel w t seed text edits h]
  exact (typeLines_fileLines fuel w t seed _ _ h 0 {}).trans (by rw [Nat.zero_add]; rfl)

/-- Loading a file and typing it in give the same interpreter — not merely the same
    program store: every field of the state is equal. -/
theorem load_eq_typed (fuel : Nat) (w t : Bool) (seed : Nat) (text : Str)
    (edits : List (Nat × List (Token F))) (h : GoodFile F (splitLF text) edits) :
    cliLoad (F := F) fuel w t seed text = typeLines fuel (splitLF text) (cliCreate w t seed) := by
  rw [typed_eq_load fuel w t seed text edits h.fileLines, h.count_blank, cliLoad_eq_general]
  rfl

def RUN : Str := "RUN".toList

theorem RUN_is_run : (commandWord RUN).bind Command.ofWord = some .run := word_run

/-- The fields of the state a RUN can depend on: the program, the two flags, the
    generator state, and the nesting counter (0 between host calls).  Everything
    else is either overwritten by RUN before the first statement
    (`C10.run_resets_everything`) or an accumulator (`SameAcc`). -/
structure RunEq (s₁ s₂ : St F) : Prop where
  lines : s₁.lines = s₂.lines
  warnings : s₁.warnings = s₂.warnings
  tracing : s₁.tracing = s₂.tracing
  rng : s₁.rng = s₂.rng
  nesting : s₁.nesting = s₂.nesting

/-- the write-only accumulators: not-yet-taken output, the read counter of the
    verification hooks, the analyzer's access log -/
structure SameAcc (s₁ s₂ : St F) : Prop where
  out : s₁.out = s₂.out
  reads : s₁.reads = s₂.reads
  accesses : s₁.accesses = s₂.accesses

omit [NumOps F] in
theorem reset_eq (s₁ s₂ : St F) (h : RunEq s₁ s₂) (ha : SameAcc s₁ s₂)
    (h₁ : s₁.state = .idle) (h₂ : s₂.state = .idle) :
    C10.resetForRun (s₁.setImmediate []) = C10.resetForRun (s₂.setImmediate []) := by
  simp [C10.resetForRun, St.runFromFirst, St.resetRuntime, St.setImmediate, h.lines, h.warnings, h.tracing,
    h.rng, h.nesting, ha.out, ha.reads, ha.accesses, h₁, h₂]

theorem run_depends_on_acc (fuel : Nat) (s₁ s₂ : St F) (h : RunEq s₁ s₂) (ha : SameAcc s₁ s₂)
    (h₁ : s₁.state = .idle) (h₂ : s₂.state = .idle) :
    startEvaluating fuel RUN s₁ = startEvaluating fuel RUN s₂ := by
  rw [startEvaluating_run fuel h₁ RUN_is_run, startEvaluating_run fuel h₂ RUN_is_run]
  exact congrArg _ (reset_eq s₁ s₂ h ha h₁ h₂)

/-- RUN after loading = RUN after typing.  Nothing is excluded: the outcome, the
    error (if any) and every field of the resulting state — output queue included —
    are equal, because the two interpreters are (`load_eq_typed`). -/
theorem same_run (fuel : Nat) (w t : Bool) (seed : Nat) (text : Str)
    (edits : List (Nat × List (Token F))) (h : GoodFile F (splitLF text) edits) :
    startEvaluating fuel RUN (cliLoad (F := F) fuel w t seed text) =
    startEvaluating fuel RUN (typeLines fuel (splitLF text) (cliCreate w t seed)) := by
  rw [load_eq_typed fuel w t seed text edits h]

/-- The host loop after RUN: take the output, and while the interpreter is running
    call `continue_evaluating` (no input is supplied, so a program that reaches
    INPUT stops in `awaitingInput`); at most `steps` calls.  Returns all output
    records in order and the state the loop stopped in. -/
def runAll (fuel : Nat) : Nat → St F → List Out × St F
  | 0, s => takeOutput s
  | n + 1, s =>
    let (o, s) := takeOutput s
    if s.state = .running then
      match continueEvaluating fuel s with
      | .ok _ s' => let (os, s'') := runAll fuel n s'; (o ++ os, s'')
      | .err _ s' => let (os, s'') := runAll fuel n s'; (o ++ os, s'')
    else (o, s)

/-- the errors reported along the same loop (an error returns the interpreter to idle,
    so there is at most one) -/
def runAllErrors (fuel : Nat) : Nat → St F → List TErr
  | 0, _ => []
  | n + 1, s =>
    let (_, s) := takeOutput s
    if s.state = .running then
      match continueEvaluating fuel s with
      | .ok _ s' => runAllErrors fuel n s'
      | .err e s' => e :: runAllErrors fuel n s'
    else []

/-- a whole RUN session: the RUN command, then the host loop -/
def session (fuel steps : Nat) (s : St F) : List TErr × List Out × St F :=
  match startEvaluating fuel RUN s with
  | .ok _ s' => (runAllErrors fuel steps s', runAll fuel steps s')
  | .err e s' => (e :: runAllErrors fuel steps s', runAll fuel steps s')

/-- Whole transcripts agree, for every step count: same errors, same output records,
    same final state. -/
theorem same_transcript (fuel steps : Nat) (w t : Bool) (seed : Nat) (text : Str)
    (edits : List (Nat × List (Token F))) (h : GoodFile F (splitLF text) edits) :
    session fuel steps (cliLoad (F := F) fuel w t seed text) =
    session fuel steps (typeLines fuel (splitLF text) (cliCreate w t seed)) := by
  rw [load_eq_typed fuel w t seed text edits h]

/-- … in particular the output transcripts. -/
theorem same_runAll (fuel steps : Nat) (w t : Bool) (seed : Nat) (text : Str)
    (edits : List (Nat × List (Token F))) (h : GoodFile F (splitLF text) edits)
    (r₁ r₂ : Res F Unit)
    (e₁ : startEvaluating fuel RUN (cliLoad (F := F) fuel w t seed text) = r₁)
    (e₂ : startEvaluating fuel RUN (typeLines fuel (splitLF text) (cliCreate w t seed)) = r₂) :
    runAll fuel steps (AFrame.rst r₁) = runAll fuel steps (AFrame.rst r₂) := by
  rw [← e₁, ← e₂, same_run fuel w t seed text edits h]

theorem session_depends_on_acc (fuel steps : Nat) (s₁ s₂ : St F) (h : RunEq s₁ s₂) (ha : SameAcc s₁ s₂)
    (h₁ : s₁.state = .idle) (h₂ : s₂.state = .idle) :
    session fuel steps s₁ = session fuel steps s₂ := by
  simp only [session, run_depends_on_acc fuel s₁ s₂ h ha h₁ h₂]

omit [NumOps F] in
theorem reset_T (d : Acc.Add) (s : St F) :
    C10.resetForRun ((Acc.T d s).setImmediate []) = Acc.T d (C10.resetForRun (s.setImmediate [])) := by
  simp only [C10.resetForRun, St.runFromFirst, St.resetRuntime, St.setImmediate, Acc.T]
  cases s.lines.first <;> rfl

/-- RUN commutes with additions underneath the accumulators. -/
theorem run_comm (fuel : Nat) (d : Acc.Add) (s : St F) (hs : s.state = .idle) :
    startEvaluating fuel RUN (Acc.T d s) = Acc.mapRes (Acc.T d) (startEvaluating fuel RUN s) := by
  rw [startEvaluating_run fuel hs RUN_is_run, startEvaluating_run fuel (σ := Acc.T d s) hs RUN_is_run]
  exact (congrArg _ (reset_T d s)).trans ((Acc.comm_postprocess (Acc.comm_runNextStatement fuel)).h _)

/-- `r₁` and `r₂` are one and the same result `r`, each on top of the accumulators its
    run started with: same outcome, same error, the same records added to the output
    queue, the same number of reads added to the counter, every other field of the
    resulting states equal. -/
def RunEq' (s₁ s₂ : St F) (r₁ r₂ : Res F Unit) : Prop :=
  ∃ r : Res F Unit, r₁ = Acc.mapRes (Acc.T (accOf s₁)) r ∧ r₂ = Acc.mapRes (Acc.T (accOf s₂)) r

omit [NumOps F] in
theorem RunEq.bare {s₁ s₂ : St F} (h : RunEq s₁ s₂) : RunEq (bare s₁) (bare s₂) :=
  ⟨h.lines, h.warnings, h.tracing, h.rng, h.nesting⟩

/-- What RUN depends on.  Two idle interpreters that agree on the program, the
    flags, the generator state and the nesting counter — and differ arbitrarily in
    variables, arrays, loops, GOSUB stack, functions, DATA cursor, breakpoint, pending
    reply, immediate line, location, pending output, read counter — give the same RUN,
    up to what was already in the accumulators (`RunEq'`). -/
theorem run_depends_on (fuel : Nat) (s₁ s₂ : St F) (h : RunEq s₁ s₂)
    (h₁ : s₁.state = .idle) (h₂ : s₂.state = .idle) :
    RunEq' s₁ s₂ (startEvaluating fuel RUN s₁) (startEvaluating fuel RUN s₂) := by
  refine ⟨startEvaluating fuel RUN (bare s₁), ?_, ?_⟩
  · rw [← run_comm fuel (accOf s₁) (bare s₁) h₁, T_bare]
  · rw [run_depends_on_acc fuel (bare s₁) (bare s₂) h.bare ⟨rfl, rfl, rfl⟩ h₁ h₂,
      ← run_comm fuel (accOf s₂) (bare s₂) h₂, T_bare]

/-- what `RunEq'` says, spelled out: same outcome and error … -/
def outcome {α : Type} : Res F α → Option TErr
  | .ok _ _ => none
  | .err e _ => some e

omit [NumOps F] in
theorem RunEq'.outcome {s₁ s₂ : St F} {r₁ r₂ : Res F Unit} (h : RunEq' s₁ s₂ r₁ r₂) :
    outcome r₁ = outcome r₂ := by
  obtain ⟨r, rfl, rfl⟩ := h
  cases r <;> rfl

omit [NumOps F] in
/-- … and resulting states that are one state `σ` on top of the respective old
    accumulators: `σ.out` is the output this RUN produced, `σ.reads` its reads. -/
theorem RunEq'.states {s₁ s₂ : St F} {r₁ r₂ : Res F Unit} (h : RunEq' s₁ s₂ r₁ r₂) :
    ∃ σ : St F,
      AFrame.rst r₁ = { σ with out := σ.out ++ s₁.out, reads := s₁.reads + σ.reads, accesses := σ.accesses ++ s₁.accesses } ∧
      AFrame.rst r₂ = { σ with out := σ.out ++ s₂.out, reads := s₂.reads + σ.reads, accesses := σ.accesses ++ s₂.accesses } := by
  obtain ⟨r, rfl, rfl⟩ := h
  cases r with
  | ok a σ => exact ⟨σ, rfl, rfl⟩
  | err e σ => exact ⟨σ, rfl, rfl⟩

def taken (d : Acc.Add) : Acc.Add := { d with out := [] }

omit [NumOps F] in
theorem takeOutput_T (d : Acc.Add) (s : St F) :
    takeOutput (Acc.T d s) = (d.out.reverse ++ (takeOutput s).1, Acc.T (taken d) (takeOutput s).2) := by
  simp only [takeOutput, Acc.T, taken, List.reverse_append, List.append_nil]

theorem runAll_comm (fuel n : Nat) (d : Acc.Add) (s : St F) :
    runAll fuel n (Acc.T d s) =
      (d.out.reverse ++ (runAll fuel n s).1, Acc.T (taken d) (runAll fuel n s).2) := by
  induction n generalizing d s with
  | zero => exact takeOutput_T d s
  | succ n ih =>
    unfold runAll
    rw [takeOutput_T]
    dsimp only
    have hst : (Acc.T (taken d) (takeOutput s).2).state = (takeOutput s).2.state := rfl
    rw [hst]
    by_cases hr : (takeOutput s).2.state = .running
    · rw [if_pos hr, if_pos hr, (Acc.comm_continueEvaluating (d := taken d) fuel).h]
      cases continueEvaluating fuel (takeOutput s).2 with
      | ok a s' =>
        show (let (os, s'') := runAll fuel n (Acc.T (taken d) s'); (_, s'')) = _
        rw [ih]; simp [taken, List.append_assoc]
      | err e s' =>
        show (let (os, s'') := runAll fuel n (Acc.T (taken d) s'); (_, s'')) = _
        rw [ih]; simp [taken, List.append_assoc]
    · rw [if_neg hr, if_neg hr]

theorem runAllErrors_comm (fuel n : Nat) (d : Acc.Add) (s : St F) :
    runAllErrors fuel n (Acc.T d s) = runAllErrors fuel n s := by
  induction n generalizing d s with
  | zero => rfl
  | succ n ih =>
    unfold runAllErrors
    rw [takeOutput_T]
    dsimp only
    have hst : (Acc.T (taken d) (takeOutput s).2).state = (takeOutput s).2.state := rfl
    rw [hst]
    by_cases hr : (takeOutput s).2.state = .running
    · rw [if_pos hr, if_pos hr, (Acc.comm_continueEvaluating (d := taken d) fuel).h]
      cases continueEvaluating fuel (takeOutput s).2 with
      | ok a s' => exact ih _ _
      | err e s' => exact congrArg (e :: ·) (ih _ _)
    · rw [if_neg hr, if_neg hr]

theorem session_comm (fuel n : Nat) (d : Acc.Add) (s : St F) (hs : s.state = .idle) :
    session fuel n (Acc.T d s) =
      ((session fuel n s).1, d.out.reverse ++ (session fuel n s).2.1, Acc.T (taken d) (session fuel n s).2.2) := by
  unfold session
  rw [run_comm fuel d s hs]
  cases startEvaluating fuel RUN s with
  | ok a s' => simp only [Acc.mapRes, runAll_comm, runAllErrors_comm]
  | err e s' => simp only [Acc.mapRes, runAll_comm, runAllErrors_comm]

/-- Sessions depend on `RunEq` only: the same errors; the same output records after
    whatever was still pending in each interpreter; final states that are one state `σ`
    on top of the respective read counter and access log. -/
theorem session_depends_on (fuel n : Nat) (s₁ s₂ : St F) (h : RunEq s₁ s₂)
    (h₁ : s₁.state = .idle) (h₂ : s₂.state = .idle) :
    ∃ (errs : List TErr) (outs : List Out) (σ : St F),
      session fuel n s₁ = (errs, s₁.out.reverse ++ outs, Acc.T (taken (accOf s₁)) σ) ∧
      session fuel n s₂ = (errs, s₂.out.reverse ++ outs, Acc.T (taken (accOf s₂)) σ) := by
  refine ⟨(session fuel n (bare s₁)).1, (session fuel n (bare s₁)).2.1, (session fuel n (bare s₁)).2.2, ?_, ?_⟩
  · have := session_comm fuel n (accOf s₁) (bare s₁) h₁
    rw [T_bare] at this
    exact this
  · have := session_comm fuel n (accOf s₂) (bare s₂) h₂
    rw [T_bare, ← session_depends_on_acc fuel n (bare s₁) (bare s₂) h.bare ⟨rfl, rfl, rfl⟩ h₁ h₂] at this
    exact this

/-- Loading vs typing, empty lines allowed: the typed-in interpreter is the loaded
    one with `k` more token reads on the hook counter (two per empty line); every other
    field is equal. -/
theorem load_vs_typed_blank (fuel : Nat) (w t : Bool) (seed : Nat) (text : Str)
    (edits : List (Nat × List (Token F))) (h : FileLines F (splitLF text) edits) :
    ∃ k, typeLines fuel (splitLF text) (cliCreate w t seed) =
      { cliLoad (F := F) fuel w t seed text with reads := k } :=
  ⟨_, typed_eq_load fuel w t seed text edits h⟩

/-- … hence `RunEq`, both idle … -/
theorem load_runEq_typed (fuel : Nat) (w t : Bool) (seed : Nat) (text : Str)
    (edits : List (Nat × List (Token F))) (h : FileLines F (splitLF text) edits) :
    RunEq (cliLoad (F := F) fuel w t seed text) (typeLines fuel (splitLF text) (cliCreate w t seed)) ∧
    (cliLoad (F := F) fuel w t seed text).state = .idle ∧
    (typeLines fuel (splitLF text) (cliCreate (F := F) w t seed)).state = .idle := by
  obtain ⟨k, hk⟩ := load_vs_typed_blank fuel w t seed text edits h
  rw [hk, cliLoad_eq_fileLines fuel w t seed text edits h]
  exact ⟨⟨rfl, rfl, rfl, rfl, rfl⟩, rfl, rfl⟩

/-- … hence the same RUN (`RunEq'`: same outcome, same error, same output, same state
    but for the read counter) … -/
theorem same_run_blank (fuel : Nat) (w t : Bool) (seed : Nat) (text : Str)
    (edits : List (Nat × List (Token F))) (h : FileLines F (splitLF text) edits) :
    RunEq' (cliLoad (F := F) fuel w t seed text) (typeLines fuel (splitLF text) (cliCreate w t seed))
      (startEvaluating fuel RUN (cliLoad (F := F) fuel w t seed text))
      (startEvaluating fuel RUN (typeLines fuel (splitLF text) (cliCreate w t seed))) := by
  obtain ⟨hr, h1, h2⟩ := load_runEq_typed fuel w t seed text edits h
  exact run_depends_on fuel _ _ hr h1 h2

/-- … and the same transcript, for every step count: same errors, same output records,
    final states equal but for the read counter (which differs by the same `k`). -/
theorem same_transcript_blank (fuel steps : Nat) (w t : Bool) (seed : Nat) (text : Str)
    (edits : List (Nat × List (Token F))) (h : FileLines F (splitLF text) edits) :
    ∃ k, session fuel steps (typeLines fuel (splitLF text) (cliCreate w t seed)) =
      ((session fuel steps (cliLoad (F := F) fuel w t seed text)).1,
       (session fuel steps (cliLoad (F := F) fuel w t seed text)).2.1,
       { (session fuel steps (cliLoad (F := F) fuel w t seed text)).2.2 with
         reads := k + (session fuel steps (cliLoad (F := F) fuel w t seed text)).2.2.reads }) := by
  obtain ⟨k, hk⟩ := load_vs_typed_blank fuel w t seed text edits h
  refine ⟨k, ?_⟩
  have hl := cliLoad_eq_fileLines fuel w t seed text edits h
  have hT : ({ cliLoad (F := F) fuel w t seed text with reads := k } : St F) =
      Acc.T { reads := k } (cliLoad (F := F) fuel w t seed text) := by
    rw [hl]; rfl
  have hidle : (cliLoad (F := F) fuel w t seed text).state = .idle := by rw [hl]; rfl
  rw [hk, hT, session_comm fuel steps _ _ hidle]
  simp [Acc.T, taken]

/-- file mode as a whole: refuse, or hand over the loaded interpreter -/
def cliFileMode (fuel : Nat) (skipCheck w t : Bool) (seed : Nat) (text : Str) : Option (St F) :=
  if cliRefuses (F := F) fuel skipCheck text then none else some (cliLoad fuel w t seed text)

/-- `--skip-check` only decides WHETHER the program runs: whenever file mode runs
    something, with or without the flag, it is the same interpreter `cliLoad` built
    (which has no skip-check parameter); with the flag it never refuses. -/
theorem skip_check_same_program (fuel : Nat) (w t : Bool) (seed : Nat) (text : Str) :
    (∀ skipCheck s, cliFileMode (F := F) fuel skipCheck w t seed text = some s → s = cliLoad fuel w t seed text) ∧
    cliFileMode (F := F) fuel true w t seed text = some (cliLoad fuel w t seed text) ∧
    (cliRefuses (F := F) fuel false text = false →
      cliFileMode (F := F) fuel false w t seed text = cliFileMode fuel true w t seed text) := by
  refine ⟨?_, ?_, ?_⟩
  · intro sk s hs
    unfold cliFileMode at hs
    split at hs
    · cases hs
    · exact (Option.some.inj hs).symm
  · simp [cliFileMode, cliRefuses]
  · intro hr
    have ht : cliRefuses (F := F) fuel true text = false := by simp [cliRefuses]
    unfold cliFileMode
    rw [hr, ht]

theorem good_10_END :
    GoodLine Unit "10 END".toList 10 ((tokenizeRanges (F := Unit) "10 END".toList 2).1.map (·.1)) := by
  refine ⟨by decide, 2, (tokenizeRanges (F := Unit) "10 END".toList 2).1, by decide, ?_, rfl, ?_⟩
  · exact Prod.ext rfl (by decide)
  · intro h
    have : ((tokenizeRanges (F := Unit) "10 END".toList 2).1.map (·.1)).length = 1 := by decide
    rw [h] at this; cases this

/-- a file of good lines (no final newline) … -/
example : ∃ edits, GoodFile Unit (splitLF "10 END".toList) edits :=
  ⟨_, by
    have : splitLF "10 END".toList = ["10 END".toList] := by decide
    rw [this]
    exact .cons good_10_END .nil⟩

/-- … and one with the empty last line that a final newline makes. -/
example : ∃ edits, FileLines Unit (splitLF "10 END\n".toList) edits :=
  ⟨_, by
    have : splitLF "10 END\n".toList = ["10 END".toList, []] := by decide
    rw [this]
    exact .good good_10_END (.blank .nil)⟩

end Abasic.Props.C15
