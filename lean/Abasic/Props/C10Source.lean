import Abasic.Interp
/-
  C10 / C11 / C04 (tie to the source) — the command words.

  `Extracted.commands` is regenerated on every run from the string patterns of
  the `match` in `Interpreter::maybe_process_command` (interpreter.rs).  The
  model's `Command.ofWord` is written by hand; this theorem says it recognises
  exactly the words the source matches on, so a command added to, removed from
  or respelled in the source re-opens this proof.
-/
namespace Abasic.Props.C10
open Abasic

theorem isSome_ite_some {α : Type} (c : Prop) [Decidable c] (a : α) (x : Option α) :
    (if c then some a else x).isSome ↔ c ∨ x.isSome := by
  by_cases h : c <;> simp [h]

theorem commands_from_source (w : Str) :
    (Command.ofWord w).isSome ↔ w ∈ Extracted.commands.map String.toList := by
  simp only [Command.ofWord, isSome_ite_some, beq_iff_eq, Extracted.commands, List.map, List.mem_cons,
    List.not_mem_nil, Option.isSome_none, Bool.false_eq_true]

/-- RUN, CONT and NEW — the words C10 and C11 speak about — are among them. -/
example : "RUN" ∈ Extracted.commands ∧ "CONT" ∈ Extracted.commands ∧ "NEW" ∈ Extracted.commands ∧ "LIST" ∈ Extracted.commands := by
  decide

end Abasic.Props.C10
