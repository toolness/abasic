import Abasic.Ref.LspMulti
import Abasic.Props.C20Server
import Abasic.Proofs.TokFast
/-
  C20, the server loop over SEVERAL documents (Abasic/Ref/LspMulti.lean, `mStep` / `mRun`,
  a transliteration of `main_loop` in abasic-lsp/src/main.rs with its
  `files: HashMap<String, SourceFileAnalyzer>`).
-/
namespace Abasic.Props.C20
open Abasic

variable {F : Type} [NumOps F]

theorem mLookup_filter_ne (u v : Str) (m : MState) (h : v ≠ u) :
    mLookup v (m.filter (fun p => p.1 ≠ u)) = mLookup v m := by
  induction m with
  | nil => rfl
  | cons p m ih =>
    obtain ⟨k, t⟩ := p
    by_cases hk : k = u
    · have hkv : k ≠ v := fun e => h (e ▸ hk)
      simp only [List.filter_cons, hk, ne_eq, not_true_eq_false, decide_false, Bool.false_eq_true, if_false]
      rw [ih]
      subst hk
      simp only [mLookup, hkv, if_false]
    · simp only [List.filter_cons, ne_eq, hk, not_false_eq_true, decide_true, if_true, mLookup, ih]

theorem mLookup_insert_same (u t : Str) (m : MState) : mLookup u (mInsert u t m) = some t := by
  simp only [mInsert, mLookup, if_true]

/-- `insert` under one key does not touch any other key — keys compared as raw strings -/
theorem mLookup_insert_other (u v t : Str) (m : MState) (h : v ≠ u) :
    mLookup v (mInsert u t m) = mLookup v m := by
  have hu : u ≠ v := fun e => h e.symm
  simp only [mInsert, mLookup, hu, if_false]
  exact mLookup_filter_ne u v m h

/-- after an insert the key occurs exactly once (the old entry is gone, not shadowed) -/
theorem mInsert_replaces (u t : Str) (m : MState) :
    ((mInsert u t m).filter (fun p => p.1 = u)) = [(u, t)] := by
  simp only [mInsert, List.filter_cons, decide_true, if_true, List.filter_filter]
  congr 1
  rw [List.filter_eq_nil_iff]
  intro p _
  by_cases hp : p.1 = u <;> simp [hp]

/-- the texts an event carries FOR KEY `u`, in order -/
def mSubmitted (u : Str) : MEvent → List Str
  | .open uri text => if uri = u then [text] else []
  | .change uri texts => if uri = u then texts else []
  | .close _ => []
  | .tokens _ => []
  | .hello _ => []

/-- the last text carried for key `u` by any event of the history: the text of the last
    `didOpen` / non-empty `didChange` (its last content change) for that key -/
def mLastSubmitted (u : Str) (evs : List MEvent) : Option Str := (evs.flatMap (mSubmitted u)).getLast?

/-- the latest document of key `u`: the last text submitted for it, else what was stored -/
def mLatest (u : Str) (m : MState) (evs : List MEvent) : Option Str :=
  match mLastSubmitted u evs with
  | some t => some t
  | none => mLookup u m

theorem mSubmitted_proj (u : Str) (e : MEvent) :
    mSubmitted u e = (match e.proj u with | some e' => submitted e' | none => []) := by
  cases e with
  | «open» uri text => by_cases h : uri = u <;> simp [mSubmitted, MEvent.proj, h, submitted]
  | change uri texts => by_cases h : uri = u <;> simp [mSubmitted, MEvent.proj, h, submitted]
  | close uri => by_cases h : uri = u <;> simp [mSubmitted, MEvent.proj, h, submitted]
  | tokens uri => by_cases h : uri = u <;> simp [mSubmitted, MEvent.proj, h, submitted]
  | hello p => simp [mSubmitted, MEvent.proj]

theorem flatMap_proj (u : Str) (evs : List MEvent) :
    evs.flatMap (mSubmitted u) = (evs.filterMap (MEvent.proj u)).flatMap submitted := by
  induction evs with
  | nil => rfl
  | cons e es ih =>
    rw [List.flatMap_cons, List.filterMap_cons, ih, mSubmitted_proj]
    cases e.proj u <;> simp

theorem mLatest_proj (u : Str) (m : MState) (evs : List MEvent) :
    mLatest u m evs = latest (mLookup u m) (evs.filterMap (MEvent.proj u)) := by
  simp only [mLatest, latest, mLastSubmitted, lastSubmitted, flatMap_proj]
  cases (List.flatMap submitted (List.filterMap (MEvent.proj u) evs)).getLast? <;> rfl

theorem mLatest_nil (u : Str) (m : MState) : mLatest u m [] = mLookup u m := rfl

theorem mLatest_snoc (u : Str) (m : MState) (evs : List MEvent) (e : MEvent) :
    mLatest u m (evs ++ [e]) =
      match (mSubmitted u e).getLast? with
      | some t => some t
      | none => mLatest u m evs := by
  unfold mLatest mLastSubmitted
  rw [List.flatMap_append, List.getLast?_append]
  simp only [List.flatMap_cons, List.flatMap_nil, List.append_nil]
  cases (mSubmitted u e).getLast? <;> cases (List.flatMap (mSubmitted u) evs).getLast? <;> rfl

theorem proj_none_iff (u : Str) (e : MEvent) : e.proj u = none ↔ e.key ≠ some u := by
  cases e with
  | «open» uri text => by_cases h : uri = u <;> simp [MEvent.proj, MEvent.key, h]
  | change uri texts => by_cases h : uri = u <;> simp [MEvent.proj, MEvent.key, h]
  | close uri => by_cases h : uri = u <;> simp [MEvent.proj, MEvent.key, h]
  | tokens uri => by_cases h : uri = u <;> simp [MEvent.proj, MEvent.key, h]
  | hello p => simp [MEvent.proj, MEvent.key]

/-- storing a text under a key never fails: the text is inserted for that key and its
    diagnostics are published for that key -/
theorem mUpdate_eq (fuel : Nat) (m : MState) (uri text : Str) :
    ∃ ds, lspDiagnostics (lspAnalyze (F := F) fuel text) = some ds ∧
      mUpdate F fuel m uri text = some (mInsert uri text m, .publish uri ds) := by
  obtain ⟨ds, hds, _⟩ := diags_in_bounds (F := F) fuel text
  exact ⟨ds, hds, by
    simp only [mUpdate, C05.lsp_total (F := F) fuel text, Option.isSome_none, Bool.false_eq_true, if_false, hds]⟩

/-- What one event does, by the kind of event: it submits a text for a key (`didOpen`, non-empty
    `didChange`), it asks for the tokens of a key, or it is ignored.  The output tells the kind, so
    `cases` on a `Step` whose output is known leaves the one case that produced it. -/
inductive Step (F : Type) [NumOps F] (fuel : Nat) (m : MState) : MEvent → MState → MOut → Prop
  | submit {e : MEvent} {u t : Str} {ds : List LspDiag} : e.key = some u → (mSubmitted u e).getLast? = some t →
      lspDiagnostics (lspAnalyze (F := F) fuel t) = some ds → Step F fuel m e (mInsert u t m) (.publish u ds)
  | tokens {u t : Str} {ts : List SemTok} : mLookup u m = some t →
      semanticTokens (lspAnalyze (F := F) fuel t) = some ts → Step F fuel m (.tokens u) m (.tokens ts)
  | unknown {u : Str} : mLookup u m = none → Step F fuel m (.tokens u) m .error
  | ignored {e : MEvent} : (∀ u, mSubmitted u e = []) → (∀ u, e ≠ .tokens u) → Step F fuel m e m .none

theorem mStep_spec (fuel : Nat) (m : MState) (e : MEvent) :
    ∃ m' o, mStep F fuel m e = some (m', o) ∧ Step F fuel m e m' o := by
  cases e with
  | «open» uri text =>
    obtain ⟨ds, hds, hu⟩ := mUpdate_eq (F := F) fuel m uri text
    exact ⟨_, _, hu, .submit rfl (by simp [mSubmitted]) hds⟩
  | change uri texts =>
    cases hl : texts.getLast? with
    | none =>
      cases List.getLast?_eq_none_iff.mp hl
      exact ⟨m, .none, rfl, .ignored (fun u => by simp [mSubmitted]) (fun u h => by cases h)⟩
    | some text =>
      obtain ⟨ds, hds, hu⟩ := mUpdate_eq (F := F) fuel m uri text
      exact ⟨_, _, by simp only [mStep, hl]; exact hu, .submit rfl (by simp [mSubmitted, hl]) hds⟩
  | close uri => exact ⟨m, .none, rfl, .ignored (fun _ => rfl) (fun u h => by cases h)⟩
  | tokens uri =>
    cases hd : mLookup uri m with
    | none => exact ⟨m, .error, by simp only [mStep, hd], .unknown hd⟩
    | some text =>
      obtain ⟨ts, hts, _⟩ := semantic_tokens_ok (F := F) fuel text
      exact ⟨m, .tokens ts, by simp only [mStep, hd, hts], .tokens hd hts⟩
  | hello p => exact ⟨m, .none, rfl, .ignored (fun _ => rfl) (fun u h => by cases h)⟩

theorem mStep_ok {fuel : Nat} {m m' : MState} {e : MEvent} {o : MOut} (h : mStep F fuel m e = some (m', o)) :
    Step F fuel m e m' o := by
  obtain ⟨m1, o1, h1, hs⟩ := mStep_spec (F := F) fuel m e
  cases h1.symm.trans h
  exact hs

theorem mStep_total (fuel : Nat) (m : MState) (e : MEvent) : mStep F fuel m e ≠ none := by
  obtain ⟨m', o, h, _⟩ := mStep_spec (F := F) fuel m e
  rw [h]; simp

/-- the only error ANSWER of the server: a tokens request for a key without entry is
    answered with `RequestFailed` — and the server carries on, state unchanged -/
theorem error_iff_unknown (fuel : Nat) (m m' : MState) (e : MEvent) (h : mStep F fuel m e = some (m', .error)) :
    ∃ u, e = .tokens u ∧ mLookup u m = none ∧ m' = m := by
  cases mStep_ok h with
  | unknown hl => exact ⟨_, rfl, hl, rfl⟩

theorem tokens_unknown (fuel : Nat) (m : MState) (u : Str) (h : mLookup u m = none) :
    mStep F fuel m (.tokens u) = some (m, .error) := by
  simp only [mStep, h]

theorem mRun_cons_some (fuel : Nat) (m m' : MState) (e : MEvent) (es : List MEvent) (outs : List MOut)
    (h : mRun F fuel m (e :: es) = some (m', outs)) :
    ∃ m1 o os, mStep F fuel m e = some (m1, o) ∧ mRun F fuel m1 es = some (m', os) ∧ outs = o :: os := by
  simp only [mRun] at h
  cases hs : mStep F fuel m e with
  | none => rw [hs] at h; cases h
  | some p =>
    obtain ⟨m1, o⟩ := p
    rw [hs] at h
    simp only at h
    cases hr : mRun F fuel m1 es with
    | none => rw [hr] at h; cases h
    | some q =>
      obtain ⟨m2, os⟩ := q
      rw [hr] at h
      simp only [Option.some.injEq, Prod.mk.injEq] at h
      exact ⟨m1, o, os, rfl, by rw [hr, h.1], h.2.symm⟩

theorem mRun_cons_of (fuel : Nat) (m m1 m' : MState) (e : MEvent) (es : List MEvent) (o : MOut) (os : List MOut)
    (h1 : mStep F fuel m e = some (m1, o)) (h2 : mRun F fuel m1 es = some (m', os)) :
    mRun F fuel m (e :: es) = some (m', o :: os) := by
  simp only [mRun, h1, h2]

/-- **multi_total.**  No start state and no event sequence — any number of keys, any
    interleaving, re-opens, closes, tokens requests for keys never opened, handshakes —
    makes the model server fail; every event produces exactly one output.  (The one case
    where main.rs answers with an error RESPONSE, a tokens request for a key without entry,
    is the output `.error`, not a failure: `error_iff_unknown`, `errors_are_unknown_keys`.) -/
theorem multi_total (fuel : Nat) (m : MState) (evs : List MEvent) :
    ∃ m' outs, mRun F fuel m evs = some (m', outs) ∧ outs.length = evs.length := by
  induction evs generalizing m with
  | nil => exact ⟨m, [], rfl, rfl⟩
  | cons e es ih =>
    obtain ⟨m1, o, h1, _⟩ := mStep_spec (F := F) fuel m e
    obtain ⟨m2, os, h2, hl⟩ := ih m1
    exact ⟨m2, o :: os, mRun_cons_of fuel m m1 m2 e es o os h1 h2, by simp [hl]⟩

theorem mRun_length (fuel : Nat) (m m' : MState) (evs : List MEvent) (outs : List MOut)
    (h : mRun F fuel m evs = some (m', outs)) : outs.length = evs.length := by
  obtain ⟨m1, outs1, h1, hl⟩ := multi_total (F := F) fuel m evs
  cases h1.symm.trans h
  exact hl

theorem multi_never_fails (fuel : Nat) (m : MState) (evs : List MEvent) : mRun F fuel m evs ≠ none := by
  obtain ⟨m', outs, h, _⟩ := multi_total (F := F) fuel m evs
  rw [h]; simp

theorem mRun_append (fuel : Nat) (m m1 m2 : MState) (es es' : List MEvent) (os os' : List MOut)
    (h1 : mRun F fuel m es = some (m1, os)) (h2 : mRun F fuel m1 es' = some (m2, os')) :
    mRun F fuel m (es ++ es') = some (m2, os ++ os') := by
  induction es generalizing m os with
  | nil =>
    simp only [mRun, Option.some.injEq, Prod.mk.injEq] at h1
    obtain ⟨rfl, rfl⟩ := h1
    exact h2
  | cons e es ih =>
    obtain ⟨ma, o, osa, hs, hr, rfl⟩ := mRun_cons_some fuel m m1 e es os h1
    exact mRun_cons_of fuel m ma m2 e (es ++ es') o (osa ++ os') hs (ih ma osa hr)

/-- the run up to position `i`, and what the event at position `i` — there is one for every
    output — did to the state reached -/
theorem mRun_at (fuel : Nat) (m m' : MState) (evs : List MEvent) (outs : List MOut)
    (h : mRun F fuel m evs = some (m', outs)) (i : Nat) (o : MOut) (ho : outs[i]? = some o) :
    ∃ e m1 os1 m2, evs[i]? = some e ∧ mRun F fuel m (evs.take i) = some (m1, os1) ∧ Step F fuel m1 e m2 o := by
  induction evs generalizing m outs i with
  | nil =>
    simp only [mRun, Option.some.injEq, Prod.mk.injEq] at h
    rw [← h.2] at ho; cases ho
  | cons e0 es ih =>
    obtain ⟨ma, o0, os, hs, hr, rfl⟩ := mRun_cons_some fuel m m' e0 es outs h
    cases i with
    | zero =>
      cases ho
      exact ⟨e0, m, [], ma, rfl, rfl, mStep_ok hs⟩
    | succ i =>
      obtain ⟨e, m1, os1, m2, h0, h1, h2⟩ := ih ma os hr i (by simpa using ho)
      exact ⟨e, m1, o0 :: os1, m2, by simpa using h0,
        by simpa using mRun_cons_of fuel m ma m1 e0 (es.take i) o0 os1 hs h1, h2⟩

/-- the other way round: the output at the position of an event -/
theorem mRun_at_event (fuel : Nat) (m m' : MState) (evs : List MEvent) (outs : List MOut)
    (h : mRun F fuel m evs = some (m', outs)) (i : Nat) (e : MEvent) (hi : evs[i]? = some e) :
    ∃ o m1 os1 m2, outs[i]? = some o ∧ mRun F fuel m (evs.take i) = some (m1, os1) ∧ Step F fuel m1 e m2 o := by
  have hlt : i < outs.length := by
    rw [mRun_length fuel m m' evs outs h]; exact (List.getElem?_eq_some_iff.1 hi).1
  obtain ⟨e', m1, os1, m2, he, h1, h2⟩ := mRun_at fuel m m' evs outs h i _ (List.getElem?_eq_getElem hlt)
  cases he.symm.trans hi
  exact ⟨_, m1, os1, m2, List.getElem?_eq_getElem hlt, h1, h2⟩

theorem mUpdate_refines (fuel : Nat) (u : Str) (m : MState) (text : Str) :
    (mUpdate F fuel m u text).map (fun r => (({ doc := mLookup u r.1 } : LspState), r.2.forget)) =
      lspUpdate F fuel text := by
  simp only [mUpdate, lspUpdate]
  split
  · rfl
  · cases lspDiagnostics (lspAnalyze (F := F) fuel text) with
    | none => rfl
    | some ds => simp only [Option.map_some, mLookup_insert_same, MOut.forget]

/-- one step, an event FOR key `u`: exactly a step of `lspStep` on the entry of `u` -/
theorem mStep_refines (fuel : Nat) (u : Str) (m : MState) (e : MEvent) (e' : LspEvent) (he : e.proj u = some e') :
    (mStep F fuel m e).map (fun r => (({ doc := mLookup u r.1 } : LspState), r.2.forget)) =
      lspStep F fuel { doc := mLookup u m } e' := by
  cases e <;> simp only [MEvent.proj] at he <;> (try split at he) <;> cases he
  case «open» uri text h => exact h ▸ mUpdate_refines fuel uri m text
  case change uri texts h =>
    subst h
    simp only [mStep, lspStep]
    cases texts.getLast? with
    | none => rfl
    | some text => exact mUpdate_refines fuel uri m text
  case close => rfl
  case tokens uri h =>
    subst h
    simp only [mStep, lspStep]
    cases hd : mLookup uri m with
    | none => simp only [Option.map_some, MOut.forget, hd]
    | some text =>
      simp only
      cases semanticTokens (lspAnalyze (F := F) fuel text) with
      | none => rfl
      | some ts => simp only [Option.map_some, MOut.forget, hd]

/-- one step, an event NOT for key `u` (another key, or the handshake): the entry of `u`
    is untouched -/
theorem mStep_frame (fuel : Nat) (u : Str) (m m' : MState) (e : MEvent) (o : MOut) (he : e.proj u = none)
    (h : mStep F fuel m e = some (m', o)) : mLookup u m' = mLookup u m := by
  cases mStep_ok h with
  | submit hk _ _ => exact mLookup_insert_other _ _ _ _ fun e' => (proj_none_iff u e).1 he (e' ▸ hk)
  | _ => rfl

/-- **Refinement.**  Project any event sequence to the events of one key `u` (raw string
    equality): what the multi-document server stores and answers for `u` is exactly a run
    of the one-document machine `lspStep` of Abasic/Ref/Lsp.lean, started from the entry
    of `u`.  Hence every theorem of C20Server transfers to every key. -/
theorem multi_refines (fuel : Nat) (u : Str) (m m' : MState) (evs : List MEvent) (outs : List MOut)
    (h : mRun F fuel m evs = some (m', outs)) :
    lspRun F fuel { doc := mLookup u m } (evs.filterMap (MEvent.proj u)) =
      some ({ doc := mLookup u m' }, projOuts u evs outs) := by
  induction evs generalizing m outs with
  | nil =>
    simp only [mRun, Option.some.injEq, Prod.mk.injEq] at h
    obtain ⟨rfl, rfl⟩ := h
    rfl
  | cons e es ih =>
    obtain ⟨m1, o, os, hs, hr, rfl⟩ := mRun_cons_some fuel m m' e es outs h
    have ih1 := ih m1 os hr
    cases hp : e.proj u with
    | none =>
      rw [List.filterMap_cons, hp]
      simp only [projOuts, hp, Option.isSome_none, Bool.false_eq_true, if_false]
      rw [← mStep_frame fuel u m m1 e o hp hs]
      exact ih1
    | some e' =>
      rw [List.filterMap_cons, hp]
      simp only [projOuts, hp, Option.isSome_some, if_true]
      have hst := mStep_refines (F := F) fuel u m e e' hp
      rw [hs] at hst
      simp only [Option.map_some] at hst
      simp only [lspRun, ← hst, ih1]

/-- **multi_doc_is_latest.**  After any event sequence from any state, the entry of EVERY
    key `u` is the text of the last `didOpen` / non-empty `didChange` (its last content
    change) whose URI string is exactly `u`; without any, what was stored before (nothing,
    from the empty start state).  Events for other keys — differing in case or
    percent-escaping included — `didClose` and the handshake play no role. -/
theorem multi_doc_is_latest (fuel : Nat) (m m' : MState) (evs : List MEvent) (outs : List MOut)
    (h : mRun F fuel m evs = some (m', outs)) (u : Str) : mLookup u m' = mLatest u m evs := by
  rw [mLatest_proj]
  exact doc_is_latest (F := F) fuel _ _ _ _ (multi_refines (F := F) fuel u m m' evs outs h)

theorem multi_independent_state (fuel : Nat) (v : Str) (m m' : MState) (e : MEvent) (o : MOut)
    (he : e.key ≠ some v) (h : mStep F fuel m e = some (m', o)) : mLookup v m' = mLookup v m :=
  mStep_frame fuel v m m' e o ((proj_none_iff v e).2 he) h

/-- two steps of the same event whose outputs agree up to the URI agree: the URI is the event's key -/
theorem Step.forget_inj {fuel : Nat} {m1 m2 m1' m2' : MState} {e : MEvent} {o1 o2 : MOut}
    (s1 : Step F fuel m1 e m1' o1) (s2 : Step F fuel m2 e m2' o2) (h : o1.forget = o2.forget) : o1 = o2 := by
  cases s1 <;> cases s2 <;> cases h
  case submit.submit hk1 _ _ _ hk2 _ _ => cases hk1.symm.trans hk2; rfl
  all_goals rfl

/-- what the server answers to an event for key `v`, and the entry of `v` afterwards,
    depend on the state only through the entry of `v`: they are those of the one-document
    machine on that entry (`mStep_refines`) -/
theorem multi_independent_answer (fuel : Nat) (v : Str) (m1 m2 m1' m2' : MState) (e : MEvent) (o1 o2 : MOut)
    (hm : mLookup v m1 = mLookup v m2) (he : e.key = some v)
    (h1 : mStep F fuel m1 e = some (m1', o1)) (h2 : mStep F fuel m2 e = some (m2', o2)) :
    o1 = o2 ∧ mLookup v m1' = mLookup v m2' := by
  cases hp : e.proj v with
  | none => exact absurd he ((proj_none_iff v e).1 hp)
  | some e' =>
    have r1 := mStep_refines (F := F) fuel v m1 e e' hp
    have r2 := mStep_refines (F := F) fuel v m2 e e' hp
    rw [h1, hm, ← r2, h2] at r1
    simp only [Option.map_some, Option.some.injEq, Prod.mk.injEq, LspState.mk.injEq] at r1
    exact ⟨(mStep_ok h1).forget_inj (mStep_ok h2) r1.2, r1.1⟩

/-- **multi_independent** (frame, whole runs).  Two runs whose start states agree on key
    `v` and whose event sequences contain the same events FOR `v` in the same order —
    whatever else happens in between for other keys — end with the same entry for `v` and
    send the same answers to the events for `v`. -/
theorem multi_independent (fuel : Nat) (v : Str) (m1 m2 m1' m2' : MState) (evs1 evs2 : List MEvent)
    (outs1 outs2 : List MOut) (hm : mLookup v m1 = mLookup v m2)
    (hp : evs1.filterMap (MEvent.proj v) = evs2.filterMap (MEvent.proj v))
    (h1 : mRun F fuel m1 evs1 = some (m1', outs1)) (h2 : mRun F fuel m2 evs2 = some (m2', outs2)) :
    mLookup v m1' = mLookup v m2' ∧ projOuts v evs1 outs1 = projOuts v evs2 outs2 := by
  have r1 := multi_refines (F := F) fuel v m1 m1' evs1 outs1 h1
  have r2 := multi_refines (F := F) fuel v m2 m2' evs2 outs2 h2
  rw [hm, hp, r2] at r1
  simp only [Option.some.injEq, Prod.mk.injEq, LspState.mk.injEq] at r1
  exact ⟨r1.1.symm, r1.2.symm⟩

theorem proj_filter_key (v : Str) (evs : List MEvent) :
    (evs.filter (fun e => e.key = some v)).filterMap (MEvent.proj v) = evs.filterMap (MEvent.proj v) := by
  induction evs with
  | nil => rfl
  | cons e es ih =>
    by_cases hk : e.key = some v
    · simp only [List.filter_cons, hk, decide_true, if_true, List.filterMap_cons, ih]
    · simp only [List.filter_cons, hk, decide_false, Bool.false_eq_true, if_false, List.filterMap_cons,
        (proj_none_iff v e).2 hk, ih]

/-- in particular: deleting ALL events for other keys (and handshakes) from a history
    changes neither the entry of `v` nor any answer to an event for `v` -/
theorem multi_independent_filter (fuel : Nat) (v : Str) (m m' m'' : MState) (evs : List MEvent)
    (outs outs' : List MOut) (h1 : mRun F fuel m evs = some (m', outs))
    (h2 : mRun F fuel m (evs.filter (fun e => e.key = some v)) = some (m'', outs')) :
    mLookup v m' = mLookup v m'' ∧ projOuts v evs outs = projOuts v (evs.filter (fun e => e.key = some v)) outs' :=
  multi_independent fuel v m m m' m'' _ _ outs outs' rfl (proj_filter_key v evs).symm h1 h2

/-- **multi_diags_are_messages.**  EVERY `publishDiagnostics` of a run — the output at any
    position `i` — is for the key `u` of the event at that position, which carried a text
    for `u`; that text is the latest text of `u` at that moment (and the entry of `u`);
    the published list is `lspDiagnostics (lspAnalyze fuel text)`, i.e. exactly the
    analyzer's messages for that text, in order, mapped to positions, and every one of them
    lies on an existing line of THAT document with `startCol ≤ endCol ≤` the line's UTF-16
    length. -/
theorem multi_diags_are_messages (fuel : Nat) (m m' : MState) (evs : List MEvent) (outs : List MOut)
    (h : mRun F fuel m evs = some (m', outs)) (i : Nat) (u : Str) (ds : List LspDiag)
    (ho : outs[i]? = some (.publish u ds)) :
    ∃ e text, evs[i]? = some e ∧ e.key = some u ∧ (mSubmitted u e).getLast? = some text ∧
      mLatest u m (evs.take (i + 1)) = some text ∧
      lspDiagnostics (lspAnalyze (F := F) fuel text) = some ds ∧
      ds = (lspAnalyze (F := F) fuel text).messages.filterMap (diagAt (lspAnalyze (F := F) fuel text)) ∧
      ∀ d ∈ ds, d.line < (splitDocumentLines text).length ∧
        ∃ l, (splitDocumentLines text)[d.line]? = some l ∧ d.startCol ≤ d.endCol ∧ d.endCol ≤ utf16Len l := by
  obtain ⟨e, m1, os1, m2, hei, _, hs⟩ := mRun_at fuel m m' evs outs h i _ ho
  cases hs with
  | submit hk ht hds =>
    refine ⟨e, _, hei, hk, ht, ?_, hds, published_ok fuel _ ds hds⟩
    rw [List.take_add_one, hei, Option.toList_some, mLatest_snoc, ht]

/-- conversely every `didOpen` and every non-empty `didChange` is answered by a publish for
    its own key with the diagnostics of its (last) text -/
theorem submit_publishes (fuel : Nat) (m m' : MState) (evs : List MEvent) (outs : List MOut)
    (h : mRun F fuel m evs = some (m', outs)) (i : Nat) (e : MEvent) (u text : Str)
    (hi : evs[i]? = some e) (hk : e.key = some u) (ht : (mSubmitted u e).getLast? = some text) :
    ∃ ds, lspDiagnostics (lspAnalyze (F := F) fuel text) = some ds ∧ outs[i]? = some (.publish u ds) := by
  obtain ⟨o, m1, os1, m2, hout, _, hs⟩ := mRun_at_event fuel m m' evs outs h i e hi
  cases hs with
  | submit hk' ht' hds =>
    cases hk'.symm.trans hk
    cases ht'.symm.trans ht
    exact ⟨_, hds, hout⟩
  | tokens | unknown => cases ht
  | ignored hq => rw [hq] at ht; cases ht

/-- **multi_tokens_are_latest.**  A tokens request for key `u` at ANY position of any run
    is answered from the latest text of `u` at that moment — the last text sent under
    exactly that URI string, whatever was sent for other keys: with
    `semanticTokens (lspAnalyze fuel text)`, never a failure of the conversion, and what the
    client decodes from the answer is the tokens at their absolute positions, strictly
    ordered, non-overlapping, inside the lines of THAT text, legend-typed
    (`semantic_tokens_ok`).  It is refused with `RequestFailed` exactly when nothing was
    ever sent for `u`. -/
theorem multi_tokens_are_latest (fuel : Nat) (m m' : MState) (evs : List MEvent) (outs : List MOut)
    (h : mRun F fuel m evs = some (m', outs)) (i : Nat) (u : Str) (hi : evs[i]? = some (.tokens u)) :
    match mLatest u m (evs.take i) with
    | some text =>
      ∃ ts, semanticTokens (lspAnalyze (F := F) fuel text) = some ts ∧ outs[i]? = some (.tokens ts) ∧
        decode ts = absToks (lspAnalyze (F := F) fuel text).lines (lspAnalyze (F := F) fuel text).lineTokens 0 ∧
        WellFormed (splitDocumentLines text) (decode ts)
    | none => outs[i]? = some .error := by
  obtain ⟨o, m1, os1, m2, hout, hpre, hs⟩ := mRun_at_event fuel m m' evs outs h i _ hi
  rw [← multi_doc_is_latest (F := F) fuel m m1 (evs.take i) os1 hpre u]
  cases hs with
  | tokens hl hts =>
    obtain ⟨ts', hts', hdec, hwf⟩ := semantic_tokens_ok (F := F) fuel _
    cases hts.symm.trans hts'
    rw [(lspAnalyze_lineTokens (F := F) fuel _).1] at hwf
    simp only [hl]
    exact ⟨_, hts, hout, hdec, hwf⟩
  | unknown hl => simp only [hl]; exact hout
  | submit _ ht => cases ht
  | ignored _ hne => exact absurd rfl (hne _)

/-- every tokens ANSWER in a run answers a tokens request, for the latest text of its key -/
theorem tokens_answers_are_latest (fuel : Nat) (m m' : MState) (evs : List MEvent) (outs : List MOut)
    (h : mRun F fuel m evs = some (m', outs)) (i : Nat) (ts : List SemTok) (ho : outs[i]? = some (.tokens ts)) :
    ∃ u text, evs[i]? = some (.tokens u) ∧ mLatest u m (evs.take i) = some text ∧
      semanticTokens (lspAnalyze (F := F) fuel text) = some ts ∧
      WellFormed (splitDocumentLines text) (decode ts) := by
  obtain ⟨e, m1, os1, m2, hei, hpre, hs⟩ := mRun_at fuel m m' evs outs h i _ ho
  cases hs with
  | tokens hl hts =>
    rw [multi_doc_is_latest (F := F) fuel m m1 (evs.take i) os1 hpre] at hl
    have := multi_tokens_are_latest (F := F) fuel m m' evs outs h i _ hei
    rw [hl] at this
    obtain ⟨ts', hts', ho', _, hwf⟩ := this
    cases ho.symm.trans ho'
    exact ⟨_, _, hei, hl, hts, hwf⟩

/-- the `.error` outputs of a run are exactly the tokens requests for keys for which
    nothing was ever sent (under that exact string) -/
theorem errors_are_unknown_keys (fuel : Nat) (m m' : MState) (evs : List MEvent) (outs : List MOut)
    (h : mRun F fuel m evs = some (m', outs)) (i : Nat) :
    outs[i]? = some .error ↔ ∃ u, evs[i]? = some (.tokens u) ∧ mLatest u m (evs.take i) = none := by
  constructor
  · intro ho
    obtain ⟨e, m1, os1, m2, hei, hpre, hs⟩ := mRun_at fuel m m' evs outs h i _ ho
    cases hs with
    | unknown hl => exact ⟨_, hei, (multi_doc_is_latest (F := F) fuel m m1 (evs.take i) os1 hpre _).symm.trans hl⟩
  · rintro ⟨u, hi, hl⟩
    have := multi_tokens_are_latest (F := F) fuel m m' evs outs h i u hi
    rw [hl] at this
    exact this

/-- **reopen_replaces.**  `didOpen u t₁`, optionally `didClose u`, `didOpen u t₂`, then a
    tokens request for `u`: the second publish and the tokens answer are those of `t₂`, the
    entry is `t₂` and it is the ONLY entry for `u` — nothing of the analysis of `t₁`
    survives. -/
theorem reopen_replaces (fuel : Nat) (m : MState) (u t₁ t₂ : Str) (closed : Bool) :
    ∃ ds₁ ds₂ ts m',
      mRun F fuel m ([MEvent.open u t₁] ++ (if closed then [MEvent.close u] else []) ++
          [MEvent.open u t₂, MEvent.tokens u]) =
        some (m', [MOut.publish u ds₁] ++ (if closed then [MOut.none] else []) ++
          [MOut.publish u ds₂, MOut.tokens ts]) ∧
      lspDiagnostics (lspAnalyze (F := F) fuel t₁) = some ds₁ ∧
      lspDiagnostics (lspAnalyze (F := F) fuel t₂) = some ds₂ ∧
      semanticTokens (lspAnalyze (F := F) fuel t₂) = some ts ∧
      mLookup u m' = some t₂ ∧ m'.filter (fun p => p.1 = u) = [(u, t₂)] := by
  obtain ⟨ds₁, hd1, hu1⟩ := mUpdate_eq (F := F) fuel m u t₁
  obtain ⟨ds₂, hd2, hu2⟩ := mUpdate_eq (F := F) fuel (mInsert u t₁ m) u t₂
  obtain ⟨ts, hts, _⟩ := semantic_tokens_ok (F := F) fuel t₂
  refine ⟨ds₁, ds₂, ts, mInsert u t₂ (mInsert u t₁ m), ?_, hd1, hd2, hts, mLookup_insert_same _ _ _,
    mInsert_replaces _ _ _⟩
  cases closed <;>
    simp only [List.cons_append, List.nil_append, Bool.false_eq_true, if_false, if_true, mRun, mStep, hu1, hu2,
      mLookup_insert_same, hts]

/-- the same after ANY history and with ANYTHING in between that does not send a new text
    for `u`: a tokens request for `u` is answered for the text of the last open -/
theorem reopen_replaces_general (fuel : Nat) (m m' : MState) (pre mid post : List MEvent) (u t₂ : Str)
    (outs : List MOut) (hmid : ∀ e ∈ mid, mSubmitted u e = [])
    (h : mRun F fuel m (pre ++ [MEvent.open u t₂] ++ mid ++ MEvent.tokens u :: post) = some (m', outs)) :
    ∃ ts, semanticTokens (lspAnalyze (F := F) fuel t₂) = some ts ∧
      outs[(pre ++ [MEvent.open u t₂] ++ mid).length]? = some (.tokens ts) := by
  have hi : (pre ++ [MEvent.open u t₂] ++ mid ++ MEvent.tokens u :: post)[(pre ++ [MEvent.open u t₂] ++ mid).length]? =
      some (.tokens u) := by
    rw [List.getElem?_append_right (Nat.le_refl _)]
    simp
  have := multi_tokens_are_latest (F := F) fuel m m' _ outs h _ u hi
  rw [List.take_left'  rfl] at this
  have hl : mLatest u m (pre ++ [MEvent.open u t₂] ++ mid) = some t₂ := by
    unfold mLatest mLastSubmitted
    have hm : mid.flatMap (mSubmitted u) = [] := by
      rw [List.flatMap_eq_nil_iff]; exact hmid
    rw [List.flatMap_append, hm, List.append_nil, List.flatMap_append, List.getLast?_append]
    simp [mSubmitted]
  rw [hl] at this
  obtain ⟨ts, hts, ho, _⟩ := this
  exact ⟨ts, hts, ho⟩

theorem hello_step (fuel : Nat) (m : MState) (p : Str) : mStep F fuel m (.hello p) = some (m, .none) := rfl

/-- **hello_irrelevant.**  A handshake with ANY parameters `p` at ANY position of an event
    sequence contributes one parameter-independent output and nothing else: the final state
    and all other outputs are those of the sequence without it.  In particular `mStep` after
    `hello p` is `mStep` without it (`hello_then_step`), and `p` occurs in no later answer. -/
theorem hello_irrelevant (fuel : Nat) (m : MState) (pre post : List MEvent) :
    ∃ m1 os1 m2 os2, mRun F fuel m pre = some (m1, os1) ∧ mRun F fuel m1 post = some (m2, os2) ∧
      mRun F fuel m (pre ++ post) = some (m2, os1 ++ os2) ∧
      ∀ p, mRun F fuel m (pre ++ .hello p :: post) = some (m2, os1 ++ .none :: os2) := by
  obtain ⟨m1, os1, h1, _⟩ := multi_total (F := F) fuel m pre
  obtain ⟨m2, os2, h2, _⟩ := multi_total (F := F) fuel m1 post
  refine ⟨m1, os1, m2, os2, h1, h2, mRun_append fuel m m1 m2 pre post os1 os2 h1 h2, fun p => ?_⟩
  exact mRun_append fuel m m1 m2 pre (.hello p :: post) os1 (.none :: os2) h1
    (mRun_cons_of fuel m1 m1 m2 (.hello p) post .none os2 rfl h2)

theorem hello_then_step (fuel : Nat) (m : MState) (p : Str) (e : MEvent) :
    mRun F fuel m [.hello p, e] = (mStep F fuel m e).map (fun r => (r.1, [MOut.none, r.2])) := by
  simp only [mRun, hello_step]
  cases mStep F fuel m e with
  | none => rfl
  | some r => rfl

theorem hello_params_irrelevant (fuel : Nat) (m : MState) (pre post : List MEvent) (p q : Str) :
    mRun F fuel m (pre ++ .hello p :: post) = mRun F fuel m (pre ++ .hello q :: post) := by
  obtain ⟨m1, os1, m2, os2, _, _, _, h⟩ := hello_irrelevant (F := F) fuel m pre post
  rw [h p, h q]

/-- `didClose` for any key: nothing is removed (main.rs never matches the notification) -/
theorem multi_close_keeps (fuel : Nat) (m : MState) (u : Str) : mStep F fuel m (.close u) = some (m, .none) := rfl

/-- several content changes in one `didChange` for a key: the last one wins, exactly like
    a `didOpen` of that text for that key (which also means: a `didChange` for a key never
    opened CREATES the entry) -/
theorem multi_change_last_wins (fuel : Nat) (m : MState) (u : Str) (texts : List Str) (text : Str) :
    mStep F fuel m (.change u (texts ++ [text])) = mStep F fuel m (.open u text) := by
  simp [mStep]

/-- a `didChange` without content changes: nothing is stored, nothing is published -/
theorem multi_change_empty_keeps (fuel : Nat) (m : MState) (u : Str) :
    mStep F fuel m (.change u []) = some (m, .none) := rfl

/-- keys are raw strings: an open under one spelling does not create an entry for another -/
theorem other_spelling_unknown (fuel : Nat) (u v t : Str) (h : v ≠ u) :
    ∃ ds, mRun F fuel [] [.open u t, .tokens v] = some (mInsert u t [], [.publish u ds, .error]) := by
  obtain ⟨ds, _, hu⟩ := mUpdate_eq (F := F) fuel [] u t
  refine ⟨ds, ?_⟩
  have : mLookup v (mInsert u t []) = none := by rw [mLookup_insert_other u v t [] h]; rfl
  simp only [mRun, mStep, hu, this]

/-- handshake; three keys, two of which differ only in letter case; a tokens request;
    a `didClose` and a re-open of the first key with another text; tokens requests for the
    re-opened key, for the key differing in case, and for a percent-escaped spelling of
    the first key (never sent under that string). -/
def exampleEvents : List MEvent :=
  [ .hello "{\"processId\":1}".toList,
    .open "file:///a.bas".toList "10 PRINT \"A\"".toList,
    .open "file:///A.BAS".toList "10 PRINT X".toList,
    .open "file:///b.bas".toList "10 REM B".toList,
    .tokens "file:///a.bas".toList,
    .close "file:///a.bas".toList,
    .open "file:///a.bas".toList "10 END".toList,
    .tokens "file:///a.bas".toList,
    .tokens "file:///A.BAS".toList,
    .tokens "file:///%61.bas".toList ]

/-- The run, computed by the kernel: three entries at the end, one per key, `a.bas` with
    the text of its SECOND open; every publish and every tokens answer is that of the text
    last sent under exactly that key; the percent-escaped spelling is an unknown document:
    `RequestFailed`. -/
theorem example_run : mRun Unit 50 [] exampleEvents =
    some ([("file:///a.bas".toList, "10 END".toList), ("file:///b.bas".toList, "10 REM B".toList),
           ("file:///A.BAS".toList, "10 PRINT X".toList)],
      [.none,
       .publish "file:///a.bas".toList [],
       .publish "file:///A.BAS".toList [⟨0, 9, 10, false, "'X' is never defined.".toList⟩],
       .publish "file:///b.bas".toList [],
       .tokens [⟨0, 0, 2, 2⟩, ⟨0, 3, 5, 5⟩, ⟨0, 6, 3, 1⟩],
       .none,
       .publish "file:///a.bas".toList [],
       .tokens [⟨0, 0, 2, 2⟩, ⟨0, 3, 3, 5⟩],
       .tokens [⟨0, 0, 2, 2⟩, ⟨0, 3, 5, 5⟩, ⟨0, 6, 1, 0⟩],
       .error]) := by
  unfold exampleEvents
  literal_chars
  decide +kernel

/-- the specification side on the same history: the latest text per key -/
example : mLatest "file:///a.bas".toList [] exampleEvents = some "10 END".toList ∧
    mLatest "file:///a.bas".toList [] (exampleEvents.take 4) = some "10 PRINT \"A\"".toList ∧
    mLatest "file:///A.BAS".toList [] exampleEvents = some "10 PRINT X".toList ∧
    mLatest "file:///%61.bas".toList [] exampleEvents = none := by
  unfold exampleEvents
  literal_chars
  decide +kernel

/-- the projection of the history to the key `file:///a.bas`, and to its upper-case twin -/
example : exampleEvents.filterMap (MEvent.proj "file:///a.bas".toList) =
    [.open "10 PRINT \"A\"".toList, .tokensRequest, .close, .open "10 END".toList, .tokensRequest] ∧
    exampleEvents.filterMap (MEvent.proj "file:///A.BAS".toList) = [.open "10 PRINT X".toList, .tokensRequest] := by
  unfold exampleEvents
  literal_chars
  decide +kernel

/-- the refinement on the example: the one-document machine on the projected history gives
    the answers the multi-document server gave for that key -/
example : lspRun Unit 50 {} (exampleEvents.filterMap (MEvent.proj "file:///a.bas".toList)) =
    some ({ doc := some "10 END".toList },
      [.publish [], .tokens [⟨0, 0, 2, 2⟩, ⟨0, 3, 5, 5⟩, ⟨0, 6, 3, 1⟩], .none, .publish [],
       .tokens [⟨0, 0, 2, 2⟩, ⟨0, 3, 3, 5⟩]]) := by
  exact (multi_refines (F := Unit) 50 "file:///a.bas".toList [] _ exampleEvents _ example_run).trans
    (by decide +kernel)

end Abasic.Props.C20
