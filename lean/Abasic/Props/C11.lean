import Abasic.Props.C07
import Abasic.Proofs.Turn
/-
  C11 — editing the program invalidates every runtime reference into it.
-/
namespace Abasic.Props.C11
open Abasic

variable {F : Type} [NumOps F]

/-- the state after a successful edit of line `n` -/
def afterEdit (σ : St F) (n : Nat) (ts : List (Token F)) : St F :=
  (σ.setImmediate []).setNumberedLine n ts

/-- A successfully tokenized numbered line, entered at any moment the
    interpreter is idle (fresh, at a breakpoint, inside loops or subroutines, with
    a half-read DATA list), yields exactly `afterEdit`. -/
theorem edit_result (fuel : Nat) (line : Str) (σ : St F) (n k : Nat) (ts : List (Token F))
    (hidle : σ.state = .idle)
    (hcmd : (commandWord line).bind Command.ofWord = none)
    (hn : parseLineNumber line = some (n, k))
    (ht : tokenize (F := F) line k = .ok ts) :
    startEvaluating fuel line σ = .ok () (afterEdit σ n ts) :=
  C01.start_numbered fuel line σ n k ts hidle hcmd hn ht

omit [NumOps F] in
/-- Every runtime reference into the old program is gone; variables and arrays are kept. -/
theorem edit_clears (σ : St F) (n : Nat) (ts : List (Token F)) :
    let σ' := afterEdit σ n ts
    σ'.bp = none ∧ σ'.stack = [] ∧ σ'.loops = [] ∧ σ'.fns = [] ∧ σ'.data = none ∧
    σ'.loc = {} ∧ σ'.imm = [] ∧ σ'.vars = σ.vars ∧ σ'.arrays = σ.arrays ∧ σ'.state = σ.state := by
  simp [afterEdit, St.setNumberedLine, St.setImmediate]

/-- CONT after an edit: CAN'T CONTINUE. -/
theorem cont_after_edit (fuel : Nat) (line : Str) (σ : St F)
    (hidle : σ.state = .idle) (hbp : σ.bp = none)
    (hcmd : (commandWord line).bind Command.ofWord = some .cont) :
    ∃ σ' e, startEvaluating fuel line σ = .err e σ' ∧ e.err = .cannotContinue ∧ σ'.state = .idle := by
  refine ⟨_, _, C01.postprocess_of_err (C07.cont_refused fuel line hidle hbp hcmd), ?_, rfl⟩
  simp [St.populate]

omit [NumOps F] in
/-- RETURN with an empty subroutine stack: RETURN WITHOUT GOSUB (the statement
    level fact behind the probe; the stack is empty after every edit). -/
theorem return_without_gosub (σ : St F) (h : σ.stack = []) :
    ∃ σ', returnFromGosub σ = .err { err := .returnWithoutGosub } σ' := by
  refine ⟨{ σ with bp := none }, ?_⟩
  simp [returnFromGosub, bind, M.bindM, M.modify, M.get, h, M.fail]

theorem endLoop_noloop (σ : St F) (sym : Str) (x : F) (h : removeLoop sym σ.loops = none)
    (hv : getVar σ sym = .num x) :
    endLoop sym σ = .err { err := .nextWithoutFor } σ := by
  simp [endLoop, bind, M.bindM, M.get, hv, h, M.fail]

/-- NEXT with no open loop for a numeric variable: NEXT WITHOUT FOR. -/
theorem next_without_for (σ : St F) (sym : Str) (x : F) (h : σ.loops = [])
    (hv : getVar σ sym = .num x) :
    endLoop sym σ = .err { err := .nextWithoutFor } σ :=
  endLoop_noloop σ sym x (by rw [h]; rfl) hv

theorem next_stmt (fuel : Nat) (s : St F) (q : Str) (rest : List (Token F)) (x : F)
    (hv : getVar s q = .num x) (hl : removeLoop q s.loops = none) :
    stmtBody (evalN fuel) (Turn.typed s (.kw .Next :: .symbol q :: rest)) =
      .err { err := .nextWithoutFor }
        (ExprL.mv (Turn.typed s (.kw .Next :: .symbol q :: rest)) 2 (s.reads + 1 + 1 + 1)) := by
  have hAt : ExprL.At (ExprL.mv (Turn.typed s (.kw .Next :: .symbol q :: rest)) 1 (s.reads + 1 + 1)) [.kw .Next]
      (.symbol q :: rest) := ⟨rfl, rfl⟩
  refine (Turn.stmtBody_typed fuel s _ _ rfl).trans ?_
  show nextStatement _ = _
  unfold nextStatement
  rw [ExprL.bind_ok (ExprL.next_eq hAt)]
  exact endLoop_noloop _ q x hl hv

/-- READ after an edit starts again from the first DATA item of the edited
    program: the cursor is rebuilt from the current lines. -/
theorem read_restarts (σ : St F) (h : σ.data = none)
    (chunks : List (Loc × List (DataElement F))) (hc : σ.lines.dataChunks = some chunks) :
    nextDataElement σ =
      .ok (DataIter.next { chunks := chunks } (chunks.length + 1)).1
        { σ with data := some (DataIter.next { chunks := chunks } (chunks.length + 1)).2 } := by
  simp only [nextDataElement, bind, M.bindM, M.get, h, hc, pure, M.pureM, M.modify]

omit [NumOps F] in
/-- A former function name is no longer a function: the call site falls back
    to an array reference (`userFunctionCall` declines). -/
theorem function_gone (ev : Evals F) (σ : St F) (name : Str) (h : σ.fns = []) :
    userFunctionCall ev name σ = .ok none σ := by
  simp [userFunctionCall, bind, M.bindM, M.get, h, alGet, pure, M.pureM]

/-- A rejected edit (tokenization error) invalidates nothing: breakpoint,
    stack (when a breakpoint is pending), loops, functions, data cursor,
    variables and arrays are as before. -/
theorem failed_edit_inert (fuel : Nat) (line : Str) (σ : St F) (e : TokErr)
    (hidle : σ.state = .idle)
    (hcmd : (commandWord line).bind Command.ofWord = none)
    (ht : tokenize (F := F) line ((parseLineNumber line).map (·.2) |>.getD 0) = .error e) :
    ∃ σ' te, startEvaluating fuel line σ = .err te σ' ∧
      σ'.bp = σ.bp ∧ σ'.loops = σ.loops ∧ σ'.fns = σ.fns ∧ σ'.data = σ.data ∧ σ'.lines = σ.lines ∧
      σ'.vars = σ.vars ∧ σ'.arrays = σ.arrays ∧ (σ.bp ≠ none → σ'.stack = σ.stack) := by
  refine ⟨_, _, C01.start_tok_error fuel line σ e hidle hcmd ht, rfl, rfl, rfl, rfl, rfl, rfl, rfl, ?_⟩
  intro hbp
  cases hb : σ.bp with
  | none => exact absurd hb hbp
  | some b => simp [St.setImmediate, hb]

/-- Non-vacuity: a state inside a loop and a subroutine with a breakpoint. -/
example : let σ : St Unit := { bp := some (10, 1), stack := [{ ret := {}, vars := [] }],
                               loops := [{ loc := {}, sym := ['I'], toV := (), stepV := () }], fns := [(['F'], { args := [], line := 1, idx := 0 })] }
    (afterEdit σ 20 [.kw .End]).stack = [] ∧ (afterEdit σ 20 [.kw .End]).loops.length = 0 ∧ σ.state = .idle := by
  decide

end Abasic.Props.C11
