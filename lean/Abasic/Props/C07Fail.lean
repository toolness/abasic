import Abasic.Props.C07Inspect
import Abasic.Props.C14More
import Abasic.Props.C11
/-
  C07: inspections that FAIL.

  The property: "inspecting state at the breakpoint with statements that assign
  nothing, including ones that fail with an error, does not change the
  continuation".

  What `inspect_then_cont` (Props/C07Inspect.lean) covers: every line of
  PRINT statements, whatever the outcome of its turns — its hypothesis speaks of
  the FINAL state of the inspection, be it reached by `ok` or by `err`.  So a
  PRINT that fails in the middle of an expression (division by zero, type
  mismatch, a syntax error in the argument list of a function, …) after having
  evaluated and even printed other things is covered, under the same two
  provisos (no array auto-created, generator not advanced).  That case is
  `failing_print_then_cont`.

  What it does not cover, and is proved here (`failing_inspection_then_cont`,
  class `SafeFail`):
    * `tokfail`      — the typed line fails at tokenization (nothing is executed;
                        also when it starts with a line number: nothing is stored);
    * `unexpected`   — the first token starts no statement (a number, a string,
                        THEN, TO, `)`, …): UNEXPECTED TOKEN;
    * `nextNoLoop`   — `NEXT Q` without a loop for `Q`: NEXT WITHOUT FOR — the loop
                        stack is NOT touched;
    * `gotoNoNumber` / `gosubNoNumber` — GOTO / GOSUB not followed by a numeral
                        (`GOTO X`, `GOTO`): UNDEFINED STATEMENT before anything is done.
  For these the state after the failed inspection differs from the state at the
  breakpoint only in the dead immediate line, the cursor on it and the read
  counter (`DeadOnly`), and CONT continues exactly as without it.

  The UNSAFE failing statements — they assign nothing, fail, and yet destroy or
  alter the continuation (each a kernel-checked fact, among the checked examples):
    * `GOTO 99999`, `GOSUB 99999`, `IF 1 THEN 99999` (undefined line): `goto_line_number`
      clears the breakpoint BEFORE it looks the line up — CONT then fails, CAN'T CONTINUE;
    * `RETURN` with an empty GOSUB stack: `return_to_last_gosub` clears the breakpoint first;
    * `FOR I$ = 1 TO 2`: `start_loop` pushes the loop record, then the assignment of the
      start value fails with TYPE MISMATCH — the loop stack has one more entry;
    * `READ X` without DATA: OUT OF DATA, but the data cursor has been created
      (`data` goes from `none` to an exhausted iterator; harmless for the continuation,
      but the state differs);
    * expressions that auto-create an array or call RND before failing (the provisos of
      `inspect_then_cont`: `inspect_then_cont_needs_arrays`, `…_needs_rng`).
-/
namespace Abasic.Props.C07
open Abasic Abasic.Proofs.NumInv Abasic.Proofs.XF Abasic.Proofs.XQ Abasic.Proofs.Inspect Abasic.Hoare Abasic.Turn

variable {F : Type} [NumOps F]

theorem start_tokfail (fuel : Nat) (line : Str) (σ : St F) (e : TokErr)
    (hidle : σ.state = .idle)
    (hcmd : (commandWord line).bind Command.ofWord = none)
    (htok : tokenize (F := F) line (match parseLineNumber line with | some (_, k) => k | none => 0) = .error e) :
    startEvaluating fuel line σ =
      .err { err := .syntax (.tokenization e), loc := some { line := none, idx := 0 } }
        { σ.setImmediate [] with state := .idle } :=
  C01.start_tok_error fuel line σ e hidle hcmd (by cases h : parseLineNumber line <;> rw [h] at htok <;> exact htok)

/-- the tokens that start a statement (`evaluate_statement`'s match) -/
def stmtStart : Token F → Bool
  | .remark _ => true
  | .data _ => true
  | .symbol _ => true
  | .kw k => k == .Stop || k == .Dim || k == .Print || k == .QuestionMark || k == .Input || k == .If || k == .Goto ||
      k == .Gosub || k == .Return || k == .End || k == .For || k == .Next || k == .Restore || k == .Def ||
      k == .Read || k == .Colon || k == .Let
  | _ => false

/-- the first statement of the typed line fails and leaves `typed` with only the
    cursor moved and reads counted -/
def HarmlessStmt (fuel : Nat) (σ : St F) (ts : List (Token F)) : Prop :=
  ∃ e l r, stmtBody (evalN fuel) (typed σ ts) = .err e { typed σ ts with reads := r, loc := l }

theorem stmt_unexpected (fuel : Nat) (σ : St F) (t : Token F) (rest : List (Token F))
    (ht : stmtStart t = false) : HarmlessStmt fuel σ (t :: rest) := by
  refine ⟨{ err := .syntax .unexpectedToken }, { line := none, idx := 1 }, σ.reads + 1 + 1,
    (stmtBody_typed fuel σ t rest rfl).trans ?_⟩
  cases t with
  | remark s => cases ht
  | data d => cases ht
  | symbol s => cases ht
  | num x => rfl
  | str s => rfl
  | kw k => cases k <;> first | rfl | (exact absurd ht (by simp [stmtStart]))

theorem stmt_next_noloop (fuel : Nat) (σ : St F) (q : Str) (rest : List (Token F))
    (hq : ∃ x, getVar σ q = .num x) (hl : removeLoop q σ.loops = none) :
    HarmlessStmt fuel σ (.kw .Next :: .symbol q :: rest) :=
  let ⟨x, hx⟩ := hq
  ⟨{ err := .nextWithoutFor }, { line := none, idx := 2 }, σ.reads + 1 + 1 + 1, C11.next_stmt fuel σ q rest x hx hl⟩

theorem stmt_jump_nonumber (fuel : Nat) (σ : St F) (k : Kw) (hk : k = .Goto ∨ k = .Gosub) (rest : List (Token F))
    (hr : ∀ x, rest[0]? ≠ some (.num x)) : HarmlessStmt fuel σ (.kw k :: rest) := by
  -- what GOTO and GOSUB share: the token behind the keyword is looked at, and is no numeral
  have key : ∀ (jump : Nat → M F Unit), ∃ l r, (do match ← next with
        | some (.num x) => jump (NumOps.toU64 x)
        | _ => M.fail .undefinedStatement : M F Unit) (ExprL.mv (typed σ (.kw k :: rest)) 1 (σ.reads + 1 + 1)) =
      .err { err := .undefinedStatement } { typed σ (.kw k :: rest) with reads := r, loc := l } := by
    intro jump
    cases rest with
    | nil =>
      have hAt : ExprL.At (ExprL.mv (typed σ [.kw k]) 1 (σ.reads + 1 + 1)) [.kw k] [] := ⟨rfl, rfl⟩
      exact ⟨{ line := none, idx := 1 }, σ.reads + 1 + 1 + 1, by rw [ExprL.bind_ok (StmtL.next_none hAt)]; rfl⟩
    | cons t rest' =>
      have hAt : ExprL.At (ExprL.mv (typed σ (.kw k :: t :: rest')) 1 (σ.reads + 1 + 1)) [.kw k] (t :: rest') :=
        ⟨rfl, rfl⟩
      refine ⟨{ line := none, idx := 2 }, σ.reads + 1 + 1 + 1, ?_⟩
      rw [ExprL.bind_ok (ExprL.next_eq hAt)]
      cases t with
      | num x => exact absurd rfl (hr x)
      | _ => rfl
  rcases hk with rfl | rfl
  · obtain ⟨l, r, h⟩ := key gotoLine
    exact ⟨_, l, r, (stmtBody_typed fuel σ _ _ rfl).trans h⟩
  · obtain ⟨l, r, h⟩ := key gosubLine
    exact ⟨_, l, r, (stmtBody_typed fuel σ _ _ rfl).trans h⟩

/-- The safe class of failing inspections (besides failing PRINT lines, which
    `inspect_then_cont` covers).  `line` is what is typed at the breakpoint of `σ`. -/
inductive SafeFail (σ : St F) (line : Str) : Prop where
  | tokfail (e : TokErr)
      (htok : tokenize (F := F) line (match parseLineNumber line with | some (_, k) => k | none => 0) = .error e)
  | unexpected (t : Token F) (rest : List (Token F)) (hnum : parseLineNumber line = none)
      (htok : tokenize (F := F) line 0 = .ok (t :: rest)) (ht : stmtStart t = false)
  | nextNoLoop (q : Str) (rest : List (Token F)) (hnum : parseLineNumber line = none)
      (htok : tokenize (F := F) line 0 = .ok (.kw .Next :: .symbol q :: rest))
      (hq : ∃ x, getVar σ q = .num x) (hl : removeLoop q σ.loops = none)
  | gotoNoNumber (rest : List (Token F)) (hnum : parseLineNumber line = none)
      (htok : tokenize (F := F) line 0 = .ok (.kw .Goto :: rest)) (hr : ∀ x, rest[0]? ≠ some (.num x))
  | gosubNoNumber (rest : List (Token F)) (hnum : parseLineNumber line = none)
      (htok : tokenize (F := F) line 0 = .ok (.kw .Gosub :: rest)) (hr : ∀ x, rest[0]? ≠ some (.num x))

theorem safeFail_start (fuel : Nat) (line : Str) (σ : St F)
    (hidle : σ.state = .idle) (hbp : σ.bp.isSome = true)
    (hcmd : (commandWord line).bind Command.ofWord = none)
    (hs : SafeFail σ line) :
    ∃ te σ', startEvaluating fuel line σ = .err te σ' ∧ DeadOnly σ σ' [] := by
  have fromStmt : ∀ (t : Token F) (ts : List (Token F)), parseLineNumber line = none →
      tokenize (F := F) line 0 = .ok (t :: ts) → HarmlessStmt fuel σ (t :: ts) →
      ∃ te σ', startEvaluating fuel line σ = .err te σ' ∧ DeadOnly σ σ' [] := by
    intro t ts hnum htok ⟨e, l, r, hd⟩
    exact ⟨_, _, start_typed_err fuel line hidle hcmd hnum htok hd, ⟨rfl, rfl,
      (setImmediate_stack (σ := σ.setImmediate []) hbp (t :: ts)).trans (setImmediate_stack hbp []),
      rfl, rfl, rfl, rfl, rfl, hidle.symm, rfl, rfl, rfl, rfl, rfl, rfl, rfl⟩⟩
  cases hs with
  | tokfail e htok =>
    exact ⟨_, _, start_tokfail fuel line σ e hidle hcmd htok,
      ⟨rfl, rfl, setImmediate_stack hbp [], rfl, rfl, rfl, rfl, rfl, hidle.symm, rfl, rfl, rfl, rfl, rfl, rfl, rfl⟩⟩
  | unexpected t rest hnum htok ht => exact fromStmt _ _ hnum htok (stmt_unexpected fuel σ t rest ht)
  | nextNoLoop q rest hnum htok hq hl => exact fromStmt _ _ hnum htok (stmt_next_noloop fuel σ q rest hq hl)
  | gotoNoNumber rest hnum htok hr => exact fromStmt _ _ hnum htok (stmt_jump_nonumber fuel σ .Goto (.inl rfl) rest hr)
  | gosubNoNumber rest hnum htok hr => exact fromStmt _ _ hnum htok (stmt_jump_nonumber fuel σ .Gosub (.inr rfl) rest hr)

/-- `σ`: an idle interpreter with the breakpoint `(n, i)` pending.  `line`: an immediate
    line of the safe class `SafeFail`.  Then the inspection FAILS (the starting turn returns
    an error; whatever number `k` of further turns the host attempts changes nothing), the
    interpreter is idle again with the breakpoint still pending, nothing has been printed,
    and entering CONT (any spelling `cl`) followed by up to `j` further turns has the same
    outcome as without the inspection — same result, final states equal except for the read
    counter (`sameModOutReads … []`). -/
theorem failing_inspection_then_cont (fuel k j : Nat) (line cl : Str) (σ : St F) (n i : Nat)
    (hidle : σ.state = .idle) (hbp : σ.bp = some (n, i))
    (hcmd : (commandWord line).bind Command.ofWord = none)
    (hs : SafeFail σ line)
    (hcl : (commandWord cl).bind Command.ofWord = some .cont) :
    Res.isOk (startEvaluating fuel line σ) = false ∧
    (let σ' := ((do startEvaluating fuel line; contTurns fuel k) σ).final
     σ'.state = .idle ∧ σ'.bp = some (n, i) ∧ σ'.out = σ.out ∧ DeadOnly σ σ' [] ∧
     sameModOutReads σ.out []
       ((do startEvaluating fuel cl; contTurns fuel j) σ)
       ((do startEvaluating fuel cl; contTurns fuel j) σ')) := by
  have hbp' : σ.bp.isSome = true := by rw [hbp]; rfl
  obtain ⟨te, σ', hstart, hd⟩ := safeFail_start fuel line σ hidle hbp' hcmd hs
  have hfin : ((do startEvaluating fuel line; contTurns fuel k) σ).final = σ' := by
    rw [final_bind, hstart]
  refine ⟨by rw [hstart]; rfl, ?_⟩
  show ((do startEvaluating fuel line; contTurns fuel k) σ).final.state = .idle ∧ _
  rw [hfin]
  exact ⟨hd.state.trans hidle, hd.bp.trans hbp, hd.out, hd,
    cont_after_deadOnly fuel j cl σ σ' n i [] hidle hbp hcl hd⟩

/-- Failing PRINT lines — what `inspect_then_cont` says, spelled out for a
    failure: the inspection is a line of PRINT statements some turn of which fails.
    If no array has been auto-created and the generator has not been advanced, CONT
    continues as without the inspection; what was printed before the failure stays in the
    queue as `extra`. -/
theorem failing_print_then_cont (fuel k j : Nat) (line cl : Str) (ts : List (Token F)) (σ σ' : St F) (n i : Nat)
    (hidle : σ.state = .idle) (hbp : σ.bp = some (n, i))
    (hcmd : (commandWord line).bind Command.ofWord = none)
    (hnum : parseLineNumber line = none)
    (htok : tokenize (F := F) line 0 = .ok ts)
    (hpl : PrintLine ts) (hk : ts.length ≤ k + 1)
    (hσ' : σ' = ((do startEvaluating fuel line; contTurns fuel k) σ).final)
    (_hfail : Res.isOk ((do startEvaluating fuel line; contTurns fuel k) σ) = false)
    (hcl : (commandWord cl).bind Command.ofWord = some .cont)
    (harr : σ'.arrays = σ.arrays) (hrng : σ'.rng = σ.rng) :
    σ'.state = .idle ∧ σ'.bp = some (n, i) ∧
    ∃ extra, σ'.out = extra ++ σ.out ∧ (∀ x ∈ extra, isPW x = true) ∧
      sameModOutReads σ.out extra
        ((do startEvaluating fuel cl; contTurns fuel j) σ)
        ((do startEvaluating fuel cl; contTurns fuel j) σ') := by
  have hbp' : σ.bp.isSome = true := by rw [hbp]; rfl
  refine ⟨?_, ?_, inspect_then_cont fuel k j line cl ts σ σ' n i hidle hbp hcmd hnum htok hpl hk hσ' hcl harr hrng⟩
  · rw [hσ']; exact inspect_returns fuel k line ts σ hidle hbp' hcmd hnum htok hpl hk
  · rw [hσ']; exact ((inspect_pure fuel k line ts σ hidle hbp' hcmd hnum htok hpl).1).bp.trans hbp

/-! ### checked examples: the safe class is inhabited, the unsafe statements are unsafe -/

omit [NumOps F] in
theorem sameModOutReads_bp_data {α : Type} {base extra : List Out} {r r' : Res F α}
    (h : sameModOutReads base extra r r') :
    r'.final.bp = r.final.bp ∧ r'.final.data.isSome = r.final.data.isSome ∧ r'.final.loops.length = r.final.loops.length := by
  obtain ⟨pre, k, _, hs⟩ := sameModOutReads_final h
  rw [hs]
  exact ⟨rfl, rfl, rfl⟩

omit [NumOps F] in
theorem not_same_of_data {α : Type} {base extra : List Out} {r r' : Res F α}
    (h0 : r.final.data.isSome = false) (h1 : r'.final.data.isSome = true) : ¬ sameModOutReads base extra r r' := by
  intro h
  have := (sameModOutReads_bp_data h).2.1
  rw [h0, h1] at this
  cases this

omit [NumOps F] in
theorem not_deadOnly_of_loops {σ σ' : St F} {extra : List Out} {a b : Nat}
    (h0 : σ.loops.length = a) (h1 : σ'.loops.length = b) (hab : a ≠ b) : ¬ DeadOnly σ σ' extra := by
  intro h
  have := congrArg List.length h.loops
  rw [h0, h1] at this
  exact hab this.symm

omit [NumOps F] in
theorem not_deadOnly_of_data {σ σ' : St F} {extra : List Out}
    (h0 : σ.data.isSome = false) (h1 : σ'.data.isSome = true) : ¬ DeadOnly σ σ' extra := by
  intro h
  have := congrArg Option.isSome h.data
  rw [h0, h1] at this
  cases this

section demo
attribute [local instance] Abasic.Props.C14.natOps

/-- `10 FOR I = 1 TO 3`, `20 PRINT I`, `30 NEXT I`, stopped in front of line 20 in the first
    round (carrier `Nat` with decimal numerals, `C14.natOps`) -/
def bpDemo : St Nat :=
  { lines := { map := [(10, [.kw .For, .symbol ['I'], .kw .Equals, .num 1, .kw .To, .num 3]),
                       (20, [.kw .Print, .symbol ['I']]), (30, [.kw .Next, .symbol ['I']])],
               sorted := [10, 20, 30] },
    bp := some (20, 0),
    loops := [{ loc := { line := some 10, idx := 6 }, sym := ['I'], toV := 3, stepV := 1 }],
    vars := [(['I'], .num 1)] }

/-- the state after typing `l` at the breakpoint -/
def inspected (l : String) : St Nat := ((do startEvaluating 8 l.toList; contTurns 8 5) bpDemo).final

def contFrom (s : St Nat) : Res Nat Unit := (do startEvaluating 8 "CONT".toList; contTurns 8 8) s

def errKind {α : Type} : Res Nat α → Option Err
  | .ok _ _ => none
  | .err e _ => some e.err

theorem isOk_of_errKind {α : Type} {r : Res Nat α} {e : Err} (h : errKind r = some e) : Res.isOk r = false := by
  cases r with
  | ok a s => cases h
  | err e s => rfl

theorem isOk_of_errKind_none {α : Type} {r : Res Nat α} (h : errKind r = none) : Res.isOk r = true := by
  cases r with
  | ok a s => rfl
  | err e s => cases h

/-- CONT alone: the program runs to its end and prints 1, 2, 3 -/
theorem bpDemo_cont :
    errKind (contFrom bpDemo) = none ∧
    (contFrom bpDemo).final.out = [.print "3\n".toList, .print "2\n".toList, .print "1\n".toList] := by
  decide +kernel

/-- The safe class is inhabited, one line per constructor (the unterminated string also
    behind a line number: nothing is stored). -/
theorem safeFail_examples :
    SafeFail bpDemo "PRINT \"abc".toList ∧ SafeFail bpDemo "10 PRINT \"abc".toList ∧
    SafeFail bpDemo "THEN".toList ∧ SafeFail bpDemo "NEXT Q".toList ∧
    SafeFail bpDemo "GOTO X".toList ∧ SafeFail bpDemo "GOSUB".toList := by
  literal_chars
  exact ⟨.tokfail (.unterminated 6) (by rw [Fast.tokenize_eq]; rfl), .tokfail (.unterminated 9) (by rw [Fast.tokenize_eq]; rfl),
   .unexpected (.kw .Then) [] (by rfl) (by rw [Fast.tokenize_eq]; rfl) (by rfl),
   .nextNoLoop ['Q'] [] (by rfl) (by rw [Fast.tokenize_eq]; rfl) ⟨0, by rfl⟩ (by rfl),
   .gotoNoNumber [.symbol ['X']] (by rfl) (by rw [Fast.tokenize_eq]; rfl) (fun x h => by cases h),
   .gosubNoNumber [] (by rfl) (by rw [Fast.tokenize_eq]; rfl) (fun x h => by cases h)⟩

/-- the same lines replayed: the breakpoint survives and CONT prints 1, 2, 3 -/
theorem safeFail_replayed :
    (["PRINT \"abc", "10 PRINT \"abc", "THEN", "NEXT Q", "GOTO X", "GOSUB"].map fun l =>
      (errKind (startEvaluating 8 l.toList bpDemo), (inspected l).bp, (inspected l).out,
       errKind (contFrom (inspected l)), (contFrom (inspected l)).final.out.length)) =
    [(some (.syntax (.tokenization (.unterminated 6))), some (20, 0), [], none, 3),
     (some (.syntax (.tokenization (.unterminated 9))), some (20, 0), [], none, 3),
     (some (.syntax .unexpectedToken), some (20, 0), [], none, 3),
     (some .nextWithoutFor, some (20, 0), [], none, 3),
     (some .undefinedStatement, some (20, 0), [], none, 3),
     (some .undefinedStatement, some (20, 0), [], none, 3)] := by
  simp only [List.map, inspected, contFrom, Fast.start_eq]
  literal_chars
  decide +kernel

/-- failing PRINTs (covered by `inspect_then_cont` / `failing_print_then_cont`): division
    by zero and a type mismatch after `I` has been evaluated; nothing is printed (the text
    of a PRINT is emitted at its end), no array, no draw; CONT prints 1, 2, 3 -/
theorem failing_print_replayed :
    (["PRINT I; 1/0", "PRINT I; 1 + \"A\""].map fun l =>
      (errKind (startEvaluating 8 l.toList bpDemo), (inspected l).bp, (inspected l).out)) =
    [(some .divisionByZero, some (20, 0), []), (some .typeMismatch, some (20, 0), [])] ∧
    (["PRINT I; 1/0", "PRINT I; 1 + \"A\""].map fun l =>
      ((inspected l).arrays.length, (inspected l).rng,
       errKind (contFrom (inspected l)), (contFrom (inspected l)).final.out.length)) =
    [(0, 0, none, 3), (0, 0, none, 3)] := by
  simp only [List.map, inspected, contFrom, Fast.start_eq]
  literal_chars
  decide +kernel

/-- The unsafe class, replayed.  `GOTO 99999`, `GOSUB 99999`, `IF 1 THEN 99999` (no such
    line) and `RETURN` (no GOSUB pending) assign nothing and fail — UNDEFINED STATEMENT /
    RETURN WITHOUT GOSUB — but `goto_line_number` / `return_to_last_gosub` clear the breakpoint
    before they fail: afterwards CONT fails with CAN'T CONTINUE and nothing more is printed,
    whereas CONT alone finishes the program (`bpDemo_cont`). -/
theorem failing_jump_destroys_cont :
    (["GOTO 99999", "GOSUB 99999", "IF 1 THEN 99999", "RETURN"].map fun l =>
      ((commandWord l.toList).bind Command.ofWord, parseLineNumber l.toList,
       errKind (startEvaluating 8 l.toList bpDemo), (inspected l).bp)) =
    [(none, none, some .undefinedStatement, none), (none, none, some .undefinedStatement, none),
     (none, none, some .undefinedStatement, none), (none, none, some .returnWithoutGosub, none)] ∧
    (["GOTO 99999", "GOSUB 99999", "IF 1 THEN 99999", "RETURN"].map fun l =>
      ((inspected l).state, (inspected l).vars.length, (inspected l).arrays.length,
       errKind (contFrom (inspected l)), (contFrom (inspected l)).final.out)) =
    [(.idle, 1, 0, some .cannotContinue, []), (.idle, 1, 0, some .cannotContinue, []),
     (.idle, 1, 0, some .cannotContinue, []), (.idle, 1, 0, some .cannotContinue, [])] := by
  simp only [List.map, inspected, contFrom, Fast.start_eq, Fast.ofWord_eq]
  literal_chars
  refine ⟨by decide +kernel, by decide +kernel⟩

/-- hence the conclusion of `failing_inspection_then_cont` is false for them -/
theorem failing_jump_not_same (extra : List Out) :
    ¬ sameModOutReads bpDemo.out extra (contFrom bpDemo) (contFrom (inspected "GOTO 99999")) ∧
    ¬ sameModOutReads bpDemo.out extra (contFrom bpDemo) (contFrom (inspected "GOSUB 99999")) ∧
    ¬ sameModOutReads bpDemo.out extra (contFrom bpDemo) (contFrom (inspected "IF 1 THEN 99999")) ∧
    ¬ sameModOutReads bpDemo.out extra (contFrom bpDemo) (contFrom (inspected "RETURN")) := by
  have h0 := isOk_of_errKind_none bpDemo_cont.1
  have h := failing_jump_destroys_cont.2
  simp only [List.map, List.cons.injEq, Prod.mk.injEq, and_true] at h
  obtain ⟨⟨_, _, _, h1, _⟩, ⟨_, _, _, h2, _⟩, ⟨_, _, _, h3, _⟩, _, _, _, h4, _⟩ := h
  exact ⟨not_same_of_isOk h0 (isOk_of_errKind h1), not_same_of_isOk h0 (isOk_of_errKind h2),
    not_same_of_isOk h0 (isOk_of_errKind h3), not_same_of_isOk h0 (isOk_of_errKind h4)⟩

/-- `FOR I$ = 1 TO 2` fails with TYPE MISMATCH after `start_loop` has pushed its record:
    the loop stack has one more entry (here the next `NEXT I` drops it again, so this run
    ends as without it; the difference shows at the 32-loop cap).  `READ X` without DATA
    fails with OUT OF DATA after the data cursor has been created, and keeps it.  Neither
    state is `DeadOnly`-related to the state at the breakpoint; after `READ X` the final
    states of CONT differ (in the data cursor only). -/
theorem failing_for_read_change_state :
    errKind (startEvaluating 8 "FOR I$ = 1 TO 2".toList bpDemo) = some .typeMismatch ∧
    bpDemo.loops.length = 1 ∧ (inspected "FOR I$ = 1 TO 2").loops.length = 2 ∧
    (inspected "FOR I$ = 1 TO 2").bp = some (20, 0) ∧
    (∀ extra, ¬ DeadOnly bpDemo (inspected "FOR I$ = 1 TO 2") extra) ∧
    errKind (startEvaluating 8 "READ X".toList bpDemo) = some .outOfData ∧
    bpDemo.data.isSome = false ∧ (inspected "READ X").data.isSome = true ∧
    (inspected "READ X").bp = some (20, 0) ∧ (inspected "READ X").vars.length = 1 ∧
    (∀ extra, ¬ DeadOnly bpDemo (inspected "READ X") extra) ∧
    errKind (contFrom (inspected "READ X")) = none ∧ (contFrom (inspected "READ X")).final.out.length = 3 ∧
    (∀ extra, ¬ sameModOutReads bpDemo.out extra (contFrom bpDemo) (contFrom (inspected "READ X"))) := by
  -- everything that is computed, in one evaluation: each run is made once
  have h : errKind (startEvaluating 8 "FOR I$ = 1 TO 2".toList bpDemo) = some .typeMismatch ∧
      bpDemo.loops.length = 1 ∧ (inspected "FOR I$ = 1 TO 2").loops.length = 2 ∧
      (inspected "FOR I$ = 1 TO 2").bp = some (20, 0) ∧
      errKind (startEvaluating 8 "READ X".toList bpDemo) = some .outOfData ∧
      bpDemo.data.isSome = false ∧ (inspected "READ X").data.isSome = true ∧
      (inspected "READ X").bp = some (20, 0) ∧ (inspected "READ X").vars.length = 1 ∧
      errKind (contFrom (inspected "READ X")) = none ∧ (contFrom (inspected "READ X")).final.out.length = 3 ∧
      (contFrom (inspected "READ X")).final.data.isSome = true ∧ (contFrom bpDemo).final.data.isSome = false := by
    simp only [inspected, contFrom, Fast.start_eq]
    literal_chars
    decide +kernel
  obtain ⟨a1, hl0, hl, a2, a3, hd0, hd, a4, a5, a6, a7, h3, h4⟩ := h
  exact ⟨a1, hl0, hl, a2, fun _ => not_deadOnly_of_loops hl0 hl (by decide), a3, hd0, hd, a4, a5,
    fun _ => not_deadOnly_of_data hd0 hd, a6, a7, fun _ => not_same_of_data h4 h3⟩

example (j : Nat) :
    sameModOutReads bpDemo.out []
      ((do startEvaluating 8 "CONT".toList; contTurns 8 j) bpDemo)
      ((do startEvaluating 8 "CONT".toList; contTurns 8 j) (inspected "NEXT Q")) :=
  (failing_inspection_then_cont 8 5 j "NEXT Q".toList "CONT".toList bpDemo 20 0 rfl rfl (by rfl)
    safeFail_examples.2.2.2.1 (by decide)).2.2.2.2.2

end demo

end Abasic.Props.C07
