import Abasic.Props.C09Count
/-
  C17 — a closed form for the number of trace records per turn.

  C17Trace.lean gives the number of repeats of a turn's line as `≥ 1`, `= 1` unless the statement starts
  with IF (`turn_traces`), C09Count.lean as `1 + N` with `N` the marks of an INSTRUMENTED evaluator
  (`C09.trace_count`).  The exact number is `activations` (C17Count.lean): 1 + the number of THEN / ELSE
  clauses entered, read off the IF chain of the statement itself.
-/

namespace Abasic.Props.C17
open Abasic Abasic.Hoare Abasic.Trace Abasic.Trace.Lift M

variable {F : Type} [NumOps F]

theorem rx_ifTail (ev : Evals F) (he : Respects RX ev.expr) : Respects RX (ifTail ev) := by
  have he' : cursor.P ev.expr := he
  have := walk_skipToElse (F := F) cursor rx_discardRemaining
  show cursor.P (ifTail ev)
  unfold ifTail
  walk

theorem turn_traces_exact (fuel : Nat) (σ : St F) (hs : (curTok σ).isSome = true) :
    traces (runNextStatement fuel σ).final.out =
      rep (activations fuel (turnStart σ)) (here σ) ++ traces σ.out := by
  have h := (turn_rep fuel σ).2.2
  rwa [if_pos hs] at h

/-- **trace_repeat_exact.**  With tracing on, one turn (`run_next_statement`) that
    starts a statement on the numbered line `ln` emits exactly
    `activations fuel (turnStart σ)` trace records — 1 + the number of THEN / ELSE
    clauses entered — all of them `Out.trace ln`, on top of the trace records that
    were on the queue before. -/
theorem trace_repeat_exact (fuel : Nat) (σ : St F) (ln : Nat) (ht : σ.tracing = true)
    (hl : σ.loc.line = some ln) (hs : (curTok σ).isSome = true) :
    traces (runNextStatement fuel σ).final.out =
      List.replicate (activations fuel (turnStart σ)) ln ++ traces σ.out ∧
    (traces (runNextStatement fuel σ).final.out).length =
      (traces σ.out).length + activations fuel (turnStart σ) := by
  have h := turn_traces_exact fuel σ hs
  have hh : here σ = [ln] := by unfold here; rw [ht, hl]
  rw [hh, rep_singleton] at h
  refine ⟨h, ?_⟩
  rw [h, List.length_append, List.length_replicate]
  omega

/-- … and the same for the host call `continue_evaluating` of a running interpreter -/
theorem trace_repeat_exact_call (fuel : Nat) (σ : St F) (ln : Nat) (hrun : σ.state = .running)
    (ht : σ.tracing = true) (hl : σ.loc.line = some ln) (hs : (curTok σ).isSome = true) :
    traces (continueEvaluating fuel σ).final.out =
      List.replicate (activations fuel (turnStart σ)) ln ++ traces σ.out := by
  rw [C09.continue_is_one_turn fuel σ hrun, C09.postprocess_out]
  exact (trace_repeat_exact fuel σ ln ht hl hs).1

theorem activations_clause (k : Nat) (σ σc σ' : St F)
    (hh : (traceHere >>= fun _ => ifHeader (evalN (k + 1))) σ = .ok true σc) (hc : clauseEntry σc = some σ') :
    activations (k + 1) σ = 1 + activations k σ' := by
  show 1 + actStep (evalN (k + 1)) (activations k) σ = _
  unfold actStep
  rw [hh]
  simp only [hc]

/-- no clause is entered (the statement is not an IF, its header
    fails, the condition is false with no ELSE before the next colon), or the
    clause is a bare line number or is refused at the nesting cap: one activation -/
theorem activations_no_clause (k : Nat) (σ : St F)
    (hh : ∀ σc, (traceHere >>= fun _ => ifHeader (evalN (k + 1))) σ = .ok true σc → clauseEntry σc = none) :
    activations (k + 1) σ = 1 := by
  show 1 + actStep (evalN (k + 1)) (activations k) σ = _
  unfold actStep
  cases hr : (traceHere >>= fun _ => ifHeader (evalN (k + 1))) σ with
  | err e s => rfl
  | ok b σc =>
    cases b with
    | false => rfl
    | true => simp only [hh σc hr]

/-- **The marks of the instrumented evaluator are the closed form.**  With
    tracing on, for a turn that starts a statement on a numbered line, the number
    `C09.nestedActivations` of `C09.trace_count` is `activations - 1`.  (Of the hypotheses only the last is
    used: `C09.nestedActivations_eq` holds of every state.) -/
theorem nestedActivations_closed_form (fuel : Nat) (σ : St F) (ln : Nat) (ht : σ.tracing = true)
    (hn : σ.nesting ≤ Extracted.nestingLimit) (hl : σ.loc.line = some ln) (hs : (curTok σ).isSome = true) :
    1 + C09.nestedActivations fuel σ = activations fuel (turnStart σ) := by
  rw [C09.nestedActivations_eq, if_pos hs, Nat.add_sub_cancel' (activations_pos _ _)]

/-- hence the bounds of `C09.trace_count` hold of the closed form: at most
    `nestingLimit + 1 - nesting` (≤ 49) records per turn, and one unless the
    statement starts with IF -/
theorem activations_le (fuel : Nat) (σ : St F) (ln : Nat) (ht : σ.tracing = true)
    (hn : σ.nesting ≤ Extracted.nestingLimit) (hl : σ.loc.line = some ln) (hs : (curTok σ).isSome = true) :
    activations fuel (turnStart σ) ≤ Extracted.nestingLimit + 1 - σ.nesting := by
  have := Count.activations_room fuel (turnStart σ) hn
  have : (turnStart σ).nesting = σ.nesting := rfl
  omega

/-- **trace_count** with `activations` as the count (and without the bound on
    the nesting counter, which the exact count does not need). -/
theorem trace_count_closed (fuel : Nat) (σ : St F) (ht : σ.tracing = true) :
    traces (runNextStatement fuel σ).final.out =
      rep (if (curTok σ).isSome then activations fuel (turnStart σ) else 0) (startLine σ) ++ traces σ.out ∧
    (curTok σ ≠ some (.kw .If) → (curTok σ).isSome = true → activations fuel (turnStart σ) = 1) := by
  refine ⟨?_, fun hne _ => activations_not_if fuel (turnStart σ) hne⟩
  rw [(turn_rep fuel σ).2.2]
  unfold startLine
  by_cases hs : (curTok σ).isSome = true
  · rw [if_pos hs, if_pos hs, here_of_tracing σ ht]
  · rw [if_neg hs, if_neg hs, rep_zero, rep_zero]

/-! ### non-vacuity (carrier `Unit`: a non-empty string is true, the empty string false) -/

/-- `10 IF "A" THEN IF "A" THEN PRINT`: two clauses entered, three records -/
example :
    let σ : St Unit := { tracing := true, state := .running, loc := { line := some 10, idx := 0 },
                         lines := { map := [(10, [.kw .If, .str ['A'], .kw .Then, .kw .If, .str ['A'], .kw .Then,
                                                  .kw .Print])],
                                    sorted := [10] } }
    activations 5 (turnStart σ) = 3 ∧ traces (runNextStatement 5 σ).final.out = [10, 10, 10] := by
  decide +kernel

/-- `10 IF "" THEN PRINT ELSE PRINT`: the ELSE clause is entered, two records;
    `10 IF "A" THEN 10`: a line-number target adds none;
    `10 IF "" THEN PRINT : ELSE PRINT`: the ELSE search gives up at the colon -/
example :
    let mk (ts : List (Token Unit)) : St Unit :=
      { tracing := true, state := .running, loc := { line := some 10, idx := 0 },
        lines := { map := [(10, ts)], sorted := [10] } }
    activations 5 (turnStart (mk [.kw .If, .str [], .kw .Then, .kw .Print, .kw .Else, .kw .Print])) = 2 ∧
    activations 5 (turnStart (mk [.kw .If, .str ['A'], .kw .Then, .num ()])) = 1 ∧
    activations 5 (turnStart (mk [.kw .If, .str [], .kw .Then, .kw .Print, .kw .Colon, .kw .Else, .kw .Print])) = 1 := by
  decide +kernel

end Abasic.Props.C17

#print axioms Abasic.Props.C17.trace_repeat_exact
#print axioms Abasic.Props.C17.nestedActivations_closed_form
#print axioms Abasic.Props.C17.trace_count_closed
