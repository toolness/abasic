import Abasic.Proofs.TextLemmas
import Abasic.LineNumber
/-
  C04 (continued) — the line-number parser `parseLineNumber`.

  What the model's parser reads: a run of *ASCII white space* (`isAsciiWs`:
  space, TAB, LF, FF, CR — this is what line_number_parser.rs skips, not the
  narrower `isBasicWs`), then a non-empty maximal run of ASCII digits, whose
  decimal value must be `< 2^64`.  The second component of the result is the
  number of characters consumed, which is also the number of bytes (`len8`),
  since blanks and digits are ASCII.
-/
namespace Abasic.Props.C04
open Abasic

/-- `2^64`, kept behind a definition so that nothing tries to evaluate it against open terms. -/
def u64Bound : Nat := 2 ^ 64

theorem u64Bound_eq : u64Bound = 2 ^ 64 := rfl

abbrev decValue (ds : Str) : Nat := digitsValue ds 0

def NoDigitHead : Str → Prop
  | [] => True
  | c :: _ => isAsciiDigit c = false

/-- The shape `parseLineNumber` accepts. -/
structure Decomp (s blanks digits rest : Str) : Prop where
  split : s = blanks ++ digits ++ rest
  blanks_ws : ∀ c ∈ blanks, isAsciiWs c = true
  digits_ne : digits ≠ []
  digits_dig : ∀ c ∈ digits, isAsciiDigit c = true
  maximal : NoDigitHead rest

theorem digit_not_ws (c : Char) (h : isAsciiDigit c = true) : isAsciiWs c = false := by
  have h1 : 48 ≤ c.toNat := by
    simp only [isAsciiDigit, Bool.and_eq_true, decide_eq_true_eq] at h
    exact h.1
  simp only [isAsciiWs, Bool.or_eq_false_iff, beq_eq_false_iff_ne, ne_eq]
  refine ⟨⟨⟨⟨?_, ?_⟩, ?_⟩, ?_⟩, ?_⟩ <;> (intro hc; subst hc; revert h1; decide)

theorem digit_range (c : Char) (h : isAsciiDigit c = true) : 48 ≤ c.toNat ∧ c.toNat ≤ 57 := by
  simp only [isAsciiDigit, Bool.and_eq_true, decide_eq_true_eq] at h
  exact ⟨h.1, h.2⟩

theorem takeDigits_eq (s : Str) : takeDigits s = (s.takeWhile isAsciiDigit, s.dropWhile isAsciiDigit) := by
  induction s with
  | nil => rfl
  | cons c cs ih => cases hc : isAsciiDigit c <;> simp [takeDigits, hc, ih]

theorem noDigitHead_dropWhile (s : Str) : NoDigitHead (s.dropWhile isAsciiDigit) := by
  induction s with
  | nil => trivial
  | cons c cs ih =>
    cases hc : isAsciiDigit c
    · simp [hc, NoDigitHead]
    · simpa [hc] using ih

theorem span_noDigitHead {r : Str} (h : NoDigitHead r) :
    r.takeWhile isAsciiDigit = [] ∧ r.dropWhile isAsciiDigit = r := by
  cases r with
  | nil => exact ⟨rfl, rfl⟩
  | cons c cs => simp [show isAsciiDigit c = false from h]

theorem digitsValue_eq_ofDigitChars (ds : Str) (acc : Nat) :
    digitsValue ds acc = Nat.ofDigitChars 10 ds acc := by
  induction ds generalizing acc with
  | nil => simp [digitsValue]
  | cons c cs ih => rw [digitsValue, ih, Nat.ofDigitChars_cons, Nat.mul_comm]

theorem digitsValue_acc (ds : Str) (acc : Nat) :
    digitsValue ds acc = acc * 10 ^ ds.length + digitsValue ds 0 := by
  rw [digitsValue_eq_ofDigitChars, digitsValue_eq_ofDigitChars, Nat.ofDigitChars_eq_ofDigitChars_zero,
    Nat.mul_comm]

theorem digitsValue_append (ds es : Str) (acc : Nat) :
    digitsValue (ds ++ es) acc = digitsValue es (digitsValue ds acc) := by
  induction ds generalizing acc with
  | nil => rfl
  | cons c cs ih => simp only [List.cons_append, digitsValue, ih]

theorem digitsValue_cons (c : Char) (ds : Str) :
    decValue (c :: ds) = (c.toNat - 48) * 10 ^ ds.length + decValue ds := by
  show digitsValue (c :: ds) 0 = _
  rw [digitsValue, digitsValue_acc]
  simp

theorem digitsValue_zero_cons (ds : Str) : decValue ('0' :: ds) = decValue ds := by
  show digitsValue ('0' :: ds) 0 = _
  rw [digitsValue]
  rfl

theorem digitsValue_dropZeros (ds : Str) : decValue (ds.dropWhile (· == '0')) = decValue ds := by
  induction ds with
  | nil => rfl
  | cons c cs ih =>
    by_cases hc : c = '0'
    · subst hc
      rw [List.dropWhile_cons_of_pos (by rfl), ih, digitsValue_zero_cons]
    · rw [List.dropWhile_cons_of_neg (by simpa using hc)]

theorem digitChar_sub (c : Char) (h : isAsciiDigit c = true) : Nat.digitChar (c.toNat - 48) = c := by
  have hr := digit_range c h
  apply Char.ext
  apply UInt32.toNat_inj.mp
  show (Nat.digitChar (c.toNat - 48)).toNat = c.toNat
  rw [Nat.toNat_digitChar_of_lt_ten (by omega)]
  omega

theorem toDigits_digitsValue (ds : Str) (hd : ∀ c ∈ ds, isAsciiDigit c = true) (acc : Nat) (h : 0 < acc) :
    Nat.toDigits 10 (digitsValue ds acc) = Nat.toDigits 10 acc ++ ds := by
  induction ds generalizing acc with
  | nil => simp [digitsValue]
  | cons c cs ih =>
    have hc := hd c (List.mem_cons_self ..)
    have hlt : c.toNat - 48 < 10 := by have := digit_range c hc; omega
    rw [digitsValue, ih (fun x hx => hd x (List.mem_cons_of_mem _ hx)) _ (by omega), Nat.mul_comm]
    show Nat.toDigits 10 (10 * acc + (c.toNat - 48)) ++ cs = _
    rw [← Nat.toDigits_append_toDigits (by decide) h hlt, Nat.toDigits_of_lt_base hlt, digitChar_sub c hc,
      List.append_assoc]
    rfl

/-- What is left of a digit string after its leading zeros is the decimal rendering of its value
    (nothing, if the value is 0): `Nat.toDigits 10` inverts `decValue` on digit strings without a leading
    zero, as `decValue_toDigits` says in the other direction. -/
theorem dropZeros_eq (ds : Str) (hd : ∀ c ∈ ds, isAsciiDigit c = true) :
    ds.dropWhile (· == '0') = if decValue ds = 0 then [] else Nat.toDigits 10 (decValue ds) := by
  induction ds with
  | nil => rfl
  | cons c cs ih =>
    have hcs := fun x hx => hd x (List.mem_cons_of_mem c hx)
    by_cases hc : c = '0'
    · subst hc
      rw [List.dropWhile_cons_of_pos (by rfl), digitsValue_zero_cons, ih hcs]
    · have hc1 := hd c (List.mem_cons_self ..)
      have hr := digit_range c hc1
      have hne : c.toNat ≠ 48 := fun e => hc (Char.ext (UInt32.toNat_inj.mp e))
      have h := toDigits_digitsValue cs hcs (c.toNat - 48) (by omega)
      rw [Nat.toDigits_of_lt_base (b := 10) (n := c.toNat - 48) (by omega), digitChar_sub c hc1] at h
      have hv : decValue (c :: cs) = digitsValue cs (c.toNat - 48) := by
        show digitsValue (c :: cs) 0 = _
        rw [digitsValue, Nat.zero_mul, Nat.zero_add]; rfl
      rw [List.dropWhile_cons_of_neg (by simpa using hc), hv, h, if_neg]
      · rfl
      · intro e
        rw [e, Nat.toDigits_zero] at h
        injection h with h
        exact hc h.symm

/-- A digit string of length `k` has a value below `10^k`: the rendering of its value is what is left of it
    after the leading zeros, so no longer. -/
theorem digitsValue_lt (ds : Str) (hd : ∀ c ∈ ds, isAsciiDigit c = true) :
    decValue ds < 10 ^ ds.length := by
  by_cases h0 : decValue ds = 0
  · rw [h0]; exact Nat.pow_pos (by decide)
  · have h := dropZeros_eq ds hd
    rw [if_neg h0] at h
    have hl : (Nat.toDigits 10 (decValue ds)).length ≤ ds.length := h ▸ (List.dropWhile_sublist _).length_le
    exact (Nat.length_toDigits_le_iff (by decide) (Nat.lt_of_lt_of_le Nat.length_toDigits_pos hl)).1 hl

/-- A leading zero does not change the value, and two digit
    strings have the same value iff they agree after stripping leading zeros. -/
theorem lineno_value_digits :
    (∀ ds : Str, decValue ('0' :: ds) = decValue ds) ∧
    (∀ ds es : Str, (∀ c ∈ ds, isAsciiDigit c = true) → (∀ c ∈ es, isAsciiDigit c = true) →
      (decValue ds = decValue es ↔ ds.dropWhile (· == '0') = es.dropWhile (· == '0'))) := by
  refine ⟨digitsValue_zero_cons, fun ds es hd he =>
    ⟨fun hv => by rw [dropZeros_eq ds hd, dropZeros_eq es he, hv], fun h => ?_⟩⟩
  rw [← digitsValue_dropZeros ds, ← digitsValue_dropZeros es, h]

/-- The parser in closed form. -/
theorem aux_eq (s : Str) (k : Nat) :
    parseLineNumberAux s k =
      if (s.dropWhile isAsciiWs).takeWhile isAsciiDigit ≠ [] ∧
          decValue ((s.dropWhile isAsciiWs).takeWhile isAsciiDigit) < u64Bound then
        some (decValue ((s.dropWhile isAsciiWs).takeWhile isAsciiDigit),
          k + (s.takeWhile isAsciiWs).length + ((s.dropWhile isAsciiWs).takeWhile isAsciiDigit).length)
      else none := by
  induction s generalizing k with
  | nil => rfl
  | cons c cs ih =>
    by_cases hc : isAsciiDigit c = true
    · simp [parseLineNumberAux, hc, digit_not_ws c hc, takeDigits_eq, u64Bound, decValue]
    · by_cases hw : isAsciiWs c = true
      · simp [parseLineNumberAux, hc, hw, ih, Nat.add_assoc, Nat.add_comm 1]
      · simp [parseLineNumberAux, hc, hw]

/-- `Decomp` is the graph of a function: the blanks are the leading white space, digits and rest the
    digit run after it and what follows. -/
theorem decomp_iff {s b d r : Str} :
    Decomp s b d r ↔ d ≠ [] ∧ s.takeWhile isAsciiWs = b ∧ (s.dropWhile isAsciiWs).takeWhile isAsciiDigit = d ∧
      (s.dropWhile isAsciiWs).dropWhile isAsciiDigit = r := by
  constructor
  · rintro ⟨rfl, hb, hne, hd, hr⟩
    cases d with
    | nil => exact absurd rfl hne
    | cons y ys =>
      have hy : ¬ isAsciiWs y = true := by rw [digit_not_ws y (hd y (List.mem_cons_self ..))]; simp
      rw [List.append_assoc, List.takeWhile_append_of_pos hb, List.dropWhile_append_of_pos hb, List.cons_append,
        List.takeWhile_cons_of_neg hy, List.dropWhile_cons_of_neg hy, List.append_nil, ← List.cons_append,
        List.dropWhile_append_of_pos hd, List.takeWhile_append_of_pos hd, (span_noDigitHead hr).1, (span_noDigitHead hr).2, List.append_nil]
      exact ⟨hne, rfl, rfl, rfl⟩
  · rintro ⟨hne, rfl, rfl, rfl⟩
    exact ⟨by rw [List.append_assoc, List.takeWhile_append_dropWhile, List.takeWhile_append_dropWhile],
      List.all_eq_true.mp List.all_takeWhile, hne, List.all_eq_true.mp List.all_takeWhile,
      noDigitHead_dropWhile _⟩

theorem parse_of_decomp (s blanks digits rest : Str) (h : Decomp s blanks digits rest) :
    parseLineNumber s =
      if decValue digits < u64Bound then some (decValue digits, blanks.length + digits.length) else none := by
  obtain ⟨hne, rfl, rfl, _⟩ := decomp_iff.1 h
  simp [parseLineNumber, aux_eq, hne]

theorem decomp_unique (s b d r b' d' r' : Str) (h : Decomp s b d r) (h' : Decomp s b' d' r') :
    b = b' ∧ d = d' ∧ r = r' := by
  obtain ⟨_, rfl, rfl, rfl⟩ := decomp_iff.1 h
  obtain ⟨_, rfl, rfl, rfl⟩ := decomp_iff.1 h'
  exact ⟨rfl, rfl, rfl⟩

/-- What is accepted: `parseLineNumber s = some (n, k)` iff `s` is
    ASCII blanks, then a non-empty maximal run of ASCII digits with decimal
    value `n < 2^64`, then anything; `k` is the number of characters consumed
    (`= blanks.length + digits.length`, which is also the number of bytes). -/
theorem lineno_parse_spec (s : Str) (n k : Nat) :
    parseLineNumber s = some (n, k) ↔
      ∃ blanks digits rest, Decomp s blanks digits rest ∧ n = decValue digits ∧ n < u64Bound ∧
        k = blanks.length + digits.length := by
  constructor
  · intro h
    rw [parseLineNumber, aux_eq] at h
    split at h
    · next hc =>
      injection h with h
      injection h with h1 h2
      exact ⟨_, _, _, decomp_iff.2 ⟨hc.1, rfl, rfl, rfl⟩, h1.symm, h1 ▸ hc.2, by omega⟩
    · cases h
  · rintro ⟨b, d, r, hD, e1, e2, e3⟩
    rw [parse_of_decomp s b d r hD, if_pos (e1 ▸ e2), e1, e3]

theorem len8_ascii (blanks digits : Str) (hb : ∀ c ∈ blanks, isAsciiWs c = true)
    (hd : ∀ c ∈ digits, isAsciiDigit c = true) :
    len8 (blanks ++ digits) = blanks.length + digits.length := by
  rw [← List.length_append]
  exact len8_eq_length _ fun c hc =>
    (List.mem_append.mp hc).elim (fun h => utf8Size_ws (hb c h)) (fun h => utf8Size_digit (hd c h))

/-- The position returned is a byte position: the consumed prefix is ASCII. -/
theorem lineno_consumed_bytes (s blanks digits rest : Str) (h : Decomp s blanks digits rest) :
    len8 (blanks ++ digits) = blanks.length + digits.length :=
  len8_ascii blanks digits h.blanks_ws h.digits_dig

/-- What is refused: `none` iff there is no decomposition, or the
    value of the digits is `≥ 2^64`. -/
theorem lineno_parse_none (s : Str) :
    parseLineNumber s = none ↔
      ¬ ∃ blanks digits rest, Decomp s blanks digits rest ∧ decValue digits < u64Bound := by
  constructor
  · rintro h ⟨b, d, r, hD, hv⟩
    rw [parse_of_decomp s b d r hD, if_pos hv] at h
    cases h
  · intro h
    cases hp : parseLineNumber s with
    | none => rfl
    | some p =>
      obtain ⟨n, k⟩ := p
      obtain ⟨b, d, r, hD, e1, e2, _⟩ := (lineno_parse_spec s n k).mp hp
      exact absurd ⟨b, d, r, hD, e1 ▸ e2⟩ h

/-- The same, with the two causes separated (the decomposition is unique, so
    "the value" is well defined). -/
theorem lineno_parse_none' (s : Str) :
    parseLineNumber s = none ↔
      (¬ ∃ blanks digits rest, Decomp s blanks digits rest) ∨
      (∃ blanks digits rest, Decomp s blanks digits rest ∧ u64Bound ≤ decValue digits) := by
  rw [lineno_parse_none]
  constructor
  · intro h
    by_cases hex : ∃ blanks digits rest, Decomp s blanks digits rest
    · obtain ⟨b, d, r, hD⟩ := hex
      refine .inr ⟨b, d, r, hD, ?_⟩
      apply Nat.le_of_not_lt
      intro hv
      exact h ⟨b, d, r, hD, hv⟩
    · exact .inl hex
  · rintro (h | ⟨b, d, r, hD, hv⟩) ⟨b', d', r', hD', hv'⟩
    · exact h ⟨b', d', r', hD'⟩
    · obtain ⟨_, e, _⟩ := decomp_unique s b d r b' d' r' hD hD'
      rw [← e] at hv'
      omega

/-! ### round trip with the decimal rendering LIST uses (`natToStr`, i.e. `Nat.repr`) -/

theorem toDigits_digits (n : Nat) : ∀ c ∈ Nat.toDigits 10 n, isAsciiDigit c = true := by
  intro c hc
  have := Nat.isDigit_of_mem_toDigits (b := 10) (by decide) (by decide) hc
  simp only [Char.isDigit, Bool.and_eq_true, decide_eq_true_eq, ge_iff_le] at this
  simp only [isAsciiDigit, Bool.and_eq_true, decide_eq_true_eq]
  exact ⟨Char.le_def.mpr this.1, Char.le_def.mpr this.2⟩

theorem decValue_toDigits (n : Nat) : decValue (Nat.toDigits 10 n) = n := by
  show digitsValue _ 0 = n
  rw [digitsValue_eq_ofDigitChars, Nat.ofDigitChars_ten_toDigits]

theorem natToStr_digits (n : Nat) : natToStr n = Nat.toDigits 10 n := by
  unfold natToStr
  rw [Nat.toString_eq_repr, Nat.toList_repr]

theorem decomp_toDigits (n : Nat) (rest : Str) (hr : NoDigitHead rest) :
    Decomp (Nat.toDigits 10 n ++ rest) [] (Nat.toDigits 10 n) rest :=
  ⟨rfl, by simp, Nat.toDigits_ne_nil, toDigits_digits n, hr⟩

/-- The decimal rendering of any `n < 2^64` parses back to `n`,
    consuming the whole numeral. -/
theorem lineno_roundtrip (n : Nat) (h : n < u64Bound) :
    parseLineNumber (Nat.repr n).toList = some (n, (Nat.repr n).length) := by
  have hD := decomp_toDigits n [] trivial
  rw [List.append_nil] at hD
  rw [Nat.toList_repr, parse_of_decomp _ _ _ _ hD, decValue_toDigits, if_pos h]
  simp [← Nat.toList_repr, String.length_toList]

/-- … in the form LIST prints it: `natToStr n`, followed by anything that does
    not start with a digit (LIST puts a blank there). -/
theorem lineno_roundtrip_list (n : Nat) (h : n < u64Bound) (rest : Str) (hr : NoDigitHead rest) :
    parseLineNumber (natToStr n ++ rest) = some (n, (natToStr n).length) := by
  rw [natToStr_digits, parse_of_decomp _ _ _ _ (decomp_toDigits n rest hr), decValue_toDigits, if_pos h]
  simp

/-- … and values `≥ 2^64` are rejected. -/
theorem lineno_too_big (n : Nat) (h : u64Bound ≤ n) : parseLineNumber (natToStr n) = none := by
  have hD := decomp_toDigits n [] trivial
  rw [List.append_nil] at hD
  rw [natToStr_digits, parse_of_decomp _ _ _ _ hD, decValue_toDigits, if_neg (by omega)]

/-! ### non-vacuity -/

example : parseLineNumber "  \t0010 PRINT".toList = some (10, 7) := by decide
example : parseLineNumber "10".toList = some (10, 2) := by decide
example : parseLineNumber "PRINT".toList = none := by decide
example : parseLineNumber " \n 7x".toList = some (7, 4) := by decide
example : Decomp "  \t0010 PRINT".toList "  \t".toList "0010".toList " PRINT".toList :=
  ⟨by decide, by decide, by decide, by decide, by show isAsciiDigit ' ' = false; decide⟩

/-- the largest accepted number and the smallest rejected one -/
example : parseLineNumber "18446744073709551615".toList = some (18446744073709551615, 20) := by decide
example : parseLineNumber "18446744073709551616".toList = none := by decide

end Abasic.Props.C04
