import Abasic.Props.C02Names
import Abasic.Props.C14More
import Abasic.Proofs.TokFast
/-
  C02: why `eval_render2_any_partial` (Props/C02Names.lean) carries the side
  condition `Arity1`.

  A tree may give a built-in name any number of arguments: `.cell "ABS" [x, y]`
  (and `.call "ABS" [x, y]`) renders to `ABS ( x , y )`.  On that text

    * the evaluator reads ABS as the built-in, evaluates the first argument and
      then wants `)`: syntax error EXPECTED `)` (`absTwo_eval`); no array is
      created;
    * `fold2` of the tree — and of its normalisation, which is the same tree —
      reads the cell (x, y) of an array named ABS, creating the default 11 × 11
      array (`absTwo_fold`).

  Hence the statement of `eval_render2_any_partial` without `Arity1` is false
  (`eval_render2_any_false`, for every carrier that has numbers truncating to 1
  and 2).

  The zero-argument variant `ABS ( )`: the evaluator reports UNEXPECTED TOKEN
  (`absNone_eval`).  Here the spec AGREES on the error: subscripts "none at
  all" is UNEXPECTED TOKEN in `foldIdx` too (`absNone_fold`) — so `ABS ( )` is
  excluded by `Arity1` but is not by itself a counterexample to the error
  clause; only the trees with two or more arguments are.
-/
namespace Abasic.Props.C02
open Abasic Abasic.Ref Abasic.ExprL Abasic.ExprL2 Abasic.Names

variable {F : Type} [NumOps F]

namespace DemoArity
section Examples
set_option linter.unusedSectionVars false
set_option linter.unusedSimpArgs false
open Demo2

def errOf {α : Type} : Res F α → Option TErr
  | .ok _ _ => none
  | .err e _ => some e

def finalOf {α : Type} : Res F α → St F
  | .ok _ s => s
  | .err _ s => s

def absTwo (x y : F) : Expr2 F := .cell "ABS".toList [.num x, .num y]
def absTwoCall (x y : F) : Expr2 F := .call "ABS".toList [.num x, .num y]
def absNone (F : Type) : Expr2 F := .cell "ABS".toList []

def absTwoToks (x y : F) : List (Token F) :=
  [.symbol "ABS".toList, .kw .LeftParen, .num x, .kw .Comma, .num y, .kw .RightParen]
def absNoneToks (F : Type) : List (Token F) := [.symbol "ABS".toList, .kw .LeftParen, .kw .RightParen]

theorem absTwo_render (x y : F) : render2 (absTwo x y) = absTwoToks x y := by
  simp [absTwo, absTwoToks, render2, renderArgs]

theorem absTwoCall_render (x y : F) : render2 (absTwoCall x y) = absTwoToks x y := by
  simp [absTwoCall, absTwoToks, render2, renderArgs]

theorem absNone_render : render2 (absNone F) = absNoneToks F := by
  simp [absNone, absNoneToks, render2, renderArgs]

theorem absTwo_norm (fns : List (Str × FnDefSpec F)) (x y : F) : normalize fns (absTwo x y) = absTwo x y := by
  have h : ("ABS".toList == Extracted.builtinAbs.toList) = true := by decide
  rw [absTwo, normalize, normalizeL, normalizeL, normalizeL, normalize, normalize]
  unfold resolveNode
  rw [if_pos h]

theorem absTwoCall_norm (fns : List (Str × FnDefSpec F)) (x y : F) :
    normalize fns (absTwoCall x y) = absTwo x y := by
  have h : ("ABS".toList == Extracted.builtinAbs.toList) = true := by decide
  rw [absTwoCall, normalize, normalizeL, normalizeL, normalizeL, normalize, normalize]
  unfold resolveNode
  rw [if_pos h]
  rfl

theorem absNone_norm (fns : List (Str × FnDefSpec F)) : normalize fns (absNone F) = absNone F := by
  have h : ("ABS".toList == Extracted.builtinAbs.toList) = true := by decide
  rw [absNone, normalize, normalizeL]
  unfold resolveNode
  rw [if_pos h]

def arrAbs (F : Type) [NumOps F] : List (Str × ArrayV F) :=
  [("ABS".toList, .nums [11, 11] (List.replicate 121 NumOps.zero))]

theorem absTwo_fold (k : Nat) (x y : F) (hx : NumOps.toI64 x = 1) (hy : NumOps.toI64 y = 2) :
    fold2 k (emptyEnv F) (absTwo x y) = .ok (.num NumOps.zero, { emptyEnv F with arrays := arrAbs F }) := by
  simp [absTwo, fold2, foldIdx, subscript, hx, hy, readCell, emptyEnv, alGet, ArrayV.create, dimSizes,
    Extracted.defaultArraySize, Extracted.maxDimTotalElements, endsWithDollar, readAt, linearIndex, linearIndexAux,
    ArrayV.dims, alSet, arrAbs]

theorem absTwoCall_fold (k : Nat) (x y : F) (hx : NumOps.toI64 x = 1) (hy : NumOps.toI64 y = 2) :
    fold2 k (emptyEnv F) (absTwoCall x y) = .ok (.num NumOps.zero, { emptyEnv F with arrays := arrAbs F }) := by
  simp [absTwoCall, fold2, foldIdx, subscript, hx, hy, readCell, emptyEnv, alGet, ArrayV.create, dimSizes,
    Extracted.defaultArraySize, Extracted.maxDimTotalElements, endsWithDollar, readAt, linearIndex, linearIndexAux,
    ArrayV.dims, alSet, arrAbs]

theorem absTwo_eval (x y : F) :
    orExpr (evalN defaultFuel) ({ imm := absTwoToks x y } : St F) =
      .err { err := .syntax (.expectedToken .RightParen) }
        ({ imm := absTwoToks x y, loc := { line := none, idx := 4 }, reads := 15 } : St F) := rfl

theorem absNone_fold (k : Nat) (env : RefEnv F) : fold2 k env (absNone F) = .error (.syntax .unexpectedToken) := by
  simp [absNone, fold2, foldIdx]

theorem absNone_eval :
    orExpr (evalN defaultFuel) ({ imm := absNoneToks F } : St F) =
      .err { err := .syntax .unexpectedToken }
        ({ imm := absNoneToks F, loc := { line := none, idx := 3 }, reads := 8 } : St F) := rfl

end Examples
end DemoArity

open DemoArity Demo2

/-- The two facts of the header, for every carrier and numbers `x`, `y` truncating to 1 and 2:
    `fold2` at any fuel in the empty environment, the evaluator on a fresh interpreter. -/
theorem builtin_arity_counterexample (x y : F) (hx : NumOps.toI64 x = 1) (hy : NumOps.toI64 y = 2) :
    render2 (absTwo x y) = absTwoToks x y ∧ render2 (absTwoCall x y) = absTwoToks x y ∧
    (∀ fns, normalize fns (absTwo x y) = absTwo x y) ∧ (∀ fns, normalize fns (absTwoCall x y) = absTwo x y) ∧
    (∀ k, fold2 k (emptyEnv F) (absTwo x y) = .ok (.num NumOps.zero, { emptyEnv F with arrays := arrAbs F })) ∧
    (∀ k, fold2 k (emptyEnv F) (absTwoCall x y) = .ok (.num NumOps.zero, { emptyEnv F with arrays := arrAbs F })) ∧
    errOf (orExpr (evalN defaultFuel) ({ imm := absTwoToks x y } : St F)) =
      some { err := .syntax (.expectedToken .RightParen) } ∧
    (finalOf (orExpr (evalN defaultFuel) ({ imm := absTwoToks x y } : St F))).arrays = [] :=
  ⟨absTwo_render x y, absTwoCall_render x y, fun fns => absTwo_norm fns x y, fun fns => absTwoCall_norm fns x y,
   fun k => absTwo_fold k x y hx hy, fun k => absTwoCall_fold k x y hx hy,
   by rw [absTwo_eval]; rfl, by rw [absTwo_eval]; rfl⟩

/-- The zero-argument variant: the error kinds agree; the tree is outside `Arity1` all the same. -/
theorem builtin_arity_zero :
    render2 (absNone F) = absNoneToks F ∧ (∀ fns, normalize fns (absNone F) = absNone F) ∧
    errOf (orExpr (evalN defaultFuel) ({ imm := absNoneToks F } : St F)) = some { err := .syntax .unexpectedToken } ∧
    (∀ k env, fold2 k env (absNone F) = .error (.syntax .unexpectedToken)) ∧
    ¬ Arity1 (absNone F) ∧ (∀ x y : F, ¬ Arity1 (absTwo x y)) :=
  ⟨absNone_render, absNone_norm, by rw [absNone_eval]; rfl, absNone_fold,
   (by simp only [absNone, Arity1]; intro h; exact absurd (h.1 (by decide)) (by simp)),
   (fun x y => by simp only [absTwo, Arity1]; intro h; exact absurd (h.1 (by decide)) (by simp))⟩

/-- The hypotheses of `eval_render2_any_partial` WITHOUT `Arity1` (neither for
    the tree nor for the function bodies). -/
structure ReadyAny0 (σ : St F) (env : RefEnv F) (pre : List (Token F)) (e : Expr2 F) (rest : List (Token F))
    (k n : Nat) : Prop where
  toks : tokens σ = .ok (pre ++ render2 e ++ rest) σ
  idx : σ.loc.idx = pre.length
  envOf : EnvOf σ env
  arrays_ok : ∀ p ∈ σ.arrays, p.2.cellCount = Props.C16.prod p.2.dims
  rng_ok : σ.rng < 2 ^ 33
  stack : σ.stack.length ≤ Extracted.stackLimit
  specFuel : Extracted.stackLimit < k + σ.stack.length
  nesting : σ.nesting + depth2 (normFns env.fns) k (normalize env.fns e) < Extracted.nestingLimit
  fuel : depth2 (normFns env.fns) k (normalize env.fns e) + 1 ≤ n
  follows : Follows rest

omit [NumOps F] in
theorem ReadyAny.ready0 {σ : St F} {env : RefEnv F} {pre rest : List (Token F)} {e : Expr2 F} {k n : Nat}
    (h : ReadyAny σ env pre e rest k n) : ReadyAny0 σ env pre e rest k n :=
  ⟨h.toks, h.idx, h.envOf, h.arrays_ok, h.rng_ok, h.stack, h.specFuel, h.nesting, h.fuel, h.follows⟩

/-- the conclusion of `eval_render2_any_partial` -/
def AnyConclusion (e : Expr2 F) (k n : Nat) (σ : St F) (env : RefEnv F) (pre : List (Token F)) : Prop :=
  (∀ v env', fold2 k (normEnv env) (normalize env.fns e) = .ok (v, env') → ∃ r, σ.reads < r ∧
    orExpr (evalN n) σ =
      .ok v { σ with loc := { σ.loc with idx := pre.length + (render2 e).length }, reads := r, arrays := env'.arrays, rng := env'.rng } ∧
    EnvOf ({ σ with loc := { σ.loc with idx := pre.length + (render2 e).length }, reads := r, arrays := env'.arrays, rng := env'.rng } : St F) env') ∧
  (∀ x, fold2 k (normEnv env) (normalize env.fns e) = .error x → ∃ te σ',
    orExpr (evalN n) σ = .err te σ' ∧ te.err = x ∧
    σ'.nesting = σ.nesting ∧ σ'.stack = σ.stack ∧ σ'.loc.line = σ.loc.line ∧ ErrLoc σ te)

/-- (what is proved: the conclusion under `ReadyAny`) -/
theorem anyConclusion_of_readyAny (e : Expr2 F) (k n : Nat) (σ : St F) (env : RefEnv F)
    (pre rest : List (Token F)) (h : ReadyAny σ env pre e rest k n) (hw : σ.warnings = false) :
    AnyConclusion e k n σ env pre :=
  eval_render2_any_partial e k n σ env pre rest h hw

theorem absTwo_ready0 (x y : F) :
    ReadyAny0 ({ imm := absTwoToks x y } : St F) (emptyEnv F) [] (absTwo x y) [] 33 defaultFuel where
  toks := by rw [absTwo_render]; rfl
  idx := rfl
  envOf := ⟨rfl, rfl, rfl, rfl, fun _ _ => rfl, fun _ _ h => by cases h⟩
  arrays_ok := by intro p hp; cases hp
  rng_ok := by show (0 : Nat) < 2 ^ 33; decide
  stack := by show (0 : Nat) ≤ _; exact Nat.zero_le _
  specFuel := by show Extracted.stackLimit < 33 + 0; decide
  nesting := by
    show 0 + _ < _
    rw [absTwo_norm]
    simp [absTwo, depth2, depthArgs, Extracted.nestingLimit]
  fuel := by
    rw [absTwo_norm]
    simp [absTwo, depth2, depthArgs, defaultFuel, Extracted.nestingLimit]
  follows := follows_nil

/-- Without `Arity1` the statement of
    `eval_render2_any_partial` is false: in every carrier that has numbers
    truncating to 1 and 2 the hypotheses `ReadyAny0` do not imply the
    conclusion (witness: `ABS ( x , y )` on a fresh interpreter — the spec has a
    value, the evaluator an error). -/
theorem eval_render2_any_false (x y : F) (hx : NumOps.toI64 x = 1) (hy : NumOps.toI64 y = 2) :
    ¬ (∀ (e : Expr2 F) (k n : Nat) (σ : St F) (env : RefEnv F) (pre rest : List (Token F)),
        ReadyAny0 σ env pre e rest k n → σ.warnings = false → AnyConclusion e k n σ env pre) := by
  intro hall
  have h := (hall (absTwo x y) 33 defaultFuel _ (emptyEnv F) [] [] (absTwo_ready0 x y) rfl).1
    (.num NumOps.zero) { emptyEnv F with arrays := arrAbs F }
    (by rw [absTwo_norm]; exact absTwo_fold 33 x y hx hy)
  obtain ⟨r, _, hr, _⟩ := h
  rw [absTwo_eval] at hr
  cases hr

section
attribute [local instance] Abasic.Props.C14.natOps

/-- the text level, carrier `Nat` with decimal numerals (`C14.natOps`): the tree
    prints as `ABS ( 1 , 2 )`, and the tokenizer reads `ABS(1,2)` (and the printed
    text) as the rendering of the tree -/
example :
    Expr2.text (absTwo (1 : Nat) 2) = "ABS ( 1 , 2 )".toList ∧
    tokenize (F := Nat) "ABS(1,2)".toList 0 = .ok (absTwoToks 1 2) ∧
    tokenize (F := Nat) "ABS ( 1 , 2 )".toList 0 = .ok (absTwoToks 1 2) ∧
    Expr2.text (absNone Nat) = "ABS ( )".toList ∧
    tokenize (F := Nat) "ABS()".toList 0 = .ok (absNoneToks Nat) := by
  simp only [Fast.tokenize_eq]
  literal_chars
  refine ⟨?_, by rfl, by rfl, ?_, by rfl⟩
  · rw [Expr2.text, absTwo_render]; rfl
  · rw [Expr2.text, absNone_render]; rfl

/-- closed form: the unrestricted statement, quantified over all carriers, is false -/
theorem eval_render2_any_false_closed :
    ¬ (∀ (F : Type) [NumOps F] (e : Expr2 F) (k n : Nat) (σ : St F) (env : RefEnv F) (pre rest : List (Token F)),
        ReadyAny0 σ env pre e rest k n → σ.warnings = false → AnyConclusion e k n σ env pre) :=
  fun hall => eval_render2_any_false (F := Nat) 1 2 rfl rfl (hall Nat)
end

end Abasic.Props.C02
