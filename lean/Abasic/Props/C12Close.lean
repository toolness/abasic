import Abasic.Props.C12Prot
import Abasic.Proofs.C12Data
import Abasic.Props.C12More
import Abasic.Proofs.TokFast
/-
  C12: on a line without protected tokens every insertion is outside protected text;
  blanks in a DATA payload, on whole lines.

  (a) On a line without protected tokens (it tokenizes without error and yields keywords /
      operators, numbers and identifiers only — no string literal, no REM, no DATA) *every*
      single insertion `Ins w line line'` is an insertion outside protected text
      (`InsOutside`).  So the theorem about lines without protected tokens
      (`tokenize_ins_unprotected`, C12More.lean) is also a corollary of the general
      theorem `tokenize_ins_outside_iff`.
  (b) The DATA parser-level theorems `data_blank_start`, `data_blank_end`, `data_blank_eol`
      are connected to whole lines (`tokenize_data_blank`).
  (c) Checked examples: a blank inside an unquoted DATA item, and letter case inside DATA
      items and remark text, DO change the token — these regions are excluded by the
      property itself.
-/
namespace Abasic.Props.C12
open Abasic

theorem Ins.append_cases {w : Char} (p : Str) : ∀ {s x : Str}, Ins w (p ++ s) x →
    (∃ p', x = p' ++ s ∧ Ins w p p') ∨ (∃ s', x = p ++ s' ∧ Ins w s s') := by
  induction p with
  | nil =>
    intro s x h
    exact Or.inr ⟨x, rfl, h⟩
  | cons c p ih =>
    intro s x h
    cases h with
    | same => exact Or.inl ⟨c :: p, rfl, Ins.same _⟩
    | here => exact Or.inl ⟨w :: c :: p, rfl, Ins.here _⟩
    | cons _ h' =>
      rcases ih h' with ⟨p', e, hp⟩ | ⟨s', e, hs⟩
      · exact Or.inl ⟨c :: p', by rw [e]; rfl, Ins.cons c hp⟩
      · exact Or.inr ⟨s', by rw [e]; rfl, hs⟩

variable {F : Type} [NumOps F]

/-- "A line without protected tokens", in terms of the tokenizer's run: the two hypotheses
    of `tokenize_ins_unprotected`. -/
def NoProtected (F : Type) [NumOps F] (line : Str) : Prop :=
  ∃ ts : List (Token F), tokenize (F := F) line 0 = .ok ts ∧ ∀ t ∈ ts, Unprotected t = true

omit [NumOps F] in
theorem closed_of_unprotected (tk : Token F) (h : Unprotected tk = true) : Closed tk = true := by
  cases tk <;> first | rfl | cases h

theorem tokList_unprotected_insOutside (w : Char) (n : Nat) :
    ∀ (cs cs' : Str), cs.length ≤ n → Ins w cs cs' → ∀ (fuel : Nat) (ts : List (Token F)),
    tokList (F := F) fuel cs = some ts → (∀ t ∈ ts, Unprotected t = true) → InsOutside F w cs cs' := by
  induction n with
  | zero =>
    intro cs cs' hlen hI fuel ts _ _
    cases hI with
    | same => exact InsOutside.same _
    | here => exact InsOutside.here _
    | cons c _ => simp only [List.length_cons] at hlen; omega
  | succ n ih =>
    intro cs cs' hlen hI fuel ts ht hun
    cases hI with
    | same => exact InsOutside.same _
    | here => exact InsOutside.here _
    | @cons c r r' h =>
      simp only [List.length_cons] at hlen
      cases fuel with
      | zero => rw [tokList_zero] at ht; cases ht
      | succ fuel =>
        by_cases hb : isBasicWs c = true
        · rw [tokList_blank (fuel + 1) c hb] at ht
          exact InsOutside.blank c hb (ih r r' (by omega) h (fuel + 1) ts ht hun)
        · have hc : isBasicWs c = false := by simpa using hb
          rw [tokList_succ_cons fuel _ c r (skipWs_nonblank c r hc)] at ht
          cases hn : nextToken (F := F) (c :: r) with
          | tok tk rest =>
            rw [hn] at ht
            simp only at ht
            cases hl : tokList (F := F) fuel rest with
            | none => rw [hl] at ht; cases ht
            | some ts' =>
              rw [hl] at ht
              obtain rfl := Option.some.inj ht
              have hu : Unprotected tk = true := hun tk (List.mem_cons_self ..)
              obtain ⟨p, rfl⟩ := C13.lexeme_of_consumes (C13.nextToken_cases_consumes (c :: r) tk rest hn)
              rcases Ins.append_cases p h with ⟨p', rfl, hi⟩ | ⟨rest', rfl, hi⟩
              · exact InsOutside.inTok c p p' rest tk hc hn hu hi
              · exact InsOutside.later c p rest rest' tk hc hn (closed_of_unprotected tk hu)
                  (ih rest rest' (by simp only [List.length_append] at hlen; omega) hi fuel ts' hl
                    fun t hm => hun t (List.mem_cons_of_mem _ hm))
          | _ => rw [hn] at ht; cases ht

/-- (a).  On a line without protected tokens every single insertion — of any
    character `w`, at any position of the text handed to the tokenizer — is an insertion
    outside protected text. -/
theorem ins_unprotected_is_outside (w : Char) {line line' : Str} (h : Ins w line line')
    (ts : List (Token F)) (hok : tokenize (F := F) line 0 = .ok ts)
    (hun : ∀ t ∈ ts, Unprotected t = true) : InsOutside F w line line' :=
  tokList_unprotected_insOutside w line.length line line' (Nat.le_refl _) h _ ts
    ((tokenize_iff_tokList line ts).mp hok) hun

theorem ins_noProtected_is_outside (w : Char) {line line' : Str} (h : Ins w line line')
    (hnp : NoProtected F line) : InsOutside F w line line' := by
  obtain ⟨ts, hok, hun⟩ := hnp
  exact ins_unprotected_is_outside w h ts hok hun

/-- `tokenize_ins_unprotected` (C12More.lean) as a corollary of `tokenize_ins_outside_iff`:
    same hypotheses, same conclusion. -/
theorem tokenize_ins_unprotected' (w : Char) (hw : isBasicWs w = true) {line line' : Str}
    (h : Ins w line line') (ts : List (Token F)) (hok : tokenize (F := F) line 0 = .ok ts)
    (hun : ∀ t ∈ ts, Unprotected t = true) : tokenize (F := F) line' 0 = .ok ts :=
  (tokenize_ins_outside_iff w hw (ins_unprotected_is_outside w h ts hok hun) ts).mp hok

/-- … and in the form of an equivalence: a line without protected tokens and the line with
    one blank inserted anywhere tokenize to the same tokens. -/
theorem tokenize_ins_noProtected_iff (w : Char) (hw : isBasicWs w = true) {line line' : Str}
    (h : Ins w line line') (hnp : NoProtected F line) (ts : List (Token F)) :
    tokenize (F := F) line 0 = .ok ts ↔ tokenize (F := F) line' 0 = .ok ts :=
  tokenize_ins_outside_iff w hw (ins_noProtected_is_outside w h hnp) ts

omit [NumOps F] in
theorem unprotected_iff (tk : Token F) :
    Unprotected tk = true ↔ (∀ s, tk ≠ .str s) ∧ (∀ s, tk ≠ .remark s) ∧ (∀ items, tk ≠ .data items) := by
  cases tk <;> simp [Unprotected]

/-- The edited line has no protected tokens either (so the step can be iterated). -/
theorem noProtected_ins (w : Char) (hw : isBasicWs w = true) {line line' : Str}
    (h : Ins w line line') (hnp : NoProtected F line) : NoProtected F line' := by
  obtain ⟨ts, hok, hun⟩ := hnp
  exact ⟨ts, tokenize_ins_unprotected' w hw h ts hok hun, hun⟩

/-- (a), iterated: any number of blanks inserted anywhere in a line without protected tokens
    is a sequence of insertions outside protected text. -/
theorem insBlanks_noProtected_is_outside {line line' : Str} (h : InsBlanks line line')
    (hnp : NoProtected F line) : InsBlanksOutside F line line' ∧ NoProtected F line' := by
  induction h with
  | refl => exact ⟨InsBlanksOutside.refl _, hnp⟩
  | step w _ hw hi ih =>
    obtain ⟨h1, h2⟩ := ih
    exact ⟨InsBlanksOutside.step w h1 hw (ins_noProtected_is_outside w hi h2), noProtected_ins w hw hi h2⟩

/-- `tokenize_insBlanks_unprotected` (C12More.lean) as a corollary of
    `tokenize_insBlanks_outside_iff`. -/
theorem tokenize_insBlanks_unprotected' {line line' : Str} (h : InsBlanks line line') (ts : List (Token F))
    (hok : tokenize (F := F) line 0 = .ok ts) (hun : ∀ t ∈ ts, Unprotected t = true) :
    tokenize (F := F) line' 0 = .ok ts :=
  (tokenize_insBlanks_outside_iff (insBlanks_noProtected_is_outside h ⟨ts, hok, hun⟩).1 ts).mp hok

/-! ### (b) blanks in a DATA payload, for whole lines

  The payload of a DATA statement is the text between the last letter of the keyword and
  the first colon outside quotes (or the end of the line).  `DataBlankPos F a1 a2` says
  that the position between `a1` and `a2` in the payload `a1 ++ a2` is one of the
  positions where a blank does not matter.  Covered positions (all outside quotes):

  * where the current item is still blank (`trim cur = []`): the start of the payload,
    immediately after a separating comma, anywhere in a run of blanks in front of an item,
    immediately in front of the opening quote of a quoted item, immediately behind the
    closing quote of a quoted item (`data_state_start`, `data_state_after_comma`,
    `data_state_after_quote` show that these are such states);
  * immediately in front of a separating comma (`a2 = ',' :: _`), i.e. at the end of an
    unquoted item or behind a quoted one;
  * at the end of the payload (`a2 = []`), i.e. immediately in front of the terminating
    colon or at the end of the line.

  Not covered — because there a blank DOES change an item — is the inside of an unquoted
  item (`DATA a b` / `DATA ab`, see the examples below) and the inside of a quoted one.
  Runs of several blanks are obtained by inserting one blank after the other
  (`InsDataBlanks`). -/

def DataBlankPos (F : Type) [NumOps F] (a1 a2 : Str) : Prop :=
  (DataParser.run ({} : DataParser F) a1).finished = false ∧
  (DataParser.run ({} : DataParser F) a1).inQuote = false ∧
  (trim (DataParser.run ({} : DataParser F) a1).cur = [] ∨ (∃ s, a2 = ',' :: s) ∨ a2 = [])

/-- The parsed items are the same (`data_blank_start`, `data_blank_end`, `data_blank_eol`);
    `rest` is what follows the payload. -/
theorem parseData_blank_items (w : Char) (hw : isBasicWs w = true) (a1 a2 rest : Str)
    (hpos : DataBlankPos F a1 a2) (hrest : dataRest F (a1 ++ (a2 ++ rest)) = rest) :
    (parseData (F := F) (a1 ++ w :: (a2 ++ rest))).1 = (parseData (F := F) (a1 ++ (a2 ++ rest))).1 := by
  obtain ⟨hf, hq, hp⟩ := hpos
  rcases hp with he | ⟨s, rfl⟩ | rfl
  · exact data_blank_start a1 _ w hw hf hq he
  · exact data_blank_end a1 (s ++ rest) w ',' hw (Or.inl rfl) hf hq
  · simp only [List.nil_append] at hrest ⊢
    rcases dataRest_nil_or_colon (F := F) (a1 ++ rest) with h | ⟨r, h⟩
    · rw [hrest] at h
      subst h
      simp only [List.append_nil]
      exact data_blank_eol a1 w hw hf hq
    · rw [hrest] at h
      subst h
      exact data_blank_end a1 r w ':' hw (Or.inr rfl) hf hq

/-- One step of the tokenizer at a DATA statement (`kp` are the remaining characters of the
    keyword, possibly with blanks between them; the payload is `a1 ++ a2`; `rest` is what
    the statement leaves): with a blank inserted at a covered position of the payload the
    very same DATA token is produced and the very same text is left. -/
theorem nextToken_data_blank (w : Char) (hw : isBasicWs w = true) (c : Char) (kp a1 a2 rest : Str)
    (items : List (DataElement F))
    (hn : nextToken (F := F) (c :: (kp ++ (a1 ++ (a2 ++ rest)))) = .tok (.data items) rest)
    (hk : chompKeyword Extracted.dataKeyword.toList (c :: (kp ++ (a1 ++ (a2 ++ rest)))) =
      some (a1 ++ (a2 ++ rest)))
    (hpos : DataBlankPos F a1 a2) :
    nextToken (F := F) (c :: (kp ++ (a1 ++ w :: (a2 ++ rest)))) = .tok (.data items) rest := by
  have hI : Ins w (c :: (kp ++ (a1 ++ (a2 ++ rest)))) (c :: (kp ++ (a1 ++ w :: (a2 ++ rest)))) :=
    Ins.cons c (Ins.append_left kp (Ins.append_left a1 (Ins.here _)))
  obtain ⟨pre, e1, hloc⟩ := chompKeyword_local _ _ _ hk
  have hpre : c :: kp = pre := by
    have : (c :: kp) ++ (a1 ++ (a2 ++ rest)) = pre ++ (a1 ++ (a2 ++ rest)) := by rw [← e1]; rfl
    exact List.append_cancel_right this
  have hk' : chompKeyword Extracted.dataKeyword.toList (c :: (kp ++ (a1 ++ w :: (a2 ++ rest)))) =
      some (a1 ++ w :: (a2 ++ rest)) := by
    have : c :: (kp ++ (a1 ++ w :: (a2 ++ rest))) = pre ++ (a1 ++ w :: (a2 ++ rest)) := by
      rw [← hpre]; rfl
    rw [this]; exact hloc _
  obtain ⟨pl0, pl', h0, h0', _, h1a, h1b, h2⟩ := (nextToken_rel (F := F) (respects_ins w hw) rfl hI).dataTok hn
  obtain rfl := Option.some.inj (hk.symm.trans h0)
  obtain rfl := Option.some.inj (hk'.symm.trans h0')
  have hrest : dataRest F (a1 ++ (a2 ++ rest)) = rest := h1b.symm
  have e_items : (parseData (F := F) (a1 ++ w :: (a2 ++ rest))).1 = items := by
    rw [parseData_blank_items w hw a1 a2 rest hpos hrest, ← h1a]
  have e_rest : dropBytes (parseData (F := F) (a1 ++ w :: (a2 ++ rest))).2 (a1 ++ w :: (a2 ++ rest)) = rest :=
    (dataRest_blank a1 (a2 ++ rest) w hw hpos.1 hpos.2.1).trans hrest
  rw [h2, e_items, e_rest]

/-- `InsData F w line line'`: `line'` is `line` with one `w` inserted either outside
    protected text (`outside`, see `InsOutside`) or at a covered position inside the payload
    of a DATA statement that the tokenizer's run over `line` reaches:

    * `blank`, `later`, `afterData`: the run steps over a blank, over a token delimited by
      itself (keyword/operator, number, identifier, string literal), over a whole DATA
      statement up to its terminating colon — exactly as in `InsOutside`;
    * `inPayload`: the next token is a DATA statement — the matcher for the keyword DATA
      consumes `c :: kp` and leaves `a1 ++ a2 ++ rest`, the DATA token leaves `rest`, so the
      payload is `a1 ++ a2` — and `w` is inserted between `a1` and `a2`, a covered
      position (`DataBlankPos`). -/
inductive InsData (F : Type) [NumOps F] (w : Char) : Str → Str → Prop
  | outside {cs cs' : Str} : InsOutside F w cs cs' → InsData F w cs cs'
  | blank (b : Char) {cs cs' : Str} : isBasicWs b = true → InsData F w cs cs' →
      InsData F w (b :: cs) (b :: cs')
  | later (c : Char) (p rest rest' : Str) (tk : Token F) : isBasicWs c = false →
      nextToken (F := F) (c :: (p ++ rest)) = .tok tk rest → Closed tk = true →
      InsData F w rest rest' → InsData F w (c :: (p ++ rest)) (c :: (p ++ rest'))
  | afterData (c : Char) (p r r' : Str) (items : List (DataElement F)) : isBasicWs c = false →
      nextToken (F := F) (c :: (p ++ ':' :: r)) = .tok (.data items) (':' :: r) →
      InsData F w (':' :: r) (':' :: r') → InsData F w (c :: (p ++ ':' :: r)) (c :: (p ++ ':' :: r'))
  | inPayload (c : Char) (kp a1 a2 rest : Str) (items : List (DataElement F)) : isBasicWs c = false →
      nextToken (F := F) (c :: (kp ++ (a1 ++ (a2 ++ rest)))) = .tok (.data items) rest →
      chompKeyword Extracted.dataKeyword.toList (c :: (kp ++ (a1 ++ (a2 ++ rest)))) =
        some (a1 ++ (a2 ++ rest)) →
      DataBlankPos F a1 a2 →
      InsData F w (c :: (kp ++ (a1 ++ (a2 ++ rest)))) (c :: (kp ++ (a1 ++ w :: (a2 ++ rest))))

theorem InsData.toIns {w : Char} {cs cs' : Str} (h : InsData F w cs cs') : Ins w cs cs' := by
  induction h with
  | outside h => exact h.toIns
  | blank b _ _ ih => exact Ins.cons b ih
  | later c p rest rest' tk _ _ _ _ ih => exact Ins.cons c (Ins.append_left p ih)
  | afterData c p r r' items _ _ _ ih => exact Ins.cons c (Ins.append_left p ih)
  | inPayload c kp a1 a2 rest items _ _ _ _ =>
    exact Ins.cons c (Ins.append_left kp (Ins.append_left a1 (Ins.here _)))

/-- `InsData.later` with the text of the token given by its length -/
theorem InsData.later_at {w c : Char} {t t' : Str} (n : Nat) (tk : Token F) (hc : isBasicWs c = false)
    (hn : nextToken (F := F) (c :: t) = .tok tk (t.drop n)) (hcl : Closed tk = true)
    (hp : t'.take n = t.take n) (h : InsData F w (t.drop n) (t'.drop n)) : InsData F w (c :: t) (c :: t') := by
  have e := InsData.later c (t.take n) (t.drop n) (t'.drop n) tk hc (by rw [List.take_append_drop]; exact hn) hcl h
  rw [List.take_append_drop] at e
  rw [← List.take_append_drop n t', hp]
  exact e

/-- `InsData.inPayload`: `k` characters of keyword behind `c`, the blank goes behind `i` characters of the
    payload, `j` more characters of payload follow -/
theorem InsData.inPayload_at {w c : Char} {t t' : Str} (k i j : Nat) (items : List (DataElement F))
    (hc : isBasicWs c = false)
    (hn : nextToken (F := F) (c :: t) = .tok (.data items) (((t.drop k).drop i).drop j))
    (hk : chompKeyword Extracted.dataKeyword.toList (c :: t) = some (t.drop k))
    (hp : DataBlankPos F ((t.drop k).take i) (((t.drop k).drop i).take j))
    (ht' : t' = t.take k ++ ((t.drop k).take i ++ w :: (t.drop k).drop i)) :
    InsData F w (c :: t) (c :: t') := by
  have e2 : (t.drop k).drop i = ((t.drop k).drop i).take j ++ ((t.drop k).drop i).drop j :=
    (List.take_append_drop ..).symm
  have e1 : t.drop k = (t.drop k).take i ++ (((t.drop k).drop i).take j ++ ((t.drop k).drop i).drop j) := by
    rw [← e2, List.take_append_drop]
  have e0 : t = t.take k ++ ((t.drop k).take i ++ (((t.drop k).drop i).take j ++ ((t.drop k).drop i).drop j)) := by
    rw [← e1, List.take_append_drop]
  have := InsData.inPayload (w := w) c (t.take k) ((t.drop k).take i) (((t.drop k).drop i).take j)
    (((t.drop k).drop i).drop j) items hc (by rw [← e0]; exact hn) (by rw [← e0, ← e1]; exact hk) hp
  rw [← e0, ← e2, ← ht'] at this
  exact this

theorem tokList_insData (w : Char) (hw : isBasicWs w = true) {cs cs' : Str} (h : InsData F w cs cs') :
    ∀ fuel, tokList (F := F) fuel cs' = tokList (F := F) fuel cs := by
  induction h with
  | outside h => exact tokList_insOutside w hw h
  | blank b hb _ ih => intro fuel; rw [tokList_blank fuel b hb, tokList_blank fuel b hb, ih fuel]
  | later c p rest rest' tk hc hn hcl hio ih =>
    exact tokList_step_closed (stable_ins w hw) hc hn hcl (Ins.cons c (Ins.append_left p hio.toIns)) hio.toIns ih
  | afterData c p r r' items hc hn hio ih =>
    exact tokList_step_afterData (stable_ins w hw) hc hn (Ins.cons c (Ins.append_left p hio.toIns)) ih
  | inPayload c kp a1 a2 rest items hc hn hk hpos =>
    intro fuel
    cases fuel with
    | zero => rfl
    | succ fuel =>
      rw [tokList_nonblank_tok fuel c _ hc _ _ hn,
        tokList_nonblank_tok fuel c _ hc _ _ (nextToken_data_blank w hw c kp a1 a2 rest items hn hk hpos)]

/-- (b).  A blank inserted outside protected text or at a covered position of the
    payload of a DATA statement (start of an item, around a quoted item, in front of a
    separating comma, end of the payload): the two lines tokenize to the very same token
    list — in particular the DATA token carries the same items — or both fail. -/
theorem tokenize_data_blank (w : Char) (hw : isBasicWs w = true) {line line' : Str}
    (h : InsData F w line line') (ts : List (Token F)) :
    tokenize (F := F) line 0 = .ok ts ↔ tokenize (F := F) line' 0 = .ok ts :=
  tokenize_iff_of_tokList (tokList_insData w hw h) ts

inductive InsDataBlanks (F : Type) [NumOps F] : Str → Str → Prop
  | refl (r : Str) : InsDataBlanks F r r
  | step {a b c : Str} (w : Char) : InsDataBlanks F a b → isBasicWs w = true → InsData F w b c →
      InsDataBlanks F a c

/-- (b), iterated: runs of blanks around DATA items (and anywhere outside protected text). -/
theorem tokenize_data_blanks {line line' : Str} (h : InsDataBlanks F line line') (ts : List (Token F)) :
    tokenize (F := F) line 0 = .ok ts ↔ tokenize (F := F) line' 0 = .ok ts := by
  induction h with
  | refl => exact Iff.rfl
  | step w _ hw hi ih => exact ih.trans (tokenize_data_blank w hw hi ts)

/-- (b) for a line that starts with the DATA statement, without the inductive relation:
    `c :: kp` is the keyword as typed, `a1 ++ a2` the payload, `rest` what follows it. -/
theorem tokenize_data_blank_first (w : Char) (hw : isBasicWs w = true) (c : Char) (kp a1 a2 rest : Str)
    (items : List (DataElement F)) (hc : isBasicWs c = false)
    (hn : nextToken (F := F) (c :: (kp ++ (a1 ++ (a2 ++ rest)))) = .tok (.data items) rest)
    (hk : chompKeyword Extracted.dataKeyword.toList (c :: (kp ++ (a1 ++ (a2 ++ rest)))) =
      some (a1 ++ (a2 ++ rest)))
    (hpos : DataBlankPos F a1 a2) (ts : List (Token F)) :
    tokenize (F := F) (c :: (kp ++ (a1 ++ (a2 ++ rest)))) 0 = .ok ts ↔
      tokenize (F := F) (c :: (kp ++ (a1 ++ w :: (a2 ++ rest)))) 0 = .ok ts :=
  tokenize_data_blank w hw (InsData.inPayload c kp a1 a2 rest items hc hn hk hpos) ts

/-! ### numbered lines: the text behind the line-number prefix

  A program line is tokenized with the bytes of its line number skipped
  (`tokenize line skip`).  With `line = pfx ++ body` and `skip = len8 pfx` this is
  `tokenize body 0`, so (a) and (b) hold for an insertion at any position behind the
  line-number prefix. -/

theorem tokenize_after_prefix (pfx body : Str) (ts : List (Token F)) :
    tokenize (F := F) (pfx ++ body) (len8 pfx) = .ok ts ↔ tokenize (F := F) body 0 = .ok ts := by
  rw [tokenize_skip_iff_tokList, dropBytes_len8, tokenize_iff_tokList]

/-- (a) for a numbered line. -/
theorem ins_unprotected_is_outside_numbered (w : Char) (hw : isBasicWs w = true) (pfx : Str)
    {body body' : Str} (h : Ins w body body') (ts : List (Token F))
    (hok : tokenize (F := F) (pfx ++ body) (len8 pfx) = .ok ts) (hun : ∀ t ∈ ts, Unprotected t = true) :
    InsOutside F w body body' ∧ tokenize (F := F) (pfx ++ body') (len8 pfx) = .ok ts := by
  rw [tokenize_after_prefix] at hok ⊢
  exact ⟨ins_unprotected_is_outside w h ts hok hun, tokenize_ins_unprotected' w hw h ts hok hun⟩

/-- (b) for a numbered line. -/
theorem tokenize_data_blank_numbered (w : Char) (hw : isBasicWs w = true) (pfx : Str)
    {body body' : Str} (h : InsData F w body body') (ts : List (Token F)) :
    tokenize (F := F) (pfx ++ body) (len8 pfx) = .ok ts ↔
      tokenize (F := F) (pfx ++ body') (len8 pfx) = .ok ts := by
  rw [tokenize_after_prefix, tokenize_after_prefix]
  exact tokenize_data_blank w hw h ts

/-- (a), non-vacuity: `FOR I=ATOB` has no protected token, so `FOR I=A TOB` (a blank in the
    middle of what looks like an identifier) is an insertion outside protected text. -/
example : InsOutside Unit ' ' "FOR I=ATOB".toList "FOR I=A TOB".toList := by
  literal_chars
  exact ins_unprotected_is_outside ' ' (Ins.at ' ' _ 7)
    [.kw .For, .symbol ['I'], .kw .Equals, .symbol ['A'], .kw .To, .symbol ['B']] (by rw [Fast.tokenize_eq]; rfl) (by decide)

/-- (b), non-vacuity, a DATA statement in the middle of a line: `PRINT X:DATA a,"b",c:Y` and
    `PRINT X:DATA a, "b",c:Y` (blank behind a comma = in front of a quoted item). -/
example : tokenize (F := Unit) "PRINT X:DATA a, \"b\",c:Y".toList 0 =
    .ok [.kw .Print, .symbol ['X'], .kw .Colon,
      .data [.str "a".toList, .str "b".toList, .str "c".toList], .kw .Colon, .symbol ['Y']] := by
  refine (tokenize_data_blank (line := "PRINT X:DATA a,\"b\",c:Y".toList) ' ' (by decide) ?_ _).mp ?_
  all_goals literal_chars
  · refine InsData.later_at 4 (.kw .Print) (by decide) (by rw [Fast.nextTokenC_eq]; rfl) rfl rfl ?_
    refine InsData.blank ' ' (by decide) ?_
    refine InsData.later_at 0 (.symbol ['X']) (by decide) (by rw [Fast.nextTokenC_eq]; rfl) rfl rfl ?_
    refine InsData.later_at 0 (.kw .Colon) (by decide) (by rw [Fast.nextTokenC_eq]; rfl) rfl rfl ?_
    exact InsData.inPayload_at 3 3 5 _ (by decide) (by rw [Fast.nextTokenC_eq]; rfl) (by rw [Fast.data_eq]; rfl) ⟨by decide, by decide, Or.inl (by decide)⟩ rfl
  · rw [Fast.tokenize_eq]; rfl

/-- (b), non-vacuity: in front of a comma (end of an unquoted item): `DATA a,b` / `DATA a ,b`. -/
example : tokenize (F := Unit) "DATA a ,b".toList 0 = .ok [.data [.str "a".toList, .str "b".toList]] :=
  (tokenize_data_blank_first ' ' (by decide) 'D' "ATA".toList " a".toList ",b".toList [] _
    (by decide) (by rw [Fast.nextTokenC_eq]; rfl) (by rw [Fast.data_eq]; rfl) ⟨by decide, by decide, Or.inr (Or.inl ⟨_, rfl⟩)⟩ _).mp (by rw [Fast.tokenize_eq]; rfl)

/-- (b), non-vacuity: at the end of the payload in front of the colon: `DATA a:X` / `DATA a :X`. -/
example : tokenize (F := Unit) "DATA a :X".toList 0 =
    .ok [.data [.str "a".toList], .kw .Colon, .symbol ['X']] :=
  (tokenize_data_blank_first ' ' (by decide) 'D' "ATA".toList " a".toList [] ":X".toList _
    (by decide) (by rw [Fast.nextTokenC_eq]; rfl) (by rw [Fast.data_eq]; rfl) ⟨by decide, by decide, Or.inr (Or.inr rfl)⟩ _).mp (by rw [Fast.tokenize_eq]; rfl)

/-- (b), non-vacuity: at the end of the line, behind a quoted item: `DATA "a"` / `DATA "a" `
    (with a TAB). -/
example : tokenize (F := Unit) "DATA \"a\"\t".toList 0 = .ok [.data [.str "a".toList]] :=
  (tokenize_data_blank_first '\t' (by decide) 'D' "ATA".toList " \"a\"".toList [] [] _
    (by decide) (by rw [Fast.nextTokenC_eq]; rfl) (by rw [Fast.data_eq]; rfl) ⟨by decide, by decide, Or.inr (Or.inr rfl)⟩ _).mp (by rw [Fast.tokenize_eq]; rfl)

/-- (b), the excluded region: a blank INSIDE an unquoted item.  `DATA ab` and `DATA a b` differ
    by one inserted blank, the items — hence the tokens — differ, so this insertion is
    neither outside protected text nor at a covered DATA position. -/
theorem data_blank_inside_item_counterexample :
    Ins ' ' "DATA ab".toList "DATA a b".toList ∧
    tokenize (F := Unit) "DATA ab".toList 0 = .ok [.data [.str "ab".toList]] ∧
    tokenize (F := Unit) "DATA a b".toList 0 = .ok [.data [.str "a b".toList]] ∧
    tokenize (F := Unit) "DATA ab".toList 0 ≠ tokenize (F := Unit) "DATA a b".toList 0 ∧
    ¬ InsData Unit ' ' "DATA ab".toList "DATA a b".toList := by
  have h1 : tokenize (F := Unit) "DATA ab".toList 0 = .ok [.data [.str "ab".toList]] := by rw [Fast.tokenize_eq]; rfl
  have h3 : tokenize (F := Unit) "DATA a b".toList 0 = .ok [.data [.str "a b".toList]] := by rw [Fast.tokenize_eq]; rfl
  have hne : [Token.data (F := Unit) [.str "ab".toList]] ≠ [.data [.str "a b".toList]] := by simp
  refine ⟨Ins.cons 'D' (Ins.cons 'A' (Ins.cons 'T' (Ins.cons 'A' (Ins.cons ' ' (Ins.cons 'a' (Ins.here _)))))),
    h1, h3, ?_, fun h => hne (tokens_eq_of_iff (tokenize_data_blank ' ' (by decide) h _) h1 h3)⟩
  rw [h1, h3]
  exact fun h => hne (Except.ok.inj h)

/-- … and the parser-level form of the same fact. -/
example : (parseData (F := Unit) " a b".toList).1.map DataElement.render ≠
    (parseData (F := Unit) " ab".toList).1.map DataElement.render := by decide

/-! ### (c) letter case inside remark text and DATA items is kept

  The tokenizer upper-cases keywords and identifiers only.  The text of a remark and the
  payload of a DATA statement are handed on as typed (`remark_text_verbatim`,
  `data_payload_verbatim`), and the DATA parser does not touch letter case either
  (`parseData_plain_item`: an unquoted item is its text, trimmed).  So a change of letter
  case there DOES change the token: the exclusion in the property is necessary
  (`tokenize_case_data`). -/

/-- The text of a remark is, character for character, what follows the keyword REM up to
    the end of the line. -/
theorem remark_text_verbatim (c : Char) (t pay rest : Str)
    (h : nextToken (F := F) (c :: t) = .tok (.remark pay) rest) :
    rest = [] ∧ chompKeyword Extracted.remKeyword.toList (c :: t) = some pay ∧ pay <:+ c :: t := by
  cases nextTok_of h with
  | remark _ _ h2 => exact ⟨rfl, h2, chompKeyword_suffix _ _ _ h2⟩

/-- The items of a DATA token are what `parse_data_until_colon` makes of the text that
    follows the keyword DATA, character for character. -/
theorem data_payload_verbatim (c : Char) (t rest : Str) (items : List (DataElement F))
    (h : nextToken (F := F) (c :: t) = .tok (.data items) rest) :
    ∃ pl, chompKeyword Extracted.dataKeyword.toList (c :: t) = some pl ∧ pl <:+ c :: t ∧
      items = (parseData (F := F) pl).1 ∧ rest = dataRest F pl := by
  cases nextTok_of h with
  | data _ _ _ h0 => exact ⟨_, h0, chompKeyword_suffix _ _ _ h0, rfl, rfl⟩

/-- A payload without separator, colon and quote is one unquoted item: its text as typed,
    with the blanks at both ends removed — letter case is not touched. -/
theorem parseData_plain_item (s : Str) (hs : ∀ x ∈ s, x ≠ ':' ∧ x ≠ ',' ∧ x ≠ '"') :
    (parseData (F := F) s).1 =
      [match NumOps.parse (F := F) (trim s) with
       | some x => .num x
       | none => .str (trim s)] := by
  have hr := C14.reads_plain (F := F) [] [] s (fun c hc => ⟨(hs c hc).1, (hs c hc).2.1⟩)
    (.inr fun hq => (hs _ hq).2.2 rfl) 0
  rw [List.nil_append, Nat.zero_add] at hr
  rw [parseData_items, show ({} : DataParser F) = ⟨false, [], 0, [], false⟩ from rfl, hr]
  by_cases he : trim s = [] <;>
  simp [DataParser.finish, DataParser.pushCurrent, he] <;>
  split <;> rename_i h <;> simp [h]

/-- (c).  Letter case inside DATA items (unquoted or quoted) and inside remark text is
    kept, not upper-cased: the lines below differ in the case of one letter only (`CaseEq`),
    yet the tokens differ; so such an edit is not a case change outside protected text
    (`CaseEqOutside`) — the exclusion in the property is necessary.  The keyword itself may
    be typed in any case (`data aB`, `rem aB`), the text behind it is still kept. -/
theorem tokenize_case_data :
    (CaseEq "DATA ab".toList "DATA aB".toList ∧
      tokenize (F := Unit) "DATA ab".toList 0 = .ok [.data [.str "ab".toList]] ∧
      tokenize (F := Unit) "DATA aB".toList 0 = .ok [.data [.str "aB".toList]] ∧
      tokenize (F := Unit) "data aB".toList 0 = .ok [.data [.str "aB".toList]] ∧
      tokenize (F := Unit) "DATA ab".toList 0 ≠ tokenize (F := Unit) "DATA aB".toList 0 ∧
      ¬ CaseEqOutside Unit "DATA ab".toList "DATA aB".toList) ∧
    (CaseEq "DATA \"ab\",c".toList "DATA \"aB\",c".toList ∧
      tokenize (F := Unit) "DATA \"ab\",c".toList 0 = .ok [.data [.str "ab".toList, .str "c".toList]] ∧
      tokenize (F := Unit) "DATA \"aB\",c".toList 0 = .ok [.data [.str "aB".toList, .str "c".toList]] ∧
      tokenize (F := Unit) "DATA \"ab\",c".toList 0 ≠ tokenize (F := Unit) "DATA \"aB\",c".toList 0 ∧
      ¬ CaseEqOutside Unit "DATA \"ab\",c".toList "DATA \"aB\",c".toList) ∧
    (CaseEq "REM ab".toList "REM aB".toList ∧
      tokenize (F := Unit) "REM ab".toList 0 = .ok [.remark " ab".toList] ∧
      tokenize (F := Unit) "REM aB".toList 0 = .ok [.remark " aB".toList] ∧
      tokenize (F := Unit) "rem aB".toList 0 = .ok [.remark " aB".toList] ∧
      tokenize (F := Unit) "REM ab".toList 0 ≠ tokenize (F := Unit) "REM aB".toList 0 ∧
      ¬ CaseEqOutside Unit "REM ab".toList "REM aB".toList) := by
  refine ⟨?_, ?_, ?_⟩
  · have h1 : tokenize (F := Unit) "DATA ab".toList 0 = .ok [.data [.str "ab".toList]] := by rw [Fast.tokenize_eq]; rfl
    have h2 : tokenize (F := Unit) "DATA aB".toList 0 = .ok [.data [.str "aB".toList]] := by rw [Fast.tokenize_eq]; rfl
    have hne : [Token.data (F := Unit) [.str "ab".toList]] ≠ [.data [.str "aB".toList]] := by simp
    refine ⟨.of_map (by decide) (by decide), h1, h2, by rw [Fast.tokenize_eq]; rfl, ?_,
      fun h => hne (tokens_eq_of_iff (tokenize_caseEq_outside_iff h _) h1 h2)⟩
    rw [h1, h2]
    exact fun h => hne (Except.ok.inj h)
  · have h1 : tokenize (F := Unit) "DATA \"ab\",c".toList 0 =
        .ok [.data [.str "ab".toList, .str "c".toList]] := by rw [Fast.tokenize_eq]; rfl
    have h2 : tokenize (F := Unit) "DATA \"aB\",c".toList 0 =
        .ok [.data [.str "aB".toList, .str "c".toList]] := by rw [Fast.tokenize_eq]; rfl
    have hne : [Token.data (F := Unit) [.str "ab".toList, .str "c".toList]] ≠
        [.data [.str "aB".toList, .str "c".toList]] := by simp
    refine ⟨.of_map (by decide) (by decide), h1, h2, ?_,
      fun h => hne (tokens_eq_of_iff (tokenize_caseEq_outside_iff h _) h1 h2)⟩
    rw [h1, h2]
    exact fun h => hne (Except.ok.inj h)
  · have h1 : tokenize (F := Unit) "REM ab".toList 0 = .ok [.remark " ab".toList] := by rw [Fast.tokenize_eq]; rfl
    have h2 : tokenize (F := Unit) "REM aB".toList 0 = .ok [.remark " aB".toList] := by rw [Fast.tokenize_eq]; rfl
    have hne : [Token.remark (F := Unit) " ab".toList] ≠ [.remark " aB".toList] := by simp
    refine ⟨.of_map (by decide) (by decide), h1, h2, by rw [Fast.tokenize_eq]; rfl, ?_,
      fun h => hne (tokens_eq_of_iff (tokenize_caseEq_outside_iff h _) h1 h2)⟩
    rw [h1, h2]
    exact fun h => hne (Except.ok.inj h)

end Abasic.Props.C12
