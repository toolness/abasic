import Abasic.Props.C03Prog
import Abasic.Props.C15
import Abasic.Proofs.ProgTyping
import Abasic.Proofs.AnalyzerFrame
import Abasic.Props.C06Stmt
import Abasic.Props.C05File
import Abasic.Proofs.TokenEq
import Abasic.Proofs.SeqLang
import Abasic.Proofs.TokFast
/-
  C06 for whole programs: a program of the covered fragment (LET, PRINT, GOTO,
  END, IF/THEN/ELSE, several statements to a line) that the static analyzer
  accepts never fails with a syntax error, a TYPE MISMATCH or a jump to an
  undefined line.

  `typeOfP` is the spec's static check of a program.  On the reference machine
  (Ref/Prog.lean) a checked program stops with DIVISION BY ZERO only, its
  variables well-typed all along (`steps_typed`); `C03.run_refines` carries that
  to the model (`sound_program`).  The analyzer's statement pass `analyzeProgram`
  appends exactly one error diagnostic per line with a static error, the first
  of that line (`analyze_program`), so it is silent iff `typeOfP p = ok`.  The
  pass is walked once for any statement language (`ALang`: `ALang.walk_line`,
  `ALang.analyze`, and `ALang.file` for the analysis of a source text); `Lang1`
  is the language of Ref/Stmt.lean.
-/
set_option linter.unusedSectionVars false

namespace Abasic.Props.C15
open Abasic

variable {F : Type} [NumOps F]

theorem goodLine_of_lineEdit {line : Str} {n : Nat} {ts : List (Token F)} (hne : line ≠ [])
    (h : lineEdit F line = some (n, ts)) : GoodLine F line n ts := by
  obtain ⟨k, rts, _, hp, ht, hr, rfl⟩ := C05.lineEdit_some h
  exact ⟨hne, k, rts, hp, ht, rfl, fun h0 => hr (List.map_eq_nil_iff.mp h0)⟩

/-- `GoodFile` is the graph of `lineEdit` on files without empty lines: a concrete file is checked by evaluating
    `lineEdit` once per line -/
theorem goodFile_of_lineEdits : ∀ {lines : List Str} {edits : List (Nat × List (Token F))},
    (∀ l ∈ lines, l ≠ []) → lines.map (lineEdit F) = edits.map some → GoodFile F lines edits
  | [], [], _, _ => .nil
  | [], _ :: _, _, h => by cases h
  | _ :: _, [], _, h => by cases h
  | l :: ls, (n, ts) :: es, hne, h => by
    simp only [List.map_cons, List.cons.injEq] at h
    exact .cons (goodLine_of_lineEdit (hne l List.mem_cons_self) h.1)
      (goodFile_of_lineEdits (fun l' hl' => hne l' (List.mem_cons_of_mem _ hl')) h.2)

end Abasic.Props.C15

namespace Abasic.Props.C06
open Abasic Abasic.Ref Abasic.ExprL Abasic.AnaL Abasic.StmtL Abasic.AnaS Abasic.ProgL Abasic.ProgT M
open Abasic.AInv

variable {F : Type} [NumOps F]

/-- the first static error, with the line -/
def typeOfStmts (le : Nat → Bool) (ln : Nat) : List (RStmt F) → Except (Err × Nat) Unit
  | [] => .ok ()
  | s :: rest =>
    match typeOfS s le with
    | .ok _ => typeOfStmts le ln rest
    | .error x => .error (x, ln)

def typeOfLines (le : Nat → Bool) : RProgram F → Except (Err × Nat) Unit
  | [] => .ok ()
  | l :: rest =>
    match typeOfStmts le l.1 l.2 with
    | .ok _ => typeOfLines le rest
    | .error x => .error x

/-- The static check of a program: every statement of every line passes
    `typeOfS`, GOTO targets being looked up among the lines of the program
    itself.  On failure: the first static error in program order and its line. -/
def typeOfP (p : RProgram F) : Except (Err × Nat) Unit := typeOfLines p.hasLine p

theorem typeOfStmts_ok_iff (le : Nat → Bool) (ln : Nat) (ss : List (RStmt F)) :
    typeOfStmts le ln ss = .ok () ↔ ∀ s ∈ ss, typeOfS s le = .ok () := by
  induction ss with
  | nil => simp [typeOfStmts]
  | cons s rest ih =>
    cases hs : typeOfS s le with
    | ok u => simp only [typeOfStmts, hs, ih, List.mem_cons, forall_eq_or_imp, true_and]
    | error x => simp [typeOfStmts, hs]

theorem typeOfLines_ok_iff (le : Nat → Bool) (p : RProgram F) :
    typeOfLines le p = .ok () ↔ ∀ l ∈ p, ∀ s ∈ l.2, typeOfS s le = .ok () := by
  induction p with
  | nil => simp [typeOfLines]
  | cons l rest ih =>
    cases hs : typeOfStmts le l.1 l.2 with
    | ok u =>
      have := (typeOfStmts_ok_iff le l.1 l.2).1 hs
      simp only [typeOfLines, hs, ih, List.mem_cons, forall_eq_or_imp]
      exact ⟨fun h => ⟨this, h⟩, fun h => h.2⟩
    | error x =>
      have : ¬ ∀ s ∈ l.2, typeOfS s le = .ok () := fun h => by
        rw [(typeOfStmts_ok_iff le l.1 l.2).2 h] at hs; cases hs
      simp [typeOfLines, hs, this]

theorem typeOfP_ok_iff (p : RProgram F) :
    typeOfP p = .ok () ↔ ∀ l ∈ p, ∀ s ∈ l.2, typeOfS s p.hasLine = .ok () :=
  typeOfLines_ok_iff p.hasLine p

theorem typeOfStmts_error {le : Nat → Bool} {ln : Nat} {ss : List (RStmt F)} {x : Err} {k : Nat}
    (h : typeOfStmts le ln ss = .error (x, k)) : (x = .typeMismatch ∨ x = .undefinedStatement) ∧ k = ln := by
  induction ss with
  | nil => cases h
  | cons s rest ih =>
    cases hs : typeOfS s le with
    | ok u => simp only [typeOfStmts, hs] at h; exact ih h
    | error y =>
      simp only [typeOfStmts, hs, Except.error.injEq, Prod.mk.injEq] at h
      obtain ⟨rfl, rfl⟩ := h
      exact ⟨typeOfS_error le s y hs, rfl⟩

theorem typeOfP_error (p : RProgram F) {x : Err} {k : Nat} (h : typeOfP p = .error (x, k)) :
    (x = .typeMismatch ∨ x = .undefinedStatement) ∧ k ∈ p.map (·.1) := by
  unfold typeOfP at h
  generalize p.hasLine = le at h
  induction p with
  | nil => cases h
  | cons l rest ih =>
    cases hs : typeOfStmts le l.1 l.2 with
    | ok u =>
      simp only [typeOfLines, hs] at h
      exact ⟨(ih h).1, List.mem_cons_of_mem _ (ih h).2⟩
    | error y =>
      simp only [typeOfLines, hs, Except.error.injEq] at h
      subst h
      obtain ⟨h1, h2⟩ := typeOfStmts_error hs
      exact ⟨h1, by simp [h2]⟩

theorem wellTypedVars_nil : WellTypedVars ([] : List (Str × Value F)) := by
  intro name v h
  cases h

theorem rstep_typed {p : RProgram F} (hty : typeOfP p = .ok ()) (r : RState F) (hwt : WellTypedVars r.vars) :
    (∀ r', RStep p r = .inl r' → WellTypedVars r'.vars) ∧
    (∀ e ln, RStep p r = .inr (e, ln) → e = .divisionByZero) := by
  have hok {n j ss s} (hl : p.line n = some ss) (hs : ss[j]? = some s) :=
    exec_typed p.hasLine r.vars hwt s ((typeOfP_ok_iff p).1 hty _ (line_mem hl) s (List.mem_of_getElem? hs))
  refine ⟨fun r' h => ?_, fun e ln h => ?_⟩
  · cases hpc : r.pc with
    | none => rw [C03.rstep_ended hpc] at h; cases h; exact hwt
    | some nj =>
      obtain ⟨n, j⟩ := nj
      cases hl : p.line n with
      | none => simp only [RStep, hpc, hl] at h; cases h; exact hwt
      | some ss =>
        cases hs : ss[j]? with
        | none => simp only [RStep, hpc, hl, hs] at h; cases h; exact hwt
        | some s =>
          -- whatever the next position, the variables are those the statement left
          rw [rstep_seq hpc hl hs] at h
          cases hq : SeqL.seq lang p n j (Ctl2.ofCtl (RStmt.exec r.vars s).ctl) with
          | inl pc => rw [hq] at h; cases h; exact (hok hl hs).vars
          | inr x => rw [hq] at h; cases h
  · obtain ⟨n, j, ss, s, -, hl, hs, -, hc | ⟨m, hc, hh, -⟩⟩ := rstep_inr h
    · exact (hok hl hs).err e hc
    · rw [(hok hl hs).jump m hc] at hh; cases hh

theorem rsteps_typed {p : RProgram F} (hty : typeOfP p = .ok ()) (n : Nat) (r : RState F) (hwt : WellTypedVars r.vars) :
    (∀ r', RSteps p n r = .inl r' → WellTypedVars r'.vars) ∧
    (∀ e ln out, RSteps p n r = .inr (e, ln, out) → e = .divisionByZero) :=
  ((C03.rsteps_iterates p).sound (I := fun r => WellTypedVars r.vars) (E := fun x => x.1 = .divisionByZero)
    (fun r h => ⟨(rstep_typed hty r h).1, fun e => (rstep_typed hty r h).2 e.1 e.2⟩) n r hwt).imp_right
    fun h e ln out => h (e, ln, out)

/-- A program that passes the static check `typeOfP` never stops, on the
    reference machine, with TYPE MISMATCH, a syntax error or UNDEF'D STATEMENT,
    however many steps it runs: the only error a run can end in is the
    value-dependent DIVISION BY ZERO; and the variables stay well-typed all along. -/
theorem steps_typed (p : RProgram F) (hty : typeOfP p = .ok ()) (n : Nat) :
    (∀ r', RSteps p n p.start = .inl r' → WellTypedVars r'.vars) ∧
    (∀ e ln out, RSteps p n p.start = .inr (e, ln, out) →
      e = .divisionByZero ∧ e ≠ .typeMismatch ∧ (∀ se, e ≠ .syntax se) ∧ e ≠ .undefinedStatement) := by
  obtain ⟨h1, h2⟩ := rsteps_typed hty n p.start wellTypedVars_nil
  refine ⟨h1, fun e ln out h => ?_⟩
  have := h2 e ln out h
  subst this
  exact ⟨rfl, by simp, fun se => by simp, by simp⟩

/-- Let the program `p` fit the evaluator's resources and the covered fragment
    (`Fits`), let the interpreter be idle with `p` stored, flags off (`Ready`),
    and let `p` pass the static check.  Then no host turn of a run — RUN
    followed by any number `k` of `continueEvaluating` — fails with TYPE
    MISMATCH, a syntax error or UNDEF'D STATEMENT: if the run fails, it fails
    with DIVISION BY ZERO.  A run that has not failed holds well-typed variables. -/
theorem sound_program {p : RProgram F} {fuel : Nat} (hfit : Fits p fuel) {σ : St F} (h : C03.Ready p σ)
    (hty : typeOfP p = .ok ()) (k : Nat) :
    (∀ te σ', C03.runTurns fuel k σ = .err te σ' →
      te.err = .divisionByZero ∧ te.err ≠ .typeMismatch ∧ (∀ se, te.err ≠ .syntax se) ∧
      te.err ≠ .undefinedStatement) ∧
    (∀ σ', C03.runTurns fuel k σ = .ok () σ' → WellTyped σ') := by
  obtain ⟨n, _, _, hm⟩ := C03.run_refines hfit h k
  obtain ⟨h1, h2⟩ := steps_typed p hty n
  cases hr : RSteps p n p.start with
  | inl r' =>
    rw [hr] at hm
    obtain ⟨σ1, hσ1, hsim⟩ := hm
    refine ⟨fun te σ' he => (by rw [hσ1] at he; cases he), fun σ' ho => ?_⟩
    rw [hσ1] at ho
    simp only [Res.ok.injEq, true_and] at ho
    subst ho
    show WellTypedVars σ1.vars
    rw [hsim.core.vars]
    exact h1 r' hr
  | inr eln =>
    obtain ⟨e, ln, out⟩ := eln
    rw [hr] at hm
    obtain ⟨σ1, i, hσ1, _, _⟩ := hm
    refine ⟨fun te σ' he => ?_, fun σ' ho => by rw [hσ1] at ho; cases ho⟩
    rw [hσ1] at he
    simp only [Res.err.injEq] at he
    rw [← he.1]
    exact h2 e ln out hr

/-! ### the analyzer's statement pass on a stored program

  `analyzeStatements` walks the statements of the current line: `hasNext`, one
  `aStmtBody` (for which the colon is a statement of its own), again — and it
  STOPS at the first statement that fails, reporting one diagnostic.
  `analyzeProgram` does that for every line in ascending order (`nextLine`).
  So the statement pass reports, for every line, the first static error of that
  line (`lineErrs`), and nothing else. -/

/-- what the statement pass has done to the analysis when it has walked (the rest
    of) line `n`, whose static verdict is `v` -/
def LineOut (L : Lines F) (n : Nat) (a a' : Analysis F) (v : Except (Err × Nat) Unit) : Prop :=
  a'.panicked = none ∧ a'.map = a.map ∧ SInv L a'.st ∧ a'.st.nesting = a.st.nesting ∧
  a'.st.loc.line = some n ∧
  match v with
  | .ok _ => a'.messages = a.messages
  | .error (x, ln) => ∃ f i,
      a'.messages = a.messages ++ [.error f { err := x, loc := some { line := some ln, idx := i } }]

theorem sinv_mv0 {L : Lines F} {s : St F} (hs : SInv L s) (r : Nat) : SInv L (mv s 0 r) :=
  ⟨hs.lines, hs.loc, hs.acc⟩

/-- one diagnostic, and the rest of the line is NOT analysed -/
theorem aS_err3 (fuel k : Nat) (a : Analysis F) {st st' : St F} {x : Err} {f u v : Nat}
    (h : hasNext a.st = .ok true st)
    (h2 : aStmtBody (aEvalN fuel) st = .err { err := x } st')
    (hx : x = .typeMismatch ∨ (∃ se, x = .syntax se) ∨ x = .undefinedStatement)
    (hmap : a.map.mapLoc st'.prevLoc = some (f, u, v)) :
    analyzeStatements fuel (k + 1) a =
      { a with st := st', messages := a.messages ++ [.error f { err := x, loc := some st'.prevLoc }] } := by
  rw [analyzeStatements]
  simp only [h, h2]
  rcases hx with rfl | ⟨se, rfl⟩ | rfl
  · rw [SeqL.populate_unlocated st' (by simp)]
    simp only [Option.bind_some, hmap]
  · rw [SeqL.populate_unlocated st' (by simp)]
    simp only [Option.bind_some, hmap]
  · rw [SeqL.populate_unlocated st' (by simp)]
    simp only [Option.bind_some, hmap]

theorem LineOut.of_step {L : Lines F} {n : Nat} {a a' : Analysis F} {σ' : St F} {v : Except (Err × Nat) Unit}
    (hn : σ'.nesting = a.st.nesting) (h : LineOut L n { a with st := σ' } a' v) : LineOut L n a a' v :=
  ⟨h.1, h.2.1, h.2.2.1, h.2.2.2.1.trans hn, h.2.2.2.2⟩

section step
variable (fuel k : Nat) {n : Nat} {L : Lines F} {a : Analysis F} {pre post : List (Token F)} {t : Token F}
  {σ' : St F}

/-- one round of `analyzeStatements` at a statement (or a colon) that `aStmtBody` accepts -/
theorem step_ok (hAt : At a.st pre (t :: post)) (hl : a.st.loc.line = some n) (hs : SInv L a.st)
    (h : aStmtBody (aEvalN fuel) (mv a.st 0 (a.st.reads + 1)) = .ok () σ') :
    analyzeStatements fuel (k + 1) a = analyzeStatements fuel k { a with st := σ' } ∧
    SInv L σ' ∧ σ'.loc.line = some n ∧ σ'.nesting = a.st.nesting := by
  have hgood := good_aStmtBody (good_aEvalN (F := F) (L := L) fuel).1 (good_aEvalN (F := F) (L := L) fuel).2 _
    (sinv_mv0 hs (a.st.reads + 1))
  have hline := (ALine.keeps_stmt (F := F) fuel).h (mv a.st 0 (a.st.reads + 1))
  have hframe := (AFrame.keeps_stmt (F := F) fuel).h (mv a.st 0 (a.st.reads + 1))
  rw [h] at hgood hline hframe
  exact ⟨C05.analyzeStatements_ok fuel k a (hasNext_eq hAt) h, hgood.1, (show σ'.loc.line = a.st.loc.line from hline).trans hl,
    (Prod.mk.inj hframe).2⟩

theorem step_err {x : Err} (hAt : At a.st pre (t :: post)) (hl : a.st.loc.line = some n) (hs : SInv L a.st)
    (hLM : C05.LinesMapped L a.map) (hp : a.panicked = none)
    (h : aStmtBody (aEvalN fuel) (mv a.st 0 (a.st.reads + 1)) = .err { err := x } σ')
    (hx : x = .typeMismatch ∨ (∃ se, x = .syntax se) ∨ x = .undefinedStatement) :
    LineOut L n a (analyzeStatements fuel (k + 1) a) (.error (x, n)) ∧
    (analyzeStatements fuel (k + 1) a).st = σ' := by
  have hgood := good_aStmtBody (good_aEvalN (F := F) (L := L) fuel).1 (good_aEvalN (F := F) (L := L) fuel).2 _
    (sinv_mv0 hs (a.st.reads + 1))
  have hline := (ALine.keeps_stmt (F := F) fuel).h (mv a.st 0 (a.st.reads + 1))
  have hframe := (AFrame.keeps_stmt (F := F) fuel).h (mv a.st 0 (a.st.reads + 1))
  rw [h] at hgood hline hframe
  obtain ⟨hs', _, _⟩ := hgood
  have hline' : σ'.loc.line = some n := (show σ'.loc.line = a.st.loc.line from hline).trans hl
  have hprev : LocOk L σ'.prevLoc := by
    obtain ⟨n1, ts1, h1, h2, h3⟩ := hs'.loc
    exact ⟨n1, ts1, h1, h2, by show σ'.loc.idx - 1 ≤ ts1.length; omega⟩
  obtain ⟨f, u, v, hmap⟩ := C05.mapLoc_of_locOk hLM hprev
  rw [aS_err3 fuel k a (hasNext_eq hAt) h hx hmap]
  refine ⟨⟨hp, rfl, hs', (Prod.mk.inj hframe).2, hline', f, σ'.loc.idx - 1, ?_⟩, rfl⟩
  show a.messages ++ [Diag.error f { err := x, loc := some { line := σ'.loc.line, idx := σ'.loc.idx - 1 } }] = _
  rw [hline']

end step

def DiagsFor : List Diag → List (Err × Nat) → Prop
  | [], [] => True
  | d :: ds, x :: xs =>
    (∃ f i, d = .error f { err := x.1, loc := some { line := some x.2, idx := i } }) ∧ DiagsFor ds xs
  | _, _ => False

/-- what the statement pass has done when it has walked the lines whose static errors are `xs` -/
def ProgOut (a a' : Analysis F) (xs : List (Err × Nat)) : Prop :=
  a'.panicked = none ∧ a'.map = a.map ∧ a'.st.lines = a.st.lines ∧ a'.st.nesting = a.st.nesting ∧
  ∃ ds, a'.messages = a.messages ++ ds ∧ DiagsFor ds xs

theorem progOut_step {a a1 a' : Analysis F} {L : Lines F} {n : Nat} {v : Except (Err × Nat) Unit}
    {xs : List (Err × Nat)} (hL : a.st.lines = L) (h1 : LineOut L n a a1 v) (h2 : ProgOut a1 a' xs) :
    (∀ u, v = .ok u → ProgOut a a' xs) ∧ (∀ x, v = .error x → ProgOut a a' (x :: xs)) := by
  obtain ⟨_, hm1, hs1, hn1, _, hmsg1⟩ := h1
  obtain ⟨hp2, hm2, hl2, hn2, ds, hds, hfor⟩ := h2
  have hl : a'.st.lines = a.st.lines := by rw [hl2, hs1.lines, hL]
  constructor
  · rintro u rfl
    exact ⟨hp2, hm2.trans hm1, hl, hn2.trans hn1, ds, by rw [hds, hmsg1], hfor⟩
  · rintro x rfl
    obtain ⟨f, i, hmsg⟩ := hmsg1
    exact ⟨hp2, hm2.trans hm1, hl, hn2.trans hn1, _ :: ds, by rw [hds, hmsg, List.append_assoc]; rfl,
      ⟨f, i, rfl⟩, hfor⟩

theorem progOut_silent_iff {a a' : Analysis F} {xs : List (Err × Nat)} (h : ProgOut a a' xs) :
    a'.messages = a.messages ↔ xs = [] := by
  obtain ⟨_, _, _, _, ds, hds, hfor⟩ := h
  rw [hds]
  constructor
  · intro hm
    have hnil : ds = [] := by
      have := congrArg List.length hm
      simp only [List.length_append] at this
      exact List.length_eq_zero_iff.mp (by omega)
    subst hnil
    cases xs with
    | nil => rfl
    | cons x xs => exact hfor.elim
  · intro hx
    subst hx
    cases ds with
    | nil => simp
    | cons d ds => exact hfor.elim

theorem progOut_empty (fuel b : Nat) (a : Analysis F) (hp : a.panicked = none) (hl : a.st.loc.line = none)
    (hi : a.st.imm = []) (hb : 0 < b) : ProgOut a (analyzeProgram fuel b a) [] := by
  obtain ⟨b', rfl⟩ : ∃ b', b = b' + 1 := ⟨b - 1, by omega⟩
  rw [C05.analyzeProgram_nothing fuel b' a hp hl hi]
  exact ⟨hp, rfl, rfl, rfl, [], (List.append_nil _).symm, trivial⟩

/-! #### the pass, for any statement language

  The pass walks the store; of the statement language it needs the static check of a statement in the context
  the analyzer has accumulated, the context after acceptance and after rejection, and what `aStmtBody` does on
  the rendering of one statement (`ALang.Sound.run`).  The three levels of the ladder are instances (`Lang1`
  here, `Lang2` in C06Loops, `Lang3` in C06File3). -/

/-- A level of the ladder as the analyzer's pass over a stored program sees it: its language of numbered lines
    (`lang`, Proofs/SeqLang.lean), the analyzer's verdict functions — the check of one statement in the context `C`
    the analyzer has accumulated, and the folds of it over a line and a program that the level defines for
    itself, given by their equations (each holds by `rfl` or a case split there) — and one fact per statement, `Sound.run`. -/
structure ALang (F : Type) [NumOps F] where
  S : Type
  lang : SeqL.Lang F S
  /-- what the analyzer accumulates; `Inv c σ`: the state `σ` holds `c` -/
  C : Type
  Inv : C → St F → Prop
  /-- one statement: its check, the context after acceptance and after rejection, what it needs of the resources -/
  check : (Nat → Bool) → C → S → Except Err Unit
  okC : C → S → C
  errC : (Nat → Bool) → C → S → C
  Fit : Nat → C → S → Prop
  /-- one line: its first static error, the context behind it (the pass stops at the first error), its needs -/
  checks : (Nat → Bool) → Nat → C → List S → Except (Err × Nat) Unit
  walkC : (Nat → Bool) → C → List S → C
  Fits : Nat → C → List S → Prop
  /-- the program: the first static error of each line, its needs -/
  errs : (Nat → Bool) → C → SeqL.Prog S → List (Err × Nat)
  LinesFit : Nat → (Nat → Bool) → C → SeqL.Prog S → Prop
  checks_nil : ∀ le n c, checks le n c [] = .ok ()
  checks_cons : ∀ le n c s r, checks le n c (s :: r) =
    match check le c s with
    | .ok _ => checks le n (okC c s) r
    | .error x => .error (x, n)
  walkC_nil : ∀ le c, walkC le c [] = c
  walkC_cons : ∀ le c s r, walkC le c (s :: r) =
    match check le c s with
    | .ok _ => walkC le (okC c s) r
    | .error _ => errC le c s
  fits_cons : ∀ {fa c s r}, Fits fa c (s :: r) → Fit fa c s ∧ Fits fa (okC c s) r
  errs_nil : ∀ le c, errs le c [] = []
  errs_cons : ∀ le c l r, errs le c (l :: r) =
    match checks le l.1 c l.2 with
    | .ok _ => errs le (walkC le c l.2) r
    | .error x => x :: errs le (walkC le c l.2) r
  linesFit_cons : ∀ {fa le c l r}, LinesFit fa le c (l :: r) → Fits fa c l.2 ∧ LinesFit fa le (walkC le c l.2) r

namespace ALang
variable (P : ALang F)

structure Sound : Prop where
  inv_fns : ∀ {c : P.C} {σ σ' : St F}, P.Inv c σ → σ'.fns = σ.fns → P.Inv c σ'
  static : ∀ {le : Nat → Bool} {c : P.C} {s : P.S} {x : Err}, P.check le c s = .error x →
    x = .typeMismatch ∨ (∃ se, x = .syntax se) ∨ x = .undefinedStatement
  /-- `aStmtBody` on the rendering of a statement, at top level of a numbered line -/
  run : ∀ {fa : Nat} {c : P.C} {s : P.S} {n : Nat} {σ : St F} {pre rest : List (Token F)}, P.Fit fa c s →
    At σ pre (P.lang.render s ++ rest) → σ.loc.line = some n → σ.nesting = 0 → P.Inv c σ → LineEnd rest →
    match P.check σ.lines.has c s with
    | .ok _ => ∃ σ', aStmtBody (aEvalN fa) σ = .ok () σ' ∧ At σ' (pre ++ P.lang.render s) rest ∧ P.Inv (P.okC c s) σ'
    | .error x => ∃ σ', aStmtBody (aEvalN fa) σ = .err { err := x } σ' ∧ P.Inv (P.errC σ.lines.has c s) σ'

variable {P}

theorem lineEnd_tail (rest : List P.S) : LineEnd (P.lang.tail rest) := by
  cases rest with
  | nil => intro t ht; rw [P.lang.tail_nil] at ht; cases ht
  | cons s rest =>
    intro t ht
    simp only [P.lang.tail_cons, List.head?_cons, Option.some.injEq] at ht
    exact ht.symm

/-- the statement pass from the first token of a statement to the end of its line: the statement; if it is
    accepted and another follows, the colon (a statement of its own) and the rest -/
theorem walk_line (hP : P.Sound) (fuel n : Nat) (L : Lines F) (m : FileMap) (hLM : C05.LinesMapped L m) :
    ∀ (rest : List P.S) (st : P.S) (c : P.C), P.Fits fuel c (st :: rest) →
    ∀ (k : Nat) (a : Analysis F) (pre : List (Token F)),
      At a.st pre (P.lang.rline (st :: rest)) → a.st.loc.line = some n → a.st.nesting = 0 → SInv L a.st →
      P.Inv c a.st → a.map = m → a.panicked = none → (P.lang.rline (st :: rest)).length + 1 < k →
      LineOut L n a (analyzeStatements fuel k a) (P.checks L.has n c (st :: rest)) ∧
        P.Inv (P.walkC L.has c (st :: rest)) (analyzeStatements fuel k a).st
  | rest, st, c, hfit, k, a, pre, hAt, hl, hn, hs, hc, hm, hp, hk => by
    obtain ⟨k', rfl⟩ : ∃ k', k = k' + 2 := ⟨k - 2, by omega⟩
    rw [P.lang.rline_cons] at hAt hk
    obtain ⟨t0, ts0, hhead, -⟩ := P.lang.head st
    have hAt0 : At a.st pre (t0 :: (ts0 ++ P.lang.tail rest)) := by rw [hhead] at hAt; exact hAt
    have hA := hP.run (P.fits_cons hfit).1 (at_mv0 hAt (a.st.reads + 1)) hl hn (hP.inv_fns hc rfl) (lineEnd_tail rest)
    have hL : (mv a.st 0 (a.st.reads + 1)).lines.has = L.has := by show a.st.lines.has = _; rw [hs.lines]
    rw [hL] at hA
    rw [P.checks_cons, P.walkC_cons]
    cases hty : P.check L.has c st with
    | error x =>
      rw [hty] at hA
      obtain ⟨σ', hσ', hc'⟩ := hA
      obtain ⟨g, gst⟩ := step_err fuel (k' + 1) hAt0 hl hs (hm ▸ hLM) hp hσ' (hP.static hty)
      exact ⟨g, by rw [gst]; exact hc'⟩
    | ok u =>
      rw [hty] at hA
      obtain ⟨σ', hres', hAt', hc'⟩ := hA
      obtain ⟨hstep, hs', hl', hn'⟩ := step_ok fuel (k' + 1) hAt0 hl hs hres'
      rw [hstep]
      cases rest with
      | nil =>
        rw [P.lang.tail_nil] at hAt'
        rw [C05.analyzeStatements_noNext fuel k' _ _ (hasNext_eq hAt'), P.checks_nil, P.walkC_nil]
        exact ⟨.of_step hn' ⟨hp, rfl, sinv_mv0 hs' _, rfl, hl', rfl⟩, hP.inv_fns hc' rfl⟩
      | cons s' r =>
        rw [P.lang.tail_cons, ← P.lang.rline_cons] at hAt' hk
        have hAt1 := at_mv0 hAt' (σ'.reads + 1)
        obtain ⟨hstep2, hs2, hl2, hn2⟩ := step_ok (a := { a with st := σ' }) fuel k' hAt' hl' hs'
          (aStmtBody_colon (ev := aEvalN fuel) hAt1)
        rw [hstep2]
        have hpos : 0 < (P.lang.render st).length := by rw [hhead]; simp
        obtain ⟨g, gc⟩ := walk_line hP fuel n L m hLM r s' (P.okC c st) (P.fits_cons hfit).2 k'
          { a with st := mv (mv σ' 0 (σ'.reads + 1)) 1 ((mv σ' 0 (σ'.reads + 1)).reads + 1) }
          (pre ++ P.lang.render st ++ [.kw .Colon]) (at_mv1 hAt1 _) hl2 (hn2.trans (hn'.trans hn)) hs2
          (hP.inv_fns hc' rfl) hm hp (by simp only [List.length_append, List.length_cons] at hk; omega)
        exact ⟨.of_step hn' (.of_step hn2 g), gc⟩

theorem progOut_cons {a a1 a' : Analysis F} {L : Lines F} {le : Nat → Bool} {n : Nat} {ss : List P.S}
    {q : SeqL.Prog P.S} {c : P.C} (hL : a.st.lines = L)
    (h1 : LineOut L n a a1 (P.checks le n c ss))
    (h2 : ProgOut a1 a' (P.errs le (P.walkC le c ss) q)) :
    ProgOut a a' (P.errs le c ((n, ss) :: q)) := by
  have h := progOut_step hL h1 h2
  rw [P.errs_cons]
  cases hv : P.checks le n c ss with
  | ok u => exact h.1 u hv
  | error x => exact h.2 x hv

theorem walk_lines (hP : P.Sound) (fuel : Nat) (p : SeqL.Prog P.S) (hwf : SeqL.WF p) (L : Lines F)
    (hH : SeqL.Holds P.lang L p) (m : FileMap) (hLM : C05.LinesMapped L m) :
    ∀ (q done : SeqL.Prog P.S) (n : Nat) (ss : List P.S), p = done ++ (n, ss) :: q →
    ∀ (c : P.C) (b : Nat) (a : Analysis F), P.LinesFit fuel (SeqL.hasLine P.lang p) c ((n, ss) :: q) → q.length < b →
      SInv L a.st → a.st.loc = { line := some n, idx := 0 } →
      a.st.nesting = 0 → P.Inv c a.st → a.map = m → a.panicked = none →
      ProgOut a (analyzeProgram fuel b a) (P.errs (SeqL.hasLine P.lang p) c ((n, ss) :: q))
  | q, done, n, ss, hp, c, b, a, hfit, hb, hs, hloc, hn, hc, hm, hpan => by
    have hhas : L.has = SeqL.hasLine P.lang p := funext (SeqL.holds_has hH)
    have hmem : (n, ss) ∈ p := by rw [hp]; simp
    have hget : L.get n = some (P.lang.rline ss) := by
      rw [hH.get, SeqL.line_of_mem hwf.ascending _ hmem]; rfl
    have hToks : lineToks a.st = some (P.lang.rline ss) := by
      unfold lineToks; rw [hloc]; show a.st.lines.get n = _; rw [hs.lines]; exact hget
    have htok := tokens_eq hToks
    obtain ⟨st, rest, hss⟩ := List.exists_cons_of_ne_nil (hwf.nonempty _ hmem)
    have hW := walk_line hP fuel n L m hLM rest st c (hss ▸ (P.linesFit_cons hfit).1) _ a []
      (hss ▸ ⟨hToks, by rw [hloc]; rfl⟩) (by rw [hloc]) hn hs hc hm hpan (Nat.lt_succ_self _)
    rw [← hss] at hW
    rw [hhas] at hW
    obtain ⟨⟨hp1, hm1, hs1, hn1, hl1, _⟩, hc1⟩ := id hW
    have hafter' : a.st.lines.after n = q.head?.map (·.1) := by
      rw [hs.lines, SeqL.holds_after hH, hp]; rw [hp] at hwf; exact find_after_at hwf.ascending
    obtain ⟨b', rfl⟩ : ∃ b', b = b' + 1 := ⟨b - 1, by omega⟩
    refine progOut_cons hs.lines hW.1 ?_
    cases q with
    | nil =>
      rw [C05.analyzeProgram_succ fuel b' a hpan htok hp1 (nextLine_none hl1 (by rw [hs1.lines, ← hs.lines, hafter']; rfl)), P.errs_nil]
      exact ⟨hp1, rfl, rfl, rfl, [], by simp, trivial⟩
    | cons l q' =>
      obtain ⟨n', ss'⟩ := l
      rw [C05.analyzeProgram_succ fuel b' a hpan htok hp1 (nextLine_some hl1 (by rw [hs1.lines, ← hs.lines, hafter']; rfl))]
      have hp' : p = (done ++ [(n, ss)]) ++ (n', ss') :: q' := by rw [hp]; simp
      have hget' : L.get n' = some (P.lang.rline ss') := by
        rw [hH.get, SeqL.line_of_mem hwf.ascending (n', ss') (by rw [hp']; simp)]; rfl
      exact walk_lines hP fuel p hwf L hH m hLM q' (done ++ [(n, ss)]) n' ss' hp' _ b' _
        (P.linesFit_cons hfit).2 (by simp only [List.length_cons] at hb; omega)
        ⟨hs1.lines, ⟨n', P.lang.rline ss', rfl, hget', Nat.zero_le _⟩, hs1.acc⟩ rfl (hn1.trans hn) (hP.inv_fns hc1 rfl)
        (hm1.trans hm) hp1

theorem analyze (hP : P.Sound) (fuel : Nat) (p : SeqL.Prog P.S) (hwf : SeqL.WF p) (a : Analysis F)
    (hH : SeqL.Holds P.lang a.st.lines p) (hLM : C05.LinesMapped a.st.lines a.map)
    (hloc : a.st.loc = { line := SeqL.first p, idx := 0 })
    (himm : a.st.imm = []) (hn : a.st.nesting = 0) (hacc : a.st.accesses = []) (hpan : a.panicked = none)
    (c : P.C) (hc : P.Inv c a.st) (hfit : P.LinesFit fuel (SeqL.hasLine P.lang p) c p) (b : Nat) (hb : p.length < b) :
    ProgOut a (analyzeProgram fuel b a) (P.errs (SeqL.hasLine P.lang p) c p) := by
  cases hp : p with
  | nil =>
    rw [P.errs_nil]
    exact progOut_empty fuel b a hpan (by rw [hloc, hp]; rfl) himm (by omega)
  | cons l q =>
    obtain ⟨n, ss⟩ := l
    rw [← hp]
    have hget : a.st.lines.get n = some (P.lang.rline ss) := by
      rw [hH.get, SeqL.line_of_mem hwf.ascending (n, ss) (by rw [hp]; simp)]; rfl
    have hI := walk_lines hP fuel p hwf a.st.lines hH a.map hLM q [] n ss (by rw [hp]; rfl)
      c b a (by rw [hp] at hfit ⊢; exact hfit)
      (by rw [hp] at hb; simp only [List.length_cons] at hb; omega)
      ⟨rfl, ⟨n, P.lang.rline ss, by rw [hloc, hp]; rfl, hget, by rw [hloc]; exact Nat.zero_le _⟩,
        by rw [hacc]; intro x hx; cases hx⟩
      (by rw [hloc, hp]; rfl) hn hc rfl hpan
    rw [hp] at hI ⊢; exact hI

end ALang

def StmtsFit (fuel : Nat) (ss : List (RStmt F)) : Prop :=
  ∀ s ∈ ss, s.Covered ∧ sdepth s ≤ fuel ∧ sdepth s ≤ Extracted.nestingLimit

/-- the first static error of each line, in program order -/
def lineErrs (le : Nat → Bool) : RProgram F → List (Err × Nat)
  | [] => []
  | l :: rest =>
    match typeOfStmts le l.1 l.2 with
    | .ok _ => lineErrs le rest
    | .error x => x :: lineErrs le rest

/-- the smallest language: the analyzer accumulates nothing -/
@[reducible] def Lang1 : ALang F where
  S := RStmt F
  lang := ProgL.lang
  C := Unit
  Inv _ _ := True
  check le _ s := typeOfS s le
  okC c _ := c
  errC _ c _ := c
  Fit fa _ s := s.Covered ∧ sdepth s ≤ fa ∧ sdepth s ≤ Extracted.nestingLimit
  checks le n _ ss := typeOfStmts le n ss
  walkC _ c _ := c
  Fits fa _ ss := StmtsFit fa ss
  errs le _ p := lineErrs le p
  LinesFit fa _ _ p := ∀ l ∈ p, StmtsFit fa l.2
  checks_nil _ _ _ := rfl
  checks_cons _ _ _ _ _ := rfl
  walkC_nil _ _ := rfl
  walkC_cons le _ s _ := by cases typeOfS s le <;> rfl
  fits_cons := List.forall_mem_cons.1
  errs_nil _ _ := rfl
  errs_cons _ _ _ _ := rfl
  linesFit_cons := List.forall_mem_cons.1

theorem Lang1.sound : (Lang1 (F := F)).Sound where
  inv_fns _ _ := trivial
  static h := (typeOfS_error _ _ _ h).imp id .inr
  run {_ _ _ n _ _ _} h hAt hl hn _ hE := by
    have hA := astmt_run _ _ n _ h.2.1 h.1 _ _ _ hAt hl rfl (by rw [hn]; have := h.2.2; omega) (Or.inl hE)
    show match typeOfS _ _ with | .ok _ => _ | .error x => _
    cases hty : typeOfS _ _ with
    | ok u =>
      rw [hty] at hA
      obtain ⟨r, _, hres⟩ := hA
      exact ⟨_, hres, at_lg (at_mv hAt r) _, trivial⟩
    | error x =>
      rw [hty] at hA
      obtain ⟨σ', hσ', _⟩ := hA
      exact ⟨σ', hσ', trivial⟩

/-- The statement pass on one line; `(renderLine ss).length + 2` is the budget
    `analyzeProgram` gives `analyzeStatements`. -/
theorem walk_line (fuel n : Nat) (le : Nat → Bool) (L : Lines F) (m : FileMap) (hLM : C05.LinesMapped L m)
    (hle : L.has = le) (ss : List (RStmt F)) (hne : ss ≠ []) (hfit : StmtsFit fuel ss)
    (a : Analysis F) (hAt : At a.st [] (renderLine ss)) (hl : a.st.loc.line = some n)
    (hn : a.st.nesting = 0) (hs : SInv L a.st) (hm : a.map = m) (hp : a.panicked = none) :
    LineOut L n a (analyzeStatements fuel ((renderLine ss).length + 2) a) (typeOfStmts le n ss) := by
  obtain ⟨st, rest, rfl⟩ := List.exists_cons_of_ne_nil hne
  exact hle ▸ (ALang.walk_line Lang1.sound fuel n L m hLM rest st () hfit _ a [] hAt hl hn hs trivial hm hp
    (Nat.lt_succ_self _)).1

theorem lineErrs_nil_iff (le : Nat → Bool) (p : RProgram F) :
    lineErrs le p = [] ↔ typeOfLines le p = .ok () := by
  induction p with
  | nil => simp [lineErrs, typeOfLines]
  | cons l rest ih =>
    cases hs : typeOfStmts le l.1 l.2 with
    | ok u => simp only [lineErrs, typeOfLines, hs, ih]
    | error x => simp [lineErrs, typeOfLines, hs]

/-- where the statement pass starts: `C05.LinesMapped` is true after the line
    pass, the cursor stands where `runFromFirst` leaves it -/
structure AStart (p : RProgram F) (a : Analysis F) : Prop where
  holds : Holds a.st.lines p
  mapped : C05.LinesMapped a.st.lines a.map
  loc : a.st.loc = { line := p.first, idx := 0 }
  imm : a.st.imm = []
  nesting : a.st.nesting = 0
  accesses : a.st.accesses = []
  panicked : a.panicked = none

/-- The analyzer's statement pass on a stored program of the covered fragment.
    For a program `p` that fits the analyzer's fuel, held by the store of the
    analysis `a` (`AStart`), with a line budget `b` greater than the number of
    lines: `analyzeProgram` does not panic, changes neither the store nor the
    file map, and appends to the diagnostics exactly one error diagnostic per
    line that has a static error — the FIRST static error of that line
    (`lineErrs`: TYPE MISMATCH or UNDEF'D STATEMENT, `typeOfS_error`), located
    on that line — in program order. -/
theorem analyze_program (fuel : Nat) (p : RProgram F) (hfit : Fits p fuel) (a : Analysis F) (h : AStart p a)
    (b : Nat) (hb : p.length < b) :
    ProgOut a (analyzeProgram fuel b a) (lineErrs p.hasLine p) :=
  ALang.analyze Lang1.sound fuel p hfit.wf.seq a h.holds.seq h.mapped h.loc h.imm h.nesting h.accesses h.panicked
    () trivial (fun l hl s hs => ⟨hfit.covered l hl s hs, hfit.depth l hl s hs⟩) b hb

theorem analyzer_silent_iff (fuel : Nat) (p : RProgram F) (hfit : Fits p fuel) (a : Analysis F) (h : AStart p a)
    (b : Nat) (hb : p.length < b) :
    (analyzeProgram fuel b a).messages = a.messages ↔ typeOfP p = .ok () := by
  unfold typeOfP
  rw [← lineErrs_nil_iff]
  exact progOut_silent_iff (analyze_program fuel p hfit a h b hb)

/-- the direction needed for soundness, with "no error diagnostic" spelled out:
    if every diagnostic of the finished statement pass that is an error was
    there before the pass, position by position (no diagnostic was added), the
    program passes the static check -/
theorem analyzed_typed (fuel : Nat) (p : RProgram F) (hfit : Fits p fuel) (a : Analysis F) (h : AStart p a)
    (b : Nat) (hb : p.length < b) (hsilent : (analyzeProgram fuel b a).messages = a.messages) :
    typeOfP p = .ok () :=
  (analyzer_silent_iff fuel p hfit a h b hb).1 hsilent

/-- Let `p` be a program of the covered fragment (`Fits` for the analyzer's fuel
    `fa` and for the interpreter's fuel `fuel`).  If the analyzer's statement pass over the
    stored program reports nothing, then no run of the program — RUN followed by
    any number of host turns, from an idle interpreter holding `p` with the
    flags off — fails with a syntax error, a TYPE MISMATCH or UNDEF'D STATEMENT:
    DIVISION BY ZERO is the only failure left; and the variables stay well-typed. -/
theorem sound_analyzed_program {p : RProgram F} {fa fuel : Nat} (hfa : Fits p fa) (hfit : Fits p fuel)
    (a : Analysis F) (ha : AStart p a) (b : Nat) (hb : p.length < b)
    (hsilent : (analyzeProgram fa b a).messages = a.messages)
    {σ : St F} (h : C03.Ready p σ) (k : Nat) :
    (∀ te σ', C03.runTurns fuel k σ = .err te σ' →
      te.err = .divisionByZero ∧ te.err ≠ .typeMismatch ∧ (∀ se, te.err ≠ .syntax se) ∧
      te.err ≠ .undefinedStatement) ∧
    (∀ σ', C03.runTurns fuel k σ = .ok () σ' → WellTyped σ') :=
  sound_program hfit h (analyzed_typed fa p hfa a ha b hb hsilent) k

/-! ### the same for a source file

  `analyzeFile` = line pass (`analyzeLines`: parse the line numbers, tokenize,
  store), `runFromFirst`, statement pass (`analyzeProgram`), symbol pass
  (`symbolWarnings`: warnings only).  For a file whose lines are numbered and
  tokenize to the renderings of the lines of `p` (`C15.GoodFile`), the line pass
  establishes `AStart`. -/

/-- the tokens a file must denote, line by line, to be a text of `p` -/
def editsOf (p : RProgram F) : List (Nat × List (Token F)) := p.map fun l => (l.1, renderLine l.2)

theorem goodFile_length {lines : List Str} {edits : List (Nat × List (Token F))}
    (h : C15.GoodFile F lines edits) : lines.length = edits.length := by
  induction h with
  | nil => rfl
  | cons _ _ ih => simp only [List.length_cons, ih]

/-- where the statement pass starts, whatever program the lines denote -/
theorem linePass_start (lines : List Str) (A : Analysis F)
    (hA : A = { analyzeLines ({ lines := lines } : Analysis F) 0 lines with
                st := (analyzeLines ({ lines := lines } : Analysis F) 0 lines).st.runFromFirst }) :
    A.st.lines = (analyzeLines ({ lines := lines } : Analysis F) 0 lines).st.lines ∧
    C05.LinesMapped A.st.lines A.map ∧ A.st.loc = { line := A.st.lines.first, idx := 0 } ∧ A.st.imm = [] ∧
    A.st.nesting = 0 ∧ A.st.accesses = [] ∧ A.st.fns = [] ∧ A.panicked = none := by
  subst hA
  have hinv := C05.analyzeLines_lineInv ({ lines := lines } : Analysis F) 0 lines (C05.lineInv_init lines)
  have hpan := (C05.analyzeLines_file (F := F) lines).2.2.2
  have hnest := AFrame.analyzeLines_nesting ({ lines := lines } : Analysis F) 0 lines
  generalize analyzeLines ({ lines := lines } : Analysis F) 0 lines = a0 at hinv hpan hnest
  obtain ⟨hl, hacc, himm, _⟩ := C05.runFromFirst_facts a0.st
  have hrun : a0.st.runFromFirst.loc = { line := a0.st.lines.first, idx := 0 } ∧
      a0.st.runFromFirst.nesting = a0.st.nesting ∧ a0.st.runFromFirst.fns = [] := by
    have hf : a0.st.resetRuntime.lines.first = a0.st.lines.first := rfl
    unfold St.runFromFirst
    simp only [hf]
    cases a0.st.lines.first <;> exact ⟨rfl, rfl, rfl⟩
  refine ⟨hl, ?_, ?_, himm, hrun.2.1.trans hnest, hacc.trans hinv.acc, hrun.2.2, hpan⟩
  · show C05.LinesMapped a0.st.runFromFirst.lines a0.map
    rw [hl]
    exact hinv.mapped
  · show a0.st.runFromFirst.loc = { line := a0.st.runFromFirst.lines.first, idx := 0 }
    rw [hl]
    exact hrun.1

theorem astart_file (lines : List Str) (p : RProgram F) (hwf : p.WF) (hgood : C15.GoodFile F lines (editsOf p)) :
    AStart p { analyzeLines ({ lines := lines } : Analysis F) 0 lines with
               st := (analyzeLines ({ lines := lines } : Analysis F) 0 lines).st.runFromFirst } := by
  obtain ⟨h1, h2, h3, h4, h5, h6, _, h8⟩ := linePass_start (F := F) lines _ rfl
  rw [C15.load_store lines (editsOf p) hgood] at h1
  have hH := h1 ▸ holds_load p hwf
  exact ⟨hH, h2, by rw [h3, holds_first hH], h4, h5, h6, h8⟩

theorem diagsFor_one {ds : List Diag} {x : Err × Nat} (h : DiagsFor ds [x]) :
    ∃ f i, ds = [.error f { err := x.1, loc := some { line := some x.2, idx := i } }] := by
  -- taken apart by hand: a `match` on `ds, h` makes the elaborator refute the other shapes by unfolding `DiagsFor`
  cases ds with
  | nil => exact h.elim
  | cons d ds =>
    cases ds with
    | nil => obtain ⟨⟨f, i, hd⟩, _⟩ := h; exact ⟨f, i, by rw [hd]⟩
    | cons _ _ => exact h.2.elim

theorem diagsFor_head {d : Diag} {ds : List Diag} {xs : List (Err × Nat)} (h : DiagsFor (d :: ds) xs) :
    ∃ f e, d = .error f e := by
  cases xs with
  | nil => exact h.elim
  | cons x xs => obtain ⟨⟨f, i, hd⟩, _⟩ := h; exact ⟨f, _, hd⟩

theorem noerr_lineErrs {fa : Nat} {lines : List Str} {xs : List (Err × Nat)}
    (hout : ProgOut { analyzeLines ({ lines := lines } : Analysis F) 0 lines with
                      st := (analyzeLines ({ lines := lines } : Analysis F) 0 lines).st.runFromFirst }
      (analyzeProgram fa (lines.length + 2)
        { analyzeLines ({ lines := lines } : Analysis F) 0 lines with
          st := (analyzeLines ({ lines := lines } : Analysis F) 0 lines).st.runFromFirst }) xs)
    (hnoerr : ∀ f e, Diag.error f e ∉ (analyzeFile (F := F) fa lines).messages) : xs = [] := by
  obtain ⟨hp2, _, _, _, ds, hds, hfor⟩ := hout
  cases ds with
  | nil =>
    cases xs with
    | nil => rfl
    | cons x xs => exact hfor.elim
  | cons d ds =>
    exfalso
    obtain ⟨f, e, hd⟩ := diagsFor_head hfor
    apply hnoerr f e
    unfold analyzeFile
    simp only [hp2, Option.isSome_none, Bool.false_eq_true, ↓reduceIte]
    obtain ⟨extra, _, hext, _⟩ := C05.symbolWarnings_run
      (analyzeProgram fa (lines.length + 2)
        { analyzeLines ({ lines := lines } : Analysis F) 0 lines with
          st := (analyzeLines ({ lines := lines } : Analysis F) 0 lines).st.runFromFirst })
    rw [hext]
    show _ ∈ _ ++ extra
    rw [hds, hd]
    simp

/-- the analysis of a source text of `p`: the store it hands on holds `p`, and if it reports no error no line
    of `p` has a static error -/
theorem ALang.file {P : ALang F} (hP : P.Sound) (fa : Nat) (p : SeqL.Prog P.S) (hwf : SeqL.WF p) (lines : List Str)
    (hgood : C15.GoodFile F lines (p.map fun l => (l.1, P.lang.rline l.2)))
    (c : P.C) (hc : ∀ σ : St F, σ.fns = [] → P.Inv c σ) (hfit : P.LinesFit fa (SeqL.hasLine P.lang p) c p) :
    SeqL.Holds P.lang (analyzeFile (F := F) fa lines).st.lines p ∧ (analyzeFile (F := F) fa lines).st.nesting = 0 ∧
    ((∀ f e, Diag.error f e ∉ (analyzeFile (F := F) fa lines).messages) → P.errs (SeqL.hasLine P.lang p) c p = []) := by
  obtain ⟨h1, h2, h3, h4, h5, h6, h7, h8⟩ := linePass_start (F := F) lines _ rfl
  have hkey := C05.analyzeFile_key (F := F) fa lines
  have hH := SeqL.holds_load (L := P.lang) (F := F) p hwf
  rw [← C15.load_store lines _ hgood ({ lines := lines } : Analysis F) 0] at hH
  refine ⟨hkey.1 ▸ hH, hkey.2, noerr_lineErrs (ALang.analyze hP fa p hwf _ (h1 ▸ hH) h2 ?_ h4 h5 h6 h8 c (hc _ h7) hfit _ ?_)⟩
  · rw [h3, h1, SeqL.holds_first hH]
  · have := goodFile_length hgood
    simp only [List.length_map] at this
    omega

/-- Let the lines of a source file be numbered and tokenize
    to the lines of the covered program `p` (`GoodFile … (editsOf p)`),
    `p` in ascending order and within the fuel of analyzer (`fa`) and
    interpreter (`fuel`).  If the analysis of the file (`analyzeFile`: all three
    passes) contains NO ERROR diagnostic, then the interpreter the analysis is
    turned into (`intoInterpreter`, flags off) is ready to run `p`, and no run —
    RUN followed by any number of host turns — fails with a syntax error, a
    TYPE MISMATCH or UNDEF'D STATEMENT; the only failure left is DIVISION BY
    ZERO. -/
theorem sound_analyzed_file {p : RProgram F} {fa fuel : Nat} (hfa : Fits p fa) (hfit : Fits p fuel)
    (lines : List Str) (hgood : C15.GoodFile F lines (editsOf p))
    (hnoerr : ∀ f e, Diag.error f e ∉ (analyzeFile (F := F) fa lines).messages) (k : Nat) :
    C03.Ready p (analyzeFile (F := F) fa lines).intoInterpreter ∧
    typeOfP p = .ok () ∧
    (∀ te σ', C03.runTurns fuel k (analyzeFile (F := F) fa lines).intoInterpreter = .err te σ' →
      te.err = .divisionByZero ∧ te.err ≠ .typeMismatch ∧ (∀ se, te.err ≠ .syntax se) ∧
      te.err ≠ .undefinedStatement) ∧
    (∀ σ', C03.runTurns fuel k (analyzeFile (F := F) fa lines).intoInterpreter = .ok () σ' → WellTyped σ') := by
  obtain ⟨hH, hn, he⟩ := ALang.file Lang1.sound fa p hfa.wf.seq lines hgood () (fun _ _ => trivial)
    fun l hl s hs => ⟨hfa.covered l hl s hs, hfa.depth l hl s hs⟩
  have hready : C03.Ready p (analyzeFile (F := F) fa lines).intoInterpreter := ⟨rfl, holds_of_seq hH, rfl, rfl, hn, rfl⟩
  have hty : typeOfP p = .ok () := (lineErrs_nil_iff _ p).1 (he hnoerr)
  exact ⟨hready, hty, sound_program hfit hready hty k⟩

/-! ### non-vacuity -/

theorem demoProg_typed : typeOfP C03.demoProg = .ok () := by rfl

example (k : Nat) : ∀ te σ', C03.runTurns defaultFuel k C03.demoStart = .err te σ' →
    te.err = .divisionByZero :=
  fun te σ' h => ((sound_program C03.demo_fits C03.demo_ready demoProg_typed k).1 te σ' h).1

/-- C03's `badProg` (`20 GOTO 0` without a line 0): the error its run ends in (the last example of
    C03Prog.lean) -/
example : typeOfP C03.badProg = .error (.undefinedStatement, 20) := by rfl

example (a : Analysis Unit) (h : AStart C03.badProg a) :
    ∃ f i, (analyzeProgram defaultFuel 3 a).messages =
      a.messages ++ [.error f { err := .undefinedStatement, loc := some { line := some 20, idx := i } }] := by
  obtain ⟨_, _, _, _, ds, hds, hfor⟩ := analyze_program defaultFuel C03.badProg C03.bad_fits a h 3 (by decide)
  have hx : lineErrs C03.badProg.hasLine C03.badProg = [(.undefinedStatement, 20)] := by rfl
  rw [hx] at hfor
  obtain ⟨f, i, rfl⟩ := diagsFor_one hfor
  exact ⟨f, i, hds⟩

/-- ```
    10 LET A$ = "X" : PRINT A$;
    20 IF A$ THEN END
    ``` (on the carrier `Unit` no numeral tokenizes, hence no GOTO here) -/
def fileProg : RProgram Unit :=
  [ (10, [.letS ['A', '$'] (.str ['X']), .printS [.expr (.var ['A', '$']), .semi]]),
    (20, [.ifS (.var ['A', '$']) .endS none]) ]

def fileText : List Str := ["10 LET A$ = \"X\" : PRINT A$;".toList, "20 IF A$ THEN END".toList]

theorem file_edits : editsOf fileProg =
    [ (10, [.kw .Let, .symbol ['A', '$'], .kw .Equals, .str ['X'], .kw .Colon,
                   .kw .Print, .symbol ['A', '$'], .kw .Semicolon]),
      (20, [.kw .If, .symbol ['A', '$'], .kw .Then, .kw .End]) ] := by
  simp [editsOf, fileProg, renderLine, renderTail, renderS, renderItems, PItem.render, render_str, render_var]

theorem file_good : C15.GoodFile Unit fileText (editsOf fileProg) := by
  rw [file_edits]
  refine C15.goodFile_of_lineEdits (by decide) ?_
  unfold fileText
  literal_chars
  decide +kernel

theorem file_fits : Fits fileProg defaultFuel where
  wf := ⟨by decide, by intro l hl; simp [fileProg] at hl; rcases hl with rfl | rfl <;> simp⟩
  covered := by
    intro l hl s hs
    simp [fileProg] at hl
    rcases hl with rfl | rfl
    · simp at hs; rcases hs with rfl | rfl
      · simp [RStmt.Covered]
      · simp [RStmt.Covered, separated]
    · simp at hs; subst hs; simp [RStmt.Covered, RStmt.elseFree]
  depth := by
    intro l hl s hs
    simp [fileProg] at hl
    rcases hl with rfl | rfl
    · simp at hs; rcases hs with rfl | rfl
      · simp [sdepth, depth, defaultFuel, Extracted.nestingLimit]
      · simp [sdepth, itemsDepth, depth, defaultFuel, Extracted.nestingLimit]
    · simp at hs; subst hs; simp [sdepth, depth, defaultFuel, Extracted.nestingLimit]

def isErr : Diag → Bool
  | .error _ _ => true
  | _ => false

theorem file_noerr : ∀ f e, Diag.error f e ∉ (analyzeFile (F := Unit) defaultFuel fileText).messages := by
  have h : (analyzeFile (F := Unit) defaultFuel fileText).messages.all (fun d => !isErr d) = true := by
    unfold fileText
    literal_chars
    decide +kernel
  intro f e hmem
  have := List.all_eq_true.mp h _ hmem
  simp [isErr] at this

/-- the hypotheses of `sound_analyzed_file` are satisfiable -/
example (k : Nat) : ∀ te σ', C03.runTurns defaultFuel k (analyzeFile (F := Unit) defaultFuel fileText).intoInterpreter = .err te σ' →
    te.err = .divisionByZero :=
  fun te σ' h => ((sound_analyzed_file file_fits file_fits fileText file_good file_noerr k).2.2.1 te σ' h).1

end Abasic.Props.C06
