import Abasic.Props.C05Total
import Abasic.Front
import Abasic.Proofs.TokFast
/-
  C05, concluded — the finished analysis of a file.

  `analyzeFile_run` composes the statement pass (`stmtPass`, C05Total.lean) and the symbol
  pass (`symbolWarnings_run`, C05More.lean) behind the line pass.  Everything C05 says of
  finished analyses is read off that: the analyzer is total, reports no phantom fuel error,
  keeps one token list and one range record per line, and every diagnostic — of the line
  pass, the statement pass or the symbol pass — maps to a span of whole characters of an
  existing file line.
-/
namespace Abasic.Props.C05
open Abasic Abasic.AInv

variable {F : Type} [NumOps F]

def LateDiag (fuel : Nat) (m : FileMap) (d : Diag) : Prop :=
  StmtMsg m (Extracted.nestingLimit + 1 ≤ fuel) d ∨ SymDiag m d

/-- The finished analysis is what the line pass left, with another interpreter state — same program,
    nesting counter at 0 — and the diagnostics of the statement pass and the symbol pass appended: the flag
    stays clear, map, lines and tokens are the line pass's. -/
theorem analyzeFile_run (fuel : Nat) (lines : List Str) {a0 : Analysis F}
    (h0 : a0 = analyzeLines ({ lines := lines } : Analysis F) 0 lines) :
    ∃ st extra, analyzeFile (F := F) fuel lines = { a0 with st := st, messages := a0.messages ++ extra } ∧
      st.lines = a0.st.lines ∧ st.nesting = 0 ∧ ∀ d ∈ extra, LateDiag fuel a0.map d := by
  obtain ⟨st, ex1, h1, hl, hn, hP1, hacc⟩ := stmtPass fuel lines h0
  obtain ⟨ex2, flag, h2, hP2, hfl⟩ := symbolWarnings_run { a0 with st := st, messages := a0.messages ++ ex1 }
  have hpan : a0.panicked = none := h0 ▸ (analyzeLines_file (F := F) lines).2.2.2
  unfold analyzeFile
  simp only [← h0]
  rw [h1, if_neg (by simp [hpan]), h2, hfl hacc]
  refine ⟨st, ex1 ++ ex2, by simp only [List.append_assoc], hl, hn, fun d hd => ?_⟩
  exact (List.mem_append.mp hd).elim (fun hd => .inl (hP1 d hd)) fun hd => .inr (hP2 d hd)

/-- **The analyzer is total.**  For every file and every fuel the finished
    analysis has its panic flag clear: no Rust panic site is reached
    (`analyze_no_rust_panic`) and neither iteration budget of the model is
    exhausted. -/
theorem analyze_total (fuel : Nat) (lines : List Str) :
    (analyzeFile (F := F) fuel lines).panicked = none := by
  obtain ⟨st, extra, h, _⟩ := analyzeFile_run (F := F) fuel lines rfl
  rw [h]; exact (analyzeLines_file lines).2.2.2

/-- **No Rust panic for any file.**  Whatever the file and the fuel, the panic
    flag of the finished analysis is clear, or it names one of the two iteration
    budgets of the model (`analyzeStatements`, `analyzeProgram`) — never one of
    the panic sites of the analyzer (`tokens_for_line`/`log_access` unwraps,
    `exit_nested` underflow, "Expected error to have a numbered program line",
    the symbol-warning unwrap, an index into the range table). -/
theorem analyze_no_rust_panic (fuel : Nat) (lines : List Str) :
    (analyzeFile (F := F) fuel lines).panicked = none ∨
    (analyzeFile (F := F) fuel lines).panicked = some "analyzer: iteration budget exhausted" ∨
    (analyzeFile (F := F) fuel lines).panicked = some "analyzer: line budget exhausted" :=
  .inl (analyze_total fuel lines)

/-- the same for a document as the language server receives it -/
theorem analyzeText_total (fuel : Nat) (text : Str) : (analyzeText (F := F) fuel text).panicked = none :=
  analyze_total fuel _

/-- **The language server's analysis is total**: whatever the document. -/
theorem lsp_total (fuel : Nat) (doc : Str) : (lspAnalyze (F := F) fuel doc).panicked = none :=
  analyze_total fuel _

theorem analyzeFile_map (fuel : Nat) (lines : List Str) :
    (analyzeFile (F := F) fuel lines).map = (analyzeLines ({ lines := lines } : Analysis F) 0 lines).map := by
  obtain ⟨st, extra, h, _⟩ := analyzeFile_run (F := F) fuel lines rfl
  rw [h]

/-- The program the analyzer hands to `into_interpreter` is the one its line pass
    stored, and the nesting counter is back at 0. -/
theorem analyzeFile_key (fuel : Nat) (lines : List Str) :
    (analyzeFile (F := F) fuel lines).st.lines = (analyzeLines ({ lines := lines } : Analysis F) 0 lines).st.lines ∧
    (analyzeFile (F := F) fuel lines).st.nesting = 0 := by
  obtain ⟨st, extra, h, hl, hn, _⟩ := analyzeFile_run (F := F) fuel lines rfl
  rw [h]; exact ⟨hl, hn⟩

theorem analyzeFile_mapOk (fuel : Nat) (lines : List Str) : MapOk (analyzeFile (F := F) fuel lines).map := by
  rw [analyzeFile_map]
  exact analyzeLines_mapOk _ 0 lines mapOk_empty

/-- one range record per file line, computed from that line alone -/
theorem analyzeFile_ranges (fuel : Nat) (lines : List Str) :
    (analyzeFile (F := F) fuel lines).map.ranges = lines.map (lineRangesOf F) := by
  rw [analyzeFile_map]; exact (analyzeLines_file lines).2.1

theorem analyzeFile_lineTokens (fuel : Nat) (lines : List Str) :
    (analyzeFile (F := F) fuel lines).lineTokens = lines.map (lineTokensOf F) := by
  obtain ⟨st, extra, h, _⟩ := analyzeFile_run (F := F) fuel lines rfl
  rw [h]; exact (analyzeLines_file lines).1

theorem analyzeFile_lines (fuel : Nat) (lines : List Str) :
    (analyzeFile (F := F) fuel lines).lines = lines := by
  obtain ⟨st, extra, h, _⟩ := analyzeFile_run (F := F) fuel lines rfl
  rw [h]; exact (analyzeLines_file lines).2.2.1

/-- For every file and every file line index `i`, the semantic tokens
    recorded for line `i` are `lineTokensOf` of that line — the line-number token
    followed by `(type, start, end)` of `tokenizeRanges line lnEnd`, or nothing
    for a line the analyzer ignores — and they form a strictly ordered chain of
    non-empty byte ranges of whole characters inside the line. -/
theorem lineTokens_ranges (fuel : Nat) (lines : List Str) (i : Nat) (line : Str) (hi : lines[i]? = some line) :
    (analyzeFile (F := F) fuel lines).lineTokens[i]? = some (lineTokensOf F line) ∧
    TokensWF line (lineTokensOf F line) ∧
    ∀ ty a b, (ty, a, b) ∈ lineTokensOf F line → a < b ∧ b ≤ len8 line := by
  refine ⟨?_, lineTokensOf_wf line, (lineTokensOf_wf line).bounds⟩
  rw [analyzeFile_lineTokens, List.getElem?_map, hi]; rfl

theorem analyzeFile_diags (fuel : Nat) (lines : List Str) (d : Diag)
    (hd : d ∈ (analyzeFile (F := F) fuel lines).messages) :
    LineDiag (analyzeFile (F := F) fuel lines).map.ranges d ∨
    StmtMsg (analyzeFile (F := F) fuel lines).map (Extracted.nestingLimit + 1 ≤ fuel) d ∨
    SymDiag (analyzeFile (F := F) fuel lines).map d := by
  obtain ⟨st, extra, h, _, _, hP⟩ := analyzeFile_run (F := F) fuel lines rfl
  rw [h] at hd ⊢
  rcases List.mem_append.mp hd with hd | hd
  · exact .inl (analyzeLines_msgs ({ lines := lines } : Analysis F) 0 lines rfl (fun _ h => nomatch h) d hd)
  · exact .inr (hP d hd)

/-- **No phantom diagnostics.**  With recursion fuel above the nesting cap (in
    particular `defaultFuel`) no diagnostic of any file is the model's
    `outOfFuel`: neither the fuel of `aEvalN` nor any loop budget of the
    analyzer's evaluator (`aArrayIndexLoop`, `aLevelLoop`, `aReadLoop`,
    `aPrintLoop`, `defArgsLoop`) is ever exhausted. -/
theorem analyze_no_outOfFuel (fuel : Nat) (hf : Extracted.nestingLimit + 1 ≤ fuel) (lines : List Str)
    (f : Nat) (e : TErr) (hd : .error f e ∈ (analyzeFile (F := F) fuel lines).messages) :
    e.err ≠ .outOfFuel := by
  rcases analyzeFile_diags fuel lines _ hd with (⟨_, _, h, _⟩ | ⟨_, _, _, _, _, h, _, _⟩) | h |
      ⟨_, _, _, _, _, _, h, _⟩
  · cases h
  · cases h; exact nofun
  · exact h.noFuel hf f e rfl
  · cases h

theorem lsp_no_outOfFuel (fuel : Nat) (hf : Extracted.nestingLimit + 1 ≤ fuel) (doc : Str)
    (f : Nat) (e : TErr) (hd : .error f e ∈ (lspAnalyze (F := F) fuel doc).messages) : e.err ≠ .outOfFuel :=
  analyze_no_outOfFuel fuel hf _ f e hd

/-- The statement pass never reports a tokenization error, a DATA type
    mismatch or a panic as a diagnostic: an error diagnostic that is not of the
    line pass carries a plain evaluator error. -/
theorem error_diag_kinds (fuel : Nat) (lines : List Str) (f : Nat) (e : TErr)
    (hd : .error f e ∈ (analyzeFile (F := F) fuel lines).messages) :
    (∃ t, e = { err := .syntax (.tokenization t) }) ∨ plain e.err = true := by
  rcases analyzeFile_diags fuel lines _ hd with (⟨_, _, h, _⟩ | ⟨_, t, _, _, _, h, _, _⟩) |
      ⟨_, _, _, _, _, h, hplain, _⟩ | ⟨_, _, _, _, _, _, h, _⟩
  · cases h
  · cases h; exact .inl ⟨t, rfl⟩
  · cases h; exact .inr hplain
  · cases h

/-- No diagnostic of any file carries a panic: panics of the evaluator are
    diverted to `Analysis.panicked` by the statement pass. -/
theorem no_panic_diag (fuel : Nat) (lines : List Str) (f : Nat) (e : TErr)
    (hd : .error f e ∈ (analyzeFile (F := F) fuel lines).messages) : e.err.isPanic = false := by
  rcases error_diag_kinds fuel lines f e hd with ⟨t, rfl⟩ | h
  · rfl
  · cases he : e.err <;> first | rfl | (rw [he] at h; cases h)

/-- **Positions are spans.**  Whatever the file map of an analysed file returns — for ANY diagnostic,
    reported or not — is a span of whole characters of an existing file line: it is one of the ranges
    recorded for that line. -/
theorem mapped_is_span (fuel : Nat) (lines : List Str) (d : Diag) (f s e : Nat)
    (h : (analyzeFile (F := F) fuel lines).map.mapDiag d = some (some (f, s, e))) :
    ∃ line, lines[f]? = some line ∧ Span line s e := by
  obtain ⟨r, hr, hrec⟩ := mapDiag_recorded h
  rw [analyzeFile_ranges, List.getElem?_map] at hr
  cases hl : lines[f]? with
  | none => rw [hl] at hr; cases hr
  | some line =>
    rw [hl] at hr
    cases hr
    exact ⟨line, rfl, lineRangesOf_recorded hrec⟩

/-- Every diagnostic of every file has a source position: it maps to
    `(fileLine, s, e)`, the file line exists and `[s, e)` is a span of it. -/
theorem diag_located_all (fuel : Nat) (lines : List Str) (d : Diag)
    (hd : d ∈ (analyzeFile (F := F) fuel lines).messages) :
    ∃ f s e line, (analyzeFile (F := F) fuel lines).map.mapDiag d = some (some (f, s, e)) ∧
      lines[f]? = some line ∧ Span line s e := by
  -- it maps, kind by kind; what it maps to is a span by `mapped_is_span`
  suffices h : ∃ f s e, (analyzeFile (F := F) fuel lines).map.mapDiag d = some (some (f, s, e)) by
    obtain ⟨f, s, e, h⟩ := h
    obtain ⟨line, hl, hs⟩ := mapped_is_span fuel lines d f s e h
    exact ⟨f, s, e, line, h, hl, hs⟩
  have hkinds := analyzeFile_diags fuel lines d hd
  generalize (analyzeFile (F := F) fuel lines).map = m at hkinds
  rcases hkinds with (⟨f, msg, rfl, hf⟩ | ⟨f, t, r, x, y, rfl, hr, hxy⟩) | ⟨f, e, loc, x, y, rfl, hplain, hl, hmap, _⟩ |
      ⟨f, n, i, msg, x, y, rfl, hmap⟩
  · exact ⟨f, 0, m.ranges[f].lineNumberEnd, by simp only [FileMap.mapDiag, List.getElem?_eq_getElem hf]⟩
  · exact ⟨f, x, y, by rw [mapDiag_error_tok m f _ t rfl, hr]; simp only [hxy, Option.map_some]⟩
  · -- an error of the statement pass is plain, so it maps through its location
    refine ⟨f, x, y, ?_⟩
    rw [mapDiag_error_other m f e (fun t ht => by rw [ht] at hplain; cases hplain), hl]
    simp only [hmap]
  · exact ⟨f, x, y, by simp only [FileMap.mapDiag, hmap]⟩

/-- Every diagnostic of the analysis of a file maps (no index panic),
    and when it maps to a position `(fileLine, s, e)`, that file line exists and
    `[s, e)` is the byte range of a run of whole characters of it
    (`Span`: `s ≤ e ≤ len8 line`, both lengths of whole-character prefixes). -/
theorem diag_maps (fuel : Nat) (lines : List Str) (d : Diag)
    (hd : d ∈ (analyzeFile (F := F) fuel lines).messages) :
    (analyzeFile (F := F) fuel lines).map.mapDiag d ≠ none ∧
    ∀ f s e, (analyzeFile (F := F) fuel lines).map.mapDiag d = some (some (f, s, e)) →
      ∃ line, lines[f]? = some line ∧ Span line s e := by
  obtain ⟨f, s, e, line, hm, hline, hspan⟩ := diag_located_all fuel lines d hd
  rw [hm]
  exact ⟨nofun, fun _ _ _ h => by cases h; exact ⟨line, hline, hspan⟩⟩

/-- Every diagnostic of the line pass and of the symbol pass, and every
    non-tokenization error of the statement pass, has a source position.
    (The statement pass reports no tokenization error, `error_diag_kinds`: the
    first alternative always holds, `diag_located_all`.) -/
theorem diag_located (fuel : Nat) (lines : List Str) (d : Diag)
    (hd : d ∈ (analyzeFile (F := F) fuel lines).messages) :
    (∃ f s e, (analyzeFile (F := F) fuel lines).map.mapDiag d = some (some (f, s, e))) ∨
    (∃ f e t, d = .error f e ∧ e.err = .syntax (.tokenization t) ∧ e.loc.isSome) :=
  let ⟨f, s, e, _, hm, _⟩ := diag_located_all fuel lines d hd
  .inl ⟨f, s, e, hm⟩

/-- What holds of the passes one by one.  In the model a Rust panic of the analyzer is
    either the flag `Analysis.panicked` or an `Err.panic` inside an `.error`
    diagnostic.  For every file:
    (1) the line pass leaves the flag clear and emits only line warnings and
        tokenization errors;
    (2) no diagnostic of the finished analysis carries `Err.panic`;
    (3) the symbol pass emits warnings only and — when every recorded access is
        at a location that maps — leaves the flag as the statement pass left it.
    The flag after the statement pass (`analyzeProgram`) is clear: `stmtPass`. -/
theorem analyze_total_partial (fuel : Nat) (lines : List Str) :
    ((analyzeLines ({ lines := lines } : Analysis F) 0 lines).panicked = none ∧
      ∀ d ∈ (analyzeLines ({ lines := lines } : Analysis F) 0 lines).messages,
        (∃ f msg, d = .warning f none msg) ∨ (∃ f t, d = .error f { err := .syntax (.tokenization t) })) ∧
    (∀ f e, .error f e ∈ (analyzeFile (F := F) fuel lines).messages → e.err.isPanic = false) ∧
    (∀ a : Analysis F,
      (∃ extra, (symbolWarnings a).messages = a.messages ++ extra ∧
        ∀ d ∈ extra, ∃ f n i msg, d = .warning f (some (n, i)) msg) ∧
      (AccessesMap a → (symbolWarnings a).panicked = a.panicked)) :=
  ⟨analyzeLines_total lines, fun f e h => no_panic_diag fuel lines f e h, fun a => by
    obtain ⟨extra, flag, he, hP, hfl⟩ := symbolWarnings_run a
    rw [he]
    exact ⟨⟨extra, rfl, fun d hd => let ⟨f, n, i, msg, _, _, h, _⟩ := hP d hd; ⟨f, n, i, msg, h⟩⟩, hfl⟩⟩

/-- Non-vacuity: a file with a redefinition, a line without statements, a line
    without number, a tokenization error and an unused variable. -/
example :
    let a := analyzeFile (F := Unit) 10 ["10 X = 1".toList, "10".toList, "REM".toList, "20 \"".toList, "30 Y = 2".toList]
    a.panicked = none ∧ a.messages.length = 5 ∧ a.lineTokens.length = 5 ∧
      a.messages.all (fun d => (a.map.mapDiag d).isSome) = true := by
  literal_chars
  decide +kernel

/-- Non-vacuity: a program whose statements run through the evaluator — a type
    mismatch, a GOTO to a missing line, an unexpected end, a function call, an
    array — is analysed without panic and every diagnostic has a position. -/
example :
    let a := analyzeFile (F := Unit) 12
      ["10 DEF FNA(X) = X + 1".toList, "20 A$ = 1".toList, "30 GOTO 99".toList, "40 PRINT (".toList,
       "50 DIM B(3): B(1) = FNA(2)".toList, "50 FOR I = 1 TO".toList]
    a.panicked = none ∧ a.messages.length ≥ 4 ∧
      a.messages.all (fun d => match a.map.mapDiag d with | some (some _) => true | _ => false) = true := by
  literal_chars
  decide +kernel

end Abasic.Props.C05
