import Abasic.Props.C03Stmt
import Abasic.Proofs.AnalyzerStmt
import Abasic.Props.C06More
/-
  C06 for statements: the static analyzer and the statement evaluator agree on
  the covered statement fragment (LET, PRINT lists, GOTO, END, IF/THEN/ELSE) —
  the statement-level analogue of Abasic/Props/C06More.lean.

  `typeOfS` is the spec's static check of a statement tree, `accsS` the symbol
  accesses logged; `aStmtBody` on `renderS s` succeeds iff the check does
  (`analyze_stmt`).  `StepAs` sets the reference step `RStmt.exec` against the
  verdict of the check, both ways at once (the statement-level `FoldsAs`); with
  `C03.stmt_refines`, the evaluator's `stmtBody` on an accepted statement fails
  with nothing but DIVISION BY ZERO (`sound_stmt`) — not with UNDEF'D STATEMENT
  either, because the analyzer DOES check GOTO targets.  The converse holds for
  the statements that are not an IF (`complete_simple`, the other half of
  `stepAs_simple`) and fails for IF: the analyzer walks BOTH branches, the
  evaluator runs one.

  The proof of `analyze_stmt` states each statement kind as a run of the analyzer along
  its tokens (`AnaL.Runs`, Proofs/AnalyzerLemmas.lean: token list, starting index, verdict
  and logged accesses are indices of the judgment, so that `renderS`, `typeOfS` and `accsS`
  are taken apart together by its sequencing rules), tied together by recursion on the
  tree (`astmt_runs`); `astmt_run` is that judgment at one state; the expressions go
  through `aexpr_runs1`.
-/
set_option linter.unusedSectionVars false

namespace Abasic.Props.C06
open Abasic Abasic.Ref Abasic.ExprL Abasic.AnaL Abasic.StmtL Abasic.AnaS M

variable {F : Type} [NumOps F]

def typeOfItems : List (PItem F) → Except Err Unit
  | [] => .ok ()
  | .expr e :: rest =>
    match typeOf e with
    | .ok _ => typeOfItems rest
    | .error x => .error x
  | .semi :: rest => typeOfItems rest
  | .comma :: rest => typeOfItems rest

/-- What the analyzer checks on a statement (`lineExists` = the stored line
    numbers, where `aGotoOrGosub` looks the target up).  IF: the condition may
    have ANY type (`aIf` drops it), and BOTH branches must pass — the analyzer
    walks both, unlike the evaluator.  The first error in token order is the
    result. -/
def typeOfS : RStmt F → (lineExists : Nat → Bool) → Except Err Unit
  | .letS x e, _ =>
    match typeOf e with
    | .error err => .error err
    | .ok t => if VT.ofName x = t then .ok () else .error .typeMismatch
  | .printS items, _ => typeOfItems items
  | .gotoS n, le => if le n then .ok () else .error .undefinedStatement
  | .endS, _ => .ok ()
  | .ifS c t none, le =>
    match typeOf c with
    | .error err => .error err
    | .ok _ => typeOfS t le
  | .ifS c t (some e), le =>
    match typeOf c with
    | .error err => .error err
    | .ok _ =>
      match typeOfS t le with
      | .error err => .error err
      | .ok _ => typeOfS e le

def accsItems (ln : Nat) : Nat → List (PItem F) → List Acc
  | _, [] => []
  | off, .expr e :: rest => accs ln off e ++ accsItems ln (off + (render e).length) rest
  | off, .semi :: rest => accsItems ln (off + 1) rest
  | off, .comma :: rest => accsItems ln (off + 1) rest

/-- the accesses logged for `renderS s` standing at token index `off` of line `ln`; for LET the write of
    `x` is logged after the right-hand side -/
def accsS (ln : Nat) : Nat → RStmt F → List Acc
  | off, .letS x e => accs ln (off + 3) e ++ [(x, ln, off + 1, .write)]
  | off, .printS items => accsItems ln (off + 1) items
  | _, .gotoS _ => []
  | _, .endS => []
  | off, .ifS c t none => accs ln (off + 1) c ++ accsS ln (off + 1 + (render c).length + 1) t
  | off, .ifS c t (some e) =>
    accs ln (off + 1) c ++ (accsS ln (off + 1 + (render c).length + 1) t ++
      accsS ln (off + 1 + (render c).length + 1 + (renderS t).length + 1) e)

theorem typeOfItems_expr (e : Expr F) (rest : List (PItem F)) :
    typeOfItems (.expr e :: rest) = typeOf e >>= fun _ => typeOfItems rest := by
  rw [typeOfItems]; cases typeOf e <;> rfl

theorem typeOfS_let (x : Str) (e : Expr F) (le : Nat → Bool) :
    typeOfS (.letS x e) le =
      typeOf e >>= fun t => if VT.ofName x = t then .ok () else .error .typeMismatch := by
  rw [typeOfS]; cases typeOf e <;> rfl

theorem typeOfS_if_none (c : Expr F) (t : RStmt F) (le : Nat → Bool) :
    typeOfS (.ifS c t none) le = typeOf c >>= fun _ => typeOfS t le := by
  rw [typeOfS]; cases typeOf c <;> rfl

theorem typeOfS_if_some (c : Expr F) (t e : RStmt F) (le : Nat → Bool) :
    typeOfS (.ifS c t (some e)) le = typeOf c >>= fun _ => typeOfS t le >>= fun _ => typeOfS e le := by
  rw [typeOfS]; cases typeOf c <;> cases typeOfS t le <;> rfl

def AStmtRuns (t : RStmt F) (n : Nat) : Prop :=
  ∀ (c : Ctx) (off : Nat), c.nest + sdepth t ≤ Extracted.nestingLimit →
    Runs c off (EndFor t) (aStmtBody (aEvalN n)) (renderS t) (typeOfS t c.has) (accsS c.ln off t) fun _ => pure ()

theorem alet_runs (x : Str) (e : Expr F) (n : Nat) (hd : depth e + 1 ≤ n) : AStmtRuns (.letS x e) n := by
  intro c off hn
  rw [typeOfS_let, renderS, accsS]
  unfold aStmtBody
  refine .weaken (.tok next_eq ?_) fun _ hE => ends_of_stmtEnd hE.stmtEnd 6
  show Runs _ _ _ (aLet _) _ _ _ _
  unfold aLet
  refine .tok next_eq ?_
  show Runs _ _ _ (aAssignment _ x) _ _ _ _
  unfold aAssignment
  refine .get (v := { line := some c.ln, idx := off + 1 }) (fun hS hi => prevLoc_eq hS.1 hi)
    (.look (v := none) (fun _ hAt => aOptionalArrayIndex_none hAt rfl) (.expect ?_))
  refine ((aexpr_runs1 e c _ n hd hn).bind.log (a := [(x, c.ln, off + 1, .write)])
    (k' := fun t => VT.check (F := F) (VT.ofName x) t >>= fun _ => pure ())
    (fun _ S _ => by unfold aAssignValue; rw [bind_ok (logAccess_eq ..)])).map fun t => ?_
  by_cases ht : VT.ofName x = t
  · subst ht
    rw [if_pos rfl]
    show VT.check _ _ >>= _ = _
    rw [check_self]; rfl
  · rw [if_neg ht]
    show VT.check _ _ >>= _ = _
    rw [check_ne ht]; rfl

theorem aPrintLoop_runs (n : Nat) (items : List (PItem F)) :
    ∀ (c : Ctx) (off k : Nat), itemsDepth items ≤ n → c.nest + itemsDepth items ≤ Extracted.nestingLimit →
      separated items = true → (renderItems items).length < k →
      Runs c off StmtEnd (aPrintLoop (aEvalN n) k) (renderItems items) (typeOfItems items)
        (accsItems c.ln off items) fun _ => pure () := by
  induction items with
  | nil =>
    intro c off k _ _ _ hk
    obtain ⟨k', rfl⟩ : ∃ k', k = k' + 1 := ⟨k - 1, by omega⟩
    exact .looks fun hE hAt => aPrintLoop_stop hAt hE
  | cons i r ih =>
    intro c off k hd hn hsep hk
    obtain ⟨k', rfl⟩ : ∃ k', k = k' + 1 := ⟨k - 1, by omega⟩
    have hsep' := sep_tail i r hsep
    rw [aPrintLoop]
    cases i with
    | semi | comma =>
      simp only [renderItems, PItem.render, List.length_append, List.length_cons, List.length_nil] at hk
      refine .look (v := some _) (fun _ hAt => peek_eq hAt) (.tok next_eq ?_)
      exact ih c _ k' hd hn hsep' (by omega)
    | expr e =>
      have hlen : (renderItems (PItem.expr e :: r)).length = (render e).length + (renderItems r).length := by
        simp only [renderItems, PItem.render, List.length_append]
      simp only [itemsDepth] at hd hn
      obtain ⟨t, ts, hts, h1, h2, h3, h4⟩ := render_head e
      rw [typeOfItems_expr]
      refine .look (v := some t) (fun _ hAt => by
        simpa only [renderItems, PItem.render, hts, List.cons_append, List.head?_cons] using peek_eq hAt) ?_
      simp only [h1, h2, h3, h4, Bool.or_false, Bool.false_eq_true, ↓reduceIte]
      exact (aexpr_runs1 e c off n (by omega) (by omega)).bind.trans (fun rest hE => sep_follow e r rest hsep hE)
        fun _ => ih c _ k' (by omega) (by omega) hsep' (by have := render_pos e; rw [hlen] at hk; omega)

theorem aprint_runs (items : List (PItem F)) (n : Nat) (hd : itemsDepth items ≤ n) (hsep : separated items = true) :
    AStmtRuns (.printS items) n := by
  intro c off hn
  rw [renderS, accsS]
  unfold aStmtBody
  refine .fits fun hlen => .weaken (.tok next_eq (.budget ?_)) fun _ hE => hE.stmtEnd
  exact aPrintLoop_runs n items c _ _ hd hn hsep (by simp only [List.length_cons] at hlen; omega)

theorem agoto_runs (m n : Nat) (hround : NumOps.toU64 (NumOps.ofNat m : F) = m) : AStmtRuns (.gotoS m : RStmt F) n := by
  intro c off _
  have h := agotoOrGosub_runs (c := c) (off := off + 1) (C := EndFor (.gotoS m : RStmt F)) (NumOps.ofNat m : F)
  rw [hround] at h
  unfold aStmtBody
  exact .tok next_eq h

theorem aend_runs (n : Nat) : AStmtRuns (.endS : RStmt F) n :=
  fun _ _ _ => .one aStmtBody_end

/-- what `aIf` does after the condition and THEN -/
def aIfRest (ev : AEvals F) : M F Unit :=
  aStatementOrGoto ev >>= fun _ => accept .Else >>= fun b => if b then aStatementOrGoto ev else pure ()

/-- a branch of an IF (`aStatementOrGoto`) is analysed one nesting level deeper -/
theorem abranch_runs (t : RStmt F) (n' : Nat) (hT : AStmtRuns t n') (c : Ctx) (off : Nat)
    (hn : c.nest + (sdepth t + 1) ≤ Extracted.nestingLimit) :
    Runs c off (EndFor t) (aStatementOrGoto (aEvalN (n' + 1))) (renderS t) (typeOfS t c.has) (accsS c.ln off t)
      fun _ => pure () := by
  obtain ⟨k, ts, hhead⟩ := renderS_head t
  unfold aStatementOrGoto
  refine .look (v := some (.kw k)) (fun _ hAt => by simpa only [hhead, List.cons_append, List.head?_cons] using peek_eq hAt) ?_
  exact .nested (by omega) (hT { c with nest := c.nest + 1 } off (by show c.nest + 1 + _ ≤ _; omega))

theorem aif_none_runs (c0 : Expr F) (t : RStmt F) (n' : Nat) (hT : AStmtRuns t n') (hd : depth c0 + 1 ≤ n' + 1) :
    AStmtRuns (.ifS c0 t none) (n' + 1) := by
  intro c off hn
  simp only [sdepth] at hn
  have hLE : ∀ rest, EndFor (.ifS c0 t none) rest → LineEnd rest := fun rest hE => by
    rcases hE with h | h
    · exact h
    · exact absurd h.1 (by simp [RStmt.simple])
  rw [typeOfS_if_none, renderS, accsS]
  unfold aStmtBody
  refine .tok next_eq ?_
  show Runs _ _ _ (aIf _) _ _ _ _
  unfold aIf
  refine (aexpr_runs1 c0 c _ (n' + 1) hd (by omega)).bind.trans (fun _ _ => ends_then 6 _) fun _ => .expect ?_
  refine .weaken (C := LineEnd) ?_ hLE
  refine ((abranch_runs t n' hT c _ (by omega)).weaken fun _ h => Or.inl h).bind.stop fun _ _ _ _ hLE hAt => ?_
  rw [bind_ok (accept_end (k := .Else) hAt (fun t ht => by rw [hLE t ht]; rfl))]
  rfl

theorem aif_some_runs (c0 : Expr F) (t e : RStmt F) (n' : Nat) (hT : AStmtRuns t n') (hEl : AStmtRuns e n')
    (hsimple : t.simple = true) (hd : depth c0 + 1 ≤ n' + 1) : AStmtRuns (.ifS c0 t (some e)) (n' + 1) := by
  intro c off hn
  simp only [sdepth] at hn
  have hLE : ∀ rest, EndFor (.ifS c0 t (some e)) rest → LineEnd rest := fun rest hE => by
    rcases hE with h | h
    · exact h
    · exact absurd h.1 (by simp [RStmt.simple])
  rw [typeOfS_if_some, renderS, accsS]
  unfold aStmtBody
  refine .tok next_eq ?_
  show Runs _ _ _ (aIf _) _ _ _ _
  unfold aIf
  refine (aexpr_runs1 c0 c _ (n' + 1) hd (by omega)).bind.trans (fun _ _ => ends_then 6 _) fun _ => .expect ?_
  refine .weaken (C := LineEnd) ?_ hLE
  refine (abranch_runs t n' hT c _ (by omega)).bind.trans
    (fun _ _ => Or.inr ⟨hsimple, stmtEnd_else _⟩) fun _ => .accept ?_
  exact (abranch_runs e n' hEl c _ (by omega)).weaken fun _ h => Or.inl h

theorem astmt_runs : ∀ (s : RStmt F) (n : Nat), sdepth s ≤ n → s.Covered → AStmtRuns s n
  | .letS x e, n, hd, _ => alet_runs x e n hd
  | .printS items, n, hd, hcov => aprint_runs items n hd hcov
  | .gotoS m, n, _, hcov => agoto_runs m n hcov
  | .endS, n, _, _ => aend_runs n
  | .ifS c t none, n, hd, hcov => by
    obtain ⟨_, hcovt⟩ : t.elseFree = true ∧ t.Covered := by simpa only [RStmt.Covered] using hcov
    simp only [sdepth] at hd
    obtain ⟨n', rfl⟩ : ∃ n', n = n' + 1 := ⟨n - 1, by omega⟩
    exact aif_none_runs c t n' (astmt_runs t n' (by omega) hcovt) (by omega)
  | .ifS c t (some e), n, hd, hcov => by
    obtain ⟨hsimple, hcovt, hcove⟩ : t.simple = true ∧ t.Covered ∧ e.Covered := by
      simpa only [RStmt.Covered] using hcov
    simp only [sdepth] at hd
    obtain ⟨n', rfl⟩ : ∃ n', n = n' + 1 := ⟨n - 1, by omega⟩
    exact aif_some_runs c t e n' (astmt_runs t n' (by omega) hcovt) (astmt_runs e n' (by omega) hcove) hsimple
      (by omega)

def AStmtOK (t : RStmt F) (n ln : Nat) (le : Nat → Bool) : Prop :=
  ∀ (σ : St F) (pre rest : List (Token F)),
    At σ pre (renderS t ++ rest) → σ.loc.line = some ln → σ.lines.has = le →
    σ.nesting + sdepth t ≤ Extracted.nestingLimit → EndFor t rest →
    SAgrees (aStmtBody (aEvalN n) σ) (typeOfS t le) σ
      (fun r => .ok () (lg (mv σ (renderS t).length r) (accsS ln pre.length t)))

theorem astmt_run (s : RStmt F) (n ln : Nat) (le : Nat → Bool) (hd : sdepth s ≤ n) (hcov : s.Covered) :
    AStmtOK s n ln le := by
  intro σ pre rest hAt hl hle hn hE
  subst hle
  exact sagrees_iff.2 ((astmt_runs s n hd hcov (Ctx.at σ ln) pre.length hn).run hAt hl hE)

/-- The hypotheses of `analyze_stmt` — `C03.SReady` for the analyzer.  The line
    is NUMBERED (the analyzer only ever walks numbered lines: `logAccess` unwraps
    the line number); `rest` is empty or begins with `:` (after a statement that
    is not an IF it may begin with ELSE).  Nothing is asked of the GOSUB stack,
    the warning or the tracing flag: the analyzer does not look at them. -/
structure ASReady (σ : St F) (ln : Nat) (pre : List (Token F)) (s : RStmt F) (rest : List (Token F))
    (n : Nat) : Prop where
  line : σ.loc.line = some ln
  toks : tokens σ = .ok (pre ++ renderS s ++ rest) σ
  idx : σ.loc.idx = pre.length
  nesting : σ.nesting + sdepth s ≤ Extracted.nestingLimit
  fuel : sdepth s ≤ n
  covered : s.Covered
  ends : EndFor s rest

/-- The analyzer on a rendered statement.  One activation `aStmtBody` on
    `renderS s` succeeds iff the spec's check `typeOfS s` (against the stored
    lines of `σ`) succeeds; it then has consumed exactly `renderS s` — for IF
    that is the condition, THEN branch, and ELSE branch: the analyzer walks BOTH
    branches and ends behind the last one —, logged exactly `accsS ln |pre| s`,
    and changed nothing else but the read counter.  If `typeOfS s` is an error
    the run fails with that error, the nesting counter restored. -/
theorem analyze_stmt (s : RStmt F) (n ln : Nat) (σ : St F) (pre rest : List (Token F))
    (h : ASReady σ ln pre s rest n) :
    (typeOfS s σ.lines.has = .ok () → ∃ r, σ.reads < r ∧
      aStmtBody (aEvalN n) σ =
        .ok () { σ with loc := { σ.loc with idx := pre.length + (renderS s).length }, reads := r,
                        accesses := σ.accesses ++ accsS ln pre.length s }) ∧
    (∀ x, typeOfS s σ.lines.has = .error x → ∃ σ',
      aStmtBody (aEvalN n) σ = .err { err := x } σ' ∧ σ'.nesting = σ.nesting) := by
  have hA := astmt_run s n ln σ.lines.has h.fuel h.covered σ pre rest (.of_tokens h.toks h.idx) h.line rfl h.nesting h.ends
  obtain ⟨h1, h2⟩ := (sagrees_iff.1 hA).final h.idx
  exact ⟨h1 (), h2⟩

theorem analyze_stmt_outcome (s : RStmt F) (n ln : Nat) (σ : St F) (pre rest : List (Token F))
    (h : ASReady σ ln pre s rest n) :
    C02.outcome (aStmtBody (aEvalN n) σ) =
      (match typeOfS s σ.lines.has with
       | .ok u => .ok u
       | .error x => .error { err := x }) := by
  obtain ⟨h1, h2⟩ := analyze_stmt s n ln σ pre rest h
  cases hev : typeOfS s σ.lines.has with
  | ok u => obtain ⟨r, _, hr⟩ := h1 hev; rw [hr]; rfl
  | error x => obtain ⟨σ', hσ', _⟩ := h2 x hev; rw [hσ']; rfl

theorem analyzer_accepts_stmt_iff (s : RStmt F) (n ln : Nat) (σ : St F) (pre rest : List (Token F))
    (h : ASReady σ ln pre s rest n) :
    (∃ σ', aStmtBody (aEvalN n) σ = .ok () σ') ↔ typeOfS s σ.lines.has = .ok () := by
  obtain ⟨h1, h2⟩ := analyze_stmt s n ln σ pre rest h
  exact accepts_iff_of_clauses (fun _ => h1) h2 ()

theorem typeOfItems_error (items : List (PItem F)) (x : Err) (h : typeOfItems items = .error x) :
    x = .typeMismatch := by
  induction items with
  | nil => cases h
  | cons i r ih =>
    cases i with
    | semi => exact ih h
    | comma => exact ih h
    | expr e =>
      rw [typeOfItems_expr] at h
      rcases bind_eq_error h with h | ⟨_, _, h⟩
      · exact typeOf_error e _ h
      · exact ih h

theorem typeOfS_error (le : Nat → Bool) : ∀ (s : RStmt F) (x : Err), typeOfS s le = .error x →
    x = .typeMismatch ∨ x = .undefinedStatement
  | .letS n e, x, h => by
    rw [typeOfS_let] at h
    rcases bind_eq_error h with h | ⟨t, _, h⟩
    · exact .inl (typeOf_error e _ h)
    · split at h
      · cases h
      · exact .inl (Except.error.inj h).symm
  | .printS items, x, h => .inl (typeOfItems_error items x h)
  | .gotoS m, x, h => by
    simp only [typeOfS] at h
    cases hm : le m with
    | true => simp [hm] at h
    | false => simp only [hm, Bool.false_eq_true, ↓reduceIte, Except.error.injEq] at h; exact .inr h.symm
  | .endS, x, h => by simp [typeOfS] at h
  | .ifS c t none, x, h => by
    rw [typeOfS_if_none] at h
    rcases bind_eq_error h with h | ⟨_, _, h⟩
    · exact .inl (typeOf_error c _ h)
    · exact typeOfS_error le t x h
  | .ifS c t (some e), x, h => by
    rw [typeOfS_if_some] at h
    rcases bind_eq_error h with h | ⟨_, _, h⟩
    · exact .inl (typeOf_error c _ h)
    · rcases bind_eq_error h with h | ⟨_, _, h⟩
      · exact typeOfS_error le t x h
      · exact typeOfS_error le e x h

def WellTypedVars (vars : List (Str × Value F)) : Prop :=
  ∀ name v, alGet name vars = some v → v.matchesName name = true

theorem wellTyped_iff (σ : St F) : WellTyped σ ↔ WellTypedVars σ.vars := Iff.rfl

theorem wellTypedEnv_envOf {vars : List (Str × Value F)} (h : WellTypedVars vars) :
    WellTypedEnv (envOf vars) := by
  intro name
  unfold envOf
  cases hg : alGet name vars with
  | none => exact defaultFor_matches name
  | some v => exact h name v hg

theorem alSet_wellTyped {vars : List (Str × Value F)} {x : Str} {v : Value F}
    (h : WellTypedVars vars) (hm : v.matchesName x = true) : WellTypedVars (alSet x v vars) := C16.alSet_all h hm

omit [NumOps F] in
theorem closeLine_vars (r : RResult F) : r.closeLine.vars = r.vars := by
  unfold RResult.closeLine; cases r.ctl <;> rfl

omit [NumOps F] in
theorem closeLine_jump (r : RResult F) (m : Nat) (h : r.closeLine.ctl = .jump m) : r.ctl = .jump m := by
  by_cases hc : r.ctl = .next
  · rw [closeLine_next hc] at h; cases h
  · rw [closeLine_other hc] at h; exact h

/-- what the reference step of an accepted statement can do -/
structure ExecOK (le : Nat → Bool) (r : RResult F) : Prop where
  vars : WellTypedVars r.vars
  err : ∀ x, r.ctl = .error x → x = .divisionByZero
  jump : ∀ m, r.ctl = .jump m → le m = true

omit [NumOps F] in
theorem ExecOK.closeLine {le : Nat → Bool} {r : RResult F} (h : ExecOK le r) : ExecOK le r.closeLine :=
  ⟨by rw [closeLine_vars]; exact h.vars, fun x hx => h.err x (closeLine_error r x hx),
   fun m hm => h.jump m (closeLine_jump r m hm)⟩

omit [NumOps F] in
theorem execOK_plain {le : Nat → Bool} {r : RResult F} (hv : WellTypedVars r.vars)
    (hc : r.ctl = .next ∨ r.ctl = .skipLine ∨ r.ctl = .stop) : ExecOK le r := by
  refine ⟨hv, fun x hx => ?_, fun m hm => ?_⟩
  · rcases hc with hc | hc | hc <;> rw [hc] at hx <;> cases hx
  · rcases hc with hc | hc | hc <;> rw [hc] at hm <;> cases hm

omit [NumOps F] in
theorem execOK_dz {le : Nat → Bool} {r : RResult F} (hv : WellTypedVars r.vars)
    (hc : r.ctl = .error .divisionByZero) : ExecOK le r := by
  refine ⟨hv, fun x hx => ?_, fun m hm => ?_⟩
  · rw [hc] at hx; simp only [Ctl.error.injEq] at hx; exact hx.symm
  · rw [hc] at hm; cases hm

/-- the reference step `r` of a statement against the check's verdict `ty`: passed — `ExecOK`; rejected with `x` — the
    step fails with `x`, or with a DIVISION BY ZERO met first, or asks for the line whose absence `x` reports -/
def StepAs (le : Nat → Bool) (ty : Except Err Unit) (r : RResult F) : Prop :=
  match ty with
  | .ok _ => ExecOK le r
  | .error x => r.ctl = .error x ∨ r.ctl = .error .divisionByZero ∨
      (x = .undefinedStatement ∧ ∃ m, r.ctl = .jump m ∧ le m = false)

theorem StepAs.dz {le : Nat → Bool} {vars : List (Str × Value F)} (hwt : WellTypedVars vars) (ty : Except Err Unit) :
    StepAs le ty { vars := vars, out := [], ctl := .error .divisionByZero } := by
  cases ty with
  | ok _ => exact execOK_dz hwt rfl
  | error x => exact .inr (.inl rfl)

/-- a statement that begins by folding an expression: it is enough to know the rest on values -/
theorem stepAs_fold {le : Nat → Bool} {vars : List (Str × Value F)} (hwt : WellTypedVars vars) (e : Expr F)
    {f : VT → Except Err Unit} {k : Value F → RResult F} (hk : ∀ v, StepAs le (f (kindOf v)) (k v)) :
    StepAs le (typeOf e >>= f) (match foldE (envOf vars) e with
      | .ok v => k v
      | .error err => { vars := vars, out := [], ctl := .error err }) := by
  have h := foldsAs_typeOf (envOf vars) (wellTypedEnv_envOf hwt) e
  cases hty : typeOf e with
  | error x =>
    obtain rfl := typeOf_error e x hty
    rw [hty] at h
    rcases h with hf | hf <;> rw [hf]
    · exact .inl rfl
    · exact .inr (.inl rfl)
  | ok t =>
    rw [hty] at h
    rcases h with ⟨v, hv, rfl⟩ | hdz
    · rw [hv]; exact hk v
    · rw [hdz]; exact .dz hwt _

/-- the same for a PRINT list, where the folds stand inside `printText` -/
theorem stepAs_print {le : Nat → Bool} {vars : List (Str × Value F)} (hwt : WellTypedVars vars)
    (items : List (PItem F)) : ∀ (b : Bool) (acc : Str), StepAs le (typeOfItems items)
      (match printText (envOf vars) items b acc with
        | .ok text => { vars := vars, out := [text], ctl := .next }
        | .error err => { vars := vars, out := [], ctl := .error err }) := by
  induction items with
  | nil => intro b acc; exact execOK_plain hwt (.inl rfl)
  | cons i r ih =>
    intro b acc
    cases i with
    | semi => exact ih true acc
    | comma => exact ih false _
    | expr e =>
      have h := foldsAs_typeOf (envOf vars) (wellTypedEnv_envOf hwt) e
      rw [typeOfItems_expr, printText]
      cases hty : typeOf e with
      | error x =>
        obtain rfl := typeOf_error e x hty
        rw [hty] at h
        rcases h with hf | hf <;> rw [hf]
        · exact .inl rfl
        · exact .inr (.inl rfl)
      | ok t =>
        rw [hty] at h
        rcases h with ⟨v, hv, _⟩ | hdz
        · rw [hv]; exact ih false _
        · rw [hdz]; exact .dz hwt _

/-- The reference step against the check, without IF: both directions at once. -/
theorem stepAs_simple (le : Nat → Bool) (vars : List (Str × Value F)) (hwt : WellTypedVars vars) :
    ∀ (s : RStmt F), s.simple = true → StepAs le (typeOfS s le) (RStmt.exec vars s)
  | .letS x e, _ => by
    rw [typeOfS_let]
    refine stepAs_fold hwt e fun v => ?_
    by_cases hm : v.matchesName x = true
    · rw [if_pos hm, if_pos (matches_iff_kindOf.1 hm).symm]
      exact execOK_plain (alSet_wellTyped hwt hm) (.inl rfl)
    · rw [if_neg hm, if_neg fun h => hm (matches_iff_kindOf.2 h.symm)]
      exact .inl rfl
  | .printS items, _ => stepAs_print hwt items false []
  | .gotoS m, _ => by
    show StepAs le (if le m then _ else _) _
    cases hm : le m with
    | true => exact ⟨hwt, fun y hy => (by cases hy), fun m' hm' => by cases hm'; exact hm⟩
    | false => exact .inr (.inr ⟨rfl, m, rfl, hm⟩)
  | .endS, _ => execOK_plain hwt (.inr (.inr rfl))
  | .ifS _ _ none, hs => by cases hs
  | .ifS _ _ (some _), hs => by cases hs

/-- `stepAs_fold` read for a typed expression -/
theorem execOK_fold {le : Nat → Bool} {vars : List (Str × Value F)} (hwt : WellTypedVars vars) {e : Expr F} {t : VT}
    (hte : typeOf e = .ok t) {k : Value F → RResult F} (hk : ∀ v, ExecOK le (k v)) :
    ExecOK le (match foldE (envOf vars) e with
      | .ok v => k v
      | .error err => { vars := vars, out := [], ctl := .error err }) := by
  have h := stepAs_fold (le := le) hwt e (f := fun _ => .ok ()) hk
  rw [hte] at h
  exact h

/-- Soundness on the reference semantics.  A jump goes to a line that exists
    according to `lineExists` because the analyzer checks GOTO targets — of both
    branches of an IF. -/
theorem exec_typed (le : Nat → Bool) (vars : List (Str × Value F)) (hwt : WellTypedVars vars) :
    ∀ (s : RStmt F), typeOfS s le = .ok () → ExecOK le (RStmt.exec vars s)
  | .ifS c t none, h => by
    rw [typeOfS_if_none] at h
    obtain ⟨tc, hte, h⟩ := bind_eq_ok h
    refine execOK_fold hwt hte fun v => ?_
    split
    · exact exec_typed le vars hwt t h
    · exact execOK_plain hwt (.inr (.inl rfl))
  | .ifS c t (some e), h => by
    rw [typeOfS_if_some] at h
    obtain ⟨tc, hte, h⟩ := bind_eq_ok h
    obtain ⟨_, htt, h⟩ := bind_eq_ok h
    refine execOK_fold hwt hte fun v => ?_
    split
    · exact (exec_typed le vars hwt t htt).closeLine
    · exact exec_typed le vars hwt e h
  | .letS x e, h => by have := stepAs_simple le vars hwt (.letS x e) rfl; rwa [h] at this
  | .printS items, h => by have := stepAs_simple le vars hwt (.printS items) rfl; rwa [h] at this
  | .gotoS n, h => by have := stepAs_simple le vars hwt (.gotoS n) rfl; rwa [h] at this
  | .endS, _ => execOK_plain hwt (.inr (.inr rfl))

theorem sound_stmt_ref (s : RStmt F) (σ : St F) (hwt : WellTyped σ)
    (hty : typeOfS s σ.lines.has = .ok ()) :
    (RStmt.exec σ.vars s).ctl ≠ .error .typeMismatch ∧
    (∀ se, (RStmt.exec σ.vars s).ctl ≠ .error (.syntax se)) ∧
    (∀ x, (RStmt.exec σ.vars s).ctl = .error x → x = .divisionByZero) ∧
    WellTypedVars (RStmt.exec σ.vars s).vars ∧
    (∀ m, (RStmt.exec σ.vars s).ctl = .jump m → σ.lines.has m = true) := by
  have h := exec_typed σ.lines.has σ.vars hwt s hty
  refine ⟨fun hc => ?_, fun se hc => ?_, h.err, h.vars, h.jump⟩
  · have := h.err _ hc; cases this
  · have := h.err _ hc; cases this

theorem refines_sound {res : Res F Unit} {σ : St F} {a eol : Nat} {r : RResult F} {le : Nat → Bool}
    (h : Refines res σ a eol r) (hok : ExecOK le r) :
    (∀ te σ', res = .err te σ' → te.err = .divisionByZero ∨
      (te.err = .undefinedStatement ∧ ∃ m, r.ctl = .jump m ∧ σ.lines.has m = false)) ∧
    (∀ σ', res = .ok () σ' → WellTyped σ') := by
  unfold Refines at h
  cases hc : r.ctl with
  | next | skipLine | stop =>
    rw [hc] at h
    obtain ⟨k, _, rfl⟩ := h
    exact ⟨fun _ _ he => (by cases he), fun σ' ho => by obtain ⟨_, rfl⟩ := Res.ok.inj ho; exact hok.vars⟩
  | jump m =>
    rw [hc] at h
    cases hh : σ.lines.has m with
    | true =>
      obtain ⟨k, _, rfl⟩ := h.1 hh
      exact ⟨fun _ _ he => (by cases he), fun σ' ho => by obtain ⟨_, rfl⟩ := Res.ok.inj ho; exact hok.vars⟩
    | false =>
      obtain ⟨σ'', rfl, _⟩ := h.2 hh
      exact ⟨fun te σ' he => by cases he; exact .inr ⟨rfl, m, rfl, hh⟩, fun _ ho => by cases ho⟩
  | error x =>
    rw [hc] at h
    obtain ⟨σ'', rfl, _⟩ := h
    exact ⟨fun te σ' he => by cases he; exact .inl (hok.err x hc), fun _ ho => by cases ho⟩

/-- If the spec's check passes the covered statement `s` against the stored
    lines of `σ` and the variables of `σ` are well-typed, then one activation of
    the statement EVALUATOR on `renderS s` (from a `C03.SReady` state) does not
    fail with TYPE MISMATCH, nor with a syntax error, nor with UNDEF'D STATEMENT
    (the analyzer checks GOTO targets): the only failure left is the
    value-dependent DIVISION BY ZERO; and a successful activation leaves the
    variables well-typed. -/
theorem sound_stmt (s : RStmt F) (n : Nat) (σ : St F) (pre rest : List (Token F))
    (h : C03.SReady σ pre s rest n) (hNE : NoElseLine σ) (hwt : WellTyped σ)
    (hty : typeOfS s σ.lines.has = .ok ()) :
    (∀ te σ', stmtBody (evalN n) σ = .err te σ' →
      te.err ≠ .typeMismatch ∧ (∀ se, te.err ≠ .syntax se) ∧ te.err ≠ .undefinedStatement ∧
      te.err = .divisionByZero) ∧
    (∀ σ', stmtBody (evalN n) σ = .ok () σ' → WellTyped σ') := by
  have hok := exec_typed σ.lines.has σ.vars hwt s hty
  obtain ⟨h1, h2⟩ := refines_sound (C03.stmt_refines s n σ pre rest h hNE) hok
  refine ⟨fun te σ' he => ?_, h2⟩
  rcases h1 te σ' he with hd | ⟨_, m, hm, hh⟩
  · rw [hd]
    exact ⟨by simp, fun se => by simp, by simp, rfl⟩
  · rw [hok.jump m hm] at hh; cases hh

/-- The same when the check was made against ANOTHER line table `le` (the
    analyzer's program differs from the interpreter's): UNDEF'D STATEMENT comes
    back as a possible failure, TYPE MISMATCH and syntax errors do not. -/
theorem sound_stmt_other_lines (s : RStmt F) (le : Nat → Bool) (n : Nat) (σ : St F) (pre rest : List (Token F))
    (h : C03.SReady σ pre s rest n) (hNE : NoElseLine σ) (hwt : WellTyped σ)
    (hty : typeOfS s le = .ok ()) :
    (∀ te σ', stmtBody (evalN n) σ = .err te σ' →
      te.err ≠ .typeMismatch ∧ (∀ se, te.err ≠ .syntax se) ∧
      (te.err = .divisionByZero ∨ te.err = .undefinedStatement)) ∧
    (∀ σ', stmtBody (evalN n) σ = .ok () σ' → WellTyped σ') := by
  have hok := exec_typed le σ.vars hwt s hty
  obtain ⟨h1, h2⟩ := refines_sound (C03.stmt_refines s n σ pre rest h hNE) hok
  refine ⟨fun te σ' he => ?_, h2⟩
  rcases h1 te σ' he with hd | ⟨hu, _⟩
  · rw [hd]
    exact ⟨by simp, fun se => by simp, .inl rfl⟩
  · rw [hu]
    exact ⟨by simp, fun se => by simp, .inr rfl⟩

/-- C06 for statements.  If the ANALYZER accepts the rendering of the covered
    statement `s` (run from any state `σa` standing on it, on a numbered line),
    then the EVALUATOR run on the same tokens — from any `SReady` state `σ` with
    the same stored line numbers and well-typed variables — does not fail with
    TYPE MISMATCH, a syntax error or UNDEF'D STATEMENT; it can only fail with
    DIVISION BY ZERO; and it keeps the variables well-typed. -/
theorem sound_stmt_analyzer (s : RStmt F)
    (na ln : Nat) (σa σa' : St F) (prea resta : List (Token F))
    (ha : ASReady σa ln prea s resta na) (hacc : aStmtBody (aEvalN na) σa = .ok () σa')
    (n : Nat) (σ : St F) (pre rest : List (Token F))
    (hr : C03.SReady σ pre s rest n) (hNE : NoElseLine σ) (hwt : WellTyped σ)
    (hlines : σ.lines.has = σa.lines.has) :
    (∀ te σ', stmtBody (evalN n) σ = .err te σ' →
      te.err ≠ .typeMismatch ∧ (∀ se, te.err ≠ .syntax se) ∧ te.err ≠ .undefinedStatement ∧
      te.err = .divisionByZero) ∧
    (∀ σ', stmtBody (evalN n) σ = .ok () σ' → WellTyped σ') := by
  have hty := (analyzer_accepts_stmt_iff s na ln σa prea resta ha).1 ⟨σa', hacc⟩
  rw [← hlines] at hty
  exact sound_stmt s n σ pre rest hr hNE hwt hty

theorem sound_stmt_same (s : RStmt F) (n ln : Nat) (σ σa' : St F) (pre rest : List (Token F))
    (hr : C03.SReady σ pre s rest n) (hl : σ.loc.line = some ln) (hNE : NoElseLine σ) (hwt : WellTyped σ)
    (hacc : aStmtBody (aEvalN n) σ = .ok () σa') :
    (∀ te σ', stmtBody (evalN n) σ = .err te σ' →
      te.err ≠ .typeMismatch ∧ (∀ se, te.err ≠ .syntax se) ∧ te.err ≠ .undefinedStatement ∧
      te.err = .divisionByZero) ∧
    (∀ σ', stmtBody (evalN n) σ = .ok () σ' → WellTyped σ') :=
  sound_stmt_analyzer s n ln σ σa' pre rest ⟨hl, hr.toks, hr.idx, hr.nesting, hr.fuel, hr.covered, hr.ends⟩
    hacc n σ pre rest hr hNE hwt rfl

/-- Completeness for statements that are not an IF.  If the spec's check (hence,
    by `analyze_stmt`, the analyzer) rejects a LET / PRINT / GOTO with `x`, the
    evaluator fails on the same tokens: with `x`, unless a DIVISION BY ZERO comes
    first.  (For IF this is false: `analyzer_rejects_evaluator_runs` below.) -/
theorem complete_simple (s : RStmt F) (hs : s.simple = true) (n : Nat) (σ : St F) (pre rest : List (Token F))
    (h : C03.SReady σ pre s rest n) (hNE : NoElseLine σ) (hwt : WellTyped σ) (x : Err)
    (hty : typeOfS s σ.lines.has = .error x) :
    ∃ σ', (stmtBody (evalN n) σ = .err { err := x } σ' ∨
           stmtBody (evalN n) σ = .err { err := .divisionByZero } σ') ∧ σ'.nesting = σ.nesting := by
  have hR := C03.stmt_refines s n σ pre rest h hNE
  unfold Refines at hR
  have hA := stepAs_simple σ.lines.has σ.vars hwt s hs
  rw [hty] at hA
  rcases hA with hc | hc | ⟨_, m, hc, hm⟩
  · rw [hc] at hR
    obtain ⟨σ', hσ', hn⟩ := hR
    exact ⟨σ', .inl hσ', hn⟩
  · rw [hc] at hR
    obtain ⟨σ', hσ', hn⟩ := hR
    exact ⟨σ', .inr hσ', hn⟩
  · subst x
    rw [hc] at hR
    obtain ⟨σ', hσ', hn⟩ := hR.2 hm
    exact ⟨σ', .inl hσ', hn⟩

/-! ### non-vacuity -/

theorem asready_line (s : RStmt F) (ln : Nat) (rest : List (Token F)) (vars : List (Str × Value F)) (n : Nat)
    (hd : sdepth s ≤ Extracted.nestingLimit) (hn : sdepth s ≤ n) (hcov : s.Covered) (hrest : EndFor s rest) :
    ASReady (lineState ln ([] ++ renderS s ++ rest) vars) ln [] s rest n where
  line := rfl
  toks := tokens_lineState _ _ _
  idx := rfl
  nesting := by show 0 + sdepth s ≤ _; omega
  fuel := hn
  covered := hcov
  ends := hrest

theorem sready_line (s : RStmt F) (ln : Nat) (rest : List (Token F)) (vars : List (Str × Value F)) (n : Nat)
    (hd : sdepth s ≤ Extracted.nestingLimit) (hn : sdepth s ≤ n) (hcov : s.Covered) (hrest : EndFor s rest) :
    C03.SReady (lineState ln ([] ++ renderS s ++ rest) vars) [] s rest n where
  toks := tokens_lineState _ _ _
  idx := rfl
  stack := rfl
  warnings := rfl
  tracing := rfl
  nesting := by show 0 + sdepth s ≤ _; omega
  fuel := hn
  covered := hcov
  ends := hrest

omit [NumOps F] in
theorem noElseLine_lineState (ln : Nat) (ts : List (Token F)) (vars : List (Str × Value F))
    (h : ∀ t, ts.head? = some t → t.isKw .Else = false) : NoElseLine (lineState ln ts vars) := by
  intro m ts' hg
  simp only [lineState, Lines.get, Lines.getMap] at hg
  split at hg
  · simp only [Option.some.injEq] at hg; subst hg; exact h
  · cases hg

omit [NumOps F] in
theorem lineState_has (ln : Nat) (ts : List (Token F)) (vars : List (Str × Value F)) (m : Nat) :
    (lineState ln ts vars).lines.has m = (ln == m) := by
  simp only [lineState, Lines.has, Lines.get, Lines.getMap]
  cases ln == m <;> rfl

/-- C03's demo statement: `IF "A" THEN PRINT "X"; ELSE LET A$ = "B"` -/
theorem demoStmt_typed (le : Nat → Bool) : typeOfS (C03.demoStmt : RStmt F) le = .ok () := by
  simp [C03.demoStmt, typeOfS, typeOfItems, typeOf, VT.ofName, endsWithDollar]

/-- on line 10 holding it the analyzer ends behind the ELSE branch (token 11) and logs
    the write of `A$` at token 8; the evaluator, from that same state, succeeds -/
example (vars : List (Str × Value F))
    (hwt : WellTyped (lineState 10 ([] ++ renderS (C03.demoStmt : RStmt F) ++ []) vars)) :
    (∃ r, aStmtBody (aEvalN defaultFuel) (lineState 10 ([] ++ renderS (C03.demoStmt : RStmt F) ++ []) vars) =
      .ok () { (lineState 10 ([] ++ renderS (C03.demoStmt : RStmt F) ++ []) vars) with
               loc := { line := some 10, idx := 11 }, reads := r,
               accesses := [(['A', '$'], 10, 8, .write)] }) ∧
    (∃ σ', stmtBody (evalN defaultFuel) (lineState 10 ([] ++ renderS (C03.demoStmt : RStmt F) ++ []) vars) =
      .ok () σ' ∧ WellTyped σ') := by
  have hd : sdepth (C03.demoStmt : RStmt F) = 2 := by
    simp [C03.demoStmt, sdepth, itemsDepth, depth]
  have hcov : (C03.demoStmt : RStmt F).Covered := by
    simp [C03.demoStmt, RStmt.Covered, RStmt.simple, separated]
  have hend : EndFor (C03.demoStmt : RStmt F) [] := Or.inl (by intro t ht; cases ht)
  have hA := asready_line (C03.demoStmt : RStmt F) 10 [] vars defaultFuel
    (by rw [hd]; decide) (by rw [hd]; unfold defaultFuel; omega) hcov hend
  have hS := sready_line (C03.demoStmt : RStmt F) 10 [] vars defaultFuel
    (by rw [hd]; decide) (by rw [hd]; unfold defaultFuel; omega) hcov hend
  constructor
  · obtain ⟨r, _, hr⟩ := (analyze_stmt _ _ _ _ _ _ hA).1 (demoStmt_typed _)
    refine ⟨r, ?_⟩
    rw [hr]
    have hacc : accsS 10 0 (C03.demoStmt : RStmt F) = [(['A', '$'], 10, 8, Access.write)] := by
      simp [C03.demoStmt, accsS, accsItems, accs, renderS, renderItems, PItem.render, render_str]
    simp [C03.demoStmt_render, lineState, hacc]
  · have hNE : NoElseLine (lineState 10 ([] ++ renderS (C03.demoStmt : RStmt F) ++ []) vars) :=
      noElseLine_lineState _ _ _ (fun t ht => by
        simp only [C03.demoStmt_render, List.nil_append, List.append_nil, List.head?_cons,
          Option.some.injEq] at ht
        subst ht; rfl)
    obtain ⟨h1, h2⟩ := sound_stmt _ _ _ _ _ hS hNE hwt (demoStmt_typed _)
    cases hrun : stmtBody (evalN defaultFuel) (lineState 10 ([] ++ renderS (C03.demoStmt : RStmt F) ++ []) vars) with
    | ok u σ' => exact ⟨σ', rfl, h2 σ' hrun⟩
    | err te σ' =>
      -- the condition `"A"` and both branches are division-free: no error is possible
      have hR := C03.stmt_refines _ _ _ _ _ hS hNE
      have hex : (RStmt.exec vars (C03.demoStmt : RStmt F)).ctl = .skipLine := by
        simp [C03.demoStmt, RStmt.exec, foldE, Value.toBool, printText, valueText, RResult.closeLine]
      have hv : (lineState 10 ([] ++ renderS (C03.demoStmt : RStmt F) ++ []) vars).vars = vars := rfl
      rw [hv] at hR
      unfold Refines at hR
      rw [hex] at hR
      obtain ⟨k, _, hk⟩ := hR
      rw [hk] at hrun
      cases hrun

/-! ### where analyzer and evaluator differ on the covered fragment

  `sound_stmt` is the direction C06 asks for: accepted ⇒ no type / syntax
  failure (and no UNDEF'D STATEMENT).  The CONVERSE fails on the covered
  fragment, for a structural reason that is visible in `typeOfS` / `aIf`: the
  analyzer walks BOTH branches of an IF, the evaluator runs ONE.  An error in
  the branch that is not taken — a TYPE MISMATCH, or a GOTO to a line that does
  not exist — is reported by the analyzer and never met by the evaluator. -/

/-- `IF "A" THEN END ELSE LET A = "X"` -/
def deadMismatch : RStmt F := .ifS (.str ['A']) .endS (some (.letS ['A'] (.str ['X'])))

/-- `IF "A" THEN END ELSE GOTO 99` -/
def deadGoto : RStmt F := .ifS (.str ['A']) .endS (some (.gotoS 99))

theorem deadMismatch_render : renderS (deadMismatch : RStmt F) =
    [.kw .If, .str ['A'], .kw .Then, .kw .End, .kw .Else, .kw .Let, .symbol ['A'], .kw .Equals, .str ['X']] := by
  simp [deadMismatch, renderS, render_str]

/-- The analyzer rejects a statement the evaluator runs (spec level): the
    reference step is END's `stop` in both cases — the condition `"A"` is true
    and the ELSE branch is never executed. -/
theorem analyzer_rejects_dead_branch (vars : List (Str × Value F)) (le : Nat → Bool) (h99 : le 99 = false) :
    typeOfS (deadMismatch : RStmt F) le = .error .typeMismatch ∧
    (RStmt.exec vars (deadMismatch : RStmt F)).ctl = .stop ∧
    typeOfS (deadGoto : RStmt F) le = .error .undefinedStatement ∧
    (RStmt.exec vars (deadGoto : RStmt F)).ctl = .stop := by
  refine ⟨?_, ?_, ?_, ?_⟩
  · simp [deadMismatch, typeOfS, typeOf, VT.ofName, endsWithDollar]
  · simp [deadMismatch, RStmt.exec, foldE, Value.toBool, RResult.closeLine]
  · simp [deadGoto, typeOfS, typeOf, h99]
  · simp [deadGoto, RStmt.exec, foldE, Value.toBool, RResult.closeLine]

/-- The same on the real functions, from one and the same state (line 10 holding
    `IF "A" THEN END ELSE LET A = "X"`): the statement ANALYZER fails with TYPE
    MISMATCH, the statement EVALUATOR succeeds (it executes END).  So "the
    evaluator runs without a type error ⇒ the analyzer is silent" does not hold
    for IF; only the direction `sound_stmt` does. -/
theorem analyzer_rejects_evaluator_runs (vars : List (Str × Value F)) :
    C02.outcome (aStmtBody (aEvalN defaultFuel)
      (lineState 10 ([] ++ renderS (deadMismatch : RStmt F) ++ []) vars)) = .error { err := .typeMismatch } ∧
    ∃ σ', stmtBody (evalN defaultFuel)
      (lineState 10 ([] ++ renderS (deadMismatch : RStmt F) ++ []) vars) = .ok () σ' := by
  have hd : sdepth (deadMismatch : RStmt F) = 2 := by
    simp [deadMismatch, sdepth, depth]
  have hcov : (deadMismatch : RStmt F).Covered := by
    simp [deadMismatch, RStmt.Covered, RStmt.simple]
  have hend : EndFor (deadMismatch : RStmt F) [] := Or.inl (by intro t ht; cases ht)
  have hA := asready_line (deadMismatch : RStmt F) 10 [] vars defaultFuel
    (by rw [hd]; decide) (by rw [hd]; unfold defaultFuel; omega) hcov hend
  have hS := sready_line (deadMismatch : RStmt F) 10 [] vars defaultFuel
    (by rw [hd]; decide) (by rw [hd]; unfold defaultFuel; omega) hcov hend
  constructor
  · rw [analyze_stmt_outcome _ _ _ _ _ _ hA, (analyzer_rejects_dead_branch vars _ (by
      rw [lineState_has]; decide)).1]
  · have hNE : NoElseLine (lineState 10 ([] ++ renderS (deadMismatch : RStmt F) ++ []) vars) :=
      noElseLine_lineState _ _ _ (fun t ht => by
        simp only [deadMismatch_render, List.nil_append, List.append_nil, List.head?_cons,
          Option.some.injEq] at ht
        subst ht; rfl)
    have hR := C03.stmt_refines _ _ _ _ _ hS hNE
    have hv : (lineState 10 ([] ++ renderS (deadMismatch : RStmt F) ++ []) vars).vars = vars := rfl
    rw [hv] at hR
    unfold Refines at hR
    rw [(analyzer_rejects_dead_branch vars (fun _ => false) rfl).2.1] at hR
    obtain ⟨k, _, hk⟩ := hR
    exact ⟨_, hk⟩

end Abasic.Props.C06
