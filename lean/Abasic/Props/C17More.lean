import Abasic.Proofs.TranspLift
import Abasic.Props.C01More
/-
  C17 (continued) — `flags_transparent`: the warning and tracing flags never
  change what a program does.

  `erase σ` forgets the two flags and the Warning / Trace records of the output
  queue.  Every host call, from erase-equal states, has the same outcome (Ok, or
  the same error with the same location) and ends in erase-equal states; hence
  so does every session.  `Comm` (Proofs/Transp.lean) holds of the whole evaluator
  because `erase` is a lawful normaliser (Proofs/CommuteLift.lean, TranspLift.lean);
  TRACE / NOTRACE are handled at the `Sim` level.
-/
namespace Abasic.Props.C17
open Abasic Abasic.Hoare Abasic.Props.C01

variable {F : Type} [NumOps F]

theorem eval_transparent (n : Nat) : Comm (evalN (F := F) n).expr ∧ Comm (evalN (F := F) n).stmt :=
  comm_evalN n

theorem call_transparent (fuel : Nat) (c : Call) : Sim (c.run (F := F) fuel) :=
  sim_iff_simBy.2 (simBy_call eraseN rfl fuel c)

/-- the outcome of a call as the host sees it: `none` = Ok, `some e` = the error -/
def outcome {α : Type} : Res F α → Option TErr
  | .ok _ _ => none
  | .err e _ => some e

theorem flags_transparent_call (fuel : Nat) (c : Call) (σ₁ σ₂ : St F) (h : erase σ₁ = erase σ₂) :
    outcome (c.run fuel σ₁) = outcome (c.run fuel σ₂) ∧
    erase (applyCall fuel c σ₁) = erase (applyCall fuel c σ₂) :=
  call_obs eraseN rfl fuel c h outcome (fun _ _ _ => rfl) (fun _ _ _ => rfl)

def outcomes (fuel : Nat) : List Call → St F → List (Option TErr)
  | [], _ => []
  | c :: cs, σ => outcome (c.run fuel σ) :: outcomes fuel cs (applyCall fuel c σ)

/-- **flags_transparent.**  Two sessions that start from erase-equal states
    (same program, variables, …; possibly different flags and different
    Warning / Trace records in the queue) and receive the same calls see the same
    outcome of every call and end in erase-equal states: same program state,
    same output apart from Warning / Trace records. -/
theorem flags_transparent (fuel : Nat) (cs : List Call) (σ₁ σ₂ : St F) (h : erase σ₁ = erase σ₂) :
    outcomes fuel cs σ₁ = outcomes fuel cs σ₂ ∧
    erase (applyCalls fuel cs σ₁) = erase (applyCalls fuel cs σ₂) := by
  induction cs generalizing σ₁ σ₂ with
  | nil => exact ⟨rfl, h⟩
  | cons c cs ih =>
    obtain ⟨ho, hs⟩ := flags_transparent_call fuel c σ₁ σ₂ h
    obtain ⟨ho', hs'⟩ := ih _ _ hs
    exact ⟨by rw [outcomes, outcomes, ho, ho'], hs'⟩

/-- In particular: a session started with any setting of the two flags, compared
    with the same session started with both flags off. -/
theorem flags_transparent_init (fuel : Nat) (cs : List Call) (w t : Bool) :
    let σ₁ := applyCalls (F := F) fuel cs { warnings := w, tracing := t }
    let σ₂ := applyCalls (F := F) fuel cs {}
    outcomes (F := F) fuel cs { warnings := w, tracing := t } = outcomes (F := F) fuel cs {} ∧
    σ₁.out.filter keepOut = σ₂.out.filter keepOut ∧
    σ₁.vars = σ₂.vars ∧ σ₁.arrays = σ₂.arrays ∧ σ₁.state = σ₂.state ∧ σ₁.loc = σ₂.loc ∧
    σ₁.stack = σ₂.stack ∧ σ₁.loops = σ₂.loops ∧ σ₁.rng = σ₂.rng ∧ σ₁.lines = σ₂.lines := by
  intro σ₁ σ₂
  obtain ⟨ho, hs⟩ := flags_transparent (F := F) fuel cs { warnings := w, tracing := t } {} rfl
  refine ⟨ho, ?_, ?_, ?_, ?_, ?_, ?_, ?_, ?_, ?_⟩
  · exact (congrArg St.out hs : (erase σ₁).out = (erase σ₂).out)
  · exact (congrArg St.vars hs : (erase σ₁).vars = (erase σ₂).vars)
  · exact (congrArg St.arrays hs : (erase σ₁).arrays = (erase σ₂).arrays)
  · exact (congrArg St.state hs : (erase σ₁).state = (erase σ₂).state)
  · exact (congrArg St.loc hs : (erase σ₁).loc = (erase σ₂).loc)
  · exact (congrArg St.stack hs : (erase σ₁).stack = (erase σ₂).stack)
  · exact (congrArg St.loops hs : (erase σ₁).loops = (erase σ₂).loops)
  · exact (congrArg St.rng hs : (erase σ₁).rng = (erase σ₂).rng)
  · exact (congrArg St.lines hs : (erase σ₁).lines = (erase σ₂).lines)

/-- Non-vacuity: erasure drops exactly the Warning / Trace records and the flags. -/
example : (erase (F := Unit) { warnings := true, tracing := true,
                               out := [.warning [] none, .print [], .trace 3, .brk none] }).out = [.print [], .brk none] ∧
          (erase (F := Unit) { warnings := true, tracing := true }).warnings = false := ⟨rfl, rfl⟩

end Abasic.Props.C17
