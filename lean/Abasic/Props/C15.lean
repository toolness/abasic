import Abasic.Front
import Abasic.Props.C05
import Abasic.Props.C11
/-
  C15 — loading a file equals typing it in, and CLI options apply in both modes.

  Proved here: `lineEdit` / `typedEdit` (defined in C05.lean, where the analyzer's line
  pass is specified by them) are the program edit a line denotes in file
  mode / when typed (they differ only on a bare line number: typed, `10` DELETES line
  10; in a file it is reported and changes nothing, `lineEdit_eq`); for EVERY list of
  lines the analyzer's program store after the line pass is the fold of the
  `lineEdit`s (`load_store_general`), for a file of numbered, non-empty, tokenizable
  lines (`GoodFile`; with empty lines `FileLines`) that is the fold of `set` over its
  lines, which is what entering the lines one by one produces (`typed_store`); the
  interpreter built from the file has every piece of runtime state at its initial
  value; and in BOTH modes the interpreter that executes RUN carries exactly the
  command-line flags (the defect repaired by 0b6911f).
  Process-level I/O (rustyline, buffering, exit codes) is exercised by the
  correspondence slice on the real binary, not modelled.
-/
namespace Abasic.Props.C15
open Abasic

variable {F : Type} [NumOps F]

def fileEdits (F : Type) [NumOps F] (lines : List Str) : List (Nat × List (Token F)) :=
  lines.filterMap (lineEdit F)

def applyEdit (e : Option (Nat × List (Token F))) (L : Lines F) : Lines F :=
  match e with
  | none => L
  | some (n, ts) => L.set n ts

def applyEdits (es : List (Nat × List (Token F))) (L : Lines F) : Lines F :=
  es.foldl (fun l e => l.set e.1 e.2) L

theorem lineEdit_eq (line : Str) :
    lineEdit F line = (typedEdit F line).filter fun e => !e.2.isEmpty := by
  unfold lineEdit
  cases typedEdit F line with
  | none => rfl
  | some e =>
    obtain ⟨n, ts⟩ := e
    cases h : ts.isEmpty <;> simp [Option.filter, h]

theorem parseLineNumber_nil : parseLineNumber [] = none := rfl

/-- The lines file mode skips are exactly: lines without a line number (empty lines
    among them), numbered lines that do not tokenize, numbered lines without statements. -/
theorem lineEdit_eq_none_iff (line : Str) :
    lineEdit F line = none ↔
      parseLineNumber line = none ∨
      ∃ n k, parseLineNumber line = some (n, k) ∧
        ((∃ rts e, tokenizeRanges (F := F) line k = (rts, some e)) ∨ tokenizeRanges (F := F) line k = ([], none)) := by
  unfold lineEdit typedEdit
  cases hp : parseLineNumber line with
  | none => simp
  | some p =>
    obtain ⟨n, k⟩ := p
    cases ht : tokenizeRanges (F := F) line k with
    | mk rts err =>
      cases err with
      | some e =>
        simp [ht]
        exact ⟨n, k, ⟨rfl, rfl⟩, .inl ⟨rts, e, ht⟩⟩
      | none =>
        cases rts with
        | nil =>
          simp [ht]
          exact ⟨n, k, ⟨rfl, rfl⟩, .inr ht⟩
        | cons r rts => simp [ht]

/-- a file line that is numbered, non-empty and tokenizable to at least one token -/
def GoodLine (F : Type) [NumOps F] (line : Str) (n : Nat) (ts : List (Token F)) : Prop :=
  line ≠ [] ∧ ∃ k rts, parseLineNumber line = some (n, k) ∧ tokenizeRanges (F := F) line k = (rts, none) ∧
    rts.map (·.1) = ts ∧ ts ≠ []

theorem GoodLine.edits {line : Str} {n : Nat} {ts : List (Token F)} (h : GoodLine F line n ts) :
    typedEdit F line = some (n, ts) ∧ lineEdit F line = some (n, ts) := by
  obtain ⟨_, k, rts, hp, ht, hm, hts⟩ := h
  have h1 : typedEdit F line = some (n, ts) := by simp only [typedEdit, hp, ht, hm]
  refine ⟨h1, ?_⟩
  have : ts.isEmpty = false := by cases ts with
    | nil => exact absurd rfl hts
    | cons _ _ => rfl
  simp only [lineEdit, h1, this, Bool.false_eq_true, if_false]

/-- a whole file of good lines, with the (number, tokens) each line denotes -/
inductive GoodFile (F : Type) [NumOps F] : List Str → List (Nat × List (Token F)) → Prop
  | nil : GoodFile F [] []
  | cons {line n ts lines edits} : GoodLine F line n ts → GoodFile F lines edits →
      GoodFile F (line :: lines) ((n, ts) :: edits)

/-- a file whose lines are good lines or empty (as the last "line" of any file that
    ends in a newline is) -/
inductive FileLines (F : Type) [NumOps F] : List Str → List (Nat × List (Token F)) → Prop
  | nil : FileLines F [] []
  | good {line n ts lines edits} : GoodLine F line n ts → FileLines F lines edits →
      FileLines F (line :: lines) ((n, ts) :: edits)
  | blank {lines edits} : FileLines F lines edits → FileLines F ([] :: lines) edits

theorem GoodFile.fileLines {lines : List Str} {edits : List (Nat × List (Token F))}
    (h : GoodFile F lines edits) : FileLines F lines edits := by
  induction h with
  | nil => exact .nil
  | cons hl _ ih => exact .good hl ih

theorem FileLines.fileEdits {lines : List Str} {edits : List (Nat × List (Token F))}
    (h : FileLines F lines edits) : fileEdits F lines = edits := by
  induction h with
  | nil => rfl
  | good hl _ ih =>
    simp only [C15.fileEdits, List.filterMap_cons, hl.edits.2]
    exact congrArg _ ih
  | blank _ ih =>
    have : lineEdit F [] = none := rfl
    simp only [C15.fileEdits, List.filterMap_cons, this]
    exact ih

theorem analyzeLine_store_general (a : Analysis F) (i : Nat) (line : Str) :
    (analyzeLine a i line).st.lines = applyEdit (lineEdit F line) a.st.lines := by
  rw [C05.analyzeLine_eq]
  cases lineEdit F line <;> rfl

/-- For EVERY list of lines — whatever they contain — the
    program store after the analyzer's line pass is the fold of the edits of the
    numbered, tokenizable, non-empty lines (generalises `load_store`, `load_store_fileLines`). -/
theorem load_store_general (lines : List Str) (a : Analysis F) (i : Nat) :
    (analyzeLines a i lines).st.lines = applyEdits (fileEdits F lines) a.st.lines := by
  induction lines generalizing a i with
  | nil => rfl
  | cons l ls ih =>
    simp only [analyzeLines, ih, analyzeLine_store_general, fileEdits, List.filterMap_cons]
    cases lineEdit F l with
    | none => rfl
    | some e => rfl

theorem analyzeLine_store (a : Analysis F) (i : Nat) (line : Str) (n : Nat) (ts : List (Token F))
    (h : GoodLine F line n ts) :
    (analyzeLine a i line).st.lines = a.st.lines.set n ts := by
  rw [analyzeLine_store_general, h.edits.2]; rfl

theorem load_store_fileLines (lines : List Str) (edits : List (Nat × List (Token F)))
    (h : FileLines F lines edits) (a : Analysis F) (i : Nat) :
    (analyzeLines a i lines).st.lines = edits.foldl (fun l e => l.set e.1 e.2) a.st.lines := by
  rw [load_store_general, h.fileEdits]; rfl

/-- Loading = typing, at the level of the program store: the analyzer's store
    after the line pass is the fold of `set` over the file's lines — which is
    what line-by-line entry produces (`typed_store`), whatever the order and
    duplicates. -/
theorem load_store (lines : List Str) (edits : List (Nat × List (Token F))) (h : GoodFile F lines edits)
    (a : Analysis F) (i : Nat) :
    (analyzeLines a i lines).st.lines = edits.foldl (fun l e => l.set e.1 e.2) a.st.lines :=
  load_store_fileLines lines edits h.fileLines a i

theorem load_store_of_general (lines : List Str) (edits : List (Nat × List (Token F))) (h : GoodFile F lines edits)
    (a : Analysis F) (i : Nat) :
    (analyzeLines a i lines).st.lines = edits.foldl (fun l e => l.set e.1 e.2) a.st.lines :=
  load_store lines edits h a i

/-- A numbered line that tokenizes, typed at an idle prompt, is stored under its number and nothing
    else happens (`hcmd` holds of every numbered line: `numbered_not_command`). -/
theorem typed_numbered (fuel : Nat) (line : Str) (σ : St F) (n k : Nat) (rts : List (RangedToken F))
    (hp : parseLineNumber line = some (n, k)) (ht : tokenizeRanges (F := F) line k = (rts, none))
    (hidle : σ.state = .idle) (hcmd : (commandWord line).bind Command.ofWord = none) :
    startEvaluating fuel line σ = .ok () ((σ.setImmediate []).setNumberedLine n (rts.map (·.1))) :=
  C11.edit_result fuel line σ n k _ hidle hcmd hp (by simp [tokenize, ht])

/-- Entering the same line at the prompt stores it the same way. -/
theorem typed_store (fuel : Nat) (line : Str) (σ : St F) (n : Nat) (ts : List (Token F))
    (h : GoodLine F line n ts) (hidle : σ.state = .idle)
    (hcmd : (commandWord line).bind Command.ofWord = none) :
    ∃ σ', startEvaluating fuel line σ = .ok () σ' ∧ σ'.lines = σ.lines.set n ts ∧ σ'.state = .idle := by
  obtain ⟨_, k, rts, hp, ht, rfl, _⟩ := h
  exact ⟨_, typed_numbered fuel line σ n k rts hp ht hidle hcmd, rfl, hidle⟩

omit [NumOps F] in
/-- The interpreter built from a file starts with all runtime state at its initial value. -/
theorem loaded_is_fresh (a : Analysis F) :
    let s := a.intoInterpreter
    s.vars = [] ∧ s.arrays = [] ∧ s.stack = [] ∧ s.loops = [] ∧ s.fns = [] ∧ s.data = none ∧ s.bp = none ∧
    s.input = none ∧ s.state = .idle ∧ s.loc = {} ∧ s.imm = [] ∧ s.out = [] := by
  simp [Analysis.intoInterpreter]

/-- The flags of the interpreter that executes RUN are the command-line options, in file mode … -/
theorem cli_flags_file (fuel : Nat) (w t : Bool) (seed : Nat) (text : Str) :
    (cliLoad (F := F) fuel w t seed text).warnings = w ∧ (cliLoad (F := F) fuel w t seed text).tracing = t ∧
    (cliLoad (F := F) fuel w t seed text).rng = rngNew seed := by
  simp [cliLoad, cliConfigure]

omit [NumOps F] in
/-- … and in interactive mode. -/
theorem cli_flags_interactive (w t : Bool) (seed : Nat) :
    (cliCreate (F := F) w t seed).warnings = w ∧ (cliCreate (F := F) w t seed).tracing = t ∧
    (cliCreate (F := F) w t seed).rng = rngNew seed := by
  simp [cliCreate, cliConfigure]

/-- Entering a numbered line never changes the flags (so they are still the options when RUN comes). -/
theorem typing_keeps_flags (fuel : Nat) (line : Str) (σ : St F) (n : Nat) (ts : List (Token F))
    (h : GoodLine F line n ts) (hidle : σ.state = .idle)
    (hcmd : (commandWord line).bind Command.ofWord = none) :
    ∃ σ', startEvaluating fuel line σ = .ok () σ' ∧ σ'.warnings = σ.warnings ∧ σ'.tracing = σ.tracing ∧ σ'.rng = σ.rng := by
  obtain ⟨_, k, rts, hp, ht, rfl, _⟩ := h
  exact ⟨_, typed_numbered fuel line σ n k rts hp ht hidle hcmd, rfl, rfl, rfl⟩

/-- Non-vacuity: a good line. -/
example : (parseLineNumber "10 END".toList = some (10, 2)) ∧
    ((tokenizeRanges (F := Unit) "10 END".toList 2).1.map (·.1)).length = 1 := by decide

end Abasic.Props.C15
