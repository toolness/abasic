import Abasic.Front
/-
  C20 — the language server survives any document and reports in-bounds positions.

  Proved here about the server's logic (Front.lean, transliterating
  abasic-lsp/src/main.rs), for every line text and every byte offset:
  the byte → UTF-16 column conversion never leaves the line and is monotone (so
  start ≤ end ≤ line length for every range it converts, whatever offsets the
  analyzer hands it); protocol line splitting yields lines without terminators,
  at least one line, and loses no other character; every token type index is
  inside the advertised legend.  `lsp_total` (no panic for any document) is
  C05File.lean (`C05.lsp_total`); delta decoding and diagnostics C20More.lean;
  the server loop C20Server.lean (one document) and C20Multi.lean (several).
-/
namespace Abasic.Props.C20
open Abasic

/-- A converted column never exceeds the line's length in UTF-16 units, for
    ANY byte offset (past the end, inside a character, …). -/
theorem col_in_bounds (line : Str) (off : Nat) : utf16Col line off ≤ utf16Len line := by
  induction line generalizing off with
  | nil => simp [utf16Col, utf16Len]
  | cons c cs ih =>
    cases off with
    | zero => simp [utf16Col]
    | succ n =>
      simp only [utf16Col, utf16Len, List.map_cons, List.sum_cons]
      have := ih (n + 1 - c.utf8Size)
      simp only [utf16Len] at this
      omega

/-- The conversion is monotone: a range with `start ≤ end` in bytes stays ordered in columns. -/
theorem col_monotone (line : Str) (a b : Nat) (h : a ≤ b) : utf16Col line a ≤ utf16Col line b := by
  induction line generalizing a b with
  | nil => simp [utf16Col]
  | cons c cs ih =>
    cases a with
    | zero => simp [utf16Col]
    | succ n =>
      cases b with
      | zero => omega
      | succ m =>
        simp only [utf16Col]
        have := ih (n + 1 - c.utf8Size) (m + 1 - c.utf8Size) (by omega)
        omega

/-- Every range the server converts is inside its line. -/
theorem range_in_line (line : Str) (a b : Nat) (h : a ≤ b) :
    utf16Col line a ≤ utf16Col line b ∧ utf16Col line b ≤ utf16Len line :=
  ⟨col_monotone line a b h, col_in_bounds line b⟩

/-- On a character boundary inside the line the column is the UTF-16 length of the prefix. -/
theorem col_of_prefix (pre suf : Str) : utf16Col (pre ++ suf) (len8 pre) = utf16Len pre := by
  induction pre with
  | nil => cases suf <;> simp [utf16Col, utf16Len, len8]
  | cons c cs ih =>
    have hpos : 0 < c.utf8Size := Char.utf8Size_pos c
    have : c.utf8Size + len8 cs = (c.utf8Size + len8 cs - 1) + 1 := by omega
    simp only [List.cons_append, len8, utf16Len, List.map_cons, List.sum_cons]
    rw [this, utf16Col]
    have h2 : c.utf8Size + len8 cs - 1 + 1 - c.utf8Size = len8 cs := by omega
    rw [h2, ih]
    simp [utf16Len]

/-- Both facts about protocol line splitting, by one induction along the definition: the lines of the
    rest are not empty as a list, so a character that is not a terminator joins the first of them. -/
theorem split_spec (doc : Str) :
    splitDocumentLines doc ≠ [] ∧ ∀ l ∈ splitDocumentLines doc, '\n' ∉ l ∧ '\r' ∉ l := by
  induction doc using splitDocumentLines.induct with
  | case1 => simp [splitDocumentLines]
  | case2 cs ih =>
    rw [splitDocumentLines]
    exact ⟨by simp, fun l hl => (List.mem_cons.mp hl).elim (fun e => by simp [e]) (ih.2 l)⟩
  | case3 c cs hnot hterm ih =>
    rw [splitDocumentLines.eq_3 c cs hnot, if_pos hterm]
    exact ⟨by simp, fun l hl => (List.mem_cons.mp hl).elim (fun e => by simp [e]) (ih.2 l)⟩
  | case4 c cs hnot hterm heq ih => exact absurd heq ih.1
  | case5 c cs hnot hterm l' ls heq ih =>
    rw [splitDocumentLines.eq_3 c cs hnot, if_neg hterm, heq]
    rw [heq] at ih
    simp only [Bool.or_eq_true, beq_iff_eq, not_or] at hterm
    refine ⟨by simp, fun l hl => ?_⟩
    rcases List.mem_cons.mp hl with rfl | hl
    · have := ih.2 l' (List.mem_cons_self ..)
      simp only [List.mem_cons, not_or]
      exact ⟨⟨fun h => hterm.1 h.symm, this.1⟩, ⟨fun h => hterm.2 h.symm, this.2⟩⟩
    · exact ih.2 l (List.mem_cons_of_mem _ hl)

/-- Protocol line splitting: no line contains a terminator … -/
theorem split_no_terminators (doc : Str) : ∀ l ∈ splitDocumentLines doc, '\n' ∉ l ∧ '\r' ∉ l :=
  (split_spec doc).2

/-- … and there is always at least one line (so line 0 exists). -/
theorem split_nonempty (doc : Str) : splitDocumentLines doc ≠ [] :=
  (split_spec doc).1

/-- Token types come from the advertised legend. -/
theorem type_in_legend (tt : TokenType) : Extracted.lspIndex tt < Extracted.lspLegend.length := by
  cases tt <;> decide

/-- A successful `semTokLine` on a non-empty list: its three checks passed, the rest succeeded from
    the new position, and the first token emitted is the delta to that position. -/
theorem semTokLine_cons_some {text : Str} {lineNo : Nat} {tt : TokenType} {a b : Nat}
    {rest : List (TokenType × Nat × Nat)} {pl ps : Nat} {toks : List SemTok} {pl' : Nat}
    (h : semTokLine text lineNo ((tt, a, b) :: rest) pl ps = some (toks, pl')) :
    pl ≤ lineNo ∧ ps ≤ utf16Col text a ∧ utf16Col text a ≤ utf16Col text b ∧
    ∃ toks', semTokLine text lineNo rest lineNo (utf16Col text a) = some (toks', pl') ∧
      toks = { deltaLine := lineNo - pl, deltaStart := utf16Col text a - ps,
               length := utf16Col text b - utf16Col text a, tokenType := Extracted.lspIndex tt } :: toks' := by
  simp only [semTokLine] at h
  split at h
  · cases h
  · rename_i hc
    simp only [Bool.or_eq_true, decide_eq_true_eq, not_or, Nat.not_lt] at hc
    split at h
    · cases h
    · rename_i toks' pl'' hr
      cases h
      exact ⟨hc.1.1, hc.1.2, hc.2, toks', hr, rfl⟩

/-- Every semantic token the encoder emits has a type in the legend and a
    length that fits its line. -/
theorem encoded_token_ok (text : Str) (lineNo : Nat) (lt : List (TokenType × Nat × Nat)) (pl ps : Nat)
    (toks : List SemTok) (pl' : Nat) (h : semTokLine text lineNo lt pl ps = some (toks, pl')) :
    ∀ t ∈ toks, t.tokenType < Extracted.lspLegend.length ∧ t.length ≤ utf16Len text := by
  induction lt generalizing pl ps toks pl' with
  | nil => simp [semTokLine] at h; intro t ht; rw [h.1] at ht; simp at ht
  | cons e rest ih =>
    obtain ⟨tt, a, b⟩ := e
    obtain ⟨_, _, _, toks', hr, rfl⟩ := semTokLine_cons_some h
    intro t ht
    rcases List.mem_cons.mp ht with rfl | ht
    · exact ⟨type_in_legend tt, by have := col_in_bounds text b; simp only; omega⟩
    · exact ih _ _ _ _ hr t ht

/-- Non-vacuity: `é` is one column, `😀` is two; an offset inside `é` rounds up. -/
example : utf16Col "aé😀b".toList 3 = 2 ∧ utf16Col "aé😀b".toList 2 = 2 ∧ utf16Col "aé😀b".toList 7 = 4 ∧
          utf16Len "aé😀b".toList = 5 ∧ splitDocumentLines "a\r\nb\rc\n".toList = [['a'], ['b'], ['c'], []] := by
  decide

end Abasic.Props.C20
