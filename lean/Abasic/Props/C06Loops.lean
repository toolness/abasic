import Abasic.Proofs.Analyzer3
import Abasic.Proofs.Typing2Fold
/-
  C06 for whole programs over the EXTENDED statement set (`RStmt2`,
  Ref/Stmt2.lean): LET, PRINT, GOTO, END, IF/THEN/ELSE as in C06Prog.lean, and
  FOR / NEXT, GOSUB / RETURN, READ / DATA / RESTORE, DIM, `LET a(i…) = e`.

  A program of this fragment that the static analyzer accepts never fails with a
  syntax error, a TYPE MISMATCH or UNDEF'D STATEMENT.  It may fail with the
  value- and history-dependent errors of `RunErr` (DIVISION BY ZERO, NEXT WITHOUT
  FOR, RETURN WITHOUT GOSUB, OUT OF DATA, OUT OF MEMORY (stack or array), BAD
  SUBSCRIPT, REDIM'D ARRAY, ILLEGAL QUANTITY) and, for READ, with DATA TYPE
  MISMATCH (`RunErrD`) — an error kind of its own (`Err.dataTypeMismatch`), distinct
  from `Err.typeMismatch`: the analyzer cannot know which DATA item a READ will
  meet.  READ never produces `Err.typeMismatch` proper (`exec2_typed`, `readAll_errs`).

  The typing judgement `Typed2` / `typeOfS2` is in Proofs/LoopsTyping.lean; whole runs go
  through `C03.run2_refines`.
-/
set_option linter.unusedSectionVars false

namespace Abasic.Props.C06
open Abasic Abasic.Ref Abasic.ExprL Abasic.AnaL Abasic.StmtL Abasic.AnaS Abasic.ProgL Abasic.ProgT Abasic.Prog2L
open Abasic.Stmt2L M Abasic.AInv

variable {F : Type} [NumOps F]

theorem typeAs_num_emb (sig : Sig) (e : Expr F) : typeAs sig .num (emb e) = typeNum e := by
  rw [typeAs, typeNum, typeOf2_emb]
  cases typeOf e with
  | error x => rfl
  | ok t => cases t <;> rfl

theorem adepthArgs_emb : ∀ es : List (Expr F), es ≠ [] → adepthArgs (es.map emb) = argsDepth es
  | [], h => absurd rfl h
  | [e], _ => by
    have h1 : adepthArgs ([] : List (Expr2 F)) = 1 := by rw [adepthArgs, depthArgs]
    simp only [List.map_cons, List.map_nil, adepthArgs_cons, adepth_emb, argsDepth, h1]
    omega
  | e :: e' :: es, _ => by
    have ih := adepthArgs_emb (e' :: es) (by simp)
    simp only [List.map_cons, adepthArgs_cons, adepth_emb, argsDepth] at ih ⊢
    rw [ih]

theorem typeNums_cons (e : Expr F) (rest : List (Expr F)) :
    typeNums (e :: rest) = (match typeNum e with | .error x => .error x | .ok _ => typeNums rest) := rfl

theorem typeIdx_emb (sig : Sig) : ∀ es : List (Expr F), es ≠ [] → typeIdx sig (es.map emb) = typeNums es
  | [], h => absurd rfl h
  | [e], _ => by
    rw [List.map_cons, List.map_nil, typeIdx_cons, typeOf2_emb]
    simp only [typeNums, typeNum]
    cases typeOf e with
    | error x => rfl
    | ok t => cases t <;> rfl
  | e :: e' :: es, _ => by
    have ih := typeIdx_emb sig (e' :: es) (by simp)
    rw [List.map_cons] at ih ⊢
    rw [List.map_cons, typeIdx_cons, typeOf2_emb, typeNums_cons, typeNum]
    cases typeOf e with
    | error x => rfl
    | ok t => cases t <;> first | rfl | exact ih

theorem resolved2L_emb (sig : Sig) : ∀ es : List (Expr F), Resolved2L sig (es.map emb)
  | [] => trivial
  | e :: es => ⟨resolved2_emb sig e, resolved2L_emb sig es⟩

theorem scalars_spec (sig : Sig) : ∀ ts : List Str,
    renderRTargets (F := F) (ts.map .scalar) = renderTargets ts ∧ typeTargets (F := F) sig (ts.map .scalar) = .ok () ∧
    atargetsDepth (F := F) (ts.map .scalar) = 0 ∧ ResolvedTargets2 (F := F) sig (ts.map .scalar)
  | [] => ⟨rfl, rfl, rfl, trivial⟩
  | [t] => ⟨rfl, rfl, rfl, trivial⟩
  | t :: t' :: ts => by
    obtain ⟨h1, h2, h3, h4⟩ := scalars_spec sig (t' :: ts)
    refine ⟨?_, h2, h3, h4⟩
    simp only [List.map_cons, renderRTargets, renderTargets, RTarget.toks] at h1 ⊢
    rw [h1]; rfl

theorem asdepth_embS (s : RStmt2 F) (hb : ∀ b, s ≠ .base b) (hcov : s.Covered) : asdepth (embS s) = sdepth2 s := by
  cases s with
  | base b => exact absurd rfl (hb b)
  | forS v a b c => cases c <;> simp only [embS, Option.map, asdepth, sdepth2, adepth_emb]
  | readS ts => exact (scalars_spec (fun _ => none) ts).2.2.1
  | dimS name dims => exact adepthArgs_emb dims hcov
  | letCellS name idx e => simp only [embS, asdepth, sdepth2, adepth_emb, adepthArgs_emb idx hcov]
  | _ => rfl

theorem resolvedS2_embS (sig : Sig) (s : RStmt2 F) : ResolvedS2 sig (embS s) := by
  cases s with
  | forS v a b c =>
    cases c with
    | none => exact ⟨resolved2_emb sig a, resolved2_emb sig b⟩
    | some c => exact ⟨resolved2_emb sig a, resolved2_emb sig b, resolved2_emb sig c⟩
  | readS ts => exact (scalars_spec sig ts).2.2.2
  | dimS name dims => exact resolved2L_emb sig dims
  | letCellS name idx e => exact ⟨resolved2L_emb sig idx, resolved2_emb sig e⟩
  | _ => trivial

theorem typeOfS3A_embS (sig : Sig) (le : Nat → Bool) (s : RStmt2 F) (hb : ∀ b, s ≠ .base b) (hcov : s.Covered) :
    typeOfS3A le sig (embS s) = typeOfS2 s le := by
  cases s with
  | base b => exact absurd rfl (hb b)
  | forS v a b c =>
    cases c <;> simp only [embS, Option.map, typeOfS3A, typeOfS3, typeOfS2, typeAs_num_emb, typeStep2, typeStep] <;>
      cases typeNum a <;> cases typeNum b <;> rfl
  | readS ts => exact (scalars_spec sig ts).2.1
  | dimS name dims => exact typeIdx_emb sig dims hcov
  | letCellS name idx e =>
    simp only [embS, typeOfS3A, typeOfS3, typeOfS2, typeIdx_emb sig idx hcov, typeAs, typeOf2_emb, eq_comm]
    cases typeNums idx <;> cases typeOf e <;> rfl
  | _ => rfl

/-- outside `base`: `astmt3_run` at `embS s` -/
theorem astmt2_of3 (s : RStmt2 F) (hb : ∀ b, s ≠ .base b) (n ln : Nat) (le : Nat → Bool) (hd : sdepth2 s ≤ n)
    (hcov : s.Covered) (σ : St F) (pre rest : List (Token F))
    (hAt : At σ pre (renderS2 s ++ rest)) (hl : σ.loc.line = some ln) (hle : σ.lines.has = le)
    (hn : σ.nesting + sdepth2 s ≤ Extracted.nestingLimit) (hE : LineEnd rest) :
    AOut (aStmtBody (aEvalN n) σ) (typeOfS2 s le) pre (renderS2 s) rest := by
  rw [← asdepth_embS s hb hcov] at hd hn
  rw [← renderS3_embS s hb] at hAt ⊢
  rw [← typeOfS3A_embS (sigOf σ.fns) le s hb hcov]
  exact (astmt3_run (embS s) n ln le hd (coveredB_embS s hcov).1 (coveredB_embS s hcov).2 _ σ pre rest hAt hl hle rfl
    hn (Or.inl hE) (resolvedS2_embS _ s)).aout

def AStmtOK2 (s : RStmt2 F) (n ln : Nat) (le : Nat → Bool) : Prop :=
  ∀ (σ : St F) (pre rest : List (Token F)),
    At σ pre (renderS2 s ++ rest) → σ.loc.line = some ln → σ.lines.has = le →
    σ.nesting + sdepth2 s ≤ Extracted.nestingLimit → LineEnd rest →
    AOut (aStmtBody (aEvalN n) σ) (typeOfS2 s le) pre (renderS2 s) rest

/-- The analyzer on the rendering of a covered statement of `RStmt2`: it
    succeeds, the cursor right behind the statement, if `typeOfS2` passes, and
    fails with the static error otherwise. -/
theorem astmt2_run (s : RStmt2 F) (n ln : Nat) (le : Nat → Bool) (hd : sdepth2 s ≤ n) (hcov : s.Covered) :
    AStmtOK2 s n ln le := by
  intro σ pre rest hAt hl hle hn hE
  cases s with
  | base s =>
    have hA := astmt_run s n ln le hd hcov σ pre rest hAt hl hle hn (Or.inl hE)
    show AOut _ (typeOfS s le) _ (renderS s) _
    cases hty : typeOfS s le with
    | ok u =>
      rw [hty] at hA
      obtain ⟨r, _, hres⟩ := hA
      exact ⟨_, hres, at_lg (at_mv hAt r) _⟩
    | error x =>
      rw [hty] at hA
      obtain ⟨σ', hσ', _⟩ := hA
      exact ⟨σ', hσ'⟩
  | _ => exact astmt2_of3 _ (fun _ h => by cases h) n ln le hd hcov σ pre rest hAt hl hle hn hE

/-- Let the cursor of `σ` stand on the numbered line `ln`, at the rendering of
    the covered statement `s` followed by the end of the line or a colon, with
    `sdepth2 s` levels of room in the fuel and under the nesting cap.  Then the
    analyzer model reports no error on the statement iff the statement is typed
    (`Typed2`) against the stored lines. -/
theorem analyzer_accepts_iff_typed_ext (s : RStmt2 F) (n ln : Nat) (σ : St F) (pre rest : List (Token F))
    (hAt : At σ pre (renderS2 s ++ rest)) (hl : σ.loc.line = some ln) (hd : sdepth2 s ≤ n)
    (hn : σ.nesting + sdepth2 s ≤ Extracted.nestingLimit) (hcov : s.Covered) (hE : LineEnd rest) :
    (∃ σ', aStmtBody (aEvalN n) σ = .ok () σ') ↔ Typed2 σ.lines.has s := by
  have hA := astmt2_run s n ln σ.lines.has hd hcov σ pre rest hAt hl rfl hn hE
  rw [← typeOfS2_ok_iff]
  cases hty : typeOfS2 s σ.lines.has with
  | ok u =>
    rw [hty] at hA
    obtain ⟨σ', hσ', _⟩ := hA
    exact ⟨fun _ => rfl, fun _ => ⟨σ', hσ'⟩⟩
  | error x =>
    rw [hty] at hA
    obtain ⟨σ', hσ'⟩ := hA
    constructor
    · rintro ⟨σ'', hσ''⟩; rw [hσ'] at hσ''; cases hσ''
    · intro h; cases h

theorem analyzer_rejects_untyped_ext (s : RStmt2 F) (n ln : Nat) (σ : St F) (pre rest : List (Token F))
    (hAt : At σ pre (renderS2 s ++ rest)) (hl : σ.loc.line = some ln) (hd : sdepth2 s ≤ n)
    (hn : σ.nesting + sdepth2 s ≤ Extracted.nestingLimit) (hcov : s.Covered) (hE : LineEnd rest)
    (hty : ¬ Typed2 σ.lines.has s) :
    ∃ x σ', aStmtBody (aEvalN n) σ = .err { err := x } σ' ∧ (x = .typeMismatch ∨ x = .undefinedStatement) := by
  have hA := astmt2_run s n ln σ.lines.has hd hcov σ pre rest hAt hl rfl hn hE
  cases h : typeOfS2 s σ.lines.has with
  | ok u => exact absurd ((typeOfS2_ok_iff _ s).1 h) hty
  | error x =>
    rw [h] at hA
    obtain ⟨σ', hσ'⟩ := hA
    exact ⟨x, σ', hσ', typeOfS2_error _ s x h⟩

/-- On the reference step: a typed statement, run in a state satisfying the
    name-suffix typing invariant `TInv`, keeps the invariant; an error reported
    for its own line is one of `RunErr`, an error reported for another line is
    DATA TYPE MISMATCH (READ), a jump goes to a line that exists. -/
theorem sound_stmt_ext_ref (le : Nat → Bool) (items : List (Nat × DataElement F)) (n j : Nat) {r : RState2 F}
    (hinv : TInv r) (s : RStmt2 F) (hty : Typed2 le s) :
    TInv (s.exec items n j r).1 ∧
    (∀ x, (s.exec items n j r).2 = .error x →
      RunErr x ∧ x ≠ .typeMismatch ∧ (∀ se, x ≠ .syntax se) ∧ x ≠ .undefinedStatement) ∧
    (∀ x k, (s.exec items n j r).2 = .errorAt x k → x = .dataTypeMismatch) ∧
    (∀ m, (s.exec items n j r).2 = .jump m → le m = true) := by
  have h := exec2_typed le items n j hinv s hty
  exact ⟨exec2_tinv items n j hinv s, fun x hx => ⟨h.err x hx, (h.err x hx).not_static⟩, h.errAt, h.jump⟩

/-- On the model: under the hypotheses of `C03.stmt2_refines`
    (`SReady2`: the model state `σ` corresponds to the
    reference state `r`, which satisfies `RInv`; cursor on the covered statement
    `s`), with arrays of the kind their names announce and `s` typed against the
    stored lines, one activation of the statement evaluator fails — if it fails —
    with one of the `RunErrD` errors: never with a syntax error, TYPE MISMATCH or
    UNDEF'D STATEMENT. -/
theorem sound_stmt_ext {p : RProgram2 F} {r : RState2 F} {σ : St F} {n j : Nat} {ss : List (RStmt2 F)}
    {s : RStmt2 F} {fuel : Nat} (h : SReady2 p r σ n j ss s fuel) (hk : ArrKind r.arrays)
    (hty : Typed2 σ.lines.has s) :
    ∀ te σ', stmtBody (evalN fuel) σ = .err te σ' →
      RunErrD te.err ∧ te.err ≠ .typeMismatch ∧ (∀ se, te.err ≠ .syntax se) ∧ te.err ≠ .undefinedStatement := by
  intro te σ' herr
  have hO := C03.stmt2_refines h
  have hok := exec2_typed σ.lines.has (allData p) n j ⟨h.inv, hk⟩ s hty
  have key : RunErrD te.err := by
    cases hctl : (s.exec (allData p) n j r).2 with
    | next =>
      rw [hctl] at hO; obtain ⟨σ1, h1, _⟩ := hO; rw [h1] at herr; cases herr
    | skipLine =>
      rw [hctl] at hO; obtain ⟨σ1, h1, _⟩ := hO; rw [h1] at herr; cases herr
    | jump m =>
      rw [hctl] at hO
      obtain ⟨σ1, h1, _⟩ := hO.1 (hok.jump m hctl)
      rw [h1] at herr; cases herr
    | stop =>
      rw [hctl] at hO; obtain ⟨σ1, h1, _⟩ := hO; rw [h1] at herr; cases herr
    | resume m k =>
      rw [hctl] at hO; obtain ⟨σ1, h1, _⟩ := hO; rw [h1] at herr; cases herr
    | error e =>
      rw [hctl] at hO
      obtain ⟨_, σ1, h1, _⟩ := hO
      rw [h1] at herr
      simp only [Res.err.injEq] at herr
      rw [← herr.1]
      exact .inl (hok.err e hctl)
    | errorAt e ln =>
      rw [hctl] at hO
      obtain ⟨he, σ1, i, h1, _⟩ := hO
      rw [h1] at herr
      simp only [Res.err.injEq] at herr
      rw [← herr.1]
      exact .inr he
  exact ⟨key, key.not_static⟩

/-- Let the program `p` over the extended statement set fit the
    evaluator's resources and the covered fragment (`Fits2`), let the
    interpreter be idle with `p` stored, flags off (`PReady2`), and let `p` pass
    the static check.  Then NO host turn of a run — RUN followed by any number
    `k` of `continueEvaluating` — fails with TYPE MISMATCH, a syntax error or
    UNDEF'D STATEMENT: a failure is one of `RunErrD`.  A run that has not failed
    holds well-typed variables. -/
theorem sound_program_ext {p : RProgram2 F} {fuel : Nat} (hfit : C03.Fits2 p fuel) {σ : St F}
    (h : C03.PReady2 p σ) (hty : typeOfP2 p = .ok ()) (k : Nat) :
    (∀ te σ', C03.runTurns fuel k σ = .err te σ' →
      RunErrD te.err ∧ te.err ≠ .typeMismatch ∧ (∀ se, te.err ≠ .syntax se) ∧
      te.err ≠ .undefinedStatement) ∧
    (∀ σ', C03.runTurns fuel k σ = .ok () σ' → WellTyped σ') := by
  obtain ⟨n, _, _, hm⟩ := C03.run2_refines hfit h k
  obtain ⟨h1, h2⟩ := rsteps2_typed hty n p.start (tinv_start p)
  cases hr : RSteps2 p n p.start with
  | inl r' =>
    rw [hr] at hm
    obtain ⟨σ1, hσ1, hsim⟩ := hm
    refine ⟨fun te σ' he => (by rw [hσ1] at he; cases he), fun σ' ho => ?_⟩
    rw [hσ1] at ho
    simp only [Res.ok.injEq, true_and] at ho
    subst ho
    have hv : σ1.vars = r'.vars := by
      unfold C03.Sim2 at hsim
      cases hpc : r'.pc with
      | none => rw [hpc] at hsim; exact hsim.2.1
      | some nj => rw [hpc] at hsim; exact hsim.1.mem.vars
    show WellTypedVars σ1.vars
    rw [hv]
    exact (h1 r' hr).inv.typed
  | inr eln =>
    obtain ⟨e, ln, out⟩ := eln
    rw [hr] at hm
    obtain ⟨σ1, i, hσ1, _, _⟩ := hm
    refine ⟨fun te σ' he => ?_, fun σ' ho => by rw [hσ1] at ho; cases ho⟩
    rw [hσ1] at he
    simp only [Res.err.injEq] at he
    rw [← he.1]
    exact ⟨h2 e ln out hr, (h2 e ln out hr).not_static⟩

/-- the first static error of each line, in program order -/
def lineErrs2 (le : Nat → Bool) : RProgram2 F → List (Err × Nat)
  | [] => []
  | l :: rest =>
    match typeOfStmts2 le l.1 l.2 with
    | .ok _ => lineErrs2 le rest
    | .error x => x :: lineErrs2 le rest

theorem lineErrs2_nil_iff (le : Nat → Bool) (p : RProgram2 F) :
    lineErrs2 le p = [] ↔ typeOfLines2 le p = .ok () := by
  induction p with
  | nil => simp [lineErrs2, typeOfLines2]
  | cons l rest ih =>
    cases hs : typeOfStmts2 le l.1 l.2 with
    | ok u => simp only [lineErrs2, typeOfLines2, hs, ih]
    | error x => simp [lineErrs2, typeOfLines2, hs]

/-- the extended statement set: the analyzer accumulates nothing -/
@[reducible] def Lang2 : ALang F where
  S := RStmt2 F
  lang := Prog2L.lang
  C := Unit
  Inv _ _ := True
  check le _ s := typeOfS2 s le
  okC c _ := c
  errC _ c _ := c
  Fit fa _ s := s.Covered ∧ sdepth2 s ≤ fa ∧ sdepth2 s ≤ Extracted.nestingLimit
  checks le n _ ss := typeOfStmts2 le n ss
  walkC _ c _ := c
  Fits fa _ ss := ∀ s ∈ ss, s.Covered ∧ sdepth2 s ≤ fa ∧ sdepth2 s ≤ Extracted.nestingLimit
  errs le _ p := lineErrs2 le p
  LinesFit fa _ _ p := ∀ l ∈ p, ∀ s ∈ l.2, s.Covered ∧ sdepth2 s ≤ fa ∧ sdepth2 s ≤ Extracted.nestingLimit
  checks_nil _ _ _ := rfl
  checks_cons _ _ _ _ _ := rfl
  walkC_nil _ _ := rfl
  walkC_cons le _ s _ := by cases typeOfS2 s le <;> rfl
  fits_cons := List.forall_mem_cons.1
  errs_nil _ _ := rfl
  errs_cons _ _ _ _ := rfl
  linesFit_cons := List.forall_mem_cons.1

theorem Lang2.sound : (Lang2 (F := F)).Sound where
  inv_fns _ _ := trivial
  static h := (typeOfS2_error _ _ _ h).imp id .inr
  run {_ _ _ n _ _ _} h hAt hl hn _ hE := by
    have hA := astmt2_run _ _ n _ h.2.1 h.1 _ _ _ hAt hl rfl (by rw [hn]; have := h.2.2; omega) hE
    show match typeOfS2 _ _ with | .ok _ => _ | .error x => _
    cases hty : typeOfS2 _ _ with
    | ok u =>
      rw [hty] at hA
      obtain ⟨σ', hres, hAt'⟩ := hA
      exact ⟨σ', hres, hAt', trivial⟩
    | error x =>
      rw [hty] at hA
      obtain ⟨σ', hσ'⟩ := hA
      exact ⟨σ', hσ', trivial⟩

/-- where the statement pass starts -/
structure AStart2 (p : RProgram2 F) (a : Analysis F) : Prop where
  holds : Holds a.st.lines p
  mapped : C05.LinesMapped a.st.lines a.map
  loc : a.st.loc = { line := p.first, idx := 0 }
  imm : a.st.imm = []
  nesting : a.st.nesting = 0
  accesses : a.st.accesses = []
  panicked : a.panicked = none

/-- The analyzer's statement pass on a stored program of the extended fragment:
    no panic, store and file map untouched, and exactly one error diagnostic per
    line with a static error — the first static error of that line (`lineErrs2`),
    located on it — in program order. -/
theorem analyze_program2 (fuel : Nat) (p : RProgram2 F) (hfit : C03.Fits2 p fuel) (a : Analysis F)
    (h : AStart2 p a) (b : Nat) (hb : p.length < b) :
    ProgOut a (analyzeProgram fuel b a) (lineErrs2 p.hasLine p) :=
  ALang.analyze Lang2.sound fuel p hfit.wf.seq a h.holds.seq h.mapped h.loc h.imm h.nesting h.accesses h.panicked
    () trivial (fun l hl s hs => ⟨hfit.covered l hl s hs, hfit.depth l hl s hs⟩) b hb

theorem analyzer_silent_iff2 (fuel : Nat) (p : RProgram2 F) (hfit : C03.Fits2 p fuel) (a : Analysis F)
    (h : AStart2 p a) (b : Nat) (hb : p.length < b) :
    (analyzeProgram fuel b a).messages = a.messages ↔ typeOfP2 p = .ok () := by
  unfold typeOfP2
  rw [← lineErrs2_nil_iff]
  exact progOut_silent_iff (analyze_program2 fuel p hfit a h b hb)

/-- If the analyzer's statement pass over the stored program `p` of the
    extended fragment reports nothing, no run of `p` fails with a syntax error,
    a TYPE MISMATCH or UNDEF'D STATEMENT. -/
theorem sound_analyzed_program_ext {p : RProgram2 F} {fa fuel : Nat} (hfa : C03.Fits2 p fa)
    (hfit : C03.Fits2 p fuel) (a : Analysis F) (ha : AStart2 p a) (b : Nat) (hb : p.length < b)
    (hsilent : (analyzeProgram fa b a).messages = a.messages)
    {σ : St F} (h : C03.PReady2 p σ) (k : Nat) :
    (∀ te σ', C03.runTurns fuel k σ = .err te σ' →
      RunErrD te.err ∧ te.err ≠ .typeMismatch ∧ (∀ se, te.err ≠ .syntax se) ∧
      te.err ≠ .undefinedStatement) ∧
    (∀ σ', C03.runTurns fuel k σ = .ok () σ' → WellTyped σ') :=
  sound_program_ext hfit h ((analyzer_silent_iff2 fa p hfa a ha b hb).1 hsilent) k

/-- the tokens a file must denote, line by line, to be a text of `p` -/
def editsOf2 (p : RProgram2 F) : List (Nat × List (Token F)) := p.map fun l => (l.1, renderLine2 l.2)

/-- Let the lines of a source file be numbered and tokenize to the lines
    of the covered program `p` over the extended statement set.  If the analysis of the file (`analyzeFile`: all three passes) contains NO
    ERROR diagnostic, then the interpreter the analysis is turned into is ready
    to run `p`, `p` passes the static check, and no run — RUN followed by any
    number of host turns — fails with a syntax error, a TYPE MISMATCH or UNDEF'D
    STATEMENT: a failure is one of `RunErrD`. -/
theorem sound_analyzed_file_ext {p : RProgram2 F} {fa fuel : Nat} (hfa : C03.Fits2 p fa) (hfit : C03.Fits2 p fuel)
    (lines : List Str) (hgood : C15.GoodFile F lines (editsOf2 p))
    (hnoerr : ∀ f e, Diag.error f e ∉ (analyzeFile (F := F) fa lines).messages) (k : Nat) :
    C03.PReady2 p (analyzeFile (F := F) fa lines).intoInterpreter ∧
    typeOfP2 p = .ok () ∧
    (∀ te σ', C03.runTurns fuel k (analyzeFile (F := F) fa lines).intoInterpreter = .err te σ' →
      RunErrD te.err ∧ te.err ≠ .typeMismatch ∧ (∀ se, te.err ≠ .syntax se) ∧
      te.err ≠ .undefinedStatement) ∧
    (∀ σ', C03.runTurns fuel k (analyzeFile (F := F) fa lines).intoInterpreter = .ok () σ' → WellTyped σ') := by
  obtain ⟨hH, hn, he⟩ := ALang.file Lang2.sound fa p hfa.wf.seq lines hgood () (fun _ _ => trivial)
    fun l hl s hs => ⟨hfa.covered l hl s hs, hfa.depth l hl s hs⟩
  have hready : C03.PReady2 p (analyzeFile (F := F) fa lines).intoInterpreter :=
    ⟨rfl, Prog2L.holds_of_seq hH, rfl, rfl, hn, rfl⟩
  have hty : typeOfP2 p = .ok () := (lineErrs2_nil_iff _ p).1 (he hnoerr)
  exact ⟨hready, hty, sound_program_ext hfit hready hty k⟩

/-! ### examples (on the degenerate carrier `Unit`: every number is `()`, `toU64 () = 0`, so
    every GOTO / GOSUB of a covered program targets line 0) -/

/-- ```
    0 FOR I = 0 TO 0 : FOR J = 0 TO 0 STEP 0 : READ A, B$ : DIM D(0) : NEXT J : NEXT I
    10 GOSUB 0 : RETURN
    20 DATA 0, "X"
    ``` nested FOR, GOSUB / RETURN, READ / DATA, DIM -/
def nestProg : RProgram2 Unit :=
  [ (0, [.forS ['I'] (.num ()) (.num ()) none, .forS ['J'] (.num ()) (.num ()) (some (.num ())),
         .readS [['A'], ['B', '$']], .dimS ['D'] [.num ()], .nextS ['J'], .nextS ['I']]),
    (10, [.gosubS 0, .returnS]),
    (20, [.dataS [.num (), .str ['X']]]) ]

theorem nest_fits : C03.Fits2 nestProg defaultFuel where
  wf := ⟨by decide, by intro l hl; simp [nestProg] at hl; rcases hl with rfl | rfl | rfl <;> simp⟩
  covered := by
    intro l hl s hs
    simp [nestProg] at hl
    rcases hl with rfl | rfl | rfl
    · simp at hs; rcases hs with rfl | rfl | rfl | rfl | rfl | rfl <;> simp [RStmt2.Covered]
    · simp at hs; rcases hs with rfl | rfl <;> simp [RStmt2.Covered]; rfl
    · simp at hs; subst hs; simp [RStmt2.Covered]
  depth := by
    intro l hl s hs
    simp [nestProg] at hl
    rcases hl with rfl | rfl | rfl
    · simp at hs
      rcases hs with rfl | rfl | rfl | rfl | rfl | rfl <;>
        simp [sdepth2, argsDepth, depth, defaultFuel, Extracted.nestingLimit]
    · simp at hs; rcases hs with rfl | rfl <;> simp [sdepth2]
    · simp at hs; subst hs; simp [sdepth2]

theorem nestProg_typed : typeOfP2 nestProg = .ok () := by rfl

example (a : Analysis Unit) (h : AStart2 nestProg a) : (analyzeProgram defaultFuel 4 a).messages = a.messages :=
  (analyzer_silent_iff2 defaultFuel nestProg nest_fits a h 4 (by decide)).2 nestProg_typed

example (k : Nat) : ∀ te σ', C03.runTurns defaultFuel k ({ lines := compileP2 nestProg } : St Unit) = .err te σ' →
    te.err ≠ .typeMismatch ∧ (∀ se, te.err ≠ .syntax se) ∧ te.err ≠ .undefinedStatement :=
  fun te σ' h => ((sound_program_ext nest_fits (C03.ready2_compile nestProg) nestProg_typed k).1 te σ' h).2

/-- READ's own error is reachable in a checked program: C03's `dtmProg` (`10 READ A` / `20 DATA "X"`)
    passes the check and fails with DATA TYPE MISMATCH (`C03.dtm_ref`) — `Err.dataTypeMismatch`, which is
    NOT `Err.typeMismatch`: the `RunErrD` in `sound_program_ext` cannot be strengthened to `RunErr`. -/
example : typeOfP2 C03.dtmProg = .ok () ∧
    RSteps2 C03.dtmProg 1 C03.dtmProg.start = .inr (.dataTypeMismatch, 20, []) ∧
    Err.dataTypeMismatch ≠ Err.typeMismatch := ⟨rfl, rfl, by simp⟩

/-- `10 NEXT A$` -/
def nextBad : RProgram2 Unit := [ (10, [.nextS ['A', '$']]) ]

theorem nextBad_fits : C03.Fits2 nextBad defaultFuel where
  wf := ⟨by decide, by intro l hl; simp [nextBad] at hl; subst hl; simp⟩
  covered := by
    intro l hl s hs
    simp [nextBad] at hl; subst hl
    simp at hs; subst hs; simp [RStmt2.Covered]
  depth := by
    intro l hl s hs
    simp [nextBad] at hl; subst hl
    simp at hs; subst hs; simp [sdepth2]

example : typeOfP2 nextBad = .error (.typeMismatch, 10) := by rfl

example (a : Analysis Unit) (h : AStart2 nextBad a) :
    ∃ f i, (analyzeProgram defaultFuel 2 a).messages =
      a.messages ++ [.error f { err := .typeMismatch, loc := some { line := some 10, idx := i } }] := by
  obtain ⟨_, _, _, _, ds, hds, hfor⟩ := analyze_program2 defaultFuel nextBad nextBad_fits a h 2 (by decide)
  have hx : lineErrs2 nextBad.hasLine nextBad = [(.typeMismatch, 10)] := by rfl
  rw [hx] at hfor
  obtain ⟨f, i, rfl⟩ := diagsFor_one hfor
  exact ⟨f, i, hds⟩

example : ∃ σ' i, C03.runTurns defaultFuel 0 ({ lines := compileP2 nextBad } : St Unit) =
      .err { err := .typeMismatch, loc := some { line := some 10, idx := i } } σ' ∧ σ'.state = .idle := by
  have href : RSteps2 nextBad 1 nextBad.start = .inr (.typeMismatch, 10, []) := rfl
  obtain ⟨k, σ', i, hk, hr, hi, _⟩ := C03.run2_fails nextBad_fits (C03.ready2_compile nextBad) 0 href
  have : k = 0 := by omega
  subst this
  exact ⟨σ', i, hr, hi⟩

/-- ```
    10 READ A$ : PRINT A$;
    20 DATA "X"
    30 RETURN
    ``` a source text of the extended fragment (on `Unit` no numeral tokenizes, hence no FOR / GOSUB here) -/
def fileProg2 : RProgram2 Unit :=
  [ (10, [.readS [['A', '$']], .printS [.expr (.var ['A', '$']), .semi]]),
    (20, [.dataS [.str ['X']]]),
    (30, [.returnS]) ]

def fileText2 : List Str := ["10 READ A$ : PRINT A$;".toList, "20 DATA \"X\"".toList, "30 RETURN".toList]

theorem file_edits2 : editsOf2 fileProg2 =
    [ (10, [.kw .Read, .symbol ['A', '$'], .kw .Colon, .kw .Print, .symbol ['A', '$'], .kw .Semicolon]),
      (20, [.data [.str ['X']]]),
      (30, [.kw .Return]) ] := by
  simp [editsOf2, fileProg2, renderLine2, renderTail2, renderS2, renderS, renderTargets, renderItems, PItem.render,
    render_var]

theorem file_good2 : C15.GoodFile Unit fileText2 (editsOf2 fileProg2) := by
  rw [file_edits2]
  refine C15.goodFile_of_lineEdits (by decide) ?_
  unfold fileText2
  literal_chars
  decide +kernel

theorem file_fits2 : C03.Fits2 fileProg2 defaultFuel where
  wf := ⟨by decide, by intro l hl; simp [fileProg2] at hl; rcases hl with rfl | rfl | rfl <;> simp⟩
  covered := by
    intro l hl s hs
    simp [fileProg2] at hl
    rcases hl with rfl | rfl | rfl
    · simp at hs; rcases hs with rfl | rfl <;> simp [RStmt2.Covered, RStmt.Covered, separated]
    · simp at hs; subst hs; simp [RStmt2.Covered]
    · simp at hs; subst hs; simp [RStmt2.Covered]
  depth := by
    intro l hl s hs
    simp [fileProg2] at hl
    rcases hl with rfl | rfl | rfl
    · simp at hs
      rcases hs with rfl | rfl <;> simp [sdepth2, sdepth, itemsDepth, depth, defaultFuel, Extracted.nestingLimit]
    · simp at hs; subst hs; simp [sdepth2]
    · simp at hs; subst hs; simp [sdepth2]

theorem file_noerr2 : ∀ f e, Diag.error f e ∉ (analyzeFile (F := Unit) defaultFuel fileText2).messages := by
  have h : (analyzeFile (F := Unit) defaultFuel fileText2).messages.all (fun d => !isErr d) = true := by
    unfold fileText2
    literal_chars
    decide +kernel
  intro f e hmem
  have := List.all_eq_true.mp h _ hmem
  simp [isErr] at this

/-- the hypotheses of `sound_analyzed_file_ext` are satisfiable
    (the run of this text ends in RETURN WITHOUT GOSUB, one of the errors the property allows) -/
example (k : Nat) : ∀ te σ',
    C03.runTurns defaultFuel k (analyzeFile (F := Unit) defaultFuel fileText2).intoInterpreter = .err te σ' →
    RunErrD te.err ∧ te.err ≠ .typeMismatch ∧ (∀ se, te.err ≠ .syntax se) ∧ te.err ≠ .undefinedStatement :=
  fun te σ' h => (sound_analyzed_file_ext file_fits2 file_fits2 fileText2 file_good2 file_noerr2 k).2.2.1 te σ' h

end Abasic.Props.C06
