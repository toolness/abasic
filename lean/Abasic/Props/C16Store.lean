import Abasic.Props.C06More
import Abasic.Props.C01More
import Abasic.Proofs.StoreInv
/-
  C16 (continued) — arrays and variables obey their caps and their name-suffix
  typing in EVERY reachable state.

  `ArrOk` and `StoreOk` are in Proofs/ArrOk.lean, the lifting through the evaluator
  in Proofs/StoreInv.lean (frame `RS σ σ' := StoreOk σ → StoreOk σ'`).  Here: the statements for the
  single operations (ok and err paths), the lift to every reachable state (`store_ok_reachable`), and
  what the invariant says of a reachable state in plain terms.
-/
namespace Abasic.Props.C16
open Abasic Abasic.Hoare Abasic.Hoare.RelS Abasic.Props.C01

variable {F : Type} [NumOps F]

omit [NumOps F] in
theorem storeOk_of_respects {α : Type} {m : M F α} (hm : Respects RS m) (σ : St F) (h : StoreOk σ) :
    (∀ a σ', m σ = .ok a σ' → StoreOk σ') ∧ (∀ e σ', m σ = .err e σ' → StoreOk σ') :=
  hm.post σ fun _ hr => hr h

omit [NumOps F] in
theorem storeOk_of_respects_unit {m : M F Unit} (hm : Respects RS m) (σ : St F) (h : StoreOk σ) :
    (∀ σ', m σ = .ok () σ' → StoreOk σ') ∧ (∀ e σ', m σ = .err e σ' → StoreOk σ') :=
  ⟨(storeOk_of_respects hm σ h).1 (), (storeOk_of_respects hm σ h).2⟩

omit [NumOps F] in
/-- `Variables::set` -/
theorem setVar_storeOk (name : Str) (v : Value F) (σ : St F) (h : StoreOk σ) :
    (∀ σ', setVar name v σ = .ok () σ' → StoreOk σ') ∧
    (∀ e σ', setVar name v σ = .err e σ' → StoreOk σ') :=
  storeOk_of_respects_unit (rs_setVar name v) σ h

theorem ensureArray_storeOk (name : Str) (k : Nat) (σ : St F) (h : StoreOk σ) :
    (∀ σ', ensureArray name k σ = .ok () σ' → StoreOk σ') ∧
    (∀ e σ', ensureArray name k σ = .err e σ' → StoreOk σ') :=
  storeOk_of_respects_unit (fr_ensureArray (R := RS) name k) σ h

theorem dim_storeOk (name : Str) (idx : List Nat) (σ : St F) (h : StoreOk σ) :
    (∀ σ', arrayCreate name idx σ = .ok () σ' → StoreOk σ') ∧
    (∀ e σ', arrayCreate name idx σ = .err e σ' → StoreOk σ') :=
  storeOk_of_respects_unit (fr_arrayCreate (R := RS) name idx) σ h

theorem arraySet_ok_matches (name : Str) (idx : List Nat) (v : Value F) (σ σ' : St F)
    (hr : arraySet name idx v σ = .ok () σ') : v.matchesName name = true := by
  cases hm : v.matchesName name with
  | true => rfl
  | false =>
    simp only [arraySet, hm, Bool.not_false, ↓reduceIte, M.fail] at hr
    cases hr

/-- `Arrays::set_value_at_index`: a value is stored
    only if its kind matches the name, and every outcome — including the implicit
    creation that may precede a failing store — keeps the store well-formed. -/
theorem arraySet_typed (name : Str) (idx : List Nat) (v : Value F) (σ : St F) (h : StoreOk σ) :
    (∀ σ', arraySet name idx v σ = .ok () σ' → v.matchesName name = true ∧ StoreOk σ') ∧
    (∀ e σ', arraySet name idx v σ = .err e σ' → StoreOk σ') :=
  have hs := storeOk_of_respects_unit (fr_arraySet (R := RS) name idx v) σ h
  ⟨fun σ' hr => ⟨arraySet_ok_matches name idx v σ σ' hr, hs.1 σ' hr⟩, hs.2⟩

/-- `ensureArray` leaves an array under `name` or fails -/
theorem arrayGet_storeOk (name : Str) (idx : List Nat) (σ : St F) (h : StoreOk σ) :
    (∀ v σ', arrayGet name idx σ = .ok v σ' → StoreOk σ') ∧
    (∀ e σ', arrayGet name idx σ = .err e σ' → StoreOk σ') :=
  storeOk_of_respects (fr_arrayGet (R := RS) name idx) σ h

theorem arrayGet_typed (name : Str) (idx : List Nat) (σ : St F) (h : StoreOk σ)
    (v : Value F) (σ' : St F) (hr : arrayGet name idx σ = .ok v σ') :
    v.matchesName name = true := by
  simp only [arrayGet, bind, M.bindM, M.get] at hr
  cases he : ensureArray name idx.length σ with
  | err e s => simp only [he] at hr; cases hr
  | ok u s =>
    have hs : StoreOk s := (ensureArray_storeOk name idx.length σ h).1 s he
    simp only [he] at hr
    cases hg : alGet name s.arrays with
    | none => simp only [hg, M.rpanic] at hr; cases hr
    | some a =>
      have hok := hs.arrays_ok _ _ (alGet_mem _ _ _ hg)
      simp only [hg] at hr
      cases hl : linearIndex idx a.dims with
      | error e => simp only [hl, M.fail] at hr; cases hr
      | ok i =>
        simp only [hl] at hr
        cases a with
        | strs d cells =>
          cases hc : cells[i]? with
          | none => simp only [hc, M.rpanic] at hr; cases hr
          | some x =>
            simp only [hc, pure, M.pureM, Res.ok.injEq] at hr
            rw [← hr.1]
            exact hok.cells_typed _ (by
              simp only [cellValues, List.mem_map]
              exact ⟨x, List.mem_of_getElem? hc, rfl⟩)
        | nums d cells =>
          cases hc : cells[i]? with
          | none => simp only [hc, M.rpanic] at hr; cases hr
          | some x =>
            simp only [hc, pure, M.pureM, Res.ok.injEq] at hr
            rw [← hr.1]
            exact hok.cells_typed _ (by
              simp only [cellValues, List.mem_map]
              exact ⟨x, List.mem_of_getElem? hc, rfl⟩)

omit [NumOps F] in
/-- FN arguments: the bindings `bindArgs` returns
    all have the kind their parameter name demands and distinct names, whatever
    the argument expressions do; a mismatch is TYPE MISMATCH before the binding
    is recorded. -/
theorem bindArgs_typed (ev : Evals F) (arity : Nat) (args : List Str) (i : Nat)
    (acc : List (Str × Value F)) (σ : St F) (r : List (Str × Value F)) (σ' : St F)
    (h : bindArgs ev arity args i acc σ = .ok r σ')
    (ht : Typed acc) (hn : (acc.map Prod.fst).Nodup) :
    Typed r ∧ (r.map Prod.fst).Nodup :=
  bindArgs_result ev arity args i acc σ r σ' h ⟨ht, hn⟩

theorem bindArgs_storeOk (ev : Evals F) (he : Respects RS ev.expr) (arity : Nat) (args : List Str) (i : Nat)
    (acc : List (Str × Value F)) (σ : St F) (h : StoreOk σ) :
    (∀ r σ', bindArgs ev arity args i acc σ = .ok r σ' → StoreOk σ') ∧
    (∀ e σ', bindArgs ev arity args i acc σ = .err e σ' → StoreOk σ') :=
  storeOk_of_respects (walk_bindArgs (ExprFrame.cursor RS) ev he arity args i acc) σ h

omit [NumOps F] in
theorem pushFunctionCall_storeOk (name : Str) (b : List (Str × Value F)) (ht : Typed b)
    (hn : (b.map Prod.fst).Nodup) (σ : St F) (h : StoreOk σ) :
    (∀ σ', pushFunctionCall name b σ = .ok () σ' → StoreOk σ') ∧
    (∀ e σ', pushFunctionCall name b σ = .err e σ' → StoreOk σ') :=
  storeOk_of_respects_unit (rs_pushFunctionCall name b ⟨ht, hn⟩) σ h

theorem userFunctionCall_storeOk (ev : Evals F) (he : Respects RS ev.expr) (name : Str)
    (σ : St F) (h : StoreOk σ) :
    (∀ r σ', userFunctionCall ev name σ = .ok r σ' → StoreOk σ') ∧
    (∀ e σ', userFunctionCall ev name σ = .err e σ' → StoreOk σ') :=
  storeOk_of_respects (walk_userFunctionCall (ExprFrame.walk RS) ev he name) σ h

omit [NumOps F] in
theorem startLoop_storeOk (sym : Str) (a b c : F) (σ : St F) (h : StoreOk σ) :
    (∀ σ', startLoop sym a b c σ = .ok () σ' → StoreOk σ') ∧
    (∀ e σ', startLoop sym a b c σ = .err e σ' → StoreOk σ') :=
  storeOk_of_respects_unit (rs_startLoop sym a b c) σ h

omit [NumOps F] in
/-- FOR A$: the loop is pushed and the statement fails TYPE MISMATCH (or OUT OF
    MEMORY), but nothing is stored: on every error path of `startLoop` the
    variables, arrays and frames are exactly what they were. -/
theorem for_string_var_no_store (sym : Str) (a b c : F) (σ : St F) (e : TErr) (σ' : St F)
    (hr : startLoop sym a b c σ = .err e σ') :
    σ'.vars = σ.vars ∧ σ'.arrays = σ.arrays ∧ σ'.stack = σ.stack := by
  rw [startLoop_eq] at hr
  by_cases hcap : (afterRemove sym σ.loops).length = Extracted.stackLimit
  · simp only [hcap, ↓reduceIte, Res.err.injEq] at hr
    rw [← hr.2]; exact ⟨rfl, rfl, rfl⟩
  · by_cases hm : (Value.num a : Value F).matchesName sym = true
    · simp [hcap, hm] at hr
    · have hm' : (Value.num a : Value F).matchesName sym = false := by simpa using hm
      simp only [hcap, hm', Bool.false_eq_true, ↓reduceIte, Res.err.injEq] at hr
      rw [← hr.2]; exact ⟨rfl, rfl, rfl⟩

/-- `FOR A$ = … TO …` pushes the loop, fails TYPE MISMATCH, stores nothing -/
example : (match startLoop (F := Unit) ['A', '$'] () () () {} with
    | .ok () _ => none
    | .err e σ' => some (e.err, σ'.loops.length, σ'.vars.length)) = some (.typeMismatch, 1, 0) := by decide

theorem endLoop_storeOk (sym : Str) (σ : St F) (h : StoreOk σ) :
    (∀ σ', endLoop sym σ = .ok () σ' → StoreOk σ') ∧
    (∀ e σ', endLoop sym σ = .err e σ' → StoreOk σ') :=
  storeOk_of_respects_unit (fr_endLoop (R := RS) sym) σ h

/-- `assign_value`: the one assignment path of LET, READ and INPUT, for ANY value
    (the kind check is in `setVar` / `arraySet`, before the store) -/
theorem assignValue_storeOk (lv : LValue) (v : Value F) (σ : St F) (h : StoreOk σ) :
    (∀ σ', assignValue lv v σ = .ok () σ' → StoreOk σ') ∧
    (∀ e σ', assignValue lv v σ = .err e σ' → StoreOk σ') :=
  storeOk_of_respects_unit (walk_assignValue (StmtFrame.walk RS) lv v) σ h

theorem readStatement_storeOk (ev : Evals F) (he : Respects RS ev.expr) (σ : St F) (h : StoreOk σ) :
    (∀ σ', readStatement ev σ = .ok () σ' → StoreOk σ') ∧
    (∀ e σ', readStatement ev σ = .err e σ' → StoreOk σ') :=
  storeOk_of_respects_unit (walk_readStatement (StmtFrame.walk RS) ev he) σ h

theorem inputStatement_storeOk (ev : Evals F) (he : Respects RS ev.expr) (σ : St F) (h : StoreOk σ) :
    (∀ σ', inputStatement ev σ = .ok () σ' → StoreOk σ') ∧
    (∀ e σ', inputStatement ev σ = .err e σ' → StoreOk σ') :=
  storeOk_of_respects_unit (walk_inputStatement (StmtFrame.walk RS) ev he) σ h

theorem dimStatement_storeOk (ev : Evals F) (he : Respects RS ev.expr) (σ : St F) (h : StoreOk σ) :
    (∀ σ', dimStatement ev σ = .ok () σ' → StoreOk σ') ∧
    (∀ e σ', dimStatement ev σ = .err e σ' → StoreOk σ') :=
  storeOk_of_respects_unit (walk_dimStatement (StmtFrame.walk RS) ev he) σ h

theorem store_ok_evalN (n : Nat) :
    Respects RS (evalN (F := F) n).expr ∧ Respects RS (evalN (F := F) n).stmt :=
  fr_evalN n

theorem store_ok_expr (n : Nat) (σ : St F) (h : StoreOk σ) :
    (∀ v σ', (evalN n).expr σ = .ok v σ' → StoreOk σ') ∧
    (∀ e σ', (evalN n).expr σ = .err e σ' → StoreOk σ') :=
  storeOk_of_respects (fr_evalN_expr (R := RS) n) σ h

theorem store_ok_stmt (n : Nat) (σ : St F) (h : StoreOk σ) :
    (∀ u σ', (evalN n).stmt σ = .ok u σ' → StoreOk σ') ∧
    (∀ e σ', (evalN n).stmt σ = .err e σ' → StoreOk σ') :=
  storeOk_of_respects (fr_evalN (R := RS) n).2 σ h

theorem store_ok_runNextStatement (fuel : Nat) (σ : St F) (h : StoreOk σ) :
    (∀ u σ', runNextStatement fuel σ = .ok u σ' → StoreOk σ') ∧
    (∀ e σ', runNextStatement fuel σ = .err e σ' → StoreOk σ') :=
  storeOk_of_respects (fr_runNextStatement (R := RS) fuel) σ h

theorem store_ok_start (fuel : Nat) (line : Str) (σ : St F) (h : StoreOk σ) :
    (∀ u σ', startEvaluating fuel line σ = .ok u σ' → StoreOk σ') ∧
    (∀ e σ', startEvaluating fuel line σ = .err e σ' → StoreOk σ') :=
  storeOk_of_respects (fr_startEvaluating (R := RS) fuel line) σ h

theorem store_ok_cont (fuel : Nat) (σ : St F) (h : StoreOk σ) :
    (∀ u σ', continueEvaluating fuel σ = .ok u σ' → StoreOk σ') ∧
    (∀ e σ', continueEvaluating fuel σ = .err e σ' → StoreOk σ') :=
  storeOk_of_respects (fr_continueEvaluating (R := RS) fuel) σ h

theorem rs_call (fuel : Nat) (c : Call) : Respects RS (c.run (F := F) fuel) :=
  walk_call (HostFrame.walk RS fuel) fr_breakAtCurrentLocation rs_randomize (respects_modify fun _ => rs_same rfl rfl rfl) c

theorem store_ok_call (fuel : Nat) (c : Call) (σ : St F) (h : StoreOk σ) :
    StoreOk (applyCall fuel c σ) :=
  (rs_call fuel c).final σ h

theorem store_ok_calls (fuel : Nat) (cs : List Call) (σ : St F) (h : StoreOk σ) :
    StoreOk (applyCalls fuel cs σ) := by
  induction cs generalizing σ with
  | nil => exact h
  | cons c cs ih => exact ih _ (store_ok_call fuel c σ h)

/-- **C16, store part.**  The store invariant holds in every state a host can
    bring a new interpreter into. -/
theorem store_ok_reachable (fuel : Nat) (σ : St F) (h : Reachable fuel σ) : StoreOk σ := by
  induction h with
  | init => exact storeOk_init
  | step c _ ih => exact store_ok_call fuel c _ ih

/-- every array of a reachable state: `∏ dims` cells, at most 10000, every
    dimension at least 1, kind as the name's suffix says -/
theorem reachable_array (fuel : Nat) (σ : St F) (h : Reachable fuel σ) (name : Str) (a : ArrayV F)
    (ha : alGet name σ.arrays = some a) :
    a.cellCount = prod a.dims ∧ a.cellCount ≤ 10000 ∧ a.dims ≠ [] ∧ (∀ d ∈ a.dims, 1 ≤ d) ∧
    isStr a = endsWithDollar name ∧ (∀ v ∈ cellValues a, v.matchesName name = true) := by
  have hok := (store_ok_reachable fuel σ h).arrays_ok name a (alGet_mem _ _ _ ha)
  refine ⟨hok.cells_len, ?_, hok.dims_ne, hok.dims_pos, hok.kind, hok.cells_typed⟩
  have := hok.cap
  rw [← hok.cells_len] at this
  exact this

omit [NumOps F] in
theorem wellTyped_of_storeOk {σ : St F} (h : StoreOk σ) : C06.WellTyped σ :=
  fun name v hv => h.vars_typed name v (alGet_mem _ _ _ hv)

theorem reachable_wellTyped (fuel : Nat) (σ : St F) (h : Reachable fuel σ) : C06.WellTyped σ :=
  wellTyped_of_storeOk (store_ok_reachable fuel σ h)

theorem reachable_getVar (fuel : Nat) (σ : St F) (h : Reachable fuel σ) (name : Str) :
    (getVar σ name).matchesName name = true :=
  C06.wellTypedEnv_getVar (reachable_wellTyped fuel σ h) name

omit [NumOps F] in
theorem findInStack_typed {σ : St F} (h : StoreOk σ) (name : Str) (v : Value F)
    (hf : findInStack name σ.stack = some v) : v.matchesName name = true := by
  have hall := h.frames_typed
  generalize σ.stack = st at hf hall
  induction st with
  | nil => simp [findInStack] at hf
  | cons f rest ih =>
    simp only [findInStack] at hf
    cases hg : alGet name f.vars with
    | some w =>
      simp only [hg, Option.some.injEq] at hf
      subst hf
      exact hall f List.mem_cons_self name w (alGet_mem _ _ _ hg)
    | none =>
      simp only [hg] at hf
      exact ih hf (fun g hg' => hall g (List.mem_cons_of_mem _ hg'))

theorem reachable_findInStack (fuel : Nat) (σ : St F) (h : Reachable fuel σ) (name : Str) (v : Value F)
    (hf : findInStack name σ.stack = some v) : v.matchesName name = true :=
  findInStack_typed (store_ok_reachable fuel σ h) name v hf

theorem store_ok_session (fuel : Nat) (cs : List Call) : StoreOk (applyCalls (F := F) fuel cs {}) :=
  store_ok_calls fuel cs {} storeOk_init

/-- Non-vacuity: a session (over the degenerate carrier, so without numerals) that
    creates arrays of both kinds implicitly, defines and calls a function, and ends
    in a TYPE MISMATCH. -/
example : StoreOk (applyCalls (F := Unit) 8
    [.start "10 A$(I)=\"X\":B(I,I)=I:DEF FNF(X)=X".toList,
     .start "20 Y=FNF(I):A$=I".toList, .start "RUN".toList, .cont, .cont, .cont, .cont, .cont, .cont] {}) :=
  store_ok_session 8 _

/-- Non-vacuity: an assignment to an undeclared string array creates it with 11 cells. -/
example : (match arraySet (F := Unit) ['A', '$'] [2] (.str ['X']) {} with
    | .ok () σ' => σ'.arrays.map (fun p => (p.1, p.2.dims, p.2.cellCount))
    | .err _ _ => []) = [(['A', '$'], [11], 11)] := by decide

/-- … a number into a `$` array is TYPE MISMATCH before anything is created … -/
example : (match arraySet (F := Unit) ['A', '$'] [2] (.num ()) {} with
    | .ok () _ => none
    | .err e σ' => some (e.err, σ'.arrays.length)) = some (.typeMismatch, 0) := by decide

/-- … and an out-of-range subscript fails AFTER the implicit creation: the error
    path changes the store (this is why `StoreOk` is proved on error paths too). -/
example : (match arraySet (F := Unit) ['A'] [20] (.num ()) {} with
    | .ok () _ => none
    | .err e σ' => some (e.err, σ'.arrays.map (fun p => (p.1, p.2.dims, p.2.cellCount)))) =
    some (.badSubscript, [(['A'], [11], 11)]) := by decide

end Abasic.Props.C16
