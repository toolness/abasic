import Abasic.Proofs.Expr2Names
import Abasic.Props.C02Full
/-
  C02: names, warnings, and `eval_render2` without `Resolved`:

  1. `term_resolution` — what a term `name ( args )` means in a state
     (`resolve`): ABS / INT / RND first, then the defined functions, else an
     array element; the evaluator's `term` does exactly that.  A DEF named like
     a built-in is stored but never called (`def_builtin_never_called`); an
     array named like a defined function cannot be read while the function is
     defined (`function_shadows_array`).

  2. the warnings flag: `eval_render2_warn` (Props/C02Full.lean) gives value,
     cursor, arrays, generator state exactly as `fold2` says, hence as with the
     flag off (`warn_on_vs_off`), and the queue grown by `warnsOf …`.

  3. `eval_render2_any_partial` — `eval_render2` without the side condition `Resolved`:
     `normalize fns` rewrites every `cell` / `call` node into what `resolve`
     says, does not change the rendering (`render2_normalize`), and the
     evaluator on `render2 e` computes `fold2` of the normalized tree
     (with warnings: `eval_render2_any_warn_partial`).
-/
namespace Abasic.Props.C02
open Abasic Abasic.Ref Abasic.ExprL Abasic.ExprL2 Abasic.Names

variable {F : Type} [NumOps F]

/-- On `name ( …` the evaluator reads the name, looks at
    the parenthesis (two more cursor reads, cursor one token further) and then
    does what `resolve σ name` says:
    `builtin b` — `builtinM`: the parenthesised argument, then ABS / INT / RND;
    `call d`    — `callM`: bind the arguments to `d.args`, push the frame, evaluate
                  the body on the line of the definition, pop the frame;
    `cell`      — `cellM'`: subscripts, the undeclared-array warning, the read.
    `ev` (the evaluator used for the nested expressions) and the rest of the
    line are arbitrary. -/
theorem term_resolution (ev : Evals F) (σ : St F) (pre rest : List (Token F)) (name : Str)
    (hAt : At σ pre (.symbol name :: .kw .LeftParen :: rest)) :
    term ev σ = meaning ev name (resolve σ name) (mv σ 1 (σ.reads + 1 + 1)) :=
  term_resolves ev σ pre rest name hAt

omit [NumOps F] in
/-- The built-in wins: for ABS / INT / RND the function table is not even consulted. -/
theorem builtin_wins (σ : St F) (name : Str) (h : reserved name = true) :
    ∃ b, resolve σ name = .builtin b ∧ ∀ σ' : St F, resolve σ' name = .builtin b := by
  obtain ⟨b, rfl⟩ := builtin_of_reserved h
  exact ⟨b, resolveIn_name _ b, fun σ' => resolveIn_name _ b⟩

omit [NumOps F] in
/-- `DEF ABS(X) = …` on a numbered line IS stored in the function table … -/
theorem def_builtin_stored (name : Str) (args : List Str) (σ : St F) (ln : Nat) (hl : σ.loc.line = some ln) :
    ∃ σ', defineFunction name args σ = .ok () σ' ∧
      alGet name σ'.fns = some { args := args, line := ln, idx := σ.loc.idx } := by
  refine ⟨{ σ with fns := alSet name { args := args, line := ln, idx := σ.loc.idx } σ.fns }, ?_, ?_⟩
  · simp only [defineFunction, bind, M.bindM, M.get, hl, M.set]
  · exact Props.C16.alGet_alSet_self _ _ _

/-- … but is never called: whatever the function table holds, `ABS ( …`,
    `INT ( …`, `RND ( …` run the built-in. -/
theorem def_builtin_never_called (ev : Evals F) (σ : St F) (pre rest : List (Token F)) (name : Str)
    (h : reserved name = true) (hAt : At σ pre (.symbol name :: .kw .LeftParen :: rest)) :
    ∃ b, term ev σ = builtinM ev b (mv σ 1 (σ.reads + 1 + 1)) := by
  obtain ⟨b, hb, _⟩ := builtin_wins σ name h
  exact ⟨b, by rw [term_resolution ev σ pre rest name hAt, hb]; rfl⟩

omit [NumOps F] in
/-- An array named like a defined function is unreachable while the function is
    defined: the term is a call. -/
theorem function_shadows_array (σ : St F) (name : Str) (d : FnDef)
    (hr : reserved name = false) (hd : alGet name σ.fns = some d) : resolve σ name = .call d := by
  unfold resolve
  rw [resolveIn_unreserved _ _ hr, hd]

omit [NumOps F] in
theorem undefined_is_cell (σ : St F) (name : Str)
    (hr : reserved name = false) (hd : alGet name σ.fns = none) : resolve σ name = .cell := by
  unfold resolve
  rw [resolveIn_unreserved _ _ hr, hd]

/-- With the flag ON, compared with the same state with the flag OFF: same value,
    same cursor, arrays, generator state (and every other field but the read
    counter and the queue), and the queue of the ON run is the queue of the OFF
    run plus exactly the warning records, in evaluation order. -/
theorem warn_on_vs_off (e : Expr2 F) (k n : Nat) (σ : St F) (env : RefEnv F) (pre rest : List (Token F))
    (h : ReadyW σ env pre e rest k n) (v : Value F) (env' : RefEnv F) (hv : fold2 k env e = .ok (v, env')) :
    ∃ r r₀,
      orExpr (evalN n) σ =
        .ok v { σ with loc := { σ.loc with idx := pre.length + (render2 e).length }, reads := r, arrays := env'.arrays, rng := env'.rng, out := (warnsOf σ.warnings σ.fns k σ.loc.line env e).reverse ++ σ.out } ∧
      orExpr (evalN n) { σ with warnings := false } =
        .ok v { σ with warnings := false, loc := { σ.loc with idx := pre.length + (render2 e).length }, reads := r₀, arrays := env'.arrays, rng := env'.rng } := by
  obtain ⟨r, _, hr, _⟩ := (eval_render2_warn e k n σ env pre rest h).1 v env' hv
  have h0 : Ready2 ({ σ with warnings := false } : St F) env pre e rest k n :=
    { toks := tokens_eq (σ := ({ σ with warnings := false } : St F))
        (show lineToks ({ σ with warnings := false } : St F) = _ from lineToks_of_tokens (σ := σ) h.toks)
      idx := h.idx
      envOf := ⟨h.envOf.vars, h.envOf.frames, h.envOf.arrays, h.envOf.rng, h.envOf.fns_undef, h.envOf.fns_def⟩
      warnings := rfl
      arrays_ok := h.arrays_ok
      rng_ok := h.rng_ok
      stack := h.stack
      specFuel := h.specFuel
      resolved := h.resolved
      bodies := h.bodies
      nesting := h.nesting
      fuel := h.fuel
      follows := h.follows }
  obtain ⟨r₀, _, hr₀, _⟩ := (eval_render2 e k n _ env pre rest h0).1 v env' hv
  exact ⟨r, r₀, hr, hr₀⟩

theorem eval_render2_warn_on (e : Expr2 F) (k n : Nat) (σ : St F) (env : RefEnv F) (pre rest : List (Token F))
    (h : ReadyW σ env pre e rest k n) (hw : σ.warnings = true) (v : Value F) (env' : RefEnv F)
    (hv : fold2 k env e = .ok (v, env')) :
    ∃ r, σ.reads < r ∧
      orExpr (evalN n) σ =
        .ok v { σ with loc := { σ.loc with idx := pre.length + (render2 e).length }, reads := r, arrays := env'.arrays, rng := env'.rng, out := (warnsOf true σ.fns k σ.loc.line env e).reverse ++ σ.out } := by
  obtain ⟨r, hr, hσ, _⟩ := (eval_render2_warn e k n σ env pre rest h).1 v env' hv
  have hws : warnsOf σ.warnings σ.fns k σ.loc.line env e = warnsOf true σ.fns k σ.loc.line env e := by rw [hw]
  rw [hws] at hσ
  exact ⟨r, hr, hσ⟩

omit [NumOps F] in
theorem alGet_normFns_some {fns : List (Str × FnDefSpec F)} {name : Str} {d : FnDefSpec F}
    (h : alGet name (normFns fns) = some d) :
    ∃ d0, alGet name fns = some d0 ∧ d.params = d0.params ∧ d.body = normalize fns d0.body := by
  rw [alGet_normFns] at h
  cases h0 : alGet name fns with
  | none => rw [h0] at h; cases h
  | some d0 =>
    rw [h0] at h
    simp only [Option.map_some, Option.some.injEq] at h
    exact ⟨d0, rfl, by rw [← h], by rw [← h]⟩

omit [NumOps F] in
theorem alGet_normFns_none {fns : List (Str × FnDefSpec F)} {name : Str} :
    alGet name (normFns fns) = none ↔ alGet name fns = none := by
  rw [alGet_normFns]
  cases alGet name fns <;> simp

omit [NumOps F] in
/-- a state that realises `env` realises `env` with the bodies normalized: the
    stored lines are the same token lists -/
theorem envOf_normEnv {σ : St F} {env : RefEnv F} (h : EnvOf σ env) : EnvOf σ (normEnv env) where
  vars := h.vars
  frames := h.frames
  arrays := h.arrays
  rng := h.rng
  fns_undef := fun name hn => h.fns_undef name (alGet_normFns_none.mp hn)
  fns_def := fun name d hd => by
    obtain ⟨d0, h0, hp, hb⟩ := alGet_normFns_some hd
    obtain ⟨fd, p, tail, h1, h2, h3, h4, h5⟩ := h.fns_def name d0 h0
    exact ⟨fd, p, tail, h1, by rw [hp]; exact h2, by rw [hb, render2_normalize]; exact h3, h4, h5⟩

/-- The hypotheses of `eval_render2_any_partial`: those of `eval_render2` with, instead of
    `Resolved`, only `Arity1` (a node named ABS / INT / RND has exactly one
    argument — `ABS ( )` and `ABS ( 1 , 2 )` are syntax errors), for `e` and for the
    function bodies; nesting room and fuel are measured on the normalized tree
    (a `cell` node named like a defined function IS a call, with its body). -/
structure ReadyAny (σ : St F) (env : RefEnv F) (pre : List (Token F)) (e : Expr2 F) (rest : List (Token F))
    (k n : Nat) : Prop where
  toks : tokens σ = .ok (pre ++ render2 e ++ rest) σ
  idx : σ.loc.idx = pre.length
  envOf : EnvOf σ env
  arrays_ok : ∀ p ∈ σ.arrays, p.2.cellCount = Props.C16.prod p.2.dims
  rng_ok : σ.rng < 2 ^ 33
  stack : σ.stack.length ≤ Extracted.stackLimit
  specFuel : Extracted.stackLimit < k + σ.stack.length
  arity : Arity1 e
  bodies : ∀ name d, alGet name env.fns = some d → Arity1 d.body
  nesting : σ.nesting + depth2 (normFns env.fns) k (normalize env.fns e) < Extracted.nestingLimit
  fuel : depth2 (normFns env.fns) k (normalize env.fns e) + 1 ≤ n
  follows : Follows rest

omit [NumOps F] in
theorem ReadyAny.readyW {σ : St F} {env : RefEnv F} {pre rest : List (Token F)} {e : Expr2 F} {k n : Nat}
    (h : ReadyAny σ env pre e rest k n) : ReadyW σ (normEnv env) pre (normalize env.fns e) rest k n where
  toks := by rw [render2_normalize]; exact h.toks
  idx := h.idx
  envOf := envOf_normEnv h.envOf
  arrays_ok := h.arrays_ok
  rng_ok := h.rng_ok
  stack := h.stack
  specFuel := h.specFuel
  resolved := resolved_normalize (normFns env.fns) env.fns (fun _ hn => alGet_normFns_none.mpr hn) e h.arity
  bodies := fun name d hd => by
    obtain ⟨d0, h0, _, hb⟩ := alGet_normFns_some hd
    rw [hb]
    exact resolved_normalize (normFns env.fns) env.fns (fun _ hn => alGet_normFns_none.mpr hn) d0.body
      (h.bodies name d0 h0)
  nesting := h.nesting
  fuel := h.fuel
  follows := h.follows

section
omit [NumOps F]

mutual
theorem arity1_of_resolved (fns : List (Str × FnDefSpec F)) (e : Expr2 F) (h : Resolved fns e) : Arity1 e :=
  match e, h with
  | .num _, _ | .str _, _ | .var _, _ => by simp only [Arity1]
  | .un _ x, h | .paren x, h | .abs x, h | .int x, h | .rnd x, h => by
    simp only [Arity1, Resolved] at h ⊢; exact arity1_of_resolved fns x h
  | .bin _ l r, h => by
    simp only [Arity1, Resolved] at h ⊢; exact ⟨arity1_of_resolved fns l h.1, arity1_of_resolved fns r h.2⟩
  | .cell _ idx, h => by
    simp only [Arity1, Resolved] at h ⊢
    exact ⟨fun ht => (by rw [h.1] at ht; cases ht), arity1L_of_resolvedL fns idx h.2.2⟩
  | .call _ args, h => by
    simp only [Arity1, Resolved] at h ⊢
    exact ⟨fun ht => (by rw [h.1] at ht; cases ht), arity1L_of_resolvedL fns args h.2⟩
theorem arity1L_of_resolvedL (fns : List (Str × FnDefSpec F)) : ∀ es : List (Expr2 F), ResolvedL fns es → Arity1L es
  | [], _ => by simp only [Arity1L]
  | x :: xs, h => by
    simp only [Arity1L, ResolvedL] at h ⊢; exact ⟨arity1_of_resolved fns x h.1, arity1L_of_resolvedL fns xs h.2⟩
end

end

/-- `eval_render2` without `Resolved`, whatever
    the warnings flag: for every tree in which the nodes named like a built-in
    have one argument (`Arity1`), whatever else its names collide with, the
    evaluator on `render2 e` returns `fold2` of the NORMALIZED tree (every
    `cell` / `call` node read as `resolve` says) in the environment with
    normalized function bodies — value, cursor, arrays, generator state — and the
    queue grows by the warning records of that evaluation.
    ("Partial": the trees excluded are those with `ABS ( )`, `ABS ( a , b )`, …,
    on which the evaluator reports a syntax error — `ABS ( 1 , 2 )`: EXPECTED `)` after
    the first argument — whereas the only trees with that rendering, `cell "ABS" [1, 2]`
    and `call "ABS" [1, 2]`, fold to an element of an array ABS.) -/
theorem eval_render2_any_warn_partial (e : Expr2 F) (k n : Nat) (σ : St F) (env : RefEnv F)
    (pre rest : List (Token F)) (h : ReadyAny σ env pre e rest k n) :
    (∀ v env', fold2 k (normEnv env) (normalize env.fns e) = .ok (v, env') → ∃ r, σ.reads < r ∧
      orExpr (evalN n) σ =
        .ok v { σ with loc := { σ.loc with idx := pre.length + (render2 e).length }, reads := r, arrays := env'.arrays, rng := env'.rng, out := (warnsOf σ.warnings σ.fns k σ.loc.line (normEnv env) (normalize env.fns e)).reverse ++ σ.out } ∧
      EnvOf ({ σ with loc := { σ.loc with idx := pre.length + (render2 e).length }, reads := r, arrays := env'.arrays, rng := env'.rng, out := (warnsOf σ.warnings σ.fns k σ.loc.line (normEnv env) (normalize env.fns e)).reverse ++ σ.out } : St F) env') ∧
    (∀ x, fold2 k (normEnv env) (normalize env.fns e) = .error x → ∃ te σ',
      orExpr (evalN n) σ = .err te σ' ∧ te.err = x ∧
      σ'.nesting = σ.nesting ∧ σ'.stack = σ.stack ∧ σ'.loc.line = σ.loc.line ∧ ErrLoc σ te) := by
  have := eval_render2_warn (normalize env.fns e) k n σ (normEnv env) pre rest h.readyW
  rw [render2_normalize] at this
  exact this

/-- The same with warnings off (the statement of
    `eval_render2`, for the normalized tree, without `Resolved`). -/
theorem eval_render2_any_partial (e : Expr2 F) (k n : Nat) (σ : St F) (env : RefEnv F)
    (pre rest : List (Token F)) (h : ReadyAny σ env pre e rest k n) (hw : σ.warnings = false) :
    (∀ v env', fold2 k (normEnv env) (normalize env.fns e) = .ok (v, env') → ∃ r, σ.reads < r ∧
      orExpr (evalN n) σ =
        .ok v { σ with loc := { σ.loc with idx := pre.length + (render2 e).length }, reads := r, arrays := env'.arrays, rng := env'.rng } ∧
      EnvOf ({ σ with loc := { σ.loc with idx := pre.length + (render2 e).length }, reads := r, arrays := env'.arrays, rng := env'.rng } : St F) env') ∧
    (∀ x, fold2 k (normEnv env) (normalize env.fns e) = .error x → ∃ te σ',
      orExpr (evalN n) σ = .err te σ' ∧ te.err = x ∧
      σ'.nesting = σ.nesting ∧ σ'.stack = σ.stack ∧ σ'.loc.line = σ.loc.line ∧ ErrLoc σ te) := by
  have := eval_render2_any_warn_partial e k n σ env pre rest h
  rwa [warnsOf_flag_off σ k _ _ hw] at this

theorem eval_render2_any_outcome (e : Expr2 F) (k n : Nat) (σ : St F) (env : RefEnv F)
    (pre rest : List (Token F)) (h : ReadyAny σ env pre e rest k n) :
    (outcome (orExpr (evalN n) σ)).mapError TErr.err =
      (fold2 k (normEnv env) (normalize env.fns e)).map Prod.fst := by
  obtain ⟨h1, h2⟩ := eval_render2_any_warn_partial e k n σ env pre rest h
  cases hev : fold2 k (normEnv env) (normalize env.fns e) with
  | ok p => obtain ⟨r, _, hr, _⟩ := h1 p.1 p.2 hev; rw [hr]; rfl
  | error x => obtain ⟨te, σ', hσ', hx, _⟩ := h2 x hev; rw [hσ', ← hx]; rfl

namespace DemoNames
section Examples
set_option linter.unusedSectionVars false
set_option linter.unusedSimpArgs false
open Demo2

theorem readyW_immediate (w : Bool) (e : Expr2 F) (rest : List (Token F)) (n : Nat)
    (hres : Resolved ([] : List (Str × FnDefSpec F)) e)
    (hd : depth2 ([] : List (Str × FnDefSpec F)) 33 e < Extracted.nestingLimit)
    (hn : depth2 ([] : List (Str × FnDefSpec F)) 33 e + 1 ≤ n) (hrest : Follows rest) :
    ReadyW ({ imm := [] ++ render2 e ++ rest, warnings := w } : St F) (emptyEnv F) [] e rest 33 n where
  toks := rfl
  idx := rfl
  envOf := ⟨rfl, rfl, rfl, rfl, fun _ _ => rfl, fun _ _ h => by cases h⟩
  arrays_ok := by intro p hp; cases hp
  rng_ok := by show (0 : Nat) < 2 ^ 33; decide
  stack := by show (0 : Nat) ≤ _; exact Nat.zero_le _
  specFuel := by show Extracted.stackLimit < 33 + 0; decide
  resolved := hres
  bodies := fun _ _ h => by cases h
  nesting := by show 0 + _ < _; rw [Nat.zero_add]; exact hd
  fuel := hn
  follows := hrest

def xPlusA (x : F) : Expr2 F := .bin .add (.var "X".toList) (.cell "A".toList [.num x])

theorem xPlusA_render (x : F) : render2 (xPlusA x) =
    [.symbol "X".toList, .kw .Plus, .symbol "A".toList, .kw .LeftParen, .num x, .kw .RightParen] := by
  simp [xPlusA, render2, renderAt2, renderArgs, Expr2.prec, BinOp.prec, BinOp.token]

theorem xPlusA_fold (x : F) (hx : NumOps.toI64 x = 3) :
    fold2 33 (emptyEnv F) (xPlusA x)
      = .ok (.num (NumOps.add NumOps.zero NumOps.zero), { emptyEnv F with arrays := arrA F }) := by
  simp [xPlusA, fold2, foldIdx, subscript, hx, readCell, emptyEnv, alGet, ArrayV.create, dimSizes,
    Extracted.defaultArraySize, Extracted.maxDimTotalElements, endsWithDollar, readAt, linearIndex, linearIndexAux,
    ArrayV.dims, alSet, arrA, RefEnv.lookup, lookupFrames, Value.defaultFor, BinOp.eval]

theorem xPlusA_warns (x : F) (hx : NumOps.toI64 x = 3) :
    warnsOf true [] 33 none (emptyEnv F) (xPlusA x)
      = [.warning (undeclVarMsg "X".toList) none, .warning (undeclArrMsg "A".toList) none] := by
  simp [xPlusA, warnsOf, warnsIdx, warnVar, warnCell, fold2, foldIdx, subscript, hx, emptyEnv, alGet, alHas,
    RefEnv.lookup, lookupFrames]

/-- `X + A(3)` on a fresh interpreter with warnings ON: value 0 + 0, the default
    array is created, and the queue holds the two warnings — variable first,
    array second (the queue is newest first). -/
example (x : F) (hx : NumOps.toI64 x = 3) :
    ∃ r, orExpr (evalN defaultFuel) ({ imm := [.symbol "X".toList, .kw .Plus, .symbol "A".toList, .kw .LeftParen, .num x, .kw .RightParen], warnings := true } : St F)
      = .ok (.num (NumOps.add NumOps.zero NumOps.zero))
          ({ imm := [.symbol "X".toList, .kw .Plus, .symbol "A".toList, .kw .LeftParen, .num x, .kw .RightParen],
             warnings := true, loc := { line := none, idx := 6 }, reads := r, arrays := arrA F,
             out := [.warning (undeclArrMsg "A".toList) none, .warning (undeclVarMsg "X".toList) none] } : St F) := by
  have hR := readyW_immediate (F := F) true (xPlusA x) [] defaultFuel
    (by simp only [xPlusA, Resolved, ResolvedL, alGet, and_true, true_and]; decide)
    (by simp [xPlusA, depth2, depthArgs, Expr2.prec, BinOp.prec, Extracted.nestingLimit])
    (by simp [xPlusA, depth2, depthArgs, Expr2.prec, BinOp.prec, defaultFuel, Extracted.nestingLimit]) follows_nil
  obtain ⟨r, _, hr⟩ := eval_render2_warn_on _ 33 defaultFuel _ _ [] [] hR rfl _ _ (xPlusA_fold x hx)
  refine ⟨r, ?_⟩
  have hw := xPlusA_warns x hx
  simp only at hr
  rw [hw, xPlusA_render] at hr
  exact hr

def absTokens : List (Token F) :=
  [.kw .Def, .symbol "ABS".toList, .kw .LeftParen, .symbol "X".toList, .kw .RightParen, .kw .Equals, .symbol "X".toList]

def absState (a : F) : St F :=
  { lines := { map := [(10, absTokens)], sorted := [10] },
    fns := [("ABS".toList, { args := ["X".toList], line := 10, idx := 6 })],
    imm := [.symbol "ABS".toList, .kw .LeftParen, .num a, .kw .RightParen] }

def absEnv (F : Type) : RefEnv F :=
  { vars := [], frames := [], arrays := [], rng := 0,
    fns := [("ABS".toList, { params := ["X".toList], body := .var "X".toList })] }

theorem abs_norm (a : F) : normalize (absEnv F).fns (.call "ABS".toList [.num a]) = .abs (.num a) := by
  have h : ("ABS".toList == Extracted.builtinAbs.toList) = true := by decide
  rw [normalize, normalizeL, normalizeL, normalize]
  unfold resolveNode
  rw [if_pos h]

theorem abs_normFns : normFns (absEnv F).fns = (absEnv F).fns := by
  simp [normFns, absEnv, normalize]

theorem abs_ready (a : F) :
    ReadyAny (absState a) (absEnv F) [] (.call "ABS".toList [.num a]) [] 33 defaultFuel where
  toks := by
    have : render2 (.call "ABS".toList [.num a] : Expr2 F)
        = [.symbol "ABS".toList, .kw .LeftParen, .num a, .kw .RightParen] := by simp [render2, renderArgs]
    rw [this]; rfl
  idx := rfl
  envOf := {
    vars := rfl
    frames := rfl
    arrays := rfl
    rng := rfl
    fns_undef := by
      intro name h
      simp only [absEnv, absState, alGet] at h ⊢
      split at h
      · cases h
      · rename_i hk; simp only [hk]; rfl
    fns_def := by
      intro name d h
      obtain ⟨rfl, rfl⟩ := alGet_single _ _ _ _ h
      refine ⟨{ args := ["X".toList], line := 10, idx := 6 }, absTokens.take 6, [], ?_, rfl, ?_, rfl, follows_nil⟩
      · simp [absState, alGet]
      · have : render2 (.var "X".toList : Expr2 F) = [.symbol "X".toList] := by simp [render2]
        rw [this]; rfl }
  arrays_ok := by intro p hp; cases hp
  rng_ok := by show (0 : Nat) < 2 ^ 33; decide
  stack := by show (0 : Nat) ≤ _; exact Nat.zero_le _
  specFuel := by show Extracted.stackLimit < 33 + 0; decide
  arity := by simp [Arity1, Arity1L]
  bodies := by
    intro name d h
    obtain ⟨rfl, rfl⟩ := alGet_single _ _ _ _ h
    simp only [Arity1]
  nesting := by
    show 0 + _ < _
    rw [abs_norm]
    simp [depth2, Extracted.nestingLimit]
  fuel := by
    rw [abs_norm]
    simp [depth2, defaultFuel, Extracted.nestingLimit]
  follows := follows_nil

/-- `10 DEF ABS(X) = X` is stored, but `ABS(a)` is the built-in: the value is `|a|`, not `a`; no frame is
    pushed, the cursor never leaves the line. -/
example (a : F) : ∃ r, orExpr (evalN defaultFuel) (absState a)
    = .ok (.num (NumOps.abs a)) { absState a with loc := { line := none, idx := 4 }, reads := r } := by
  have hf : fold2 33 (normEnv (absEnv F)) (normalize (absEnv F).fns (.call "ABS".toList [.num a]))
      = .ok (.num (NumOps.abs a), normEnv (absEnv F)) := by
    rw [abs_norm]; simp [fold2]
  obtain ⟨r, _, hr, _⟩ := (eval_render2_any_partial _ 33 defaultFuel _ _ [] [] (abs_ready a) rfl).1 _ _ hf
  refine ⟨r, ?_⟩
  have : render2 (.call "ABS".toList [.num a] : Expr2 F)
      = [.symbol "ABS".toList, .kw .LeftParen, .num a, .kw .RightParen] := by simp [render2, renderArgs]
  rw [hr, this]
  rfl

end Examples
end DemoNames

end Abasic.Props.C02
