import Abasic.Props.C12
import Abasic.Proofs.TokFast
/-
  C12 continued: the number and identifier scans respect an inserted blank, hence
  so does one `chomp_next_token` step on unprotected tokens, hence so does the
  whole tokenizer loop on a line without protected tokens (strings, REM, DATA).
  Removing a blank is the same relation read from right to left.
-/
namespace Abasic.Props.C12
open Abasic

theorem numLoop_ins (w : Char) (hw : isBasicWs w = true) {r r' : Str} (h : Ins w r r') :
    (numLoop r).1 = (numLoop r').1 ∧ Ins w (numLoop r).2 (numLoop r').2 :=
  numLoop_rel (respects_ins w hw) h

theorem symLoop_ins (first : Bool) (w : Char) (hw : isBasicWs w = true) {r r' : Str} (h : Ins w r r') :
    (symLoop first r).1 = (symLoop first r').1 ∧ Ins w (symLoop first r).2 (symLoop first r').2 :=
  symLoop_rel (respects_ins w hw) first h

variable {F : Type} [NumOps F]

def ChompIns (w : Char) : Chomp F → Chomp F → Prop
  | .tok t r, .tok t' r' => t = t' ∧ Ins w r r'
  | .illegalChar, .illegalChar => True
  | .invalidNumber r, .invalidNumber r' => Ins w r r'
  | _, _ => False

theorem nextToken_ins_cases (w : Char) (hw : isBasicWs w = true) (c : Char) {t t' : Str}
    (h : Ins w (c :: t) (c :: t')) :
    ChompIns w (nextToken (F := F) (c :: t)) (nextToken (F := F) (c :: t')) ∨
    (ProtectedOutcome (nextToken (F := F) (c :: t)) ∧ ProtectedOutcome (nextToken (F := F) (c :: t'))) :=
  (nextToken_rel (respects_ins w hw) rfl h).outcome (fun _ _ _ hr => ⟨rfl, hr⟩) trivial fun _ _ hr => hr

theorem nextToken_ins_unprotected (w : Char) (hw : isBasicWs w = true) (c : Char) {t t' : Str}
    (h : Ins w (c :: t) (c :: t')) (tk : Token F) (rest : Str) (hu : Unprotected tk = true)
    (hn : nextToken (F := F) (c :: t) = .tok tk rest) :
    ∃ rest', nextToken (F := F) (c :: t') = .tok tk rest' ∧ Ins w rest rest' :=
  (nextToken_rel (respects_ins w hw) rfl h).unprotected hu hn

theorem nextToken_del_unprotected (w : Char) (hw : isBasicWs w = true) (c : Char) {t t' : Str}
    (h : Ins w (c :: t) (c :: t')) (tk : Token F) (rest' : Str) (hu : Unprotected tk = true)
    (hn : nextToken (F := F) (c :: t') = .tok tk rest') :
    ∃ rest, nextToken (F := F) (c :: t) = .tok tk rest ∧ Ins w rest rest' :=
  (nextToken_rel (respects_ins w hw).flip rfl h).unprotected hu hn

theorem tokLoop_ins_unprotected (w : Char) (hw : isBasicWs w = true) (fuel : Nat) :
    ∀ {cs cs' : Str}, Ins w cs cs' → ∀ (fuel' idx idx' : Nat) (acc acc' : List (RangedToken F)),
    fuel ≤ fuel' → acc.map (·.1) = acc'.map (·.1) →
    (tokLoop fuel cs idx acc).2 = none →
    (∀ x ∈ (tokLoop fuel cs idx acc).1, Unprotected x.1 = true) →
    (tokLoop fuel' cs' idx' acc').2 = none ∧
    (tokLoop fuel' cs' idx' acc').1.map (·.1) = (tokLoop fuel cs idx acc).1.map (·.1) :=
  fun h fuel' idx idx' acc acc' => tokLoop_rel_unprotected (respects_ins w hw) h fuel fuel' idx idx' acc acc'

/-- A line that tokenizes without error into unprotected tokens only tokenizes
    into the very same tokens after a blank is inserted anywhere. -/
theorem tokenize_ins_unprotected (w : Char) (hw : isBasicWs w = true) {line line' : Str}
    (h : Ins w line line') (ts : List (Token F)) (hok : tokenize (F := F) line 0 = .ok ts)
    (hun : ∀ t ∈ ts, Unprotected t = true) : tokenize (F := F) line' 0 = .ok ts := by
  rw [tokenize_iff_toks] at hok ⊢
  exact toks_rel (respects_ins w hw) hok h hun

inductive InsBlanks : Str → Str → Prop
  | refl (r : Str) : InsBlanks r r
  | step {a b c : Str} (w : Char) : InsBlanks a b → isBasicWs w = true → Ins w b c → InsBlanks a c

/-- Inserting any number of blanks anywhere in a line without protected tokens
    changes no token. -/
theorem tokenize_insBlanks_unprotected {line line' : Str} (h : InsBlanks line line') (ts : List (Token F))
    (hok : tokenize (F := F) line 0 = .ok ts) (hun : ∀ t ∈ ts, Unprotected t = true) :
    tokenize (F := F) line' 0 = .ok ts := by
  induction h with
  | refl => exact hok
  | step w _ hw hi ih => exact tokenize_ins_unprotected w hw hi ts ih hun

theorem tokLoop_del_unprotected (w : Char) (hw : isBasicWs w = true) (fuel : Nat) :
    ∀ {cs cs' : Str}, Ins w cs cs' → ∀ (fuel' idx idx' : Nat) (acc acc' : List (RangedToken F)),
    fuel ≤ fuel' → acc.map (·.1) = acc'.map (·.1) →
    (tokLoop fuel cs' idx' acc').2 = none →
    (∀ x ∈ (tokLoop fuel cs' idx' acc').1, Unprotected x.1 = true) →
    (tokLoop fuel' cs idx acc).2 = none ∧
    (tokLoop fuel' cs idx acc).1.map (·.1) = (tokLoop fuel cs' idx' acc').1.map (·.1) :=
  fun h fuel' idx idx' acc acc' hf hacc =>
    tokLoop_rel_unprotected (respects_ins w hw).flip h fuel fuel' idx' idx acc' acc hf hacc.symm

/-- Non-vacuity: the hypotheses of the line theorem hold for `GOTOX` (keyword GOTO, then
    the identifier `X`), so `GO TOX` gives the same two tokens. -/
example : tokenize (F := Unit) "GO TOX".toList 0 = .ok [.kw .Goto, .symbol ['X']] := by
  -- the literals as lists of characters first: decoding them inside the unifier is what is slow
  refine tokenize_ins_unprotected ' ' (by decide) (line := "GOTOX".toList) ?_ _ ?_ (by decide)
  all_goals literal_chars
  · exact Ins.at ' ' _ 2
  · rw [Fast.tokenize_eq]; rfl

end Abasic.Props.C12
