import Abasic.Props.C20
import Abasic.Props.C05More
/-
  C20, continued — the encoder of semantic tokens and the conversion of diagnostics,
  for any token lists and any analysis value.

  `decode` inverts the LSP delta encoding: whenever the encoder succeeds on per-line
  token lists that are strictly ordered chains of non-empty ranges on character
  boundaries (`LinesOk`), the decoded tokens are those lists at their absolute positions,
  well formed as spelled out at `delta_decodes_ordered`.
  The token list the analyzer records for a line (`lineToks`) is such a chain,
  and on such chains the encoder never fails.
  `diags_filterMap`: whenever the diagnostics conversion succeeds its result is the
  analyzer's messages, positioned; they are inside their lines, ordered when the
  recorded ranges are, and the conversion succeeds when every message maps to an
  existing line.
  What follows for every DOCUMENT (`semantic_tokens_ok`, `diags_in_bounds`) is at the
  head of C20Server.lean.
-/
namespace Abasic.Props.C20
open Abasic

variable {F : Type} [NumOps F]

/-- an absolute token: line, start column, length, type index -/
abbrev Dec := Nat × Nat × Nat × Nat

/-- the LSP client's decoder, started at an absolute position -/
def decodeFrom : Nat → Nat → List SemTok → List Dec
  | _, _, [] => []
  | line, col, t :: ts =>
    (line + t.deltaLine, (if t.deltaLine = 0 then col + t.deltaStart else t.deltaStart), t.length, t.tokenType) ::
      decodeFrom (line + t.deltaLine) (if t.deltaLine = 0 then col + t.deltaStart else t.deltaStart) ts

def decode (ts : List SemTok) : List Dec := decodeFrom 0 0 ts

/-- what one line's tokens should decode to -/
def lineAbs (text : Str) (n : Nat) (lt : List (TokenType × Nat × Nat)) : List Dec :=
  lt.map fun p => (n, utf16Col text p.2.1, utf16Col text p.2.2 - utf16Col text p.2.1, Extracted.lspIndex p.1)

/-- what a document's tokens should decode to (first line has number `n`) -/
def absToks : List Str → List (List (TokenType × Nat × Nat)) → Nat → List Dec
  | text :: texts, lt :: lts, n => lineAbs text n lt ++ absToks texts lts (n + 1)
  | _, _, _ => []

/-- Decoding what `semTokLine` emitted gives back the line's tokens at their
    absolute positions; the decoder state `(pl, C)` agrees with the encoder state
    `(pl, ps)` (when still on an earlier line the encoder's `ps` is 0). -/
theorem decode_line (text : Str) (lineNo : Nat) (lt : List (TokenType × Nat × Nat)) (pl ps C : Nat)
    (toks : List SemTok) (pl' : Nat) (more : List SemTok)
    (h : semTokLine text lineNo lt pl ps = some (toks, pl'))
    (hpl : pl ≤ lineNo) (hC : pl = lineNo → C = ps) (hps : pl < lineNo → ps = 0) :
    ∃ C', decodeFrom pl C (toks ++ more) = lineAbs text lineNo lt ++ decodeFrom pl' C' more ∧ pl' ≤ lineNo := by
  induction lt generalizing pl ps C toks with
  | nil =>
    simp only [semTokLine, Option.some.injEq, Prod.mk.injEq] at h
    obtain ⟨rfl, rfl⟩ := h
    exact ⟨C, by simp [lineAbs], hpl⟩
  | cons e rest ih =>
    obtain ⟨tt, a, b⟩ := e
    obtain ⟨_, hs, he, toks', hr, rfl⟩ := semTokLine_cons_some h
    obtain ⟨C', hdec, hle⟩ := ih lineNo (utf16Col text a) (utf16Col text a) toks' hr (Nat.le_refl _)
      (fun _ => rfl) (fun hlt => absurd hlt (Nat.lt_irrefl _))
    refine ⟨C', ?_, hle⟩
    have hline : pl + (lineNo - pl) = lineNo := by omega
    have hcol : (if lineNo - pl = 0 then C + (utf16Col text a - ps) else utf16Col text a - ps) = utf16Col text a := by
      by_cases hz : lineNo - pl = 0
      · have : pl = lineNo := by omega
        have := hC this
        simp only [hz, if_true]; omega
      · have : ps = 0 := hps (by omega)
        simp only [hz, if_false]; omega
    simp only [List.cons_append, decodeFrom, hline, hcol, hdec, lineAbs, List.map_cons]

theorem decode_lines (lines : List Str) (toks : List (List (TokenType × Nat × Nat))) (lineNo pl C : Nat)
    (out : List SemTok) (h : semTokLines lines toks lineNo pl = some out)
    (hpl : pl ≤ lineNo) (hC : pl = lineNo → C = 0) :
    decodeFrom pl C out = absToks lines toks lineNo := by
  induction toks generalizing lines lineNo pl C out with
  | nil =>
    cases lines <;> simp only [semTokLines, Option.some.injEq] at h <;> subst h <;> simp [decodeFrom, absToks]
  | cons lt lts ih =>
    cases lines with
    | nil => simp [semTokLines] at h
    | cons text texts =>
      simp only [semTokLines] at h
      cases h1 : semTokLine text lineNo lt pl 0 with
      | none => simp [h1] at h
      | some p =>
        obtain ⟨ts, pl'⟩ := p
        simp only [h1] at h
        cases h2 : semTokLines texts lts (lineNo + 1) pl' with
        | none => simp [h2] at h
        | some more =>
          simp only [h2, Option.some.injEq] at h
          subst h
          obtain ⟨C', hdec, hle⟩ := decode_line text lineNo lt pl 0 C ts pl' more h1 hpl hC (fun _ => rfl)
          rw [hdec, ih texts (lineNo + 1) pl' C' more h2 (by omega) (fun hEq => by omega)]
          simp [absToks]

theorem decode_semTokLines (lines : List Str) (toks : List (List (TokenType × Nat × Nat))) (out : List SemTok)
    (h : semTokLines lines toks 0 0 = some out) : decode out = absToks lines toks 0 :=
  decode_lines lines toks 0 0 0 out h (Nat.le_refl _) (fun _ => rfl)

def Boundary (text : Str) (a : Nat) : Prop := ∃ p s, text = p ++ s ∧ len8 p = a

theorem utf16Len_append (a b : Str) : utf16Len (a ++ b) = utf16Len a + utf16Len b := by
  simp [utf16Len]

theorem utf16Len_pos {a : Str} (h : a ≠ []) : 0 < utf16Len a := by
  cases a with
  | nil => exact absurd rfl h
  | cons c a =>
    simp only [utf16Len, List.map_cons, List.sum_cons, utf16Units]
    split <;> omega

theorem col_strict (text : Str) (a b : Nat) (ha : Boundary text a) (hb : Boundary text b) (h : a < b) :
    utf16Col text a < utf16Col text b := by
  obtain ⟨p1, s1, h1, rfl⟩ := ha
  obtain ⟨p2, s2, h2, rfl⟩ := hb
  have heq : p1 ++ s1 = p2 ++ s2 := by rw [← h1, ← h2]
  rcases List.append_eq_append_iff.mp heq with ⟨m, hm, _⟩ | ⟨m, hm, _⟩
  · have hne : m ≠ [] := by
      intro hnil; subst hnil; simp only [List.append_nil] at hm; subst hm; omega
    have c1 : utf16Col text (len8 p1) = utf16Len p1 := by rw [h1]; exact col_of_prefix p1 s1
    have c2 : utf16Col text (len8 p2) = utf16Len p2 := by rw [h2]; exact col_of_prefix p2 s2
    rw [c1, c2, hm, utf16Len_append]
    have := utf16Len_pos hne
    omega
  · rw [hm, C13.len8_append] at h; omega

/-- `lo ≤ a₁ < b₁ ≤ a₂ < b₂ ≤ …`, every `aᵢ`, `bᵢ` on a character boundary of `text`:
    the per-line hypothesis of `delta_decodes_ordered` (it is what `C05.lineTokens_ranges`
    gives for the tokens of a line, see `lineChain_of_wf`). -/
def LineChain (text : Str) : Nat → List (TokenType × Nat × Nat) → Prop
  | _, [] => True
  | lo, (_, a, b) :: rest => lo ≤ a ∧ a < b ∧ Boundary text a ∧ Boundary text b ∧ LineChain text b rest

def LinesOk (lines : List Str) (toks : List (List (TokenType × Nat × Nat))) : Prop :=
  ∀ (i : Nat) (text : Str) (lt : List (TokenType × Nat × Nat)), lines[i]? = some text → toks[i]? = some lt → LineChain text 0 lt

theorem LinesOk.head {t : Str} {ts : List Str} {l : List (TokenType × Nat × Nat)}
    {ls : List (List (TokenType × Nat × Nat))} (h : LinesOk (t :: ts) (l :: ls)) : LineChain t 0 l := h 0 t l rfl rfl

theorem LinesOk.tail {t : Str} {ts : List Str} {l : List (TokenType × Nat × Nat)}
    {ls : List (List (TokenType × Nat × Nat))} (h : LinesOk (t :: ts) (l :: ls)) : LinesOk ts ls :=
  fun i text lt h1 h2 => h (i + 1) text lt (by simpa using h1) (by simpa using h2)

/-- `x` comes strictly before `y` in (line, column) order and does not reach into it -/
def Before (x y : Dec) : Prop :=
  x.1 < y.1 ∨ (x.1 = y.1 ∧ x.2.1 < y.2.1 ∧ x.2.1 + x.2.2.1 ≤ y.2.1)

/-- positive length, inside its (existing) line, type inside the legend -/
def TokOk (lines : List Str) (d : Dec) : Prop :=
  0 < d.2.2.1 ∧ d.2.2.2 < Extracted.lspLegend.length ∧
    ∃ text, lines[d.1]? = some text ∧ d.2.1 + d.2.2.1 ≤ utf16Len text

def WellFormed (lines : List Str) (ds : List Dec) : Prop :=
  ds.Pairwise Before ∧ ∀ d ∈ ds, TokOk lines d

/-- one line: all tokens on line `n`, at or after column `utf16Col text lo`, ordered, in bounds -/
theorem lineAbs_ok (text : Str) (n lo : Nat) (lt : List (TokenType × Nat × Nat)) (h : LineChain text lo lt) :
    (lineAbs text n lt).Pairwise Before ∧
    ∀ d ∈ lineAbs text n lt, d.1 = n ∧ utf16Col text lo ≤ d.2.1 ∧ 0 < d.2.2.1 ∧
      d.2.2.2 < Extracted.lspLegend.length ∧ d.2.1 + d.2.2.1 ≤ utf16Len text := by
  induction lt generalizing lo with
  | nil => simp [lineAbs]
  | cons e rest ih =>
    obtain ⟨tt, a, b⟩ := e
    obtain ⟨hlo, hab, hba, hbb, hrest⟩ := h
    obtain ⟨ihp, iha⟩ := ih b hrest
    have hs := col_strict text a b hba hbb hab
    have hm := col_monotone text lo a hlo
    have hbd := col_in_bounds text b
    simp only [lineAbs, List.map_cons] at ihp iha ⊢
    refine ⟨List.pairwise_cons.mpr ⟨?_, ihp⟩, ?_⟩
    · intro d hd
      obtain ⟨h1, h2, _⟩ := iha d hd
      refine .inr ⟨h1.symm, ?_, ?_⟩ <;> simp only <;> omega
    · intro d hd
      rcases List.mem_cons.mp hd with rfl | hd
      · exact ⟨rfl, hm, by simp only; omega, type_in_legend tt, by simp only; omega⟩
      · obtain ⟨h1, h2, h3⟩ := iha d hd
        exact ⟨h1, by omega, h3⟩

theorem absToks_ok (texts : List Str) (lts : List (List (TokenType × Nat × Nat))) (n : Nat)
    (h : LinesOk texts lts) :
    (absToks texts lts n).Pairwise Before ∧
    ∀ d ∈ absToks texts lts n, n ≤ d.1 ∧ 0 < d.2.2.1 ∧ d.2.2.2 < Extracted.lspLegend.length ∧
      ∃ text, texts[d.1 - n]? = some text ∧ d.2.1 + d.2.2.1 ≤ utf16Len text := by
  induction texts generalizing lts n with
  | nil => simp [absToks]
  | cons text texts ih =>
    cases lts with
    | nil => simp [absToks]
    | cons lt lts =>
      obtain ⟨hp1, ha1⟩ := lineAbs_ok text n 0 lt h.head
      obtain ⟨hp2, ha2⟩ := ih lts (n + 1) h.tail
      simp only [absToks]
      refine ⟨List.pairwise_append.mpr ⟨hp1, hp2, ?_⟩, ?_⟩
      · intro x hx y hy
        have := (ha1 x hx).1
        have := (ha2 y hy).1
        exact .inl (by omega)
      · intro d hd
        rcases List.mem_append.mp hd with hd | hd
        · obtain ⟨h1, _, h3, h4, h5⟩ := ha1 d hd
          exact ⟨by omega, h3, h4, text, by simp [h1], h5⟩
        · obtain ⟨h1, h3, h4, t, ht, h5⟩ := ha2 d hd
          refine ⟨by omega, h3, h4, t, ?_, h5⟩
          have : d.1 - n = (d.1 - (n + 1)) + 1 := by omega
          rw [this]; simpa using ht

/-- When the encoder succeeds on token lists that are, per line, strictly
    ordered chains of non-empty ranges on character boundaries, the client's decoding
    of its output is exactly the tokens at their absolute positions (`absToks`), and
    these are strictly ordered by (line, column), never overlap (`start + length ≤`
    the next start on the same line), have positive length, end within the UTF-16
    length of their (existing) line, and have a type index inside the legend. -/
theorem delta_decodes_ordered (lines : List Str) (toks : List (List (TokenType × Nat × Nat))) (out : List SemTok)
    (h : semTokLines lines toks 0 0 = some out) (hok : LinesOk lines toks) :
    decode out = absToks lines toks 0 ∧ WellFormed lines (decode out) := by
  have hd := decode_semTokLines lines toks out h
  obtain ⟨hp, ha⟩ := absToks_ok lines toks 0 hok
  refine ⟨hd, ?_, ?_⟩
  · rw [hd]; exact hp
  · rw [hd]
    intro d hdm
    obtain ⟨_, h2, h3, t, ht, h5⟩ := ha d hdm
    exact ⟨h2, h3, t, by simpa using ht, h5⟩

/-- the same, spelled out on adjacent and arbitrary pairs of decoded tokens -/
theorem delta_decodes_ordered' (lines : List Str) (toks : List (List (TokenType × Nat × Nat))) (out : List SemTok)
    (h : semTokLines lines toks 0 0 = some out) (hok : LinesOk lines toks) :
    (∀ i j (hi : i < j) (hj : j < (decode out).length),
      let x := (decode out)[i]'(Nat.lt_trans hi hj); let y := (decode out)[j]
      x.1 < y.1 ∨ (x.1 = y.1 ∧ x.2.1 < y.2.1 ∧ x.2.1 + x.2.2.1 ≤ y.2.1)) ∧
    (∀ d ∈ decode out, 0 < d.2.2.1 ∧ d.2.2.2 < Extracted.lspLegend.length ∧
      ∃ text, lines[d.1]? = some text ∧ d.2.1 + d.2.2.1 ≤ utf16Len text) := by
  obtain ⟨_, hp, ha⟩ := delta_decodes_ordered lines toks out h hok
  refine ⟨?_, ha⟩
  intro i j hi hj
  exact (List.pairwise_iff_getElem.mp hp) i j (Nat.lt_trans hi hj) hj hi

/-- the semantic-token list `analyzeLine` records for one file line -/
def lineToks (F : Type) [NumOps F] (line : Str) : List (TokenType × Nat × Nat) :=
  if line.isEmpty then []
  else
    match parseLineNumber line with
    | none => []
    | some (_, lnEnd) =>
      match tokenizeRanges (F := F) line lnEnd with
      | (toks, none) => (Extracted.numberType, 0, lnEnd) :: toks.map fun p => (p.1.tokenType, p.2.1, p.2.2)
      | (_, some _) => [(Extracted.numberType, 0, lnEnd)]

/-- it is the list `C05.lineTokens_ranges` speaks of -/
theorem lineToks_eq : lineToks F = C05.lineTokensOf F := rfl

/-- `C05.TokensWF` (an ordered chain of spans of whole characters) is `LineChain`. -/
theorem lineChain_of_wf {line : Str} {lo : Nat} {l : List (TokenType × Nat × Nat)}
    (hc : C05.SChain lo l) (hs : ∀ ty a b, (ty, a, b) ∈ l → C05.Span line a b) : LineChain line lo l := by
  induction l generalizing lo with
  | nil => trivial
  | cons e rest ih =>
    obtain ⟨ty, a, b⟩ := e
    obtain ⟨h1, h2, h3⟩ := hc
    have hp := (hs ty a b (List.mem_cons_self ..)).prefixes
    exact ⟨h1, h2, hp.1, hp.2, ih h3 fun ty' a' b' hm => hs ty' a' b' (List.mem_cons_of_mem _ hm)⟩

/-- The token list of every line is a strictly ordered chain of non-empty
    ranges on character boundaries. -/
theorem lineToks_chain (line : Str) : LineChain line 0 (lineToks F line) := by
  rw [lineToks_eq]
  exact lineChain_of_wf (C05.lineTokensOf_wf line).1 (C05.lineTokensOf_wf line).2

theorem linesOk_map (lines : List Str) : LinesOk lines (lines.map (lineToks F)) := by
  intro i text lt h1 h2
  simp only [List.getElem?_map, h1, Option.map_some, Option.some.injEq] at h2
  subst h2
  exact lineToks_chain text

/-- with in-bounds chains for every line and no more token lists than lines, the encoder succeeds -/
theorem semTokLine_some (text : Str) (lineNo lo : Nat) (lt : List (TokenType × Nat × Nat)) (pl ps : Nat)
    (h : LineChain text lo lt) (hpl : pl ≤ lineNo) (hps : ps ≤ utf16Col text lo) :
    ∃ toks pl', semTokLine text lineNo lt pl ps = some (toks, pl') ∧ pl' ≤ lineNo := by
  induction lt generalizing lo pl ps with
  | nil => exact ⟨[], pl, rfl, hpl⟩
  | cons e rest ih =>
    obtain ⟨tt, a, b⟩ := e
    obtain ⟨hlo, hab, _, _, hrest⟩ := h
    have h1 := col_monotone text lo a hlo
    have h2 := col_monotone text a b (Nat.le_of_lt hab)
    obtain ⟨toks, pl', hr, hle⟩ := ih b lineNo (utf16Col text a) hrest (Nat.le_refl _) h2
    have hc : (decide (lineNo < pl) || decide (utf16Col text a < ps) || decide (utf16Col text b < utf16Col text a)) = false := by
      simp only [Bool.or_eq_false_iff, decide_eq_false_iff_not, Nat.not_lt]
      omega
    simp only [semTokLine, hc, Bool.false_eq_true, if_false, hr]
    exact ⟨_, _, rfl, hle⟩

theorem semTokLines_some (lines : List Str) (toks : List (List (TokenType × Nat × Nat))) (lineNo pl : Nat)
    (hok : LinesOk lines toks) (hlen : toks.length ≤ lines.length) (hpl : pl ≤ lineNo) :
    ∃ out, semTokLines lines toks lineNo pl = some out := by
  induction toks generalizing lines lineNo pl with
  | nil => cases lines <;> exact ⟨[], by simp [semTokLines]⟩
  | cons lt lts ih =>
    cases lines with
    | nil => simp at hlen
    | cons text texts =>
      obtain ⟨ts, pl', h1, hle⟩ := semTokLine_some text lineNo 0 lt pl 0 hok.head hpl (Nat.zero_le _)
      obtain ⟨more, h2⟩ := ih texts (lineNo + 1) pl' hok.tail (by simpa using hlen) (by omega)
      exact ⟨ts ++ more, by simp only [semTokLines, h1, h2]⟩

def RecOk (r : LineRanges) : Prop :=
  (∀ trs, r.tokenRanges = some trs → ∀ p ∈ trs, p.1 ≤ p.2) ∧ (∀ p, r.tokErrRange = some p → p.1 ≤ p.2)

def RangesOk (m : FileMap) : Prop := ∀ r ∈ m.ranges, RecOk r

theorem lineRangesOf_ok (line : Str) : RecOk (C05.lineRangesOf F line) :=
  ⟨fun trs ht p hp => (C05.lineRangesOf_recorded (.inr (.inr ⟨trs, ht, hp⟩))).bounds.1,
   fun p hp => (C05.lineRangesOf_recorded (.inr (.inl hp))).bounds.1⟩

/-- whatever `map_to_source` returns is an ordered byte range on an existing file line -/
theorem mapDiag_range (m : FileMap) (d : Diag) (f x y : Nat) (h : m.mapDiag d = some (some (f, x, y))) :
    f < m.ranges.length ∧ (RangesOk m → x ≤ y) := by
  obtain ⟨r, hr, hrec⟩ := C05.mapDiag_recorded h
  refine ⟨(List.getElem?_eq_some_iff.mp hr).1, fun hok => ?_⟩
  obtain ⟨h1, h2⟩ := hok r (List.mem_of_getElem? hr)
  rcases hrec with ⟨rfl, _⟩ | h | ⟨trs, ht, hm⟩
  · exact Nat.zero_le _
  · exact h2 _ h
  · exact h1 trs ht _ hm

def fileLine : Diag → Nat
  | .warning f _ _ => f
  | .error f _ => f

/-- `map_to_source` does not hit its index panic for a diagnostic on an existing file line -/
theorem mapDiag_some (m : FileMap) (d : Diag) (hf : fileLine d < m.ranges.length) :
    ∃ r, m.mapDiag d = some r := by
  cases d with
  | warning fl loc msg =>
    cases loc with
    | none =>
      simp only [fileLine] at hf
      simp only [FileMap.mapDiag, List.getElem?_eq_getElem hf]
      exact ⟨_, rfl⟩
    | some p => exact ⟨_, rfl⟩
  | error fl e =>
    simp only [fileLine] at hf
    simp only [FileMap.mapDiag, List.getElem?_eq_getElem hf]
    split
    · exact ⟨_, rfl⟩
    · split <;> exact ⟨_, rfl⟩

/-- one step of the fold in `lspDiagnostics` -/
def diagStep (a : Analysis F) (acc : Option (List LspDiag)) (d : Diag) : Option (List LspDiag) :=
  match acc with
  | none => none
  | some ds =>
    match a.map.mapDiag d with
    | none => none
    | some none => some ds
    | some (some (f, x, y)) =>
      match a.lines[f]? with
      | none => none
      | some text =>
        let (isErr, msg) : Bool × Str := match d with
          | .warning _ _ m => (false, m)
          | .error _ e => (true, errText e)
        some (ds ++ [{ line := f, startCol := utf16Col text x, endCol := utf16Col text y, isError := isErr, text := msg }])

omit [NumOps F] in
theorem lspDiagnostics_eq (a : Analysis F) : lspDiagnostics a = a.messages.foldl (diagStep a) (some []) := rfl

def DiagOk (lines : List Str) (d : LspDiag) : Prop :=
  d.line < lines.length ∧ ∃ text, lines[d.line]? = some text ∧ d.startCol ≤ d.endCol ∧ d.endCol ≤ utf16Len text

/-- without the ordering of the recorded byte ranges: both columns are still inside the line -/
def DiagIn (lines : List Str) (d : LspDiag) : Prop :=
  d.line < lines.length ∧ ∃ text, lines[d.line]? = some text ∧ d.startCol ≤ utf16Len text ∧ d.endCol ≤ utf16Len text

/-- the LSP diagnostic of one analyzer message: its file position converted to UTF-16
    columns, severity and text; `none` when the message has no position -/
def diagAt (a : Analysis F) (d : Diag) : Option LspDiag :=
  match a.map.mapDiag d with
  | some (some (f, x, y)) =>
    (a.lines[f]?).map fun text =>
      { line := f, startCol := utf16Col text x, endCol := utf16Col text y,
        isError := (match d with | .warning _ _ _ => false | .error _ _ => true),
        text := (match d with | .warning _ _ m => m | .error _ e => errText e) }
  | _ => none

omit [NumOps F] in
theorem diagAt_some (a : Analysis F) (d : Diag) (x : LspDiag) (h : diagAt a d = some x) :
    ∃ f s e text, a.map.mapDiag d = some (some (f, s, e)) ∧ a.lines[f]? = some text ∧
      x.line = f ∧ x.startCol = utf16Col text s ∧ x.endCol = utf16Col text e := by
  unfold diagAt at h
  split at h
  · rename_i f s e hm
    obtain ⟨text, hl, rfl⟩ := Option.map_eq_some_iff.mp h
    exact ⟨f, s, e, text, hm, hl, rfl, rfl, rfl⟩
  · cases h

omit [NumOps F] in
theorem diagStep_some (a : Analysis F) (ds ds' : List LspDiag) (d : Diag) (h : diagStep a (some ds) d = some ds') :
    ds' = ds ++ (diagAt a d).toList := by
  unfold diagStep at h
  unfold diagAt
  cases hm : a.map.mapDiag d with
  | none => simp [hm] at h
  | some r =>
    cases r with
    | none => simp only [hm, Option.some.injEq] at h; simp [h]
    | some p =>
      obtain ⟨f, x, y⟩ := p
      simp only [hm] at h ⊢
      cases hl : a.lines[f]? with
      | none => simp [hl] at h
      | some text =>
        simp only [hl] at h
        cases d <;> simp only [Option.some.injEq] at h <;> simp [← h]

omit [NumOps F] in
theorem diagStep_none (a : Analysis F) (d : Diag) : diagStep a none d = none := rfl

omit [NumOps F] in
theorem diagFold_none (a : Analysis F) (msgs : List Diag) : msgs.foldl (diagStep a) none = none := by
  induction msgs with
  | nil => rfl
  | cons d msgs ih => simpa [List.foldl_cons, diagStep_none] using ih

omit [NumOps F] in
theorem diagFold_filterMap (a : Analysis F) (msgs : List Diag) (acc ds : List LspDiag)
    (h : msgs.foldl (diagStep a) (some acc) = some ds) : ds = acc ++ msgs.filterMap (diagAt a) := by
  induction msgs generalizing acc with
  | nil => simp only [List.foldl_nil, Option.some.injEq] at h; simp [h]
  | cons d msgs ih =>
    simp only [List.foldl_cons] at h
    cases hs : diagStep a (some acc) d with
    | none => rw [hs, diagFold_none] at h; cases h
    | some acc1 =>
      rw [hs] at h
      rw [ih acc1 h, diagStep_some a acc acc1 d hs, List.filterMap_cons]
      cases diagAt a d <;> simp

omit [NumOps F] in
/-- Whenever the diagnostics conversion succeeds, its result is exactly the analyzer's
    messages, in order, each mapped to its position; messages without a position
    (`map_to_source` returns `None`) are dropped. -/
theorem diags_filterMap (a : Analysis F) (ds : List LspDiag) (h : lspDiagnostics a = some ds) :
    ds = a.messages.filterMap (diagAt a) := by
  rw [lspDiagnostics_eq] at h
  simpa using diagFold_filterMap a a.messages [] ds h

omit [NumOps F] in
/-- Any analysis: whatever `lspDiagnostics` returns: every
    diagnostic is on an existing line with both columns inside that line … -/
theorem diags_in_line (a : Analysis F) (ds : List LspDiag) (h : lspDiagnostics a = some ds) :
    ∀ d ∈ ds, DiagIn a.lines d := by
  intro x hx
  rw [diags_filterMap a ds h] at hx
  obtain ⟨d, _, hd⟩ := List.mem_filterMap.mp hx
  obtain ⟨f, s, e, text, _, hl, rfl, hs, he⟩ := diagAt_some a d x hd
  exact ⟨(List.getElem?_eq_some_iff.mp hl).1, text, hl, hs ▸ col_in_bounds text s, he ▸ col_in_bounds text e⟩

omit [NumOps F] in
/-- … and `startCol ≤ endCol` as soon as the byte ranges recorded in the file map are ordered. -/
theorem diags_in_bounds_of (a : Analysis F) (hr : RangesOk a.map) (ds : List LspDiag)
    (h : lspDiagnostics a = some ds) : ∀ d ∈ ds, DiagOk a.lines d := by
  intro x hx
  rw [diags_filterMap a ds h] at hx
  obtain ⟨d, _, hd⟩ := List.mem_filterMap.mp hx
  obtain ⟨f, s, e, text, hm, hl, rfl, hs, he⟩ := diagAt_some a d x hd
  exact ⟨(List.getElem?_eq_some_iff.mp hl).1, text, hl,
    hs ▸ he ▸ col_monotone text s e ((mapDiag_range a.map d x.line s e hm).2 hr), he ▸ col_in_bounds text e⟩

omit [NumOps F] in
/-- the fold does not hit an index panic when every message maps, and to an existing line -/
theorem diagFold_total (a : Analysis F) (msgs : List Diag)
    (hm : ∀ d ∈ msgs, ∃ r, a.map.mapDiag d = some r ∧ ∀ f x y, r = some (f, x, y) → f < a.lines.length)
    (ds : List LspDiag) : ∃ ds', msgs.foldl (diagStep a) (some ds) = some ds' := by
  induction msgs generalizing ds with
  | nil => exact ⟨ds, rfl⟩
  | cons d msgs ih =>
    obtain ⟨r, hr, hf⟩ := hm d (List.mem_cons_self ..)
    have hstep : ∃ ds1, diagStep a (some ds) d = some ds1 := by
      unfold diagStep
      simp only [hr]
      cases r with
      | none => exact ⟨ds, rfl⟩
      | some p =>
        obtain ⟨f, x, y⟩ := p
        simp only [List.getElem?_eq_getElem (hf f x y rfl)]
        cases d <;> exact ⟨_, rfl⟩
    obtain ⟨ds1, h1⟩ := hstep
    rw [List.foldl_cons, h1]
    exact ih (fun d' hd' => hm d' (List.mem_cons_of_mem _ hd')) ds1

omit [NumOps F] in
/-- Any analysis: no index panic when there is one range record
    per line and every diagnostic is attached to an existing file line. -/
theorem diags_total_of (a : Analysis F) (hlen : a.map.ranges.length = a.lines.length)
    (hm : ∀ d ∈ a.messages, fileLine d < a.map.ranges.length) : lspDiagnostics a ≠ none := by
  obtain ⟨ds, h⟩ := diagFold_total a a.messages (fun d hd => by
    obtain ⟨r, hr⟩ := mapDiag_some a.map d (hm d hd)
    exact ⟨r, hr, fun f x y e => hlen ▸ (mapDiag_range a.map d f x y (e ▸ hr)).1⟩) []
  rw [lspDiagnostics_eq, h]; simp

/-- decoding: two tokens on line 0, one on line 2 -/
example : decode [⟨0, 0, 2, 2⟩, ⟨0, 3, 5, 5⟩, ⟨2, 1, 4, 0⟩] = [(0, 0, 2, 2), (0, 3, 5, 5), (2, 1, 4, 0)] := by
  decide

/-- the encoder: an empty line in between, a non-BMP character is two UTF-16 units -/
example : semTokLines ["10 PRINT".toList, [], "😀 ".toList]
    [[(.Number, 0, 2), (.Keyword, 3, 8)], [], [(.Symbol, 0, 4)]] 0 0 =
      some [⟨0, 0, 2, 2⟩, ⟨0, 3, 5, 5⟩, ⟨2, 0, 2, 0⟩] := by
  decide

/-- an analysis value that `analyzeFile` never produces: a reversed recorded range -/
def reversedRange : Analysis Unit :=
  { lines := ["ABCDEF".toList], messages := [.error 0 { err := .syntax (.tokenization .outOfFuel) }], map := { ranges := [{ tokErrRange := some (5, 2) }] } }

/-- why `diags_in_bounds_of` needs `RangesOk`: for an arbitrary analysis value
    `lspDiagnostics` can return a diagnostic with `endCol < startCol`. -/
example : (lspDiagnostics reversedRange).map (fun ds => ds.map fun d => (d.line, d.startCol, d.endCol)) = some [(0, 5, 2)] := by
  decide

end Abasic.Props.C20
