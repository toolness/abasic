import Abasic.Proofs.TraceStmt
import Abasic.Proofs.Cursor
import Abasic.Proofs.StmtHead
import Abasic.Props.C01
/-
  C17 — the exact number of trace records of one statement activation.

  The model emits one trace record per entry of `evaluate_statement` (`stmtBody`), and an activation is a
  head, at most one clause, and a look for ELSE (`Indep.stmtBody_eq`, Proofs/StmtHead.lean).  The head puts
  the activation's own record on the queue and otherwise adds none (`stmtHead_nt`); where it announces a clause
  it has kept the stack and the cursor's line, so the clause starts with the same trace block
  (`stmtHead_clause`).  Hence
  the number of records is a DEFINITION that follows the IF chain of the statement itself:

    activations fuel σ = 1 + (the number of THEN / ELSE clauses entered)

  A clause is ENTERED when
    * the statement under the cursor starts with IF, its condition evaluates
      (by the model's own expression evaluator, in the state at hand — the
      condition may call functions, draw random numbers, create arrays) and THEN
      follows (`ifHeader`),
    * the condition is true (the THEN clause), or it is false and the ELSE
      search — skip tokens up to the first `:` (give up) or ELSE — finds an ELSE
      (`skipToElse`),
    * the clause is a statement, not a bare line number (`THEN 100` is a GOTO
      and adds none), and the nesting cap allows one more level (`clauseEntry`);
  the clause then is a statement activation of its own, one nesting level (and
  one fuel unit) deeper, and counts in the same way.
-/
set_option linter.unusedSectionVars false

namespace Abasic.Trace
open Abasic Abasic.Hoare Abasic.Trace.Lift M Abasic.Indep Abasic.Props.C17

variable {F : Type} [NumOps F]

/-- `Rep u` with the number of copies named; `NT` is `RepN 0` -/
def RepN (k : Nat) (u : List Nat) (σ σ' : St F) : Prop :=
  σ'.tracing = σ.tracing ∧ σ'.lines = σ.lines ∧ traces σ'.out = rep k u ++ traces σ.out

omit [NumOps F] in
theorem RepN.trans {a b : Nat} {u : List Nat} {σ s s' : St F} (h1 : RepN a u σ s) (h2 : RepN b u s s') :
    RepN (b + a) u σ s' :=
  ⟨h2.1.trans h1.1, h2.2.1.trans h1.2.1, by rw [h2.2.2, h1.2.2, rep_add, List.append_assoc]⟩

omit [NumOps F] in
theorem RepN.of_nt {u : List Nat} {σ σ' : St F} (h : NT σ σ') : RepN 0 u σ σ' := ⟨h.1, h.2.1, h.2.2⟩

omit [NumOps F] in
theorem RepN.nt {k : Nat} {u : List Nat} {σ s s' : St F} (h1 : RepN k u σ s) (h2 : NT s s') : RepN k u σ s' :=
  ⟨h2.1.trans h1.1, h2.2.1.trans h1.2.1, h2.2.2.trans h1.2.2⟩

omit [NumOps F] in
theorem RepN.traced (σ : St F) : RepN 1 (here σ) σ { σ with out := (here σ).map Out.trace ++ σ.out } :=
  ⟨rfl, rfl, by show traces (_ ++ _) = _; rw [traces_append, traces_map_trace, rep_one]⟩

theorem walk_skipToElse (W : CursorWalk F) (hd : W.P (discardRemaining (F := F))) (n : Nat) :
    W.P (skipToElse (F := F) n) := by
  induction n with
  | zero => unfold skipToElse; walk
  | succ n ih => unfold skipToElse; walk

theorem walk_ifHead (W : CursorWalk F) (hd : W.P (discardRemaining (F := F))) (ev : Evals F) (he : W.P ev.expr) :
    W.P (ifHead ev) := by
  unfold ifHead
  have := walk_skipToElse W hd
  walk

theorem rx_ifHead (ev : Evals F) (he : Respects RX ev.expr) : Respects RX (ifHead ev) :=
  walk_ifHead cursor rx_discardRemaining ev he

/-- a clause is announced only by the header of an IF -/
theorem stmtHead_some {ev : Evals F} {σ σc : St F} {th : Bool} (h : stmtHead ev σ = .ok (some th) σc) :
    ∃ s, next ({ σ with out := (here σ).map Out.trace ++ σ.out } : St F) = .ok (some (.kw .If)) s ∧
      ifHead ev s = .ok (some th) σc := by
  simp only [stmtHead, bind, M.bindM, traceHere_eq] at h
  cases hn : next ({ σ with out := (here σ).map Out.trace ++ σ.out } : St F) with
  | err e s => rw [hn] at h; cases h
  | ok t s =>
    rw [hn] at h
    simp only at h
    by_cases ht : isIf t = true
    · rw [if_pos ht] at h; exact ⟨s, by rw [(isIf_iff t).mp ht], h⟩
    · rw [if_neg ht] at h
      simp only [M.bindM] at h
      cases hk : dispatchK ev t s <;> rw [hk] at h <;> cases h

/-- Where the head announces a clause it has done, behind the trace record, nothing but `next` and the header
    of the IF: it has kept whatever frame these two keep. -/
theorem stmtHead_clause {R : St F → St F → Prop} [IsFrame R] {ev : Evals F} (hn : Respects R (next (F := F)))
    (hh : Respects R (ifHead ev)) {σ σc : St F} {th : Bool} (h : stmtHead ev σ = .ok (some th) σc) :
    R { σ with out := (here σ).map Out.trace ++ σ.out } σc := by
  obtain ⟨s, h1, h2⟩ := stmtHead_some h
  exact IsFrame.trans ((hn.at _).1 _ _ h1) ((hh.at _).1 _ _ h2)

theorem stmtHead_nt (ev : Evals F) (he : Respects RX ev.expr) (σ : St F) :
    NT { σ with out := (here σ).map Out.trace ++ σ.out } (stmtHead ev σ).final := by
  have h : Respects NT (next >>= fun t => if isIf t then ifHead ev else
      dispatchK ev t >>= fun _ => pure (none : Option Bool)) :=
    respects_bind (rx_next.mono fun _ _ => rx_sub_nt) fun t => by
      by_cases ht : isIf t = true
      · rw [if_pos ht]; exact (rx_ifHead ev he).mono fun _ _ => rx_sub_nt
      · rw [if_neg ht]
        exact respects_bind (nt_dispatchK ev he t (mt (isIf_iff t).mpr ht)) fun _ => respects_pure _
  have h' := h.final { σ with out := (here σ).map Out.trace ++ σ.out }
  simpa only [stmtHead, bind, M.bindM, traceHere_eq] using h'

theorem nt_clauseTail (th : Bool) : Respects NT (if th = true then tailElse else pure () : M F Unit) := by
  cases th
  · exact respects_pure _
  · refine respects_bind ((rx_peekIsKw (F := F) .Else).mono (fun _ _ => rx_sub_nt)) fun b => ?_
    cases b
    · exact respects_pure _
    · exact (rx_discardRemaining (F := F)).mono (fun _ _ => rx_sub_nt)

theorem stmtHead_notIf (ev : Evals F) (σ : St F) (h : curTok σ ≠ some (.kw .If)) (th : Bool) (σc : St F) :
    stmtHead ev σ ≠ .ok (some th) σc := fun hh =>
  let ⟨_, h1, _⟩ := stmtHead_some hh
  h (next_tok (σ := { σ with out := (here σ).map Out.trace ++ σ.out }) h1).symm

end Abasic.Trace

namespace Abasic.Count
open Abasic M Abasic.Trace

variable {F : Type} [NumOps F]

/-- what `nested` does with the outcome of its body: the counter goes back down
    (an underflow panics), the outcome is handed on -/
def unnest {α : Type} : Res F α → Res F α
  | .ok a s => (exitNested >>= fun _ => M.ofExcept (.ok a)) s
  | .err e s => (exitNested >>= fun _ => (M.ofExcept (.error e) : M F α)) s

theorem nested_below {α : Type} (m : M F α) (σ : St F) (hcap : σ.nesting ≠ Extracted.nestingLimit) :
    nested m σ = unnest (m { σ with nesting := σ.nesting + 1 }) := by
  have hb : (σ.nesting == Extracted.nestingLimit) = false := by simpa using hcap
  simp only [nested, bind, M.bindM, enterNested, M.get, hb, Bool.false_eq_true, if_false, M.set, M.attempt]
  cases m { σ with nesting := σ.nesting + 1 } <;> rfl

theorem unnest_nt {α : Type} (r : Res F α) : NT r.final (unnest r).final := by
  cases r with
  | ok a s =>
    simp only [unnest, exitNested, bind, M.bindM, M.get]
    cases s.nesting <;> exact ⟨rfl, rfl, rfl⟩
  | err e s =>
    simp only [unnest, exitNested, bind, M.bindM, M.get]
    cases s.nesting <;> exact ⟨rfl, rfl, rfl⟩

end Abasic.Count

namespace Abasic.Props.C17
open Abasic Abasic.Hoare Abasic.Trace Abasic.Trace.Lift M Abasic.Indep

variable {F : Type} [NumOps F]

/-- the state in which the clause under the cursor starts its own statement
    activation — `none` when it is a bare line number (a GOTO), or the nesting
    cap refuses one more level (or the line is missing) -/
def clauseEntry (σc : St F) : Option (St F) :=
  match peek σc with
  | .ok (some (.num _)) _ => none
  | .ok _ σ' => if σ'.nesting == Extracted.nestingLimit then none else some { σ' with nesting := σ'.nesting + 1 }
  | .err _ _ => none

/-- the activations below one activation: those of the clause it enters, if any -/
def actStep (ev : Evals F) (rec : St F → Nat) (σ : St F) : Nat :=
  match (traceHere >>= fun _ => ifHeader ev) σ with
  | .ok true σc =>
    (match clauseEntry σc with
     | some σ' => rec σ'
     | none => 0)
  | _ => 0

/-- **activations**: the statement activations of `stmtBody (evalN fuel)` started
    in `σ` (the statement tokens are those under the cursor of `σ`):
    1 + the number of THEN / ELSE clauses entered. -/
def activations : Nat → St F → Nat
  | 0, σ => 1 + actStep (evalN 0) (fun _ => 0) σ
  | k + 1, σ => 1 + actStep (evalN (k + 1)) (activations k) σ

def clauseActs (rec : St F → Nat) (σc : St F) : Nat :=
  match clauseEntry σc with
  | some σ' => rec σ'
  | none => 0

/-- **The clause, by `clauseEntry`**: entered, it is the activation `ev.stmt` one level deeper with the counter put
    back; not entered (a line number, the cap, no line), it does not depend on the evaluator. -/
theorem statementOrGoto_eq (ev : Evals F) (σc : St F) :
    statementOrGoto ev σc = match clauseEntry σc with
      | some σ' => Count.unnest (ev.stmt σ')
      | none => statementOrGoto (evalN 0) σc := by
  unfold clauseEntry statementOrGoto
  simp only [bind, M.bindM]
  cases peek σc with
  | err e s => rfl
  | ok t s =>
    have hnest : nested ev.stmt s = match (if (s.nesting == Extracted.nestingLimit) = true then none
          else some ({ s with nesting := s.nesting + 1 } : St F)) with
        | some σ' => Count.unnest (ev.stmt σ')
        | none => nested (evalN 0).stmt s := by
      by_cases hcap : s.nesting = Extracted.nestingLimit
      · rw [if_pos (by simpa using hcap), Props.C01.nested_refuses_at_cap _ s hcap,
          Props.C01.nested_refuses_at_cap _ s hcap]
      · rw [if_neg (by simpa using hcap), Count.nested_below _ s hcap]
    cases t with
    | none => exact hnest
    | some tok => cases tok <;> first | rfl | exact hnest

/-- an entered clause starts one level deeper, `peek` counted -/
theorem clauseEntry_some {σc σ' : St F} (h : clauseEntry σc = some σ') :
    σ' = { σc with reads := σc.reads + 1, nesting := σc.nesting + 1 } ∧ σc.nesting ≠ Extracted.nestingLimit := by
  unfold clauseEntry at h
  rw [Cur.peek_eq] at h
  cases hl : Cur.toks σc with
  | none => rw [Cur.curOp_none _ hl] at h; cases h
  | some ts =>
    rw [show Cur.curOp Cur.peekF σc = .ok ts[σc.loc.idx]? { σc with reads := σc.reads + 1 } from by
      rw [Cur.curOp_some _ hl]; rfl] at h
    split at h
    · cases h
    · split at h
      · cases h
      · next _ _ heq hc => cases heq; exact ⟨(Option.some.inj h).symm, by simpa using hc⟩
    · next heq => cases heq

/-- a clause that is not entered adds no trace record -/
theorem nt_skip : Respects NT (statementOrGoto (evalN (F := F) 0)) := by
  unfold statementOrGoto
  refine respects_bind (rx_peek.mono fun _ _ => rx_sub_nt) fun t => ?_
  split
  · exact nt_gotoStatement
  · exact nt_nested (respects_fail _)

theorem actStep_eq_head (ev : Evals F) (rec : St F → Nat) (σ : St F) :
    actStep ev rec σ = match stmtHead ev σ with
      | .ok (some _) σc => clauseActs rec σc
      | _ => 0 := by
  simp only [actStep, ifHeader, stmtHead, bind, M.bindM, Trace.traceHere_eq]
  cases next ({ σ with out := (here σ).map Out.trace ++ σ.out } : St F) with
  | err e s => rfl
  | ok t s =>
    simp only
    by_cases ht : isIf t = true
    · rw [if_pos ht, if_pos ht, ifTail_eq]
      cases ifHead ev s with
      | err e s => rfl
      | ok r s => cases r <;> rfl
    · rw [if_neg ht, if_neg ht]
      simp only [M.bindM]
      cases dispatchK ev t s <;> rfl

section count
variable (ev : Evals F) (he : Respects RX ev.expr) (rec : St F → Nat)
  (hrec : ∀ σ', RepN (rec σ') (here σ') σ' (ev.stmt σ').final)
include hrec

theorem clause_traces (σc : St F) : RepN (clauseActs rec σc) (here σc) σc (statementOrGoto ev σc).final := by
  rw [statementOrGoto_eq, clauseActs]
  cases hce : clauseEntry σc with
  | none => exact .of_nt (nt_skip.final σc)
  | some σ' =>
    obtain ⟨rfl, _⟩ := clauseEntry_some hce
    exact ((RepN.of_nt ⟨rfl, rfl, rfl⟩).trans (hrec _)).nt (Count.unnest_nt _)

include he

/-- one statement activation: its own record, then those of the clause it enters -/
theorem body_traces (σ : St F) : RepN (1 + actStep ev rec σ) (here σ) σ (stmtBody ev σ).final := by
  have h0 := (RepN.traced σ).nt (stmtHead_nt ev he σ)
  rw [actStep_eq_head, stmtBody_eq, final_bind]
  cases hh : stmtHead ev σ with
  | err e s => rw [hh] at h0; exact h0
  | ok r s =>
    rw [hh] at h0
    cases r with
    | none => exact h0
    | some th =>
      have hc := clause_traces ev rec hrec s
      rw [here_of_rx (stmtHead_clause rx_next (rx_ifHead ev he) hh)] at hc
      show RepN _ _ _ ((statementOrGoto ev >>= fun _ => _) s).final
      rw [final_bind]
      have h3 := h0.trans hc
      rw [Nat.add_comm] at h3
      cases hs : statementOrGoto ev s with
      | err e s' => rw [hs] at h3; exact h3
      | ok _ s' => rw [hs] at h3; exact h3.nt ((nt_clauseTail th).final s')

end count

/-- **One activation, exactly.**  A statement activation at fuel `n` started in `σ` keeps the tracing flag and
    the program and adds `activations n σ` copies of its trace block `here σ` (`[ln]` with tracing on at
    numbered line `ln`, `[]` otherwise) and no other trace record. -/
theorem activation_repN (n : Nat) (σ : St F) : RepN (activations n σ) (here σ) σ (stmtBody (evalN n) σ).final := by
  induction n generalizing σ with
  | zero =>
    exact body_traces (evalN 0) (walk_evalN_expr Trace.Lift.walk 0) (fun _ => 0) (fun σ' => .of_nt ⟨rfl, rfl, rfl⟩) σ
  | succ k ih => exact body_traces (evalN (k + 1)) (walk_evalN_expr Trace.Lift.walk (k + 1)) (activations k) ih σ

theorem activation_exact (n : Nat) (σ : St F) :
    traces (stmtBody (evalN n) σ).final.out = rep (activations n σ) (here σ) ++ traces σ.out :=
  (activation_repN n σ).2.2

theorem activations_pos (n : Nat) (σ : St F) : 1 ≤ activations n σ := by
  cases n <;> (unfold activations; omega)

theorem actStep_not_if (ev : Evals F) (rec : St F → Nat) (σ : St F) (h : curTok σ ≠ some (.kw .If)) :
    actStep ev rec σ = 0 := by
  rw [actStep_eq_head]
  cases hh : stmtHead ev σ with
  | err e s => rfl
  | ok r s =>
    cases r with
    | none => rfl
    | some th => exact absurd hh (stmtHead_notIf ev σ h th s)

theorem activations_not_if (n : Nat) (σ : St F) (h : curTok σ ≠ some (.kw .If)) : activations n σ = 1 := by
  cases n <;> (unfold activations; rw [actStep_not_if _ _ σ h])

end Abasic.Props.C17
