import Abasic.Proofs.Hoare
import Abasic.Proofs.ArrayLemmas
/-
  C16 — runtime state stays within its caps and obeys name-suffix typing.

  Proved here, for every state: each operation that can grow the subroutine
  stack, the loop stack or the array table either respects the cap / typing
  invariant or fails with OUT OF MEMORY leaving that structure untouched.
  These are the ONLY places in the model where those structures grow
  (`gosubLine`, `pushFunctionCall`, `startLoop`, `ArrayV.create`, `setVar`,
  `arraySet`, `bindArgs`; `gosub_cap` stands in C16More.lean).  The lift to every
  reachable state of every session (an induction over the whole evaluator) is
  C16More.lean (the two caps: frames, loops) and C16Store.lean (arrays, variables,
  FN bindings).
-/
namespace Abasic.Props.C16
open Abasic

variable {F : Type} [NumOps F]

section alist
variable {β : Type}

omit [NumOps F] in
theorem mem_alSet {k : Str} {v : β} {l : List (Str × β)} {p : Str × β} (h : p ∈ alSet k v l) :
    p = (k, v) ∨ p ∈ l := by
  induction l with
  | nil =>
    simp only [alSet, List.mem_singleton] at h
    exact .inl h
  | cons x xs ih =>
    obtain ⟨k', v'⟩ := x
    simp only [alSet] at h
    split at h
    · rcases List.mem_cons.mp h with h | h
      · exact .inl h
      · exact .inr (List.mem_cons_of_mem _ h)
    · rcases List.mem_cons.mp h with h | h
      · exact .inr (by rw [h]; exact List.mem_cons_self ..)
      · rcases ih h with h | h
        · exact .inl h
        · exact .inr (List.mem_cons_of_mem _ h)

omit [NumOps F] in
theorem key_mem_alSet (k : Str) (v : β) (l : List (Str × β)) (k' : Str)
    (h : k' ∈ (alSet k v l).map Prod.fst) : k' = k ∨ k' ∈ l.map Prod.fst := by
  obtain ⟨p, hm, rfl⟩ := List.mem_map.mp h
  rcases mem_alSet hm with h | h
  · exact .inl (by rw [h])
  · exact .inr (List.mem_map.mpr ⟨p, h, rfl⟩)

omit [NumOps F] in
theorem nodup_alSet (k : Str) (v : β) (l : List (Str × β))
    (h : (l.map Prod.fst).Nodup) : ((alSet k v l).map Prod.fst).Nodup := by
  induction l with
  | nil => simp [alSet]
  | cons p rest ih =>
    obtain ⟨k0, v0⟩ := p
    simp only [List.map_cons, List.nodup_cons] at h
    simp only [alSet]
    by_cases h0 : (k0 == k) = true
    · rw [if_pos h0]
      have : k0 = k := by simpa using h0
      subst this
      simp only [List.map_cons, List.nodup_cons]
      exact h
    · rw [if_neg h0]
      have hne : k0 ≠ k := by simpa using h0
      simp only [List.map_cons, List.nodup_cons]
      refine ⟨fun hin => ?_, ih h.2⟩
      rcases key_mem_alSet k v rest k0 hin with h1 | h1
      · exact hne h1
      · exact h.1 h1

omit [NumOps F] in
theorem alGet_mem (k : Str) (l : List (Str × β)) (v : β) (h : alGet k l = some v) :
    (k, v) ∈ l := by
  induction l with
  | nil => simp [alGet] at h
  | cons p rest ih =>
    obtain ⟨k0, v0⟩ := p
    simp only [alGet] at h
    by_cases h0 : (k0 == k) = true
    · rw [if_pos h0] at h
      have : k0 = k := by simpa using h0
      subst this
      simp only [Option.some.injEq] at h
      subst h
      exact List.mem_cons_self
    · rw [if_neg h0] at h
      exact List.mem_cons_of_mem _ (ih h)

omit [NumOps F] in
theorem alGet_alSet_self (k : Str) (v : β) (l : List (Str × β)) : alGet k (alSet k v l) = some v := by
  induction l with
  | nil => simp [alSet, alGet]
  | cons x xs ih =>
    obtain ⟨k', v'⟩ := x
    simp only [alSet]
    by_cases hk : (k' == k) = true
    · simp only [hk, if_true, alGet, beq_self_eq_true]
    · simp only [hk, if_false, alGet, Bool.false_eq_true]
      exact ih

omit [NumOps F] in
theorem alGet_alSet_ne (k n : Str) (v : β) (l : List (Str × β)) (h : n ≠ k) :
    alGet n (alSet k v l) = alGet n l := by
  induction l with
  | nil =>
    have hb : (k == n) = false := by simpa using fun e => h e.symm
    simp [alSet, alGet, hb]
  | cons p ps ih =>
    obtain ⟨k', v'⟩ := p
    by_cases hk : k' = k
    · subst hk
      have hb : (k' == n) = false := by simpa using fun e => h e.symm
      simp [alSet, alGet, hb]
    · have hb : (k' == k) = false := by simpa using hk
      simp only [alSet, hb, Bool.false_eq_true, ↓reduceIte, alGet, ih]

omit [NumOps F] in
theorem alGet_alSet (k n : Str) (v : β) (l : List (Str × β)) :
    alGet n (alSet k v l) = if n = k then some v else alGet n l := by
  by_cases h : n = k
  · subst h; rw [if_pos rfl]; exact alGet_alSet_self _ _ _
  · rw [if_neg h]; exact alGet_alSet_ne k n v l h

omit [NumOps F] in
theorem alSet_all {P : Str → β → Prop} {l : List (Str × β)} (h : ∀ n w, alGet n l = some w → P n w) {k : Str} {v : β}
    (hk : P k v) : ∀ n w, alGet n (alSet k v l) = some w → P n w := by
  intro n w hg
  rw [alGet_alSet] at hg
  by_cases hn : n = k
  · rw [if_pos hn] at hg; cases hg; rw [hn]; exact hk
  · rw [if_neg hn] at hg; exact h n w hg

end alist

theorem caps : Extracted.stackLimit = 32 ∧ Extracted.maxDimTotalElements = 10000 ∧
    Extracted.defaultArraySize = 10 := by decide

omit [NumOps F] in
/-- User-function calls share the same stack and the same cap. -/
theorem call_cap (name : Str) (b : List (Str × Value F)) (σ : St F) (h : σ.stack.length ≤ Extracted.stackLimit) :
    (∀ σ', pushFunctionCall name b σ = .ok () σ' → σ'.stack.length ≤ Extracted.stackLimit) ∧
    (σ.stack.length = Extracted.stackLimit → pushFunctionCall name b σ = .err { err := .oomStack } σ) := by
  by_cases hcap : σ.stack.length = Extracted.stackLimit
  · have : pushFunctionCall name b σ = .err { err := .oomStack } σ := by
      simp [pushFunctionCall, bind, M.bindM, M.get, hcap, M.fail]
    exact ⟨fun σ' h' => by rw [this] at h'; simp at h', fun _ => this⟩
  · have hb : (σ.stack.length == Extracted.stackLimit) = false := by simpa using hcap
    have hlt : σ.stack.length < Extracted.stackLimit := Nat.lt_of_le_of_ne h hcap
    refine ⟨?_, fun h' => absurd h' hcap⟩
    intro σ' h'
    cases hf : alGet name σ.fns with
    | none => simp [pushFunctionCall, bind, M.bindM, M.get, hb, hf, M.rpanic] at h'
    | some d =>
      simp [pushFunctionCall, bind, M.bindM, M.get, hb, hf, M.set] at h'
      rw [← h']; simp; omega

def prod : List Nat → Nat
  | [] => 1
  | d :: ds => d * prod ds

omit [NumOps F] in
theorem dimSizes_spec (idx : List Nat) (total : Nat) (acc : List Nat) (dims : List Nat) (t : Nat)
    (h : dimSizes idx total acc = .ok (dims, t)) (hacc : total = prod acc.reverse) :
    t = prod dims := by
  induction idx generalizing total acc with
  | nil =>
    simp [dimSizes] at h
    rw [← h.1, ← h.2]; exact hacc
  | cons m rest ih =>
    simp only [dimSizes] at h
    split at h
    · simp at h
    · split at h
      · simp at h
      · apply ih _ _ h
        simp only [List.reverse_cons]
        have : ∀ (l : List Nat) (x : Nat), prod (l ++ [x]) = prod l * x := by
          intro l x; induction l with
          | nil => simp [prod]
          | cons y ys ihy => simp [prod, ihy, Nat.mul_assoc]
        rw [this, hacc]

def isStr : ArrayV F → Bool
  | .strs _ _ => true
  | .nums _ _ => false

/-- DIM / implicit creation: an array that gets created has exactly
    `∏ dims` cells, at most 10000, and the kind its name's suffix demands. -/
theorem create_spec (name : Str) (idx : List Nat) (a : ArrayV F) (h : ArrayV.create name idx = .ok a) :
    a.cellCount = prod a.dims ∧ a.cellCount ≤ Extracted.maxDimTotalElements ∧
    isStr a = endsWithDollar name := by
  obtain ⟨_, total, hd, hle, rfl⟩ := ArrayL.create_ok h
  have hp := dimSizes_spec idx 1 [] _ total hd rfl
  cases hs : endsWithDollar name <;> simp [ArrayV.cellCount, ArrayV.dims, isStr, ← hp, hle]

omit [NumOps F] in
/-- Scalars: a value is stored under a name only if its kind matches the suffix. -/
theorem setVar_typed (name : Str) (v : Value F) (σ σ' : St F) (h : setVar name v σ = .ok () σ') :
    v.matchesName name = true ∧ σ'.vars = alSet name v σ.vars := by
  by_cases hm : v.matchesName name = true
  · simp [setVar, hm, M.modify] at h
    exact ⟨hm, by rw [← h]⟩
  · have hm' : v.matchesName name = false := by simpa using hm
    simp [setVar, hm', M.fail] at h

def loopNames (l : List (LoopInfo F)) : List Str := l.map (·.sym)

omit [NumOps F] in
theorem removeLoop_some (sym : Str) (l : List (LoopInfo F)) (info : LoopInfo F) (rest : List (LoopInfo F))
    (h : removeLoop sym l = some (info, rest)) :
    info.sym = sym ∧ ∃ inner, l = inner ++ info :: rest ∧ ∀ x ∈ inner, x.sym ≠ sym := by
  induction l with
  | nil => simp [removeLoop] at h
  | cons x xs ih =>
    simp only [removeLoop] at h
    by_cases hx : x.sym = sym
    · simp only [hx, beq_self_eq_true, ↓reduceIte, Option.some.injEq, Prod.mk.injEq] at h
      obtain ⟨h1, h2⟩ := h
      subst h1 h2
      exact ⟨hx, [], by simp, by simp⟩
    · have hb : (x.sym == sym) = false := by simpa using hx
      simp only [hb, Bool.false_eq_true, ↓reduceIte] at h
      obtain ⟨h1, inner, h2, h3⟩ := ih h
      refine ⟨h1, x :: inner, by simp [h2], ?_⟩
      intro y hy
      rcases List.mem_cons.mp hy with rfl | hy
      · exact hx
      · exact h3 y hy

omit [NumOps F] in
theorem removeLoop_none (sym : Str) (l : List (LoopInfo F)) :
    removeLoop sym l = none ↔ sym ∉ loopNames l := by
  induction l with
  | nil => simp [removeLoop, loopNames]
  | cons x xs ih =>
    simp only [removeLoop, loopNames, List.map_cons, List.mem_cons, not_or]
    by_cases hx : x.sym = sym
    · simp [hx]
    · have hb : (x.sym == sym) = false := by simpa using hx
      simp only [hb, Bool.false_eq_true, ↓reduceIte]
      rw [ih]
      exact ⟨fun h => ⟨fun e => hx e.symm, h⟩, fun h => h.2⟩

omit [NumOps F] in
/-- `remove_loop_with_name` finds the most recent loop for `sym` and drops it
    together with everything opened after it; it finds nothing exactly when no
    open loop has that name. -/
theorem removeLoop_spec (sym : Str) (l : List (LoopInfo F)) :
    (∀ info rest, removeLoop sym l = some (info, rest) →
      info.sym = sym ∧ ∃ inner, l = inner ++ info :: rest ∧ ∀ x ∈ inner, x.sym ≠ sym) ∧
    (removeLoop sym l = none ↔ sym ∉ loopNames l) :=
  ⟨removeLoop_some sym l, removeLoop_none sym l⟩

omit [NumOps F] in
theorem removeLoop_length_lt (sym : Str) (l : List (LoopInfo F)) (info : LoopInfo F) (rest : List (LoopInfo F))
    (h : removeLoop sym l = some (info, rest)) : rest.length < l.length := by
  obtain ⟨_, inner, hl, _⟩ := removeLoop_some sym l info rest h
  rw [hl]; simp; omega

omit [NumOps F] in
theorem removeLoop_nodup (sym : Str) (l : List (LoopInfo F)) (info : LoopInfo F) (rest : List (LoopInfo F))
    (h : removeLoop sym l = some (info, rest)) (hn : (loopNames l).Nodup) :
    (loopNames rest).Nodup ∧ sym ∉ loopNames rest := by
  obtain ⟨hs, inner, hl, _⟩ := removeLoop_some sym l info rest h
  rw [hl] at hn
  simp only [loopNames, List.map_append, List.map_cons] at hn
  have h2 := (List.nodup_append.mp hn).2.1
  have h3 := List.nodup_cons.mp h2
  rw [hs] at h3
  exact ⟨h3.2, h3.1⟩

omit [NumOps F] in
theorem removeLoop_reinsert (sym : Str) (l : List (LoopInfo F)) (info : LoopInfo F) (rest : List (LoopInfo F))
    (h : removeLoop sym l = some (info, rest)) :
    (info :: rest).length ≤ l.length ∧ ((loopNames l).Nodup → (loopNames (info :: rest)).Nodup) := by
  obtain ⟨_, inner, hl, _⟩ := removeLoop_some sym l info rest h
  constructor
  · rw [hl]; simp
  · intro hn
    rw [hl] at hn
    simp only [loopNames, List.map_append] at hn
    exact (List.nodup_append.mp hn).2.1

/-- what `startLoop` leaves of the loop stack before pushing -/
def afterRemove (sym : Str) (l : List (LoopInfo F)) : List (LoopInfo F) :=
  match removeLoop sym l with
  | some (_, rest) => rest
  | none => l

omit [NumOps F] in
theorem afterRemove_spec (sym : Str) (l : List (LoopInfo F)) (hn : (loopNames l).Nodup) :
    (afterRemove sym l).length ≤ l.length ∧ (loopNames (afterRemove sym l)).Nodup ∧
    sym ∉ loopNames (afterRemove sym l) ∧
    (sym ∈ loopNames l → (afterRemove sym l).length < l.length) ∧
    (sym ∉ loopNames l → afterRemove sym l = l) := by
  unfold afterRemove
  cases h : removeLoop sym l with
  | none =>
    have hnot := (removeLoop_none sym l).mp h
    exact ⟨Nat.le_refl _, hn, hnot, fun hin => absurd hin hnot, fun _ => rfl⟩
  | some p =>
    obtain ⟨info, rest⟩ := p
    have hlt := removeLoop_length_lt sym l info rest h
    have hnd := removeLoop_nodup sym l info rest h hn
    refine ⟨Nat.le_of_lt hlt, hnd.1, hnd.2, fun _ => hlt, fun hnot => ?_⟩
    have := (removeLoop_none sym l).mpr hnot
    rw [h] at this; simp at this

omit [NumOps F] in
/-- `start_loop`, computed: the three possible outcomes. -/
theorem startLoop_eq (sym : Str) (a b c : F) (σ : St F) :
    startLoop sym a b c σ =
      if (afterRemove sym σ.loops).length = Extracted.stackLimit then
        .err { err := .oomStack } { σ with loops := afterRemove sym σ.loops }
      else if (Value.num a : Value F).matchesName sym = true then
        .ok () { σ with loops := { loc := σ.loc, sym := sym, toV := b, stepV := c } :: afterRemove sym σ.loops,
                        vars := alSet sym (.num a) σ.vars }
      else
        .err { err := .typeMismatch }
          { σ with loops := { loc := σ.loc, sym := sym, toV := b, stepV := c } :: afterRemove sym σ.loops } := by
  unfold afterRemove
  cases h : removeLoop sym σ.loops with
  | none =>
    by_cases hcap : σ.loops.length = Extracted.stackLimit
    · simp [startLoop, bind, M.bindM, M.modify, M.get, h, hcap, M.fail]
    · have hb : (σ.loops.length == Extracted.stackLimit) = false := by simpa using hcap
      by_cases hm : (Value.num a : Value F).matchesName sym = true
      · simp [startLoop, setVar, bind, M.bindM, M.modify, M.get, M.set, h, hcap, hb, hm]
      · have hm' : (Value.num a : Value F).matchesName sym = false := by simpa using hm
        simp [startLoop, setVar, bind, M.bindM, M.modify, M.get, M.set, M.fail, h, hcap, hb, hm']
  | some p =>
    obtain ⟨info, rest⟩ := p
    by_cases hcap : rest.length = Extracted.stackLimit
    · simp [startLoop, bind, M.bindM, M.modify, M.get, h, hcap, M.fail]
    · have hb : (rest.length == Extracted.stackLimit) = false := by simpa using hcap
      by_cases hm : (Value.num a : Value F).matchesName sym = true
      · simp [startLoop, setVar, bind, M.bindM, M.modify, M.get, M.set, h, hcap, hb, hm]
      · have hm' : (Value.num a : Value F).matchesName sym = false := by simpa using hm
        simp [startLoop, setVar, bind, M.bindM, M.modify, M.get, M.set, M.fail, h, hcap, hb, hm']

omit [NumOps F] in
/-- FOR: the loop-stack cap and the one-loop-per-variable invariant are kept by
    every outcome; a new variable at the cap is OUT OF MEMORY with the state
    untouched; re-entering a FOR for an open variable never grows the stack. -/
theorem for_cap (sym : Str) (a b c : F) (σ : St F)
    (h : σ.loops.length ≤ Extracted.stackLimit) (hn : (loopNames σ.loops).Nodup) :
    (∀ σ', startLoop sym a b c σ = .ok () σ' →
      σ'.loops.length ≤ Extracted.stackLimit ∧ (loopNames σ'.loops).Nodup) ∧
    (∀ e σ', startLoop sym a b c σ = .err e σ' →
      σ'.loops.length ≤ Extracted.stackLimit ∧ (loopNames σ'.loops).Nodup) ∧
    (sym ∉ loopNames σ.loops → σ.loops.length = Extracted.stackLimit →
      startLoop sym a b c σ = .err { err := .oomStack } σ) ∧
    (∀ σ', sym ∈ loopNames σ.loops → startLoop sym a b c σ = .ok () σ' →
      σ'.loops.length ≤ σ.loops.length) := by
  obtain ⟨_, hnd, hnot, hlt, hsame⟩ := afterRemove_spec sym σ.loops hn
  have hpush : (afterRemove sym σ.loops).length ≠ Extracted.stackLimit → ∀ x : LoopInfo F, x.sym = sym →
      (x :: afterRemove sym σ.loops).length ≤ Extracted.stackLimit ∧ (loopNames (x :: afterRemove sym σ.loops)).Nodup :=
    fun hne x hx => ⟨by simp only [List.length_cons]; omega, List.nodup_cons.mpr ⟨hx ▸ hnot, hnd⟩⟩
  rw [startLoop_eq]
  split
  -- at the cap: OUT OF MEMORY, the loops are what `afterRemove` left
  next hcap =>
    refine ⟨fun _ h' => (nomatch h'), fun e σ' h' => ?_, fun hni _ => by rw [hsame hni], fun _ _ h' => (nomatch h')⟩
    cases h'; exact ⟨Nat.le_of_eq hcap, hnd⟩
  -- below the cap: Ok if the variable takes a number, else TYPE MISMATCH; the loop is pushed in both
  next hcap =>
    refine ⟨?_, ?_, fun hni hc => absurd (by rw [hsame hni]; exact hc) hcap, ?_⟩ <;> split
    · intro σ' h'; cases h'; exact hpush hcap _ rfl
    · exact fun _ h' => (nomatch h')
    · exact fun _ _ h' => (nomatch h')
    · intro e σ' h'; cases h'; exact hpush hcap _ rfl
    · intro σ' hin h'; cases h'; have := hlt hin; simp only [List.length_cons]; omega
    · exact fun _ _ h' => (nomatch h')

/-- `end_loop`: whatever happens, the loop stack of the resulting state is the
    old one, or what `removeLoop` left, with or without the loop it found
    (the final `setVar` does not touch the loops, whether it succeeds or not). -/
theorem endLoop_final_loops (sym : Str) (σ : St F) :
    (endLoop sym σ).final.loops = σ.loops ∨ ∃ info rest, removeLoop sym σ.loops = some (info, rest) ∧
      ((endLoop sym σ).final.loops = info :: rest ∨ (endLoop sym σ).final.loops = rest) := by
  have hsv : ∀ (v : Value F) (s : St F), (setVar sym v s).final.loops = s.loops := by
    intro v s; unfold setVar; split <;> rfl
  unfold endLoop
  simp only [bind, M.bindM, M.get]
  cases hv : getVar σ sym with
  | str s => exact .inl rfl
  | num cur =>
    cases hr : removeLoop sym σ.loops with
    | none => exact .inl rfl
    | some p =>
      obtain ⟨info, rest⟩ := p
      refine .inr ⟨info, rest, rfl, ?_⟩
      dsimp only
      generalize (if NumOps.ge info.stepV NumOps.zero = true then NumOps.le (NumOps.add cur info.stepV) info.toV
        else NumOps.ge (NumOps.add cur info.stepV) info.toV) = c
      cases c
      · exact .inr (hsv _ _)
      · exact .inl (hsv _ _)

omit [NumOps F] in
theorem loops_shrink (sym : Str) (l l' : List (LoopInfo F))
    (h : l' = l ∨ ∃ info rest, removeLoop sym l = some (info, rest) ∧ (l' = info :: rest ∨ l' = rest)) :
    l'.length ≤ l.length ∧ ((loopNames l).Nodup → (loopNames l').Nodup) := by
  rcases h with rfl | ⟨info, rest, hr, h⟩
  · exact ⟨Nat.le_refl _, id⟩
  · rcases h with h | h <;> rw [h]
    · exact removeLoop_reinsert sym l info rest hr
    · exact ⟨Nat.le_of_lt (removeLoop_length_lt sym l info rest hr),
        fun hn => (removeLoop_nodup sym l info rest hr hn).1⟩

/-- NEXT: no outcome grows the loop stack or introduces a duplicate name. -/
theorem next_cap (sym : Str) (σ : St F) :
    (∀ σ', endLoop sym σ = .ok () σ' →
      σ'.loops.length ≤ σ.loops.length ∧ ((loopNames σ.loops).Nodup → (loopNames σ'.loops).Nodup)) ∧
    (∀ e σ', endLoop sym σ = .err e σ' →
      σ'.loops.length ≤ σ.loops.length ∧ ((loopNames σ.loops).Nodup → (loopNames σ'.loops).Nodup)) := by
  have h := loops_shrink sym _ _ (endLoop_final_loops sym σ)
  exact ⟨fun σ' h' => by rw [h'] at h; exact h, fun e σ' h' => by rw [h'] at h; exact h⟩

/-- Non-vacuity: FOR I inside FOR I / FOR J replaces both by the one new loop. -/
example : (match startLoop (F := Unit) ['I'] () () ()
      { loops := [{ loc := {}, sym := ['J'], toV := (), stepV := () }, { loc := {}, sym := ['I'], toV := (), stepV := () }] } with
    | .ok () σ' => loopNames σ'.loops
    | .err _ _ => []) = [['I']] := by decide

/-- Non-vacuity: at the cap a FOR for a new variable is OUT OF MEMORY. -/
example : (match startLoop (F := Unit) ['I'] () () ()
      { loops := List.replicate 32 { loc := {}, sym := ['J'], toV := (), stepV := () } } with
    | .ok () _ => none
    | .err e σ' => some (e.err, σ'.loops.length)) = some (.oomStack, 32) := by decide

/-- Non-vacuity: the largest array that fits and the smallest that does not. -/
example : (ArrayV.create (F := Unit) ['A'] [99, 99]).toOption.isSome = true ∧
          (ArrayV.create (F := Unit) ['A'] [99, 100]).toOption.isSome = false := by decide

end Abasic.Props.C16
