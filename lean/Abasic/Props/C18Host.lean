import Abasic.Proofs.RngFrame
import Abasic.Proofs.RngRun
import Abasic.Proofs.Turn
import Abasic.Props.C01More
import Abasic.Proofs.HostFast
/-
  C18 at host level — RND is a pure function of the seed.

  `Interpreter::randomize` (the call `Call.seed`) stores `seed % 2^33` in `rng` and changes nothing
  else.  EVERY computation of the evaluator — the expression and statement evaluators at every
  fuel, `runNextStatement`, `startEvaluating`, `continueEvaluating`, `provideInput`,
  `breakAtCurrentLocation`, `take_output` — moves the generator only along the
  orbit of the documented recurrence `lcg`, on the success and on the error
  path, from every state (`rng_orbit_*`; the frame induction is Proofs/RngFrame.lean).  Hence along any
  call sequence without a re-seeding call the generator state is `lcg^[k] (seed % 2^33)` for some `k`
  (`rng_orbit_reachable`), and after the same (or a congruent) seed two interpreters that differed only
  in `rng` are equal, and stay equal (`same_seed_same_transcript`, `seed_mod`).
-/
namespace Abasic.Props.C18
open Abasic Abasic.Hoare Abasic.Rng Abasic.Props.C01

variable {F : Type} [NumOps F]

/-- `Interpreter::randomize(seed)`: `rng := seed % 2^33`, nothing else changes — in every state. -/
theorem randomize_sets_seed (seed : Nat) (σ : St F) :
    randomize seed σ = .ok () { σ with rng := seed % 2 ^ 33 } := by
  have h := (seed_reduced seed).1
  unfold randomize M.modify
  rw [h]

/-- the same for the host call `Call.seed` of the call model (C01More) -/
theorem call_seed_sets_seed (fuel seed : Nat) (σ : St F) :
    (Call.seed seed).run fuel σ = .ok () { σ with rng := seed % 2 ^ 33 } ∧
    applyCall fuel (.seed seed) σ = { σ with rng := seed % 2 ^ 33 } := by
  have h : (Call.seed seed).run fuel σ = .ok () { σ with rng := seed % 2 ^ 33 } :=
    randomize_sets_seed seed σ
  refine ⟨h, ?_⟩
  unfold applyCall
  rw [h]; rfl

theorem seeded_reduced (fuel seed : Nat) (σ : St F) : (applyCall fuel (.seed seed) σ).rng < 2 ^ 33 := by
  rw [(call_seed_sets_seed fuel seed σ).2]
  show seed % 2 ^ 33 < 2 ^ 33
  omega

/-- every run of `m`, successful or failing, leaves the generator on the forward orbit
    of where it was, and reduced if it was reduced -/
def AlongOrbit {α : Type} (m : M F α) : Prop :=
  ∀ σ : St F,
    (∀ a σ', m σ = .ok a σ' → Orbit σ.rng σ'.rng ∧ (σ.rng < 2 ^ 33 → σ'.rng < 2 ^ 33)) ∧
    (∀ e σ', m σ = .err e σ' → Orbit σ.rng σ'.rng ∧ (σ.rng < 2 ^ 33 → σ'.rng < 2 ^ 33))

omit [NumOps F] in
theorem alongOrbit_of_respects {α : Type} {m : M F α} (h : Respects RO m) : AlongOrbit m :=
  fun σ => ⟨fun a σ' e => ⟨(h.at σ).1 a σ' e, ((h.at σ).1 a σ' e).lt⟩,
    fun a σ' e => ⟨(h.at σ).2 a σ' e, ((h.at σ).2 a σ' e).lt⟩⟩

theorem rng_orbit_expr (fuel : Nat) : AlongOrbit (evalN (F := F) fuel).expr :=
  alongOrbit_of_respects (fr_evalN fuel).1

theorem rng_orbit_stmt (fuel : Nat) : AlongOrbit (evalN (F := F) fuel).stmt :=
  alongOrbit_of_respects (fr_evalN fuel).2

theorem rng_orbit_runNextStatement (fuel : Nat) : AlongOrbit (runNextStatement (F := F) fuel) :=
  alongOrbit_of_respects (fr_runNextStatement fuel)

theorem rng_orbit_startEvaluating (fuel : Nat) (line : Str) :
    AlongOrbit (startEvaluating (F := F) fuel line) :=
  alongOrbit_of_respects (fr_startEvaluating fuel line)

theorem rng_orbit_continueEvaluating (fuel : Nat) : AlongOrbit (continueEvaluating (F := F) fuel) :=
  alongOrbit_of_respects (fr_continueEvaluating fuel)

omit [NumOps F] in
theorem rng_orbit_provideInput (text : Str) : AlongOrbit (provideInput (F := F) text) :=
  alongOrbit_of_respects (Lift.ro_provideInput text)

omit [NumOps F] in
theorem rng_orbit_breakAtCurrentLocation : AlongOrbit (breakAtCurrentLocation (F := F)) :=
  alongOrbit_of_respects Lift.ro_breakAtCurrentLocation

/-- the one-step reading of the invariant: a single `RND(x)` makes zero steps or one step -/
theorem rnd_zero_or_one_step (x : F) (σ : St F) :
    (rnd x σ).final.rng = σ.rng ∨ (rnd x σ).final.rng = lcg σ.rng := by
  rcases Lift.rnd_cases x σ with ⟨e, h⟩ | ⟨v, h⟩ | ⟨v, h⟩ <;> rw [h]
  · exact .inl rfl
  · exact .inl rfl
  · exact .inr rfl

def Call.isSeed : Call → Bool
  | .seed _ => true
  | _ => false

theorem call_orbit (fuel : Nat) (c : Call) (hc : Call.isSeed c = false) :
    Respects RO (c.run (F := F) fuel) := by
  cases c with
  | start text => exact fr_startEvaluating fuel text
  | cont => exact fr_continueEvaluating fuel
  | reply text => exact fr_provideInput text
  | brk => exact Lift.ro_breakAtCurrentLocation
  | seed n => cases hc
  | output => exact respects_modify (fun σ => ro_same rfl)

theorem applyCall_orbit (fuel : Nat) (c : Call) (hc : Call.isSeed c = false) (σ : St F) :
    Orbit σ.rng (applyCall fuel c σ).rng :=
  (call_orbit fuel c hc).final σ

theorem applyCalls_orbit (fuel : Nat) (cs : List Call) (hcs : ∀ c ∈ cs, Call.isSeed c = false) (σ : St F) :
    Orbit σ.rng (applyCalls fuel cs σ).rng ∧ (σ.rng < 2 ^ 33 → (applyCalls fuel cs σ).rng < 2 ^ 33) := by
  suffices h : Orbit σ.rng (applyCalls fuel cs σ).rng from ⟨h, h.lt⟩
  induction cs generalizing σ with
  | nil => exact Orbit.refl _
  | cons c cs ih =>
    exact (applyCall_orbit fuel c (hcs c (List.mem_cons_self ..)) σ).trans
      (ih (fun c' hc' => hcs c' (List.mem_cons_of_mem _ hc')) (applyCall fuel c σ))

/-- **The generator state is a function of the seed and of a step count only.**  After
    `randomize(seed)`, along ANY sequence of host calls that does not re-seed (in any
    state, any order, succeeding or failing), the generator state is the `k`-fold
    iterate of the documented recurrence on `seed % 2^33` for some `k`, and it is
    reduced.  (Each successful `RND` of a positive argument returns
    `rngValue (lcg rng)` and makes exactly one step — `rnd_positive` —, everything else
    makes none: so the `k`-th value a program sees is `rngValue (lcg^[k] (seed % 2^33))`.) -/
theorem rng_orbit_reachable (fuel seed : Nat) (cs : List Call)
    (hcs : ∀ c ∈ cs, Call.isSeed c = false) (σ : St F) :
    (∃ k, (applyCalls fuel cs (applyCall fuel (.seed seed) σ)).rng = iterate lcg k (seed % 2 ^ 33)) ∧
    (applyCalls fuel cs (applyCall fuel (.seed seed) σ)).rng < 2 ^ 33 := by
  have h := applyCalls_orbit fuel cs hcs (applyCall fuel (.seed seed) σ)
  have hr : (applyCall fuel (.seed seed) σ).rng = seed % 2 ^ 33 := by
    rw [(call_seed_sets_seed fuel seed σ).2]
  refine ⟨?_, h.2 (seeded_reduced fuel seed σ)⟩
  obtain ⟨k, hk⟩ := h.1
  exact ⟨k, by rw [hk, hr]⟩

/-- the same from the host's point of view: in every state a host can reach from a new
    interpreter (which starts with the seed 0), the generator is reduced and on the orbit
    of the last seed given (of 0 if none was) -/
theorem rng_reduced_of_reachable (fuel : Nat) (σ : St F) (h : Reachable fuel σ) : σ.rng < 2 ^ 33 := by
  induction h with
  | init => show (0 : Nat) < 2 ^ 33; omega
  | @step σ c _ ih =>
    cases hc : Call.isSeed c with
    | false => exact (applyCall_orbit fuel c hc σ).lt ih
    | true =>
      cases c with
      | seed n => exact seeded_reduced fuel n σ
      | _ => cases hc

/-- Two interpreters that differ ONLY in the generator state are equal after the same
    seeding call — hence after every later call sequence, and every later call returns the
    same result in both. -/
theorem same_seed_same_transcript (fuel seed : Nat) (σ₁ σ₂ : St F) (r : Nat)
    (h : σ₂ = { σ₁ with rng := r }) :
    applyCall fuel (.seed seed) σ₁ = applyCall fuel (.seed seed) σ₂ ∧
    (∀ cs, applyCalls fuel cs (applyCall fuel (.seed seed) σ₁) =
           applyCalls fuel cs (applyCall fuel (.seed seed) σ₂)) ∧
    (∀ cs (c : Call), c.run fuel (applyCalls fuel cs (applyCall fuel (.seed seed) σ₁)) =
           c.run fuel (applyCalls fuel cs (applyCall fuel (.seed seed) σ₂))) := by
  have h0 : applyCall fuel (.seed seed) σ₁ = applyCall fuel (.seed seed) σ₂ := by
    rw [(call_seed_sets_seed fuel seed σ₁).2, (call_seed_sets_seed fuel seed σ₂).2, h]
  exact ⟨h0, fun cs => by rw [h0], fun cs c => by rw [h0]⟩

/-- Seeds congruent modulo 2^33 give the same future. -/
theorem seed_mod (fuel a b : Nat) (hab : a % 2 ^ 33 = b % 2 ^ 33) (σ : St F) :
    applyCall fuel (.seed a) σ = applyCall fuel (.seed b) σ ∧
    (∀ cs, applyCalls fuel cs (applyCall fuel (.seed a) σ) =
           applyCalls fuel cs (applyCall fuel (.seed b) σ)) := by
  have h0 : applyCall fuel (.seed a) σ = applyCall fuel (.seed b) σ := by
    rw [(call_seed_sets_seed fuel a σ).2, (call_seed_sets_seed fuel b σ).2, hab]
  exact ⟨h0, fun cs => by rw [h0]⟩

/-- both at once: different histories of the generator, congruent seeds -/
theorem same_seed_same_transcript_mod (fuel a b : Nat) (hab : a % 2 ^ 33 = b % 2 ^ 33)
    (σ₁ σ₂ : St F) (r : Nat) (h : σ₂ = { σ₁ with rng := r }) (cs : List Call) :
    applyCalls fuel cs (applyCall fuel (.seed a) σ₁) = applyCalls fuel cs (applyCall fuel (.seed b) σ₂) := by
  rw [(same_seed_same_transcript fuel a σ₁ σ₂ r h).2.1 cs, (seed_mod fuel a b hab σ₂).2 cs]

/-! ### the three kinds of argument, for a whole line at host level

  The number carrier is abstract, so what the tokenizer makes of the digits `0` and `1`
  and how those numbers compare with zero are hypotheses about `NumOps` (they hold for
  IEEE doubles; `RInt` below is a small carrier where they are checked by evaluation).
  The interpreter state is arbitrary except: idle, with room for two nesting levels
  (the counter is 0 in every reachable state, C01), and — for a step — reduced (`rng < 2^33`,
  which holds in every reachable state: `rng_reduced_of_reachable`). -/

open Abasic.ExprL Abasic.Rng.Run

theorem cmd_rnd0 : (commandWord "PRINT RND(0)".toList).bind Command.ofWord = none := by
  rw [Fast.ofWord_eq, String.toList_ofList]; decide +kernel
theorem cmd_rnd1 : (commandWord "PRINT RND(1)".toList).bind Command.ofWord = none := by
  rw [Fast.ofWord_eq, String.toList_ofList]; decide +kernel
theorem cmd_rndm1 : (commandWord "PRINT RND(-1)".toList).bind Command.ofWord = none := by
  rw [Fast.ofWord_eq, String.toList_ofList]; decide +kernel

/-- a line `PRINT RND(<number>)` whose `rnd` call succeeds with `y`, leaving the generator at `g` -/
theorem print_rnd_ok (fuel : Nat) (σ : St F) (line : Str) (x y : F) (g : Nat)
    (hcmd : (commandWord line).bind Command.ofWord = none) (hnum : parseLineNumber line = none)
    (htok : tokenize (F := F) line 0 = .ok [.kw .Print, RND, .kw .LeftParen, .num x, .kw .RightParen])
    (hrnd : ∀ s : St F, s.rng = σ.rng → rnd x s = .ok y { s with rng := g })
    (hidle : σ.state = .idle) (hn : σ.nesting + 2 ≤ Extracted.nestingLimit) :
    ∃ σ', startEvaluating (fuel + 2) line σ = .ok () σ' ∧ σ'.rng = g ∧
      σ'.out = .print (NumOps.render y ++ ['\n']) :: σ.out ∧ σ'.state = .idle := by
  have hAt : At (Turn.typed σ [.kw .Print, RND, .kw .LeftParen, .num x, .kw .RightParen]) []
      [.kw .Print, RND, .kw .LeftParen, .num x, .kw .RightParen] := ⟨rfl, rfl⟩
  have hAt1 := at_mv1 hAt ((Turn.typed σ [.kw .Print, RND, .kw .LeftParen, .num x, .kw .RightParen]).reads + 1 + 1)
  obtain ⟨r, hx⟩ := expr_rnd_ok (fuel + 1) _ [.kw .Print] [.num x] [] x y g
    (by show σ.nesting < _; omega) (Proofs.C11Eval.ends_nil 6) hAt1
    (fun s' hn' hAt' => ⟨_, Proofs.C11Eval.expr_num (evalN fuel) s' _ _ x hAt' (ends_rparen 6 _)
      (by rw [hn']; show σ.nesting + 1 < _; omega)⟩)
    (fun s' hg' => hrnd s' hg')
  have hAtτ := at_fin (a := [RND, .kw .LeftParen, .num x, .kw .RightParen]) (b := []) hAt1 g r
  exact ⟨_, Turn.start_typed_ok (fuel + 2) line hidle hcmd hnum htok
    (stmt_print_ok (evalN (fuel + 2)) hAt rfl hx hAtτ) rfl rfl, rfl, rfl, rfl⟩

/-- `PRINT RND(0)`: the generator does not move, and the line printed is the rendering of the
    value of the CURRENT generator state (the previous value returned). -/
theorem print_rnd_zero (fuel : Nat) (σ : St F) (z : F)
    (hp : NumOps.parse (F := F) ['0'] = some z) (hfin : NumOps.isFinite z = true)
    (hneg : NumOps.lt z NumOps.zero = false) (hz : NumOps.eq z NumOps.zero = true)
    (hidle : σ.state = .idle) (hn : σ.nesting + 2 ≤ Extracted.nestingLimit) :
    ∃ σ', startEvaluating (fuel + 2) "PRINT RND(0)".toList σ = .ok () σ' ∧ σ'.rng = σ.rng ∧
      σ'.out = .print (NumOps.render (rngValue (F := F) σ.rng) ++ ['\n']) :: σ.out ∧ σ'.state = .idle :=
  print_rnd_ok fuel σ _ z _ σ.rng cmd_rnd0 (by decide) (tokenize_rnd0 z hp hfin)
    (fun s hr => by
      have e : ({ s with rng := σ.rng } : St F) = s := by rw [← hr]
      rw [e, rnd_zero z s hneg hz, hr]) hidle hn

/-- `PRINT RND(1)` (any argument the carrier calls positive): the generator makes exactly one
    step of the documented recurrence and the line printed is the rendering of the NEW state's
    value `rngValue (lcg σ.rng)` (the model's own scaling `rngValue` and the carrier's `render`). -/
theorem print_rnd_positive (fuel : Nat) (σ : St F) (u : F)
    (hp : NumOps.parse (F := F) ['1'] = some u) (hfin : NumOps.isFinite u = true)
    (hneg : NumOps.lt u NumOps.zero = false) (hz : NumOps.eq u NumOps.zero = false)
    (hidle : σ.state = .idle) (hn : σ.nesting + 2 ≤ Extracted.nestingLimit) (hs : σ.rng < 2 ^ 33) :
    ∃ σ', startEvaluating (fuel + 2) "PRINT RND(1)".toList σ = .ok () σ' ∧ σ'.rng = lcg σ.rng ∧
      σ'.out = .print (NumOps.render (rngValue (F := F) (lcg σ.rng)) ++ ['\n']) :: σ.out ∧
      σ'.state = .idle :=
  print_rnd_ok fuel σ _ u _ (lcg σ.rng) cmd_rnd1 (by decide) (tokenize_rnd1 u hp hfin)
    (fun s hr => by rw [rnd_positive u s (by rw [hr]; exact hs) hneg hz, hr]) hidle hn

/-- `PRINT RND(-1)` (any argument the carrier calls negative): the call fails with the
    UNIMPLEMENTED error, nothing is printed and the generator does not move. -/
theorem print_rnd_negative (fuel : Nat) (σ : St F) (u : F)
    (hp : NumOps.parse (F := F) ['1'] = some u) (hfin : NumOps.isFinite u = true)
    (hneg : NumOps.lt (NumOps.neg u) NumOps.zero = true)
    (hidle : σ.state = .idle) (hn : σ.nesting + 2 ≤ Extracted.nestingLimit) :
    ∃ te σ', startEvaluating (fuel + 2) "PRINT RND(-1)".toList σ = .err te σ' ∧
      te.err = .unimplemented ∧ σ'.rng = σ.rng ∧ σ'.out = σ.out ∧ σ'.state = .idle := by
  have hAt : At (Turn.typed σ [.kw .Print, RND, .kw .LeftParen, .kw .Minus, .num u, .kw .RightParen]) []
      [.kw .Print, RND, .kw .LeftParen, .kw .Minus, .num u, .kw .RightParen] := ⟨rfl, rfl⟩
  obtain ⟨σ', hx, hg, ho⟩ := expr_rnd_err (fuel + 1) _ [.kw .Print] [.kw .Minus, .num u] [] (NumOps.neg u)
    { err := .unimplemented } (by show σ.nesting < _; omega) (at_mv1 hAt _)
    (fun s' hn' hAt' => expr_neg_num fuel s' _ _ u (by rw [hn']; show σ.nesting + 1 < _; omega)
      (ends_rparen 6 _) hAt')
    (fun s' => rnd_negative (NumOps.neg u) s' hneg)
  exact ⟨_, _, Turn.start_typed_err (fuel + 2) _ hidle cmd_rndm1 (by decide) (tokenize_rndm1 u hp hfin)
    (stmt_print_err (evalN (fuel + 2)) hAt rfl hx), rfl, hg, ho, rfl⟩

/-- **The three kinds of argument in one statement**: an error and `RND(0)` do not advance the generator, a positive
    argument advances it by exactly one step. -/
theorem rnd_error_and_zero_do_not_advance (fuel : Nat) (σ : St F) (z u : F)
    (hp0 : NumOps.parse (F := F) ['0'] = some z) (hf0 : NumOps.isFinite z = true)
    (hp1 : NumOps.parse (F := F) ['1'] = some u) (hf1 : NumOps.isFinite u = true)
    (hz0 : NumOps.lt z NumOps.zero = false) (hz1 : NumOps.eq z NumOps.zero = true)
    (hu0 : NumOps.lt u NumOps.zero = false) (hu1 : NumOps.eq u NumOps.zero = false)
    (hm : NumOps.lt (NumOps.neg u) NumOps.zero = true)
    (hidle : σ.state = .idle) (hn : σ.nesting + 2 ≤ Extracted.nestingLimit) (hs : σ.rng < 2 ^ 33) :
    (∃ σ', startEvaluating (fuel + 2) "PRINT RND(0)".toList σ = .ok () σ' ∧ σ'.rng = σ.rng ∧
      σ'.out = .print (NumOps.render (rngValue (F := F) σ.rng) ++ ['\n']) :: σ.out) ∧
    (∃ te σ', startEvaluating (fuel + 2) "PRINT RND(-1)".toList σ = .err te σ' ∧
      te.err = .unimplemented ∧ σ'.rng = σ.rng ∧ σ'.out = σ.out) ∧
    (∃ σ', startEvaluating (fuel + 2) "PRINT RND(1)".toList σ = .ok () σ' ∧ σ'.rng = lcg σ.rng ∧
      σ'.out = .print (NumOps.render (rngValue (F := F) (lcg σ.rng)) ++ ['\n']) :: σ.out) := by
  obtain ⟨a, ha1, ha2, ha3, _⟩ := print_rnd_zero fuel σ z hp0 hf0 hz0 hz1 hidle hn
  obtain ⟨te, b, hb1, hb2, hb3, hb4, _⟩ := print_rnd_negative fuel σ u hp1 hf1 hm hidle hn
  obtain ⟨c, hc1, hc2, hc3, _⟩ := print_rnd_positive fuel σ u hp1 hf1 hu0 hu1 hidle hn hs
  exact ⟨⟨a, ha1, ha2, ha3⟩, ⟨te, b, hb1, hb2, hb3, hb4⟩, ⟨c, hc1, hc2, hc3⟩⟩

/-- a small number carrier for the checked examples (the degenerate `Unit` carrier has no
    numerals): integers, numerals are digit strings -/
def RInt := Int

def rintDigits : List Char → Nat → Option Nat
  | [], acc => some acc
  | c :: cs, acc => if isAsciiDigit c then rintDigits cs (acc * 10 + (c.toNat - '0'.toNat)) else none

instance : NumOps RInt where
  zero := (0 : Int)
  one := (1 : Int)
  add := fun (a b : Int) => a + b
  sub := fun (a b : Int) => a - b
  mul := fun (a b : Int) => a * b
  div := fun (a b : Int) => a / b
  pow := fun (a b : Int) => a ^ b.toNat
  neg := fun (a : Int) => -a
  abs := fun (a : Int) => (a.natAbs : Int)
  floor := fun a => a
  lt := fun (a b : Int) => decide (a < b)
  le := fun (a b : Int) => decide (a ≤ b)
  eq := fun (a b : Int) => decide (a = b)
  toI64 := fun (a : Int) => a
  toU64 := fun (a : Int) => a.toNat
  ofNat := fun n => (n : Int)
  parse := fun cs => if cs.isEmpty then none else (rintDigits cs 0).map fun n => (n : Int)
  render := fun (a : Int) => if a < 0 then '-' :: Nat.toDigits 10 a.natAbs else Nat.toDigits 10 a.toNat
  isFinite := fun _ => true

/-- the hypotheses of `print_rnd_*` about the carrier are satisfiable, and so are those about the state:
    a new interpreter seeded with 5.  One step from 5 is `lcg 5 = 1022226848`. -/
example :
    let σ : St RInt := applyCall 2 (.seed 5) {}
    (∃ σ', startEvaluating 2 "PRINT RND(0)".toList σ = .ok () σ' ∧ σ'.rng = 5 ∧
      σ'.out = [.print (NumOps.render (rngValue (F := RInt) 5) ++ ['\n'])]) ∧
    (∃ te σ', startEvaluating 2 "PRINT RND(-1)".toList σ = .err te σ' ∧
      te.err = .unimplemented ∧ σ'.rng = 5 ∧ σ'.out = []) ∧
    (∃ σ', startEvaluating 2 "PRINT RND(1)".toList σ = .ok () σ' ∧ σ'.rng = 1022226848 ∧
      σ'.out = [.print (NumOps.render (rngValue (F := RInt) 1022226848) ++ ['\n'])]) := by
  intro σ
  have hσ : σ = { rng := 5 } := (call_seed_sets_seed 2 5 ({} : St RInt)).2
  have hl : lcg 5 = 1022226848 := by decide
  have h := rnd_error_and_zero_do_not_advance (F := RInt) 0 σ (0 : Int) (1 : Int) rfl rfl rfl rfl
    (by decide) (by decide) (by decide) (by decide) (by decide)
    (by rw [hσ]) (by rw [hσ]; decide) (by rw [hσ]; decide)
  rw [hσ] at h ⊢
  rw [← hl]
  exact h

/-- the orbit theorem on a concrete session: seed 7, a program with a loop that calls RND,
    a break, a continuation, an error — the generator is some iterate of `lcg` on 7 -/
example : ∃ k, (applyCalls (F := RInt) 60
      [.start "10 FOR I = 1 TO 3".toList, .start "20 PRINT RND(1) + RND(0)".toList,
       .start "30 NEXT I".toList, .start "RUN".toList, .brk, .cont, .start "PRINT RND(-1)".toList, .output]
      (applyCall 60 (.seed 7) {})).rng = iterate lcg k 7 :=
  (rng_orbit_reachable 60 7 _ (by decide) {}).1

/-- … and evaluated: `PRINT RND(1)` twice from seed 7 is two steps, `PRINT RND(0)` none -/
example : (applyCalls (F := RInt) 4
      [.seed 7, .start "PRINT RND(1)".toList, .start "PRINT RND(0)".toList, .start "PRINT RND(1)".toList] {}).rng
      = lcg (lcg 7) := by
  literal_chars
  decide +kernel

/-- same seed, same future: two interpreters with different histories of the generator -/
example (cs : List Call) :
    applyCalls (F := RInt) 60 cs (applyCall 60 (.seed 3) { rng := 11 }) =
    applyCalls (F := RInt) 60 cs (applyCall 60 (.seed (2 ^ 33 + 3)) { rng := 12 }) :=
  same_seed_same_transcript_mod 60 3 (2 ^ 33 + 3) (by decide) _ _ 12 rfl cs

example : (2 ^ 33 + 3) % 2 ^ 33 = 3 % 2 ^ 33 ∧ Orbit 7 (lcg (lcg 7)) :=
  ⟨by decide, (Orbit.step 7).trans (Orbit.step _)⟩

end Abasic.Props.C18
