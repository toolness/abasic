import Abasic.Props.C02More
/-
  C02 for the full expression language: `eval_render2`.

  `Ref.Expr2` (Abasic/Ref/Expr2.lean) extends the trees of `eval_render` with
  array cells `name(i₁, …, iₖ)`, calls of user-defined functions
  `fname(a₁, …, aₖ)` and `RND(x)`.  Evaluation has effects — a read of an
  undeclared array creates it, RND advances the generator, a call pushes a
  frame, jumps to the line of the definition, evaluates the body there and
  comes back — so the spec `Ref.fold2` threads a reference environment
  `RefEnv` (globals, frames, arrays, generator state, function definitions).

  `eval_render2`: for every tree `e`, when the current line of `σ` holds
  `pre ++ render2 e ++ rest` with the cursor at `|pre|`, and `σ` is related to
  the environment `env` (`EnvOf`), the token-stream evaluator `orExpr (evalN n)`
  returns exactly what `fold2 k env e` returns:

    * the same value, in the state `σ` with the cursor after the rendering, a
      larger read counter, and the arrays / generator state of the new
      environment — nothing else changes (the frame of a call is popped, the
      cursor is back on the line of the call) — and that state is again
      related to the new environment;
    * or the same error (`TErr.err`), in a state with the nesting counter, the
      stack and the current line of `σ`.

  `eval_render2_warn` is the same for ANY value of the warnings flag: the output
  queue grows by exactly `warnsOf …` (Proofs/Expr2Warn.lean), the warning records
  of the undeclared scalar reads and undeclared array reads met, in evaluation
  order, each with the line it is raised on (inside a function body: the line of
  the DEF).  `eval_render2` is its case "flag off" (`warnsOf_flag_off`).

  The one theorem (the induction in Proofs/Expr2WarnInd.lean is over the spec
  fuel and the size of the tree) covers RND and cells with pure subscripts,
  nested cells and cells inside all operators, and user-function calls with the
  bodies on stored lines, recursion included (the stack cap 32 ends it: OUT OF
  MEMORY).

  Side conditions (`Ready2`), beyond those of `Ready`:
    * `Resolved`: an array is not named like a built-in (ABS / INT / RND) or like
      a defined function, a called function is not named like a built-in.  (A
      call of an undefined function IS an array read, in `fold2` as in the
      interpreter.)  Same for the bodies of the defined functions.
    * the nesting room and the evaluator fuel are measured by `depth2`, which
      counts parentheses, built-in arguments, subscripts, arguments and — through
      the function table, as deep as the spec fuel `k` — function bodies;
    * the spec fuel `k` must exceed the room left on the stack:
      `stackLimit < k + |stack|` (`k = 33` always does); then `fold2` never runs
      out of fuel (`fold2_fuel_ok`);
    * the arrays have as many cells as their dimensions say and the generator
      state is reduced (both hold in every reachable state: `WFσ`, `StoreOk`).
-/
namespace Abasic.Props.C02
open Abasic Abasic.Ref Abasic.ExprL Abasic.ExprL2 Abasic.Names

variable {F : Type} [NumOps F]

/-- The interpreter state `σ` realises the reference environment `env`:
    same globals, the frames are the variable frames of the stack (a GOSUB
    frame binds nothing), same arrays and generator state, and the function
    table of `σ` has exactly the functions of `env`, each stored with the same
    parameter list and pointing at a stored line whose tokens from the recorded
    index are the rendering of the body followed by something that ends an
    expression (`Follows`: nothing, `:`, …). -/
structure EnvOf (σ : St F) (env : RefEnv F) : Prop where
  vars : σ.vars = env.vars
  frames : σ.stack.map (·.vars) = env.frames
  arrays : σ.arrays = env.arrays
  rng : σ.rng = env.rng
  fns_undef : ∀ name, alGet name env.fns = none → alGet name σ.fns = none
  fns_def : ∀ name d, alGet name env.fns = some d →
    ∃ (fd : FnDef) (pre tail : List (Token F)),
      alGet name σ.fns = some fd ∧ fd.args = d.params ∧
      σ.lines.get fd.line = some (pre ++ render2 d.body ++ tail) ∧ fd.idx = pre.length ∧ Follows tail

omit [NumOps F] in
/-- the function-table clause of `EnvOf` in "tokens from the recorded index" form -/
theorem fn_entry_of_drop {σ : St F} {fd : FnDef} {toks body tail : List (Token F)}
    (hline : σ.lines.get fd.line = some toks) (hidx : fd.idx ≤ toks.length)
    (hdrop : toks.drop fd.idx = body ++ tail) :
    ∃ pre : List (Token F), σ.lines.get fd.line = some (pre ++ body ++ tail) ∧ fd.idx = pre.length := by
  refine ⟨toks.take fd.idx, ?_, ?_⟩
  · rw [hline, List.append_assoc, ← hdrop, List.take_append_drop]
  · rw [List.length_take]; omega

omit [NumOps F] in
theorem follows_of_ends {rest : List (Token F)} (h : Ends 6 rest) : Follows rest := by
  intro t ht
  obtain ⟨h0, h1⟩ := h t ht
  exact ⟨h0, h1 5 (by omega), h1 4 (by omega), h1 3 (by omega), h1 2 (by omega), h1 1 (by omega),
    h1 0 (by omega)⟩

/-- The hypotheses of `eval_render2`; `k` is the fuel of the spec, `n` that of the evaluator. -/
structure Ready2 (σ : St F) (env : RefEnv F) (pre : List (Token F)) (e : Expr2 F) (rest : List (Token F))
    (k n : Nat) : Prop where
  toks : tokens σ = .ok (pre ++ render2 e ++ rest) σ
  idx : σ.loc.idx = pre.length
  envOf : EnvOf σ env
  warnings : σ.warnings = false
  /-- every array has as many cells as its dimensions say (`WFσ.arrays`, `StoreOk.arrays_ok`) -/
  arrays_ok : ∀ p ∈ σ.arrays, p.2.cellCount = Props.C16.prod p.2.dims
  /-- the generator state is reduced (`WFσ.rng`) -/
  rng_ok : σ.rng < 2 ^ 33
  stack : σ.stack.length ≤ Extracted.stackLimit
  specFuel : Extracted.stackLimit < k + σ.stack.length
  resolved : Resolved env.fns e
  bodies : ∀ name d, alGet name env.fns = some d → Resolved env.fns d.body
  nesting : σ.nesting + depth2 env.fns k e < Extracted.nestingLimit
  fuel : depth2 env.fns k e + 1 ≤ n
  follows : Follows rest

/-- Where an error of an expression is located when the evaluator returns it:
    nowhere yet — the enclosing statement's `populate_error_location` then puts
    it on the token before the cursor of the final state, on the current line
    (`error_location`) — or, when it arose inside the body of a user function
    (the call has populated it already), on the line of a function definition. -/
def ErrLoc (σ : St F) (te : TErr) : Prop :=
  te.loc = none ∨
    ∃ (l : Loc) (name : Str) (fd : FnDef), te.loc = some l ∧ alGet name σ.fns = some fd ∧ l.line = some fd.line

/-- The hypotheses of `eval_render2` without `warnings = false`. -/
structure ReadyW (σ : St F) (env : RefEnv F) (pre : List (Token F)) (e : Expr2 F) (rest : List (Token F))
    (k n : Nat) : Prop where
  toks : tokens σ = .ok (pre ++ render2 e ++ rest) σ
  idx : σ.loc.idx = pre.length
  envOf : EnvOf σ env
  arrays_ok : ∀ p ∈ σ.arrays, p.2.cellCount = Props.C16.prod p.2.dims
  rng_ok : σ.rng < 2 ^ 33
  stack : σ.stack.length ≤ Extracted.stackLimit
  specFuel : Extracted.stackLimit < k + σ.stack.length
  resolved : Resolved env.fns e
  bodies : ∀ name d, alGet name env.fns = some d → Resolved env.fns d.body
  nesting : σ.nesting + depth2 env.fns k e < Extracted.nestingLimit
  fuel : depth2 env.fns k e + 1 ≤ n
  follows : Follows rest

omit [NumOps F] in
theorem Ready2.readyW {σ : St F} {env : RefEnv F} {pre rest : List (Token F)} {e : Expr2 F} {k n : Nat}
    (h : Ready2 σ env pre e rest k n) : ReadyW σ env pre e rest k n :=
  ⟨h.toks, h.idx, h.envOf, h.arrays_ok, h.rng_ok, h.stack, h.specFuel, h.resolved, h.bodies, h.nesting, h.fuel,
   h.follows⟩

def wenvOf (σ : St F) (env : RefEnv F) : WEnv F :=
  { toRefEnv := env, out := σ.out, warn := σ.warnings, line := σ.loc.line, sfns := σ.fns }

omit [NumOps F] in
theorem ReadyW.rel {σ : St F} {env : RefEnv F} {pre rest : List (Token F)} {e : Expr2 F} {k n : Nat}
    (h : ReadyW σ env pre e rest k n) : ExprL3.Rel k σ (wenvOf σ env) where
  vars := h.envOf.vars
  frames := h.envOf.frames
  arrays := h.envOf.arrays
  rng := h.envOf.rng
  out := rfl
  warn := rfl
  line := rfl
  sfns := rfl
  fns := ⟨h.envOf.fns_undef, fun name d hd => by
    obtain ⟨fd, p, tail, h1, h2, h3, h4, h5⟩ := h.envOf.fns_def name d hd
    exact ⟨fd, p, tail, h1, h2, by rw [h3, List.append_assoc], h4, ends_of_follows h5⟩⟩
  cap := h.stack
  fuel := h.specFuel
  arrs_ok := fun name a ha => by
    have ha' : alGet name σ.arrays = some a := by rw [h.envOf.arrays]; exact ha
    exact h.arrays_ok (name, a) (Props.C16.alGet_mem _ _ _ ha')
  rng_ok := by
    show env.rng < Extracted.rngModulus
    rw [← h.envOf.rng, Props.C18.constants.1]; exact h.rng_ok
  bodies := h.bodies

omit [NumOps F] in
theorem envOf_of_rel3 {k : Nat} {σ : St F} {w : WEnv F} (h : ExprL3.Rel k σ w) : EnvOf σ w.toRefEnv where
  vars := h.vars
  frames := h.frames
  arrays := h.arrays
  rng := h.rng
  fns_undef := h.fns.undef
  fns_def := fun name d hd => by
    obtain ⟨fd, p, tail, h1, h2, h3, h4, h5⟩ := h.fns.defd name d hd
    exact ⟨fd, p, tail, h1, h2, by rw [h3, List.append_assoc], h4, follows_of_ends h5⟩

omit [NumOps F] in
theorem ReadyW.frames_le {σ : St F} {env : RefEnv F} {pre rest : List (Token F)} {e : Expr2 F} {k n : Nat}
    (h : ReadyW σ env pre e rest k n) :
    env.frames.length ≤ Extracted.stackLimit ∧ Extracted.stackLimit < k + env.frames.length := by
  have hl : env.frames.length = σ.stack.length := by rw [← h.envOf.frames, List.length_map]
  rw [hl]; exact ⟨h.stack, h.specFuel⟩

omit [NumOps F] in
theorem errLoc_of_keeps {σ σ' : St F} {te : TErr} {x : Err}
    (hg : x ≠ .outOfFuel ∧ x ≠ .dataTypeMismatch) (hx : te.err = x) (hk : Keeps σ te σ') : ErrLoc σ te := by
  rcases hk.2.2.2 with h | h | h
  · exact Or.inl h
  · rw [hx] at h; exact absurd h hg.2
  · exact Or.inr h

theorem of_agrees3 {res : Res F (Value F)} {e : Expr2 F} {k n : Nat} {σ : St F} {env : RefEnv F}
    {pre rest : List (Token F)} (h : ReadyW σ env pre e rest k n)
    (hA : Agrees2 Keeps res (fold3 k (wenvOf σ env) e) σ (fun v env' r => .ok v (ExprL3.upd σ (render2 e).length r env'))) :
    (∀ v env', fold2 k env e = .ok (v, env') → ∃ r, σ.reads < r ∧
      res =
        .ok v { σ with loc := { σ.loc with idx := pre.length + (render2 e).length }, reads := r, arrays := env'.arrays, rng := env'.rng, out := (warnsOf σ.warnings σ.fns k σ.loc.line env e).reverse ++ σ.out } ∧
      EnvOf ({ σ with loc := { σ.loc with idx := pre.length + (render2 e).length }, reads := r, arrays := env'.arrays, rng := env'.rng, out := (warnsOf σ.warnings σ.fns k σ.loc.line env e).reverse ++ σ.out } : St F) env') ∧
    (∀ x, fold2 k env e = .error x → ∃ te σ',
      res = .err te σ' ∧ te.err = x ∧
      σ'.nesting = σ.nesting ∧ σ'.stack = σ.stack ∧ σ'.loc.line = σ.loc.line ∧ ErrLoc σ te) := by
  rw [fold3_eq] at hA
  have hwe : (wenvOf σ env).toRefEnv = env := rfl
  rw [hwe] at hA
  constructor
  · intro v env' hv
    rw [hv] at hA
    obtain ⟨r, hr, hσ⟩ := hA
    have hstep : ExprL3.Step (wenvOf σ env)
        ((wenvOf σ env).put env' (warnsOf σ.warnings σ.fns k σ.loc.line env e)) :=
      ExprL3.step_put _ _ _ (fold2_step k e env env' v hv)
    have hrel := h.rel.upd hstep (render2 e).length r
    refine ⟨r, hr, ?_, ?_⟩
    · rw [hσ]
      show Res.ok v (ExprL3.upd σ _ r _) = _
      simp only [ExprL3.upd, h.idx]
      rfl
    · have := envOf_of_rel3 hrel
      simp only [ExprL3.upd, h.idx] at this
      exact this
  · intro x hx
    rw [hx] at hA
    obtain ⟨te, σ', h1, h2, hk⟩ := hA
    exact ⟨te, σ', h1, h2, hk.1, hk.2.1, hk.2.2.1,
      errLoc_of_keeps (fold2_good k e env x h.frames_le.1 h.frames_le.2 hx) h2 hk⟩

/-- `eval_render2` whatever the warnings flag is: on a value of the spec the output queue grows by
    exactly the records `warnsOf σ.warnings σ.fns k σ.loc.line env e` (oldest first; the queue is
    newest first, hence the `reverse`). -/
theorem eval_render2_warn (e : Expr2 F) (k n : Nat) (σ : St F) (env : RefEnv F) (pre rest : List (Token F))
    (h : ReadyW σ env pre e rest k n) :
    (∀ v env', fold2 k env e = .ok (v, env') → ∃ r, σ.reads < r ∧
      orExpr (evalN n) σ =
        .ok v { σ with loc := { σ.loc with idx := pre.length + (render2 e).length }, reads := r, arrays := env'.arrays, rng := env'.rng, out := (warnsOf σ.warnings σ.fns k σ.loc.line env e).reverse ++ σ.out } ∧
      EnvOf ({ σ with loc := { σ.loc with idx := pre.length + (render2 e).length }, reads := r, arrays := env'.arrays, rng := env'.rng, out := (warnsOf σ.warnings σ.fns k σ.loc.line env e).reverse ++ σ.out } : St F) env') ∧
    (∀ x, fold2 k env e = .error x → ∃ te σ',
      orExpr (evalN n) σ = .err te σ' ∧ te.err = x ∧
      σ'.nesting = σ.nesting ∧ σ'.stack = σ.stack ∧ σ'.loc.line = σ.loc.line ∧ ErrLoc σ te) :=
  of_agrees3 h ((ExprL3.main3 k e).1 n 6 σ (wenvOf σ env) pre rest (Nat.le_of_succ_le h.fuel) (Nat.le_of_lt h.nesting)
    (by have := prec2_bounds e; unfold lv2; omega) (Nat.le_refl _) (ends_of_follows h.follows) (.of_tokens h.toks h.idx) h.rel h.resolved)

theorem warnsOf_flag_off (σ : St F) (k : Nat) (env : RefEnv F) (e : Expr2 F) (hw : σ.warnings = false) :
    (warnsOf σ.warnings σ.fns k σ.loc.line env e).reverse ++ σ.out = σ.out := by
  rw [hw, warnsOf_off]; rfl

/-- Under the hypotheses of `eval_render2` the spec never runs out of fuel (the
    stack cap ends a runaway recursion first) and never reports the READ-only
    error DATA TYPE MISMATCH. -/
theorem fold2_fuel_ok (e : Expr2 F) (k n : Nat) (σ : St F) (env : RefEnv F) (pre rest : List (Token F))
    (h : Ready2 σ env pre e rest k n) (x : Err) (hx : fold2 k env e = .error x) :
    x ≠ .outOfFuel ∧ x ≠ .dataTypeMismatch :=
  fold2_good k e env x h.readyW.frames_le.1 h.readyW.frames_le.2 hx

/-- The token-stream evaluator on the rendering of a tree of
    the full expression language computes `fold2`. -/
theorem eval_render2 (e : Expr2 F) (k n : Nat) (σ : St F) (env : RefEnv F) (pre rest : List (Token F))
    (h : Ready2 σ env pre e rest k n) :
    (∀ v env', fold2 k env e = .ok (v, env') → ∃ r, σ.reads < r ∧
      orExpr (evalN n) σ =
        .ok v { σ with loc := { σ.loc with idx := pre.length + (render2 e).length }, reads := r, arrays := env'.arrays, rng := env'.rng } ∧
      EnvOf ({ σ with loc := { σ.loc with idx := pre.length + (render2 e).length }, reads := r, arrays := env'.arrays, rng := env'.rng } : St F) env') ∧
    (∀ x, fold2 k env e = .error x → ∃ te σ',
      orExpr (evalN n) σ = .err te σ' ∧ te.err = x ∧
      σ'.nesting = σ.nesting ∧ σ'.stack = σ.stack ∧ σ'.loc.line = σ.loc.line ∧ ErrLoc σ te) := by
  have := eval_render2_warn e k n σ env pre rest h.readyW
  rwa [warnsOf_flag_off σ k env e h.warnings] at this

/-- The same for the recursive entry `exprBody`, i.e. `(evalN (n+1)).expr`: one
    nesting level deeper, restored on exit on both paths. -/
theorem eval_render2_body (e : Expr2 F) (k n : Nat) (σ : St F) (env : RefEnv F) (pre rest : List (Token F))
    (h : Ready2 σ env pre e rest k n) :
    (∀ v env', fold2 k env e = .ok (v, env') → ∃ r, σ.reads < r ∧
      exprBody (evalN n) σ =
        .ok v { σ with loc := { σ.loc with idx := pre.length + (render2 e).length }, reads := r, arrays := env'.arrays, rng := env'.rng } ∧
      EnvOf ({ σ with loc := { σ.loc with idx := pre.length + (render2 e).length }, reads := r, arrays := env'.arrays, rng := env'.rng } : St F) env') ∧
    (∀ x, fold2 k env e = .error x → ∃ te σ',
      exprBody (evalN n) σ = .err te σ' ∧ te.err = x ∧
      σ'.nesting = σ.nesting ∧ σ'.stack = σ.stack ∧ σ'.loc.line = σ.loc.line ∧ ErrLoc σ te) := by
  have := of_agrees3 h.readyW (ExprL3.expr_eq2 (.full k) k e (ExprL3.main3 k e).1 (n + 1) σ (wenvOf σ env) pre rest
    (Nat.le_succ_of_le h.fuel) h.nesting (ends_of_follows h.follows) (.of_tokens h.toks h.idx) h.readyW.rel h.resolved)
  rwa [warnsOf_flag_off σ k env e h.warnings] at this

theorem fold2_same (k : Nat) (e : Expr2 F) (env env' : RefEnv F) (v : Value F)
    (h : fold2 k env e = .ok (v, env')) :
    env'.vars = env.vars ∧ env'.frames = env.frames ∧ env'.fns = env.fns :=
  let hs := fold2_step k e env env' v h
  ⟨hs.vars, hs.frames, hs.fns⟩

theorem eval_render2_outcome (e : Expr2 F) (k n : Nat) (σ : St F) (env : RefEnv F) (pre rest : List (Token F))
    (h : Ready2 σ env pre e rest k n) :
    (outcome (orExpr (evalN n) σ)).mapError TErr.err = (fold2 k env e).map Prod.fst := by
  obtain ⟨h1, h2⟩ := eval_render2 e k n σ env pre rest h
  cases hev : fold2 k env e with
  | ok p => obtain ⟨r, _, hr, _⟩ := h1 p.1 p.2 hev; rw [hr]; rfl
  | error x => obtain ⟨te, σ', hσ', hx, _⟩ := h2 x hev; rw [hσ', ← hx]; rfl

/-- **Error location.**  When the statement that contains the expression fails
    with the evaluator's error, `populate_error_location` (run in the final
    state `σ'`) reports a location that is either on the current line of `σ` —
    one token before the cursor of `σ'` — or on the line of a function
    definition (the error arose in that function's body). -/
theorem error_location (e : Expr2 F) (k n : Nat) (σ : St F) (env : RefEnv F) (pre rest : List (Token F))
    (h : Ready2 σ env pre e rest k n) (x : Err) (hx : fold2 k env e = .error x) :
    ∃ te σ', orExpr (evalN n) σ = .err te σ' ∧ te.err = x ∧
      ∃ l, (σ'.populate te).loc = some l ∧
        ((te.loc = none ∧ l = σ'.prevLoc ∧ l.line = σ.loc.line) ∨
         (te.loc = some l ∧ ∃ name fd, alGet name σ.fns = some fd ∧ l.line = some fd.line)) := by
  obtain ⟨te, σ', h1, h2, _, _, hline, hloc⟩ := (eval_render2 e k n σ env pre rest h).2 x hx
  refine ⟨te, σ', h1, h2, ?_⟩
  rcases hloc with hnone | ⟨l, name, fd, hl, hfd, hln⟩
  · exact ⟨σ'.prevLoc, by rw [St.populate_fresh σ' te hnone (h2 ▸ (fold2_fuel_ok e k n σ env pre rest h x hx).2)]; rfl,
      Or.inl ⟨hnone, rfl, hline⟩⟩
  · exact ⟨l, by rw [St.populate_located σ' te (by rw [hl]; rfl), hl], Or.inr ⟨hl, name, fd, hfd, hln⟩⟩


/-! ### non-vacuity: the hypotheses are satisfiable, end to end

  1. `(A(x))` on a fresh interpreter: the default array is created and stays.
  2. `FNA(a)` with `10 DEF FNA(X) = X + b` stored: the cursor jumps to line 10
     and comes back; the value is `a + b`.
  3. `FNF(a)` with `10 DEF FNF(X) = FNF(X)`: the stack cap ends the recursion,
     OUT OF MEMORY in the spec and in the evaluator. -/

namespace Demo2
section Examples
set_option linter.unusedSectionVars false
set_option linter.unusedSimpArgs false


def emptyEnv (F : Type) : RefEnv F := { vars := [], frames := [], arrays := [], rng := 0, fns := [] }

theorem ready2_immediate (e : Expr2 F) (rest : List (Token F)) (n : Nat)
    (hres : Resolved ([] : List (Str × FnDefSpec F)) e)
    (hd : depth2 ([] : List (Str × FnDefSpec F)) 33 e < Extracted.nestingLimit)
    (hn : depth2 ([] : List (Str × FnDefSpec F)) 33 e + 1 ≤ n) (hrest : Follows rest) :
    Ready2 ({ imm := [] ++ render2 e ++ rest } : St F) (emptyEnv F) [] e rest 33 n where
  toks := rfl
  idx := rfl
  envOf := ⟨rfl, rfl, rfl, rfl, fun _ _ => rfl, fun _ _ h => by cases h⟩
  warnings := rfl
  arrays_ok := by intro p hp; cases hp
  rng_ok := by show (0 : Nat) < 2 ^ 33; decide
  stack := by show (0 : Nat) ≤ _; exact Nat.zero_le _
  specFuel := by show Extracted.stackLimit < 33 + 0; decide
  resolved := hres
  bodies := fun _ _ h => by cases h
  nesting := by show 0 + _ < _; rw [Nat.zero_add]; exact hd
  fuel := hn
  follows := hrest

def arrA (F : Type) [NumOps F] : List (Str × ArrayV F) :=
  [("A".toList, .nums [11] (List.replicate 11 NumOps.zero))]

theorem cell_fold (x : F) (hx : NumOps.toI64 x = 3) :
    fold2 33 (emptyEnv F) (.paren (.cell "A".toList [.num x]))
      = .ok (.num NumOps.zero, { emptyEnv F with arrays := arrA F }) := by
  simp [fold2, foldIdx, subscript, hx, readCell, emptyEnv, alGet, ArrayV.create, dimSizes, Extracted.defaultArraySize,
    Extracted.maxDimTotalElements, endsWithDollar, readAt, linearIndex, linearIndexAux, ArrayV.dims, alSet, arrA]

theorem cell_render (x : F) : render2 (.paren (.cell "A".toList [.num x]) : Expr2 F)
    = [.kw .LeftParen, .symbol "A".toList, .kw .LeftParen, .num x, .kw .RightParen, .kw .RightParen] := by
  simp [render2, renderArgs]

example (x : F) (hx : NumOps.toI64 x = 3) :
    ∃ r, orExpr (evalN defaultFuel) ({ imm := [.kw .LeftParen, .symbol "A".toList, .kw .LeftParen, .num x, .kw .RightParen, .kw .RightParen] } : St F)
      = .ok (.num NumOps.zero)
          ({ imm := [.kw .LeftParen, .symbol "A".toList, .kw .LeftParen, .num x, .kw .RightParen, .kw .RightParen],
             loc := { line := none, idx := 6 }, reads := r, arrays := arrA F } : St F) := by
  have hR := ready2_immediate (F := F) (.paren (.cell "A".toList [.num x])) [] defaultFuel
    (by simp only [Resolved, ResolvedL, alGet, and_true]; decide)
    (by simp [depth2, depthArgs, Extracted.nestingLimit])
    (by simp [depth2, depthArgs, defaultFuel, Extracted.nestingLimit]) follows_nil
  obtain ⟨r, _, hr, _⟩ := (eval_render2 _ 33 defaultFuel _ _ [] [] hR).1 _ _ (cell_fold x hx)
  refine ⟨r, ?_⟩
  rw [cell_render] at hr
  rw [show ([.kw .LeftParen, .symbol "A".toList, .kw .LeftParen, .num x, .kw .RightParen, .kw .RightParen] : List (Token F))
    = [] ++ [.kw .LeftParen, .symbol "A".toList, .kw .LeftParen, .num x, .kw .RightParen, .kw .RightParen] ++ [] from rfl]
  rw [hr]
  rfl


def fnaTokens (b : F) : List (Token F) :=
  [.kw .Def, .symbol "FNA".toList, .kw .LeftParen, .symbol "X".toList, .kw .RightParen, .kw .Equals,
   .symbol "X".toList, .kw .Plus, .num b]

def fnaState (a b : F) : St F :=
  { lines := { map := [(10, fnaTokens b)], sorted := [10] },
    fns := [("FNA".toList, { args := ["X".toList], line := 10, idx := 6 })],
    imm := [.symbol "FNA".toList, .kw .LeftParen, .num a, .kw .RightParen] }

def fnaEnv (b : F) : RefEnv F :=
  { vars := [], frames := [], arrays := [], rng := 0,
    fns := [("FNA".toList, { params := ["X".toList], body := .bin .add (.var "X".toList) (.num b) })] }

theorem body_render (b : F) : render2 (.bin .add (.var "X".toList) (.num b) : Expr2 F) = [.symbol "X".toList, .kw .Plus, .num b] := by
  simp [render2, renderAt2, Expr2.prec, BinOp.prec, BinOp.token]

theorem call_render (a : F) : render2 (.call "FNA".toList [.num a] : Expr2 F) = [.symbol "FNA".toList, .kw .LeftParen, .num a, .kw .RightParen] := by
  simp [render2, renderArgs]

theorem fold_ex (a b : F) : fold2 33 (fnaEnv b) (.call "FNA".toList [.num a]) = .ok (.num (NumOps.add a b), fnaEnv b) := by
  simp [fold2, bindArgs2, fnaEnv, alGet, Value.matchesName, endsWithDollar, alSet, RefEnv.lookup, lookupFrames, BinOp.eval, Extracted.stackLimit]

theorem alGet_single {β : Type} (key name : Str) (v w : β) (h : alGet name [(key, v)] = some w) : name = key ∧ w = v := by
  simp only [alGet] at h
  split at h
  · rename_i hk
    simp only [Option.some.injEq] at h
    exact ⟨(by simpa using hk : key = name).symm, h.symm⟩
  · cases h

theorem fna_ready (a b : F) :
    Ready2 (fnaState a b) (fnaEnv b) [] (.call "FNA".toList [.num a]) [] 33 defaultFuel where
  toks := by rw [call_render]; rfl
  idx := rfl
  envOf := {
    vars := rfl
    frames := rfl
    arrays := rfl
    rng := rfl
    fns_undef := by
      intro name h
      simp only [fnaEnv, fnaState, alGet] at h ⊢
      split at h
      · cases h
      · rename_i hk; simp only [hk]; rfl
    fns_def := by
      intro name d h
      obtain ⟨rfl, rfl⟩ := alGet_single _ _ _ _ h
      refine ⟨{ args := ["X".toList], line := 10, idx := 6 }, (fnaTokens b).take 6, [], ?_, rfl, ?_, rfl, follows_nil⟩
      · simp [fnaState, alGet]
      · rw [body_render]; rfl }
  warnings := rfl
  arrays_ok := by intro p hp; cases hp
  rng_ok := by show (0 : Nat) < 2 ^ 33; decide
  stack := by show (0 : Nat) ≤ _; exact Nat.zero_le _
  specFuel := by show Extracted.stackLimit < 33 + 0; decide
  resolved := by
    simp only [Resolved, ResolvedL, and_true]
    decide
  bodies := by
    intro name d h
    obtain ⟨rfl, rfl⟩ := alGet_single _ _ _ _ h
    simp only [Resolved, and_self]
  nesting := by
    show 0 + _ < _
    simp [depth2, depthArgs, fnaEnv, alGet, Expr2.prec, BinOp.prec, Extracted.nestingLimit]
  fuel := by
    simp [depth2, depthArgs, fnaEnv, alGet, Expr2.prec, BinOp.prec, defaultFuel, Extracted.nestingLimit]
  follows := follows_nil

example (a b : F) : ∃ r, orExpr (evalN defaultFuel) (fnaState a b)
    = .ok (.num (NumOps.add a b)) { fnaState a b with loc := { line := none, idx := 4 }, reads := r } := by
  obtain ⟨r, _, hr, _⟩ := (eval_render2 _ 33 defaultFuel _ _ [] [] (fna_ready a b)).1 _ _ (fold_ex a b)
  refine ⟨r, ?_⟩
  rw [hr, call_render]
  rfl


def loopBody (F : Type) : Expr2 F := .call "FNF".toList [.var "X".toList]
def loopFns (F : Type) : List (Str × FnDefSpec F) := [("FNF".toList, { params := ["X".toList], body := loopBody F })]
def loopEnv (a : F) (m : Nat) : RefEnv F :=
  { vars := [], frames := List.replicate m [("X".toList, .num a)], arrays := [], rng := 0, fns := loopFns F }

theorem loop_depth (j : Nat) : depth2 (loopFns F) j (loopBody F) = j + 1 := by
  induction j with
  | zero => simp [loopBody, depth2, depthArgs, loopFns, alGet]
  | succ j ih =>
    rw [loopBody, depth2_call_some (loopFns F) j _ _ ⟨["X".toList], loopBody F⟩ (by simp [loopFns, alGet])]
    simp only [ih]
    simp [depthArgs, depth2]

theorem loop_fold (a : F) (j : Nat) : ∀ m, 1 ≤ m → m + j = 32 →
    fold2 (j + 1) (loopEnv a m) (loopBody F) = .error .oomStack := by
  induction j with
  | zero =>
    intro m _ hm
    have : m = 32 := by omega
    subst this
    simp [loopBody, fold2, bindArgs2, loopEnv, loopFns, alGet, RefEnv.lookup, lookupFrames, List.replicate,
      Value.matchesName, endsWithDollar, Extracted.stackLimit]
  | succ j ih =>
    intro m hm1 hm
    have h := ih (m + 1) (by omega) (by omega)
    obtain ⟨m', rfl⟩ : ∃ m', m = m' + 1 := ⟨m - 1, by omega⟩
    have hne : ¬ (m' + 1 = 32) := by omega
    simp only [loopBody] at h ⊢
    rw [fold2]
    simp [bindArgs2, loopEnv, loopFns, alGet, RefEnv.lookup, lookupFrames, List.replicate,
      Value.matchesName, endsWithDollar, Extracted.stackLimit, fold2, alSet]
    simp [loopEnv, loopFns, loopBody, List.replicate] at h
    intro _
    simp [loopBody, h]

def loopState (a : F) : St F :=
  { lines := { map := [(10, [.kw .Def, .symbol "FNF".toList, .kw .LeftParen, .symbol "X".toList, .kw .RightParen,
                              .kw .Equals, .symbol "FNF".toList, .kw .LeftParen, .symbol "X".toList, .kw .RightParen])],
               sorted := [10] },
    fns := [("FNF".toList, { args := ["X".toList], line := 10, idx := 6 })],
    imm := [.symbol "FNF".toList, .kw .LeftParen, .num a, .kw .RightParen] }

def loopEnv0 (F : Type) : RefEnv F := { vars := [], frames := [], arrays := [], rng := 0, fns := loopFns F }

theorem loop_top (a : F) : fold2 33 (loopEnv0 F) (.call "FNF".toList [.num a]) = .error .oomStack := by
  have h := loop_fold a 31 1 (by omega) (by omega)
  rw [fold2]
  simp [bindArgs2, loopEnv0, loopFns, alGet, Value.matchesName, endsWithDollar, Extracted.stackLimit, fold2, alSet]
  simp [loopEnv, loopFns, List.replicate] at h
  rw [h]

theorem loop_depth_top (a : F) : depth2 (loopFns F) 33 (.call "FNF".toList [.num a]) = 34 := by
  rw [depth2_call_some (loopFns F) 32 _ _ ⟨["X".toList], loopBody F⟩ (by simp [loopFns, alGet])]
  show max _ (depth2 (loopFns F) 32 (loopBody F) + 1) = 34
  rw [loop_depth]
  simp [depthArgs, depth2]

theorem loop_ready (a : F) :
    Ready2 (loopState a) (loopEnv0 F) [] (.call "FNF".toList [.num a]) [] 33 defaultFuel where
  toks := by
    have : render2 (.call "FNF".toList [.num a] : Expr2 F)
        = [.symbol "FNF".toList, .kw .LeftParen, .num a, .kw .RightParen] := by simp [render2, renderArgs]
    rw [this]; rfl
  idx := rfl
  envOf := {
    vars := rfl
    frames := rfl
    arrays := rfl
    rng := rfl
    fns_undef := by
      intro name h
      simp only [loopEnv0, loopFns, loopState, alGet] at h ⊢
      split at h
      · cases h
      · rename_i hk; simp only [hk]; rfl
    fns_def := by
      intro name d h
      obtain ⟨rfl, rfl⟩ := alGet_single _ _ _ _ h
      refine ⟨{ args := ["X".toList], line := 10, idx := 6 },
        [.kw .Def, .symbol "FNF".toList, .kw .LeftParen, .symbol "X".toList, .kw .RightParen, .kw .Equals], [],
        ?_, rfl, ?_, rfl, follows_nil⟩
      · simp [loopState, alGet]
      · have : render2 (loopBody F) = [.symbol "FNF".toList, .kw .LeftParen, .symbol "X".toList, .kw .RightParen] := by
          simp [loopBody, render2, renderArgs]
        rw [this]; rfl }
  warnings := rfl
  arrays_ok := by intro p hp; cases hp
  rng_ok := by show (0 : Nat) < 2 ^ 33; decide
  stack := by show (0 : Nat) ≤ _; exact Nat.zero_le _
  specFuel := by show Extracted.stackLimit < 33 + 0; decide
  resolved := by
    simp only [Resolved, ResolvedL, and_true]
    decide
  bodies := by
    intro name d h
    obtain ⟨rfl, rfl⟩ := alGet_single _ _ _ _ h
    simp only [loopBody, Resolved, ResolvedL, and_true]
    decide
  nesting := by
    show 0 + depth2 (loopFns F) 33 _ < _
    rw [loop_depth_top]; decide
  fuel := by
    show depth2 (loopFns F) 33 _ + 1 ≤ _
    rw [loop_depth_top]; decide
  follows := follows_nil

example (a : F) : ∃ te σ', orExpr (evalN defaultFuel) (loopState a) = .err te σ' ∧ te.err = .oomStack ∧
    σ'.stack = [] ∧ σ'.nesting = 0 := by
  obtain ⟨te, σ', h1, h2, h3, h4, _⟩ := (eval_render2 _ 33 defaultFuel _ _ [] [] (loop_ready a)).2 _ (loop_top a)
  exact ⟨te, σ', h1, h2, h4, h3⟩

end Examples
end Demo2

end Abasic.Props.C02
