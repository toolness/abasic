import Abasic.Props.C13More
import Abasic.Proofs.TokFast
/-
  C13 — the text of a token's range re-tokenizes to that token.

  The one-step lemma is `nextToken_prefix` (C13.lean): if `nextToken cs = .tok t r'` and
  `cs = m ++ r'` then `nextToken m = .tok t []`, for ALL token kinds of the model.  Here: a text that
  one step consumes tokenizes to that one token (`tokenize_single`); a byte range determines the run
  of whole characters that occupies it (`Slice.unique`); every token of a run of the loop comes with
  such a slice that tokenizes to exactly that token (`Lexed.self`, `self_tokenise`).
-/
namespace Abasic.Props.C13
open Abasic

variable {F : Type} [NumOps F]

theorem tokenize_single (c : Char) (m0 : Str) (t : Token F) (hc : isBasicWs c = false)
    (h : nextToken (F := F) (c :: m0) = .tok t []) : tokenize (F := F) (c :: m0) 0 = .ok [t] :=
  (tokenize_iff_toks _ _).mpr (.cons (by simp [skipWs, hc]) h (.nil rfl))

omit [NumOps F] in
theorem len8_split_unique (a b x y : Str) (h : a ++ x = b ++ y) (hl : len8 a = len8 b) :
    a = b ∧ x = y := by
  induction a generalizing b with
  | nil =>
    cases b with
    | nil => exact ⟨rfl, by simpa using h⟩
    | cons d b => have := len8_cons_pos d b; simp only [len8] at hl this; omega
  | cons c a ih =>
    cases b with
    | nil => have := len8_cons_pos c a; simp only [len8] at hl this; omega
    | cons d b =>
      simp only [List.cons_append, List.cons.injEq] at h
      obtain ⟨rfl, h2⟩ := h
      simp only [len8] at hl
      obtain ⟨h3, h4⟩ := ih b h2 (by omega)
      exact ⟨by rw [h3], h4⟩

/-- `m` is the run of whole characters of `whole` occupying bytes `[a, b)`. -/
def Slice (whole : Str) (a b : Nat) (m : Str) : Prop :=
  ∃ p s, whole = p ++ m ++ s ∧ len8 p = a ∧ a + len8 m = b

theorem Slice.unique {whole : Str} {a b : Nat} {m m' : Str}
    (h : Slice whole a b m) (h' : Slice whole a b m') : m = m' := by
  obtain ⟨p, s, hw, hp, hm⟩ := h
  obtain ⟨p', s', hw', hp', hm'⟩ := h'
  have e : p ++ (m ++ s) = p' ++ (m' ++ s') := by
    rw [← List.append_assoc, ← List.append_assoc, ← hw, ← hw']
  obtain ⟨_, e2⟩ := len8_split_unique p p' _ _ e (by omega)
  exact (len8_split_unique m m' s s' e2 (by omega)).1

omit [NumOps F] in
theorem RangeExact.slice {whole : Str} {t : Token F} {a b : Nat} (h : RangeExact whole t a b) :
    ∃ m, Slice whole a b m := by
  obtain ⟨p, m, s, hw, hp, hm, _⟩ := h
  exact ⟨m, p, s, hw, hp, hm⟩

theorem _root_.Abasic.Lexed.self {cs : Str} {idx : Nat} {out : List (RangedToken F)} {e : Option TokErr}
    (hl : Lexed cs idx out e) {whole done : Str} (hw : whole = done ++ cs) (hidx : len8 done = idx) :
    ∀ t a b, (t, a, b) ∈ out → ∃ m, Slice whole a b m ∧ tokenize (F := F) m 0 = .ok [t] := by
  intro t a b hmem
  obtain ⟨p, c, m, rest, rfl, rfl, rfl, hc, hn⟩ := hl.mem t a b hmem
  exact ⟨c :: m, ⟨done ++ p, rest, by rw [hw]; simp, by rw [len8_append, hidx], rfl⟩,
    tokenize_single c m t hc (nextToken_prefix _ (c :: m) t rest hn rfl)⟩

theorem tokLoop_self (fuel : Nat) (cs : Str) (idx : Nat) (acc : List (RangedToken F))
    (whole done : Str) (hw : whole = done ++ cs) (hidx : len8 done = idx) :
    ∃ out, (tokLoop fuel cs idx acc).1 = acc.reverse ++ out ∧
      ∀ t a b, (t, a, b) ∈ out → ∃ m, Slice whole a b m ∧ tokenize (F := F) m 0 = .ok [t] :=
  let ⟨out, hout, hl⟩ := tokLoop_lexed' fuel cs idx acc
  ⟨out, hout, hl.self hw hidx⟩

/-- For every line and every token `t` reported
    with range `[a, b)` — of EVERY kind: keyword, operator, string, number,
    identifier, REM, DATA — the run `m` of whole characters of the line that
    occupies bytes `[a, b)` tokenizes to exactly `[t]`.  (Also for the tokens
    reported before a tokenization error.) -/
theorem self_tokenise (line : Str) (t : Token F) (a b : Nat)
    (hmem : (t, a, b) ∈ (tokenizeRanges (F := F) line 0).1)
    (m : Str) (hm : Slice line a b m) : tokenize (F := F) m 0 = .ok [t] := by
  obtain ⟨m', hs', ht⟩ := (tokenizeRanges_lexed line 0).1.self (done := [])
    (C12.dropBytes_zero line).symm rfl t a b hmem
  rw [hm.unique hs']; exact ht

theorem self_tokenise' (line : Str) (t : Token F) (a b : Nat)
    (hmem : (t, a, b) ∈ (tokenizeRanges (F := F) line 0).1)
    (p m s : Str) (hline : line = p ++ m ++ s) (hp : len8 p = a) (hb : a + len8 m = b) :
    tokenize (F := F) m 0 = .ok [t] :=
  self_tokenise line t a b hmem m ⟨p, s, hline, hp, hb⟩

/-- … and such a slice exists; it is the one `RangeExact` speaks about. -/
theorem self_tokenise_exists (line : Str) (t : Token F) (a b : Nat)
    (hmem : (t, a, b) ∈ (tokenizeRanges (F := F) line 0).1) :
    ∃ m, Slice line a b m ∧ tokenize (F := F) m 0 = .ok [t] := by
  obtain ⟨m, hm⟩ := (ranges_exact_zero line t a b hmem).slice
  exact ⟨m, hm, self_tokenise line t a b hmem m hm⟩

/-- The same for a tokenizer started at a byte offset on a character boundary. -/
theorem self_tokenise_skip (line : Str) (skip : Nat)
    (hskip : ∃ pre, line = pre ++ dropBytes skip line ∧ len8 pre = skip)
    (t : Token F) (a b : Nat)
    (hmem : (t, a, b) ∈ (tokenizeRanges (F := F) line skip).1)
    (m : Str) (hm : Slice line a b m) : tokenize (F := F) m 0 = .ok [t] := by
  obtain ⟨pre, hline, hpre⟩ := hskip
  obtain ⟨m', hs', ht⟩ := (tokenizeRanges_lexed line skip).1.self hline hpre t a b hmem
  rw [hm.unique hs']; exact ht

/-! No token kind is excluded.  The examples check the three candidates for
failure on a concrete line (`F := Unit`, whose `parse` accepts nothing, so DATA
items are all text): an identifier cut where a keyword starts (`X` before `TO`),
a DATA token (its range includes the keyword and the blank before the colon, not
the colon) and a REM token (keyword to end of line) have the ranges shown, and
the slice of each tokenizes to that token. -/

theorem demo_ranges : tokenizeRanges (F := Unit) "XTO DATA 1,b :REM a".toList 0 =
    ([(.symbol ['X'], 0, 1), (.kw .To, 1, 3), (.data [.str ['1'], .str ['b']], 4, 13),
      (.kw .Colon, 13, 14), (.remark [' ', 'a'], 14, 19)], none) := by rw [Fast.tokenizeRanges_eq]; rfl

example : tokenizeRanges (F := Unit) "XTO DATA 1,b :REM a".toList 0 =
    ([(.symbol ['X'], 0, 1), (.kw .To, 1, 3), (.data [.str ['1'], .str ['b']], 4, 13),
      (.kw .Colon, 13, 14), (.remark [' ', 'a'], 14, 19)], none) := demo_ranges

example : tokenize (F := Unit) "X".toList 0 = .ok [.symbol ['X']] := by rw [Fast.tokenize_eq]; rfl
example : tokenize (F := Unit) "DATA 1,b ".toList 0 = .ok [.data [.str ['1'], .str ['b']]] := by rw [Fast.tokenize_eq]; rfl
example : tokenize (F := Unit) "REM a".toList 0 = .ok [.remark [' ', 'a']] := by rw [Fast.tokenize_eq]; rfl

/-- non-vacuity of `self_tokenise`: the DATA instance above obtained from the theorem -/
example : tokenize (F := Unit) "DATA 1,b ".toList 0 = .ok [.data [.str ['1'], .str ['b']]] := by
  refine self_tokenise "XTO DATA 1,b :REM a".toList _ 4 13 ?_ "DATA 1,b ".toList
    ⟨"XTO ".toList, ":REM a".toList, by decide, by decide, by decide⟩
  rw [demo_ranges]
  exact .tail _ (.tail _ (.head _))

end Abasic.Props.C13
