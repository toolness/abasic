import Abasic.Props.C01
/-
  C09 — one host call executes at most one statement and always hands control back.

  In the model a host call is `runNextStatement`, whose definition contains
  exactly one invocation of the statement evaluator, so "at most one statement
  chain per call" is read off the structure made explicit below; what needs
  proof is that nothing else in a turn evaluates statements and that the turn
  hands control back in a definite state.  Proved here: the anatomy of a turn;
  a turn on an exhausted line evaluates no statement at all; the statement
  evaluator emits its trace record before anything else and at most one per
  activation; nested activations (under IF) are the only other source of trace
  records and are counted by the nesting counter, hence at most 48 deep.
  The work bound (`reads ≤ K·len + K'` without user functions) is C09More.lean
  (`work_bound`), the count of activations and trace records C09Count.lean.
-/
namespace Abasic.Props.C09
open Abasic

variable {F : Type} [NumOps F]

/-- what a turn does after its (at most one) statement: move to the next line or fall idle -/
def sequence : M F Unit := do
  if !(← hasNext) then
    if !(← nextLine) then
      setImmediate []
      returnToIdle

/-- Anatomy of a turn: mark running; if the line has a token left, ONE call of
    the statement evaluator; then line sequencing.  Nothing else. -/
theorem turn_anatomy (fuel : Nat) :
    runNextStatement (F := F) fuel = (do
      M.modify fun s => { s with state := .running }
      if ← hasNext then stmtBody (evalN fuel)
      sequence) := by
  rfl

/-- `start`/`continue` add only the protocol assertion and the error post-processing. -/
theorem continue_is_one_turn (fuel : Nat) (σ : St F) (h : σ.state = .running) :
    continueEvaluating fuel σ = postprocess (runNextStatement fuel) σ :=
  C01.continueEvaluating_running fuel h

theorem statement_anatomy (ev : Evals F) : stmtBody ev = (do traceHere; dispatch ev) := rfl

omit [NumOps F] in
theorem trace_at_most_one (σ : St F) :
    ∃ σ', traceHere σ = .ok () σ' ∧ (σ'.out = σ.out ∨ ∃ n, σ'.out = .trace n :: σ.out) := by
  cases ht : σ.tracing <;> cases hl : σ.loc.line <;>
    simp [traceHere, bind, M.bindM, M.get, ht, hl, emit, M.modify, pure, M.pureM]

/-- The only way to evaluate a second statement inside the same call is the
    nested activation under THEN / ELSE, which costs one nesting level and is
    refused at the cap: at most 1 + 48 statement activations per call. -/
theorem nested_statement_costs_a_level (ev : Evals F) (σ : St F) (ts : List (Token F))
    (hts : tokens σ = .ok ts σ) (hnum : ∀ x, ts[σ.loc.idx]? ≠ some (.num x))
    (hcap : σ.nesting = Extracted.nestingLimit) :
    ∃ σ', statementOrGoto ev σ = .err { err := .oomStack } σ' := by
  have hpeek : peek σ = .ok ts[σ.loc.idx]? { σ with reads := σ.reads + 1 } := by
    have : tokens { σ with reads := σ.reads + 1 } = .ok ts { σ with reads := σ.reads + 1 } := by
      have := hts
      unfold tokens tokensForLine at this ⊢
      cases hl : σ.loc.line with
      | none => simp [hl] at this ⊢; exact this
      | some n =>
        simp only [hl] at this ⊢
        cases hg : σ.lines.get n with
        | none => simp [hg] at this
        | some t => simp [hg] at this ⊢; exact this
    simp [peek, bind, M.bindM, M.modify, this, M.get, pure, M.pureM]
  refine ⟨{ σ with reads := σ.reads + 1 }, ?_⟩
  unfold statementOrGoto
  simp only [bind, M.bindM, hpeek]
  cases hk : ts[σ.loc.idx]? with
  | none => simp [nested, bind, M.bindM, enterNested, M.get, hcap, M.fail]
  | some t =>
    cases t with
    | num x => exact absurd hk (hnum x)
    | kw k => simp [nested, bind, M.bindM, enterNested, M.get, hcap, M.fail]
    | remark s => simp [nested, bind, M.bindM, enterNested, M.get, hcap, M.fail]
    | symbol s => simp [nested, bind, M.bindM, enterNested, M.get, hcap, M.fail]
    | str s => simp [nested, bind, M.bindM, enterNested, M.get, hcap, M.fail]
    | data d => simp [nested, bind, M.bindM, enterNested, M.get, hcap, M.fail]

example : Extracted.nestingLimit = 48 := by decide

end Abasic.Props.C09
