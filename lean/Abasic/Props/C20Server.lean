import Abasic.Ref.Lsp
import Abasic.Props.C20More
import Abasic.Props.C05File
/-
  C20, the server loop: what the language server publishes and answers is always
  about the LATEST text it was sent, and no sequence of events makes it fail.

  The server is the state machine `lspStep` / `lspRun` of Abasic/Ref/Lsp.lean (a
  transliteration of `main_loop` in abasic-lsp/src/main.rs).  Independent of that
  machine, `submitted` lists the texts an event carries and `lastSubmitted` is the
  last text carried by any event of a history; `latest d evs` is that text, or the
  initially stored one when the history carries none.

  READ OFF main.rs: `didClose` is not handled (the loop casts `DidChangeTextDocument`
  twice), so closing does not forget the document and a later tokens request is still
  answered (`close_keeps_document`, `tokens_after_close`).
-/
namespace Abasic.Props.C20
open Abasic

variable {F : Type} [NumOps F]

theorem lspAnalyze_lineTokens (fuel : Nat) (doc : Str) :
    (lspAnalyze (F := F) fuel doc).lines = splitDocumentLines doc ∧
    (lspAnalyze (F := F) fuel doc).lineTokens = (splitDocumentLines doc).map (lineToks F) :=
  ⟨C05.analyzeFile_lines fuel _, lineToks_eq (F := F) ▸ C05.analyzeFile_lineTokens fuel _⟩

theorem lspAnalyze_linesOk (fuel : Nat) (doc : Str) :
    LinesOk (lspAnalyze (F := F) fuel doc).lines (lspAnalyze (F := F) fuel doc).lineTokens := by
  obtain ⟨h1, h2⟩ := lspAnalyze_lineTokens (F := F) fuel doc
  rw [h1, h2]
  exact linesOk_map _

/-- **Item 2** (`lsp_total`, semantic-token half, and well-formedness).  For every
    document, computing the semantic tokens never fails, and what the client decodes
    from them is exactly the tokens at their absolute positions, strictly ordered by
    (line, column), non-overlapping, of positive length, inside their lines (in UTF-16
    units) and with types from the advertised legend. -/
theorem semantic_tokens_ok (fuel : Nat) (doc : Str) :
    ∃ out, semanticTokens (lspAnalyze (F := F) fuel doc) = some out ∧
      decode out = absToks (lspAnalyze (F := F) fuel doc).lines (lspAnalyze (F := F) fuel doc).lineTokens 0 ∧
      WellFormed (lspAnalyze (F := F) fuel doc).lines (decode out) := by
  have hok := lspAnalyze_linesOk (F := F) fuel doc
  obtain ⟨h1, h2⟩ := lspAnalyze_lineTokens (F := F) fuel doc
  have hlen : (lspAnalyze (F := F) fuel doc).lineTokens.length ≤ (lspAnalyze (F := F) fuel doc).lines.length := by
    rw [h1, h2]; simp
  obtain ⟨out, hout⟩ := semTokLines_some _ _ 0 0 hok hlen (Nat.le_refl _)
  exact ⟨out, hout, delta_decodes_ordered _ _ out hout hok⟩

theorem semantic_tokens_total (fuel : Nat) (doc : Str) :
    semanticTokens (lspAnalyze (F := F) fuel doc) ≠ none := by
  obtain ⟨out, h, _⟩ := semantic_tokens_ok (F := F) fuel doc
  rw [h]; simp

theorem analyzeFile_rangesOk (fuel : Nat) (lines : List Str) : RangesOk (analyzeFile (F := F) fuel lines).map := by
  intro r hr
  rw [C05.analyzeFile_ranges] at hr
  obtain ⟨l, _, rfl⟩ := List.mem_map.mp hr
  exact lineRangesOf_ok l

/-- **Item 3** for every document: converting the diagnostics never fails, and every
    published diagnostic is on an existing line with `startCol ≤ endCol ≤ utf16Len line`. -/
theorem diags_in_bounds (fuel : Nat) (doc : Str) :
    ∃ ds, lspDiagnostics (lspAnalyze (F := F) fuel doc) = some ds ∧
      ∀ d ∈ ds, d.line < (lspAnalyze (F := F) fuel doc).lines.length ∧
        ∃ text, (lspAnalyze (F := F) fuel doc).lines[d.line]? = some text ∧
          d.startCol ≤ d.endCol ∧ d.endCol ≤ utf16Len text := by
  have hm : ∀ d ∈ (lspAnalyze (F := F) fuel doc).messages, ∃ r, (lspAnalyze (F := F) fuel doc).map.mapDiag d = some r ∧
      ∀ f x y, r = some (f, x, y) → f < (lspAnalyze (F := F) fuel doc).lines.length := by
    intro d hd
    obtain ⟨h1, h2⟩ := C05.diag_maps fuel (splitDocumentLines doc) d hd
    obtain ⟨r, hr⟩ := Option.ne_none_iff_exists'.mp h1
    refine ⟨r, hr, fun f x y e => ?_⟩
    obtain ⟨line, hl, _⟩ := h2 f x y (e ▸ hr)
    rw [(lspAnalyze_lineTokens (F := F) fuel doc).1]
    exact (List.getElem?_eq_some_iff.mp hl).1
  obtain ⟨ds, h⟩ := diagFold_total _ _ hm []
  exact ⟨ds, h, diags_in_bounds_of _ (analyzeFile_rangesOk fuel _) ds h⟩

theorem diags_total (fuel : Nat) (doc : Str) : lspDiagnostics (lspAnalyze (F := F) fuel doc) ≠ none := by
  obtain ⟨ds, h, _⟩ := diags_in_bounds (F := F) fuel doc
  rw [h]; simp

def submitted : LspEvent → List Str
  | .open text => [text]
  | .change texts => texts
  | .tokensRequest => []
  | .close => []

def lastSubmitted (evs : List LspEvent) : Option Str := (evs.flatMap submitted).getLast?

def latest (d : Option Str) (evs : List LspEvent) : Option Str :=
  match lastSubmitted evs with
  | some t => some t
  | none => d

def lastPublished (outs : List LspOut) : Option (List LspDiag) :=
  (outs.filterMap fun o => match o with | .publish ds => some ds | _ => none).getLast?

theorem lastSubmitted_nil : lastSubmitted [] = none := rfl

theorem lastSubmitted_cons (e : LspEvent) (es : List LspEvent) :
    lastSubmitted (e :: es) =
      match lastSubmitted es with
      | some t => some t
      | none => (submitted e).getLast? := by
  unfold lastSubmitted
  rw [List.flatMap_cons, List.getLast?_append]
  cases (List.flatMap submitted es).getLast? <;> rfl

theorem latest_nil (d : Option Str) : latest d [] = d := rfl

theorem latest_cons (d : Option Str) (e : LspEvent) (es : List LspEvent) :
    latest d (e :: es) = latest (latest d [e]) es := by
  unfold latest
  rw [lastSubmitted_cons, lastSubmitted_cons e [], lastSubmitted_nil]
  cases lastSubmitted es <;> cases (submitted e).getLast? <;> rfl

theorem latest_append (d : Option Str) (es es' : List LspEvent) :
    latest d (es ++ es') = latest (latest d es) es' := by
  induction es generalizing d with
  | nil => rfl
  | cons e es ih => rw [List.cons_append, latest_cons, ih, ← latest_cons]

theorem lastPublished_cons (o : LspOut) (os : List LspOut) :
    lastPublished (o :: os) =
      match lastPublished os with
      | some ds => some ds
      | none => (match o with | .publish ds => some ds | _ => none) := by
  unfold lastPublished
  cases o <;> simp only [List.filterMap_cons]
  · rw [List.getLast?_cons]
    cases (List.filterMap _ os).getLast? <;> rfl
  all_goals cases (List.filterMap _ os).getLast? <;> rfl

theorem lspUpdate_eq (fuel : Nat) (text : Str) :
    ∃ ds, lspDiagnostics (lspAnalyze (F := F) fuel text) = some ds ∧
      lspUpdate F fuel text = some ({ doc := some text }, .publish ds) := by
  obtain ⟨ds, hds, _⟩ := diags_in_bounds (F := F) fuel text
  refine ⟨ds, hds, ?_⟩
  unfold lspUpdate
  simp only [C05.lsp_total (F := F) fuel text, Option.isSome_none, Bool.false_eq_true, if_false, hds]

theorem lspStep_spec (fuel : Nat) (s : LspState) (e : LspEvent) :
    ∃ s' o, lspStep F fuel s e = some (s', o) ∧ s'.doc = latest s.doc [e] ∧
      (match o with | .publish ds => some ds | _ => none) =
        (match (submitted e).getLast? with
         | some t => lspDiagnostics (lspAnalyze (F := F) fuel t)
         | none => none) := by
  cases e with
  | «open» text =>
    obtain ⟨ds, hds, hu⟩ := lspUpdate_eq (F := F) fuel text
    exact ⟨_, _, hu, rfl, by simp [submitted, hds]⟩
  | change texts =>
    cases hl : texts.getLast? with
    | none =>
      refine ⟨s, .none, by simp only [lspStep, hl], ?_, by simp [submitted, hl]⟩
      simp [latest, lastSubmitted, submitted, hl]
    | some text =>
      obtain ⟨ds, hds, hu⟩ := lspUpdate_eq (F := F) fuel text
      refine ⟨_, _, by simp only [lspStep, hl]; exact hu, ?_, by simp [submitted, hl, hds]⟩
      simp [latest, lastSubmitted, submitted, hl]
  | tokensRequest =>
    cases hd : s.doc with
    | none => exact ⟨s, .requestFailed, by simp only [lspStep, hd], hd, by simp [submitted]⟩
    | some text =>
      obtain ⟨ts, hts, _⟩ := semantic_tokens_ok (F := F) fuel text
      exact ⟨s, .tokens ts, by simp only [lspStep, hd, hts], hd, by simp [submitted]⟩
  | close => exact ⟨s, .none, rfl, rfl, by simp [submitted]⟩

theorem lspStep_total (fuel : Nat) (s : LspState) (e : LspEvent) : lspStep F fuel s e ≠ none := by
  obtain ⟨s', o, h, _⟩ := lspStep_spec (F := F) fuel s e
  rw [h]; simp

theorem lspRun_spec (fuel : Nat) (s : LspState) (evs : List LspEvent) :
    ∃ s' outs, lspRun F fuel s evs = some (s', outs) ∧ outs.length = evs.length ∧
      s'.doc = latest s.doc evs ∧
      lastPublished outs =
        (match lastSubmitted evs with
         | some t => lspDiagnostics (lspAnalyze (F := F) fuel t)
         | none => none) := by
  induction evs generalizing s with
  | nil => exact ⟨s, [], rfl, rfl, rfl, rfl⟩
  | cons e es ih =>
    obtain ⟨s1, o, h1, hd1, ho⟩ := lspStep_spec (F := F) fuel s e
    obtain ⟨s2, os, h2, hlen, hd2, hp⟩ := ih s1
    refine ⟨s2, o :: os, by simp only [lspRun, h1, h2], by simp [hlen], ?_, ?_⟩
    · rw [hd2, hd1, ← latest_cons]
    · rw [lastPublished_cons, lastSubmitted_cons, hp]
      cases hls : lastSubmitted es with
      | some t =>
        obtain ⟨ds, hds, _⟩ := lspUpdate_eq (F := F) fuel t
        simp only [hds]
      | none => simp only [ho]

/-- No start state and no sequence of events makes the model server
    fail: the analysis never panics (`lsp_total`), neither does the conversion of its
    diagnostics (`diags_total`) nor of its tokens (`semantic_tokens_total`).  Every event
    produces exactly one output (possibly `none`). -/
theorem server_total (fuel : Nat) (s : LspState) (evs : List LspEvent) :
    ∃ s' outs, lspRun F fuel s evs = some (s', outs) ∧ outs.length = evs.length := by
  obtain ⟨s', outs, h, hl, _⟩ := lspRun_spec (F := F) fuel s evs
  exact ⟨s', outs, h, hl⟩

theorem server_never_fails (fuel : Nat) (s : LspState) (evs : List LspEvent) : lspRun F fuel s evs ≠ none := by
  obtain ⟨s', outs, h, _⟩ := server_total (F := F) fuel s evs
  rw [h]; simp

/-- The stored document after a run is the latest text: the last one carried by any
    `didOpen` / `didChange` of the history (for a `didChange` with several content
    changes: the last of them), else the one stored before. -/
theorem doc_is_latest (fuel : Nat) (s s' : LspState) (evs : List LspEvent) (outs : List LspOut)
    (h : lspRun F fuel s evs = some (s', outs)) : s'.doc = latest s.doc evs := by
  obtain ⟨s1, outs1, h1, _, hd, _⟩ := lspRun_spec (F := F) fuel s evs
  cases h1.symm.trans h
  exact hd

theorem published_ok (fuel : Nat) (text : Str) (ds : List LspDiag)
    (hds : lspDiagnostics (lspAnalyze (F := F) fuel text) = some ds) :
    ds = (lspAnalyze (F := F) fuel text).messages.filterMap (diagAt (lspAnalyze (F := F) fuel text)) ∧
    ∀ d ∈ ds, d.line < (splitDocumentLines text).length ∧
      ∃ l, (splitDocumentLines text)[d.line]? = some l ∧ d.startCol ≤ d.endCol ∧ d.endCol ≤ utf16Len l := by
  obtain ⟨ds', hds', hb⟩ := diags_in_bounds (F := F) fuel text
  cases hds.symm.trans hds'
  rw [(lspAnalyze_lineTokens (F := F) fuel text).1] at hb
  exact ⟨diags_filterMap _ ds hds, hb⟩

/-- After any event sequence from any start state: if some
    text was submitted, the LAST published diagnostics are `lspDiagnostics (lspAnalyze
    fuel text)` for the LAST submitted text `text` — which is also the stored document —
    i.e. exactly the analyzer's messages for that text, in order, each mapped to its position
    (`diagAt`), those without a position dropped; and every one of them lies on an existing
    line of the document with `startCol ≤ endCol ≤` the line's UTF-16 length. -/
theorem diags_are_messages (fuel : Nat) (s s' : LspState) (evs : List LspEvent) (outs : List LspOut)
    (h : lspRun F fuel s evs = some (s', outs)) (text : Str) (ht : lastSubmitted evs = some text) :
    s'.doc = some text ∧
    ∃ ds, lastPublished outs = some ds ∧
      lspDiagnostics (lspAnalyze (F := F) fuel text) = some ds ∧
      ds = (lspAnalyze (F := F) fuel text).messages.filterMap (diagAt (lspAnalyze (F := F) fuel text)) ∧
      ∀ d ∈ ds, d.line < (splitDocumentLines text).length ∧
        ∃ l, (splitDocumentLines text)[d.line]? = some l ∧ d.startCol ≤ d.endCol ∧ d.endCol ≤ utf16Len l := by
  obtain ⟨s1, outs1, h1, _, hd, hp⟩ := lspRun_spec (F := F) fuel s evs
  cases h1.symm.trans h
  obtain ⟨ds, hds, _⟩ := diags_in_bounds (F := F) fuel text
  exact ⟨by rw [hd]; simp [latest, ht], ds, by rw [hp, ht]; exact hds, hds, published_ok fuel text ds hds⟩

/-- Nothing is published iff no text was submitted; then the stored document is unchanged. -/
theorem publish_iff_submitted (fuel : Nat) (s s' : LspState) (evs : List LspEvent) (outs : List LspOut)
    (h : lspRun F fuel s evs = some (s', outs)) :
    (lastPublished outs = none ↔ lastSubmitted evs = none) ∧ (lastSubmitted evs = none → s'.doc = s.doc) := by
  obtain ⟨s1, outs1, h1, _, hd, hp⟩ := lspRun_spec (F := F) fuel s evs
  cases h1.symm.trans h
  refine ⟨?_, fun hn => by rw [hd]; simp [latest, hn]⟩
  rw [hp]
  cases hls : lastSubmitted evs with
  | none => simp
  | some t =>
    obtain ⟨ds, hds, _⟩ := diags_in_bounds (F := F) fuel t
    simp [hds]

/-- A tokens request after any event sequence is answered with
    `semanticTokens (lspAnalyze fuel text)` for the latest text (never a failure of the
    conversion); it is refused with `RequestFailed` exactly when there is no document at
    all.  The state is unchanged. -/
theorem tokens_are_latest (fuel : Nat) (s s' : LspState) (evs : List LspEvent) (outs : List LspOut)
    (h : lspRun F fuel s evs = some (s', outs)) :
    (∀ text, latest s.doc evs = some text →
      ∃ ts, semanticTokens (lspAnalyze (F := F) fuel text) = some ts ∧
        lspStep F fuel s' .tokensRequest = some (s', .tokens ts)) ∧
    (latest s.doc evs = none → lspStep F fuel s' .tokensRequest = some (s', .requestFailed)) := by
  have hd := doc_is_latest (F := F) fuel s s' evs outs h
  constructor
  · intro text ht
    rw [ht] at hd
    obtain ⟨ts, hts, _⟩ := semantic_tokens_ok (F := F) fuel text
    exact ⟨ts, hts, by simp only [lspStep, hd, hts]⟩
  · intro hn
    rw [hn] at hd
    simp only [lspStep, hd]

theorem lspRun_append (fuel : Nat) (s s1 s2 : LspState) (es es' : List LspEvent) (os os' : List LspOut)
    (h1 : lspRun F fuel s es = some (s1, os)) (h2 : lspRun F fuel s1 es' = some (s2, os')) :
    lspRun F fuel s (es ++ es') = some (s2, os ++ os') := by
  induction es generalizing s os with
  | nil => cases h1; exact h2
  | cons e es ih =>
    obtain ⟨sa, o, hs, _⟩ := lspStep_spec (F := F) fuel s e
    obtain ⟨sb, osb, hr, _⟩ := server_total (F := F) fuel sa es
    simp only [lspRun, hs, hr] at h1
    cases h1
    simp only [List.cons_append, lspRun, hs, ih sa osb hr]

/-- The same inside a run: the output for a tokens request at any position of the
    sequence is the tokens of the latest text at that moment. -/
theorem tokens_in_run (fuel : Nat) (s s' : LspState) (pre post : List LspEvent) (outs : List LspOut)
    (h : lspRun F fuel s (pre ++ .tokensRequest :: post) = some (s', outs)) :
    ∃ o, outs[pre.length]? = some o ∧
      match latest s.doc pre with
      | some text => ∃ ts, semanticTokens (lspAnalyze (F := F) fuel text) = some ts ∧ o = .tokens ts
      | none => o = .requestFailed := by
  obtain ⟨s1, os, h1, hlen⟩ := server_total (F := F) fuel s pre
  obtain ⟨s2, os2, h2, _⟩ := server_total (F := F) fuel s1 post
  have hta := tokens_are_latest (F := F) fuel s s1 pre os h1
  -- the answer `o` to the request, whichever it is, sits right after the outputs of `pre`
  have at_pre : ∀ o, lspStep F fuel s1 .tokensRequest = some (s1, o) → outs[pre.length]? = some o := by
    intro o hstep
    cases (lspRun_append fuel s s1 s2 pre _ os (o :: os2) h1 (by simp only [lspRun, hstep, h2])).symm.trans h
    rw [← hlen]; simp
  cases hl : latest s.doc pre with
  | none => exact ⟨_, at_pre _ (hta.2 hl), rfl⟩
  | some text =>
    obtain ⟨ts, hts, hstep⟩ := hta.1 text hl
    exact ⟨_, at_pre _ hstep, ts, hts, rfl⟩

/-- several content changes in one `didChange`: the last one wins, the others are never analysed -/
theorem change_last_wins (fuel : Nat) (s : LspState) (texts : List Str) (text : Str) :
    lspStep F fuel s (.change (texts ++ [text])) = lspStep F fuel s (.open text) := by
  simp [lspStep]

/-- a `didChange` without content changes: nothing is stored, nothing is published -/
theorem change_empty_keeps (fuel : Nat) (s : LspState) :
    lspStep F fuel s (.change []) = some (s, .none) := rfl

/-- `didClose` does not make the server forget the document (main.rs never matches it) … -/
theorem close_keeps_document (fuel : Nat) (s : LspState) :
    lspStep F fuel s .close = some (s, .none) := rfl

/-- … so a tokens request after `didOpen`, `didClose` is still answered with the tokens of the text. -/
theorem tokens_after_close (fuel : Nat) (s : LspState) (text : Str) :
    ∃ ds ts, semanticTokens (lspAnalyze (F := F) fuel text) = some ts ∧
      lspRun F fuel s [.open text, .close, .tokensRequest] =
        some ({ doc := some text }, [.publish ds, .none, .tokens ts]) := by
  obtain ⟨ds, _, hu⟩ := lspUpdate_eq (F := F) fuel text
  obtain ⟨ts, hts, _⟩ := semantic_tokens_ok (F := F) fuel text
  exact ⟨ds, ts, hts, by simp only [lspRun, lspStep, hu, hts]⟩

/-! ### non-vacuity -/

example : lastSubmitted [.open "A".toList, .change ["B".toList, "C".toList], .tokensRequest, .change [], .close] =
    some "C".toList := by decide

example : latest (some "A".toList) [.tokensRequest, .change [], .close] = some "A".toList := by decide

end Abasic.Props.C20
