import Abasic.Props.C03All
/-
  C03 — READ into array cells, inside the reference machine of Ref/Prog3.lean.

  `RStmt3.readS` (Ref/Stmt3.lean) takes a non-empty list of targets
  (`RTarget`): scalar names and array cells `name(e₁, …, eₖ)` in any mixture,
  `READ x, A(I), B$(2)`.  READ OFF THE CODE (`readLoop`, Stmt.lean): for each
  target, in this order,
    1. the target is parsed — `parseLValue`: the name and, behind `(`, the
       subscripts, which are EVALUATED NOW (left to right; this may call
       functions, draw random numbers, create arrays that are read);
    2. the next DATA item is consumed (OUT OF DATA when there is none — the
       subscripts have been evaluated by then);
    3. the item is coerced to the kind of the target's NAME (a number read into
       a string target is its text; a string read into a numeric target is
       DATA TYPE MISMATCH, reported on the line of the DATA statement — the item
       stays consumed);
    4. the value is stored — `assignValue`, the same store as LET: the kind
       check against the name, auto-dimension (11 per subscript) when the array
       does not exist, BAD SUBSCRIPT beyond the dimensions.
  `readCellSpec` / `readScalarSpec` (Ref/Stmt3.lean) are that, over the reference
  state `RState3`; `readTargetsSpec` runs a list of targets in order and IS the
  reference step of `readS` (`readS_exec`).

  The refinement proofs live in Proofs/Stmt3Arr.lean (for a `ProgView`) and
  Proofs/Stmt3All.lean (for an `RProgram3`) and are part of `stmt_ok`, so the
  theorems of Props/C03All.lean cover READ into cells.  The side conditions on
  cell targets are in `sdepth3` (`targetsDepth`: the depth of the subscripts) and
  `ResolvedS` (`ResolvedTargets`).  This file states the statement-level results
  on their own.
-/

namespace Abasic.Props.C03
open Abasic Abasic.Ref Abasic.ExprL Abasic.ExprL2 Abasic.StmtL Abasic.ProgL Abasic.Prog3L Abasic.Stmt3L Abasic.Hoare M

variable {F : Type} [NumOps F]

theorem readS_exec (items : List (Nat × DataElement F)) (n j : Nat) (r : RState3 F) (ts : List (RTarget F)) :
    (RStmt3.readS ts).exec items n j r = readTargetsSpec items r ts := rfl

/-- On a list of scalar targets the reference step is the `readAll` of Ref/Stmt2.lean. -/
theorem readS_scalar_exec (items : List (Nat × DataElement F)) (n j : Nat) : ∀ (xs : List Str) (r : RState3 F),
    (RStmt3.readS (scalarTargets xs)).exec items n j r =
      ({ r with vars := (readAll items xs r.vars r.data).1, data := (readAll items xs r.vars r.data).2.1 },
       (readAll items xs r.vars r.data).2.2) :=
  Stmt2L.readS_scalars items n j

theorem renderRTargets_scalar : ∀ xs : List Str, renderRTargets (F := F) (scalarTargets xs) = renderTargets xs :=
  Props.C06.renderRTargets_scalars

theorem scalar_side (fns : List (Str × FnDefSpec F)) : ∀ xs : List Str,
    ResolvedTargets fns (scalarTargets xs) ∧ targetsDepth fns (scalarTargets xs) = 0 :=
  Stmt2L.scalars_side fns

/-- One cell target `name(idx…)` of a READ: the model's READ round is `readCellSpec`
    — subscripts first, then the item, the coercion by the name, the store of LET
    with auto-dimension. -/
theorem read_cell_refines {p : RProgram3 F} {σ : St F} {r : RState3 F} (hS : Sync p r σ) (fuel : Nat)
    (name : Str) (idx : List (Expr2 F)) (pre rest : List (Token F))
    (hres : ResolvedL r.fns idx) (hd : depthArgs r.fns callFuel idx ≤ fuel)
    (hn : σ.nesting + depthArgs r.fns callFuel idx ≤ Extracted.nestingLimit)
    (hAt : At σ pre (.symbol name :: .kw .LeftParen :: (renderArgs idx ++ (.kw .RightParen :: rest))))
    (K : M F Unit) :
    ReadCellOK p σ pre (cellToks name idx) rest K (readBody (evalN fuel) K σ)
      (readCellSpec (allData3 p) r name idx) :=
  Stmt3L.read_cell_refines hS fuel name idx pre rest hres hd hn hAt K

theorem read_target_refines {p : RProgram3 F} {σ : St F} {r : RState3 F} (hS : Sync p r σ) (fuel : Nat)
    (t : RTarget F) (pre rest : List (Token F)) (hok : TargetOK r.fns fuel σ.nesting t)
    (hAt : At σ pre (t.toks ++ rest)) (hpost : ∀ t', rest.head? = some t' → t'.isKw .LeftParen = false)
    (K : M F Unit) :
    ReadCellOK p σ pre t.toks rest K (readBody (evalN fuel) K σ) (readTargetSpec (allData3 p) r t) :=
  Stmt3L.read_target_refines hS fuel t pre rest hok hAt hpost K

/-- The READ loop over a non-empty list of targets — scalars and array cells in any
    mixture — is `readTargetsSpec`: the targets in order, each one as
    `readScalarSpec` / `readCellSpec` says, the first failure ending the statement. -/
theorem read_targets_refines {p : RProgram3 F} (fuel : Nat) (rest : List (Token F)) (hE : StmtEnd rest) :
    ∀ (ts : List (RTarget F)), ts ≠ [] → ∀ (k : Nat) (σ : St F) (r : RState3 F) (pre : List (Token F)),
      Sync p r σ → (∀ t ∈ ts, TargetOK r.fns fuel σ.nesting t) → At σ pre (renderRTargets ts ++ rest) →
      (renderRTargets ts).length < k →
      ReadCellOK p σ pre (renderRTargets ts) rest (pure ()) (readLoop (evalN fuel) k σ)
        (readTargetsSpec (allData3 p) r ts) :=
  Stmt3L.read_targets_refines fuel rest hE

theorem readS_refines {p : RProgram3 F} {r : RState3 F} {σ : St F} {n j : Nat} {ss : List (RStmt3 F)}
    {ts : List (RTarget F)} {fuel : Nat} (h : SReady3 p r σ n j ss (.readS ts) fuel) :
    Outcome3 p σ n ((preToks3 ss j).length + ((renderRTargets ts).length + 1)) (renderLine3 ss).length
      (stmtBody (evalN fuel) σ) (readTargetsSpec (allData3 p) r ts).1 (readTargetsSpec (allData3 p) r ts).2 :=
  stmt3_run h

/-- The statement `READ name(idx…)` as one statement activation, in the format of
    the statement theorem of C03All (`Outcome3`: on success the model state realises
    the new reference state with the cursor behind the statement; errors as the
    reference step reports them, DATA TYPE MISMATCH located on the line of the DATA
    statement). -/
theorem read_stmt_refines {p : RProgram3 F} {σ : St F} {r : RState3 F} (hS : Sync p r σ) (fuel n : Nat)
    (name : Str) (idx : List (Expr2 F)) (pre rest : List (Token F)) (eol : Nat)
    (hl : σ.loc.line = some n) (hE : StmtEnd rest)
    (hres : ResolvedL r.fns idx) (hd : depthArgs r.fns callFuel idx ≤ fuel)
    (hn : σ.nesting + depthArgs r.fns callFuel idx ≤ Extracted.nestingLimit)
    (hAt : At σ pre (.kw .Read :: (cellToks name idx ++ rest))) :
    Outcome3 p σ n (pre.length + 1 + (cellToks name idx).length) eol (stmtBody (evalN fuel) σ)
      (readCellSpec (allData3 p) r name idx).1 (readCellSpec (allData3 p) r name idx).2 := by
  obtain ⟨k1, h1, m1⟩ := (Stmt3V.Mid.ofSync hS.view hAt).body (ev := evalN fuel) rfl
  rw [h1]
  show Outcome3 p σ n _ eol (readStatement (evalN fuel) _) _ _
  unfold readStatement
  rw [bind_ok (lineBudget_eq m1.cur.1), readLoop_body]
  refine outcome_view.1 ((Stmt3V.read_cell_follows fuel name idx
    (m1.at (by simpa only [cellToks, List.cons_append, List.append_assoc, List.nil_append] using m1.cur))
    rfl hres hd hn _).outcome (readCellSpec_ctl _ r name idx) fun τ _ hτ => ?_)
  obtain ⟨c, hacc, m2⟩ := hτ.acceptNone (k := .Comma) (Stmt3L.stmtEnd_not hE (by decide) (by decide))
  rw [bind_ok hacc]
  exact ⟨_, rfl, m2.kept, m2.sync.mem, m2.start.line.trans hl, .inl (by
    rw [m2.cur.2]; simp only [List.length_append, List.length_cons, List.length_nil])⟩

/-! ### non-vacuity (on the carrier `Unit`, as in C03All.lean): READ into cells through the run theorems

  ```
  0 READ A(0), X$, B$(0) : PRINT B$(0); X$;
  10 DATA 0, "S", "T"
  ```
  `A(0)` and `B$(0)` do not exist: they are auto-dimensioned by the READ. -/

namespace Demo4
open Demo3 (ready3_compile outOf)

def nA : Str := ['A']
def nX : Str := ['X', '$']
def nB : Str := ['B', '$']

def readStmt : RStmt3 Unit := .readS [.cell nA [.num ()], .scalar nX, .cell nB [.num ()]]
def printStmt : RStmt3 Unit := .printS [.expr (.cell nB [.num ()]), .semi, .expr (.var nX), .semi]
def dataStmt : RStmt3 Unit := .dataS [.num (), .str ['S'], .str ['T']]

def prog : RProgram3 Unit := [ (0, [readStmt, printStmt]), (10, [dataStmt]) ]

theorem prog_fits : Fits3 prog where
  wf := ⟨by decide, by simp [prog]⟩
  covered := by
    simp [prog, readStmt, printStmt, dataStmt, RStmt3.Covered, RStmt3.CoveredB, RStmt3.isLine, separated3]

theorem prog_noDef : ∀ l ∈ prog, ∀ s ∈ l.2, ∀ name d, ¬ Defines s name d := by
  simp [prog, readStmt, printStmt, dataStmt, Defines]

theorem prog_static : Static prog defaultFuel where
  ok := by
    intro fns hf
    have hnone := fnsOf_nil_of_noDef prog_noDef hf
    refine ⟨fun name d hg => (by rw [hnone name] at hg; cases hg), ?_⟩
    simp [prog, readStmt, printStmt, dataStmt, ResolvedS, ResolvedTargets, RTarget.Resolved, ResolvedL, Resolved,
      ResolvedItems, hnone, sdepth3, targetsDepth, RTarget.depth, depthArgs, depth2, itemsDepth3, edepth, defaultFuel,
      Extracted.nestingLimit]
    decide

theorem idx0 (r : RState3 Unit) : evalIdx r [.num ()] = .ok ([0], r) := by
  simp [evalIdx, foldIdx, fold2, subscript]
  rfl

def arrA : ArrayV Unit := .nums [11] (List.replicate 11 ())
def arrB : ArrayV Unit := .strs [11] (['T'] :: List.replicate 10 [])

def r1 : RState3 Unit :=
  { vars := [(nX, .str ['S'])], arrays := alSet nB arrB (alSet nA arrA []), data := 3, pc := some (0, 1) }
def r2 : RState3 Unit := { r1 with out := [['T', 'S']], pc := some (10, 0) }
def r3 : RState3 Unit := { r2 with pc := none }

theorem data_prog : allData3 prog = [(10, .num ()), (10, .str ['S']), (10, .str ['T'])] := by
  simp [allData3, prog, readStmt, printStmt, dataStmt, RStmt3.dataOf]

theorem step1 : RStep3 prog (prog.start 0) = .inl r1 := by
  have hex : readStmt.exec (allData3 prog) 0 0 (prog.start 0) = ({ r1 with pc := some (0, 0) }, .next) := by
    rw [data_prog]
    simp [readStmt, RStmt3.exec, readTargetsSpec, readTargetSpec, readCellSpec, readScalarSpec, idx0]
    rfl
  rw [Prog3L.rstep_seq (ss := _) rfl rfl rfl, hex]
  rfl

theorem step2 : RStep3 prog r1 = .inl r2 := by
  have h1 : evalE r1 (.cell nB [.num ()]) = .ok (.str ['T'], r1) := by
    simp [evalE, fold2, foldIdx, subscript]
    rfl
  have h2 : evalE r1 (.var nX) = .ok (.str ['S'], r1) := by
    simp [evalE, fold2]
    exact ⟨rfl, rfl⟩
  have hex : printStmt.exec (allData3 prog) 0 1 r1 = ({ r1 with out := r1.out ++ [['T', 'S']] }, .next) := by
    simp only [printStmt, RStmt3.exec, printText3, h1, h2, valueText]
    rfl
  rw [Prog3L.rstep_seq (ss := _) rfl rfl rfl, hex]
  rfl

theorem step3 : RStep3 prog r2 = .inl r3 := by
  have hex : dataStmt.exec (allData3 prog) 10 0 r2 = (r2, .next) := rfl
  rw [Prog3L.rstep_seq (ss := _) rfl rfl rfl, hex]
  rfl

/-- the reference machine: three steps to the end; `A(0)`, `X$`, `B$(0)` read, `TS` printed -/
theorem prog_ref : RSteps3 prog 3 (prog.start 0) = .inl r3 := by
  simp only [RSteps3, step1, step2, step3]

/-- by the theorems: the model ends idle, holding `X$ = "S"`, having printed `TS` -/
example : ∃ k σ', k ≤ 4 ∧ runTurns defaultFuel k ({ lines := compileP3 prog } : St Unit) = .ok () σ' ∧
    σ'.state = .idle ∧ σ'.vars = [(nX, .str ['S'])] ∧ (takeOutput σ').1 = [.print ['T', 'S']] := by
  obtain ⟨k, σ', hk, hrun, hidle, hv, _, ho⟩ :=
    run3_ends prog_fits (ready3_compile prog) (safeRun_of_static prog_static 0) 2 prog_ref rfl
  exact ⟨k, σ', hk, hrun, hidle, hv, by rw [ho]; rfl⟩

def progLines : Lines Unit :=
  { map := [ (0, [.kw .Read, .symbol nA, .kw .LeftParen, .num (), .kw .RightParen, .kw .Comma, .symbol nX, .kw .Comma,
                  .symbol nB, .kw .LeftParen, .num (), .kw .RightParen,
                  .kw .Colon, .kw .Print, .symbol nB, .kw .LeftParen, .num (), .kw .RightParen, .kw .Semicolon,
                  .symbol nX, .kw .Semicolon]),
             (10, [.data [.num (), .str ['S'], .str ['T']]]) ],
    sorted := [0, 10] }

theorem prog_compile : compileP3 prog = progLines := by
  simp [compileP3, prog, readStmt, printStmt, dataStmt, progLines, renderLine3, renderTail3, renderS3, renderItems3,
    PItem3.render, render2, renderArgs, renderRTargets, RTarget.toks, cellToks]

/-- … and by computation on the model -/
example : outOf (runTurns defaultFuel 4 ({ lines := compileP3 prog } : St Unit)) = [.print ['T', 'S']] := by
  rw [prog_compile]
  decide +kernel

end Demo4

end Abasic.Props.C03
