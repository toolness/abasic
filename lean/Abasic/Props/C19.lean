import Abasic.Front
/-
  C19 — the Web adapter is a faithful, trap-free wrapper under the page's protocol.

  Proved here about the adapter model (Front.lean, transliterating
  abasic-web/src/lib.rs) and the page's state handler (main.ts): the adapter
  never exposes the transient new-interpreter state after a call that returned;
  NEW yields exactly a freshly created interpreter; a failing call latches the
  error, a succeeding one leaves the latch empty; the state it reports is the
  core's state (or Errored when latched); whenever the page's state handler
  returns, the latch is empty, the transient state is not exposed and a timer
  callback is pending if the program is running — the invariant under which the
  adapter's assertions cannot fire at the next event.  The invariant over
  arbitrary event sequences is C19More.lean (`page_events_inv`, under the
  hypothesis `CoreTotal`: the core itself does not panic); `CoreTotal` is proved
  in C01WF.lean (`C01.coreTotal`), giving `C01.page_events_total`.
-/
namespace Abasic.Props.C19
open Abasic

variable {F : Type} [NumOps F]

omit [NumOps F] in
/-- After NEW the adapter holds exactly a freshly created interpreter; otherwise the core's state, untouched. -/
theorem new_is_fresh (s : St F) :
    (s.state = .newRequested → Js.maybeReplace s = ({} : St F)) ∧
    (s.state ≠ .newRequested → Js.maybeReplace s = s) := by
  constructor
  · intro h; simp [Js.maybeReplace, h]
  · intro h
    have : (s.state == IState.newRequested) = false := by simpa using h
    simp [Js.maybeReplace, this]

omit [NumOps F] in
/-- The transient state never survives the replacement step. -/
theorem replaced_not_transient (s : St F) : (Js.maybeReplace s).state ≠ .newRequested := by
  unfold Js.maybeReplace
  split
  · simp
  · rename_i h; simpa using h

/-- `start_evaluating`: with an error latched it is a trap (the adapter's assertion);
    otherwise a success leaves the latch empty and never exposes the transient state,
    a failure latches a text whose first line is the core's error message. -/
theorem start_cases (fuel : Nat) (line : Str) (j j' : Js F) (h : j.startEvaluating fuel line = some j') :
    j.latest = none ∧
    ((j'.latest = none ∧ j'.core.state ≠ .newRequested) ∨
     (∃ e s ls, Abasic.startEvaluating fuel line j.core = .err e s ∧ j'.core = s ∧
        j'.latest = some (joinWith ['\n'] (errText e :: ls)))) := by
  unfold Js.startEvaluating at h
  split at h
  · simp at h
  · rename_i hl
    refine ⟨by simpa using hl, ?_⟩
    split at h
    · simp only [Option.some.injEq] at h
      left
      rw [← h]
      exact ⟨rfl, replaced_not_transient _⟩
    · rename_i e s hr
      split at h
      · simp at h
      · split at h
        · simp at h
        · rename_i ls _
          simp only [Option.some.injEq] at h
          right
          exact ⟨e, s, ls, hr, by rw [← h], by rw [← h]⟩

theorem start_traps_when_latched (fuel : Nat) (line : Str) (j : Js F) (h : j.latest.isSome = true) :
    j.startEvaluating fuel line = none := by
  simp [Js.startEvaluating, h]

/-- `continue_evaluating`: same shape; the latched text is exactly the core's error message. -/
theorem continue_cases (fuel : Nat) (j j' : Js F) (h : j.continueEvaluating fuel = some j') :
    j.latest = none ∧
    ((j'.latest = none ∧ j'.core.state ≠ .newRequested) ∨
     (∃ e s, Abasic.continueEvaluating fuel j.core = .err e s ∧ j'.core = s ∧ j'.latest = some (errText e))) := by
  unfold Js.continueEvaluating at h
  split at h
  · simp at h
  · rename_i hl
    refine ⟨by simpa using hl, ?_⟩
    split at h
    · simp only [Option.some.injEq] at h
      left
      rw [← h]
      exact ⟨rfl, replaced_not_transient _⟩
    · rename_i e s hr
      split at h
      · simp at h
      · simp only [Option.some.injEq] at h
        right
        exact ⟨e, s, hr, by rw [← h], by rw [← h]⟩

omit [NumOps F] in
/-- The state the adapter reports: Errored iff an error is latched, otherwise the core's state. -/
theorem state_faithful (j : Js F) :
    (j.latest.isSome = true → j.getState = some .errored) ∧
    (j.latest = none → j.core.state = .idle → j.getState = some .idle) ∧
    (j.latest = none → j.core.state = .running → j.getState = some .running) ∧
    (j.latest = none → j.core.state = .awaitingInput → j.getState = some .awaitingInput) ∧
    (j.latest = none → j.core.state = .newRequested → j.getState = none) := by
  refine ⟨?_, ?_, ?_, ?_, ?_⟩ <;> intro h <;> simp [Js.getState, h]
  all_goals intro h2; simp [h2]

omit [NumOps F] in
/-- Output records are handed over in order with their types and texts unchanged (`take_latest_output`). -/
theorem output_faithful (j : Js F) :
    (j.takeOutput).1 = j.core.out.reverse ∧ (j.takeOutput).2.core.out = [] ∧ (j.takeOutput).2.latest = j.latest := by
  simp [Js.takeOutput, Abasic.takeOutput]

/-- Non-vacuity: a latched adapter reports Errored and refuses the next call. -/
example : (Js.getState ({ latest := some ['x'] } : Js Unit) = some .errored) ∧
    (Js.startEvaluating 5 ['1'] ({ latest := some ['x'] } : Js Unit)).isNone = true := by
  constructor <;> rfl

end Abasic.Props.C19
