import Abasic.Analyzer
/-
  C06 — the static checker and the interpreter agree on what is an error.

  The analyzer (Analyzer.lean) walks the same six operator tiers with the same
  operator tables as the evaluator (Expr.lean) — they share `powOps … orOps` —
  and replaces values by types.  Proved here is the operator-level core of the
  agreement, for all operand values: for every binary and unary operator, the
  evaluator fails with TYPE MISMATCH exactly when the analyzer's type rule for
  that operator's tier rejects the operand kinds, and otherwise the value it
  produces (when no value-dependent error such as DIVISION BY ZERO occurs) has
  exactly the kind the analyzer computed.  Also: assignment and parameter
  binding use the same suffix rule on both sides.  Expressions: C06More.lean
  (`analyze_render`, `sound_expr`); statements: C06Stmt.lean (`sound_stmt`,
  `complete_simple`); programs and source files: C06Prog.lean, C06Loops.lean,
  C06Full.lean, C06File3.lean, C06Defs.lean.
-/
namespace Abasic.Props.C06
open Abasic

variable {F : Type} [NumOps F]

def kindOf : Value F → VT
  | .str _ => .str
  | .num _ => .num

/-- the analyzer's rule per tier (`aLevelLoop`): result type, or rejection -/
def tierRule : ATier → VT → VT → Option VT
  | .arith, .num, .num => some .num
  | .arith, _, _ => none
  | .cmp, a, b => if a == b then some .num else none
  | .logic, _, _ => some .num

def tierOf : BinOp → ATier
  | .pow | .mul | .div | .add | .sub => .arith
  | .cmp _ => .cmp
  | .and | .or => .logic

/-- Binary operators: TYPE MISMATCH at run time iff the analyzer's rule rejects;
    any value produced has the type the analyzer computed; the only other
    run-time failure is the value-dependent DIVISION BY ZERO. -/
theorem binop_agrees (op : BinOp) (l r : Value F) :
    (op.eval l r = .error .typeMismatch ↔ tierRule (tierOf op) (kindOf l) (kindOf r) = none) ∧
    (∀ v, op.eval l r = .ok v → tierRule (tierOf op) (kindOf l) (kindOf r) = some (kindOf v)) ∧
    (∀ e, op.eval l r = .error e → e = .typeMismatch ∨ e = .divisionByZero) := by
  cases op <;> cases l <;> cases r <;>
    simp [BinOp.eval, tierRule, tierOf, kindOf, Value.ofBool]
  all_goals first
    | (split <;> simp)
    | skip

/-- the analyzer's rule for the unary operators (`aUnary`) -/
def unaryRule : UnOp → VT → Option VT
  | .pos, t => some t
  | .neg, .num => some .num
  | .neg, .str => none
  | .not, _ => some .num

theorem unop_agrees (op : UnOp) (v : Value F) :
    (op.eval v = .error .typeMismatch ↔ unaryRule op (kindOf v) = none) ∧
    (∀ w, op.eval v = .ok w → unaryRule op (kindOf v) = some (kindOf w)) ∧
    (∀ e, op.eval v = .error e → e = .typeMismatch) := by
  cases op <;> cases v <;> simp [UnOp.eval, unaryRule, kindOf, Value.ofBool]

/-- Assignment and parameter binding: the value's kind must equal the type of
    the name's suffix — the same test on both sides. -/
theorem suffix_rule_agrees (v : Value F) (name : Str) :
    v.matchesName name = (kindOf v == VT.ofName name) := by
  cases v <;> cases h : endsWithDollar name <;> simp [Value.matchesName, kindOf, VT.ofName, h]

theorem matches_iff_kindOf {v : Value F} {name : Str} : v.matchesName name = true ↔ kindOf v = VT.ofName name := by
  rw [suffix_rule_agrees, beq_iff_eq]

/-- Both walkers use the same operator tables, tier by tier, in the same order. -/
theorem same_tiers (ev : Evals F) (av : AEvals F) :
    orExpr ev = level (level (level (level (level (level (unaryExpr ev) powOps) mulOps) addOps) cmpOps) andOps) orOps ∧
    aOrExpr av = aLevel (aLevel (aLevel (aLevel (aLevel (aLevel (aUnary av) powOps .arith) mulOps .arith) addOps .arith)
      cmpOps .cmp) andOps .logic) orOps .logic := ⟨rfl, rfl⟩

omit [NumOps F] in
/-- … and each table only ever yields operators of its own tier. -/
theorem tables_match_tiers (t : Token F) (op : BinOp) :
    (powOps t = some op → tierOf op = .arith) ∧ (mulOps t = some op → tierOf op = .arith) ∧
    (addOps t = some op → tierOf op = .arith) ∧ (cmpOps t = some op → tierOf op = .cmp) ∧
    (andOps t = some op → tierOf op = .logic) ∧ (orOps t = some op → tierOf op = .logic) := by
  refine ⟨?_, ?_, ?_, ?_, ?_, ?_⟩ <;> intro h
  · cases t with
    | kw k => cases k <;> simp [powOps] at h <;> subst h <;> rfl
    | _ => simp [powOps] at h
  · cases t with
    | kw k => cases k <;> simp [mulOps] at h <;> subst h <;> rfl
    | _ => simp [mulOps] at h
  · cases t with
    | kw k => cases k <;> simp [addOps] at h <;> subst h <;> rfl
    | _ => simp [addOps] at h
  · simp only [cmpOps, Option.map_eq_some_iff] at h
    obtain ⟨c, _, hc⟩ := h
    subst hc; rfl
  · cases t with
    | kw k => cases k <;> simp [andOps] at h <;> subst h <;> rfl
    | _ => simp [andOps] at h
  · cases t with
    | kw k => cases k <;> simp [orOps] at h <;> subst h <;> rfl
    | _ => simp [orOps] at h

/-- Non-vacuity: comparing two strings is accepted and numeric; adding them is rejected. -/
example : tierRule .cmp .str .str = some .num ∧ tierRule .arith .str .str = none ∧ unaryRule .pos .str = some .str := by
  decide

end Abasic.Props.C06
