import Abasic.Proofs.TextLemmas
import Abasic.Proofs.TokStep
import Abasic.Proofs.Matchers
import Abasic.Proofs.DataRun
/-
  C13 — every token's reported source range is exact.

  In the model a byte position is by construction the UTF-8 length of a prefix
  of whole characters (`len8`), so "on a character boundary" is structural.
  This file: what every matcher and one `chomp_next_token` consume.  `Cut cs r P`: what was taken off
  `cs`, leaving `r`, ends in a non-blank and satisfies `P`.  Every matcher is local in that sense with
  `P m` := "on `m` alone it gives the same and leaves nothing" (`chompKeywordTable_cut`,
  `chompOneOrTwo_cut`, `numLoop_cut`, `symLoop_cut`; the keyword matcher and the two scans read off
  their equations in Proofs/Matchers.lean), and a matcher that fails on `m ++ r` fails on `m`
  (`*_none_prefix`), so every earlier alternative of `nextToken` that was rejected in the line is
  rejected in the slice as well.  Hence one step (`nextToken_cut`): the text a token consumed
  re-tokenizes on its own to that token, and it ends in a non-blank, REM and DATA apart.
  This holds for ALL token kinds of the model, including REM (its range runs to the end of the line
  and includes the keyword), DATA (the range includes the keyword and stops before the terminating
  colon; the item parser's `finish` at end of text does what it does at the colon) and identifiers
  (every keyword test the identifier scan makes inside the slice it made in the line with a longer
  text, where it failed).
  That every token starts on a non-blank (`skipWs_suffix`, `skipWs_nonblank`) is in Matchers.lean
  with the rest about blank skipping.
  The main loop as a relation: Proofs/TokLoop.lean.  Ranges are ordered, non-empty,
  inside the line and exact, and the budget is never the limit: C13More.lean.
  Re-tokenization of a range to its own token: C13Self.lean (`self_tokenise`).
-/
namespace Abasic.Props.C13
open Abasic

variable {F : Type} [NumOps F]

theorem len8_append (a b : Str) : len8 (a ++ b) = len8 a + len8 b :=
  Abasic.len8_append a b

theorem len8_pos_of_ne_nil {a : Str} (h : a ≠ []) : 0 < len8 a := by
  cases a with
  | nil => exact absurd rfl h
  | cons c a =>
    have := Char.utf8Size_pos c
    simp only [len8]; omega

theorem len8_cons_pos (c : Char) (a : Str) : 0 < len8 (c :: a) :=
  len8_pos_of_ne_nil (List.cons_ne_nil c a)

theorem skipWs_suffix' (cs : Str) :
    ∃ pre, cs = pre ++ skipWs cs ∧ len8 cs - len8 (skipWs cs) = len8 pre ∧
      len8 cs = len8 pre + len8 (skipWs cs) ∧ (skipWs cs).length ≤ cs.length := by
  obtain ⟨pre, h, _⟩ := skipWs_suffix cs
  refine ⟨pre, h, ?_, ?_, ?_⟩
  · have := len8_append pre (skipWs cs); rw [← h] at this; omega
  · have := len8_append pre (skipWs cs); rw [← h] at this; omega
  · have := congrArg List.length h; simp only [List.length_append] at this; omega

def Cut (cs r : Str) (P : Str → Prop) : Prop :=
  ∃ pre x, cs = pre ++ x :: r ∧ isBasicWs x = false ∧ P (pre ++ [x])

theorem Cut.imp {cs r : Str} {P Q : Str → Prop} (h : Cut cs r P)
    (hq : ∀ m, m ≠ [] → cs = m ++ r → P m → Q m) : Cut cs r Q :=
  let ⟨pre, x, e, hx, hp⟩ := h
  ⟨pre, x, e, hx, hq _ (by simp) (by simp [e]) hp⟩

theorem Cut.exact {cs r : Str} {P : Str → Prop} (h : Cut cs r P) : ∃ m, cs = m ++ r ∧ P m :=
  let ⟨pre, x, e, _, hp⟩ := h
  ⟨pre ++ [x], by simp [e], hp⟩

theorem Cut.nb {cs r : Str} {P : Str → Prop} (h : Cut cs r P) :
    ∃ pre x, cs = pre ++ x :: r ∧ isBasicWs x = false :=
  let ⟨pre, x, e, hx, _⟩ := h
  ⟨pre, x, e, hx⟩

theorem Cut.consumes {cs r : Str} {P : Str → Prop} (h : Cut cs r P) : ∃ pre, pre ≠ [] ∧ cs = pre ++ r :=
  let ⟨pre, x, e, _, _⟩ := h
  ⟨pre ++ [x], by simp, by simp [e]⟩

theorem chompKeyword_cut (ks cs r : Str) (h : chompKeyword ks cs = some r) :
    ∃ m, cs = m ++ r ∧ (∀ y, chompKeyword ks (m ++ y) = some y) ∧
      ((ks = [] ∧ m = []) ∨ ∃ pre x, m = pre ++ [x] ∧ isBasicWs x = false) := by
  rw [chompKeyword_nf] at h
  split at h
  · next hp =>
    obtain rfl := Option.some.inj h
    cases ks with
    | nil => exact ⟨[], rfl, fun y => rfl, .inl ⟨rfl, rfl⟩⟩
    | cons k ks =>
      obtain ⟨hl, ht⟩ := C14.pre_length hp
      obtain ⟨p, x, e, hx, hsq, hy⟩ := afterNb_cut cs (List.length_cons ▸ Nat.succ_ne_zero _) hl
      refine ⟨p ++ [x], by rw [List.append_assoc]; exact e, fun y => ?_, .inr ⟨p, x, rfl, hx⟩⟩
      rw [chompKeyword_nf, C14.sq_append, hsq, ht, C14.pre_self_append, if_pos rfl, List.append_assoc]
      exact congrArg some (hy y)
  · cases h

theorem chompKeyword_cut' (ks cs r : Str) (hk : ks ≠ []) (h : chompKeyword ks cs = some r) :
    Cut cs r fun m => ∀ y, chompKeyword ks (m ++ y) = some y := by
  obtain ⟨m, rfl, hl, ⟨e, -⟩ | ⟨pre, x, rfl, hx⟩⟩ := chompKeyword_cut ks cs r h
  · exact absurd e hk
  · exact ⟨pre, x, by simp, hx, hl⟩

theorem chompKeyword_suffix (ks cs r : Str) (h : chompKeyword ks cs = some r) : ∃ pre, cs = pre ++ r :=
  let ⟨m, e, _⟩ := chompKeyword_cut ks cs r h; ⟨m, e⟩

theorem chompKeyword_append (ks m r1 r : Str) (h : chompKeyword ks m = some r1) :
    chompKeyword ks (m ++ r) = some (r1 ++ r) := by
  obtain ⟨m0, rfl, hl, _⟩ := chompKeyword_cut ks m r1 h
  rw [List.append_assoc, hl]

theorem chompKeyword_none_prefix (ks m r : Str) (h : chompKeyword ks (m ++ r) = none) :
    chompKeyword ks m = none := by
  cases hm : chompKeyword ks m with
  | none => rfl
  | some r1 => rw [chompKeyword_append ks m r1 r hm] at h; cases h

theorem chompAnyKeyword_none_prefix (m r : Str) (h : chompAnyKeyword (m ++ r) = none) :
    chompAnyKeyword m = none :=
  C14.chompAnyKeyword_none m (C14.anyKw_append_false (b := C14.sq r) (by
    rw [← C14.sq_append, ← C14.chompAnyKeyword_isSome, h]; rfl))

theorem chompAnyKeyword_nil : chompAnyKeyword [] = none := by decide

theorem keywords_nonempty : ∀ p ∈ Extracted.keywords, p.1.toList ≠ [] := by
  decide

theorem dataKeyword_nonempty : Extracted.dataKeyword.toList ≠ [] := by decide

theorem chompKeywordTable_cut (tbl : List (String × Kw)) (hne : ∀ p ∈ tbl, p.1.toList ≠ [])
    (cs : Str) (k : Kw) (r : Str) (h : chompKeywordTable tbl cs = some (k, r)) :
    Cut cs r fun m => chompKeywordTable tbl m = some (k, []) := by
  induction tbl with
  | nil => simp [chompKeywordTable] at h
  | cons p rest ih =>
    obtain ⟨w, k'⟩ := p
    simp only [chompKeywordTable] at h ⊢
    cases hc : chompKeyword w.toList cs with
    | some r1 =>
      rw [hc] at h
      obtain ⟨rfl, rfl⟩ := Prod.mk.inj (Option.some.inj h)
      exact (chompKeyword_cut' _ cs r1 (hne _ (List.mem_cons_self ..)) hc).imp fun m _ _ hm => by
        simp only [by simpa using hm []]
    | none =>
      rw [hc] at h
      -- a word that failed on the text fails on what the later word consumed
      exact (ih (fun p hp => hne p (List.mem_cons_of_mem _ hp)) h).imp fun m _ e hm => by
        simp only [chompKeyword_none_prefix w.toList m r (e ▸ hc), hm]

theorem keywords_head_alpha : ∀ p ∈ Extracted.keywords,
    (match p.1.toList with | [] => false | k :: _ => isAsciiAlpha k) = true := by decide

theorem anyKw_nonletter (c : Char) (q : Str) (ha : isAsciiAlpha c = false) : C14.anyKw (c :: q) = false := by
  unfold C14.anyKw C14.preTable
  rw [List.any_eq_false]
  intro p hp
  have := keywords_head_alpha p hp
  cases hw : p.1.toList with
  | nil => rw [hw] at this; cases this
  | cons k ks =>
    rw [hw] at this
    have hk : isAsciiAlpha k = true := this
    have hne : (c == k) = false := beq_false_of_ne fun e => by rw [e, hk] at ha; cases ha
    simp only [C14.pre, hne, Bool.false_and, Bool.false_eq_true, not_false_eq_true]

theorem chompAnyKeyword_nonletter (c : Char) (cs : Str) (hb : isBasicWs c = false) (ha : isAsciiAlpha c = false) :
    chompAnyKeyword (c :: cs) = none :=
  C14.chompAnyKeyword_none _ (by rw [C14.sq_nb c cs hb, C14.upper_of_not_alpha c ha]; exact anyKw_nonletter c _ ha)

theorem chompAnyKeyword_cut (cs : Str) (k : Kw) (r : Str) (h : chompAnyKeyword cs = some (k, r)) :
    Cut cs r fun m => chompAnyKeyword m = some (k, []) :=
  chompKeywordTable_cut _ keywords_nonempty cs k r h

theorem chompAnyKeyword_consumes (cs : Str) (k : Kw) (r : Str) (h : chompAnyKeyword cs = some (k, r)) :
    ∃ pre, pre ≠ [] ∧ cs = pre ++ r :=
  (chompAnyKeyword_cut cs k r h).consumes

theorem chompOneOrTwo_some {cs : Str} {k : Kw} {r : Str} (h : chompOneOrTwo cs = some (k, r)) :
    ∃ c r0 k1, skipWs cs = c :: r0 ∧ Extracted.oneChar.lookup c = some k1 ∧
      ((k = k1 ∧ r = r0 ∧ ∀ c2 r2, skipWs r0 = c2 :: r2 → lookupTwo Extracted.twoChar k1 c2 = none) ∨
        ∃ c2, skipWs r0 = c2 :: r ∧ lookupTwo Extracted.twoChar k1 c2 = some k) := by
  unfold chompOneOrTwo at h
  split at h
  · cases h
  · next c r0 hs =>
    refine ⟨c, r0, ?_⟩
    split at h
    · cases h
    · next k1 hl =>
      refine ⟨k1, hs, hl, ?_⟩
      split at h
      · next hs2 =>
        cases h
        exact .inl ⟨rfl, rfl, fun c2 r2 e => by rw [hs2] at e; cases e⟩
      · next c2 r2 hs2 =>
        split at h
        · next k2 hl2 => cases h; exact .inr ⟨c2, hs2, hl2⟩
        · next hl2 =>
          cases h
          exact .inl ⟨rfl, rfl, fun c3 r3 e => by rw [hs2] at e; cases e; exact hl2⟩

theorem chompOneOrTwo_single (c : Char) (k : Kw) (r : Str) (hc : isBasicWs c = false)
    (hl : Extracted.oneChar.lookup c = some k) (h2 : ∀ c2, lookupTwo Extracted.twoChar k c2 = none) :
    chompOneOrTwo (c :: r) = some (k, r) := by
  unfold chompOneOrTwo
  simp only [skipWs, hc, Bool.false_eq_true, if_false, hl]
  cases skipWs r with
  | nil => rfl
  | cons c2 r2 => simp only [h2 c2]

theorem chompOneOrTwo_cut (cs : Str) (k : Kw) (r : Str) (h : chompOneOrTwo cs = some (k, r)) :
    Cut cs r fun m => chompOneOrTwo m = some (k, []) := by
  obtain ⟨c, r0, k1, hs, hl, ⟨rfl, rfl, -⟩ | ⟨c2, hs2, hl2⟩⟩ := chompOneOrTwo_some h
  · obtain ⟨ws, rfl, hsk⟩ := skipWs_split cs c r hs
    refine ⟨ws, c, rfl, skipWs_nonblank _ c r hs, ?_⟩
    unfold chompOneOrTwo
    simp only [hsk [], hl, skipWs]
  · obtain ⟨ws, rfl, hsk⟩ := skipWs_split cs c r0 hs
    obtain ⟨ws2, rfl, hsk2⟩ := skipWs_split r0 c2 r hs2
    refine ⟨ws ++ c :: ws2, c2, by simp, skipWs_nonblank _ c2 r hs2, ?_⟩
    unfold chompOneOrTwo
    simp only [List.append_assoc, List.cons_append, hsk (ws2 ++ [c2]), hl, hsk2 [], hl2]

theorem chompOneOrTwo_consumes (cs : Str) (k : Kw) (r : Str) (h : chompOneOrTwo cs = some (k, r)) :
    ∃ pre, pre ≠ [] ∧ cs = pre ++ r :=
  (chompOneOrTwo_cut cs k r h).consumes

theorem chompOneOrTwo_none_prefix (m r : Str) (h : chompOneOrTwo (m ++ r) = none) :
    chompOneOrTwo m = none := by
  cases hs : skipWs m with
  | nil => unfold chompOneOrTwo; simp only [hs]
  | cons c r0 =>
    unfold chompOneOrTwo at h ⊢
    simp only [skipWs_append_cons m c r0 r hs] at h
    simp only [hs]
    cases hl : Extracted.oneChar.lookup c with
    | none => rfl
    | some k =>
      simp only [hl] at h
      split at h
      · cases h
      · split at h <;> cases h

theorem splitAtQuote_spec (q : Str) : ∀ (s r : Str), splitAtQuote q = some (s, r) →
    q = s ++ '"' :: r ∧ ∀ x ∈ s, (x == '"') = false := by
  induction q with
  | nil => intro s r h; simp only [splitAtQuote] at h; cases h
  | cons c cs ih =>
    intro s r h
    simp only [splitAtQuote] at h
    by_cases hc : (c == '"') = true
    · rw [if_pos hc] at h
      injection h with h; injection h with h1 h2; subst h1; subst h2
      have : c = '"' := by simpa using hc
      subst this
      exact ⟨rfl, by intro x hx; cases hx⟩
    · rw [if_neg hc] at h
      cases hs : splitAtQuote cs with
      | none => rw [hs] at h; cases h
      | some p =>
        obtain ⟨a, r0⟩ := p
        rw [hs] at h
        simp only at h
        injection h with h; injection h with h1 h2; subst h1; subst h2
        obtain ⟨e, hq⟩ := ih a r0 hs
        refine ⟨by rw [e]; rfl, ?_⟩
        intro x hx
        rcases List.mem_cons.mp hx with rfl | hx
        · simpa using hc
        · exact hq x hx

theorem splitAtQuote_append (s r : Str) (hs : ∀ x ∈ s, (x == '"') = false) :
    splitAtQuote (s ++ '"' :: r) = some (s, r) := by
  induction s with
  | nil => simp [splitAtQuote]
  | cons c s ih =>
    have hc : (c == '"') = false := hs c (List.mem_cons_self ..)
    simp only [List.cons_append, splitAtQuote, hc, Bool.false_eq_true, ↓reduceIte]
    rw [ih (fun x hx => hs x (List.mem_cons_of_mem _ hx))]

theorem splitAtQuote_eq (q s r : Str) (h : splitAtQuote q = some (s, r)) : q = s ++ '"' :: r :=
  (splitAtQuote_spec q s r h).1

theorem splitAtQuote_consumes (q s r : Str) (h : splitAtQuote q = some (s, r)) :
    ∃ pre, pre ≠ [] ∧ q = pre ++ r :=
  ⟨s ++ ['"'], by simp, by rw [splitAtQuote_eq q s r h]; simp⟩

theorem splitAtQuote_exact (q s r : Str) (h : splitAtQuote q = some (s, r)) (r2 : Str) :
    splitAtQuote (s ++ '"' :: r2) = some (s, r2) :=
  splitAtQuote_append s r2 (splitAtQuote_spec q s r h).2

theorem numLoop_nil (cs : Str) (h : (numLoop cs).1 = []) : (numLoop cs).2 = cs := by
  rw [numLoop_nf] at h ⊢
  exact congrArg (afterNb · cs) (congrArg List.length h)

theorem numLoop_cut (cs d r : Str) (h : numLoop cs = (d, r)) (hd : d ≠ []) :
    Cut cs r fun m => numLoop m = (d, []) := by
  rw [numLoop_nf] at h
  obtain ⟨rfl, rfl⟩ := Prod.mk.inj h
  obtain ⟨p, x, e, hx, hsq, hy⟩ := afterNb_cut cs (mt List.eq_nil_of_length_eq_zero hd)
    (List.takeWhile_prefix _).length_le
  refine ⟨p, x, e, hx, ?_⟩
  dsimp only
  rw [numLoop_nf, hsq, takeWhile_take]
  exact congrArg _ (by simpa using hy [])

theorem numLoop_nil_prefix (m r : Str) (h : (numLoop (m ++ r)).1 = []) : (numLoop m).1 = [] := by
  rw [numLoop_nf, C14.sq_append] at h
  rw [numLoop_nf]
  cases hq : C14.sq m with
  | nil => rfl
  | cons c q =>
    rw [hq, List.cons_append, List.takeWhile_cons] at h
    rw [List.takeWhile_cons]
    split at h
    · cases h
    · next hc => rw [if_neg hc]

theorem symLoop_nil (first : Bool) (cs : Str) (h : (symLoop first cs).1 = []) :
    (symLoop first cs).2 = cs := by
  rw [symLoop_nf] at h ⊢
  exact congrArg (afterNb · cs) (congrArg List.length h)

theorem symLoop_cut (first : Bool) (cs d r : Str) (h : symLoop first cs = (d, r)) (hd : d ≠ []) :
    Cut cs r fun m => symLoop first m = (d, []) := by
  rw [symLoop_nf] at h
  obtain ⟨rfl, rfl⟩ := Prod.mk.inj h
  obtain ⟨p, x, e, hx, hsq, hy⟩ := afterNb_cut cs (mt List.eq_nil_of_length_eq_zero hd)
    (symG_prefix ..).length_le
  refine ⟨p, x, e, hx, ?_⟩
  dsimp only
  rw [symLoop_nf, hsq, symG_take]
  exact congrArg _ (by simpa using hy [])

theorem symLoop_consumes (first : Bool) (cs d r : Str) (h : symLoop first cs = (d, r)) (hd : d ≠ []) :
    ∃ pre, pre ≠ [] ∧ cs = pre ++ r :=
  (symLoop_cut first cs d r h hd).consumes

theorem dropBytes_suffix (n : Nat) (cs : Str) : ∃ pre, cs = pre ++ dropBytes n cs := by
  induction cs generalizing n with
  | nil => cases n <;> exact ⟨[], rfl⟩
  | cons c cs ih =>
    cases n with
    | zero => exact ⟨[], rfl⟩
    | succ n =>
      obtain ⟨pre, hp⟩ := ih (n + 1 - c.utf8Size)
      refine ⟨c :: pre, ?_⟩
      simp only [dropBytes, List.cons_append]
      rw [← hp]

theorem pushCurrent_chomped (p : DataParser F) : p.pushCurrent.chomped = p.chomped := rfl

/-- `parse_data_until_colon` on the text it consumed gives the same items and
    consumes all of it. -/
theorem parseData_exact (r : Str) :
    ∃ pre, r = pre ++ dropBytes (parseData (F := F) r).2 r ∧
      parseData (F := F) pre = ((parseData (F := F) r).1, len8 pre) ∧
      (parseData (F := F) r).2 = len8 pre := by
  obtain ⟨a, stop, rfl, hc⟩ := DataParser.cut_exists ({} : DataParser F) rfl r
  have h0 := (DataParser.Cut.mk hc.unfinished (.inl rfl)).parseData_eq
  rw [List.append_nil] at h0
  exact ⟨a, by rw [hc.rest], by rw [h0, hc.parseData_eq], by rw [hc.parseData_eq]⟩

theorem _root_.Abasic.NextTok.Plain.prefix {m r : Str} (h : NextTok.Plain (m ++ r)) (hm : m ≠ []) :
    NextTok.Plain m :=
  ⟨chompAnyKeyword_none_prefix m r h.kw, chompOneOrTwo_none_prefix m r h.op, fun q e => by
    subst e; exact h.quote (q ++ r) rfl⟩

theorem _root_.Abasic.NextTok.Word.prefix {m r : Str} (h : NextTok.Word (m ++ r)) (hm : m ≠ []) :
    NextTok.Word m :=
  ⟨h.toPlain.prefix hm, numLoop_nil_prefix m r h.num, chompKeyword_none_prefix _ m r h.rem,
    chompKeyword_none_prefix _ m r h.data⟩

theorem nextToken_cut (cs : Str) (t : Token F) (r' : Str) (h : nextToken (F := F) cs = .tok t r') :
    Cut cs r' (fun m => nextToken (F := F) m = .tok t []) ∨
      (((∃ s, t = .remark s) ∨ ∃ d, t = .data d) ∧
        ∃ m, m ≠ [] ∧ cs = m ++ r' ∧ nextToken (F := F) m = .tok t []) := by
  -- the alternative that fired fires on what it consumed (`*_cut`); those before it fail there too
  cases nextTok_of h with
  | kw k => exact .inl ((chompAnyKeyword_cut cs _ _ k).imp fun m _ _ hm => (NextTok.kw hm).eq)
  | op k o =>
    exact .inl ((chompOneOrTwo_cut cs _ _ o).imp fun m _ e hm =>
      (NextTok.op (chompAnyKeyword_none_prefix m _ (e ▸ k)) hm).eq)
  | @str q s _ k o e hs =>
    have hcs : cs = ('"' :: s ++ ['"']) ++ r' := by rw [e, splitAtQuote_eq q s r' hs]; simp
    exact .inl ⟨'"' :: s, '"', by rw [hcs]; simp, by decide,
      (NextTok.str (chompAnyKeyword_none_prefix _ r' (hcs ▸ k)) (chompOneOrTwo_none_prefix _ r' (hcs ▸ o)) rfl
        (splitAtQuote_exact q s r' hs [])).eq⟩
  | @num d _ v p hn hd hp hf =>
    exact .inl ((numLoop_cut cs d r' hn hd).imp fun m hm e hnm =>
      (NextTok.num ((e ▸ p : NextTok.Plain (m ++ r')).prefix hm) hnm hd hp hf).eq)
  | @remark r p hn hr =>
    exact .inr ⟨.inl ⟨r, rfl⟩, cs, (by rintro rfl; cases hr), by simp, (NextTok.remark p hn hr).eq⟩
  | @data r p hn hrem hr =>
    -- REM was ruled out on the whole text; DATA matches on its keyword and the payload it parsed
    obtain ⟨kwp, hkwp, hkw⟩ := (chompKeyword_cut' _ cs r dataKeyword_nonempty hr).exact
    obtain ⟨pre, hpre, hpd, hlen⟩ := parseData_exact (F := F) r
    have hcs : cs = (kwp ++ pre) ++ dropBytes (parseData (F := F) r).2 r := by
      rw [List.append_assoc, ← hpre]; exact hkwp
    have hne : kwp ++ pre ≠ [] := by
      intro e
      obtain ⟨rfl, -⟩ := List.append_eq_nil_iff.mp e
      cases hkw []
    refine .inr ⟨.inr ⟨_, rfl⟩, kwp ++ pre, hne, hcs, ?_⟩
    rw [(NextTok.data (F := F) ((hcs ▸ p : NextTok.Plain (kwp ++ pre ++ _)).prefix hne)
      (numLoop_nil_prefix _ _ (hcs ▸ hn)) (chompKeyword_none_prefix _ _ _ (hcs ▸ hrem)) (hkw pre)).eq, hpd]
    simp only
    have := Abasic.dropBytes_len8 pre []
    simp only [List.append_nil] at this
    rw [this]
  | @symbol s _ w hs hne =>
    exact .inl ((symLoop_cut true cs s r' hs hne).imp fun m hm e hsm =>
      (NextTok.symbol ((e ▸ w : NextTok.Word (m ++ r')).prefix hm) hsm hne).eq)

/-- The text consumed by a successful `nextToken` re-tokenizes, on its own, to the
    same token with nothing left over. -/
theorem nextToken_exact (cs : Str) (t : Token F) (r' : Str)
    (h : nextToken (F := F) cs = .tok t r') :
    ∃ m, cs = m ++ r' ∧ nextToken (F := F) m = .tok t [] := by
  rcases nextToken_cut cs t r' h with h1 | ⟨-, m, -, h2⟩
  · exact h1.exact
  · exact ⟨m, h2⟩

/-- … for *the* split `cs = m ++ r'`. -/
theorem nextToken_prefix (cs m : Str) (t : Token F) (r' : Str)
    (h : nextToken (F := F) cs = .tok t r') (hcs : cs = m ++ r') :
    nextToken (F := F) m = .tok t [] := by
  obtain ⟨m', hm', hn⟩ := nextToken_exact cs t r' h
  have : m = m' := List.append_cancel_right (by rw [← hcs, ← hm'])
  rw [this]; exact hn

theorem nextToken_cases_consumes (cs : Str) (t : Token F) (r' : Str)
    (h : nextToken (F := F) cs = .tok t r') : ∃ pre, pre ≠ [] ∧ cs = pre ++ r' := by
  rcases nextToken_cut cs t r' h with h1 | ⟨-, m, hm, e, -⟩
  · exact h1.consumes
  · exact ⟨m, hm, e⟩

theorem nextToken_invalid_consumes (cs r : Str) (h : nextToken (F := F) cs = .invalidNumber r) :
    ∃ pre, pre ≠ [] ∧ cs = pre ++ r := by
  cases nextTok_of h with
  | badNum _ hn hd _ => exact (numLoop_cut cs _ _ hn hd).consumes

theorem lexeme_of_consumes {c : Char} {r r' : Str} (h : ∃ pre, pre ≠ [] ∧ c :: r = pre ++ r') :
    ∃ m, r = m ++ r' := by
  obtain ⟨pre, hpre, e⟩ := h
  cases pre with
  | nil => exact absurd rfl hpre
  | cons x m => exact ⟨m, (List.cons.inj e).2⟩

theorem nextToken_consumes : ∀ (c : Char) (r : Str) (t : Token F) (r' : Str),
    nextToken (F := F) (c :: r) = .tok t r' → isBasicWs c = false →
    ∃ pre, pre ≠ [] ∧ c :: r = pre ++ r' := by
  intro c r t r' h _
  exact nextToken_cases_consumes (c :: r) t r' h

/-- Except for `REM` and `DATA` tokens, the text a token consumes ends
    in a non-blank character. -/
theorem nonblank_ends (cs : Str) (t : Token F) (r' : Str)
    (h : nextToken (F := F) cs = .tok t r')
    (hrem : ∀ s, t ≠ .remark s) (hdata : ∀ items, t ≠ .data items) :
    ∃ pre x, cs = pre ++ x :: r' ∧ isBasicWs x = false := by
  rcases nextToken_cut cs t r' h with h1 | ⟨⟨s, hs⟩ | ⟨d, hd⟩, -⟩
  · exact h1.nb
  · exact absurd hs (hrem s)
  · exact absurd hd (hdata d)

theorem dropBytes_len8 (n : Nat) (cs : Str) :
    dropBytes n cs = [] ∨ n + len8 (dropBytes n cs) ≤ len8 cs := by
  induction cs generalizing n with
  | nil => cases n <;> exact .inl rfl
  | cons c cs ih =>
    cases n with
    | zero => exact .inr (by simp [dropBytes])
    | succ n =>
      simp only [dropBytes]
      rcases ih (n + 1 - c.utf8Size) with h | h
      · exact .inl h
      · refine .inr ?_
        simp only [len8]; omega

end Abasic.Props.C13
