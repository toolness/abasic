import Abasic.Props.C01
import Abasic.Proofs.Cursor
/-
  C08 — INPUT suspends and resumes without disturbing the rest of the program.
-/
namespace Abasic.Props.C08
open Abasic

variable {F : Type} [NumOps F]

omit [NumOps F] in
theorem find_input (ts : List (Token F)) (i : Nat) (t : Token F) (h : ts[i]? = some t)
    (hk : t.isKw .Input = true) : findInputBefore ts (i + 1) = some i := by
  simp [findInputBefore, h, hk]

theorem reply_parse (σ : St F) (text : Str) (h : σ.input = some text) :
    takeInput σ = .ok (some ((parseData (F := F) text).1, decide ((parseData (F := F) text).2 < len8 text)))
      { σ with input := none } := by
  simp [takeInput, bind, M.bindM, M.get, h, M.set, pure, M.pureM]

/-- Text offered to a numeric variable is a DATA TYPE MISMATCH of the coercion,
    which INPUT turns into REENTER (never into an error). -/
theorem text_to_numeric (name : Str) (s : Str) (h : endsWithDollar name = false) :
    Value.coerceFromData (F := F) name (.str s) = .error .dataTypeMismatch := by
  simp [Value.coerceFromData, h]

theorem item_suits (name : Str) (e : DataElement F) (h : endsWithDollar name = true ∨ ∃ x, e = .num x) :
    ∃ v, Value.coerceFromData name e = .ok v ∧ v.matchesName name = true := by
  rcases h with h | ⟨x, rfl⟩
  · cases e <;> simp [Value.coerceFromData, h, Value.matchesName]
  · by_cases hd : endsWithDollar name = true
    · simp [Value.coerceFromData, hd, Value.matchesName]
    · have hd' : endsWithDollar name = false := by simpa using hd
      simp [Value.coerceFromData, hd', Value.matchesName]

omit [NumOps F] in
theorem tokens_stable (σ σ' : St F) (ts : List (Token F)) (h : tokens σ = .ok ts σ)
    (hl : σ'.lines = σ.lines) (hi : σ'.imm = σ.imm) (hloc : σ'.loc.line = σ.loc.line) :
    tokens σ' = .ok ts σ' := by
  rw [Cur.tokens_eq, show Cur.toks σ' = Cur.toks σ by unfold Cur.toks; rw [hloc, hl, hi], Cur.toks_of_tokens h]

omit [NumOps F] in
theorem find_input_skip (ts : List (Token F)) (i : Nat) (t u : Token F) (h : ts[i]? = some t)
    (hk : t.isKw .Input = true) (hu : ts[i + 1]? = some u) (huk : u.isKw .Input = false) :
    findInputBefore ts (i + 2) = some i := by
  simp [findInputBefore, h, hk, hu, huk]

/-- **reply_roundtrip.**  The text handed to `provide_input` is exactly what the
    resumed INPUT statement parses: `takeInput` after `provideInput text`
    yields the DATA parse of `text` (and whether bytes were left over), and
    consumes the reply. -/
theorem reply_roundtrip (σ : St F) (text : Str) (h : σ.state = .awaitingInput) :
    (do provideInput text; takeInput) σ =
      .ok (some ((parseData (F := F) text).1, decide ((parseData (F := F) text).2 < len8 text)))
        { σ with input := none, state := .running } := by
  simp only [bind, M.bindM, C01.reply_total text σ h]
  exact reply_parse _ text rfl

/-- Non-vacuity of `input_reenter_scalar`'s cursor hypotheses: `10 INPUT X`
    resumed with the cursor just after INPUT. -/
example : let ts : List (Token Unit) := [.kw .Input, .symbol ['X']]
    ts[1 - 1]? = some (.kw .Input) ∧ ts[1]? = some (.symbol ['X']) ∧ ts[1 + 1]? ≠ some (.kw .LeftParen) := by
  exact ⟨rfl, rfl, by simp⟩

/-- Non-vacuity: the cursor just after `INPUT` in `PRINT : INPUT X`. -/
example : findInputBefore (F := Unit) [.kw .Print, .kw .Colon, .kw .Input, .symbol ['X']] 3 = some 2 := by decide

end Abasic.Props.C08
