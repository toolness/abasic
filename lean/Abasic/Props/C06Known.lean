import Abasic.Props.C06FullEx
/-
  C06 — the known finding KF-NESTED-ELSE as a theorem about the model.

  `20 IF X THEN IF 1 THEN PRINT 5 ELSE PRINT 2 ELSE PRINT 3` is grammatical: as
  many ELSE as IF.  The analyzer gives the first ELSE to the inner IF, the second
  to the outer one, and reports nothing.  The interpreter's false-branch scan
  takes the FIRST ELSE on the line whichever IF it belongs to, runs `PRINT 2`, and
  the statement loop then meets the second ELSE as the start of a statement.
  No DEF, no function call, no INPUT: the side conditions of the property hold,
  and an analysed-clean program fails with a syntax error.  (The same facts are
  observed on the implementation by the c06 slice, family `surplus-else`.)
-/
namespace Abasic.Props.C06
open Abasic

attribute [local instance] C14.natOps

def nestedElseText : List Str :=
  ["10 X = 0".toList, "20 IF X THEN IF 1 THEN PRINT 5 ELSE PRINT 2 ELSE PRINT 3".toList, "30 PRINT 4".toList]

theorem nested_else_eval :
    aobs (analysis nestedElseText) =
      (none, [], 0, some ["10 X = 0\n".toList, "20 IF X THEN IF 1 THEN PRINT 5 ELSE PRINT 2 ELSE PRINT 3\n".toList, "30 PRINT 4\n".toList]) ∧
    errOfR (runLoaded 2 nestedElseText) =
      some { err := .syntax .unexpectedToken, loc := some { line := some 20, idx := 11 } } := by
  unfold nestedElseText
  literal_chars
  decide +kernel

theorem nested_else_analyzer_silent : Silent (analysis nestedElseText) :=
  silent_of_aobs nested_else_eval.1

/-- token 11 of line 20 is the second ELSE -/
theorem nested_else_run_fails : ∀ j,
    errOfR (runLoaded (2 + j) nestedElseText) =
      some { err := .syntax .unexpectedToken, loc := some { line := some 20, idx := 11 } } :=
  run_err_forever nested_else_eval.2

/-- refutes "analyzer silent => no syntax error" for a program without DEF, call or INPUT -/
theorem nested_else_counterexample :
    Silent (analysis nestedElseText) ∧
    ∃ te, errOfR (runLoaded 2 nestedElseText) = some te ∧ te.err = .syntax .unexpectedToken :=
  ⟨nested_else_analyzer_silent, _, nested_else_run_fails 0, rfl⟩

end Abasic.Props.C06
