import Abasic.Proofs.Lift
import Abasic.Proofs.RelA
import Abasic.Proofs.CommuteLift
/-
  C01 (continued) — the nesting counter is restored by every host call, on
  every path, for every state; hence it is 0 in every reachable state.

  The proof is the walk through the evaluator (Proofs/Step.lean) and through the entry
  points (Proofs/Host.lean) at the frame `RA σ σ' := σ'.nesting = σ.nesting` (Proofs/RelA.lean).
-/
namespace Abasic.Props.C01
open Abasic Abasic.Hoare

variable {F : Type} [NumOps F]

theorem nesting_preserved_evalN (n : Nat) :
    Respects RA (evalN (F := F) n).expr ∧ Respects RA (evalN (F := F) n).stmt :=
  fr_evalN n

theorem nesting_preserved_runNextStatement (fuel : Nat) (σ : St F) :
    (∀ a σ', runNextStatement fuel σ = .ok a σ' → σ'.nesting = σ.nesting) ∧
    (∀ e σ', runNextStatement fuel σ = .err e σ' → σ'.nesting = σ.nesting) :=
  (fr_runNextStatement (R := RA) fuel).at σ

theorem nesting_preserved_evaluateImpl (fuel : Nat) (line : Str) (σ : St F) :
    (∀ a σ', evaluateImpl fuel line σ = .ok a σ' → σ'.nesting = σ.nesting) ∧
    (∀ e σ', evaluateImpl fuel line σ = .err e σ' → σ'.nesting = σ.nesting) :=
  (walk_evaluateImpl (HostFrame.walk RA fuel) line).at σ

theorem nesting_preserved_start (fuel : Nat) (line : Str) (σ : St F) :
    (∀ a σ', startEvaluating fuel line σ = .ok a σ' → σ'.nesting = σ.nesting) ∧
    (∀ e σ', startEvaluating fuel line σ = .err e σ' → σ'.nesting = σ.nesting) :=
  (fr_startEvaluating (R := RA) fuel line).at σ

theorem nesting_preserved_cont (fuel : Nat) (σ : St F) :
    (∀ a σ', continueEvaluating fuel σ = .ok a σ' → σ'.nesting = σ.nesting) ∧
    (∀ e σ', continueEvaluating fuel σ = .err e σ' → σ'.nesting = σ.nesting) :=
  (fr_continueEvaluating (R := RA) fuel).at σ

/-- The calls a host can make (interpreter.rs public API). -/
inductive Call where
  | start (text : Str)
  | cont
  | reply (text : Str)
  | brk
  | seed (n : Nat)
  /-- `take_output` -/
  | output

def Call.run (fuel : Nat) : Call → M F Unit
  | .start text => startEvaluating fuel text
  | .cont => continueEvaluating fuel
  | .reply text => provideInput text
  | .brk => breakAtCurrentLocation
  | .seed n => randomize n
  | .output => M.modify fun s => (takeOutput s).2

def applyCall (fuel : Nat) (c : Call) (σ : St F) : St F := (c.run fuel σ).final

def applyCalls (fuel : Nat) (cs : List Call) (σ : St F) : St F := cs.foldl (fun s c => applyCall fuel c s) σ

/-- states a host can bring a new interpreter into -/
inductive Reachable (fuel : Nat) : St F → Prop where
  | init : Reachable fuel {}
  | step {σ : St F} (c : Call) : Reachable fuel σ → Reachable fuel (applyCall fuel c σ)

/-- every host call, for a predicate carried through the entry points (Proofs/Host.lean) that holds of the three
    calls outside the protocol -/
theorem walk_call {fuel : Nat} (W : HostWalk F fuel) (brk : W.P (breakAtCurrentLocation (F := F)))
    (seed : ∀ n, W.P (randomize (F := F) n)) (output : W.P (M.modify fun s : St F => (takeOutput s).2))
    (c : Call) : W.P (c.run (F := F) fuel) := by
  cases c with
  | start text => exact walk_startEvaluating W text
  | cont => exact walk_continueEvaluating W
  | reply text => exact W.provideInput text
  | brk => exact brk
  | seed n => exact seed n
  | output => exact output

theorem respects_call {R : St F → St F → Prop} [HostPrims R] (fuel : Nat) (c : Call) :
    Respects R (c.run (F := F) fuel) :=
  walk_call (HostFrame.walk R fuel) fr_breakAtCurrentLocation
    (fun n => Respects.mono (fun _ _ => Prims.sub) (rns_randomize n))
    (respects_modify fun _ => Prims.sub (rns_same rfl rfl rfl)) c

theorem simBy_call (N : Norm F) [N.Lawful] [N.KeepsImm] (hout : N.out [] = []) (fuel : Nat) (c : Call) :
    SimBy N.app (c.run (F := F) fuel) :=
  walk_call (Norm.hostWalk N fuel) (commutes_breakAtCurrentLocation (N := N)).simBy
    (fun n => (commutes_randomize (N := N) n).simBy)
    (commutes_modify (g := N.app) (f := fun s : St F => (takeOutput s).2)
      fun σ => by simp only [takeOutput, Norm.app, hout]).simBy c

theorem call_obs (N : Norm F) [N.Lawful] [N.KeepsImm] (hout : N.out [] = []) (fuel : Nat) (c : Call) {σ₁ σ₂ : St F}
    (h : N.app σ₁ = N.app σ₂) {β : Type} (o : Res F Unit → β) (hok : ∀ a s t, o (.ok a s) = o (.ok a t))
    (herr : ∀ e s t, o (.err e s) = o (.err e t)) :
    o (c.run fuel σ₁) = o (c.run fuel σ₂) ∧ N.app (applyCall fuel c σ₁) = N.app (applyCall fuel c σ₂) := by
  have hs := simBy_call N hout fuel c σ₁ σ₂ h
  unfold applyCall
  cases h₁ : c.run fuel σ₁ <;> cases h₂ : c.run fuel σ₂ <;> rw [h₁, h₂] at hs <;>
    simp only [Res.mapSt, Res.ok.injEq, Res.err.injEq, reduceCtorEq] at hs
  · exact ⟨hok _ _ _, hs.2⟩
  · exact ⟨hs.1 ▸ herr _ _ _, hs.2⟩

theorem applyCall_frame {R : St F → St F → Prop} [HostPrims R] (fuel : Nat) (c : Call) (σ : St F) :
    R σ (applyCall fuel c σ) :=
  (respects_call fuel c).final σ

theorem applyCalls_frame {R : St F → St F → Prop} [HostPrims R] (fuel : Nat) (cs : List Call) (σ : St F) :
    R σ (applyCalls fuel cs σ) := by
  induction cs generalizing σ with
  | nil => exact IsFrame.refl σ
  | cons c cs ih => exact IsFrame.trans (applyCall_frame fuel c σ) (ih _)

theorem reachable_applyCalls (fuel : Nat) (cs : List Call) (σ : St F) (h : Reachable fuel σ) :
    Reachable fuel (applyCalls fuel cs σ) := by
  induction cs generalizing σ with
  | nil => exact h
  | cons c cs ih => exact ih _ (.step c h)

theorem reachable_iff (fuel : Nat) (σ : St F) :
    Reachable fuel σ ↔ ∃ cs, σ = applyCalls fuel cs {} := by
  constructor
  · intro h
    induction h with
    | init => exact ⟨[], rfl⟩
    | step c _ ih =>
      obtain ⟨cs, rfl⟩ := ih
      exact ⟨cs ++ [c], by simp [applyCalls, List.foldl_append]⟩
  · rintro ⟨cs, rfl⟩
    exact reachable_applyCalls fuel cs _ .init

theorem nesting_preserved_call (fuel : Nat) (c : Call) (σ : St F) :
    (applyCall fuel c σ).nesting = σ.nesting :=
  applyCall_frame (R := RA) fuel c σ

/-- Starting from a new interpreter, after ANY sequence of host calls (in any
    order, protocol-respecting or not, succeeding or failing) the nesting
    counter is 0. -/
theorem nesting_zero_reachable (fuel : Nat) (cs : List Call) :
    (applyCalls (F := F) fuel cs {}).nesting = 0 :=
  applyCalls_frame (R := RA) fuel cs {}

theorem nesting_zero_of_reachable (fuel : Nat) (σ : St F) (h : Reachable fuel σ) : σ.nesting = 0 := by
  obtain ⟨cs, rfl⟩ := (reachable_iff fuel σ).1 h
  exact nesting_zero_reachable fuel cs

/-- … and while a call is in progress the counter never exceeds the cap: `nested`
    refuses to go deeper (`nested_refuses_at_cap`), so native recursion depth is
    bounded by `Extracted.nestingLimit`. -/
theorem nesting_zero_le_cap (fuel : Nat) (cs : List Call) :
    (applyCalls (F := F) fuel cs {}).nesting ≤ Extracted.nestingLimit := by
  rw [nesting_zero_reachable]; exact Nat.zero_le _

/-- Non-vacuity: a session that runs a program with nested expressions and a GOSUB. -/
example : (applyCalls (F := Unit) 5 [.start "10 GOSUB 20".toList, .start "RUN".toList, .cont, .brk] {}).nesting = 0 :=
  nesting_zero_reachable 5 _

end Abasic.Props.C01
