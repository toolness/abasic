import Abasic.Arrays
/-
  C18 — RND is a pure, in-range function of the seed.

  The generator state is a natural number; the theorems are about the model's
  `rngNew`, `rngStep`, `rnd` (Arrays.lean, transliterating random.rs) and hold
  for every number carrier `F`.  That `n / 2^33` is computed exactly in IEEE
  doubles for `n < 2^33` is a `NumOps` fact about the carrier (trusted base,
  tested against Rust on every run), so "in range" is stated on the numerator.
-/
namespace Abasic.Props.C18
open Abasic

variable {F : Type} [NumOps F]

/-- The constants read from random.rs are the documented ones. -/
theorem constants :
    Extracted.rngModulus = 2 ^ 33 ∧ Extracted.rngMultiplier = 1664525 ∧
    Extracted.rngIncrement = 1013904223 := by decide

/-- The documented recurrence. -/
def lcg (s : Nat) : Nat := (1664525 * s + 1013904223) % 2 ^ 33

theorem step_is_lcg (s : Nat) : rngStep s = lcg s := by
  simp [rngStep, lcg, Extracted.rngModulus, Extracted.rngMultiplier, Extracted.rngIncrement]

theorem lcg_lt (s : Nat) : lcg s < 2 ^ 33 := by
  unfold lcg; omega

/-- `randomize(seed)` stores the seed reduced modulo 2^33 … -/
theorem seed_reduced (seed : Nat) : rngNew seed = seed % 2 ^ 33 ∧ rngNew seed < 2 ^ 33 := by
  simp [rngNew, Extracted.rngModulus]
  omega

/-- … so seeds congruent modulo 2^33 are the same seed. -/
theorem seed_congruence (a b : Nat) (h : a % 2 ^ 33 = b % 2 ^ 33) : rngNew a = rngNew b := by
  simp [rngNew, Extracted.rngModulus] at *
  exact h

/-- In-range: every state the generator produces is below the modulus, i.e. the
    value `state / 2^33` lies in `[0, 1)`. -/
theorem step_in_range (s : Nat) : rngStep s < 2 ^ 33 := by
  simp [rngStep, Extracted.rngModulus]
  omega

/-- The 64-bit product the Rust code forms cannot overflow from a reduced state. -/
theorem no_overflow (s : Nat) (h : s < 2 ^ 33) :
    Extracted.rngMultiplier * s + Extracted.rngIncrement < 2 ^ 64 := by
  simp [Extracted.rngMultiplier, Extracted.rngIncrement]
  omega

/-- RND with a negative argument is an error and does not advance. -/
theorem rnd_negative (x : F) (s : St F) (hx : NumOps.lt x NumOps.zero = true) :
    rnd x s = .err { err := .unimplemented } s := by
  simp [rnd, hx, M.fail, M.get, bind, M.bindM]

/-- RND(0) repeats the previous value without advancing. -/
theorem rnd_zero (x : F) (s : St F) (hneg : NumOps.lt x NumOps.zero = false)
    (hz : NumOps.eq x NumOps.zero = true) :
    rnd x s = .ok (rngValue s.rng) s := by
  simp [rnd, hneg, hz, M.get, bind, M.bindM, pure, M.pureM]

/-- RND with a positive argument advances the state by exactly one step of the
    documented recurrence and returns the new state scaled by 2^33. -/
theorem rnd_positive (x : F) (s : St F) (hs : s.rng < 2 ^ 33)
    (hneg : NumOps.lt x NumOps.zero = false) (hz : NumOps.eq x NumOps.zero = false) :
    rnd x s = .ok (rngValue (lcg s.rng)) { s with rng := lcg s.rng } := by
  have hno := no_overflow s.rng hs
  have hge : ¬ (Extracted.rngMultiplier * s.rng + Extracted.rngIncrement ≥ 2 ^ 64) := by omega
  have hstep := step_is_lcg s.rng
  simp only [rngStep] at hstep
  simp [rnd, hneg, hz, hge, M.get, M.set, bind, M.bindM, pure, M.pureM, hstep]

/-- Whatever the argument, RND never panics from a reduced state, and the state
    stays reduced: the invariant `rng < 2^33` is inductive. -/
theorem rnd_safe (x : F) (s : St F) (hs : s.rng < 2 ^ 33) :
    (∃ v s', rnd x s = .ok v s' ∧ s'.rng < 2 ^ 33) ∨
    (rnd x s = .err { err := .unimplemented } s) := by
  cases hneg : NumOps.lt x (NumOps.zero : F)
  · cases hz : NumOps.eq x (NumOps.zero : F)
    · left
      exact ⟨_, _, rnd_positive x s hs hneg hz, lcg_lt s.rng⟩
    · left
      exact ⟨_, _, rnd_zero x s hneg hz, hs⟩
  · right
    exact rnd_negative x s hneg

/-- `k`-fold iterate of a step function (kept generic so that unfolding it never
    makes the type checker evaluate the recurrence on large literals). -/
def iterate (f : Nat → Nat) : Nat → Nat → Nat
  | 0, s => s
  | k + 1, s => iterate f k (f s)

/-- values returned by `k` successive positive calls from state `s` -/
def stepValues (F : Type) [NumOps F] (f : Nat → Nat) : Nat → Nat → List F
  | 0, _ => []
  | k + 1, s => rngValue (f s) :: stepValues F f k (f s)

def positiveCalls : Nat → F → St F → Option (List F × St F)
  | 0, _, s => some ([], s)
  | k + 1, x, s =>
    match rnd x s with
    | .ok v s' => (positiveCalls k x s').map fun (vs, s'') => (v :: vs, s'')
    | .err _ _ => none

/-- The k-th positive call after `randomize(seed)` returns the k-fold iterate of the
    documented recurrence on `seed % 2^33`, scaled: the sequence is a pure function of the seed. -/
theorem lcg_sequence (k : Nat) (x : F) (s : St F) (hs : s.rng < 2 ^ 33)
    (hneg : NumOps.lt x NumOps.zero = false) (hz : NumOps.eq x NumOps.zero = false) :
    ∃ s', positiveCalls k x s = some (stepValues F lcg k s.rng, s') ∧ s'.rng = iterate lcg k s.rng := by
  induction k generalizing s with
  | zero => exact ⟨s, rfl, rfl⟩
  | succ k ih =>
    obtain ⟨s', h1, h2⟩ := ih { s with rng := lcg s.rng } (lcg_lt s.rng)
    refine ⟨s', ?_, ?_⟩
    · simp only [positiveCalls, rnd_positive x s hs hneg hz, h1, stepValues, Option.map]
    · rw [h2, iterate]

/-- Two interpreters given the same seed (or congruent seeds) produce the same sequence. -/
theorem same_seed_same_sequence (k : Nat) (x : F) (s₁ s₂ : St F) (a b : Nat)
    (h : a % 2 ^ 33 = b % 2 ^ 33)
    (hneg : NumOps.lt x NumOps.zero = false) (hz : NumOps.eq x NumOps.zero = false) :
    (positiveCalls k x { s₁ with rng := rngNew a }).map (·.1) =
    (positiveCalls k x { s₂ with rng := rngNew b }).map (·.1) := by
  have hab := seed_congruence a b h
  obtain ⟨t₁, e₁, _⟩ := lcg_sequence k x { s₁ with rng := rngNew a } (seed_reduced a).2 hneg hz
  obtain ⟨t₂, e₂, _⟩ := lcg_sequence k x { s₂ with rng := rngNew b } (seed_reduced b).2 hneg hz
  rw [e₁, e₂]
  simp [hab]

/-- Non-vacuity: a concrete reduced state and the first value of the sequence from seed 0. -/
example : rngNew (2 ^ 64 - 1) = 2 ^ 33 - 1 ∧ lcg 0 = 1013904223 := by decide

end Abasic.Props.C18
