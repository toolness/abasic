import Abasic.Proofs.ExprLemmas
import Abasic.Proofs.ExprLemmasG
/-
  C02, the main theorem: `eval_render`.

  For every syntax tree `e`, the token-stream evaluator of Expr.lean
  (`orExpr (evalN n)`, and `exprBody (evalN n)` = the recursive entry one
  nesting level deeper) run on the spec's minimal-parenthesis rendering
  `Ref.render e` computes exactly the spec's strict left-to-right fold
  `Ref.foldE (getVar σ) e`: the same value, leaving the state untouched except
  for the cursor (just after the rendering) and the read counter (larger);
  or the same error.

  The proof is the induction of Abasic/Proofs/Expr2WarnInd.lean (the one behind
  `eval_render2`), for three mutually dependent statements: `AStmt` (atoms
  through `parenExpr`), `PStmt` (every tier at or below the strength of `e`
  parses `render e` when no operator of those tiers and no `(` follows) and
  `SStmt` (the left spine of a left-associative tier with an exact iteration
  budget).  For trees without RND, cells and calls that induction asks nothing
  of the state; Abasic/Proofs/ExprLemmasG.lean reads `e` as such a tree.

  `eval_render` has no side condition on the tree or on `σ.fns`.  The two
  restrictions of it that are stated separately:
    `eval_render_stageA`  — trees of `.num .str .var .paren .bin` (all 13 binary operators)
    `eval_render_stageB`  — the same plus `.un` (no `.abs` / `.int`)
-/
namespace Abasic.Props.C02
open Abasic Abasic.Ref Abasic.ExprL

variable {F : Type} [NumOps F]

/-- What may follow the rendering on the line: nothing, or a token that is not
    `(` (which would turn a trailing variable into a call / array reference) and
    not a binary operator (none of the six tier tables accepts it). -/
def Follows (rest : List (Token F)) : Prop :=
  ∀ t, rest.head? = some t →
    t.isKw .LeftParen = false ∧ orOps t = none ∧ andOps t = none ∧ cmpOps t = none ∧
    addOps t = none ∧ mulOps t = none ∧ powOps t = none

omit [NumOps F] in
theorem follows_nil : Follows ([] : List (Token F)) := fun _ h => by simp at h

omit [NumOps F] in
theorem ends_of_follows {rest : List (Token F)} (h : Follows rest) : Ends 6 rest := by
  intro t ht
  obtain ⟨h0, h1, h2, h3, h4, h5, h6⟩ := h t ht
  refine ⟨h0, fun i hi => ?_⟩
  rcases i with _ | _ | _ | _ | _ | _ | i
  · exact h6
  · exact h5
  · exact h4
  · exact h3
  · exact h2
  · exact h1
  · omega

/-- The hypotheses of `eval_render`: the current line of `σ` is
    `pre ++ render e ++ rest` with the cursor at `|pre|`; no GOSUB / function
    frames and no warnings (so that a variable is read from `σ.vars`); room for
    the parentheses of the rendering below the nesting cap and in the fuel. -/
structure Ready (σ : St F) (pre : List (Token F)) (e : Expr F) (rest : List (Token F)) (n : Nat) : Prop where
  toks : tokens σ = .ok (pre ++ render e ++ rest) σ
  idx : σ.loc.idx = pre.length
  stack : σ.stack = []
  warnings : σ.warnings = false
  nesting : σ.nesting + depth e < Extracted.nestingLimit
  fuel : depth e + 1 ≤ n
  follows : Follows rest

omit [NumOps F] in
theorem lineToks_of_tokens {σ σ' : St F} {ts : List (Token F)} (h : tokens σ = .ok ts σ') :
    lineToks σ = some ts :=
  Cur.toks_of_tokens h

omit [NumOps F] in
theorem of_agrees {res : Res F (Value F)} {ev : Except Err (Value F)} {σ : St F} {pre : List (Token F)}
    {len : Nat} (hidx : σ.loc.idx = pre.length) (hA : Agrees res ev σ (fun v r => .ok v (mv σ len r))) :
    (∀ v, ev = .ok v → ∃ r, σ.reads < r ∧
      res = .ok v { σ with loc := { σ.loc with idx := pre.length + len }, reads := r }) ∧
    (∀ x, ev = .error x → ∃ σ', res = .err { err := x } σ' ∧ σ'.nesting = σ.nesting) := by
  constructor
  · intro v hv
    rw [hv] at hA
    obtain ⟨r, hr, hσ⟩ := hA
    exact ⟨r, hr, by rw [hσ, ← hidx]; rfl⟩
  · intro x hx
    rw [hx] at hA
    exact hA

/-- For every tree `e`, running the tiers of the token-stream evaluator on
    `render e` yields the fold of `e`. -/
theorem eval_render (e : Expr F) (n : Nat) (σ : St F) (pre rest : List (Token F))
    (h : Ready σ pre e rest n) :
    (∀ v, foldE (getVar σ) e = .ok v → ∃ r, σ.reads < r ∧
      orExpr (evalN n) σ =
        .ok v { σ with loc := { σ.loc with idx := pre.length + (render e).length }, reads := r }) ∧
    (∀ x, foldE (getVar σ) e = .error x → ∃ σ',
      orExpr (evalN n) σ = .err { err := x } σ' ∧ σ'.nesting = σ.nesting) :=
  of_agrees h.idx ((ExprG.main e).1 n 6 σ pre rest (by have := h.fuel; omega) (by have := h.nesting; omega)
    (lv_le_six e) (Nat.le_refl _) (ends_of_follows h.follows) (.of_tokens h.toks h.idx) (ExprG.quiet_of_nil h.stack h.warnings))

/-- The full theorem for `exprBody`, i.e. for `(evalN (n+1)).expr`, the entry
    used by statements, parenthesised sub-expressions, arguments and subscripts. -/
theorem eval_render_body (e : Expr F) (n : Nat) (σ : St F) (pre rest : List (Token F))
    (h : Ready σ pre e rest n) :
    (∀ v, foldE (getVar σ) e = .ok v → ∃ r, σ.reads < r ∧
      exprBody (evalN n) σ =
        .ok v { σ with loc := { σ.loc with idx := pre.length + (render e).length }, reads := r }) ∧
    (∀ x, foldE (getVar σ) e = .error x → ∃ σ',
      exprBody (evalN n) σ = .err { err := x } σ' ∧ σ'.nesting = σ.nesting) :=
  of_agrees h.idx (ExprG.expr_eq e (ExprG.main e).1 (n + 1) σ pre rest (by have := h.fuel; omega)
    (by have := h.nesting; omega) (ends_of_follows h.follows) (.of_tokens h.toks h.idx) (ExprG.quiet_of_nil h.stack h.warnings))

theorem eval_render_stageA (e : Expr F) (he : StageA e) (n : Nat) (σ : St F) (pre rest : List (Token F))
    (h : Ready σ pre e rest n) :
    (∀ v, foldE (getVar σ) e = .ok v → ∃ r, σ.reads < r ∧
      orExpr (evalN n) σ =
        .ok v { σ with loc := { σ.loc with idx := pre.length + (render e).length }, reads := r }) ∧
    (∀ x, foldE (getVar σ) e = .error x → ∃ σ',
      orExpr (evalN n) σ = .err { err := x } σ' ∧ σ'.nesting = σ.nesting) :=
  eval_render e n σ pre rest h

def StageB : Expr F → Prop
  | .num _ => True
  | .str _ => True
  | .var _ => True
  | .paren e => StageB e
  | .bin _ l r => StageB l ∧ StageB r
  | .un _ e => StageB e
  | .abs _ => False
  | .int _ => False

theorem eval_render_stageB (e : Expr F) (he : StageB e) (n : Nat) (σ : St F) (pre rest : List (Token F))
    (h : Ready σ pre e rest n) :
    (∀ v, foldE (getVar σ) e = .ok v → ∃ r, σ.reads < r ∧
      orExpr (evalN n) σ =
        .ok v { σ with loc := { σ.loc with idx := pre.length + (render e).length }, reads := r }) ∧
    (∀ x, foldE (getVar σ) e = .error x → ∃ σ',
      orExpr (evalN n) σ = .err { err := x } σ' ∧ σ'.nesting = σ.nesting) :=
  eval_render e n σ pre rest h

def outcome {α : Type} : Res F α → Except TErr α
  | .ok a _ => .ok a
  | .err e _ => .error e

def specOutcome (r : Except Err (Value F)) : Except TErr (Value F) :=
  match r with
  | .ok v => .ok v
  | .error x => .error { err := x }

theorem eval_render_outcome (e : Expr F) (n : Nat) (σ : St F) (pre rest : List (Token F))
    (h : Ready σ pre e rest n) :
    outcome (orExpr (evalN n) σ) = specOutcome (foldE (getVar σ) e) := by
  obtain ⟨h1, h2⟩ := eval_render e n σ pre rest h
  cases hev : foldE (getVar σ) e with
  | ok v => obtain ⟨r, _, hr⟩ := h1 v hev; rw [hr]; rfl
  | error x => obtain ⟨σ', hσ', _⟩ := h2 x hev; rw [hσ']; rfl

theorem eval_render_body_outcome (e : Expr F) (n : Nat) (σ : St F) (pre rest : List (Token F))
    (h : Ready σ pre e rest n) :
    outcome (exprBody (evalN n) σ) = specOutcome (foldE (getVar σ) e) := by
  obtain ⟨h1, h2⟩ := eval_render_body e n σ pre rest h
  cases hev : foldE (getVar σ) e with
  | ok v => obtain ⟨r, _, hr⟩ := h1 v hev; rw [hr]; rfl
  | error x => obtain ⟨σ', hσ', _⟩ := h2 x hev; rw [hσ']; rfl

/-- **Redundant parentheses never change a result, on the token stream**: the
    evaluator run on the rendering of `(e)` and run on the rendering of `e`
    (anywhere on any line, with the same variables) produce the same value or
    the same error. -/
theorem paren_irrelevant_eval (e : Expr F) (n₁ n₂ : Nat) (σ₁ σ₂ : St F)
    (pre₁ rest₁ pre₂ rest₂ : List (Token F))
    (h₁ : Ready σ₁ pre₁ (.paren e) rest₁ n₁) (h₂ : Ready σ₂ pre₂ e rest₂ n₂)
    (hvars : σ₁.vars = σ₂.vars) :
    outcome (orExpr (evalN n₁) σ₁) = outcome (orExpr (evalN n₂) σ₂) := by
  have henv : getVar σ₁ = getVar σ₂ := by
    funext name; simp only [getVar, hvars]
  rw [eval_render_outcome _ _ _ _ _ h₁, eval_render_outcome _ _ _ _ _ h₂, henv]
  rfl

/-! ### non-vacuity: the hypotheses are satisfiable for every tree of depth < 48 -/

omit [NumOps F] in
theorem ready_immediate (e : Expr F) (rest : List (Token F)) (vars : List (Str × Value F)) (n : Nat)
    (hd : depth e < Extracted.nestingLimit) (hn : depth e + 1 ≤ n) (hrest : Follows rest) :
    Ready ({ imm := [] ++ render e ++ rest, vars := vars } : St F) [] e rest n where
  toks := rfl
  idx := rfl
  stack := rfl
  warnings := rfl
  nesting := by show 0 + depth e < _; omega
  fuel := hn
  follows := hrest

/-- On a fresh interpreter whose immediate line is `render e`, with the default
    fuel, the evaluator computes the fold of `e`. -/
theorem eval_render_fresh (e : Expr F) (vars : List (Str × Value F))
    (hd : depth e < Extracted.nestingLimit) :
    outcome (orExpr (evalN defaultFuel) ({ imm := [] ++ render e ++ [], vars := vars } : St F))
      = specOutcome (foldE (getVar ({ vars := vars } : St F)) e) := by
  have h := ready_immediate e [] vars defaultFuel hd (by unfold defaultFuel; omega) follows_nil
  rw [eval_render_outcome e _ _ _ _ h]
  rfl

section Nesting
omit [NumOps F]

/-- deepest parenthesis level reached in `ts`, starting at level `c` -/
def nestMax : List (Token F) → Nat → Nat
  | [], c => c
  | t :: ts, c =>
    if t.isKw .LeftParen then max c (nestMax ts (c + 1))
    else if t.isKw .RightParen then max c (nestMax ts (c - 1))
    else nestMax ts c

def parenNesting (ts : List (Token F)) : Nat := nestMax ts 0

theorem le_nestMax (ts : List (Token F)) (c : Nat) : c ≤ nestMax ts c := by
  induction ts generalizing c with
  | nil => exact Nat.le_refl _
  | cons t ts ih =>
    unfold nestMax
    split
    · exact Nat.le_max_left _ _
    · split
      · exact Nat.le_max_left _ _
      · exact ih c

theorem nestMax_lparen (ts : List (Token F)) (c : Nat) :
    nestMax (.kw .LeftParen :: ts) c = max c (nestMax ts (c + 1)) := by
  rw [nestMax]; rfl

theorem nestMax_rparen (ts : List (Token F)) (c : Nat) :
    nestMax (.kw .RightParen :: ts) (c + 1) = max (c + 1) (nestMax ts c) := by
  rw [nestMax]; rfl

theorem nestMax_other (t : Token F) (ts : List (Token F)) (c : Nat)
    (h1 : t.isKw .LeftParen = false) (h2 : t.isKw .RightParen = false) :
    nestMax (t :: ts) c = nestMax ts c := by
  rw [nestMax]; simp only [h1, h2, Bool.false_eq_true, if_false]

theorem token_not_rparen (op : BinOp) : (Token.kw (F := F) (BinOp.token op)).isKw .RightParen = false := by
  cases op with
  | cmp c => cases c <;> rfl
  | _ => rfl

theorem nestMax_render (e : Expr F) (rest : List (Token F)) (c : Nat) :
    nestMax (render e ++ rest) c = max (c + depth e) (nestMax rest c) := by
  have hparen : ∀ (x : Expr F),
      (∀ rest c, nestMax (render x ++ rest) c = max (c + depth x) (nestMax rest c)) →
      ∀ rest c, nestMax (.kw .LeftParen :: (render x ++ (.kw .RightParen :: rest))) c
        = max (c + (depth x + 1)) (nestMax rest c) := by
    intro x ih rest c
    rw [nestMax_lparen, ih, nestMax_rparen]
    have := le_nestMax rest c
    omega
  have hfix : ∀ (p : Nat) (x : Expr F),
      (∀ rest c, nestMax (render x ++ rest) c = max (c + depth x) (nestMax rest c)) →
      ∀ rest c, nestMax (render (fixP p x) ++ rest) c = max (c + depth (fixP p x)) (nestMax rest c) := by
    intro p x ih rest c
    unfold fixP; split
    · rw [render_paren]
      simp only [List.cons_append, List.append_assoc, List.nil_append]
      exact hparen x ih rest c
    · exact ih rest c
  induction e generalizing rest c with
  | num x =>
    rw [render_num]; show nestMax (_ :: rest) c = _
    rw [nestMax_other _ _ _ rfl rfl]; have := le_nestMax rest c; simp only [depth]; omega
  | str s =>
    rw [render_str]; show nestMax (_ :: rest) c = _
    rw [nestMax_other _ _ _ rfl rfl]; have := le_nestMax rest c; simp only [depth]; omega
  | var n =>
    rw [render_var]; show nestMax (_ :: rest) c = _
    rw [nestMax_other _ _ _ rfl rfl]; have := le_nestMax rest c; simp only [depth]; omega
  | paren x ih =>
    rw [render_paren]
    simp only [List.cons_append, List.append_assoc, List.nil_append]
    exact hparen x (fun rest c => ih rest c) rest c
  | abs x ih =>
    rw [render_abs]
    simp only [List.cons_append, List.append_assoc, List.nil_append]
    rw [nestMax_other _ _ _ rfl rfl]
    exact hparen x (fun rest c => ih rest c) rest c
  | int x ih =>
    rw [render_int]
    simp only [List.cons_append, List.append_assoc, List.nil_append]
    rw [nestMax_other _ _ _ rfl rfl]
    exact hparen x (fun rest c => ih rest c) rest c
  | un op x ih =>
    rw [render_un, depth_un]
    simp only [List.cons_append]
    rw [nestMax_other _ _ _ (by cases op <;> rfl) (by cases op <;> rfl)]
    exact hfix 8 x (fun rest c => ih rest c) rest c
  | bin op l r ihl ihr =>
    rw [render_bin, depth_bin]
    simp only [List.cons_append, List.append_assoc]
    rw [hfix _ l (fun rest c => ihl rest c), nestMax_other _ _ _ (token_not_lparen op) (token_not_rparen op),
      hfix _ r (fun rest c => ihr rest c), ← Nat.add_max_add_left, Nat.max_assoc]

/-- `depth e` is the parenthesis nesting of `render e`. -/
theorem depth_eq_parenNesting (e : Expr F) : parenNesting (render e) = depth e := by
  have := nestMax_render e [] 0
  rw [List.append_nil] at this
  unfold parenNesting
  rw [this]
  show max (0 + depth e) 0 = depth e
  omega

end Nesting

omit [NumOps F] in
theorem depth_lt_of_zero (e : Expr F) (h : depth e = 0) : depth e < Extracted.nestingLimit := by
  rw [h]; decide

/-- Non-vacuity, end to end: on the immediate line `a - b * c` the evaluator
    yields `a - (b * c)`, and on `a - b - c` it yields `(a - b) - c`. -/
example (a b c : F) :
    outcome (orExpr (evalN defaultFuel)
      ({ imm := [.num a, .kw .Minus, .num b, .kw .Multiply, .num c] } : St F))
      = .ok (.num (NumOps.sub a (NumOps.mul b c))) := by
  have h := eval_render_fresh (.bin .sub (.num a) (.bin .mul (.num b) (.num c))) []
    (depth_lt_of_zero _ (by simp [depth, Expr.prec, BinOp.prec]))
  simpa [render, renderAt, Expr.prec, BinOp.prec, BinOp.token, foldE, BinOp.eval, specOutcome] using h

example (a b c : F) :
    outcome (orExpr (evalN defaultFuel)
      ({ imm := [.num a, .kw .Minus, .num b, .kw .Minus, .num c] } : St F))
      = .ok (.num (NumOps.sub (NumOps.sub a b) c)) := by
  have h := eval_render_fresh (.bin .sub (.bin .sub (.num a) (.num b)) (.num c)) []
    (depth_lt_of_zero _ (by simp [depth, Expr.prec, BinOp.prec]))
  simpa [render, renderAt, Expr.prec, BinOp.prec, BinOp.token, foldE, BinOp.eval, specOutcome] using h

end Abasic.Props.C02
