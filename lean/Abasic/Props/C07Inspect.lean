import Abasic.Props.C07More
import Abasic.Props.C01More
import Abasic.Proofs.InspectFrame
import Abasic.Proofs.AccFrame
/-
  C07 — inspection at a breakpoint.  An immediate line of PRINT statements entered
  while a breakpoint is pending hands control back within `|tokens|` turns and
  leaves the interrupted program's state alone (`inspect_frame`); when it has
  neither auto-created an array nor drawn from the random generator, CONT
  afterwards behaves as CONT alone (`inspect_then_cont`).  Neither proviso can be
  dropped (`inspect_then_cont_needs_arrays`, `inspect_then_cont_needs_rng`).
-/
namespace Abasic.Props.C07
open Abasic Abasic.Proofs.NumInv Abasic.Proofs.XF Abasic.Proofs.XQ Abasic.Proofs.Inspect Abasic.Hoare

variable {F : Type} [NumOps F]

section returns

/-- the part of an inspection's frame that `InspectFrame` does not mention -/
structure QF (σ σ' : St F) : Prop where
  input : σ'.input = σ.input
  warnings : σ'.warnings = σ.warnings
  tracing : σ'.tracing = σ.tracing
  accesses : σ'.accesses = σ.accesses
  out : OutExt σ.out σ'.out
  reads : σ.reads ≤ σ'.reads

omit [NumOps F] in
theorem QF.refl (σ : St F) : QF σ σ := ⟨rfl, rfl, rfl, rfl, OutExt.refl _, Nat.le_refl _⟩

omit [NumOps F] in
theorem QF.trans {a b c : St F} (h1 : QF a b) (h2 : QF b c) : QF a c :=
  ⟨h2.input.trans h1.input, h2.warnings.trans h1.warnings, h2.tracing.trans h1.tracing,
   h2.accesses.trans h1.accesses, h1.out.trans h2.out, Nat.le_trans h1.reads h2.reads⟩

structure Untouched (σ σ' : St F) : Prop where
  seen : IFrame σ σ'
  rest : QF σ σ'

theorem Untouched.refl (σ : St F) : Untouched σ σ := ⟨IFrame.refl σ, QF.refl σ⟩

theorem Untouched.trans {a b c : St F} (h1 : Untouched a b) (h2 : Untouched b c) : Untouched a c :=
  ⟨h1.1.trans h2.1, h1.2.trans h2.2⟩

theorem untouched_of {σ σ' : St F} (hx : RX σ σ') (hq : RQ σ σ') : Untouched σ σ' :=
  ⟨iframe_of_rx hx, hx.input, hx.warnings, hx.tracing, hq.accesses, hq.out, hq.reads⟩

theorem untouched_reads (σ : St F) (st : IState) {r : Nat} (h : σ.reads ≤ r) :
    Untouched σ { σ with state := st, reads := r } :=
  ⟨⟨rfl, rfl, rfl, rfl, rfl, rfl, rfl, ArrExt.refl _⟩, rfl, rfl, rfl, rfl, OutExt.refl _, h⟩

theorem stmt_safe (fuel : Nat) (ts : List (Token F)) (σ : St F) (t : Token F)
    (ho : OnImm ts σ) (ht : ts[σ.loc.idx]? = some t) (hs : Safe t) (hpl : PrintLine ts) :
    Post (stmtBody (evalN fuel) σ)
      (fun _ s => Both RX RQ σ s ∧ SafeAt ts s.loc.idx ∧ σ.loc.idx < s.loc.idx)
      (fun s => Both RX RQ σ s) := by
  have hnext := Turn.next_toks (lineToks_onImm ho) ht
  have h1 : Both RX RQ σ ({ σ with reads := σ.reads + 1, loc := { σ.loc with idx := σ.loc.idx + 1 } } : St F) :=
    ⟨rx_same rfl rfl rfl rfl rfl rfl rfl rfl rfl rfl rfl rfl rfl rfl, rq_mk (Nat.le_succ _) rfl rfl (Nat.le_succ _)⟩
  unfold stmtBody
  rw [ExprL.bind_ok (ExprL.traceHere_imm σ ho.1)]
  unfold dispatch
  rw [ExprL.bind_ok hnext]
  have hprint : Post (printStatement (evalN fuel)
        ({ σ with reads := σ.reads + 1, loc := { σ.loc with idx := σ.loc.idx + 1 } } : St F))
      (fun _ s => Both RX RQ σ s ∧ SafeAt ts s.loc.idx ∧ σ.loc.idx < s.loc.idx)
      (fun s => Both RX RQ σ s) := by
    have hr := (respects_both (rx_printStatement _ (rx_evalN_expr fuel)) (rq_printStatement fuel)).final
      ({ σ with reads := σ.reads + 1, loc := { σ.loc with idx := σ.loc.idx + 1 } } : St F)
    cases hres : printStatement (evalN fuel)
        ({ σ with reads := σ.reads + 1, loc := { σ.loc with idx := σ.loc.idx + 1 } } : St F) with
    | err e s =>
      rw [hres] at hr
      exact IsFrame.trans h1 hr
    | ok u s =>
      rw [hres] at hr
      have hb : Both RX RQ σ s := IsFrame.trans h1 hr
      refine ⟨hb, fun t' ht' => ?_, Nat.lt_of_lt_of_le (Nat.lt_succ_self _) hr.2.idx⟩
      -- PRINT stops only in front of `:` or ELSE (or at the end of the line)
      rcases printStatement_ends _ _ _ hres ts t' (lineToks_onImm (onImm_of_rx hb.1 ho)) ht' with h | h
      · exact Or.inr (Or.inr (Or.inl (isKw_eq h)))
      · exact Or.inr (Or.inr (Or.inr (isKw_eq h)))
  rcases hs with rfl | rfl | rfl | rfl
  · exact hprint
  · exact hprint
  · exact ⟨h1, hpl.2 _ ht, Nat.lt_succ_self _⟩
  · exact h1

/-- what a turn of an inspection leaves -/
def After2 (ts : List (Token F)) (s : St F) : Prop :=
  s.state = .idle ∨ (s.state = .running ∧ OnImm ts s ∧ SafeAt ts s.loc.idx ∧ s.loc.idx < ts.length)

def Step (ts : List (Token F)) (σ s : St F) : Prop :=
  Untouched σ s ∧ After2 ts s ∧ (s.state = .running → σ.loc.idx < s.loc.idx)

/-- `s2`: what the statement part of a turn started in `σ` has left -/
theorem seq_q (ts : List (Token F)) (σ s2 : St F) (hq2 : Untouched σ s2) (ho2 : OnImm ts s2)
    (hrun : s2.state = .running) (hsafe : SafeAt ts s2.loc.idx)
    (hprog : σ.loc.idx < s2.loc.idx ∨ (σ.loc.idx = s2.loc.idx ∧ ts[σ.loc.idx]? = none)) :
    Step ts σ (InputL.lineEndSt s2) := by
  cases ht : ts[s2.loc.idx]? with
  | some t =>
    rw [Turn.lineEndSt_more (lineToks_onImm ho2) ht]
    refine ⟨hq2.trans (untouched_reads s2 _ (Nat.le_succ _)),
      Or.inr ⟨hrun, ho2, hsafe, (List.getElem?_eq_some_iff.1 ht).1⟩, fun _ => ?_⟩
    rcases hprog with h | ⟨h, hn⟩
    · exact h
    · rw [h, ht] at hn; cases hn
  | none =>
    rw [Turn.lineEndSt_imm ho2.1 (by rw [ho2.2.1]; exact ht)]
    -- back to idle: the stack is kept because a breakpoint is pending
    exact ⟨hq2.trans ⟨⟨rfl, rfl, setImmediate_stack (σ := { s2 with reads := s2.reads + 1 }) ho2.2.2 [], rfl, rfl, rfl,
      rfl, ArrExt.refl _⟩, rfl, rfl, rfl, rfl, OutExt.refl _, Nat.le_succ _⟩, Or.inl rfl, fun h => by cases h⟩

/-- one turn of an inspection, as `continue_evaluating` and `start_evaluating` make it -/
theorem inspect_turn (fuel : Nat) (ts : List (Token F)) (σ : St F)
    (ho : OnImm ts σ) (hs : SafeAt ts σ.loc.idx) (hpl : PrintLine ts) :
    Step ts σ (postprocess (runNextStatement fuel) σ).final := by
  have hq0 : Untouched σ (C17.turnStart σ) := untouched_reads σ _ (Nat.le_succ _)
  have ho0 : OnImm ts (C17.turnStart σ) := ho
  have hl := lineToks_onImm ho
  cases ht : ts[σ.loc.idx]? with
  | none =>
    rw [C01.postprocess_of_ok (Turn.turn_end fuel hl ht)]
    exact seq_q ts σ _ hq0 ho0 rfl hs (Or.inr ⟨rfl, ht⟩)
  | some t =>
    have hst := stmt_safe fuel ts (C17.turnStart σ) t ho0 ht (hs t ht) hpl
    have hturn := Turn.turn_tok fuel hl ht
    cases hres : stmtBody (evalN fuel) (C17.turnStart σ) with
    | err e s =>
      rw [hres] at hst
      rw [C01.postprocess_of_err (hturn.trans (ExprL.bind_err hres))]
      exact ⟨(hq0.trans (untouched_of hst.1 hst.2)).trans (untouched_reads s _ (Nat.le_refl _)), Or.inl rfl,
        fun h => by cases h⟩
    | ok u s2 =>
      rw [hres] at hst
      have ho2 := onImm_of_rx hst.1.1 ho0
      rw [C01.postprocess_of_ok (hturn.trans ((ExprL.bind_ok hres).trans (Turn.sequence_eq (lineToks_onImm ho2))))]
      exact seq_q ts σ s2 (hq0.trans (untouched_of hst.1.1 hst.1.2)) ho2 hst.1.1.state hst.2.1 (Or.inl hst.2.2)

theorem contTurns_q (fuel : Nat) (ts : List (Token F)) (hpl : PrintLine ts) :
    ∀ (k : Nat) (s : St F), After2 ts s →
      Untouched s (contTurns fuel k s).final ∧ After2 ts (contTurns fuel k s).final ∧
      ((s.state = .running → ts.length ≤ s.loc.idx + k) → (contTurns fuel k s).final.state = .idle)
  | 0, s, hs => ⟨Untouched.refl s, hs, fun hk => hs.elim id fun h => by have := hk h.1; have := h.2.2.2; omega⟩
  | k + 1, s, .inl hi => by
    rw [contTurns_not_running fuel _ s (by rw [hi]; exact fun h => by cases h)]
    exact ⟨Untouched.refl s, Or.inl hi, fun _ => hi⟩
  | k + 1, s, .inr ⟨hr, ho, hsafe, _⟩ => by
    obtain ⟨hq, ha, hp⟩ := inspect_turn fuel ts s ho hsafe hpl
    rw [contTurns_running fuel k s hr, final_then_turns fuel k s (postprocess_err_idle _ s)]
    have ih := contTurns_q fuel ts hpl k _ ha
    exact ⟨hq.trans ih.1, ih.2.1, fun hk => ih.2.2 fun hr1 => by have := hp hr1; have := hk hr; omega⟩

theorem inspect_run (fuel k : Nat) (line : Str) (ts : List (Token F)) (σ : St F)
    (hidle : σ.state = .idle) (hbp : σ.bp.isSome = true)
    (hcmd : (commandWord line).bind Command.ofWord = none)
    (hnum : parseLineNumber line = none)
    (htok : tokenize (F := F) line 0 = .ok ts)
    (hpl : PrintLine ts) :
    Untouched σ ((do startEvaluating fuel line; contTurns fuel k) σ).final ∧
      After2 ts ((do startEvaluating fuel line; contTurns fuel k) σ).final ∧
      (ts.length ≤ k + 1 → ((do startEvaluating fuel line; contTurns fuel k) σ).final.state = .idle) := by
  have ho : OnImm ts ((σ.setImmediate []).setImmediate ts) := ⟨rfl, rfl, hbp⟩
  have hq0 : Untouched σ ((σ.setImmediate []).setImmediate ts) :=
    ⟨⟨rfl, rfl, (setImmediate_stack (σ := σ.setImmediate []) hbp ts).trans (setImmediate_stack hbp []),
      rfl, rfl, rfl, rfl, ArrExt.refl _⟩, rfl, rfl, rfl, rfl, OutExt.refl _, Nat.le_refl _⟩
  obtain ⟨hq, ha, hp⟩ := inspect_turn fuel ts _ ho hpl.1 hpl
  rw [final_then_turns (m := startEvaluating fuel line) fuel k σ (postprocess_err_idle (evaluateImpl fuel line) σ),
    C01.start_immediate fuel line ts σ hidle hcmd hnum htok]
  have hc := contTurns_q fuel ts hpl k _ ha
  exact ⟨(hq0.trans hq).trans hc.1, hc.2.1, fun hk => hc.2.2 fun hr => by
    have := hp hr
    have h0 : ((σ.setImmediate []).setImmediate ts).loc.idx = 0 := rfl
    omega⟩

/-- **inspect_pure.**  An idle interpreter with a breakpoint pending.  The user
    enters an immediate line whose tokens form PRINT statements separated by
    colons (`PrintLine`: the first token and every token after a `:` is PRINT,
    `?`, `:` or — a syntax error — ELSE); the expressions printed are ARBITRARY
    (user function calls that succeed or fail at any depth, RND, array reads …).
    After the starting turn and any number `k` of further `continue_evaluating`
    turns — whether a turn returned an error or not — the breakpoint, the
    GOSUB / function stack, the FOR loops, the data cursor, the functions, the
    variables and the program lines are exactly what they were, every array
    that existed is unchanged, and the interpreter is idle again or still on
    that line in front of a further PRINT.

    The one thing an inspection CAN change: reading an element of an undeclared
    array creates the default array (`inspect_print_creates_array`), so
    `arrays` is only preserved up to such additions (`ArrExt`). -/
theorem inspect_pure (fuel k : Nat) (line : Str) (ts : List (Token F)) (σ : St F)
    (hidle : σ.state = .idle) (hbp : σ.bp.isSome = true)
    (hcmd : (commandWord line).bind Command.ofWord = none)
    (hnum : parseLineNumber line = none)
    (htok : tokenize (F := F) line 0 = .ok ts)
    (hpl : PrintLine ts) :
    InspectFrame σ ((do startEvaluating fuel line; contTurns fuel k) σ).final ∧
      After ts ((do startEvaluating fuel line; contTurns fuel k) σ).final := by
  have h := inspect_run fuel k line ts σ hidle hbp hcmd hnum htok hpl
  exact ⟨h.1.1, h.2.1.imp_right fun a => ⟨a.1, a.2.1, a.2.2.1⟩⟩

/-- **inspect_returns.**  An inspection hands control back.  In the situation
    of `inspect_pure` the starting turn followed by `k ≥ |ts| - 1` further
    `continue_evaluating` turns (the host's run loop `contTurns`, which stops
    calling as soon as the interpreter is not running) ends with the
    interpreter idle: every turn that leaves it running has moved the cursor
    forward on the line, and a turn that finds no token returns to idle. -/
theorem inspect_returns (fuel k : Nat) (line : Str) (ts : List (Token F)) (σ : St F)
    (hidle : σ.state = .idle) (hbp : σ.bp.isSome = true)
    (hcmd : (commandWord line).bind Command.ofWord = none)
    (hnum : parseLineNumber line = none)
    (htok : tokenize (F := F) line 0 = .ok ts)
    (hpl : PrintLine ts) (hk : ts.length ≤ k + 1) :
    ((do startEvaluating fuel line; contTurns fuel k) σ).final.state = .idle :=
  (inspect_run fuel k line ts σ hidle hbp hcmd hnum htok hpl).2.2 hk

/-- … in the form "within a bounded number of turns": some `k ≤ 2·|ts| + 1`
    (indeed `k = |ts|`) further turns suffice. -/
theorem inspect_returns_exists (fuel : Nat) (line : Str) (ts : List (Token F)) (σ : St F)
    (hidle : σ.state = .idle) (hbp : σ.bp.isSome = true)
    (hcmd : (commandWord line).bind Command.ofWord = none)
    (hnum : parseLineNumber line = none)
    (htok : tokenize (F := F) line 0 = .ok ts)
    (hpl : PrintLine ts) :
    ∃ k, k ≤ 2 * ts.length + 1 ∧
      ((do startEvaluating fuel line; contTurns fuel k) σ).final.state = .idle :=
  ⟨ts.length, by omega, inspect_returns fuel _ line ts σ hidle hbp hcmd hnum htok hpl (by omega)⟩

theorem inspect_nesting (fuel k : Nat) (line : Str) (σ : St F) :
    ((do startEvaluating fuel line; contTurns fuel k) σ).final.nesting = σ.nesting :=
  (respects_bind (fr_startEvaluating (R := RA) fuel line)
    fun _ => respects_contTurns fuel (fr_continueEvaluating (R := RA) fuel) k).final σ

/-- **inspect_frame.**  Everything an inspection leaves behind: `InspectFrame`
    (breakpoint, stack, loops, data cursor, functions, variables, program lines
    unchanged; arrays extended by default arrays), `QF` (pending reply, flags,
    analyzer log unchanged; the queue has gained `Out.print` / `Out.warning`
    records on top), the nesting counter unchanged; and with `k ≥ |ts| - 1` the
    interpreter is idle. -/
theorem inspect_frame (fuel k : Nat) (line : Str) (ts : List (Token F)) (σ : St F)
    (hidle : σ.state = .idle) (hbp : σ.bp.isSome = true)
    (hcmd : (commandWord line).bind Command.ofWord = none)
    (hnum : parseLineNumber line = none)
    (htok : tokenize (F := F) line 0 = .ok ts)
    (hpl : PrintLine ts) :
    let σ' := ((do startEvaluating fuel line; contTurns fuel k) σ).final
    InspectFrame σ σ' ∧ QF σ σ' ∧ σ'.nesting = σ.nesting ∧ (ts.length ≤ k + 1 → σ'.state = .idle) :=
  ⟨(inspect_pure fuel k line ts σ hidle hbp hcmd hnum htok hpl).1,
   (inspect_run fuel k line ts σ hidle hbp hcmd hnum htok hpl).1.2,
   inspect_nesting fuel k line σ,
   (inspect_run fuel k line ts σ hidle hbp hcmd hnum htok hpl).2.2⟩

end returns

section thenCont

/-- `s'` is `s` with `extra` inserted in the output queue just above the records
    `base` that were already there, and with another value of the read counter
    (the `verif-hooks` statistic) -/
def agreeModOutReads (base extra : List Out) (s s' : St F) : Prop :=
  ∃ pre r, s.out = pre ++ base ∧ s' = { s with out := pre ++ extra ++ base, reads := r }

def sameModOutReads {α : Type} (base extra : List Out) : Res F α → Res F α → Prop
  | .ok a s, .ok a' s' => a = a' ∧ agreeModOutReads base extra s s'
  | .err e s, .err e' s' => e = e' ∧ agreeModOutReads base extra s s'
  | _, _ => False

omit [NumOps F] in
theorem agreeModOut_of_reads {base extra : List Out} {s s' : St F} (h : agreeModOutReads base extra s s') :
    agreeModOut base extra s { s' with reads := s.reads } := by
  obtain ⟨pre, r, ho, rfl⟩ := h
  exact ⟨pre, s.imm, ho, rfl⟩

omit [NumOps F] in
/-- An action that commutes with putting older output under the queue and with
    shifting the read counter (`Acc.Comm`, which every host call has) cannot
    tell a state from the same state with further records on its queue and
    another read count: same value / same error, and the further records stay
    where they were, under everything the action pushes. -/
theorem acc_two_runs {α : Type} {m : M F α} (hm : ∀ d, Acc.Comm d m) (τ : St F) (extra : List Out) (r : Nat) :
    sameModOutReads τ.out extra (m τ) (m { τ with out := extra ++ τ.out, reads := r }) := by
  rw [Acc.Comm.run_eq hm τ, Acc.Comm.run_eq hm { τ with out := extra ++ τ.out, reads := r }]
  show sameModOutReads _ _ _ (Acc.mapRes _ (m (C15.bare τ)))
  cases m (C15.bare τ) with
  | ok a s0 => exact ⟨rfl, s0.out, r + s0.reads, rfl, by simp only [Acc.T, C15.accOf, List.append_assoc]⟩
  | err e s0 => exact ⟨rfl, s0.out, r + s0.reads, rfl, by simp only [Acc.T, C15.accOf, List.append_assoc]⟩

theorem acc_contTurns (d : Acc.Add) (fuel : Nat) : ∀ k, Acc.Comm d (contTurns (F := F) fuel k) := by
  intro k
  induction k with
  | zero => exact Acc.Comm.pure _
  | succ k ih =>
    unfold contTurns
    refine Acc.Comm.get_bind_ro (fun s => ?_) (fun s => rfl)
    by_cases h : (s.state == .running) = true
    · rw [if_pos h]
      exact Acc.Comm.bind (Acc.comm_continueEvaluating fuel) (fun _ => ih)
    · rw [if_neg h]
      exact Acc.Comm.pure _

/-- the CONT turn and `j` further turns, as one action on the state with the cursor restored -/
def contRun (fuel j : Nat) : M F Unit :=
  postprocess (do runNextStatement fuel; pure ()) >>= fun _ => contTurns fuel j

theorem acc_contRun (d : Acc.Add) (fuel j : Nat) : Acc.Comm d (contRun (F := F) fuel j) := by
  unfold contRun
  refine Acc.Comm.bind (Acc.comm_postprocess ?_) (fun _ => acc_contTurns d fuel j)
  exact Acc.Comm.bind (Acc.comm_runNextStatement fuel) (fun _ => Acc.Comm.pure _)

theorem cont_run_eq (fuel j : Nat) (cl : Str) (s : St F) (n i : Nat)
    (hidle : s.state = .idle) (hbp : s.bp = some (n, i))
    (hcl : (commandWord cl).bind Command.ofWord = some .cont) :
    (do startEvaluating fuel cl; contTurns fuel j) s =
      contRun fuel j { s with imm := [], loc := { line := some n, idx := i }, bp := none } := by
  have h1 : startEvaluating fuel cl s =
      postprocess (do runNextStatement fuel; pure ()) { s with imm := [], loc := { line := some n, idx := i }, bp := none } := by
    unfold startEvaluating postprocess
    rw [cont_command fuel cl s n i hidle hbp hcl]
  show M.bindM (startEvaluating fuel cl) (fun _ => contTurns fuel j) s = M.bindM _ _ _
  unfold M.bindM
  rw [h1]

/-- `σ'` differs from `σ` only in the (dead) immediate line, the cursor, the read
    counter, and `extra` on top of the output queue -/
structure DeadOnly (σ σ' : St F) (extra : List Out) : Prop where
  lines : σ'.lines = σ.lines
  bp : σ'.bp = σ.bp
  stack : σ'.stack = σ.stack
  loops : σ'.loops = σ.loops
  data : σ'.data = σ.data
  fns : σ'.fns = σ.fns
  nesting : σ'.nesting = σ.nesting
  input : σ'.input = σ.input
  state : σ'.state = σ.state
  rng : σ'.rng = σ.rng
  vars : σ'.vars = σ.vars
  arrays : σ'.arrays = σ.arrays
  warnings : σ'.warnings = σ.warnings
  tracing : σ'.tracing = σ.tracing
  accesses : σ'.accesses = σ.accesses
  out : σ'.out = extra ++ σ.out

theorem cont_after_deadOnly (fuel j : Nat) (cl : Str) (σ σ' : St F) (n i : Nat) (extra : List Out)
    (hidle : σ.state = .idle) (hbp : σ.bp = some (n, i))
    (hcl : (commandWord cl).bind Command.ofWord = some .cont)
    (h : DeadOnly σ σ' extra) :
    sameModOutReads σ.out extra
      ((do startEvaluating fuel cl; contTurns fuel j) σ)
      ((do startEvaluating fuel cl; contTurns fuel j) σ') := by
  rw [cont_run_eq fuel j cl σ n i hidle hbp hcl,
    cont_run_eq fuel j cl σ' n i (h.state.trans hidle) (h.bp.trans hbp) hcl]
  have hτ : ({ σ' with imm := [], loc := { line := some n, idx := i }, bp := none } : St F) =
      { ({ σ with imm := [], loc := { line := some n, idx := i }, bp := none } : St F) with
        out := extra ++ ({ σ with imm := [], loc := { line := some n, idx := i }, bp := none } : St F).out,
        reads := σ'.reads } := by
    obtain ⟨h1, _, h2, h3, h4, h5, h6, h7, h8, h9, h10, h11, h12, h13, h14, h15⟩ := h
    clear hidle hbp
    obtain ⟨lines, imm, loc, bp, stack, loops, data, fns, nesting, input, out, state, rng, vars, arrays,
      warnings, tracing, accesses, reads⟩ := σ
    obtain ⟨lines', imm', loc', bp', stack', loops', data', fns', nesting', input', out', state', rng', vars', arrays',
      warnings', tracing', accesses', reads'⟩ := σ'
    simp only at h1 h2 h3 h4 h5 h6 h7 h8 h9 h10 h11 h12 h13 h14 h15
    subst h1 h2 h3 h4 h5 h6 h7 h8 h9 h10 h11 h12 h13 h14 h15
    rfl
  rw [hτ]
  exact acc_two_runs (fun d => acc_contRun d fuel j) _ extra σ'.reads

/-- **inspect_then_cont.**  "Inspect, then CONT behaves as CONT alone."

    `σ` is an idle interpreter with the breakpoint `(n, i)` pending (a program
    stopped by STOP or by a break-in).  `σ'` is the state after an inspection
    run to completion (`k ≥ |ts| - 1` further turns, `inspect_returns`).  IF the
    inspection has not auto-created an array (`σ'.arrays = σ.arrays`) and has
    not drawn from the random generator (`σ'.rng = σ.rng`), THEN the records
    `extra` it left on the queue are `Out.print` / `Out.warning` records on top
    of `σ.out`, and entering CONT (in any spelling `cl`) and letting the host
    continue for up to `j` further turns has the same outcome from `σ'` as
    from `σ`: the same result (ok, or the same error at the same location), and
    final states that agree on every component except the output queue —
    where the inspected run has `extra`, below everything printed after the
    inspection and above everything printed before it — and the read counter.

    Both provisos are necessary (`inspect_then_cont_needs_arrays`,
    `inspect_then_cont_needs_rng` below); everything else the comparison needs
    is PROVED unchanged by `inspect_frame`. -/
theorem inspect_then_cont (fuel k j : Nat) (line cl : Str) (ts : List (Token F)) (σ σ' : St F) (n i : Nat)
    (hidle : σ.state = .idle) (hbp : σ.bp = some (n, i))
    (hcmd : (commandWord line).bind Command.ofWord = none)
    (hnum : parseLineNumber line = none)
    (htok : tokenize (F := F) line 0 = .ok ts)
    (hpl : PrintLine ts) (hk : ts.length ≤ k + 1)
    (hσ' : σ' = ((do startEvaluating fuel line; contTurns fuel k) σ).final)
    (hcl : (commandWord cl).bind Command.ofWord = some .cont)
    (harr : σ'.arrays = σ.arrays) (hrng : σ'.rng = σ.rng) :
    ∃ extra, σ'.out = extra ++ σ.out ∧ (∀ x ∈ extra, isPW x = true) ∧
      sameModOutReads σ.out extra
        ((do startEvaluating fuel cl; contTurns fuel j) σ)
        ((do startEvaluating fuel cl; contTurns fuel j) σ') := by
  have hbp' : σ.bp.isSome = true := by rw [hbp]; rfl
  obtain ⟨hif, hqf, hnest, hid⟩ := inspect_frame fuel k line ts σ hidle hbp' hcmd hnum htok hpl
  rw [← hσ'] at hif hqf hnest hid
  obtain ⟨extra, hout, hpw⟩ := hqf.out
  exact ⟨extra, hout, hpw, cont_after_deadOnly fuel j cl σ σ' n i extra hidle hbp hcl
    ⟨hif.lines, hif.bp, hif.stack, hif.loops, hif.data, hif.fns, hnest, hqf.input, (hid hk).trans hidle.symm,
     hrng, hif.vars, harr, hqf.warnings, hqf.tracing, hqf.accesses, hout⟩⟩

omit [NumOps F] in
theorem runInv_at_breakpoint (σ : St F) (h : RunInv σ) (b : Nat × Nat) (hbp : σ.bp = some b) :
    σ.state = .idle ∧ σ.loc.line = none ∧ σ.imm = [] ∧ numbered σ := by
  obtain ⟨hn, (⟨_, hb⟩ | ⟨h1, h2, h3⟩)⟩ := h
  · rw [hbp] at hb; cases hb
  · exact ⟨h3, h1, h2, hn⟩

/-- **inspect_then_cont** for a state of a run: `RunInv σ` (which every state
    reached from RUN by `continue_evaluating`, `provide_input`, break-ins and
    CONT commands satisfies, `run_numbered`) with the breakpoint `(n, i)`
    pending: the interpreter is then idle at the breakpoint. -/
theorem inspect_then_cont_runInv (fuel k j : Nat) (line cl : Str) (ts : List (Token F)) (σ σ' : St F) (n i : Nat)
    (hinv : RunInv σ) (hbp : σ.bp = some (n, i))
    (hcmd : (commandWord line).bind Command.ofWord = none)
    (hnum : parseLineNumber line = none)
    (htok : tokenize (F := F) line 0 = .ok ts)
    (hpl : PrintLine ts) (hk : ts.length ≤ k + 1)
    (hσ' : σ' = ((do startEvaluating fuel line; contTurns fuel k) σ).final)
    (hcl : (commandWord cl).bind Command.ofWord = some .cont)
    (harr : σ'.arrays = σ.arrays) (hrng : σ'.rng = σ.rng) :
    σ.state = .idle ∧ σ'.state = .idle ∧ InspectFrame σ σ' ∧
    ∃ extra, σ'.out = extra ++ σ.out ∧ (∀ x ∈ extra, isPW x = true) ∧
      sameModOutReads σ.out extra
        ((do startEvaluating fuel cl; contTurns fuel j) σ)
        ((do startEvaluating fuel cl; contTurns fuel j) σ') := by
  have hidle := (runInv_at_breakpoint σ hinv (n, i) hbp).1
  have hbp' : σ.bp.isSome = true := by rw [hbp]; rfl
  refine ⟨hidle, ?_, ?_, inspect_then_cont fuel k j line cl ts σ σ' n i hidle hbp hcmd hnum htok hpl hk hσ' hcl harr hrng⟩
  · rw [hσ']; exact inspect_returns fuel k line ts σ hidle hbp' hcmd hnum htok hpl hk
  · rw [hσ']; exact (inspect_pure fuel k line ts σ hidle hbp' hcmd hnum htok hpl).1

/-- … and for the states of an actual run: RUN from an idle interpreter followed by any turns
    `tsr` (continue / reply / break-in / CONT), ending with a breakpoint pending. -/
theorem inspect_then_cont_run (fuel k j : Nat) (line cl : Str) (ts : List (Token F)) (σ₀ σ' : St F)
    (tsr : List Turn) (n i : Nat) (hidle₀ : σ₀.state = .idle)
    (hbp : (afterTurns fuel tsr (startEvaluating fuel "RUN".toList σ₀).final).bp = some (n, i))
    (hcmd : (commandWord line).bind Command.ofWord = none)
    (hnum : parseLineNumber line = none)
    (htok : tokenize (F := F) line 0 = .ok ts)
    (hpl : PrintLine ts) (hk : ts.length ≤ k + 1)
    (hσ' : σ' = ((do startEvaluating fuel line; contTurns fuel k)
      (afterTurns fuel tsr (startEvaluating fuel "RUN".toList σ₀).final)).final)
    (hcl : (commandWord cl).bind Command.ofWord = some .cont)
    (harr : σ'.arrays = (afterTurns fuel tsr (startEvaluating fuel "RUN".toList σ₀).final).arrays)
    (hrng : σ'.rng = (afterTurns fuel tsr (startEvaluating fuel "RUN".toList σ₀).final).rng) :
    ∃ extra, σ'.out = extra ++ (afterTurns fuel tsr (startEvaluating fuel "RUN".toList σ₀).final).out ∧
      (∀ x ∈ extra, isPW x = true) ∧
      sameModOutReads (afterTurns fuel tsr (startEvaluating fuel "RUN".toList σ₀).final).out extra
        ((do startEvaluating fuel cl; contTurns fuel j) (afterTurns fuel tsr (startEvaluating fuel "RUN".toList σ₀).final))
        ((do startEvaluating fuel cl; contTurns fuel j) σ') :=
  (inspect_then_cont_runInv fuel k j line cl ts _ σ' n i (run_numbered fuel σ₀ hidle₀ tsr) hbp
    hcmd hnum htok hpl hk hσ' hcl harr hrng).2.2.2

def Res.isOk {α : Type} : Res F α → Bool
  | .ok _ _ => true
  | .err _ _ => false

omit [NumOps F] in
theorem sameModOutReads_isOk {α : Type} {base extra : List Out} {r r' : Res F α}
    (h : sameModOutReads base extra r r') : Res.isOk r = Res.isOk r' := by
  cases r <;> cases r' <;> first | rfl | exact h.elim

omit [NumOps F] in
theorem not_same_of_isOk {α : Type} {base extra : List Out} {r r' : Res F α}
    (h0 : Res.isOk r = true) (h1 : Res.isOk r' = false) : ¬ sameModOutReads base extra r r' := by
  intro h
  have := sameModOutReads_isOk h
  rw [h0, h1] at this
  cases this

omit [NumOps F] in
theorem sameModOutReads_final {α : Type} {base extra : List Out} {r r' : Res F α}
    (h : sameModOutReads base extra r r') : agreeModOutReads base extra r.final r'.final := by
  cases r <;> cases r' <;> first | exact h.2 | exact h.elim

omit [NumOps F] in
theorem sameModOutReads_rng {α : Type} {base extra : List Out} {r r' : Res F α}
    (h : sameModOutReads base extra r r') : r.final.rng = r'.final.rng := by
  obtain ⟨pre, k, _, hs⟩ := sameModOutReads_final h
  rw [hs]

/-- the program `10 DIM A(B)`, broken into at its start -/
def cexDim : St Unit :=
  { lines := { map := [(10, [.kw .Dim, .symbol ['A'], .kw .LeftParen, .symbol ['B'], .kw .RightParen])], sorted := [10] },
    bp := some (10, 0) }

/-- **The proviso on arrays cannot be dropped** — and the statement "CONT after
    an inspection is CONT alone up to `ArrExt`-related arrays" is FALSE.
    Program `10 DIM A(B)`, stopped in front of the DIM; the inspection
    `PRINT A(B)` (a legal `inspect_pure` line; it returns to idle and draws no
    random number) auto-creates the default array `A`; CONT then fails with
    REDIMENSIONED ARRAY, whereas CONT without the inspection succeeds.  Hence
    the two runs are not related by `sameModOutReads` for any `extra`. -/
theorem inspect_then_cont_needs_arrays :
    ∃ (line : Str) (ts : List (Token Unit)),
      cexDim.state = .idle ∧ cexDim.bp = some (10, 0) ∧
      (commandWord line).bind Command.ofWord = none ∧ parseLineNumber line = none ∧
      tokenize (F := Unit) line 0 = .ok ts ∧ PrintLine ts ∧
      (((do startEvaluating 5 line; contTurns 5 5) cexDim).final.state = .idle ∧
       ((do startEvaluating 5 line; contTurns 5 5) cexDim).final.rng = cexDim.rng ∧
       Res.isOk ((do startEvaluating 5 "CONT".toList; contTurns 5 0) cexDim) = true ∧
       Res.isOk ((do startEvaluating 5 "CONT".toList; contTurns 5 0)
          ((do startEvaluating 5 line; contTurns 5 5) cexDim).final) = false ∧
       ∀ extra, ¬ sameModOutReads cexDim.out extra
          ((do startEvaluating 5 "CONT".toList; contTurns 5 0) cexDim)
          ((do startEvaluating 5 "CONT".toList; contTurns 5 0)
            ((do startEvaluating 5 line; contTurns 5 5) cexDim).final)) := by
  refine ⟨"PRINT A(B)".toList, [.kw .Print, .symbol ['A'], .kw .LeftParen, .symbol ['B'], .kw .RightParen],
    rfl, rfl, by rw [Fast.ofWord_eq]; decide +kernel, by decide +kernel,
    by rw [Fast.tokenize_eq, String.toList_ofList]; rfl,
    printLine_single (.inl rfl) rfl, ?_⟩
  -- one evaluation: the inspection is run once
  have h : ((do startEvaluating 5 "PRINT A(B)".toList; contTurns 5 5) cexDim).final.state = .idle ∧
      ((do startEvaluating 5 "PRINT A(B)".toList; contTurns 5 5) cexDim).final.rng = cexDim.rng ∧
      Res.isOk ((do startEvaluating 5 "CONT".toList; contTurns 5 0) cexDim) = true ∧
      Res.isOk ((do startEvaluating 5 "CONT".toList; contTurns 5 0)
        ((do startEvaluating 5 "PRINT A(B)".toList; contTurns 5 5) cexDim).final) = false := by
    simp only [Fast.start_eq]
    literal_chars
    decide +kernel
  exact ⟨h.1, h.2.1, h.2.2.1, h.2.2.2, fun _ => not_same_of_isOk h.2.2.1 h.2.2.2⟩

section rng
/-- numbers none of which is zero: `RND(x)` always draws -/
@[reducible] def instNZ : NumOps Unit := { (inferInstance : NumOps Unit) with eq := fun _ _ => false }
attribute [local instance] instNZ

/-- the program `10 X = RND(B)`, broken into at its start -/
def cexRnd : St Unit :=
  { lines := { map := [(10, [.symbol ['X'], .kw .Equals, .symbol ['R', 'N', 'D'], .kw .LeftParen, .symbol ['B'],
                             .kw .RightParen])], sorted := [10] },
    bp := some (10, 0) }

/-- **The proviso on the random generator cannot be dropped.**  Program
    `10 X = RND(B)` stopped in front of the assignment; the inspection
    `PRINT RND(B)` (it returns to idle and creates no array) advances the
    generator; after CONT the generator — and with real numbers the value of
    `X` — differs between the inspected and the uninspected run. -/
theorem inspect_then_cont_needs_rng :
    ∃ (line : Str) (ts : List (Token Unit)),
      cexRnd.state = .idle ∧ cexRnd.bp = some (10, 0) ∧
      (commandWord line).bind Command.ofWord = none ∧ parseLineNumber line = none ∧
      tokenize (F := Unit) line 0 = .ok ts ∧ PrintLine ts ∧
      (((do startEvaluating 5 line; contTurns 5 5) cexRnd).final.state = .idle ∧
       ((do startEvaluating 5 line; contTurns 5 5) cexRnd).final.arrays.length = cexRnd.arrays.length ∧
       ((do startEvaluating 5 "CONT".toList; contTurns 5 0) cexRnd).final.rng ≠
         ((do startEvaluating 5 "CONT".toList; contTurns 5 0)
            ((do startEvaluating 5 line; contTurns 5 5) cexRnd).final).final.rng ∧
       ∀ extra, ¬ sameModOutReads cexRnd.out extra
          ((do startEvaluating 5 "CONT".toList; contTurns 5 0) cexRnd)
          ((do startEvaluating 5 "CONT".toList; contTurns 5 0)
            ((do startEvaluating 5 line; contTurns 5 5) cexRnd).final)) := by
  refine ⟨"PRINT RND(B)".toList, [.kw .Print, .symbol ['R', 'N', 'D'], .kw .LeftParen, .symbol ['B'], .kw .RightParen],
    rfl, rfl, by rw [Fast.ofWord_eq]; decide +kernel, by decide +kernel,
    by rw [Fast.tokenize_eq, String.toList_ofList]; rfl,
    printLine_single (.inl rfl) rfl, ?_⟩
  have h : ((do startEvaluating 5 "PRINT RND(B)".toList; contTurns 5 5) cexRnd).final.state = .idle ∧
      ((do startEvaluating 5 "PRINT RND(B)".toList; contTurns 5 5) cexRnd).final.arrays.length = cexRnd.arrays.length ∧
      ((do startEvaluating 5 "CONT".toList; contTurns 5 0) cexRnd).final.rng ≠
        ((do startEvaluating 5 "CONT".toList; contTurns 5 0)
          ((do startEvaluating 5 "PRINT RND(B)".toList; contTurns 5 5) cexRnd).final).final.rng := by
    simp only [Fast.start_eq]
    literal_chars
    decide +kernel
  exact ⟨h.1, h.2.1, h.2.2, fun _ => mt sameModOutReads_rng h.2.2⟩

end rng

/-- the program `10 X = B` inside a subroutine, broken into at its start -/
def okDemo : St Unit :=
  { lines := { map := [(10, [.symbol ['X'], .kw .Equals, .symbol ['B']])], sorted := [10] },
    bp := some (10, 0), stack := [{ ret := { line := some 5, idx := 2 }, vars := [] }] }

/-- Non-vacuity of `inspect_then_cont`: the inspection `PRINT X` of `okDemo`
    meets every hypothesis (two tokens, `k = 1` further turn). -/
example :
    okDemo.state = .idle ∧ okDemo.bp = some (10, 0) ∧
    (commandWord "PRINT X".toList).bind Command.ofWord = none ∧ parseLineNumber "PRINT X".toList = none ∧
    tokenize (F := Unit) "PRINT X".toList 0 = .ok [.kw .Print, .symbol ['X']] ∧
    ((do startEvaluating 5 "PRINT X".toList; contTurns 5 1) okDemo).final.arrays = okDemo.arrays ∧
    ((do startEvaluating 5 "PRINT X".toList; contTurns 5 1) okDemo).final.rng = okDemo.rng :=
  ⟨rfl, rfl, by rw [Fast.ofWord_eq]; decide +kernel, by decide +kernel,
   by rw [Fast.tokenize_eq, String.toList_ofList]; rfl,
   (by simp only [Fast.start_eq]; literal_chars; decide +kernel :
     ((do startEvaluating 5 "PRINT X".toList; contTurns 5 1) okDemo).final.arrays = [] ∧
     ((do startEvaluating 5 "PRINT X".toList; contTurns 5 1) okDemo).final.rng = okDemo.rng)⟩

example : PrintLine ([.kw .Print, .symbol ['X']] : List (Token Unit)) :=
  printLine_single (.inl rfl) rfl

end thenCont

end Abasic.Props.C07
