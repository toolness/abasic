import Abasic.Props.C15More
import Abasic.Props.C17Count
/-
  C17 (continued) — the trace records are the executed lines; the scalar
  warning fires exactly when specified.

  The output queue `σ.out` is newest-first.  `traces q` (Proofs/TraceFrame.lean)
  is the list of line numbers of the `Out.trace` records of `q`, in queue order.

  A statement activation `stmtBody (evalN n) σ` at a numbered location puts `Out.trace ln` directly on
  top of the old queue — it is the oldest record of the activation (`trace_is_location`).
  READ OFF THE CODE: the statement under THEN / ELSE is a full activation
  (`(evalN (n+1)).stmt = stmtBody (evalN n)`), so it DOES trace again, on the
  same line; it is the only source of further trace records.  In general an
  activation on line `ln` yields `1 + k` records, all `Out.trace ln`, where `k`
  is the number of nested activations.
  The raw trace records are therefore NOT the path (`trace_is_path_false`).
  Proved: `trace_is_path_partial` (every turn that starts a
  statement on line `ln` contributes a non-empty block of `ln`s, in order),
  `trace_is_path_noIf` (the records are exactly the path when no executed
  numbered statement starts with IF, in particular when the program contains
  no IF) and `trace_collapsed_is_path` (with immediate repeats collapsed, the records
  are the collapsed path), each also for a whole RUN (`run_…`).
-/
namespace Abasic.Props.C17
open Abasic Abasic.Hoare Abasic.Trace

variable {F : Type} [NumOps F]

omit [NumOps F] in
/-- An action that commutes with putting older output under the queue (`Acc.Comm`,
    which the whole evaluator does) only ever pushes records on top of the queue. -/
theorem out_extends {α : Type} {m : M F α} (hm : ∀ d, Acc.Comm d m) (σ : St F) :
    (m σ).final.out = (m { σ with out := [] }).final.out ++ σ.out := by
  rw [Acc.Comm.run_eq hm σ, Acc.Comm.run_eq hm { σ with out := [] }]
  show _ = (Acc.mapRes _ (m (C15.bare σ))).final.out ++ _
  cases m (C15.bare σ) <;> exact (congrArg (· ++ σ.out) (List.append_nil _)).symm

/-- The general form of the next two, for any tracing flag and location: the trace block is
    `here σ` (one record `Out.trace ln` when tracing is on and the location is
    numbered, nothing otherwise). -/
theorem activation (n : Nat) (σ : St F) :
    stmtBody (evalN n) σ = dispatch (evalN n) { σ with out := (here σ).map Out.trace ++ σ.out } ∧
    (stmtBody (evalN n) σ).final.tracing = σ.tracing ∧ (stmtBody (evalN n) σ).final.lines = σ.lines ∧
    ∃ new k, (stmtBody (evalN n) σ).final.out = new ++ ((here σ).map Out.trace ++ σ.out) ∧
      traces new = rep k (here σ) ∧ (curTok σ ≠ some (.kw .If) → k = 0) := by
  have heq : stmtBody (evalN n) σ = dispatch (evalN n) { σ with out := (here σ).map Out.trace ++ σ.out } := by
    unfold stmtBody
    simp only [bind, M.bindM, traceHere_eq]
  have hext := out_extends (m := dispatch (evalN n))
    (fun d => Acc.comm_dispatch (evalN n) (Acc.comm_evalN n).1 (Acc.comm_evalN n).2)
    { σ with out := (here σ).map Out.trace ++ σ.out }
  rw [← heq] at hext
  obtain ⟨h1, h2, h3⟩ := activation_repN n σ
  refine ⟨heq, h1, h2, _, activations n σ - 1, hext, ?_, fun h => by rw [activations_not_if n σ h]⟩
  -- the activation's own record is the last of its `activations n σ` blocks
  obtain ⟨k, hk⟩ : ∃ k, activations n σ = k + 1 := ⟨_, (Nat.sub_add_cancel (activations_pos n σ)).symm⟩
  rw [hext, traces_append, traces_append, traces_map_trace, hk, rep_succ', List.append_assoc] at h3
  rw [hk, Nat.add_sub_cancel]
  exact List.append_cancel_right h3

/-- **trace_is_location.**  With tracing on, a statement activation at the
    numbered location `(some ln, idx)` is: push `Out.trace ln`, then dispatch.
    The queue is newest-first and only grows, so the trace record sits directly on the old
    queue, below (= before, in the order `take_output` delivers) every other
    record `new` of this activation.  The trace records inside `new` are `k` more
    copies of `ln` — one per nested activation under THEN / ELSE. -/
theorem trace_is_location (n : Nat) (σ : St F) (ln : Nat)
    (ht : σ.tracing = true) (hl : σ.loc.line = some ln) :
    stmtBody (evalN n) σ = dispatch (evalN n) { σ with out := .trace ln :: σ.out } ∧
    ∃ new k, (stmtBody (evalN n) σ).final.out = new ++ .trace ln :: σ.out ∧
      traces new = List.replicate k ln ∧ (curTok σ ≠ some (.kw .If) → k = 0) := by
  have hh : here σ = [ln] := by unfold here; rw [ht, hl]
  obtain ⟨h1, _, _, new, k, h2, h3, h4⟩ := activation n σ
  rw [hh] at h1 h2 h3
  exact ⟨h1, new, k, h2, by rw [h3, rep_singleton], h4⟩

/-- At an immediate location (or with tracing off) an activation pushes no trace
    record at all — not even from nested activations, which stay on the same line. -/
theorem trace_immediate_none (n : Nat) (σ : St F) (h : σ.loc.line = none ∨ σ.tracing = false) :
    stmtBody (evalN n) σ = dispatch (evalN n) σ ∧
    ∃ new, (stmtBody (evalN n) σ).final.out = new ++ σ.out ∧ traces new = [] := by
  have hh : here σ = [] := by
    unfold here
    cases h with
    | inl h => rw [h]; cases σ.tracing <;> rfl
    | inr h => rw [h]
  obtain ⟨h1, _, _, new, k, h2, h3, _⟩ := activation n σ
  rw [hh] at h1 h2 h3
  exact ⟨h1, new, h2, by rw [h3, rep_nil]⟩

/-- The nested statement IS a statement activation … -/
theorem nested_is_activation (n : Nat) : (evalN (F := F) (n + 1)).stmt = stmtBody (evalN n) := rfl

/-- … reached from THEN / ELSE whenever the next token is not a line number … -/
theorem then_branch_is_activation (n : Nat) (σ : St F) (ts : List (Token F))
    (hts : tokens σ = .ok ts σ) (hnum : ∀ x, ts[σ.loc.idx]? ≠ some (.num x)) :
    statementOrGoto (evalN (n + 1)) σ = nested (stmtBody (evalN n)) { σ with reads := σ.reads + 1 } := by
  unfold statementOrGoto
  simp only [bind, M.bindM, Turn.peek_toks (Cur.toks_of_tokens hts)]
  cases hk : ts[σ.loc.idx]? with
  | none => rfl
  | some t =>
    cases t with
    | num x => exact absurd hk (hnum x)
    | _ => rfl

/-- … so it traces AGAIN, on its own line, as the first thing it does one
    nesting level deeper … -/
theorem nested_activation_traces (ev : Evals F) (σ : St F) (ln : Nat)
    (ht : σ.tracing = true) (hl : σ.loc.line = some ln) (hcap : σ.nesting ≠ Extracted.nestingLimit) :
    nested (stmtBody ev) σ = nested (dispatch ev) { σ with out := .trace ln :: σ.out } := by
  have hb : (σ.nesting == Extracted.nestingLimit) = false := by simpa using hcap
  have hh : here ({ σ with nesting := σ.nesting + 1 } : St F) = [ln] := by
    unfold here; show (match σ.tracing, σ.loc.line with | true, some n => [n] | _, _ => []) = _; rw [ht, hl]
  unfold nested stmtBody
  simp only [bind, M.bindM, enterNested, M.get, hb, Bool.false_eq_true, ↓reduceIte, M.set, M.attempt,
    traceHere_eq, hh]
  rfl

/-- … unless the nesting cap refuses it, in which case nothing is recorded. -/
theorem nested_activation_at_cap (ev : Evals F) (σ : St F) (hcap : σ.nesting = Extracted.nestingLimit) :
    nested (stmtBody ev) σ = .err { err := .oomStack } σ :=
  C01.nested_refuses_at_cap _ σ hcap

/-- Concretely: `10 IF "A" THEN PRINT` with tracing on records line 10 twice. -/
theorem if_traces_twice :
    ((stmtBody (evalN 3)
      ({ tracing := true, loc := { line := some 10, idx := 0 },
         lines := { map := [(10, [.kw .If, .str ['A'], .kw .Then, .kw .Print])], sorted := [10] } } : St Unit)).final.out)
      = [.print ['\n'], .trace 10, .trace 10] := by
  decide +kernel

omit [NumOps F] in
open Abasic.Trace.Lift in
theorem nt_sequence : Respects NT (C09.sequence (F := F)) := by
  unfold C09.sequence
  refine respects_bind (rx_hasNext.mono fun _ _ => rx_sub_nt) fun b => respects_ite (fun _ => ?_) (fun _ => respects_pure _)
  refine respects_bind nt_nextLine fun b' => respects_ite (fun _ => ?_) (fun _ => respects_pure _)
  exact respects_bind (nt_setImmediate _) fun _ => nt_returnToIdle

/-- the line on which a turn's statement starts (as a list: empty when the turn
    starts no statement — no token left on the line — or the line is the immediate one) -/
def startLine (σ : St F) : List Nat := if (curTok σ).isSome then σ.loc.line.toList else []

omit [NumOps F] in
theorem startLine_cases (σ : St F) : startLine σ = [] ∨ ∃ ln, startLine σ = [ln] ∧ σ.loc.line = some ln := by
  unfold startLine
  by_cases hc : (curTok σ).isSome = true
  · rw [if_pos hc]
    cases hl : σ.loc.line with
    | none => exact Or.inl rfl
    | some ln => exact Or.inr ⟨ln, rfl, rfl⟩
  · rw [if_neg hc]; exact Or.inl rfl

omit [NumOps F] in
theorem here_of_tracing (σ : St F) (ht : σ.tracing = true) : here σ = σ.loc.line.toList := by
  unfold here; rw [ht]; cases σ.loc.line <;> rfl

/-- what a turn does to the trace records: `k ≥ 1` copies of the block `u`
    (`k = 1` under the condition `strict`) -/
def TurnRel (u : List Nat) (strict : Prop) (σ σ' : St F) : Prop :=
  σ'.tracing = σ.tracing ∧ σ'.lines = σ.lines ∧
  ∃ k, 1 ≤ k ∧ (strict → k = 1) ∧ traces σ'.out = rep k u ++ traces σ.out

omit [NumOps F] in
theorem TurnRel.of_nt {p : Prop} {σ σ' : St F} (h : NT σ σ') : TurnRel [] p σ σ' :=
  ⟨h.1, h.2.1, 1, Nat.le_refl _, fun _ => rfl, by rw [h.2.2, rep_nil]; rfl⟩

omit [NumOps F] in
theorem TurnRel.nt_right {u : List Nat} {p : Prop} {σ s s' : St F} (h : TurnRel u p σ s) (h' : NT s s') :
    TurnRel u p σ s' := by
  obtain ⟨a, b, k, c, d, e⟩ := h
  exact ⟨h'.1.trans a, h'.2.1.trans b, k, c, d, by rw [h'.2.2, e]⟩

omit [NumOps F] in
theorem TurnRel.nt_left {u : List Nat} {p : Prop} {σ s s' : St F} (h' : NT σ s) (h : TurnRel u p s s') :
    TurnRel u p σ s' := by
  obtain ⟨a, b, k, c, d, e⟩ := h
  exact ⟨a.trans h'.1, b.trans h'.2.1, k, c, d, by rw [e, h'.2.2]⟩

def expand : List Nat → List Nat → List Nat
  | ln :: p, c :: ks => List.replicate c ln ++ expand p ks
  | _, _ => []

/-- what is known of a queue whose trace records are `q`, read against a path `p`
    from a queue whose trace records were `q₀`: each line of `p`, `c ≥ 1` times -/
def Expands (q q₀ p : List Nat) : Prop :=
  ∃ ks : List Nat, ks.length = p.length ∧ (∀ c ∈ ks, 1 ≤ c) ∧ q = (expand p ks).reverse ++ q₀

omit [NumOps F] in
theorem TurnRel.cons_expand {u p q : List Nat} {strict : Prop} {σ s : St F} (h : TurnRel u strict σ s)
    (hu : u = [] ∨ ∃ ln, u = [ln]) (hq : Expands q (traces s.out) p) : Expands q (traces σ.out) (u ++ p) := by
  obtain ⟨_, _, c, hc, _, h3⟩ := h
  obtain ⟨ks, hlen, hks, rfl⟩ := hq
  rcases hu with rfl | ⟨ln, rfl⟩
  · rw [rep_nil, List.nil_append] at h3
    exact ⟨ks, hlen, hks, by rw [h3]; rfl⟩
  · refine ⟨c :: ks, by simp [hlen], ?_, ?_⟩
    · intro x hx
      cases hx with
      | head => exact hc
      | tail _ hx => exact hks x hx
    · show _ = (List.replicate c ln ++ expand p ks).reverse ++ _
      rw [h3, rep_singleton, List.reverse_append, List.reverse_replicate, List.append_assoc]

omit [NumOps F] in
theorem TurnRel.cons_exact {u p q : List Nat} {strict : Prop} {σ s : St F} (h : TurnRel u strict σ s)
    (hu : u = [] ∨ ∃ ln, u = [ln] ∧ strict) (hq : q = p.reverse ++ traces s.out) :
    q = (u ++ p).reverse ++ traces σ.out := by
  obtain ⟨_, _, c, _, hc1, h3⟩ := h
  rw [hq, h3, List.reverse_append, List.append_assoc]
  rcases hu with rfl | ⟨ln, rfl, hs⟩
  · rw [rep_nil]; rfl
  · rw [hc1 hs, rep_one]; rfl

theorem turnWith_some (ev : Evals F) {σ : St F} (h : (curTok σ).isSome = true) :
    C09.turnWith ev σ = (stmtBody ev >>= fun _ => C09.sequence) (turnStart σ) := by
  cases hl : lineOf σ with
  | none => rw [curTok, hl] at h; cases h
  | some ts =>
    rw [curTok, hl] at h
    rw [Turn.turnWith_eq _ hl, if_pos (show (ts[σ.loc.idx]?).isSome = true from h)]

theorem turnWith_none (ev : Evals F) {σ : St F} (h : (curTok σ).isSome = false) :
    NT σ (C09.turnWith ev σ).final ∧ ∀ ev', C09.turnWith ev' σ = C09.turnWith ev σ := by
  cases hl : lineOf σ with
  | none => simp only [Turn.turnWith_missing _ hl]; exact ⟨⟨rfl, rfl, rfl⟩, fun _ => trivial⟩
  | some ts =>
    rw [curTok, hl] at h
    simp only [Turn.turnWith_eq _ hl, show (ts[σ.loc.idx]?).isSome = false from h, Bool.false_eq_true, ↓reduceIte]
    exact ⟨IsFrame.trans (⟨rfl, rfl, rfl⟩ : NT σ (turnStart σ)) (nt_sequence.final _), fun _ => trivial⟩

/-- **What a turn does to the trace records**, for any tracing flag: the records of its one statement
    activation, if it has one; the tracing flag and the program stay. -/
theorem turn_rep (fuel : Nat) (σ : St F) :
    RepN (if (curTok σ).isSome then activations fuel (turnStart σ) else 0) (here σ) σ
      (runNextStatement fuel σ).final := by
  rw [show runNextStatement fuel = C09.turnWith (evalN fuel) from C09.turn_anatomy fuel]
  cases hs : (curTok σ).isSome with
  | false => exact .of_nt (turnWith_none _ hs).1
  | true =>
    rw [turnWith_some _ hs, final_bind]
    have h : RepN _ (here σ) σ _ :=
      (RepN.of_nt (⟨rfl, rfl, rfl⟩ : NT σ (turnStart σ))).trans (activation_repN fuel (turnStart σ))
    cases hr : stmtBody (evalN fuel) (turnStart σ) with
    | err e s => rw [hr] at h; exact h
    | ok _ s => rw [hr] at h; exact h.nt (nt_sequence.final s)

/-- One turn (`run_next_statement`) with tracing on: if it starts a statement on
    numbered line `ln`, it adds `k ≥ 1` records `Out.trace ln` and no other trace
    record, with `k = 1` unless the statement starts with IF; otherwise none. -/
theorem turn_traces (fuel : Nat) (σ : St F) (ht : σ.tracing = true) :
    TurnRel (startLine σ) (curTok σ ≠ some (.kw .If)) σ (runNextStatement fuel σ).final := by
  obtain ⟨h1, h2, h3⟩ := turn_rep fuel σ
  unfold startLine
  by_cases hs : (curTok σ).isSome = true
  · rw [if_pos hs] at h3 ⊢
    rw [← here_of_tracing σ ht]
    exact ⟨h1, h2, _, activations_pos _ _, activations_not_if fuel (turnStart σ), h3⟩
  · rw [if_neg hs] at h3 ⊢
    exact ⟨h1, h2, 1, Nat.le_refl _, fun _ => rfl, by rw [h3, rep_zero, rep_nil]⟩

/-- one host turn: `continue_evaluating`, whatever its outcome -/
def step (fuel : Nat) (σ : St F) : St F := (continueEvaluating fuel σ).final

def turns (fuel : Nat) : Nat → St F → St F
  | 0, σ => σ
  | k + 1, σ => turns fuel k (step fuel σ)

/-- the line recorded before a turn: the cursor's line, when the interpreter is
    running and a statement starts there on a numbered line -/
def turnLine (σ : St F) : List Nat := if σ.state = .running then startLine σ else []

/-- **the path**: the line numbers of the locations at which each turn's
    statement started, oldest first -/
def path (fuel : Nat) : Nat → St F → List Nat
  | 0, _ => []
  | k + 1, σ => turnLine σ ++ path fuel k (step fuel σ)

omit [NumOps F] in
theorem final_postprocess {α : Type} (m : M F α) (σ : St F) :
    NT (m σ).final (postprocess m σ).final := by
  unfold postprocess
  cases m σ <;> exact ⟨rfl, rfl, rfl⟩

theorem step_traces (fuel : Nat) (σ : St F) (ht : σ.tracing = true) :
    TurnRel (turnLine σ) (curTok σ ≠ some (.kw .If)) σ (step fuel σ) := by
  unfold step turnLine continueEvaluating
  simp only [bind, M.bindM, M.get]
  by_cases hs : σ.state = .running
  · simp only [↓reduceIte, hs]
    exact (turn_traces fuel σ ht).nt_right (final_postprocess _ σ)
  · have hb : (σ.state != .running) = true := by simpa using hs
    simp only [hb, ↓reduceIte, hs]
    exact TurnRel.of_nt ⟨rfl, rfl, rfl⟩

theorem turns_tracing (fuel : Nat) (k : Nat) (σ : St F) (ht : σ.tracing = true) :
    (turns fuel k σ).tracing = true ∧ (turns fuel k σ).lines = σ.lines := by
  induction k generalizing σ with
  | zero => exact ⟨ht, rfl⟩
  | succ k ih =>
    obtain ⟨h1, h2, _⟩ := step_traces fuel σ ht
    obtain ⟨h3, h4⟩ := ih (step fuel σ) (h1.trans ht)
    exact ⟨h3, h4.trans h2⟩

omit [NumOps F] in
theorem turnLine_cases (σ : St F) : turnLine σ = [] ∨ ∃ ln, turnLine σ = [ln] ∧ σ.loc.line = some ln := by
  unfold turnLine
  split
  · exact startLine_cases σ
  · exact Or.inl rfl

/-- **trace_is_path_partial** (what is true for every program).  With tracing
    on, after `k` turns the trace records on the queue are, oldest first, the
    lines of the path, each repeated `c ≥ 1` times (`c - 1` = the number of nested
    THEN / ELSE activations of that turn).  The queue being newest-first, they
    appear reversed on top of the trace records that were there before. -/
theorem trace_is_path_partial (fuel k : Nat) (σ : St F) (ht : σ.tracing = true) :
    ∃ ks : List Nat, ks.length = (path fuel k σ).length ∧ (∀ c ∈ ks, 1 ≤ c) ∧
      traces (turns fuel k σ).out = (expand (path fuel k σ) ks).reverse ++ traces σ.out := by
  induction k generalizing σ with
  | zero => exact ⟨[], rfl, fun c h => (by cases h), rfl⟩
  | succ k ih =>
    have h := step_traces fuel σ ht
    exact h.cons_expand ((turnLine_cases σ).imp_right fun ⟨ln, h0, _⟩ => ⟨ln, h0⟩)
      (ih (step fuel σ) (h.1.trans ht))

/-- **trace_is_path** for runs in which no statement started on a numbered line
    begins with IF: the trace records are EXACTLY the path (newest first on the queue). -/
theorem trace_is_path_of_no_if (fuel k : Nat) (σ : St F) (ht : σ.tracing = true)
    (hno : ∀ j, j < k → (turns fuel j σ).loc.line ≠ none → curTok (turns fuel j σ) ≠ some (.kw .If)) :
    traces (turns fuel k σ).out = (path fuel k σ).reverse ++ traces σ.out := by
  induction k generalizing σ with
  | zero => rfl
  | succ k ih =>
    have h := step_traces fuel σ ht
    refine h.cons_exact ((turnLine_cases σ).imp_right fun ⟨ln, h0, hl⟩ => ⟨ln, h0, ?_⟩)
      (ih (step fuel σ) (h.1.trans ht) (fun j hj => hno (j + 1) (Nat.succ_lt_succ hj)))
    exact hno 0 (Nat.zero_lt_succ k) (by show σ.loc.line ≠ none; rw [hl]; exact Option.some_ne_none ln)

def NoIf (L : Lines F) : Prop := ∀ n ts, L.get n = some ts → Token.kw .If ∉ ts

omit [NumOps F] in
theorem curTok_noIf (σ : St F) (h : NoIf σ.lines) (hl : σ.loc.line ≠ none) : curTok σ ≠ some (.kw .If) := by
  unfold curTok lineOf
  cases hl' : σ.loc.line with
  | none => exact absurd hl' hl
  | some n =>
    simp only
    cases hg : σ.lines.get n with
    | none => intro hc; cases hc
    | some ts =>
      intro hc
      simp only [Option.bind_some] at hc
      exact h n ts hg (List.mem_of_getElem? hc)

/-- **trace_is_path_noIf**: for a program without IF the trace records are exactly the path. -/
theorem trace_is_path_noIf (fuel k : Nat) (σ : St F) (ht : σ.tracing = true) (hprog : NoIf σ.lines) :
    traces (turns fuel k σ).out = (path fuel k σ).reverse ++ traces σ.out := by
  refine trace_is_path_of_no_if fuel k σ ht (fun j _ hl => curTok_noIf _ ?_ hl)
  rw [(turns_tracing fuel j σ ht).2]; exact hprog

/-! ### a whole RUN: the command's own first turn, then `k` more turns -/

/-- the state in which RUN's first turn starts (RUN's reset applied) -/
def runStart (σ : St F) : St F := C10.resetForRun (σ.setImmediate [])

/-- the state after the host call `start_evaluating("RUN")` -/
def afterRun (fuel : Nat) (σ : St F) : St F := (startEvaluating fuel C15.RUN σ).final

def runEnd (fuel k : Nat) (σ : St F) : St F := turns fuel k (afterRun fuel σ)

def runPath (fuel k : Nat) (σ : St F) : List Nat := startLine (runStart σ) ++ path fuel k (afterRun fuel σ)

omit [NumOps F] in
theorem runStart_nt (σ : St F) : NT σ (runStart σ) := by
  unfold runStart C10.resetForRun St.runFromFirst St.resetRuntime St.setImmediate
  dsimp only
  split <;> exact ⟨rfl, rfl, rfl⟩

theorem run_first (fuel : Nat) (σ : St F) (hs : σ.state = .idle) (ht : σ.tracing = true) :
    TurnRel (startLine (runStart σ)) (curTok (runStart σ) ≠ some (.kw .If)) σ (afterRun fuel σ) := by
  unfold afterRun
  rw [startEvaluating_run fuel hs C15.RUN_is_run]
  have h0 := runStart_nt σ
  exact TurnRel.nt_left h0 (TurnRel.nt_right (turn_traces fuel (runStart σ) (h0.1.trans ht)) (final_postprocess _ _))

/-- **run_trace_is_path_partial**: RUN (entered in an idle interpreter with
    tracing on) followed by `k` turns. -/
theorem run_trace_is_path_partial (fuel k : Nat) (σ : St F) (hs : σ.state = .idle) (ht : σ.tracing = true) :
    ∃ ks : List Nat, ks.length = (runPath fuel k σ).length ∧ (∀ c ∈ ks, 1 ≤ c) ∧
      traces (runEnd fuel k σ).out = (expand (runPath fuel k σ) ks).reverse ++ traces σ.out := by
  have h := run_first fuel σ hs ht
  exact h.cons_expand ((startLine_cases (runStart σ)).imp_right fun ⟨ln, h0, _⟩ => ⟨ln, h0⟩)
    (trace_is_path_partial fuel k (afterRun fuel σ) (h.1.trans ht))

/-- **run_trace_is_path_noIf**: for a program without IF, the trace records of a
    RUN followed by `k` turns are exactly the lines of the path, in order (the
    queue is newest-first, hence `reverse`); `take_output` then delivers them
    oldest first, i.e. as the path itself. -/
theorem run_trace_is_path_noIf (fuel k : Nat) (σ : St F) (hs : σ.state = .idle) (ht : σ.tracing = true)
    (hprog : NoIf σ.lines) :
    traces (runEnd fuel k σ).out = (runPath fuel k σ).reverse ++ traces σ.out := by
  have h := run_first fuel σ hs ht
  refine h.cons_exact ((startLine_cases (runStart σ)).imp_right fun ⟨ln, h0, hl⟩ => ⟨ln, h0, ?_⟩)
    (trace_is_path_noIf fuel k (afterRun fuel σ) (h.1.trans ht) (by rw [h.2.1]; exact hprog))
  exact curTok_noIf _ (by rw [(runStart_nt σ).2.1]; exact hprog) (by rw [hl]; exact Option.some_ne_none ln)

/-- **The raw records are not the path.**  Program
    `10 IF "A" THEN PRINT`, tracing on, RUN (and no further turn): the path is
    `[10]` — one turn, one statement started, on line 10 — but the queue holds
    TWO records `Out.trace 10`, because the PRINT under THEN is a nested
    statement activation and traces again. -/
theorem trace_is_path_false :
    ∃ σ : St Unit, σ.state = .idle ∧ σ.tracing = true ∧ σ.out = [] ∧
      runPath 5 0 σ = [10] ∧ traces (runEnd 5 0 σ).out = [10, 10] :=
  ⟨{ tracing := true,
     lines := { map := [(10, [.kw .If, .str ['A'], .kw .Then, .kw .Print])], sorted := [10] } },
   by decide +kernel⟩

/-- Non-vacuity of the exact statement: `10 PRINT : PRINT` / `20 PRINT`, RUN and
    three more turns: path `[10, 10, 10, 20]` (the colon is a statement of its own). -/
example :
    let σ : St Unit := { tracing := true, lines := { map := [(10, [.kw .Print, .kw .Colon, .kw .Print]), (20, [.kw .Print])], sorted := [10, 20] } }
    runPath 5 3 σ = [10, 10, 10, 20] ∧ traces (runEnd 5 3 σ).out = [20, 10, 10, 10] := by
  decide +kernel

/-! ### the property as worded: trace records with immediate repeats collapsed -/

/-- remove immediate repeats -/
def collapse : List Nat → List Nat
  | [] => []
  | a :: l => if l.head? = some a then collapse l else a :: collapse l

example : collapse [10, 10, 20, 20, 10] = [10, 20, 10] := by decide

theorem collapse_nil : collapse [] = [] := rfl

theorem collapse_cons (a : Nat) (l : List Nat) :
    collapse (a :: l) = if l.head? = some a then collapse l else a :: collapse l := rfl

theorem head?_collapse (l : List Nat) : (collapse l).head? = l.head? := by
  induction l with
  | nil => rfl
  | cons a l ih =>
    rw [collapse_cons]
    by_cases h : l.head? = some a
    · rw [if_pos h, ih, h]; rfl
    · rw [if_neg h]; rfl

/-- `collapse (a :: l)` only depends on `collapse l` -/
theorem collapse_cons_congr (a : Nat) {l l' : List Nat} (h : collapse l = collapse l') :
    collapse (a :: l) = collapse (a :: l') := by
  have hh : l.head? = l'.head? := by rw [← head?_collapse l, h, head?_collapse]
  rw [collapse_cons, collapse_cons, hh, h]

theorem collapse_append_congr (x : List Nat) {l l' : List Nat} (h : collapse l = collapse l') :
    collapse (x ++ l) = collapse (x ++ l') := by
  induction x with
  | nil => exact h
  | cons a x ih => exact collapse_cons_congr a ih

theorem collapse_replicate_append (c a : Nat) (l : List Nat) :
    collapse (List.replicate (c + 1) a ++ l) = collapse (a :: l) := by
  induction c with
  | zero => rfl
  | succ c ih =>
    have : List.replicate (c + 1 + 1) a ++ l = a :: (List.replicate (c + 1) a ++ l) := rfl
    rw [this, collapse_cons]
    have hh : (List.replicate (c + 1) a ++ l).head? = some a := rfl
    rw [if_pos hh, ih]

theorem expand_nil (ks : List Nat) : expand [] ks = [] := by
  cases ks <;> rfl

/-- **collapse_expand**: repeating each line of a path a positive number of times
    is invisible once immediate repeats are collapsed. -/
theorem collapse_expand (p ks : List Nat) (hks : ∀ c ∈ ks, 1 ≤ c) (hlen : ks.length = p.length) :
    collapse (expand p ks) = collapse p := by
  induction p generalizing ks with
  | nil => rw [expand_nil]
  | cons ln p ih =>
    cases ks with
    | nil => cases hlen
    | cons c ks =>
      have hc : 1 ≤ c := hks c (List.mem_cons_self ..)
      obtain ⟨c', rfl⟩ : ∃ c', c = c' + 1 := ⟨c - 1, by omega⟩
      show collapse (List.replicate (c' + 1) ln ++ expand p ks) = _
      rw [collapse_replicate_append]
      exact collapse_cons_congr ln
        (ih ks (fun x hx => hks x (List.mem_cons_of_mem _ hx)) (by simpa using hlen))

theorem collapse_snoc (l : List Nat) (a : Nat) :
    collapse (l ++ [a]) = if l.getLast? = some a then collapse l else collapse l ++ [a] := by
  induction l with
  | nil => rfl
  | cons b l ih =>
    cases l with
    | nil =>
      show collapse [b, a] = if some b = some a then collapse [b] else collapse [b] ++ [a]
      by_cases h : a = b
      · subst h; rfl
      · have h1 : ¬ (some b = some a) := fun hh => h (Option.some.inj hh).symm
        have h2 : ¬ ([a].head? = some b) := fun hh => h (Option.some.inj hh)
        rw [if_neg h1, collapse_cons, if_neg h2]; rfl
    | cons c l =>
      generalize hm : c :: l = m at ih ⊢
      have hl : (b :: m).getLast? = m.getLast? := by rw [← hm]; rfl
      have hh : (m ++ [a]).head? = m.head? := by rw [← hm]; rfl
      rw [List.cons_append, collapse_cons, hh, ih, hl, collapse_cons b m]
      by_cases h1 : m.head? = some b <;> by_cases h2 : m.getLast? = some a
      · simp only [if_pos h1, if_pos h2]
      · simp only [if_pos h1, if_neg h2]
      · simp only [if_neg h1, if_pos h2]
      · simp only [if_neg h1, if_neg h2]; rfl

theorem collapse_reverse (l : List Nat) : collapse l.reverse = (collapse l).reverse := by
  induction l with
  | nil => rfl
  | cons a l ih =>
    rw [List.reverse_cons, collapse_snoc, List.getLast?_reverse, collapse_cons, ih]
    by_cases h : l.head? = some a
    · rw [if_pos h, if_pos h]
    · rw [if_neg h, if_neg h, List.reverse_cons]

theorem collapse_of_expands {q q₀ p : List Nat} (h : Expands q q₀ p) :
    collapse q.reverse = collapse (q₀.reverse ++ p) := by
  obtain ⟨ks, hlen, hks, rfl⟩ := h
  rw [List.reverse_append, List.reverse_reverse]
  exact collapse_append_congr _ (collapse_expand _ ks hks hlen)

/-- **trace_collapsed_is_path_from** (arbitrary initial queue).  Read oldest first,
    with immediate repeats collapsed, the trace records after `k` turns are the
    earlier trace records followed by the path. -/
theorem trace_collapsed_is_path_from (fuel k : Nat) (σ : St F) (ht : σ.tracing = true) :
    collapse (traces (turns fuel k σ).out).reverse =
      collapse ((traces σ.out).reverse ++ path fuel k σ) :=
  collapse_of_expands (trace_is_path_partial fuel k σ ht)

/-- **trace_collapsed_is_path.**  The trace records, read in order (oldest first)
    with immediate repeats collapsed, name exactly the sequence of numbered lines
    execution passes through (the path with ITS immediate repeats collapsed: two
    consecutive statements on one line are one visit of that line). -/
theorem trace_collapsed_is_path (fuel k : Nat) (σ : St F) (ht : σ.tracing = true) (h0 : traces σ.out = []) :
    collapse (traces (turns fuel k σ).out).reverse = collapse (path fuel k σ) := by
  rw [trace_collapsed_is_path_from fuel k σ ht, h0]; rfl

/-- RUN followed by `k` turns, arbitrary initial queue. -/
theorem run_trace_collapsed_is_path_from (fuel k : Nat) (σ : St F) (hs : σ.state = .idle) (ht : σ.tracing = true) :
    collapse (traces (runEnd fuel k σ).out).reverse =
      collapse ((traces σ.out).reverse ++ runPath fuel k σ) :=
  collapse_of_expands (run_trace_is_path_partial fuel k σ hs ht)

/-- **run_trace_collapsed_is_path.**  RUN entered in an idle interpreter with
    tracing on whose queue holds no trace record (e.g. the output was taken
    before RUN: `σ.out = []`), followed by `k` turns. -/
theorem run_trace_collapsed_is_path (fuel k : Nat) (σ : St F) (hs : σ.state = .idle) (ht : σ.tracing = true)
    (h0 : traces σ.out = []) :
    collapse (traces (runEnd fuel k σ).out).reverse = collapse (runPath fuel k σ) := by
  rw [run_trace_collapsed_is_path_from fuel k σ hs ht, h0]; rfl

/-- … in particular right after `take_output`. -/
theorem run_trace_collapsed_is_path_taken (fuel k : Nat) (σ : St F) (hs : σ.state = .idle) (ht : σ.tracing = true) :
    collapse (traces (runEnd fuel k (takeOutput σ).2).out).reverse = collapse (runPath fuel k (takeOutput σ).2) :=
  run_trace_collapsed_is_path fuel k _ hs ht rfl

/-- The IF program of `trace_is_path_false`, collapsed: records `[10, 10]`, path `[10]`. -/
example :
    let σ : St Unit := { tracing := true, lines := { map := [(10, [.kw .If, .str ['A'], .kw .Then, .kw .Print])], sorted := [10] } }
    collapse (traces (runEnd 5 0 σ).out).reverse = [10] ∧ collapse (runPath 5 0 σ) = [10] := by
  decide +kernel

/-! ### the scalar-variable warning -/

def undeclaredVariableMsg (x : Str) : Str := "Use of undeclared variable '".toList ++ x ++ "'.".toList

/-- what reading the scalar `x` returns: the innermost FN-frame binding, else the
    variable, else the default for the name -/
def scalarValue (σ : St F) (x : Str) : Value F :=
  match findInStack x σ.stack with
  | some v => v
  | none => getVar σ x

/-- Reading a scalar variable in `term` (the token under the cursor is the
    identifier `x`, and it is not followed by `(`): the exact result. -/
theorem scalar_read (ev : Evals F) (σ : St F) (ts : List (Token F)) (x : Str)
    (hts : tokens σ = .ok ts σ) (hx : ts[σ.loc.idx]? = some (.symbol x))
    (hnp : ∀ t, ts[σ.loc.idx + 1]? = some t → t.isKw .LeftParen = false) :
    term ev σ = .ok (scalarValue σ x)
      { σ with loc := { σ.loc with idx := σ.loc.idx + 1 }, reads := σ.reads + 2,
               out := if (σ.warnings && (findInStack x σ.stack).isNone && !alHas x σ.vars) = true
                      then .warning (undeclaredVariableMsg x) σ.loc.line :: σ.out else σ.out } := by
  rw [ExprL.term_var ev (ExprL.at_of_tokens_cons hts hx) (fun t ht => hnp t (by rwa [List.head?_drop] at ht)),
    ExprL.varRef_eq]
  rfl

/-- **scalar_warn_iff.**  Reading the scalar `x` emits the warning
    `Use of undeclared variable 'x'.` (tagged with the current line) iff warnings
    are on, `x` has never been assigned and no FN frame on the stack binds `x`;
    otherwise it emits nothing.  In both cases the value, the cursor and the read
    counter are the same, and nothing else changes. -/
theorem scalar_warn_iff (ev : Evals F) (σ : St F) (ts : List (Token F)) (x : Str)
    (hts : tokens σ = .ok ts σ) (hx : ts[σ.loc.idx]? = some (.symbol x))
    (hnp : ∀ t, ts[σ.loc.idx + 1]? = some t → t.isKw .LeftParen = false) :
    ((σ.warnings = true ∧ alGet x σ.vars = none ∧ findInStack x σ.stack = none) →
      term ev σ = .ok (scalarValue σ x)
        { σ with loc := { σ.loc with idx := σ.loc.idx + 1 }, reads := σ.reads + 2,
                 out := .warning (undeclaredVariableMsg x) σ.loc.line :: σ.out }) ∧
    (¬ (σ.warnings = true ∧ alGet x σ.vars = none ∧ findInStack x σ.stack = none) →
      term ev σ = .ok (scalarValue σ x)
        { σ with loc := { σ.loc with idx := σ.loc.idx + 1 }, reads := σ.reads + 2 }) := by
  have h := scalar_read ev σ ts x hts hx hnp
  have hiff : (σ.warnings && (findInStack x σ.stack).isNone && !alHas x σ.vars) = true ↔
      (σ.warnings = true ∧ alGet x σ.vars = none ∧ findInStack x σ.stack = none) := by
    unfold alHas
    cases σ.warnings <;> cases findInStack x σ.stack <;> cases alGet x σ.vars <;> simp
  constructor
  · intro hc; rw [h, if_pos (hiff.mpr hc)]
  · intro hc; rw [h, if_neg (fun hh => hc (hiff.mp hh))]

end Abasic.Props.C17
