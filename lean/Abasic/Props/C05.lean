import Abasic.Analyzer
/-
  C05 — static analysis terminates on every file and yields well-formed diagnostics.

  Here: the line pass, line by line.  What a file line denotes is four functions of
  the line — the program edit `C15.lineEdit` (the same notion C15 compares with typing
  the line, `C15.typedEdit`), the semantic tokens `lineTokensOf`, the range record
  `lineRangesOf`, the diagnostics `lineMsgs` — and `analyzeLine_eq` says that
  `analyzeLine` appends each of them to its field: the one place where `analyzeLine`
  is unfolded.  Hence one token list and one range record per file line; a BASIC line
  is entered in the BASIC→file map only together with a range record that has token
  ranges (`MapOk`, the invariant whose violation was defect D11); whatever the map
  returns for a location or a diagnostic is one of the ranges recorded for a file
  line that exists.  The finished analysis is in C05File.lean: `analyze_total` (no panic
  and no exhausted budget for any file), `diag_located_all` (every diagnostic maps to a
  span of an existing line).
-/

namespace Abasic.Props.C15
open Abasic

/-- what typing `line` at an idle prompt does to the program: a numbered line that
    tokenizes is stored under its number (`Lines.set`: an empty token list deletes) -/
def typedEdit (F : Type) [NumOps F] (line : Str) : Option (Nat × List (Token F)) :=
  match parseLineNumber line with
  | none => none
  | some (n, k) =>
    match tokenizeRanges (F := F) line k with
    | (rts, none) => some (n, rts.map (·.1))
    | (_, some _) => none

/-- what the analyzer's line pass (file mode) does to the program: as `typedEdit`, but a
    numbered line without statements is NOT an edit -/
def lineEdit (F : Type) [NumOps F] (line : Str) : Option (Nat × List (Token F)) :=
  match typedEdit F line with
  | none => none
  | some (n, ts) => if ts.isEmpty then none else some (n, ts)

end Abasic.Props.C15

namespace Abasic.Props.C05
open Abasic

variable {F : Type} [NumOps F]

def lineTokensOf (F : Type) [NumOps F] (line : Str) : List (TokenType × Nat × Nat) :=
  if line.isEmpty then []
  else
    match parseLineNumber line with
    | none => []
    | some (_, lnEnd) =>
      match tokenizeRanges (F := F) line lnEnd with
      | (toks, none) => (Extracted.numberType, 0, lnEnd) :: toks.map fun (t, x, y) => (t.tokenType, x, y)
      | (_, some _) => [(Extracted.numberType, 0, lnEnd)]

def lineRangesOf (F : Type) [NumOps F] (line : Str) : LineRanges :=
  if line.isEmpty then {}
  else
    match parseLineNumber line with
    | none => {}
    | some (_, lnEnd) =>
      match tokenizeRanges (F := F) line lnEnd with
      | (toks, none) => { lineNumberEnd := lnEnd, tokenRanges := some (toks.map fun (_, x, y) => (x, y)) }
      | (_, some e) => { lineNumberEnd := lnEnd, tokErrRange := some (e.range line) }

def lineMsgs (F : Type) [NumOps F] (taken : Nat → Bool) (i : Nat) (line : Str) : List Diag :=
  if line.isEmpty then []
  else
    match parseLineNumber line with
    | none => [.warning i none "Line has no line number, ignoring it.".toList]
    | some (n, lnEnd) =>
      (if taken n then [.warning i none "Redefinition of pre-existing BASIC line.".toList] else []) ++
      match tokenizeRanges (F := F) line lnEnd with
      | (toks, none) =>
        if toks.isEmpty then [.warning i none "Line contains no statements and will not be defined.".toList] else []
      | (_, some e) => [.error i { err := .syntax (.tokenization e) }]

theorem analyzeLine_eq (a : Analysis F) (i : Nat) (line : Str) :
    analyzeLine a i line =
      { a with
        st := match C15.lineEdit F line with
          | some (n, ts) => a.st.setNumberedLine n ts
          | none => a.st
        lineTokens := a.lineTokens ++ [lineTokensOf F line]
        map := { basicToFile := a.map.basicToFile ++
                   ((C15.lineEdit F line).map fun e => (e.1, a.map.ranges.length)).toList
                 ranges := a.map.ranges ++ [lineRangesOf F line] }
        messages := a.messages ++ lineMsgs F a.st.lines.has i line } := by
  unfold analyzeLine lineMsgs lineTokensOf lineRangesOf C15.lineEdit C15.typedEdit
  by_cases he : line.isEmpty = true
  · cases List.isEmpty_iff.mp he
    simp [show parseLineNumber [] = none from rfl]
  · simp only [he]
    cases parseLineNumber line with
    -- without `String.reduceToList`: it spells the messages out, by equations the kernel has to evaluate
    | none => simp [warnLine, -String.reduceToList]
    | some p =>
      obtain ⟨n, k⟩ := p
      simp only
      cases tokenizeRanges (F := F) line k with
      | mk rts err =>
        cases err with
        | some e => cases a.st.lines.has n <;> simp [warnLine, -String.reduceToList]
        | none => cases rts <;> cases a.st.lines.has n <;> simp [warnLine, -String.reduceToList]

theorem lineEdit_some {line : Str} {n : Nat} {ts : List (Token F)} (h : C15.lineEdit F line = some (n, ts)) :
    ∃ k rts, ¬ line.isEmpty = true ∧ parseLineNumber line = some (n, k) ∧
      tokenizeRanges (F := F) line k = (rts, none) ∧ rts ≠ [] ∧ ts = rts.map (·.1) := by
  unfold C15.lineEdit C15.typedEdit at h
  cases hp : parseLineNumber line with
  | none => simp [hp] at h
  | some p =>
    obtain ⟨n', k⟩ := p
    cases ht : tokenizeRanges (F := F) line k with
    | mk rts err =>
      cases err with
      | some e => simp [hp, ht] at h
      | none =>
        simp only [hp, ht] at h
        split at h
        · cases h
        · rename_i hne
          cases h
          refine ⟨k, rts, ?_, rfl, ht, ?_, rfl⟩
          · intro he; rw [List.isEmpty_iff.mp he] at hp; cases hp
          · intro h0; subst h0; simp at hne

theorem lineRangesOf_of_ok {line : Str} {n lnEnd : Nat} {toks : List (RangedToken F)}
    (he : ¬ line.isEmpty = true) (hp : parseLineNumber line = some (n, lnEnd))
    (ht : tokenizeRanges (F := F) line lnEnd = (toks, none)) :
    lineRangesOf F line = { lineNumberEnd := lnEnd, tokenRanges := some (toks.map fun (_, x, y) => (x, y)) } := by
  unfold lineRangesOf
  rw [if_neg he, hp]
  simp only [ht]

theorem lineRangesOf_of_err {line : Str} {n lnEnd : Nat} {toks : List (RangedToken F)} {e : TokErr}
    (he : ¬ line.isEmpty = true) (hp : parseLineNumber line = some (n, lnEnd))
    (ht : tokenizeRanges (F := F) line lnEnd = (toks, some e)) :
    lineRangesOf F line = { lineNumberEnd := lnEnd, tokErrRange := some (e.range line) } := by
  unfold lineRangesOf
  rw [if_neg he, hp]
  simp only [ht]

theorem mem_lineMsgs {taken : Nat → Bool} {i : Nat} {line : Str} {d : Diag} (hd : d ∈ lineMsgs F taken i line) :
    (∃ msg, d = .warning i none msg) ∨
      (∃ t x y, d = .error i { err := .syntax (.tokenization t) } ∧ (lineRangesOf F line).tokErrRange = some (x, y)) := by
  unfold lineMsgs at hd
  by_cases he : line.isEmpty = true
  · simp [he] at hd
  · simp only [he] at hd
    cases hp : parseLineNumber line with
    | none => rw [hp] at hd; exact .inl ⟨_, List.mem_singleton.mp hd⟩
    | some p =>
      obtain ⟨n, k⟩ := p
      rw [hp] at hd
      rcases List.mem_append.mp hd with hd | hd
      · split at hd
        · exact .inl ⟨_, List.mem_singleton.mp hd⟩
        · cases hd
      · cases ht : tokenizeRanges (F := F) line k with
        | mk rts err =>
          rw [ht] at hd
          cases err with
          | none =>
            simp only at hd
            split at hd
            · exact .inl ⟨_, List.mem_singleton.mp hd⟩
            · cases hd
          | some e =>
            exact .inr ⟨e, _, _, List.mem_singleton.mp hd, by rw [lineRangesOf_of_err he hp ht]⟩

theorem analyzeLine_counts (a : Analysis F) (i : Nat) (line : Str) :
    (analyzeLine a i line).lineTokens.length = a.lineTokens.length + 1 ∧
    (analyzeLine a i line).map.ranges.length = a.map.ranges.length + 1 := by
  rw [analyzeLine_eq]; simp

theorem one_token_list_per_line (a : Analysis F) (i : Nat) (lines : List Str) :
    (analyzeLines a i lines).lineTokens.length = a.lineTokens.length + lines.length ∧
    (analyzeLines a i lines).map.ranges.length = a.map.ranges.length + lines.length := by
  induction lines generalizing a i with
  | nil => simp [analyzeLines]
  | cons l ls ih =>
    have h1 := analyzeLine_counts a i l
    have h2 := ih (analyzeLine a i l) (i + 1)
    simp only [analyzeLines, List.length_cons]
    omega

def MapOk (m : FileMap) : Prop :=
  ∀ p ∈ m.basicToFile, ∃ r, m.ranges[p.2]? = some r ∧ r.tokenRanges.isSome

theorem mapOk_empty : MapOk ({} : FileMap) := by
  intro p hp; simp at hp

theorem analyzeLine_mapOk (a : Analysis F) (i : Nat) (line : Str) (h : MapOk a.map) :
    MapOk (analyzeLine a i line).map := by
  rw [analyzeLine_eq]
  intro p hp
  rcases List.mem_append.mp hp with hp | hp
  · obtain ⟨r, hr, hs⟩ := h p hp
    exact ⟨r, by simpa [List.getElem?_append_left (List.getElem?_eq_some_iff.mp hr).1] using hr, hs⟩
  · -- the new entry points at the record just appended, which has token ranges
    cases he : C15.lineEdit F line with
    | none => rw [he] at hp; cases hp
    | some e =>
      obtain ⟨n, ts⟩ := e
      obtain ⟨k, rts, hemp, hpn, ht, _, _⟩ := lineEdit_some he
      rw [he] at hp
      cases List.mem_singleton.mp hp
      exact ⟨lineRangesOf F line, by simp, by rw [lineRangesOf_of_ok hemp hpn ht]; rfl⟩

theorem analyzeLines_mapOk (a : Analysis F) (i : Nat) (lines : List Str) (h : MapOk a.map) :
    MapOk (analyzeLines a i lines).map := by
  induction lines generalizing a i with
  | nil => exact h
  | cons l ls ih => exact ih _ _ (analyzeLine_mapOk a i l h)

/-- what `map_location_to_source` returns: a token range of the file line the map sends the BASIC line to (the last
    one when the index is one past the end) -/
theorem mapLoc_eq_some {m : FileMap} {loc : Loc} {f a b : Nat} :
    m.mapLoc loc = some (f, a, b) ↔
      ∃ n r trs, loc.line = some n ∧ m.lookup n = some f ∧ m.ranges[f]? = some r ∧ r.tokenRanges = some trs ∧
        trs[if loc.idx == trs.length && !trs.isEmpty then trs.length - 1 else loc.idx]? = some (a, b) := by
  constructor
  · intro h
    unfold FileMap.mapLoc at h
    split at h
    · cases h
    · rename_i n hn
      split at h
      · cases h
      · rename_i f' hf
        split at h
        · cases h
        · rename_i r hr
          split at h
          · cases h
          · rename_i trs ht
            obtain ⟨⟨x, y⟩, hp, he⟩ := Option.map_eq_some_iff.mp h
            cases he
            exact ⟨n, r, trs, hn, hf, hr, ht, hp⟩
  · rintro ⟨n, r, trs, hn, hf, hr, ht, hp⟩
    simp only [FileMap.mapLoc, hn, hf, hr, ht, hp, Option.map_some]

theorem mapLoc_line_exists (m : FileMap) (loc : Loc) (f a b : Nat) (h : m.mapLoc loc = some (f, a, b)) :
    f < m.ranges.length :=
  let ⟨_, _, _, _, _, hr, _⟩ := mapLoc_eq_some.mp h
  (List.getElem?_eq_some_iff.mp hr).1

def Recorded (r : LineRanges) (x y : Nat) : Prop :=
  (x = 0 ∧ y = r.lineNumberEnd) ∨ r.tokErrRange = some (x, y) ∨ ∃ trs, r.tokenRanges = some trs ∧ (x, y) ∈ trs

/-- Whatever `map_to_source` returns for a diagnostic is one of the ranges recorded for that file line. -/
theorem mapDiag_recorded {m : FileMap} {d : Diag} {f x y : Nat} (h : m.mapDiag d = some (some (f, x, y))) :
    ∃ r, m.ranges[f]? = some r ∧ Recorded r x y := by
  have hloc : ∀ loc, m.mapLoc loc = some (f, x, y) → ∃ r, m.ranges[f]? = some r ∧ Recorded r x y := by
    intro loc h
    obtain ⟨n, r, trs, _, _, hr, ht, hp⟩ := mapLoc_eq_some.mp h
    exact ⟨r, hr, .inr (.inr ⟨trs, ht, List.mem_of_getElem? hp⟩)⟩
  cases d with
  | warning fl loc msg =>
    cases loc with
    | none =>
      simp only [FileMap.mapDiag] at h
      cases hr : m.ranges[fl]? with
      | none => simp [hr] at h
      | some r =>
        simp only [hr, Option.some.injEq, Prod.mk.injEq] at h
        obtain ⟨rfl, rfl, rfl⟩ := h
        exact ⟨r, hr, .inl ⟨rfl, rfl⟩⟩
    | some p => exact hloc _ (by simpa [FileMap.mapDiag] using h)
  | error fl e =>
    simp only [FileMap.mapDiag] at h
    split at h
    · cases hr : m.ranges[fl]? with
      | none => simp [hr] at h
      | some r =>
        simp only [hr, Option.some.injEq, Option.map_eq_some_iff] at h
        obtain ⟨⟨x', y'⟩, hp1, hp⟩ := h
        cases hp
        exact ⟨r, hr, .inr (.inl hp1)⟩
    · split at h
      · exact hloc _ (by simpa using h)
      · simp at h

/-- Non-vacuity: the shape of defect D11 (a statement on line 10, then a bare `10`) keeps the map well formed. -/
example : (analyzeLines (F := Unit) {} 0 ["10 X = Y".toList, "10".toList]).map.basicToFile = [(10, 0)] ∧
          (analyzeLines (F := Unit) {} 0 ["10 X = Y".toList, "10".toList]).lineTokens.length = 2 := by
  decide +kernel

end Abasic.Props.C05
