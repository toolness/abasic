import Abasic.Props.C03Prog
import Abasic.Proofs.Stmt2Image
/-
  C03, the control stack and DATA: FOR / NEXT, GOSUB / RETURN, READ / DATA /
  RESTORE, DIM and assignment to array cells, statement by statement and for
  whole programs.

  The reference semantics is Abasic/Ref/Stmt2.lean (`RStmt2`, `RStmt2.exec`:
  the rules are spelled out in its header) and Abasic/Ref/Prog2.lean (`RStep2`,
  `RSteps2`).  Proved here, about the model of the real code: one activation
  of the statement evaluator on the rendering of a covered statement does what
  `RStmt2.exec` says (`Outcome`, Proofs/Prog2Rel.lean: the variables, arrays,
  loop stack, GOSUB stack, DATA cursor and output it leaves; where the cursor
  goes; which error, on which line); a turn on a colon stutters, a turn on a
  statement is exactly one `RStep2` (`Sim2`: the model's loop records and GOSUB
  frames are the reference ones with token positions for statement indexes — the
  position right behind the FOR / GOSUB statement, `AddrRel`); whole runs, as in
  C03Prog.lean.

  Coverage (`Fits2`): as `Fits`, for the statements of `RStmt2`; the
  statements it adds are not covered as the branch of an IF (a restriction of the
  syntax `RStmt2`), and expressions cannot read array cells (`Ref.Expr` has no
  subscripted variables), so arrays are observed through errors only.
-/
set_option linter.unusedSectionVars false

namespace Abasic.Props.C03
open Abasic Abasic.Ref Abasic.ExprL Abasic.StmtL Abasic.ProgL Abasic.Prog2L Abasic.Stmt2L

variable {F : Type} [NumOps F]

/-- Statement refinement for LET, PRINT, GOTO, END, IF and FOR, NEXT, GOSUB,
    RETURN, READ, DATA, RESTORE, DIM, `LET a(i) = e`: with the model state `σ`
    corresponding to the reference state `r` (`SReady2`: `Mem`, `Env`, `RInv`, the
    cursor on statement `j` of line `n`), one activation of the statement
    evaluator realises the reference step `RStmt2.exec`. -/
theorem stmt2_refines {p : RProgram2 F} {r : RState2 F} {σ : St F} {n j : Nat} {ss : List (RStmt2 F)}
    {s : RStmt2 F} {fuel : Nat} (h : SReady2 p r σ n j ss s fuel) :
    Outcome p σ n ((preToks2 ss j).length + (renderS2 s).length) (renderLine2 ss).length
      (stmtBody (evalN fuel) σ) (s.exec (allData p) n j r).1 (s.exec (allData p) n j r).2 :=
  stmt2_run h

structure Fits2 (p : RProgram2 F) (fuel : Nat) : Prop where
  wf : p.WF
  covered : ∀ l ∈ p, ∀ s ∈ l.2, s.Covered
  depth : ∀ l ∈ p, ∀ s ∈ l.2, sdepth2 s ≤ fuel ∧ sdepth2 s ≤ Extracted.nestingLimit

/-- the cursor against the program counter `(n, j)`: running on line `n`, at the
    first token of statement `j` or (when `j > 0`) on the colon in front of it -/
def Pos2 (p : RProgram2 F) (n j : Nat) (σ : St F) : Prop :=
  σ.state = .running ∧ σ.loc.line = some n ∧
    ∃ ss, p.line n = some ss ∧ j < ss.length ∧
      (σ.loc.idx = (preToks2 ss j).length ∨ (0 < j ∧ σ.loc.idx + 1 = (preToks2 ss j).length))

/-- **The simulation relation.**  While the program runs: `Core2` (`Env`: the
    store holds the lines of the program, warnings and tracing off, nesting 0, no
    user functions; `Mem`: variables, arrays and output are the reference ones,
    the loop stack and the GOSUB stack correspond entry by entry, the DATA
    iterator stands where the reference cursor is; `RInv`) and the cursor stands
    where the program counter says.  After the end: idle, with the reference
    variables, arrays and output. -/
def Sim2 (p : RProgram2 F) (r : RState2 F) (σ : St F) : Prop :=
  match r.pc with
  | none => Final r σ
  | some (n, j) => Core2 p r σ ∧ Pos2 p n j σ

theorem sim2_lands {p : RProgram2 F} {r : RState2 F} {σ : St F} :
    Sim2 p r σ ↔ SeqL.Lands Prog2L.lang p (Core2 p r) (Final r) r.pc σ := by
  unfold Sim2 SeqL.Lands
  cases r.pc <;> exact Iff.rfl

/-- the outcome of a turn (or of RUN) against the outcome of a reference step from `r` -/
def TurnStep2 (p : RProgram2 F) (r : RState2 F) (res : Res F Unit) : RState2 F ⊕ (Err × Nat) → Prop
  | .inl r' => ∃ σ', res = .ok () σ' ∧ Sim2 p r' σ'
  | .inr (e, ln) => ∃ σ' i, res = .err { err := e, loc := some { line := some ln, idx := i } } σ' ∧
      σ'.state = .idle ∧ σ'.out = outRecs r.out

theorem turnStep2_of_seq {p : RProgram2 F} {r r' : RState2 F} {σ : St F} {m : M F Unit}
    {x : Option (Nat × Nat) ⊕ (Err × Nat)} (hout : σ.out = outRecs r.out)
    (h : SeqL.StepsTo Prog2L.lang p (Core2 p r') (Final r') (fun _ => False) σ (m σ) x) :
    TurnStep2 p r (postprocess m σ) (x.map (fun pc => { r' with pc := pc }) id) := by
  cases x with
  | inl pc =>
    obtain ⟨σ', hσ', hland⟩ := h
    refine ⟨σ', C01.postprocess_of_ok hσ', sim2_lands.2 ?_⟩
    cases pc with
    | none => exact hland
    | some nj => exact ⟨hland.1.pc _, hland.2⟩
  | inr eln =>
    obtain ⟨e, ln⟩ := eln
    obtain ⟨σ', te, l, hσ', ho, hpop, hl⟩ := h
    rcases hl with hl | ⟨_, hf, _⟩
    · refine ⟨{ σ' with state := .idle }, l.idx, ?_, rfl, by show σ'.out = _; rw [ho, hout]⟩
      unfold postprocess
      rw [hσ']
      show Res.err (σ'.populate te) _ = _
      rw [hpop, ← hl]
    · exact hf.elim

theorem sready_turn {p : RProgram2 F} {fuel : Nat} (hfit : Fits2 p fuel) {r : RState2 F} {σ : St F}
    (hc : Core2 p r σ) {n j : Nat} {ss : List (RStmt2 F)} {s : RStmt2 F}
    (hl : p.line n = some ss) (hs : ss[j]? = some s)
    (hloc : σ.loc = { line := some n, idx := (preToks2 ss j).length }) :
    SReady2 p r (mv { σ with state := .running } 0 (σ.reads + 1)) n j ss s fuel where
  wf := hfit.wf
  env := ⟨hc.env.lines, hc.env.warnings, hc.env.tracing, hc.env.nesting, hc.env.fns⟩
  mem := ⟨hc.mem.vars, hc.mem.arrays, hc.mem.loops, hc.mem.stack, hc.mem.data, hc.mem.out⟩
  inv := hc.inv
  line := hl
  stmt := hs
  locline := by show σ.loc.line = _; rw [hloc]
  idx := by show σ.loc.idx + 0 = _; rw [hloc]; rfl
  fuel := (hfit.depth _ (line_mem hl) s (List.mem_of_getElem? hs)).1
  nest := (hfit.depth _ (line_mem hl) s (List.mem_of_getElem? hs)).2
  covered := hfit.covered _ (line_mem hl) s (List.mem_of_getElem? hs)

theorem rns2_refines {p : RProgram2 F} {fuel : Nat} (hfit : Fits2 p fuel) {r : RState2 F} {σ : St F}
    (hc : Core2 p r σ) {n j : Nat} {ss : List (RStmt2 F)} {s : RStmt2 F}
    (hpc : r.pc = some (n, j)) (hl : p.line n = some ss) (hs : ss[j]? = some s)
    (hloc : σ.loc = { line := some n, idx := (preToks2 ss j).length }) :
    TurnStep2 p r (postprocess (runNextStatement fuel) σ) (RStep2 p r) := by
  rw [rstep_seq hpc hl hs]
  exact turnStep2_of_seq hc.mem.out (SeqL.turn (frame p _) hfit.wf.seq hc.env.lines.seq hl hs hloc
    (outcome_seq (σ := C17.turnStart σ) ⟨hc.env.lines, hc.env.warnings, hc.env.tracing, hc.env.nesting, hc.env.fns⟩
      rfl (exec2_inv (allData p) n j hc.inv s) (by show σ.loc.line = _; rw [hloc])
      (stmt2_run (sready_turn hfit hc hl hs hloc))))

/-- **A turn on a colon.**  With the cursor on the colon in front of the
    statement the reference machine is at, a turn succeeds, moves the cursor to
    the first token of that statement and changes nothing else the simulation
    relation sees: the reference machine does not move. -/
theorem turn2_colon {p : RProgram2 F} {fuel : Nat} {r : RState2 F} {σ : St F}
    (h : Sim2 p r σ) {n j : Nat} {ss : List (RStmt2 F)} (hpc : r.pc = some (n, j)) (hl : p.line n = some ss)
    (hidx : σ.loc.idx + 1 = (preToks2 ss j).length) :
    ∃ σ', continueEvaluating fuel σ = .ok () σ' ∧ Sim2 p r σ' ∧ σ'.loc.idx = (preToks2 ss j).length := by
  have hL := sim2_lands.1 h
  rw [hpc] at hL
  obtain ⟨σ', h1, h2, h3⟩ := SeqL.colon_lands (frame p r) (fuel := fuel) hL hl hidx
  exact ⟨σ', h1, sim2_lands.2 (by rw [hpc]; exact h2), h3⟩

/-- **A turn on a statement is one reference step.**  With the cursor on the
    first token of the statement at the program counter, `continueEvaluating`
    does what `RStep2` says: on `.inl r'` it succeeds in a state related to `r'`;
    on `.inr (e, ln)` it fails with `e` located on line `ln` (for DATA TYPE
    MISMATCH: the line of the DATA statement), the interpreter is idle and the
    failing statement has printed nothing. -/
theorem turn2_refines {p : RProgram2 F} {fuel : Nat} (hfit : Fits2 p fuel) {r : RState2 F} {σ : St F}
    (h : Sim2 p r σ) {n j : Nat} {ss : List (RStmt2 F)} (hpc : r.pc = some (n, j)) (hl : p.line n = some ss)
    (hidx : σ.loc.idx = (preToks2 ss j).length) :
    TurnStep2 p r (continueEvaluating fuel σ) (RStep2 p r) := by
  unfold Sim2 at h
  rw [hpc] at h
  obtain ⟨hc, hrun, hline, ss', hl', hj, _⟩ := h
  rw [hl] at hl'
  cases hl'
  rw [C09.continue_is_one_turn fuel σ hrun]
  exact rns2_refines hfit hc hpc hl (List.getElem?_eq_getElem hj) (by rw [← hidx, ← hline])

/-- what RUN needs of the state it is typed into -/
structure PReady2 (p : RProgram2 F) (σ : St F) : Prop where
  idle : σ.state = .idle
  lines : Holds σ.lines p
  warnings : σ.warnings = false
  tracing : σ.tracing = false
  nesting : σ.nesting = 0
  out : σ.out = []

theorem rinv_start (p : RProgram2 F) : RInv p.start :=
  ⟨fun k v h => by simp [RProgram2.start, alGet] at h, fun k a h => by simp [RProgram2.start, alGet] at h⟩

theorem run_no_lines (fuel : Nat) {σ : St F} (hfirst : σ.lines.first = none) (hout : σ.out = []) :
    ∃ σ', runNextStatement fuel (runInit σ) = .ok () σ' ∧
      σ'.state = .idle ∧ σ'.vars = [] ∧ σ'.arrays = [] ∧ σ'.out = [] := by
  refine ⟨_, turn_imm fuel (runInit σ) (by rw [runInit_none hfirst]; rfl) (by rw [runInit_none hfirst]; rfl),
    rfl, ?_, ?_, ?_⟩ <;> rw [runInit_none hfirst]
  · rfl
  · rfl
  · exact hout

/-- **RUN is the first reference step**: it clears variables, arrays, both
    stacks and the DATA cursor, puts the cursor on the first line and runs its
    first statement in the same call. -/
theorem run2_start {p : RProgram2 F} {fuel : Nat} (hfit : Fits2 p fuel) {σ : St F} (h : PReady2 p σ) :
    TurnStep2 p p.start (startEvaluating fuel "RUN".toList σ) (RStep2 p p.start) := by
  rw [startEvaluating_run fuel σ h.idle]
  cases hf : p.first with
  | none =>
    have hp : p = [] := by cases p with | nil => rfl | cons _ _ => cases hf
    subst hp
    obtain ⟨σ', hσ', hfin⟩ := run_no_lines fuel (σ := σ) (by rw [holds_first h.lines]; rfl) h.out
    exact ⟨σ', C01.postprocess_of_ok hσ', hfin⟩
  | some n =>
    obtain ⟨ss, hl, hlen, hinit⟩ := runInit_line hfit.wf.seq h.lines.seq hf
    have hc : Core2 p p.start (runInit σ) := by
      rw [hinit]
      exact ⟨⟨h.lines, h.warnings, h.tracing, h.nesting, rfl⟩, ⟨rfl, rfl, Rel2.nil, Rel2.nil, rfl, h.out⟩, rinv_start p⟩
    exact rns2_refines hfit hc (by show (p.first.map fun n => (n, 0)) = _; rw [hf]; rfl) hl
      (List.getElem?_eq_getElem hlen) (by rw [hinit])

/-- the outcome of a run of the model against the outcome of a run of the
    reference machine: related states, or the same error on the same line with
    the same PRINT records before it -/
def RunMatch2 (p : RProgram2 F) (res : Res F Unit) : RState2 F ⊕ (Err × Nat × List Str) → Prop
  | .inl r' => ∃ σ', res = .ok () σ' ∧ Sim2 p r' σ'
  | .inr (e, ln, out) => ∃ σ' i, res = .err { err := e, loc := some { line := some ln, idx := i } } σ' ∧
      σ'.state = .idle ∧ σ'.out = outRecs out

theorem rsteps2_iterates (p : RProgram2 F) : RunSim.Iterates (RStep2 p) (fun r x => (x.1, x.2, r.out)) (RSteps2 p) :=
  ⟨fun _ => rfl, fun _ _ _ h => by simp only [RSteps2, h], fun _ _ _ h => by simp only [RSteps2, h]⟩

theorem turnStep2_run {p : RProgram2 F} {r : RState2 F} {res : Res F Unit} (h : TurnStep2 p r res (RStep2 p r)) :
    RunMatch2 p res (RSteps2 p 1 r) := by
  unfold RSteps2
  cases hs : RStep2 p r <;> rw [hs] at h <;> exact h

theorem run2_machine {p : RProgram2 F} {fuel : Nat} (hfit : Fits2 p fuel) :
    SeqL.Run Prog2L.lang p fuel RState2.pc (RStep2 p) (fun r x => (x.1, x.2, r.out)) (RSteps2 p) (Core2 p) Final
      (fun _ => True) (RunMatch2 p) where
  iter := rsteps2_iterates p
  ended h := by simp only [RStep2, h]
  keeps _ _ := trivial
  frame := frame p
  idle h := h.1
  ok := exists_congr fun _ => and_congr_right fun _ => sim2_lands
  err {_ x} h := by obtain ⟨e, ln, o⟩ := x; obtain ⟨σ, i, h, _⟩ := h; exact ⟨_, σ, h⟩
  turn _ hpc h hl hidx := turnStep2_run (turn2_refines hfit (sim2_lands.2 (hpc ▸ h)) hpc hl hidx)

/-- **Whole runs, by turns.**  RUN followed by `k` turns of the host loop does
    what `n` reference steps from the start of the program do, for some `n`
    between 1 and `k + 1`. -/
theorem run2_refines {p : RProgram2 F} {fuel : Nat} (hfit : Fits2 p fuel) {σ : St F} (h : PReady2 p σ) (k : Nat) :
    ∃ n, 1 ≤ n ∧ n ≤ k + 1 ∧ RunMatch2 p (runTurns fuel k σ) (RSteps2 p n p.start) :=
  RunSim.run_by_turns (run2_machine hfit).zero (run2_machine hfit).turn_cases
    ((run2_machine hfit).first (turnStep2_run (run2_start hfit h)) trivial) k

/-- **Whole runs, by reference steps.**  `n + 1` reference steps from the start of
    the program are RUN followed by some `k ≤ 2 n` turns of the host loop. -/
theorem run2_refines_steps {p : RProgram2 F} {fuel : Nat} (hfit : Fits2 p fuel) {σ : St F} (h : PReady2 p σ)
    (n : Nat) : ∃ k, k ≤ 2 * n ∧ RunMatch2 p (runTurns fuel k σ) (RSteps2 p (n + 1) p.start) :=
  RunSim.run_by_steps (run2_machine hfit).zero (run2_machine hfit).turn_cases
    ((run2_machine hfit).first (turnStep2_run (run2_start hfit h)) trivial) n

/-- **A program that ends, ends the same way in the model**: if the reference
    machine has reached its end after `n + 1` steps, then RUN and some `k ≤ 2 n`
    turns leave the interpreter idle, holding the reference variables and arrays,
    and the host takes exactly the reference PRINT records from the output queue. -/
theorem run2_ends {p : RProgram2 F} {fuel : Nat} (hfit : Fits2 p fuel) {σ : St F} (h : PReady2 p σ) (n : Nat)
    {r' : RState2 F} (hr : RSteps2 p (n + 1) p.start = .inl r') (hend : r'.pc = none) :
    ∃ k σ', k ≤ 2 * n ∧ runTurns fuel k σ = .ok () σ' ∧ σ'.state = .idle ∧ σ'.vars = r'.vars ∧
      σ'.arrays = r'.arrays ∧ (takeOutput σ').1 = r'.out.map Out.print := by
  obtain ⟨k, hk, hm⟩ := run2_refines_steps hfit h n
  rw [hr] at hm
  obtain ⟨σ', hσ', hsim⟩ := hm
  unfold Sim2 at hsim
  rw [hend] at hsim
  exact ⟨k, σ', hk, hσ', hsim.1, hsim.2.1, hsim.2.2.1, takeOutput_outRecs hsim.2.2.2⟩

/-- **A program that fails, fails the same way in the model**: the same error,
    attributed to the same line, after the same printed output. -/
theorem run2_fails {p : RProgram2 F} {fuel : Nat} (hfit : Fits2 p fuel) {σ : St F} (h : PReady2 p σ) (n : Nat)
    {e : Err} {ln : Nat} {out : List Str} (hr : RSteps2 p (n + 1) p.start = .inr (e, ln, out)) :
    ∃ k σ' i, k ≤ 2 * n ∧
      runTurns fuel k σ = .err { err := e, loc := some { line := some ln, idx := i } } σ' ∧
      σ'.state = .idle ∧ (takeOutput σ').1 = out.map Out.print := by
  obtain ⟨k, hk, hm⟩ := run2_refines_steps hfit h n
  rw [hr] at hm
  obtain ⟨σ', i, hσ', hidle, hout⟩ := hm
  exact ⟨k, σ', i, hk, hσ', hidle, takeOutput_outRecs hout⟩

/-! ### non-vacuity (on the degenerate carrier `Unit`: every number is `()`, `toU64 () = 0`, every comparison holds) -/

theorem ready2_compile (p : RProgram2 Unit) : PReady2 p ({ lines := compileP2 p } : St Unit) :=
  ⟨rfl, holds_compile p, rfl, rfl, rfl, rfl⟩

def errOf2 {α : Type} : Res Unit α → Option TErr
  | .ok _ _ => none
  | .err e _ => some e

/-- `0 GOSUB 0` -/
def gosubProg : RProgram2 Unit := [ (0, [.gosubS 0]) ]

theorem gosub_fits : Fits2 gosubProg defaultFuel where
  wf := ⟨by decide, by simp [gosubProg]⟩
  covered := by simp [gosubProg, RStmt2.Covered, NumOps.toU64]
  depth := by simp [gosubProg, sdepth2]

/-- the reference machine: 32 frames are pushed, the 33rd GOSUB is OUT OF MEMORY on line 0 -/
theorem gosub_ref : RSteps2 gosubProg 33 gosubProg.start = .inr (.oomStack, 0, []) := rfl

/-- by computation on the model: RUN and 32 turns end in OUT OF MEMORY located on line 0 -/
example : errOf2 (runTurns defaultFuel 32 ({ lines := compileP2 gosubProg } : St Unit)) =
    some { err := .oomStack, loc := some { line := some 0, idx := 1 } } := by
  decide +kernel

/-- … and the same by the theorems -/
example : ∃ k σ' i, k ≤ 64 ∧ runTurns defaultFuel k ({ lines := compileP2 gosubProg } : St Unit) =
      .err { err := .oomStack, loc := some { line := some 0, idx := i } } σ' ∧ σ'.state = .idle :=
  let ⟨k, σ', i, hk, hr, hi, _⟩ := run2_fails gosub_fits (ready2_compile gosubProg) 32 gosub_ref
  ⟨k, σ', i, hk, hr, hi⟩

/-- ```
    10 READ A$, B$ : PRINT A$; : PRINT B$;
    20 DATA "X", 0
    30 RESTORE : READ C$ : PRINT C$; : END
    ``` -/
def dataProg : RProgram2 Unit :=
  [ (10, [.readS [['A', '$'], ['B', '$']], .printS [.expr (.var ['A', '$']), .semi],
          .printS [.expr (.var ['B', '$']), .semi]]),
    (20, [.dataS [.str ['X'], .num ()]]),
    (30, [.restoreS, .readS [['C', '$']], .printS [.expr (.var ['C', '$']), .semi], .endS]) ]

theorem data_fits : Fits2 dataProg defaultFuel where
  wf := ⟨by decide, by simp [dataProg]⟩
  covered := by simp [dataProg, RStmt2.Covered, RStmt.Covered, separated]
  depth := by simp [dataProg, sdepth2, sdepth, itemsDepth, depth, defaultFuel, Extracted.nestingLimit]

/-- the reference machine: eight steps to the end; the number read into `B$` is stored as its text -/
theorem data_ref : ∃ r', RSteps2 dataProg 8 dataProg.start = .inl r' ∧ r'.pc = none ∧
    r'.out = [['X'], ['0'], ['X']] := ⟨_, rfl, rfl, rfl⟩

/-- by the theorems: the model ends idle having printed `X`, `0`, `X` -/
example : ∃ k σ', k ≤ 14 ∧ runTurns defaultFuel k ({ lines := compileP2 dataProg } : St Unit) = .ok () σ' ∧
    σ'.state = .idle ∧ (takeOutput σ').1 = [.print ['X'], .print ['0'], .print ['X']] := by
  obtain ⟨r', hr, hend, hout⟩ := data_ref
  obtain ⟨k, σ', hk, hrun, hidle, _, _, ho⟩ := run2_ends data_fits (ready2_compile dataProg) 7 hr hend
  exact ⟨k, σ', hk, hrun, hidle, by rw [ho, hout]; rfl⟩

/-- ```
    10 READ A
    20 DATA "X"
    ``` -/
def dtmProg : RProgram2 Unit := [ (10, [.readS [['A']]]), (20, [.dataS [.str ['X']]]) ]

theorem dtm_fits : Fits2 dtmProg defaultFuel where
  wf := ⟨by decide, by simp [dtmProg]⟩
  covered := by simp [dtmProg, RStmt2.Covered]
  depth := by simp [dtmProg, sdepth2]

/-- the reference machine: DATA TYPE MISMATCH, reported for the line of the DATA statement -/
theorem dtm_ref : RSteps2 dtmProg 1 dtmProg.start = .inr (.dataTypeMismatch, 20, []) := rfl

/-- by the theorems: RUN fails with DATA TYPE MISMATCH located on line 20 (the READ is on line 10) -/
example : ∃ σ' i, runTurns defaultFuel 0 ({ lines := compileP2 dtmProg } : St Unit) =
      .err { err := .dataTypeMismatch, loc := some { line := some 20, idx := i } } σ' ∧ σ'.state = .idle := by
  obtain ⟨k, σ', i, hk, hr, hi, _⟩ := run2_fails dtm_fits (ready2_compile dtmProg) 0 dtm_ref
  have : k = 0 := by omega
  subst this
  exact ⟨σ', i, hr, hi⟩

/-- `10 FOR I = 0 TO 0 : PRINT "A"; : NEXT I` -/
def forProg : RProgram2 Unit :=
  [ (10, [.forS ['I'] (.num ()) (.num ()) none, .printS [.expr (.str ['A']), .semi], .nextS ['I']]) ]

theorem for_fits : Fits2 forProg defaultFuel where
  wf := ⟨by decide, by simp [forProg]⟩
  covered := by simp [forProg, RStmt2.Covered, RStmt.Covered, separated]
  depth := by simp [forProg, sdepth2, sdepth, itemsDepth, depth, defaultFuel, Extracted.nestingLimit]

/-- the reference machine (on `Unit` every comparison holds, so the loop repeats): after
    FOR, PRINT, NEXT, PRINT, NEXT, PRINT it stands on the NEXT, one loop open, `AAA` printed -/
theorem for_ref : ∃ r', RSteps2 forProg 6 forProg.start = .inl r' ∧ r'.pc = some (10, 2) ∧
    r'.out = [['A'], ['A'], ['A']] ∧ r'.loops.length = 1 := ⟨_, rfl, rfl, rfl, rfl⟩

/-- by the theorems: within 10 turns after RUN the model is running on line 10 with `AAA` in the
    output queue and one loop record -/
example : ∃ k σ', k ≤ 10 ∧ runTurns defaultFuel k ({ lines := compileP2 forProg } : St Unit) = .ok () σ' ∧
    σ'.state = .running ∧ σ'.loc.line = some 10 ∧ (takeOutput σ').1 = [.print ['A'], .print ['A'], .print ['A']] ∧
    σ'.loops.length = 1 := by
  obtain ⟨r', hr, hpc, hout, hloops⟩ := for_ref
  obtain ⟨k, hk, hm⟩ := run2_refines_steps for_fits (ready2_compile forProg) 5
  rw [hr] at hm
  obtain ⟨σ', hσ', hsim⟩ := hm
  unfold Sim2 at hsim
  rw [hpc] at hsim
  obtain ⟨hc, hrun, hline, _⟩ := hsim
  refine ⟨k, σ', hk, hσ', hrun, hline, ?_, ?_⟩
  · rw [takeOutput_outRecs hc.mem.out, hout]; rfl
  · rw [← hc.mem.loops.length, hloops]

/-- `10 LET A(0,0,0,0) = 0` -/
def arr4Prog : RProgram2 Unit :=
  [ (10, [.letCellS ['A'] [.num (), .num (), .num (), .num ()] (.num ())]) ]

def arr4Lines : Lines Unit :=
  { map := [ (10, [.kw .Let, .symbol ['A'], .kw .LeftParen, .num (), .kw .Comma, .num (), .kw .Comma, .num (),
                   .kw .Comma, .num (), .kw .RightParen, .kw .Equals, .num ()]) ],
    sorted := [10] }

theorem arr4_compile : compileP2 arr4Prog = arr4Lines := by
  simp [compileP2, arr4Prog, arr4Lines, renderLine2, renderTail2, renderS2, renderSubs2, render_num]

/-- An array with four subscripts cannot be used without DIM: the implicit array
    would have 11⁴ = 14641 cells, more than the cap of 10000 — OUT OF MEMORY.
    By the reference machine, and by computation on the model. -/
theorem implicit_4d_oom :
    RSteps2 arr4Prog 1 arr4Prog.start = .inr (.oomArray, 10, []) ∧
    errOf2 (runTurns defaultFuel 0 ({ lines := compileP2 arr4Prog } : St Unit)) =
      some { err := .oomArray, loc := some { line := some 10, idx := 12 } } := by
  refine ⟨rfl, ?_⟩
  rw [arr4_compile]
  decide +kernel

/-- `10 LET A(0) = 0 : DIM A(0)` -/
def redimProg : RProgram2 Unit :=
  [ (10, [.letCellS ['A'] [.num ()] (.num ()), .dimS ['A'] [.num ()]]) ]

def redimLines : Lines Unit :=
  { map := [ (10, [.kw .Let, .symbol ['A'], .kw .LeftParen, .num (), .kw .RightParen, .kw .Equals, .num (),
                   .kw .Colon, .kw .Dim, .symbol ['A'], .kw .LeftParen, .num (), .kw .RightParen]) ],
    sorted := [10] }

theorem redim_compile : compileP2 redimProg = redimLines := by
  simp [compileP2, redimProg, redimLines, renderLine2, renderTail2, renderS2, renderSubs2, render_num]

/-- DIM of an array that was created implicitly by an earlier use is REDIM'D ARRAY. -/
theorem implicit_then_dim :
    RSteps2 redimProg 2 redimProg.start = .inr (.redimensionedArray, 10, []) ∧
    errOf2 (runTurns defaultFuel 2 ({ lines := compileP2 redimProg } : St Unit)) =
      some { err := .redimensionedArray, loc := some { line := some 10, idx := 12 } } := by
  refine ⟨rfl, ?_⟩
  rw [redim_compile]
  decide +kernel

end Abasic.Props.C03
