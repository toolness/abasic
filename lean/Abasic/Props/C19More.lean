import Abasic.Props.C19
import Abasic.Proofs.LoadLine
import Abasic.Proofs.TokFast
/-
  C19, continued — the page script and the adapter add no trap of their own.

  `Reach fuel s0` is the set of core states reachable from `s0` (or from a fresh
  interpreter) by protocol-respecting call sequences (the ones the page
  generates); `CoreTotal fuel s0` — "no such call panics" — is an explicit
  hypothesis here (`s0 = {}`: from the interpreter as created) and is proved in
  C01WF.lean (`C01.coreTotal`).  Under it, every page event
  from a state satisfying `PageInv` returns a state satisfying `PageInv`
  (`page_step_inv`), hence every admissible event sequence from the initial page
  does (`page_events_inv`); the proof shows at every adapter call that the
  adapter's own assertion (`latest_error.is_none()`), the state assertion of the
  core entry point (Idle / Running / AwaitingInput) and the `get_state` panic on
  the transient state cannot fire.
-/
namespace Abasic.Props.C19
open Abasic

variable {F : Type} [NumOps F] {s0 : St F}

/-- Core states reachable through protocol-respecting host calls (start only when Idle,
    continue only when Running, reply only when AwaitingInput, break only when Running or
    AwaitingInput, take-output any time, replacement by a fresh interpreter after NEW),
    never continuing after a panic. -/
inductive Reach (fuel : Nat) (s0 : St F) : St F → Prop
  | base : Reach fuel s0 s0
  | init : Reach fuel s0 {}
  | startOk {s s' : St F} {line : Str} {a : Unit} :
      Reach fuel s0 s → s.state = .idle → Abasic.startEvaluating fuel line s = .ok a s' → Reach fuel s0 s'
  | startErr {s s' : St F} {line : Str} {e : TErr} :
      Reach fuel s0 s → s.state = .idle → Abasic.startEvaluating fuel line s = .err e s' →
      e.err.isPanic = false → Reach fuel s0 s'
  | contOk {s s' : St F} {a : Unit} :
      Reach fuel s0 s → s.state = .running → Abasic.continueEvaluating fuel s = .ok a s' → Reach fuel s0 s'
  | contErr {s s' : St F} {e : TErr} :
      Reach fuel s0 s → s.state = .running → Abasic.continueEvaluating fuel s = .err e s' →
      e.err.isPanic = false → Reach fuel s0 s'
  | input {s s' : St F} {text : Str} {a : Unit} :
      Reach fuel s0 s → s.state = .awaitingInput → Abasic.provideInput text s = .ok a s' → Reach fuel s0 s'
  | brk {s s' : St F} {a : Unit} :
      Reach fuel s0 s → (s.state = .running ∨ s.state = .awaitingInput) →
      breakAtCurrentLocation s = .ok a s' → Reach fuel s0 s'
  | take {s : St F} : Reach fuel s0 s → Reach fuel s0 (Abasic.takeOutput s).2

/-- C01's no-panic statement, as a hypothesis (proved as `C01.coreTotal`): on reachable states, `start_evaluating` called when Idle
    and `continue_evaluating` called when Running do not panic, and rendering the caret lines of a
    reported error does not panic either (`get_line_with_pointer_caret`'s `unwrap`). -/
def CoreTotal (fuel : Nat) (s0 : St F) : Prop :=
  ∀ s : St F, Reach fuel s0 s →
    (s.state = .idle → ∀ line e s', Abasic.startEvaluating fuel line s = .err e s' →
        e.err.isPanic = false ∧ (caretLines s' e (some line)).isSome = true) ∧
    (s.state = .running → ∀ e s', Abasic.continueEvaluating fuel s = .err e s' → e.err.isPanic = false)

def promptFor (p : Page F) : Str :=
  if p.js.core.state = .awaitingInput then "? ".toList
  else if p.interactive then "] ".toList else "<disabled>".toList

/-- What holds between two page events. -/
structure PageInv (fuel : Nat) (s0 : St F) (p : Page F) : Prop where
  /-- the core has only seen protocol-respecting calls -/
  reach : Reach fuel s0 p.js.core
  /-- the transient new-interpreter state is never left exposed (`get_state` cannot panic) -/
  notTransient : p.js.core.state ≠ .newRequested
  /-- an unhandled latched error ⇒ a timer callback that will handle it is pending, and the core is idle -/
  latched : p.js.latest.isSome = true → 0 < p.ticks ∧ p.js.core.state = .idle
  /-- a running program ⇒ a timer callback that will continue it is pending -/
  running : p.js.core.state = .running → 0 < p.ticks
  /-- no callback pending ⇒ the last thing shown is the prompt that matches the core's state
      (nothing at all has been shown on the initial page) -/
  prompt : p.ticks = 0 → p.ui = [] ∨ p.ui.getLast? = some ("prompt", promptFor p)
  /-- no callback pending ⇒ every output record of the core has been shown -/
  shown : p.ticks = 0 → p.js.core.out = []

def StartOk (j : Js F) : Prop := j.latest = none ∧ j.core.state = .idle

omit [NumOps F] in
theorem getState_idle_iff (j : Js F) : j.getState = some .idle ↔ StartOk j := by
  unfold StartOk Js.getState
  cases hl : j.latest <;> cases hs : j.core.state <;> simp

omit [NumOps F] in
theorem getState_awaiting_iff (j : Js F) :
    j.getState = some .awaitingInput ↔ (j.latest = none ∧ j.core.state = .awaitingInput) := by
  unfold Js.getState
  cases hl : j.latest <;> cases hs : j.core.state <;> simp

omit [NumOps F] in
theorem getState_running_iff (j : Js F) :
    j.getState = some .running ↔ (j.latest = none ∧ j.core.state = .running) := by
  unfold Js.getState
  cases hl : j.latest <;> cases hs : j.core.state <;> simp

omit [NumOps F] in
theorem getState_errored_iff (j : Js F) : j.getState = some .errored ↔ j.latest.isSome = true := by
  unfold Js.getState
  cases hl : j.latest <;> cases hs : j.core.state <;> simp

omit [NumOps F] in
theorem getState_none_iff (j : Js F) :
    j.getState = none ↔ (j.latest = none ∧ j.core.state = .newRequested) := by
  unfold Js.getState
  cases hl : j.latest <;> cases hs : j.core.state <;> simp

theorem reach_replace (fuel : Nat) {s : St F} (hr : Reach fuel s0 s) : Reach fuel s0 (Js.maybeReplace s) := by
  unfold Js.maybeReplace
  split
  · exact .init
  · exact hr

/-- `start_evaluating` asked while nothing is latched and the core is idle: no trap. -/
theorem js_start_total (fuel : Nat) (hc : CoreTotal fuel s0) (line : Str) (j : Js F)
    (hr : Reach fuel s0 j.core) (hok : StartOk j) :
    ∃ j', j.startEvaluating fuel line = some j' ∧ Reach fuel s0 j'.core ∧ j'.core.state ≠ .newRequested ∧
      ((j'.latest = none ∧ ∃ a s, Abasic.startEvaluating fuel line j.core = .ok a s ∧
          j'.core = Js.maybeReplace s) ∨
       (j'.latest.isSome = true ∧ j'.core.state = .idle)) := by
  obtain ⟨hl, hi⟩ := hok
  cases h : Abasic.startEvaluating fuel line j.core with
  | ok a s =>
    refine ⟨{ core := Js.maybeReplace s, latest := none }, ?_, reach_replace fuel (.startOk hr hi h),
      replaced_not_transient s, Or.inl ⟨rfl, a, s, rfl, rfl⟩⟩
    simp [Js.startEvaluating, hl, h]
  | err e s =>
    obtain ⟨hp, hcar⟩ := (hc j.core hr).1 hi line e s h
    have hidle : s.state = .idle := C01.start_error_is_value fuel line _ _ e h
    cases hcl : caretLines s e (some line) with
    | none => rw [hcl] at hcar; simp at hcar
    | some ls =>
      refine ⟨{ core := s, latest := some (joinWith ['\n'] (errText e :: ls)) }, ?_,
        .startErr hr hi h hp, ?_, Or.inr ⟨rfl, hidle⟩⟩
      · simp [Js.startEvaluating, hl, h, hp, hcl]
      · show s.state ≠ _
        rw [hidle]; simp

/-- `continue_evaluating` asked while nothing is latched and the core is running: no trap. -/
theorem js_continue_total (fuel : Nat) (hc : CoreTotal fuel s0) (j : Js F)
    (hr : Reach fuel s0 j.core) (hl : j.latest = none) (hi : j.core.state = .running) :
    ∃ j', j.continueEvaluating fuel = some j' ∧ Reach fuel s0 j'.core ∧ j'.core.state ≠ .newRequested ∧
      (j'.latest = none ∨ (j'.latest.isSome = true ∧ j'.core.state = .idle)) := by
  cases h : Abasic.continueEvaluating fuel j.core with
  | ok a s =>
    refine ⟨{ core := Js.maybeReplace s, latest := none }, ?_, reach_replace fuel (.contOk hr hi h),
      replaced_not_transient s, Or.inl rfl⟩
    simp [Js.continueEvaluating, hl, h]
  | err e s =>
    have hp := (hc j.core hr).2 hi e s h
    have hidle : s.state = .idle := C01.cont_error_is_value fuel _ _ e hi h
    refine ⟨{ core := s, latest := some (errText e) }, ?_, .contErr hr hi h hp, ?_, Or.inr ⟨rfl, hidle⟩⟩
    · simp [Js.continueEvaluating, hl, h, hp]
    · show s.state ≠ _
      rw [hidle]; simp

/-- `provide_input` asked while the core awaits input: no trap, and the core is running afterwards. -/
theorem js_provide_total (fuel : Nat) (text : Str) (j : Js F)
    (hr : Reach fuel s0 j.core) (hi : j.core.state = .awaitingInput) :
    ∃ j', j.provideInput text = some j' ∧ Reach fuel s0 j'.core ∧ j'.core.state = .running ∧
      j'.latest = j.latest := by
  have h := C01.reply_total text j.core hi
  refine ⟨{ j with core := { j.core with input := some text, state := .running } }, ?_,
    .input hr hi h, rfl, rfl⟩
  simp [Js.provideInput, h]

/-- `break_at_current_location` never traps and leaves the core idle. -/
theorem js_break_total (fuel : Nat) (j : Js F) (hr : Reach fuel s0 j.core)
    (hs : j.core.state = .running ∨ j.core.state = .awaitingInput) :
    Reach fuel s0 j.breakAt.core ∧ j.breakAt.core.state = .idle ∧ j.breakAt.latest = j.latest := by
  obtain ⟨σ', h, hidle⟩ := C01.break_total j.core
  have : j.breakAt = { j with core := σ' } := by simp [Js.breakAt, h]
  rw [this]
  exact ⟨.brk hr hs h, hidle, rfl⟩

/-- the page after `showOutput()` -/
def afterTake (p : Page F) : Page F :=
  { p with js := (p.js.takeOutput).2, ui := p.ui ++ (p.js.takeOutput).1.map showRecord }

def errorLines (err : Str) : Ui :=
  (splitOnLF err).zipIdx.map fun (l, i) => (if i == 0 then "error" else "error-context", l ++ ['\n'])

theorem handle_succ (fuel n : Nat) (p : Page F) :
    Page.handle fuel (n + 1) p =
      match (afterTake p).js.getState with
      | none => none
      | some .idle => some { afterTake p with ui := (afterTake p).ui ++ [("prompt", if p.interactive then "] ".toList else "<disabled>".toList)] }
      | some .awaitingInput => some { afterTake p with ui := (afterTake p).ui ++ [("prompt", "? ".toList)] }
      | some .errored =>
        match (afterTake p).js.latest with
        | none => none
        | some err =>
          Page.handle fuel n { afterTake p with js := { (afterTake p).js with latest := none }, ui := (afterTake p).ui ++ errorLines err }
      | some .running =>
        match (afterTake p).js.continueEvaluating fuel with
        | none => none
        | some js' => some { afterTake p with js := js', ticks := p.ticks + 1 } := by
  rfl

omit [NumOps F] in
theorem promptFor_idle (p : Page F) (h : p.js.core.state = .idle) :
    promptFor p = if p.interactive then "] ".toList else "<disabled>".toList := by
  unfold promptFor
  rw [if_neg]
  intro h2; rw [h] at h2; cases h2

omit [NumOps F] in
theorem promptFor_awaiting (p : Page F) (h : p.js.core.state = .awaitingInput) :
    promptFor p = "? ".toList := by
  unfold promptFor
  rw [if_pos h]

theorem pageInv_prompted (fuel : Nat) (p : Page F) (hr : Reach fuel s0 p.js.core)
    (hnt : p.js.core.state ≠ .newRequested) (hl : p.js.latest = none) (hrun : p.js.core.state ≠ .running)
    (hout : p.js.core.out = []) :
    PageInv fuel s0 { p with ui := p.ui ++ [("prompt", promptFor p)] } where
  reach := hr
  notTransient := hnt
  latched := fun h => by have h : p.js.latest.isSome = true := h; rw [hl] at h; cases h
  running := fun h => absurd h hrun
  prompt := fun _ => .inr List.getLast?_concat
  shown := fun _ => hout

/-- `handleCurrentState` entered with nothing latched: one round suffices. -/
theorem handle_unlatched (fuel : Nat) (hc : CoreTotal fuel s0) (n : Nat) (p : Page F)
    (hr : Reach fuel s0 p.js.core) (hnt : p.js.core.state ≠ .newRequested) (hl : p.js.latest = none) :
    ∃ p', Page.handle fuel (n + 1) p = some p' ∧ PageInv fuel s0 p' := by
  have hr' : Reach fuel s0 (afterTake p).js.core := Reach.take hr
  have hl' : (afterTake p).js.latest = none := hl
  rw [handle_succ]
  cases hs : p.js.core.state with
  | newRequested => exact absurd hs hnt
  | idle =>
    have hs' : (afterTake p).js.core.state = .idle := hs
    rw [(getState_idle_iff _).2 ⟨hl', hs'⟩]
    refine ⟨_, rfl, ?_⟩
    have := pageInv_prompted fuel (afterTake p) hr' hnt hl' (by rw [hs']; simp) rfl
    rwa [promptFor_idle _ hs'] at this
  | awaitingInput =>
    have hs' : (afterTake p).js.core.state = .awaitingInput := hs
    rw [(getState_awaiting_iff _).2 ⟨hl', hs'⟩]
    refine ⟨_, rfl, ?_⟩
    have := pageInv_prompted fuel (afterTake p) hr' hnt hl' (by rw [hs']; simp) rfl
    rwa [promptFor_awaiting _ hs'] at this
  | running =>
    have hs' : (afterTake p).js.core.state = .running := hs
    obtain ⟨j', hj, hrj, hntj, hlj⟩ := js_continue_total fuel hc (afterTake p).js hr' hl' hs'
    rw [(getState_running_iff _).2 ⟨hl', hs'⟩]
    simp only [hj]
    refine ⟨_, rfl, hrj, hntj, fun h => ?_, fun _ => Nat.succ_pos _, fun h => absurd h (Nat.succ_ne_zero _),
      fun h => absurd h (Nat.succ_ne_zero _)⟩
    rcases hlj with h0 | ⟨_, hi⟩
    · have h : j'.latest.isSome = true := h; rw [h0] at h; cases h
    · exact ⟨Nat.succ_pos _, hi⟩

/-- `handleCurrentState`: two rounds suffice whatever is latched (the page allows itself more). -/
theorem handle_inv (fuel : Nat) (hc : CoreTotal fuel s0) (n : Nat) (p : Page F)
    (hr : Reach fuel s0 p.js.core) (hnt : p.js.core.state ≠ .newRequested) :
    ∃ p', Page.handle fuel (n + 2) p = some p' ∧ PageInv fuel s0 p' := by
  cases hl : p.js.latest with
  | none => exact handle_unlatched fuel hc (n + 1) p hr hnt hl
  | some err =>
    have hl' : (afterTake p).js.latest = some err := hl
    have hg : (afterTake p).js.getState = some .errored := (getState_errored_iff _).2 (by rw [hl']; rfl)
    rw [handle_succ, hg]
    simp only [hl']
    exact handle_unlatched fuel hc n _ (Reach.take hr) hnt rfl

omit [NumOps F] in
theorem replaced_idle (s : St F) (h : s.state = .idle) : (Js.maybeReplace s).state = .idle := by
  unfold Js.maybeReplace
  split
  · rfl
  · exact h

theorem loadLines_cons (fuel : Nat) (l : Str) (ls : List Str) (j : Js F) :
    loadLines fuel (l :: ls) j =
      if jsBlank l then loadLines fuel ls j
      else
        match l with
        | c :: _ =>
          if !isAsciiDigit c then loadLines fuel ls j
          else
            match j.startEvaluating fuel l with
            | none => none
            | some j' => if j'.getState == some .errored then some (j', true) else loadLines fuel ls j'
        | [] => loadLines fuel ls j := by
  rfl

/-- `loadAndRunSourceCode`'s loop: every `start_evaluating` it issues finds the adapter unlatched and
    the core idle (a numbered line leaves the core idle), so it cannot trap. -/
theorem loadLines_inv (fuel : Nat) (hc : CoreTotal fuel s0) (ls : List Str) :
    ∀ (j : Js F), Reach fuel s0 j.core → StartOk j →
    ∃ j' stopped, loadLines fuel ls j = some (j', stopped) ∧ Reach fuel s0 j'.core ∧
      j'.core.state ≠ .newRequested ∧ (stopped = false → StartOk j') := by
  induction ls with
  | nil =>
    intro j hr hok
    refine ⟨j, false, rfl, hr, ?_, fun _ => hok⟩
    rw [hok.2]; simp
  | cons l ls ih =>
    intro j hr hok
    rw [loadLines_cons]
    by_cases hb : jsBlank l = true
    · rw [if_pos hb]; exact ih j hr hok
    · rw [if_neg hb]
      cases l with
      | nil => exact ih j hr hok
      | cons c cs =>
        show ∃ j' stopped, (if (!isAsciiDigit c) = true then loadLines fuel ls j else _) = _ ∧ _
        by_cases hd : isAsciiDigit c = true
        · rw [if_neg (by rw [hd]; simp)]
          obtain ⟨j', hj, hrj, hntj, hcase⟩ := js_start_total fuel hc (c :: cs) j hr hok
          simp only [hj]
          by_cases he : (j'.getState == some JsState.errored) = true
          · rw [if_pos he]
            exact ⟨j', true, rfl, hrj, hntj, fun h => by cases h⟩
          · rw [if_neg he]
            have hok' : StartOk j' := by
              rcases hcase with ⟨hl, a, s, hs, hcore⟩ | ⟨hl, _⟩
              · refine ⟨hl, ?_⟩
                rw [hcore]
                exact replaced_idle s
                  (Proofs.LoadLine.start_digit_line_idle fuel c cs hd j.core s a hok.2 hs)
              · exfalso
                apply he
                rw [(getState_errored_iff j').2 hl]
                rfl
            exact ih j' hrj hok'
        · rw [if_pos (by simpa using hd)]
          exact ih j hr hok

inductive Event where
  | load (text : Str)
  | submit (input : Str)
  | brk
  | tick

/-- one page event (`none` = a trap) -/
def step (fuel : Nat) : Event → Page F → Option (Page F)
  | .load text, p => Page.load fuel text p
  | .submit input, p => Page.submit fuel input p
  | .brk, p => Page.break fuel p
  | .tick, p => Page.tick fuel p

/-- The page loads a program only at start-up, before anything else happened; what the proof needs
    of that moment is that nothing is latched and the core is idle. -/
def Event.admissible (p : Page F) : Event → Prop
  | .load _ => StartOk p.js
  | _ => True

theorem load_inv (fuel : Nat) (hc : CoreTotal fuel s0) (text : Str) (p : Page F)
    (hinv : PageInv fuel s0 p) (hok : StartOk p.js) :
    ∃ p', Page.load fuel text p = some p' ∧ PageInv fuel s0 p' := by
  obtain ⟨j, stopped, hj, hrj, hntj, hst⟩ := loadLines_inv fuel hc (splitLF text) p.js hinv.reach hok
  unfold Page.load
  simp only [hj]
  cases stopped with
  | true =>
    simp only [if_true]
    exact handle_inv fuel hc 2 _ hrj hntj
  | false =>
    obtain ⟨j', hj', hrj', hntj', _⟩ := js_start_total fuel hc "RUN".toList j hrj (hst rfl)
    simp only [Bool.false_eq_true, if_false, hj']
    exact handle_inv fuel hc 2 _ hrj' hntj'

theorem submit_inv (fuel : Nat) (hc : CoreTotal fuel s0) (input : Str) (p : Page F)
    (hinv : PageInv fuel s0 p) :
    ∃ p', Page.submit fuel input p = some p' ∧ PageInv fuel s0 p' := by
  unfold Page.submit
  cases hg : p.js.getState with
  | none => exact absurd ((getState_none_iff _).1 hg).2 hinv.notTransient
  | some st =>
    cases st with
    | idle =>
      obtain ⟨j', hj', hrj', hntj', _⟩ :=
        js_start_total fuel hc input p.js hinv.reach ((getState_idle_iff _).1 hg)
      simp only [hj']
      exact handle_inv fuel hc 2 _ hrj' hntj'
    | awaitingInput =>
      obtain ⟨j', hj', hrj', hsj', _⟩ :=
        js_provide_total fuel input p.js hinv.reach ((getState_awaiting_iff _).1 hg).2
      simp only [hj']
      refine handle_inv fuel hc 2 _ hrj' ?_
      show j'.core.state ≠ _
      rw [hsj']; simp
    | running => exact ⟨p, rfl, hinv⟩
    | errored => exact ⟨p, rfl, hinv⟩

theorem break_inv (fuel : Nat) (hc : CoreTotal fuel s0) (p : Page F) (hinv : PageInv fuel s0 p) :
    ∃ p', Page.break fuel p = some p' ∧ PageInv fuel s0 p' := by
  unfold Page.break
  cases hg : p.js.getState with
  | none => exact absurd ((getState_none_iff _).1 hg).2 hinv.notTransient
  | some st =>
    cases st with
    | idle => exact ⟨p, rfl, hinv⟩
    | errored => exact ⟨p, rfl, hinv⟩
    | awaitingInput =>
      obtain ⟨hrb, hsb, _⟩ := js_break_total fuel p.js hinv.reach (Or.inr ((getState_awaiting_iff _).1 hg).2)
      refine handle_inv fuel hc 2 _ hrb ?_
      show p.js.breakAt.core.state ≠ _
      rw [hsb]; simp
    | running =>
      obtain ⟨hrb, hsb, _⟩ := js_break_total fuel p.js hinv.reach (Or.inl ((getState_running_iff _).1 hg).2)
      refine handle_inv fuel hc 2 _ hrb ?_
      show p.js.breakAt.core.state ≠ _
      rw [hsb]; simp

theorem tick_inv (fuel : Nat) (hc : CoreTotal fuel s0) (p : Page F) (hinv : PageInv fuel s0 p) :
    ∃ p', Page.tick fuel p = some p' ∧ PageInv fuel s0 p' := by
  unfold Page.tick
  by_cases h : (p.ticks == 0) = true
  · rw [if_pos h]; exact ⟨p, rfl, hinv⟩
  · rw [if_neg h]
    exact handle_inv fuel hc 2 _ hinv.reach hinv.notTransient

/-- Every page event preserves the invariant and does not trap, as long as the core does not panic:
    neither the page script nor the adapter adds a trap of its own. -/
theorem page_step_inv (fuel : Nat) (hc : CoreTotal fuel s0) (e : Event) (p : Page F)
    (hinv : PageInv fuel s0 p) (hadm : e.admissible p) :
    ∃ p', step fuel e p = some p' ∧ PageInv fuel s0 p' := by
  cases e with
  | load text => exact load_inv fuel hc text p hinv hadm
  | submit input => exact submit_inv fuel hc input p hinv
  | brk => exact break_inv fuel hc p hinv
  | tick => exact tick_inv fuel hc p hinv

/-- run a sequence of page events (`none` = some event trapped) -/
def run (fuel : Nat) : List Event → Page F → Option (Page F)
  | [], p => some p
  | e :: es, p =>
    match step fuel e p with
    | none => none
    | some p' => run fuel es p'

/-- every event of the sequence is admissible at the moment it happens -/
def Admissible (fuel : Nat) : List Event → Page F → Prop
  | [], _ => True
  | e :: es, p => e.admissible p ∧ ∀ p', step fuel e p = some p' → Admissible fuel es p'

def Event.isLoad : Event → Bool
  | .load _ => true
  | _ => false

theorem pageInv_init (fuel : Nat) : PageInv fuel s0 ({} : Page F) where
  reach := .init
  notTransient := by simp
  latched := by simp
  running := by simp
  prompt := fun _ => Or.inl rfl
  shown := fun _ => rfl

theorem page_events_inv_from (fuel : Nat) (hc : CoreTotal fuel s0) (es : List Event) :
    ∀ p : Page F, PageInv fuel s0 p → Admissible fuel es p →
    ∃ p', run fuel es p = some p' ∧ PageInv fuel s0 p' := by
  induction es with
  | nil => intro p hinv _; exact ⟨p, rfl, hinv⟩
  | cons e es ih =>
    intro p hinv hadm
    obtain ⟨p1, h1, hinv1⟩ := page_step_inv fuel hc e p hinv hadm.1
    obtain ⟨p2, h2, hinv2⟩ := ih p1 hinv1 (hadm.2 p1 h1)
    refine ⟨p2, ?_, hinv2⟩
    show (match step fuel e p with | none => none | some p' => run fuel es p') = _
    rw [h1]; exact h2

/-- No admissible sequence of page events, from the page as created, traps — provided the core
    does not panic on protocol-respecting calls. -/
theorem page_events_inv (fuel : Nat) (hc : CoreTotal fuel s0) (es : List Event)
    (hadm : Admissible fuel es ({} : Page F)) :
    ∃ p', run fuel es ({} : Page F) = some p' ∧ PageInv fuel s0 p' :=
  page_events_inv_from fuel hc es {} (pageInv_init fuel) hadm

theorem admissible_of_noLoad (fuel : Nat) (es : List Event) (h : ∀ e ∈ es, e.isLoad = false) :
    ∀ p : Page F, Admissible fuel es p := by
  induction es with
  | nil => intro _; trivial
  | cons e es ih =>
    intro p
    refine ⟨?_, fun p' _ => ih (fun e' he' => h e' (List.mem_cons_of_mem _ he')) p'⟩
    have := h e (List.mem_cons_self ..)
    cases e with
    | load t => simp [Event.isLoad] at this
    | submit _ => trivial
    | brk => trivial
    | tick => trivial

/-- Interactive page (no program in the URL): any sequence of submit / break / timer events. -/
theorem page_events_inv_interactive (fuel : Nat) (hc : CoreTotal fuel s0) (es : List Event)
    (h : ∀ e ∈ es, e.isLoad = false) :
    ∃ p', run fuel es ({} : Page F) = some p' ∧ PageInv fuel s0 p' :=
  page_events_inv fuel hc es (admissible_of_noLoad fuel es h _)

/-- Page started with a program: the load, then any sequence of submit / break / timer events. -/
theorem page_events_inv_loaded (fuel : Nat) (hc : CoreTotal fuel s0) (text : Str) (es : List Event)
    (h : ∀ e ∈ es, e.isLoad = false) :
    ∃ p', run fuel (.load text :: es) ({} : Page F) = some p' ∧ PageInv fuel s0 p' :=
  page_events_inv fuel hc _ ⟨⟨rfl, rfl⟩, fun p' _ => admissible_of_noLoad fuel es h p'⟩

/-- `handleCurrentState` only ever appends to the log, and what it appends starts with the
    output records it took. -/
theorem handle_shows (fuel : Nat) (n : Nat) :
    ∀ (p p' : Page F), Page.handle fuel n p = some p' → ∃ rest, p'.ui = (afterTake p).ui ++ rest := by
  induction n with
  | zero => intro p p' h; cases h
  | succ n ih =>
    intro p p' h
    rw [handle_succ] at h
    cases hg : (afterTake p).js.getState with
    | none => rw [hg] at h; cases h
    | some st =>
      rw [hg] at h
      cases st with
      | idle | awaitingInput => cases h; exact ⟨_, rfl⟩
      | errored =>
        cases hl : (afterTake p).js.latest with
        | none => simp only [hl] at h; cases h
        | some err =>
          simp only [hl] at h
          obtain ⟨rest, hrest⟩ := ih _ _ h
          -- the second round takes nothing new: the first has emptied the core's queue
          exact ⟨errorLines err ++ rest, hrest.trans (by simp [afterTake, Js.takeOutput, Abasic.takeOutput])⟩
      | running =>
        cases hj : (afterTake p).js.continueEvaluating fuel with
        | none => simp only [hj] at h; cases h
        | some j' => simp only [hj] at h; cases h; exact ⟨[], (List.append_nil _).symm⟩

theorem handle_ui_mono (fuel : Nat) (n : Nat) (p p' : Page F) (h : Page.handle fuel n p = some p') :
    ∃ rest, p'.ui = p.ui ++ rest := by
  obtain ⟨rest, hr⟩ := handle_shows fuel n p p' h
  exact ⟨_, hr.trans (List.append_assoc ..)⟩

/-- Whatever `take_latest_output` hands over when the state handler runs — all the records the
    core has produced and the page has not taken yet, oldest first — is appended to the page's log,
    as one contiguous block right after what was already there, in the same order, each record
    rendered by `showOutput`; nothing is dropped, duplicated or reordered. -/
theorem page_shows_core_output (fuel : Nat) (n : Nat) (p p' : Page F)
    (h : Page.handle fuel n p = some p') :
    (p.js.takeOutput).1 = p.js.core.out.reverse ∧
    ∃ rest, p'.ui = p.ui ++ (p.js.takeOutput).1.map showRecord ++ rest :=
  ⟨(output_faithful p.js).1, handle_shows fuel n p p' h⟩

omit [NumOps F] in
/-- The records taken are removed from the core, so none is shown twice. -/
theorem taken_once (p : Page F) : (afterTake p).js.core.out = [] := rfl

/-- Every page event only appends to the log: nothing already shown is removed or reordered. -/
theorem step_ui_mono (fuel : Nat) (e : Event) (p p' : Page F) (h : step fuel e p = some p') :
    ∃ rest, p'.ui = p.ui ++ rest := by
  cases e with
  | load text =>
    simp only [step, Page.load] at h
    split at h
    · cases h
    · split at h
      · cases h
      · exact (handle_ui_mono fuel _ _ _ h :)
  | submit input =>
    simp only [step, Page.submit] at h
    split at h
    · cases h
    · split at h
      · cases h
      · exact (handle_ui_mono fuel _ _ _ h :)
    · split at h
      · cases h
      · exact (handle_ui_mono fuel _ _ _ h :)
    · cases h
      exact ⟨[], (List.append_nil _).symm⟩
  | brk =>
    simp only [step, Page.break] at h
    split at h
    · cases h
    · exact (handle_ui_mono fuel _ _ _ h :)
    · exact (handle_ui_mono fuel _ _ _ h :)
    · cases h
      exact ⟨[], (List.append_nil _).symm⟩
  | tick =>
    simp only [step, Page.tick] at h
    split at h
    · cases h
      exact ⟨[], (List.append_nil _).symm⟩
    · exact (handle_ui_mono fuel _ _ _ h :)

/-- A load while the core is not idle is a protocol violation by the caller: here the program awaits
    input, and the loader's `start_evaluating` trips the core's `state == Idle` assertion.  The real
    page never does this (`loadAndRunSourceCode` is called once, before `start()`); it is why
    `page_step_inv` asks `load` to be admissible. -/
example : run 60 [.submit "10 INPUT A".toList, .submit "RUN".toList, .load "20 PRINT".toList]
    ({} : Page Unit) = none := by
  literal_chars
  decide +kernel

/-- Non-vacuity of the invariant's premises: the same prefix without the late load runs, asks for
    input, shows the "? " prompt last, and leaves no callback pending. -/
example : ∃ p', run 60 [.submit "10 INPUT A".toList, .submit "RUN".toList] ({} : Page Unit) = some p' ∧
    p'.js.core.state = .awaitingInput ∧ p'.ticks = 0 ∧ p'.ui.getLast? = some ("prompt", "? ".toList) := by
  -- one evaluation of the page, by the kernel; the three facts are read off its result
  have h : (run 60 [.submit "10 INPUT A".toList, .submit "RUN".toList] ({} : Page Unit)).map
      (fun p => (p.js.core.state, p.ticks, p.ui.getLast?)) =
      some (.awaitingInput, 0, some ("prompt", "? ".toList)) := by
    literal_chars
    decide +kernel
  cases hr : run 60 [.submit "10 INPUT A".toList, .submit "RUN".toList] ({} : Page Unit) with
  | none => rw [hr] at h; cases h
  | some p =>
    rw [hr] at h
    simp only [Option.map_some, Option.some.injEq, Prod.mk.injEq] at h
    exact ⟨p, rfl, h.1, h.2.1, h.2.2⟩

def shownTexts (o : Option (Page F)) : List Str :=
  match o with
  | none => []
  | some p => p.ui.map (·.2)

/-- Observation (not a trap): `page_shows_core_output` is about what the handler *takes*.  Records the
    core produced in the handler's last `continue_evaluating` stay in the core until the pending timer
    callback fires (`PageInv.shown`: none are left once no callback is pending).  If the program has
    just ended and the user submits NEW inside that window, the adapter replaces the interpreter and
    those records are never shown: same program, NEW after / before the pending callback. -/
theorem new_in_timer_window_drops_output :
    shownTexts (run 60 [.submit "10 PRINT \"A\"".toList, .submit "20 PRINT \"B\"".toList,
        .submit "RUN".toList, .tick, .submit "NEW".toList] ({} : Page Unit)) =
      ["] ".toList, "] ".toList, "A\n".toList, "B\n".toList, "] ".toList, "] ".toList] ∧
    shownTexts (run 60 [.submit "10 PRINT \"A\"".toList, .submit "20 PRINT \"B\"".toList,
        .submit "RUN".toList, .submit "NEW".toList, .tick] ({} : Page Unit)) =
      ["] ".toList, "] ".toList, "A\n".toList, "] ".toList, "] ".toList] := by
  literal_chars
  constructor <;> decide +kernel

/-! ### a trap is always the core's: the same results without the global hypothesis -/

/-- the core panics when asked, in state `s`, what the protocol allows in `s` -/
def CorePanics (fuel : Nat) (s : St F) : Prop :=
  (s.state = .idle ∧ ∃ line e s', Abasic.startEvaluating fuel line s = .err e s' ∧
      (e.err.isPanic = true ∨ caretLines s' e (some line) = none)) ∨
  (s.state = .running ∧ ∃ e s', Abasic.continueEvaluating fuel s = .err e s' ∧ e.err.isPanic = true)

theorem coreTotal_iff (fuel : Nat) (s0 : St F) :
    CoreTotal fuel s0 ↔ ∀ s, Reach fuel s0 s → ¬ CorePanics fuel s := by
  constructor
  · intro hc s hr hp
    rcases hp with ⟨hi, line, e, s', h, hbad⟩ | ⟨hi, e, s', h, hbad⟩
    · obtain ⟨h1, h2⟩ := (hc s hr).1 hi line e s' h
      rcases hbad with hb | hb
      · rw [hb] at h1; cases h1
      · rw [hb] at h2; cases h2
    · have h1 := (hc s hr).2 hi e s' h
      rw [hbad] at h1; cases h1
  · intro hno s hr
    constructor
    · intro hi line e s' h
      constructor
      · cases hp : e.err.isPanic with
        | false => rfl
        | true => exact absurd (Or.inl ⟨hi, line, e, s', h, Or.inl hp⟩) (hno s hr)
      · cases hcl : caretLines s' e (some line) with
        | some _ => rfl
        | none => exact absurd (Or.inl ⟨hi, line, e, s', h, Or.inr hcl⟩) (hno s hr)
    · intro hi e s' h
      cases hp : e.err.isPanic with
      | false => rfl
      | true => exact absurd (Or.inr ⟨hi, e, s', h, hp⟩) (hno s hr)

theorem reach_trans (fuel : Nat) {s1 s2 : St F} (h1 : Reach fuel s0 s1) (h2 : Reach fuel s1 s2) :
    Reach fuel s0 s2 := by
  induction h2 with
  | base => exact h1
  | init => exact .init
  | startOk _ hi h ih => exact .startOk ih hi h
  | startErr _ hi h hp ih => exact .startErr ih hi h hp
  | contOk _ hi h ih => exact .contOk ih hi h
  | contErr _ hi h hp ih => exact .contErr ih hi h hp
  | input _ hi h ih => exact .input ih hi h
  | brk _ hi h ih => exact .brk ih hi h
  | take _ ih => exact .take ih

theorem PageInv.rebase {fuel : Nat} {p : Page F} (h : PageInv fuel s0 p) : PageInv fuel p.js.core p :=
  { h with reach := .base }

theorem PageInv.unbase {fuel : Nat} {p p' : Page F} (h : PageInv fuel s0 p) (h' : PageInv fuel p.js.core p') :
    PageInv fuel s0 p' :=
  { h' with reach := reach_trans fuel h.reach h'.reach }

/-- A page event traps only if the core itself panics in a state reachable — by protocol-respecting
    calls — from the core state the event started in.  No hypothesis about the core. -/
theorem page_step_traps_only_on_core_panic (fuel : Nat) (e : Event) (p : Page F)
    (hinv : PageInv fuel s0 p) (hadm : e.admissible p) (h : step fuel e p = none) :
    ∃ s, Reach fuel p.js.core s ∧ Reach fuel s0 s ∧ CorePanics fuel s := by
  apply Classical.byContradiction
  intro hno
  have hc : CoreTotal fuel p.js.core := by
    rw [coreTotal_iff]
    intro s hr hp
    exact hno ⟨s, hr, reach_trans fuel hinv.reach hr, hp⟩
  obtain ⟨p', hp', _⟩ := page_step_inv fuel hc e p hinv.rebase hadm
  rw [h] at hp'; cases hp'

/-- The same for sequences from the page as created: a trap anywhere in an admissible sequence means
    the core panics in some state reachable from a fresh interpreter by protocol-respecting calls. -/
theorem page_events_trap_only_on_core_panic (fuel : Nat) (es : List Event)
    (hadm : Admissible fuel es ({} : Page F)) (h : run fuel es ({} : Page F) = none) :
    ∃ s : St F, Reach fuel {} s ∧ CorePanics fuel s := by
  apply Classical.byContradiction
  intro hno
  have hc : CoreTotal fuel ({} : St F) :=
    (coreTotal_iff fuel {}).2 (fun s hr hp => hno ⟨s, hr, hp⟩)
  obtain ⟨p', hp', _⟩ := page_events_inv fuel hc es hadm
  rw [h] at hp'; cases hp'

end Abasic.Props.C19
