import Abasic.Ref.Expr
import Abasic.Expr
/-
  C02 — expressions evaluate per the language's precedence, associativity and typing.

  The spec is `Ref.foldE` (value of a syntax tree) and `Ref.render` (tokens with
  minimal parentheses); the implementation side of the model is `exprBody`
  (Expr.lean).  Proved here: the rules of the fold that the property states —
  comparisons and logical operators yield 1 or 0 with the stated truthiness,
  division by zero and mixed operands are DIVISION BY ZERO / TYPE MISMATCH,
  redundant parentheses never change a value, ABS/INT — and the operator tables
  of the token-stream evaluator: each binary tier accepts exactly the operators
  of its precedence level, in the order OR < AND < comparison < +,- < *,/ < ^.
  Continued in C02More.lean: `eval_render` — for EVERY syntax tree, the
  token-stream evaluator run on `render e` consumes exactly the rendering and
  returns `foldE e` — with `paren_irrelevant_eval` as a corollary about the
  evaluator itself.  The correspondence slice (exhaustive small trees +
  random trees, implementation vs model vs the spec's fold computed by the Lean
  driver) ties evaluator, renderer and fold to the Rust code.
-/
namespace Abasic.Props.C02
open Abasic Abasic.Ref

variable {F : Type} [NumOps F]

/-- Comparisons yield 1 or 0, on two numbers or on two strings. -/
theorem cmp_yields_bool (c : CmpOp) (l r v : Value F) (h : (BinOp.cmp c).eval l r = .ok v) :
    v = .num NumOps.one ∨ v = .num NumOps.zero := by
  cases l <;> cases r <;> simp [BinOp.eval, Value.ofBool, NumOps.ofBool] at h
  · rw [← h]; split <;> simp
  · rw [← h]; split <;> simp

/-- Comparing a string with a number is a TYPE MISMATCH. -/
theorem cmp_mixed (c : CmpOp) (s : Str) (x : F) :
    (BinOp.cmp c).eval (.str s) (.num x) = .error .typeMismatch ∧
    (BinOp.cmp c).eval (.num x) (.str s) = .error .typeMismatch := by
  simp [BinOp.eval]

/-- AND / OR accept any operands, any non-zero number or non-empty string counting as true. -/
theorem logical_ops (l r : Value F) :
    BinOp.and.eval l r = .ok (Value.ofBool (l.toBool && r.toBool)) ∧
    BinOp.or.eval l r = .ok (Value.ofBool (l.toBool || r.toBool)) := by
  simp [BinOp.eval]

theorem truthiness (s : Str) (x : F) :
    (Value.str (F := F) s).toBool = !s.isEmpty ∧ (Value.num x).toBool = NumOps.ne x NumOps.zero := by
  simp [Value.toBool]

/-- Dividing by zero is DIVISION BY ZERO; arithmetic on a string is TYPE MISMATCH. -/
theorem division_by_zero (a b : F) (h : NumOps.eq b NumOps.zero = true) :
    BinOp.div.eval (.num a) (.num b) = .error .divisionByZero := by
  simp [BinOp.eval, h]

theorem arithmetic_mismatch (op : BinOp) (hop : op = .pow ∨ op = .mul ∨ op = .div ∨ op = .add ∨ op = .sub)
    (s : Str) (v : Value F) :
    op.eval (.str s) v = .error .typeMismatch ∧ op.eval v (.str s) = .error .typeMismatch := by
  rcases hop with rfl | rfl | rfl | rfl | rfl <;> cases v <;> simp [BinOp.eval]

/-- The unary operators: + is the identity, - negates a number (TYPE MISMATCH on a string), NOT yields 1 or 0. -/
theorem unary_ops (v : Value F) (s : Str) (x : F) :
    UnOp.pos.eval v = .ok v ∧ UnOp.neg.eval (.num x) = .ok (.num (NumOps.neg x)) ∧
    UnOp.neg.eval (.str (F := F) s) = .error .typeMismatch ∧ UnOp.not.eval v = .ok (Value.ofBool (!v.toBool)) := by
  simp [UnOp.eval]

/-- Redundant parentheses never change a result. -/
theorem paren_irrelevant (env : Str → Value F) (e : Expr F) : foldE env (.paren e) = foldE env e := rfl

/-- All binary operators group left to right: the fold of `a op b op' c` rendered
    without parentheses is that of `(a op b) op' c` whenever `op'` does not bind
    tighter — stated on the renderer: a left operand of equal strength needs no
    parentheses, a right operand of equal strength does. -/
theorem left_assoc_render (op : BinOp) (a b c : Expr F) (ha : a.prec = 8) (hb : b.prec = 8) (hc : c.prec = 8) :
    render (.bin op (.bin op a b) c) = render a ++ .kw (BinOp.token op) :: render b ++ .kw (BinOp.token op) :: render c ∧
    render (.bin op a (.bin op b c)) =
      render a ++ .kw (BinOp.token op) :: .kw .LeftParen :: (render b ++ .kw (BinOp.token op) :: render c) ++ [.kw .RightParen] := by
  have hp : ∀ (e : Expr F), e.prec = 8 → ∀ p, p ≤ 8 → renderAt p e = render e := by
    intro e he p hp
    unfold renderAt
    simp [he]; omega
  have hop : BinOp.prec op ≤ 7 := by cases op <;> simp [BinOp.prec]
  constructor
  · conv => lhs; unfold render
    have h1 : renderAt (BinOp.prec op) (.bin op a b) = render (.bin op a b) := by
      unfold renderAt; simp [Expr.prec]
    rw [h1, hp c hc _ (by omega)]
    conv => lhs; arg 1; unfold render
    rw [hp a ha _ (by omega), hp b hb _ (by omega)]
  · conv => lhs; unfold render
    have h1 : renderAt (BinOp.prec op + 1) (.bin op b c) =
        .kw .LeftParen :: render (.bin op b c) ++ [.kw .RightParen] := by
      unfold renderAt; simp [Expr.prec]
    rw [h1, hp a ha _ (by omega)]
    conv => lhs; arg 2; arg 2; arg 1; arg 2; unfold render
    rw [hp b hb _ (by omega), hp c hc _ (by omega)]
    simp

omit [NumOps F] in
/-- The operator tables of the six tiers of the token-stream evaluator are
    exactly the six precedence levels of the spec, in the same order. -/
theorem tier_tables (op : BinOp) :
    (orOps (F := F) (.kw (BinOp.token op)) = some op ↔ BinOp.prec op = 1) ∧
    (andOps (F := F) (.kw (BinOp.token op)) = some op ↔ BinOp.prec op = 2) ∧
    (cmpOps (F := F) (.kw (BinOp.token op)) = some op ↔ BinOp.prec op = 3) ∧
    (addOps (F := F) (.kw (BinOp.token op)) = some op ↔ BinOp.prec op = 4) ∧
    (mulOps (F := F) (.kw (BinOp.token op)) = some op ↔ BinOp.prec op = 5) ∧
    (powOps (F := F) (.kw (BinOp.token op)) = some op ↔ BinOp.prec op = 6) := by
  cases op with
  | cmp c => cases c <;> simp [orOps, andOps, cmpOps, addOps, mulOps, powOps, BinOp.token, BinOp.prec, CmpOp.ofToken]
  | _ => simp [orOps, andOps, cmpOps, addOps, mulOps, powOps, BinOp.token, BinOp.prec, CmpOp.ofToken]

/-- the order in which the tiers nest: OR outermost … ^ innermost, unary inside -/
theorem tier_order (ev : Evals F) :
    orExpr ev = level (level (level (level (level (level (unaryExpr ev) powOps) mulOps) addOps) cmpOps) andOps) orOps := rfl

/-- ABS and INT are absolute value and floor. -/
theorem abs_int (env : Str → Value F) (x : F) :
    foldE env (.abs (.num x)) = .ok (.num (NumOps.abs x)) ∧ foldE env (.int (.num x)) = .ok (.num (NumOps.floor x)) := by
  simp [foldE]

/-- Non-vacuity: `2 - 3 * 4` and `(2 - 3) * 4` render as they should. -/
example : (render (F := Unit) (.bin .sub (.num ()) (.bin .mul (.num ()) (.num ())))).length = 5 ∧
          (render (F := Unit) (.bin .mul (.bin .sub (.num ()) (.num ())) (.num ()))).length = 7 := by
  constructor <;> simp [render, renderAt, Expr.prec, BinOp.prec]

end Abasic.Props.C02
