import Abasic.Props.C05More
import Abasic.Props.C04
import Abasic.Proofs.AnalyzerInv
/-
  C05, continued — the statement pass.

  The line pass leaves the line store well formed and in step with the file map
  (`LineInv`), so the statement pass starts under the invariant of the analyzer's
  evaluator (Abasic/Proofs/AnalyzerInv.lean, `runFromFirst_start`).  One round of
  `analyzeStatements` / `analyzeProgram` is an equation for each way it can go
  (`analyzeStatements_noNext`, `_ok`, `_err`, `analyzeProgram_succ`); under the invariant
  the other ways — the Rust panic sites — are not taken (`hasNext_ok`, `populate_ok`,
  `mapLoc_of_locOk`, `nextLine_ok`).  The inductions over the rounds are in C05Total.lean,
  where the two iteration budgets are known to suffice.
-/
namespace Abasic.Props.C05
open Abasic Abasic.AInv
open Abasic.Props.C13

variable {F : Type} [NumOps F]

/-- Every stored BASIC line is non-empty and the file map sends its number to a
    range record with exactly one range per token. -/
def LinesMapped (L : Lines F) (m : FileMap) : Prop :=
  ∀ n ts, L.get n = some ts → ts ≠ [] ∧
    ∃ f r trs, m.lookup n = some f ∧ m.ranges[f]? = some r ∧ r.tokenRanges = some trs ∧ trs.length = ts.length

omit [NumOps F] in
theorem mapLoc_of_locOk {L : Lines F} {m : FileMap} (hLM : LinesMapped L m) {loc : Loc} (hloc : LocOk L loc) :
    ∃ f x y, m.mapLoc loc = some (f, x, y) := by
  obtain ⟨n, ts, hl, hg, hi⟩ := hloc
  obtain ⟨hne, f, r, trs, hlook, hr, htrs, hlen⟩ := hLM n ts hg
  have hpos : 0 < trs.length := by
    rw [hlen]; exact List.length_pos_iff.mpr hne
  -- the index the map looks at is inside the list: the last token when `idx` is one past the end
  have hlt : (if loc.idx == trs.length && !trs.isEmpty then trs.length - 1 else loc.idx) < trs.length := by
    split
    · omega
    · rename_i hc
      have : loc.idx ≠ trs.length := by
        intro he
        apply hc
        cases trs with
        | nil => simp at hpos
        | cons _ _ => simp [he]
      omega
  exact ⟨f, _, _, mapLoc_eq_some.mpr ⟨n, r, trs, hl, hlook, hr, htrs, List.getElem?_eq_getElem hlt⟩⟩

omit [NumOps F] in
theorem lookup_append_same (m : FileMap) (n f : Nat) (rs : List LineRanges) :
    ({ basicToFile := m.basicToFile ++ [(n, f)], ranges := rs } : FileMap).lookup n = some f := by
  simp [FileMap.lookup]

omit [NumOps F] in
theorem lookup_append_other (m : FileMap) (n n' f : Nat) (rs : List LineRanges) (h : n' ≠ n) :
    ({ basicToFile := m.basicToFile ++ [(n, f)], ranges := rs } : FileMap).lookup n' = m.lookup n' := by
  have : (n == n') = false := by simpa using (Ne.symm h)
  simp [FileMap.lookup, this]

structure LineInv (a : Analysis F) : Prop where
  wf : C04.WF a.st.lines
  mapped : LinesMapped a.st.lines a.map
  acc : a.st.accesses = []

theorem analyzeLine_lineInv (a : Analysis F) (i : Nat) (line : Str) (h : LineInv a) :
    LineInv (analyzeLine a i line) := by
  rw [analyzeLine_eq]
  cases hed : C15.lineEdit F line with
  | none =>
    -- nothing is stored: the entries of the map still point at their records
    refine ⟨h.wf, fun n ts hg => ?_, h.acc⟩
    obtain ⟨hne, f, r, trs, hlook, hrf, htrs, hlen⟩ := h.mapped n ts hg
    refine ⟨hne, f, r, trs, ?_, ?_, htrs, hlen⟩
    · simpa [FileMap.lookup] using hlook
    · simp only
      rw [List.getElem?_append_left (List.getElem?_eq_some_iff.mp hrf).1]; exact hrf
  | some e =>
    obtain ⟨n, ts0⟩ := e
    obtain ⟨k, toks, he, hp, ht, hne, rfl⟩ := lineEdit_some hed
    have hne' : toks.map (·.1) ≠ [] := by simpa using hne
    have hemp : (toks.map (·.1)).isEmpty = false := by
      cases hm : toks.map (·.1) with
      | nil => exact absurd hm hne'
      | cons _ _ => rfl
    refine ⟨C04.wf_set _ h.wf _ _, ?_, h.acc⟩
    intro n' ts hg
    simp only [Option.map_some, Option.toList_some]
    have hg : (a.st.lines.set n (toks.map (·.1))).get n' = some ts := hg
    rw [C04.get_set] at hg
    by_cases hn : n' = n
    · subst hn
      simp only [if_true, hemp, Bool.false_eq_true, if_false, Option.some.injEq] at hg
      subst hg
      refine ⟨hne', a.map.ranges.length, lineRangesOf F line, toks.map (fun (_, x, y) => (x, y)),
        lookup_append_same _ _ _ _, by simp, ?_, by simp⟩
      rw [lineRangesOf_of_ok he hp ht]
    · simp only [hn, if_false] at hg
      obtain ⟨hnets, f, r, trs, hlook, hrf, htrs, hlen⟩ := h.mapped n' ts hg
      refine ⟨hnets, f, r, trs, ?_, ?_, htrs, hlen⟩
      · rw [lookup_append_other _ _ _ _ _ hn]; exact hlook
      · rw [List.getElem?_append_left (List.getElem?_eq_some_iff.mp hrf).1]; exact hrf

theorem analyzeLines_lineInv (a : Analysis F) (i : Nat) (lines : List Str) (h : LineInv a) :
    LineInv (analyzeLines a i lines) := by
  induction lines generalizing a i with
  | nil => exact h
  | cons l ls ih => exact ih _ _ (analyzeLine_lineInv a i l h)

omit [NumOps F] in
theorem lineInv_init (lines : List Str) : LineInv ({ lines := lines } : Analysis F) :=
  ⟨C04.wf_empty, by intro n ts hg; simp [Lines.get, Lines.getMap] at hg, rfl⟩

theorem analyzeStatements_noNext (fuel k : Nat) (a : Analysis F) (st' : St F)
    (h : hasNext a.st = .ok false st') : analyzeStatements fuel (k + 1) a = { a with st := st' } := by
  unfold analyzeStatements
  rw [h]

theorem analyzeStatements_ok (fuel k : Nat) (a : Analysis F) {st st' : St F} {u : Unit}
    (h : hasNext a.st = .ok true st) (h2 : aStmtBody (aEvalN fuel) st = .ok u st') :
    analyzeStatements fuel (k + 1) a = analyzeStatements fuel k { a with st := st' } := by
  rw [analyzeStatements]
  simp only [h, h2]

/-- a failing statement whose error is no panic and located where the file map reaches: one diagnostic,
    and the rest of the line is not analysed -/
theorem analyzeStatements_err (fuel k : Nat) (a : Analysis F) {st st' : St F} {e : TErr} {loc : Loc} {f x y : Nat}
    (h : hasNext a.st = .ok true st) (h2 : aStmtBody (aEvalN fuel) st = .err e st')
    (hnp : ∀ site, (st'.populate e).err ≠ .panic site) (hloc : (st'.populate e).loc = some loc)
    (hmap : a.map.mapLoc loc = some (f, x, y)) :
    analyzeStatements fuel (k + 1) a =
      { a with st := st', messages := a.messages ++ [.error f (st'.populate e)] } := by
  rw [analyzeStatements]
  simp only [h, h2]
  cases hpe : (st'.populate e).err with
  | panic site => exact absurd hpe (hnp site)
  | _ => simp only [hloc, Option.bind_some, hmap]

theorem analyzeProgram_succ (fuel n : Nat) (a : Analysis F) (hp : a.panicked = none) {ts : List (Token F)} {s : St F}
    (ht : tokens a.st = .ok ts s) {b : Bool} {st : St F}
    (hp1 : (analyzeStatements fuel (ts.length + 2) a).panicked = none)
    (hn : nextLine (analyzeStatements fuel (ts.length + 2) a).st = .ok b st) :
    analyzeProgram fuel (n + 1) a =
      bif b then analyzeProgram fuel n { analyzeStatements fuel (ts.length + 2) a with st := st }
      else { analyzeStatements fuel (ts.length + 2) a with st := st } := by
  rw [analyzeProgram]
  cases b <;> simp only [hp, ht, hp1, hn, Option.isSome_none, Bool.false_eq_true, ↓reduceIte, cond_true, cond_false]

omit [NumOps F] in
theorem hasNext_ok {L : Lines F} {s : St F} (hs : SInv L s) :
    ∃ b s', hasNext s = .ok b s' ∧ SInv L s' := by
  obtain ⟨_, ts, _, _, _, ht⟩ := hs.toks
  exact ⟨_, _, by rw [Cur.hasNext_eq, Cur.curOp_some _ ht]; rfl, hs.reads _⟩

omit [NumOps F] in
theorem populate_ok {L : Lines F} {s : St F} {e : TErr} (hs : SInv L s) (he : EOk L e) :
    plain (s.populate e).err = true ∧ ∃ loc, (s.populate e).loc = some loc ∧ LocOk L loc := by
  have hprev : LocOk L s.prevLoc := by
    obtain ⟨n, ts, hl, hg, hi⟩ := hs.loc
    refine ⟨n, ts, hl, hg, ?_⟩
    show s.loc.idx - 1 ≤ ts.length
    omega
  unfold St.populate
  cases hl : e.loc with
  | some loc =>
    simp only [Option.isSome_some, if_true]
    exact ⟨he.plain, loc, hl, he.loc loc hl⟩
  | none =>
    simp only [Option.isSome_none, Bool.false_eq_true, if_false]
    split
    · rename_i hd
      have := he.plain
      rw [hd] at this
      cases this
    · exact ⟨he.plain, s.prevLoc, rfl, hprev⟩

omit [NumOps F] in
theorem nextLine_ok {L : Lines F} (hwf : C04.WF L) {s : St F} (hs : SInv L s) :
    ∃ b s', nextLine s = .ok b s' ∧ SInv L s' := by
  obtain ⟨n, ts, hl, hg, hi⟩ := hs.loc
  rw [Cur.nextLine_eq, hl, Option.bind_some]
  cases ha : s.lines.after n with
  | none => exact ⟨false, s, rfl, hs⟩
  | some k =>
    refine ⟨true, { s with loc := { line := some k, idx := 0 } }, rfl, ⟨hs.lines, ?_, hs.acc⟩⟩
    rw [hs.lines] at ha
    have hmem := ((C04.after_least L hwf n).1 k ha).1
    obtain ⟨ts', hts'⟩ := Option.isSome_iff_exists.mp ((hwf.agree k).mp hmem)
    exact ⟨k, ts', rfl, hts', Nat.zero_le _⟩

omit [NumOps F] in
theorem nextLine_nesting {s st : St F} {b : Bool} (h : nextLine s = .ok b st) : st.nesting = s.nesting := by
  rw [Cur.nextLine_eq] at h
  split at h <;> cases h <;> rfl

omit [NumOps F] in
theorem runFromFirst_facts (s : St F) :
    s.runFromFirst.lines = s.lines ∧ s.runFromFirst.accesses = s.accesses ∧ s.runFromFirst.imm = [] ∧
    ((s.lines.first = none ∧ s.runFromFirst.loc.line = none) ∨
     (∃ n, s.lines.first = some n ∧ s.runFromFirst.loc = { line := some n, idx := 0 })) := by
  have hfirst : s.resetRuntime.lines.first = s.lines.first := rfl
  unfold St.runFromFirst
  simp only [hfirst]
  cases hf : s.lines.first with
  | none => exact ⟨rfl, rfl, rfl, .inl ⟨rfl, rfl⟩⟩
  | some n => exact ⟨rfl, rfl, rfl, .inr ⟨n, rfl, rfl⟩⟩

omit [NumOps F] in
theorem hasNext_empty (s : St F) (hl : s.loc.line = none) (hi : s.imm = []) :
    hasNext s = .ok false { s with reads := s.reads + 1 } := by
  simp only [hasNext, peek, Bind.bind, M.bindM, M.modify, tokens, tokensForLine, hl, hi, M.get, Pure.pure, M.pureM,
    List.getElem?_nil, Option.isSome_none]

omit [NumOps F] in
theorem nextLine_empty (s : St F) (hl : s.loc.line = none) : nextLine s = .ok false s := by
  rw [Cur.nextLine_eq, hl]; rfl

theorem analyzeProgram_nothing (fuel n : Nat) (a : Analysis F) (hp : a.panicked = none)
    (hl : a.st.loc.line = none) (hi : a.st.imm = []) :
    analyzeProgram fuel (n + 1) a = { a with st := { a.st with reads := a.st.reads + 1 } } := by
  have ht : tokens a.st = .ok [] a.st := by simp only [tokens, tokensForLine, hl, hi]
  have h1 : analyzeStatements fuel (([] : List (Token F)).length + 2) a = _ :=
    analyzeStatements_noNext fuel 1 a _ (hasNext_empty a.st hl hi)
  rw [analyzeProgram_succ fuel n a hp ht (by rw [h1]; exact hp) (by rw [h1]; exact nextLine_empty _ hl), h1]
  rfl

omit [NumOps F] in
/-- Where the statement pass starts: either no BASIC line is stored (nothing will run) or the
    invariant of the evaluator holds. -/
theorem runFromFirst_start {a0 : Analysis F} (hinv : LineInv a0) :
    a0.st.runFromFirst.accesses = [] ∧
    ((a0.st.runFromFirst.loc.line = none ∧ a0.st.runFromFirst.imm = []) ∨
      SInv a0.st.lines a0.st.runFromFirst) := by
  obtain ⟨hl, hacc, himm, hfirst⟩ := runFromFirst_facts a0.st
  have hno : a0.st.runFromFirst.accesses = [] := hacc.trans hinv.acc
  refine ⟨hno, ?_⟩
  rcases hfirst with ⟨_, hline⟩ | ⟨n, hfn, hloc⟩
  · exact .inl ⟨hline, himm⟩
  · have hmem : n ∈ a0.st.lines.sorted := by
      unfold Lines.first at hfn
      exact List.mem_of_mem_head? (by rw [hfn]; rfl)
    obtain ⟨ts, hts⟩ := Option.isSome_iff_exists.mp ((hinv.wf.agree n).mp hmem)
    refine .inr ⟨hl, ?_, ?_⟩
    · rw [hloc]
      exact ⟨n, ts, rfl, hts, Nat.zero_le _⟩
    · intro x hx
      rw [hno] at hx
      cases hx

end Abasic.Props.C05
