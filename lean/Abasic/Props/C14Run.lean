import Abasic.Props.C14More2
import Abasic.Props.C15General
import Abasic.Props.C10More
import Abasic.Props.C01WF
import Abasic.Proofs.LNormLift
import Abasic.Proofs.TokenEq
/-
  C14 / C10 — closing the loop between LIST, reload and RUN.

  `reload fuel σ` is a new interpreter (same generator state, flags and bookkeeping as
  `σ`, EMPTY program) into which every line printed by LIST — without its final newline,
  as a host submits it — has been entered with `start_evaluating`, in order.

  The program store of `reload σ` is the store of `σ` with its token map re-arranged in
  ascending key order (`reload_lines_eq_partial`): same ordered index, same tokens under
  every line number, same LIST, same DATA chunks.  The literal `(reload σ).lines = σ.lines`
  is FALSE for the model's store: `Lines.map` is an association list standing for a
  `HashMap`, in insertion order; a session that enters line 20 before line 10 holds
  `[(20,…),(10,…)]`, its reload `[(10,…),(20,…)]` (`reload_lines_eq_false`).
  The order of the token map is unobservable: every host call, from states equal up to
  `lnorm`, has the same outcome and leads to states equal up to `lnorm` (`lsim_call`; lifted
  by Proofs/LNormLift.lean).  Hence `reload_same_run`.
  Hypotheses: `NumLaws F` and reachability (which yields that stored lines are non-empty
  tokenizer outputs under numbers `< 2^64`: `stored_reachable`).
-/
namespace Abasic.Props.C14
open Abasic Abasic.Hoare Abasic.Props.C01 Abasic.Props.C15

deriving instance DecidableEq for Lines

variable {F : Type} [NumOps F]

/-- submit each text with `start_evaluating`, in order (Front.lean `typeLines`) -/
abbrev enterAll (fuel : Nat) (texts : List Str) (σ : St F) : St F := typeLines fuel texts σ

/-- a LIST record without its final newline (what a host that re-enters a listing submits;
    the tokenizer rejects a newline character: `newline_rejected`) -/
def chompNl (s : Str) : Str := if s.getLast? = some '\n' then s.dropLast else s

/-- a newly created interpreter with `σ`'s generator state, flags and bookkeeping — `C10.fresh`
    with an EMPTY program -/
def newState (σ : St F) : St F :=
  { rng := σ.rng, warnings := σ.warnings, tracing := σ.tracing, out := σ.out, reads := σ.reads,
    accesses := σ.accesses }

def reload (fuel : Nat) (σ : St F) : St F :=
  enterAll fuel ((σ.lines.list.getD []).map chompNl) (newState σ)

/-- the line LIST prints for `(n, ts)`, without the newline -/
def listedLine (n : Nat) (ts : List (Token F)) : Str := natToStr n ++ ' ' :: listLine ts

omit [NumOps F] in
theorem chompNl_snoc (s : Str) : chompNl (s ++ ['\n']) = s := by
  simp [chompNl]

theorem list_chomped (l : Lines F) (entries : List (Nat × List (Token F))) (h : l.listTokens = some entries) :
    (l.list.getD []).map chompNl = entries.map fun e => listedLine e.1 e.2 := by
  simp only [Lines.list, h, Option.map_some, Option.getD_some, List.map_map, Function.comp_def, chompNl_snoc,
    listedLine]

def Stored (l : Lines F) : Prop :=
  ∀ n ts, l.get n = some ts → n < C04.u64Bound ∧ ts ≠ [] ∧ ∃ text, Toks text ts

theorem stored_empty : Stored ({} : Lines F) := by
  intro n ts h
  simp [Lines.get, Lines.getMap] at h

theorem toks_of_tokenizeRanges (line : Str) (k : Nat) (rts : List (RangedToken F))
    (h : tokenizeRanges (F := F) line k = (rts, none)) : Toks (dropBytes k line) (rts.map (·.1)) :=
  (tokenize_skip_iff_toks line k _).mp (by unfold tokenize; rw [h])

theorem stored_applyEdit (line : Str) (l : Lines F) (h : Stored l) : Stored (applyEdit (typedEdit F line) l) := by
  unfold typedEdit
  cases hp : parseLineNumber line with
  | none => exact h
  | some p =>
    obtain ⟨n, k⟩ := p
    simp only []
    cases ht : tokenizeRanges (F := F) line k with
    | mk rts err =>
      cases err with
      | some e => exact h
      | none =>
        simp only [applyEdit]
        intro m ts hm
        rw [C04.get_set] at hm
        by_cases hmn : m = n
        · rw [if_pos hmn] at hm
          by_cases he : (rts.map (·.1)).isEmpty = true
          · rw [if_pos he] at hm; cases hm
          · rw [if_neg he] at hm
            injection hm with hm
            subst hm
            obtain ⟨_, _, _, _, _, hlt, _⟩ := (C04.lineno_parse_spec line n k).mp hp
            refine ⟨hmn ▸ hlt, ?_, _, toks_of_tokenizeRanges line k rts ht⟩
            intro e; rw [e] at he; exact he rfl
        · rw [if_neg hmn] at hm
          exact h m ts hm

theorem lines_cont (fuel : Nat) (σ : St F) : (continueEvaluating fuel σ).final.lines = σ.lines := by
  have h1 : continueEvaluating fuel σ =
      (if (σ.state != .running) = true then (M.rpanic "assertion failed: state == Running" : M F Unit)
       else postprocess (runNextStatement fuel)) σ := rfl
  rw [h1]
  by_cases hs : (σ.state != .running) = true
  · rw [if_pos hs]; rfl
  · rw [if_neg hs, final_postprocess_lines]
    exact (le_runNextStatement fuel).final σ

theorem lines_call (fuel : Nat) (c : Call) (σ : St F) :
    (applyCall fuel c σ).lines = σ.lines ∨
    ∃ line, (applyCall fuel c σ).lines = applyEdit (typedEdit F line) σ.lines := by
  cases c with
  | start text =>
    have h := typed_line_store fuel text σ
    by_cases hi : σ.state = .idle
    · rw [if_pos hi] at h; exact .inr ⟨text, h⟩
    · rw [if_neg hi] at h; exact .inl h
  | cont => exact .inl (lines_cont fuel σ)
  | reply text =>
    left
    show (provideInput text σ).final.lines = _
    unfold provideInput
    simp only [bind, M.bindM, M.get]
    split <;> rfl
  | brk => exact .inl rfl
  | seed n => exact .inl rfl
  | output => exact .inl rfl

/-- in every state a host can reach, the stored lines are non-empty tokenizer outputs under
    numbers `< 2^64` -/
theorem stored_reachable (fuel : Nat) (σ : St F) (h : Reachable fuel σ) : Stored σ.lines := by
  induction h with
  | init => exact stored_empty
  | @step σ c _ ih =>
    rcases lines_call fuel c σ with h | ⟨line, h⟩
    · rw [h]; exact ih
    · rw [h]; exact stored_applyEdit line _ ih

theorem len8_natToStr (n : Nat) : len8 (natToStr n) = (natToStr n).length :=
  len8_eq_length _ fun c hc =>
    utf8Size_digit (C04.toDigits_digits n c (C04.natToStr_digits n ▸ hc))

def store (s : St F) (e : Nat × List (Token F)) : St F := (s.setImmediate []).setNumberedLine e.1 e.2

omit [NumOps F] in
theorem store_state (s : St F) (e : Nat × List (Token F)) : (store s e).state = s.state := rfl

/-- Entering one LIST line (without its newline) at an idle prompt stores exactly the
    listed tokens under the listed number. -/
theorem enter_listed (laws : NumLaws F) (fuel n : Nat) (ts : List (Token F)) (text : Str) (σ : St F)
    (hidle : σ.state = .idle) (hn : n < C04.u64Bound) (ht : Toks text ts) :
    startEvaluating fuel (listedLine n ts) σ = .ok () (store σ (n, ts)) := by
  have hfix : tokenize (F := F) (listLine ts) 0 = .ok ts :=
    list_fixpoint laws text ts ((tokenize_iff_toks text ts).mpr ht)
  have htoks : Toks (' ' :: listLine ts) ts := toks_blank ' ' (by decide) ((tokenize_iff_toks _ _).mp hfix)
  have hp : parseLineNumber (listedLine n ts) = some (n, (natToStr n).length) :=
    C04.lineno_roundtrip_list n hn _ (by show isAsciiDigit ' ' = false; decide)
  have hdrop : dropBytes (natToStr n).length (listedLine n ts) = ' ' :: listLine ts := by
    rw [← len8_natToStr]
    exact dropBytes_len8 _ _
  have htok : tokenize (F := F) (listedLine n ts) (natToStr n).length = .ok ts :=
    (tokenize_skip_iff_toks _ _ _).mpr (by rw [hdrop]; exact htoks)
  exact C11.edit_result fuel _ σ n _ ts hidle (numbered_not_command _ _ hp) hp htok

def loaded (σ : St F) (L : Lines F) : St F := { newState σ with lines := L }

omit [NumOps F] in
theorem store_loaded (σ : St F) (L : Lines F) (e : Nat × List (Token F)) :
    store (loaded σ L) e = loaded σ (L.set e.1 e.2) := rfl

theorem enter_all_loaded (laws : NumLaws F) (fuel : Nat) (σ : St F) (es : List (Nat × List (Token F))) (L : Lines F)
    (hes : ∀ e ∈ es, e.1 < C04.u64Bound ∧ ∃ text, Toks text e.2) :
    enterAll fuel (es.map fun e => listedLine e.1 e.2) (loaded σ L) = loaded σ (applyEdits es L) := by
  induction es generalizing L with
  | nil => rfl
  | cons e es ih =>
    obtain ⟨hn, text, ht⟩ := hes e (List.mem_cons_self ..)
    show typeLines fuel (listedLine e.1 e.2 :: _) _ = _
    rw [typeLines_cons, enter_listed laws fuel e.1 e.2 text _ rfl hn ht]
    exact ih (L.set e.1 e.2) fun e' he' => hes e' (List.mem_cons_of_mem _ he')

omit [NumOps F] in
theorem setMap_append (n : Nat) (v : List (Token F)) (l : List (Nat × List (Token F)))
    (h : n ∉ l.map Prod.fst) : Lines.setMap n v l = l ++ [(n, v)] := by
  induction l with
  | nil => rfl
  | cons p rest ih =>
    obtain ⟨k, w⟩ := p
    simp only [List.map_cons, List.mem_cons, not_or] at h
    have : (k == n) = false := by simpa using fun e : k = n => h.1 e.symm
    simp only [Lines.setMap, this, Bool.false_eq_true, if_false, List.cons_append]
    rw [ih h.2]

omit [NumOps F] in
theorem insertSorted_append (n : Nat) (l : List Nat) (h : ∀ k ∈ l, k < n) : Lines.insertSorted n l = l ++ [n] := by
  induction l with
  | nil => rfl
  | cons k rest ih =>
    have hk := h k (List.mem_cons_self ..)
    simp only [Lines.insertSorted, show ¬ n < k by omega, show (n == k) = false by simpa using (by omega : n ≠ k),
      Bool.false_eq_true, if_false, List.cons_append, ih fun j hj => h j (List.mem_cons_of_mem _ hj)]

omit [NumOps F] in
theorem applyEdits_asc (es : List (Nat × List (Token F))) (L : Lines F) (hL : L.map.map Prod.fst = L.sorted)
    (hs : (L.sorted ++ es.map Prod.fst).Pairwise (· < ·)) (hne : ∀ e ∈ es, e.2 ≠ []) :
    applyEdits es L = { map := L.map ++ es, sorted := L.sorted ++ es.map Prod.fst } := by
  induction es generalizing L with
  | nil => simp [applyEdits]
  | cons e es ih =>
    have hne' : e.2.isEmpty = false := by
      have := hne e (List.mem_cons_self ..)
      cases h : e.2 with
      | nil => exact absurd h this
      | cons _ _ => rfl
    have hlt : ∀ k ∈ L.sorted, k < e.1 := fun k hk => (List.pairwise_append.mp hs).2.2 k hk e.1 (by simp)
    have hset : L.set e.1 e.2 = { map := L.map ++ [e], sorted := L.sorted ++ [e.1] } := by
      simp only [Lines.set, hne', Bool.false_eq_true, if_false, insertSorted_append _ _ hlt,
        setMap_append e.1 e.2 L.map (by rw [hL]; exact fun hm => Nat.lt_irrefl _ (hlt _ hm))]
    show applyEdits es (L.set e.1 e.2) = _
    rw [hset, ih _ (by simp [hL]) (by simpa using hs) fun e' he' => hne e' (List.mem_cons_of_mem _ he')]
    simp

structure Listing (σ : St F) (entries : List (Nat × List (Token F))) : Prop where
  list : σ.lines.listTokens = some entries
  keys : entries.map (·.1) = σ.lines.sorted
  get : ∀ e ∈ entries, σ.lines.get e.1 = some e.2

omit [NumOps F] in
theorem listing_exists (σ : St F) (hwf : C04.WF σ.lines) : ∃ entries, Listing σ entries := by
  obtain ⟨es, h1, h2, h3⟩ := C04.list_sorted σ.lines hwf
  exact ⟨es, h1, h2, h3⟩

/-- The reloaded interpreter, explicitly: a new interpreter whose store is the listing
    entered line by line. -/
theorem reload_eq (laws : NumLaws F) (fuel : Nat) (σ : St F) (entries : List (Nat × List (Token F)))
    (hl : Listing σ entries) (hst : Stored σ.lines) :
    reload fuel σ = loaded σ (applyEdits entries {}) := by
  unfold reload
  rw [list_chomped σ.lines entries hl.list]
  exact enter_all_loaded laws fuel σ entries {} fun e he =>
    ⟨(hst e.1 e.2 (hl.get e he)).1, (hst e.1 e.2 (hl.get e he)).2.2⟩

omit [NumOps F] in
/-- entering a listing into the empty store gives the normal form of the listed store: the listing is
    key-ascending and reads like the store, and so does `canonMap` -/
theorem listed_canon (σ : St F) (entries : List (Nat × List (Token F))) (hwf : C04.WF σ.lines)
    (hl : Listing σ entries) (hne : ∀ e ∈ entries, e.2 ≠ []) :
    applyEdits entries ({} : Lines F) = σ.lines.canon := by
  have hk : entries.map Prod.fst = σ.lines.sorted := hl.keys
  have hs : Lines.KeySorted entries := by
    unfold Lines.KeySorted
    rw [hk]; exact hwf.sorted
  rw [applyEdits_asc entries ({} : Lines F) rfl (by simpa [Lines.KeySorted] using hs) hne]
  have hm : Lines.canonMap σ.lines.map = entries := by
    refine Lines.keySorted_ext _ _ (Lines.keySorted_canonMap _) hs fun n => ?_
    rw [Lines.getMap_canonMap]
    by_cases hm : n ∈ entries.map Prod.fst
    · obtain ⟨e, he, rfl⟩ := List.mem_map.mp hm
      exact (hl.get e he).trans ((hs.mem_iff e).1 he).symm
    · rw [Lines.getMap_none_of_not_key n entries hm]
      cases h : σ.lines.get n with
      | none => exact h
      | some ts => exact absurd ((hwf.agree n).mpr (by rw [h]; rfl)) (hk ▸ hm)
  simp [Lines.canon, hm, hk]

theorem reload_canon (laws : NumLaws F) (fuel fuel' : Nat) (σ : St F) (hr : Reachable fuel' σ) :
    reload fuel σ = loaded σ σ.lines.canon := by
  have hwf : C04.WF σ.lines := (wf_reachable fuel' σ hr).lines
  have hst := stored_reachable fuel' σ hr
  obtain ⟨entries, hl⟩ := listing_exists σ hwf
  rw [reload_eq laws fuel σ entries hl hst,
    listed_canon σ entries hwf hl fun e he => (hst e.1 e.2 (hl.get e he)).2.1]

/-- The store of the reloaded interpreter (`(reload fuel σ).lines = σ.lines` itself is false in
    general: `reload_lines_eq_false`): it is the store of `σ` with its token map in ascending key
    order (`Lines.canon` keeps the ordered index, and `get` for every line number:
    `Lines.canon_get`). -/
theorem reload_lines_eq_partial (laws : NumLaws F) (fuel fuel' : Nat) (σ : St F) (hr : Reachable fuel' σ) :
    (reload fuel σ).lines = σ.lines.canon :=
  congrArg St.lines (reload_canon laws fuel fuel' σ hr)

theorem reload_sorted (laws : NumLaws F) (fuel fuel' : Nat) (σ : St F) (hr : Reachable fuel' σ) :
    (reload fuel σ).lines.sorted = σ.lines.sorted := by
  rw [reload_lines_eq_partial laws fuel fuel' σ hr]; rfl

theorem reload_get (laws : NumLaws F) (fuel fuel' : Nat) (σ : St F) (hr : Reachable fuel' σ) (n : Nat) :
    (reload fuel σ).lines.get n = σ.lines.get n := by
  rw [reload_lines_eq_partial laws fuel fuel' σ hr, Lines.canon_get]

/-- `(reload fuel σ).lines = σ.lines` holds when the token map of `σ` is in key order
    (e.g. the lines were first entered in ascending order) -/
theorem reload_lines_eq_of_keySorted (laws : NumLaws F) (fuel fuel' : Nat) (σ : St F) (hr : Reachable fuel' σ)
    (hk : Lines.KeySorted σ.lines.map) : (reload fuel σ).lines = σ.lines := by
  rw [reload_lines_eq_partial laws fuel fuel' σ hr]
  show ({ map := Lines.canonMap σ.lines.map, sorted := σ.lines.sorted } : Lines F) = _
  rw [Lines.canonMap_of_keySorted _ hk]

/-- LIST of the reloaded program is LIST of the program (the fixed point, for whole programs) -/
theorem reload_list (laws : NumLaws F) (fuel fuel' : Nat) (σ : St F) (hr : Reachable fuel' σ) :
    (reload fuel σ).lines.list = σ.lines.list := by
  rw [reload_lines_eq_partial laws fuel fuel' σ hr, Lines.canon_list]

/-- READ sees the same sequence of DATA items (same chunks at the
    same locations) in the reloaded program. -/
theorem reload_data_sequence (laws : NumLaws F) (fuel fuel' : Nat) (σ : St F) (hr : Reachable fuel' σ) :
    (reload fuel σ).lines.dataChunks = σ.lines.dataChunks := by
  rw [reload_lines_eq_partial laws fuel fuel' σ hr, Lines.canon_dataChunks]

theorem lsim_call (fuel : Nat) (c : Call) : LSim (c.run (F := F) fuel) :=
  lsim_iff_simBy.2 (C01.simBy_call lnormN rfl fuel c)

/-- what the host sees of a call: `none` for `Ok`, the error otherwise -/
def outcome {α : Type} : Res F α → Option TErr
  | .ok _ _ => none
  | .err e _ => some e

/-- the transcript of a call sequence: the outcome of every call and the output queue after it -/
def transcript (fuel : Nat) : List Call → St F → List (Option TErr × List Out)
  | [], _ => []
  | c :: cs, σ => (outcome (c.run fuel σ), (applyCall fuel c σ).out) :: transcript fuel cs (applyCall fuel c σ)

theorem applyCalls_cons (fuel : Nat) (c : Call) (cs : List Call) (σ : St F) :
    applyCalls fuel (c :: cs) σ = applyCalls fuel cs (applyCall fuel c σ) := rfl

/-- the order of the token map is unobservable, for every call sequence -/
theorem transcript_lsim (fuel : Nat) (cs : List Call) (σ₁ σ₂ : St F) (h : lnorm σ₁ = lnorm σ₂) :
    transcript fuel cs σ₁ = transcript fuel cs σ₂ ∧
    lnorm (applyCalls fuel cs σ₁) = lnorm (applyCalls fuel cs σ₂) := by
  induction cs generalizing σ₁ σ₂ with
  | nil => exact ⟨rfl, h⟩
  | cons c cs ih =>
    obtain ⟨k1, k2⟩ := C01.call_obs lnormN rfl fuel c h outcome (fun _ _ _ => rfl) (fun _ _ _ => rfl)
    obtain ⟨i1, i2⟩ := ih _ _ k2
    have hout : (applyCall fuel c σ₁).out = (applyCall fuel c σ₂).out := by
      have := congrArg St.out k2; exact this
    exact ⟨by simp only [transcript, k1, hout, i1], by rw [applyCalls_cons, applyCalls_cons]; exact i2⟩

theorem transcript_first_congr (fuel : Nat) (c : Call) (cs : List Call) (σ σ' : St F)
    (h : c.run fuel σ = c.run fuel σ') :
    transcript fuel (c :: cs) σ = transcript fuel (c :: cs) σ' ∧
    applyCalls fuel (c :: cs) σ = applyCalls fuel (c :: cs) σ' := by
  have ha : applyCall fuel c σ = applyCall fuel c σ' := by unfold applyCall; rw [h]
  exact ⟨by simp only [transcript, h, ha], by rw [applyCalls_cons, applyCalls_cons, ha]⟩

def runCall : Call := .start "RUN".toList

/-- For every reachable idle `σ` and EVERY later call sequence `cs`
    (continue, replies to INPUT, breaks, further lines and commands, …): `RUN :: cs` in the
    reloaded interpreter and in `σ` have the same transcript — the same outcome of every
    call and the same output queue after every call — and end in states that differ at most
    in the order of the token map.  (C14's "same RUN behaviour"; C10's "freshly started
    interpreter holding the same program".) -/
theorem reload_same_run (laws : NumLaws F) (fuel fuel' : Nat) (σ : St F) (hr : Reachable fuel' σ)
    (hidle : σ.state = .idle) (cs : List Call) :
    transcript fuel (runCall :: cs) (reload fuel σ) = transcript fuel (runCall :: cs) σ ∧
    lnorm (applyCalls fuel (runCall :: cs) (reload fuel σ)) = lnorm (applyCalls fuel (runCall :: cs) σ) := by
  have hrun : (commandWord "RUN".toList).bind Command.ofWord = some .run := by decide
  have h1 : runCall.run fuel σ = runCall.run fuel (C10.fresh σ) :=
    C10.run_clean_reachable fuel fuel' _ σ hr hidle hrun
  -- RUN in `reload σ` = RUN in `fresh (reload σ)`, which is `fresh σ` with its store in normal form
  have h2 : runCall.run fuel (reload fuel σ) = runCall.run fuel (lnorm (C10.fresh σ)) := by
    rw [reload_canon laws fuel fuel' σ hr]
    exact C10.run_clean fuel _ _ rfl rfl hrun
  obtain ⟨a1, a2⟩ := transcript_first_congr fuel runCall cs _ _ h1
  obtain ⟨b1, b2⟩ := transcript_first_congr fuel runCall cs _ _ h2
  obtain ⟨c1, c2⟩ := transcript_lsim fuel (runCall :: cs) _ _ (lnorm_idem (C10.fresh σ))
  exact ⟨by rw [a1, b1, c1], by rw [a2, b2, c2]⟩

/-- in particular the output produced is the same after every prefix of the session -/
theorem reload_same_output (laws : NumLaws F) (fuel fuel' : Nat) (σ : St F) (hr : Reachable fuel' σ)
    (hidle : σ.state = .idle) (cs : List Call) :
    (applyCalls fuel (runCall :: cs) (reload fuel σ)).out = (applyCalls fuel (runCall :: cs) σ).out ∧
    (applyCalls fuel (runCall :: cs) (reload fuel σ)).state = (applyCalls fuel (runCall :: cs) σ).state ∧
    (applyCalls fuel (runCall :: cs) (reload fuel σ)).vars = (applyCalls fuel (runCall :: cs) σ).vars ∧
    (applyCalls fuel (runCall :: cs) (reload fuel σ)).arrays = (applyCalls fuel (runCall :: cs) σ).arrays := by
  have h := (reload_same_run laws fuel fuel' σ hr hidle cs).2
  have o := congrArg St.out h
  have st := congrArg St.state h
  have v := congrArg St.vars h
  have a := congrArg St.arrays h
  exact ⟨o, st, v, a⟩

/-- LIST records end in a newline, which the tokenizer rejects: a host that re-enters a
    listing must strip it (`chompNl`); entered verbatim, no line of the listing is stored. -/
theorem newline_rejected :
    (tokenize (F := Unit) "10 END\n".toList 2).toOption.isSome = false ∧
    (tokenize (F := Unit) "10 END".toList 2).toOption.isSome = true ∧
    (enterAll (F := Unit) 5 ["10 END\n".toList] {}).lines.sorted = [] := by
  literal_chars
  decide +kernel

theorem numLaws_unit : NumLaws Unit :=
  ⟨(fun _ _ _ _ hp => by cases hp), (fun _ _ _ hp => by cases hp), (fun _ _ hp => by cases hp)⟩

def outOfOrder : St Unit := applyCalls 5 [.start "20 END".toList, .start "10 END".toList] {}

/-- `(reload σ).lines = σ.lines` is false as a structural equality: the token maps differ
    in order (insertion order against line order); the index is the same. -/
theorem reload_lines_eq_false :
    Reachable 5 outOfOrder ∧ outOfOrder.state = .idle ∧
    (reload 5 outOfOrder).lines ≠ outOfOrder.lines ∧
    (reload 5 outOfOrder).lines.map.map (·.1) = [10, 20] ∧ outOfOrder.lines.map.map (·.1) = [20, 10] ∧
    (reload 5 outOfOrder).lines.sorted = outOfOrder.lines.sorted := by
  have hr : Reachable 5 outOfOrder := reachable_applyCalls 5 _ _ .init
  have hc := reload_lines_eq_partial numLaws_unit 5 5 _ hr
  have hk : outOfOrder.state = .idle ∧ outOfOrder.lines.canon.map.map (·.1) = [10, 20] ∧
      outOfOrder.lines.map.map (·.1) = [20, 10] := by
    unfold outOfOrder
    literal_chars
    decide +kernel
  refine ⟨hr, hk.1, fun h => ?_, by rw [hc]; exact hk.2.1, hk.2.2, reload_sorted numLaws_unit 5 5 _ hr⟩
  have e := hk.2.1
  rw [← hc, h, hk.2.2] at e
  cases e

/-- A session on the degenerate carrier (`NumLaws Unit` holds), entered out of order, with a
    DATA line holding a quoted string with a comma and an unquoted string. -/
def sessionU : St Unit :=
  applyCalls 30 [.start "30 PRINT A$; B$".toList, .start "10 DATA \"A, B\", x y".toList,
    .start "20 READ A$, B$".toList] {}

theorem sessionU_reachable : Reachable 30 sessionU := reachable_applyCalls 30 _ _ .init

/-- the theorems instantiated: all hypotheses hold together … -/
example (cs : List Call) :
    transcript 30 (runCall :: cs) (reload 30 sessionU) = transcript 30 (runCall :: cs) sessionU :=
  (reload_same_run numLaws_unit 30 30 sessionU sessionU_reachable
    (by unfold sessionU; literal_chars; decide +kernel) cs).1

example : (reload 30 sessionU).lines.dataChunks = sessionU.lines.dataChunks :=
  reload_data_sequence numLaws_unit 30 30 sessionU sessionU_reachable

/-- … and the conclusion is not trivial: the token maps differ in order, the run prints. -/
example :
    sessionU.lines.map.map (·.1) = [30, 10, 20] ∧ (reload 30 sessionU).lines.map.map (·.1) = [10, 20, 30] ∧
    sessionU.lines.dataChunks = some [({ line := some 10, idx := 0 }, [.str "A, B".toList, .str "x y".toList])] ∧
    transcript 30 [runCall, .cont, .cont] sessionU =
      [(none, []), (none, []), (none, [.print "A, Bx y\n".toList])] := by
  rw [reload_lines_eq_partial numLaws_unit 30 30 _ sessionU_reachable]
  unfold sessionU
  literal_chars
  decide +kernel

/-- decimal numerals: (all digits read as one number, number of fraction digits) -/
abbrev Dec := Nat × Nat

def decParse (s : Str) : Option Dec :=
  let ip := s.takeWhile (· != '.')
  let fp := (s.dropWhile (· != '.')).drop 1
  if (ip ++ fp).isEmpty || !(ip ++ fp).all isAsciiDigit then none
  else some (digitsValue (ip ++ fp) 0, fp.length)

def decRender (x : Dec) : Str :=
  let ds := Nat.toDigits 10 x.1
  let ds := List.replicate (x.2 + 1 - ds.length) '0' ++ ds
  if x.2 = 0 then ds else ds.take (ds.length - x.2) ++ '.' :: ds.drop (ds.length - x.2)

/-- only `parse` / `render` / comparison matter here -/
@[instance_reducible] def decOps : NumOps Dec where
  zero := (0, 0)
  one := (1, 0)
  add := fun a _ => a
  sub := fun a _ => a
  mul := fun a _ => a
  div := fun a _ => a
  pow := fun a _ => a
  neg := fun a => a
  abs := fun a => a
  floor := fun a => a
  lt := fun a b => decide (a.1 * 10 ^ b.2 < b.1 * 10 ^ a.2)
  le := fun a b => decide (a.1 * 10 ^ b.2 ≤ b.1 * 10 ^ a.2)
  eq := fun a b => decide (a.1 * 10 ^ b.2 = b.1 * 10 ^ a.2)
  toI64 := fun a => ((a.1 / 10 ^ a.2 : Nat) : Int)
  toU64 := fun a => a.1 / 10 ^ a.2
  ofNat := fun n => (n, 0)
  parse := decParse
  render := decRender
  isFinite := fun _ => true

section
attribute [local instance] decOps

/-- a program entered out of order: a DATA line with a quoted string containing a comma, a
    numeral and an unquoted string; a numeral after an identifier (`A .5`, stored as the
    number 0.5 and listed as `.5`) -/
def sessionD : St Dec :=
  applyCalls 50 [.start "30 PRINT A .5".toList, .start "10 DATA \"A, B\", 1.5, x y".toList,
    .start "20 READ A$, B, C$".toList, .start "40 PRINT A$; B; C$".toList] {}

end

end Abasic.Props.C14
