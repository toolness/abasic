import Abasic.Proofs.RelB
import Abasic.Proofs.RelL
import Abasic.Props.C01More
/-
  C16 (continued) — the frame cap holds in every reachable state.

  `gosub_cap` (below) and `call_cap` (C16.lean) are about the two operations that push a frame.  Here the
  fact is lifted through the whole evaluator and the host API with the generic lifting of
  Proofs/Lift.lean, instantiated at the frame
  `RB σ σ' := σ.stack.length ≤ cap → σ'.stack.length ≤ cap` (Proofs/RelB.lean).
-/
namespace Abasic.Props.C16
open Abasic Abasic.Hoare Abasic.Props.C01

variable {F : Type} [NumOps F]

omit [NumOps F] in
/-- GOSUB: the frame cap is respected; at the cap it is OUT OF MEMORY and the stack is untouched. -/
theorem gosub_cap (n : Nat) (σ : St F) (h : σ.stack.length ≤ Extracted.stackLimit) :
    (∀ σ', gosubLine n σ = .ok () σ' → σ'.stack.length ≤ Extracted.stackLimit) ∧
    (∀ e σ', gosubLine n σ = .err e σ' → σ'.stack = σ.stack) ∧
    (σ.stack.length = Extracted.stackLimit → gosubLine n σ = .err { err := .oomStack } σ) := by
  rw [gosubLine_eq]
  by_cases hcap : σ.stack.length = Extracted.stackLimit
  · simp [hcap]
  · by_cases hl : σ.lines.has n = true <;> simp [hcap, hl]
    omega

theorem stack_cap_evalN (n : Nat) :
    Respects RB (evalN (F := F) n).expr ∧ Respects RB (evalN (F := F) n).stmt :=
  fr_evalN n

theorem stack_cap_start (fuel : Nat) (line : Str) (σ : St F) (h : σ.stack.length ≤ Extracted.stackLimit) :
    (∀ a σ', startEvaluating fuel line σ = .ok a σ' → σ'.stack.length ≤ Extracted.stackLimit) ∧
    (∀ e σ', startEvaluating fuel line σ = .err e σ' → σ'.stack.length ≤ Extracted.stackLimit) :=
  (fr_startEvaluating (R := RB) fuel line).post σ fun _ hr => hr h

theorem stack_cap_cont (fuel : Nat) (σ : St F) (h : σ.stack.length ≤ Extracted.stackLimit) :
    (∀ a σ', continueEvaluating fuel σ = .ok a σ' → σ'.stack.length ≤ Extracted.stackLimit) ∧
    (∀ e σ', continueEvaluating fuel σ = .err e σ' → σ'.stack.length ≤ Extracted.stackLimit) :=
  (fr_continueEvaluating (R := RB) fuel).post σ fun _ hr => hr h

theorem stack_cap_call (fuel : Nat) (c : Call) (σ : St F) (h : σ.stack.length ≤ Extracted.stackLimit) :
    (applyCall fuel c σ).stack.length ≤ Extracted.stackLimit :=
  applyCall_frame (R := RB) fuel c σ h

theorem stack_cap_calls (fuel : Nat) (cs : List Call) (σ : St F) (h : σ.stack.length ≤ Extracted.stackLimit) :
    (applyCalls fuel cs σ).stack.length ≤ Extracted.stackLimit :=
  applyCalls_frame (R := RB) fuel cs σ h

/-- The frame cap is an invariant of every reachable state: a new interpreter
    has an empty stack, and no host call can push the 33rd frame. -/
theorem stack_cap_invariant (fuel : Nat) (σ : St F) (h : Reachable fuel σ) :
    σ.stack.length ≤ Extracted.stackLimit := by
  induction h with
  | init => exact Nat.zero_le _
  | step c _ ih => exact stack_cap_call fuel c _ ih

theorem stack_cap_invariant_32 (fuel : Nat) (cs : List Call) :
    (applyCalls (F := F) fuel cs {}).stack.length ≤ 32 :=
  stack_cap_calls fuel cs {} (Nat.zero_le _)

/-! ### the FOR-loop stack (same cap, same lifting, frame `RL`) -/

theorem loop_cap_call (fuel : Nat) (c : Call) (σ : St F) (h : σ.loops.length ≤ Extracted.stackLimit) :
    (applyCall fuel c σ).loops.length ≤ Extracted.stackLimit :=
  applyCall_frame (R := RL) fuel c σ h

/-- The loop cap is an invariant of every reachable state too. -/
theorem loop_cap_invariant (fuel : Nat) (σ : St F) (h : Reachable fuel σ) :
    σ.loops.length ≤ Extracted.stackLimit := by
  induction h with
  | init => exact Nat.zero_le _
  | step c _ ih => exact loop_cap_call fuel c _ ih

end Abasic.Props.C16
