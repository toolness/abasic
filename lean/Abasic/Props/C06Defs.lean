import Abasic.Proofs.DefsFirst
import Abasic.Props.C14More
import Abasic.Props.C06File3
/-
  C06 — the property's side condition "function definitions are each unique and executed before any
  use", discharged STATICALLY.

  `DefsAgree p g` (Abasic/Proofs/Typing3.lean) is the semantic form: at every statement the run reaches, the
  run-time function table holds exactly the definitions the analyzer had there.  `DefsFirst p`
  (Abasic/Proofs/DefsFirst.lean) is a decidable, purely syntactic criterion on the program text:

    (i)   the program begins with `k` lines that contain only DEF (and DATA) statements, and no later
          line contains a DEF (not even under an IF);
    (ii)  every function name is defined at most once;
    (iii) no GOTO / GOSUB / `THEN n` / `ELSE n` targets one of the first `k` lines;
    (iv)  no body of a DEF mentions (as call or as cell name) a function that is defined later in the text.

  Remark: the proof of `defsAgree_of_defsFirst` does not use (ii) (a redefinition that satisfies (iv)
  replaces the table entry and the signature alike); it is part of `DefsFirst` because the property asks
  for it.  `defsAgree_of_split` is the statement without it.
-/

namespace Abasic.Props.C06
open Abasic Abasic.Ref Abasic.ExprL Abasic.ExprL2 Abasic.Stmt3L

variable {F : Type} [NumOps F]

/-- The static criterion, for an explicit split `pre ++ post` of the program (no uniqueness of names needed). -/
theorem defsAgree_of_split {pre post : RProgram3 F} (hwf : RProgram3.WF (pre ++ post))
    (hpre : ∀ l ∈ pre, ∀ s ∈ l.2, isDefOrData s = true) (hpost : ∀ l ∈ post, ∀ s ∈ l.2, defFree s = true)
    (htg : ∀ l ∈ post, ∀ s ∈ l.2, ∀ m ∈ targets s, m ∉ pre.map (·.1)) (hnl : NoLaterUse (flatP pre))
    (hty : typeOfP3 (pre ++ post) = .ok ()) (g : Nat) : DefsAgree (pre ++ post) g :=
  defsAgree_of_inv (DFInv pre post) (dfInv_start hwf.ascending g)
    (fun _ _ hI hs => dfInv_step hwf.ascending hpre hpost htg hI hs)
    (fun _ _ _ hI hpc => dfInv_typed hty hpre hpost hnl hI hpc)

theorem defsAgree_of_defsFirstAt {p : RProgram3 F} {k : Nat} (hwf : p.WF) (hdf : DefsFirstAt p k)
    (hty : typeOfP3 p = .ok ()) (g : Nat) : DefsAgree p g := by
  obtain ⟨h1, h2, _, h4, h5⟩ := hdf
  have hp : p.take k ++ p.drop k = p := List.take_append_drop k p
  have := defsAgree_of_split (pre := p.take k) (post := p.drop k) (by rw [hp]; exact hwf) h1 h2 h4 h5
    (by rw [hp]; exact hty) g
  rw [hp] at this
  exact this

/-- A well-formed program that begins with its function definitions (`DefsFirst`: (i)–(iv) above) and
    passes the static check satisfies the dynamic side condition of the property: in every state its run
    reaches, the function table holds exactly the definitions the analyzer had seen at the statement at the
    program counter. -/
theorem defsAgree_of_defsFirst {p : RProgram3 F} (hwf : p.WF) (hdf : DefsFirst p) (hty : typeOfP3 p = .ok ())
    (g : Nat) : DefsAgree p g := by
  obtain ⟨k, _, hk⟩ := hdf
  exact defsAgree_of_defsFirstAt hwf hk hty g

/-- `sound_program3` with `DefsAgree` replaced by `DefsFirst p`. -/
theorem sound_program3_static {p : RProgram3 F} {fuel : Nat} (hfit : C03.Fits3 p) {σ : St F} (h : C03.PReady3 p σ)
    (hsafe : C03.SafeRun p fuel (p.start σ.rng)) (hty : typeOfP3 p = .ok ()) (hdf : DefsFirst p) (k : Nat) :
    (∀ te σ', C03.runTurns fuel k σ = .err te σ' →
      RunErr3 te.err ∧ te.err ≠ .typeMismatch ∧ (∀ se, te.err ≠ .syntax se) ∧
      te.err ≠ .undefinedStatement) ∧
    (∀ σ', C03.runTurns fuel k σ = .ok () σ' → WellTyped σ') :=
  sound_program3 hfit h hsafe hty (defsAgree_of_defsFirst hfit.wf hdf hty σ.rng) k

/-- `sound_analyzed_file3` (Props/C06File3.lean) with the dynamic side condition `DefsAgree` replaced by the
    static criterion `DefsFirst p`: each name defined once, in a prefix of DEF / DATA lines that no jump targets,
    no body mentioning a function defined later. -/
theorem sound_analyzed_file3_static {p : RProgram3 F} {fa fuel : Nat} (hfa : AFits3 p fa) (hfit : C03.Fits3 p)
    (lines : List Str) (hgood : C15.GoodFile F lines (editsOf3 p))
    (hnoerr : ∀ f e, Diag.error f e ∉ (analyzeFile (F := F) fa lines).messages)
    (hsafe : C03.SafeRun p fuel (p.start 0)) (hdf : DefsFirst p) (k : Nat) :
    C03.PReady3 p (analyzeFile (F := F) fa lines).intoInterpreter ∧
    typeOfP3 p = .ok () ∧
    (∀ te σ', C03.runTurns fuel k (analyzeFile (F := F) fa lines).intoInterpreter = .err te σ' →
      RunErr3 te.err ∧ te.err ≠ .typeMismatch ∧ (∀ se, te.err ≠ .syntax se) ∧
      te.err ≠ .undefinedStatement) ∧
    (∀ σ', C03.runTurns fuel k (analyzeFile (F := F) fa lines).intoInterpreter = .ok () σ' → WellTyped σ') :=
  sound_analyzed_file3 hfa hfit lines hgood hnoerr hsafe
    (defsAgree_of_defsFirst hfa.wf hdf (analyzed_file3_checked hfa lines hgood hnoerr).2 0) k

/-! ### the checked example of `File3`, through the static criterion -/

namespace File3S
open File3

/-- `10 DEF FNA(X) = X` / `20 PRINT FNA(A);` begins with its definitions: one line of them -/
theorem defsFirst : DefsFirst prog := ⟨1, by decide, by decide⟩

example : defsFirstB prog = true := (defsFirstB_iff prog).2 defsFirst

/-- `File3.defsAgree` from the syntactic criterion -/
theorem defsAgree' (g : Nat) : DefsAgree prog g :=
  defsAgree_of_defsFirst fits.wf defsFirst (analyzed_file3_checked afits text good noerr).2 g

/-- `sound_analyzed_file3_static` applies to the concrete source text of `File3`: `DefsAgree`
    by evaluating the syntactic criterion. -/
theorem checked' (k : Nat) :
    typeOfP3 prog = .ok () ∧
    ∀ te σ', C03.runTurns defaultFuel k (analyzeFile (F := Unit) defaultFuel text).intoInterpreter = .err te σ' →
      RunErr3 te.err ∧ te.err ≠ .typeMismatch ∧ (∀ se, te.err ≠ .syntax se) ∧ te.err ≠ .undefinedStatement :=
  have h := sound_analyzed_file3_static afits fits text good noerr (C03.safeRun_of_static static 0) defsFirst k
  ⟨h.2.1, h.2.2.1⟩

end File3S

namespace File3

/-- the side condition "defined before use, once" holds for this program -/
theorem defsAgree : DefsAgree prog 0 := File3S.defsAgree' 0

/-- `sound_analyzed_file3` applies to a concrete source text with a DEF and a call of the function:
    the analysis of the file has no error diagnostic, the program passes `typeOfP3`, and no run of the
    interpreter built from the file fails with a syntax error, TYPE MISMATCH or UNDEF'D STATEMENT. -/
theorem checked (k : Nat) :
    typeOfP3 prog = .ok () ∧
    ∀ te σ', C03.runTurns defaultFuel k (analyzeFile (F := Unit) defaultFuel text).intoInterpreter = .err te σ' →
      RunErr3 te.err ∧ te.err ≠ .typeMismatch ∧ (∀ se, te.err ≠ .syntax se) ∧ te.err ≠ .undefinedStatement :=
  have h := sound_analyzed_file3 afits fits text good noerr (C03.safeRun_of_static static 0) defsAgree k
  ⟨h.2.1, h.2.2.1⟩

end File3

/-! ### a second example: two functions, a FOR loop, a GOSUB -/

namespace Two
attribute [local instance] C14.natOps

def fna : Str := ['F', 'N', 'A']
def fnb : Str := ['F', 'N', 'B']

/-- ```
    10 DEF FNA(X) = X + 1
    20 DEF FNB(X) = FNA(X) * FNA(1)
    25 DATA 7
    30 FOR I = 1 TO 3
    40 GOSUB 70
    50 NEXT I
    60 END
    70 PRINT FNB(I);
    80 RETURN
    ``` two functions, the second calling the first; a FOR loop whose body calls a subroutine that calls `FNB` -/
def prog : RProgram3 Nat :=
  [ (10, [ .defS fna [['X']] (.bin .add (.var ['X']) (.num 1)) ]),
    (20, [ .defS fnb [['X']] (.bin .mul (.call fna [.var ['X']]) (.call fna [.num 1])) ]),
    (25, [ .dataS [.num 7] ]),
    (30, [ .forS ['I'] (.num 1) (.num 3) none ]),
    (40, [ .gosubS 70 ]),
    (50, [ .nextS ['I'] ]),
    (60, [ .endS ]),
    (70, [ .printS [.expr (.call fnb [.var ['I']]), .semi] ]),
    (80, [ .returnS ]) ]

def text : List Str :=
  ["10 DEF FNA(X) = X + 1".toList, "20 DEF FNB(X) = FNA(X) * FNA(1)".toList, "25 DATA 7".toList,
   "30 FOR I = 1 TO 3".toList, "40 GOSUB 70".toList, "50 NEXT I".toList, "60 END".toList,
   "70 PRINT FNB(I);".toList, "80 RETURN".toList]

theorem edits : editsOf3 prog =
    [ (10, [.kw .Def, .symbol fna, .kw .LeftParen, .symbol ['X'], .kw .RightParen, .kw .Equals, .symbol ['X'],
            .kw .Plus, .num 1]),
      (20, [.kw .Def, .symbol fnb, .kw .LeftParen, .symbol ['X'], .kw .RightParen, .kw .Equals,
            .symbol fna, .kw .LeftParen, .symbol ['X'], .kw .RightParen, .kw .Multiply,
            .symbol fna, .kw .LeftParen, .num 1, .kw .RightParen]),
      (25, [.data [.num 7]]),
      (30, [.kw .For, .symbol ['I'], .kw .Equals, .num 1, .kw .To, .num 3]),
      (40, [.kw .Gosub, .num 70]),
      (50, [.kw .Next, .symbol ['I']]),
      (60, [.kw .End]),
      (70, [.kw .Print, .symbol fnb, .kw .LeftParen, .symbol ['I'], .kw .RightParen, .kw .Semicolon]),
      (80, [.kw .Return]) ] := by
  simp [editsOf3, prog, renderLine3, renderTail3, renderS3, renderTargets, renderItems3, PItem3.render, render2_var,
    render2_num, render2_call, renderArgs_one, render2_bin, fixP2, Expr2.prec, BinOp.prec, BinOp.token, NumOps.ofNat]

theorem good : C15.GoodFile Nat text (editsOf3 prog) := by
  rw [edits]
  refine C15.goodFile_of_lineEdits (by decide) ?_
  unfold text
  literal_chars
  decide +kernel

theorem noerr : ∀ f e, Diag.error f e ∉ (analyzeFile (F := Nat) defaultFuel text).messages := by
  have h : (analyzeFile (F := Nat) defaultFuel text).messages.all (fun d => !isErr d) = true := by
    unfold text
    literal_chars
    decide +kernel
  intro f e hmem
  have := List.all_eq_true.mp h _ hmem
  simp [isErr] at this

theorem fits : C03.Fits3 prog where
  wf := ⟨by decide, by intro l hl; simp [prog] at hl; rcases hl with rfl | rfl | rfl | rfl | rfl | rfl | rfl | rfl | rfl <;> simp⟩
  covered := by
    intro l hl s hs
    simp [prog] at hl
    rcases hl with rfl | rfl | rfl | rfl | rfl | rfl | rfl | rfl | rfl <;> (simp at hs; subst hs) <;>
      exact ⟨rfl, by simp [RStmt3.CoveredB, separated3, NumOps.toU64, NumOps.ofNat]⟩

theorem afits : AFits3 prog defaultFuel where
  wf := fits.wf
  lines := by
    simp only [prog, LinesFit3, StmtsFit3, and_true]
    refine ⟨⟨?_, ?_, ?_, ?_⟩, ⟨?_, ?_, ?_, ?_⟩, ⟨?_, ?_, ?_, ?_⟩, ⟨?_, ?_, ?_, ?_⟩, ⟨?_, ?_, ?_, ?_⟩, ⟨?_, ?_, ?_, ?_⟩,
      ⟨?_, ?_, ?_, ?_⟩, ⟨?_, ?_, ?_, ?_⟩, ⟨?_, ?_, ?_, ?_⟩⟩
    all_goals first
      | exact ⟨rfl, by simp [RStmt3.CoveredB, separated3, NumOps.toU64, NumOps.ofNat]⟩
      | (simp [asdepth, aitemsDepth, adepth, depth2, depthArgs, defaultFuel, Extracted.nestingLimit, Expr2.prec, BinOp.prec]; done)
      | (simp only [ResolvedS2, ResolvedItems2, Resolved2, Resolved2L, and_true]; decide)
      | simp [ResolvedS2, Resolved2]

def fnaDef : FnDefSpec Nat := { params := [['X']], body := .bin .add (.var ['X']) (.num 1) }
def fnbDef : FnDefSpec Nat := { params := [['X']], body := .bin .mul (.call fna [.var ['X']]) (.call fna [.num 1]) }

/-- the only definitions the program contains -/
theorem prog_defs {fns : List (Str × FnDefSpec Nat)} (h : FnsOf prog fns) (name : Str) (d : FnDefSpec Nat)
    (hg : alGet name fns = some d) : (name = fna ∧ d = fnaDef) ∨ (name = fnb ∧ d = fnbDef) := by
  simpa [prog, Defines, fnaDef, fnbDef] using fnsOf_mem h hg

/-- a call of `FNA` nests one level (its body is flat) -/
theorem fna_depth {fns : List (Str × FnDefSpec Nat)} (h : FnsOf prog fns) (n : Nat) (a : Expr2 Nat)
    (ha : depth2 fns n a = 0) : depth2 fns n (.call fna [a]) = 1 := by
  rw [depth2.eq_def]
  simp only [depthArgs, ha]
  cases hg : alGet fna fns with
  | none => simp
  | some d =>
    rcases prog_defs h fna d hg with ⟨_, rfl⟩ | ⟨hh, _⟩
    · cases n with
      | zero => simp
      | succ n' => simp [fnaDef, depth2, Expr2.prec, BinOp.prec]
    · exact absurd hh (by decide)

/-- a call of `FNB` nests at most two levels -/
theorem fnb_depth {fns : List (Str × FnDefSpec Nat)} (h : FnsOf prog fns) (n : Nat) (a : Expr2 Nat)
    (ha : depth2 fns n a = 0) : depth2 fns n (.call fnb [a]) ≤ 2 := by
  rw [depth2.eq_def]
  simp only [depthArgs, ha]
  cases hg : alGet fnb fns with
  | none => simp
  | some d =>
    rcases prog_defs h fnb d hg with ⟨hh, _⟩ | ⟨_, rfl⟩
    · exact absurd hh (by decide)
    · cases n with
      | zero => simp
      | succ n' =>
        have h1 := fna_depth h n' (.var ['X']) (by simp [depth2])
        have h2 := fna_depth h n' (.num 1) (by simp [depth2])
        simp [fnbDef, depth2, Expr2.prec, BinOp.prec, h1, h2]

theorem static : C03.Static prog defaultFuel where
  ok := by
    intro fns hf
    refine ⟨fun name d hg => ?_, fun l hl s hs => ?_⟩
    · rcases prog_defs hf name d hg with ⟨_, rfl⟩ | ⟨_, rfl⟩
      · simp [fnaDef, Resolved]
      · simp only [fnbDef, Resolved, ResolvedL, and_true]; decide
    · have hb := fnb_depth hf callFuel (.var ['I']) (by simp [depth2])
      simp [prog] at hl
      rcases hl with rfl | rfl | rfl | rfl | rfl | rfl | rfl | rfl | rfl <;> (simp at hs; subst hs)
      · simp [ResolvedS, sdepth3]
      · simp [ResolvedS, sdepth3]
      · simp [ResolvedS, sdepth3]
      · simp [ResolvedS, sdepth3, Resolved, edepth, depth2, defaultFuel, Extracted.nestingLimit]
      · simp [ResolvedS, sdepth3]
      · simp [ResolvedS, sdepth3]
      · simp [ResolvedS, sdepth3]
      · refine ⟨?_, ?_, ?_⟩
        · simp only [ResolvedS, ResolvedItems, Resolved, ResolvedL, and_true]; decide
        · simp only [sdepth3, itemsDepth3, edepth, defaultFuel, Extracted.nestingLimit]; omega
        · simp only [sdepth3, itemsDepth3, edepth, Extracted.nestingLimit]; omega
      · simp [ResolvedS, sdepth3]

theorem typed : typeOfP3 prog = .ok () := by
  simp [typeOfP3, prog, typeOfLines3, typeOfStmts3, typeOfS3, typeAs, typeAny, typeStep2, typeItems3, lineOK,
    typeOf2, typeArgs, sigAfterS, sigAfterStmts, fna, fnb, VT.ofName, endsWithDollar, tierRule, tierOf,
    RProgram3.hasLine, RProgram3.line]

/-- the program begins with its definitions: three lines (two DEFs and a DATA line) — checked by evaluation -/
theorem defsFirst : DefsFirst prog := by decide

example : defsFirstB prog = true := by decide

theorem defsAgree (g : Nat) : DefsAgree prog g := defsAgree_of_defsFirst fits.wf defsFirst typed g

/-- on the reference machine: whatever the generator state, the run can stop only with a `RunErr3` error -/
theorem ref_sound (g m : Nat) (x : Err) (ln : Nat) (out : List Str)
    (h : RSteps3 prog m (prog.start g) = .inr (x, ln, out)) :
    RunErr3 x ∧ x ≠ .typeMismatch ∧ (∀ s, x ≠ .syntax s) ∧ x ≠ .undefinedStatement :=
  rsteps3_typed typed g (defsAgree g) m x ln out h

/-- `sound_analyzed_file3_static` applies to a concrete source text with two functions (the second calling
    the first), a FOR loop and a GOSUB (carrier: natural numbers with decimal numerals, `C14.natOps`): the
    analysis of the file has no error diagnostic, the program passes `typeOfP3` and begins with its definitions,
    and no run of the interpreter built from the file fails with a syntax error, TYPE MISMATCH or UNDEF'D
    STATEMENT. -/
theorem checked (k : Nat) :
    typeOfP3 prog = .ok () ∧
    ∀ te σ', C03.runTurns defaultFuel k (analyzeFile (F := Nat) defaultFuel text).intoInterpreter = .err te σ' →
      RunErr3 te.err ∧ te.err ≠ .typeMismatch ∧ (∀ se, te.err ≠ .syntax se) ∧ te.err ≠ .undefinedStatement :=
  have h := sound_analyzed_file3_static afits fits text good noerr (C03.safeRun_of_static static 0) defsFirst k
  ⟨h.2.1, h.2.2.1⟩

/-! the clauses of the criterion at work (all by evaluation) -/

/-- a definition that is jumped over is not accepted … -/
example : ¬ DefsFirst (F := Nat)
    [ (10, [ .gotoS 30 ]), (20, [ .defS fna [['X']] (.var ['X']) ]), (30, [ .printS [.expr (.call fna [.num 1])] ]) ] := by
  decide

/-- … nor a jump back into the definitions (iii), … -/
example : ¬ DefsFirst (F := Nat) [ (10, [ .defS fna [['X']] (.var ['X']) ]), (20, [ .gotoS 10 ]) ] := by decide

/-- … nor a body that mentions a function defined later (iv), … -/
example : ¬ DefsFirst (F := Nat)
    [ (10, [ .defS fna [['X']] (.call fnb [.var ['X']]) ]), (20, [ .defS fnb [['X']] (.var ['X']) ]) ] := by
  decide

/-- … nor a second definition of a name (ii), nor a DEF under an IF (i); recursion is fine -/
example : ¬ DefsFirst (F := Nat)
    [ (10, [ .defS fna [['X']] (.var ['X']) ]), (20, [ .defS fna [['X']] (.num 1) ]) ] := by
  decide
example : ¬ DefsFirst (F := Nat) [ (10, [ .ifS (.var ['A']) (.defS fna [['X']] (.var ['X'])) none ]) ] := by decide
example : DefsFirst (F := Nat) [ (10, [ .defS fna [['X']] (.call fna [.var ['X']]) ]) ] := by decide

end Two

end Abasic.Props.C06
