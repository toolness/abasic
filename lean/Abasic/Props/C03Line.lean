import Abasic.Props.C03All
import Abasic.Proofs.ExprFrame
/-
  C03 — the exact line of an error raised inside a function body.

  `run3_fails` states the line of such an error as "the statement's line or the
  line of a DEF".  READ OFF THE CODE (`userFunctionCall`, Expr.lean; the call
  proper is `callBody`, Proofs/CallBody.lean): the call moves the cursor to the
  definition (`pushFunctionCall`: line and token index stored by DEF), evaluates
  the body there, and when the body fails it LOCATES the error before it pops
  the frame (`populate`):
    * an error that has no location yet — raised by a primitive while THIS body
      was being evaluated — gets the location just before the cursor, which
      stands on the line of the DEF of this function (the body of a function is
      an expression, and expression evaluation never leaves the line: `RX`);
    * an error that already has a location — it was located by a call made
      further in — is passed on unchanged.
  Every error that leaves a body is located (`body_error_located`), so "has no
  location yet" is exactly "no inner call was being evaluated".  Hence the line
  reported is the line of the DEF of the INNERMOST function whose body was being
  evaluated when the primitive failed.
-/

namespace Abasic.Props.C03
open Abasic Abasic.Hoare Abasic.Proofs.XF M

variable {F : Type} [NumOps F]

/-- the state in which the body of the function defined at `d` starts -/
def bodyStart (σ : St F) (d : FnDef) (b : List (Str × Value F)) : St F :=
  { σ with stack := { ret := σ.loc, vars := b } :: σ.stack, loc := { line := some d.line, idx := d.idx } }

/-- the state a failed call leaves, `s` the body's final state -/
def afterCall (σ s : St F) : St F := { s with stack := σ.stack, loc := σ.loc }

omit [NumOps F] in
/-- DATA TYPE MISMATCH is the exception: it is located by the DATA cursor -/
theorem body_error_located (s : St F) (e : TErr) :
    (s.populate e).loc.isSome = true ∨ e.err = .dataTypeMismatch := by
  by_cases h : e.loc.isSome = true
  · rw [St.populate_located s e h]; exact Or.inl h
  · by_cases hnd : e.err = .dataTypeMismatch
    · exact Or.inr hnd
    · have h0 : e.loc = none := by
        cases hl : e.loc with
        | none => rfl
        | some l => rw [hl] at h; exact absurd rfl h
      rw [St.populate_fresh s e h0 hnd]
      exact Or.inl rfl

theorem callBody_body_fails (ev : Evals F) (he : Respects RX ev.expr) (name : Str) (b : List (Str × Value F))
    (σ : St F) (d : FnDef) (e : TErr) (s : St F)
    (hcap : σ.stack.length ≠ Extracted.stackLimit) (hd : alGet name σ.fns = some d)
    (hb : ev.expr (bodyStart σ d b) = .err e s) :
    callBody ev name b σ = .err (s.populate e) (afterCall σ s) ∧ s.loc.line = some d.line := by
  have hx := he.final (bodyStart σ d b)
  rw [hb] at hx
  have hs : s.stack = { ret := σ.loc, vars := b } :: σ.stack := hx.stack
  have hl : s.loc.line = some d.line := hx.line
  refine ⟨?_, hl⟩
  have hc : ¬ ((σ.stack.length == Extracted.stackLimit) = true) := by simpa using hcap
  rw [callBody_eq, if_neg hc, hd]
  dsimp only
  have hb' : ev.expr { σ with stack := { ret := σ.loc, vars := b } :: σ.stack,
                              loc := { line := some d.line, idx := d.idx } } = .err e s := hb
  rw [hb']
  dsimp only
  rw [hs]
  rfl

/-- A call of the function `name`, defined by the DEF on line `d.line`, whose body
    fails by itself — the error `e` comes out of the body's evaluation without a
    location, i.e. no inner call had located it — reports the error on line
    `d.line`, the line of that DEF (token index: just before the cursor at the
    moment of the failure), whatever line the call stands on. -/
theorem fn_error_line_depth1 (ev : Evals F) (he : Respects RX ev.expr) (name : Str) (b : List (Str × Value F))
    (σ : St F) (d : FnDef) (e : TErr) (s : St F)
    (hcap : σ.stack.length ≠ Extracted.stackLimit) (hd : alGet name σ.fns = some d)
    (hb : ev.expr (bodyStart σ d b) = .err e s) (hfresh : e.loc = none) (hnd : e.err ≠ .dataTypeMismatch) :
    callBody ev name b σ =
      .err { err := e.err, loc := some { line := some d.line, idx := s.loc.idx - 1 } } (afterCall σ s) := by
  obtain ⟨h1, h2⟩ := callBody_body_fails ev he name b σ d e s hcap hd hb
  rw [h1, St.populate_fresh s e hfresh hnd, h2]

/-- A call whose body fails with an error that is already located — by a call made
    further in — reports it unchanged: the attribution of the innermost call wins. -/
theorem fn_error_line_passes (ev : Evals F) (he : Respects RX ev.expr) (name : Str) (b : List (Str × Value F))
    (σ : St F) (d : FnDef) (e : TErr) (s : St F)
    (hcap : σ.stack.length ≠ Extracted.stackLimit) (hd : alGet name σ.fns = some d)
    (hb : ev.expr (bodyStart σ d b) = .err e s) (hloc : e.loc.isSome = true) :
    callBody ev name b σ = .err e (afterCall σ s) := by
  obtain ⟨h1, _⟩ := callBody_body_fails ev he name b σ d e s hcap hd hb
  rw [h1, St.populate_located s e hloc]

/-- `Blames n σ name b te fi di`: the call of `name` (arguments bound as `b`) in
    state `σ`, at fuel `n`, reports the error `te`, and the primitive that failed
    was evaluated in the body of the function `fi`, defined at `di` — the
    INNERMOST function whose body was being evaluated at that moment.
    `own`: the body of `name` failed by itself (no location yet, so no inner call
    was involved: `body_error_located`).  `inner`: the body of `name` failed with
    the very error an inner call (of `namei`, in some state `σi`, with less fuel)
    reported, which in turn blames `fi`. -/
inductive Blames : Nat → St F → Str → List (Str × Value F) → TErr → Str → FnDef → Prop
  | own (n : Nat) (σ : St F) (name : Str) (b : List (Str × Value F)) (d : FnDef) (e : TErr) (s : St F) :
      σ.stack.length ≠ Extracted.stackLimit → alGet name σ.fns = some d →
      (evalN n).expr (bodyStart σ d b) = .err e s → e.loc = none → e.err ≠ .dataTypeMismatch →
      Blames n σ name b (s.populate e) name d
  | inner (n m : Nat) (σ σi : St F) (name namei fi : Str) (b bi : List (Str × Value F)) (d di : FnDef)
      (e : TErr) (s : St F) :
      m < n → σ.stack.length ≠ Extracted.stackLimit → alGet name σ.fns = some d →
      (evalN n).expr (bodyStart σ d b) = .err e s → Blames m σi namei bi e fi di →
      Blames n σ name b e fi di

/-- The outermost call reports the error on the line of the DEF of the innermost
    function whose body was being evaluated when the primitive failed (and that
    function was defined by that DEF when it was called). -/
theorem fn_error_line_exact {n : Nat} {σ : St F} {name : Str} {b : List (Str × Value F)} {te : TErr}
    {fi : Str} {di : FnDef} (h : Blames n σ name b te fi di) :
    (∃ s, callBody (evalN n) name b σ = .err te (afterCall σ s)) ∧
    (∃ i, te.loc = some { line := some di.line, idx := i }) ∧
    (∃ σi : St F, alGet fi σi.fns = some di) := by
  induction h with
  | own n σ name b d e s hcap hd hb hfresh hnd =>
    have h2 := callBody_body_fails (evalN n) (rx_evalN_expr n) name b σ d e s hcap hd hb
    refine ⟨⟨s, h2.1⟩, ⟨s.loc.idx - 1, ?_⟩, ⟨σ, hd⟩⟩
    rw [St.populate_fresh s e hfresh hnd, h2.2]
  | inner n m σ σi name namei fi b bi d di e s _ hcap hd hb _ ih =>
    obtain ⟨_, ⟨i, hi⟩, hdef⟩ := ih
    have hloc : e.loc.isSome = true := by rw [hi]; rfl
    exact ⟨⟨s, fn_error_line_passes (evalN n) (rx_evalN_expr n) name b σ d e s hcap hd hb hloc⟩, ⟨i, hi⟩, hdef⟩

omit [NumOps F] in
/-- The host call (`postprocess`) locates only errors that have no location: the
    location given inside the function body is what the caller of `start_evaluating`
    / `continue_evaluating` sees. -/
theorem fn_error_line_host {α : Type} (m : M F α) (σ s : St F) (te : TErr) (h : m σ = .err te s)
    (hloc : te.loc.isSome = true) : postprocess m σ = .err te { s with state := .idle } := by
  unfold postprocess
  rw [h]
  dsimp only
  rw [St.populate_located s te hloc]

namespace Demo3

def fnc : Str := ['F', 'N', 'C']

/-- ```
    0 DEF FNB(X) = X + "A"
    10 DEF FNC(X) = FNB(X)
    20 PRINT FNC(0)
    ``` -/
def nestedLines : Lines Unit :=
  { map := [ (0, [.kw .Def, .symbol fnb, .kw .LeftParen, .symbol ['X'], .kw .RightParen, .kw .Equals, .symbol ['X'],
                  .kw .Plus, .str ['A']]),
             (10, [.kw .Def, .symbol fnc, .kw .LeftParen, .symbol ['X'], .kw .RightParen, .kw .Equals,
                   .symbol fnb, .kw .LeftParen, .symbol ['X'], .kw .RightParen]),
             (20, [.kw .Print, .symbol fnc, .kw .LeftParen, .num (), .kw .RightParen]) ],
    sorted := [0, 10, 20] }

/-- TYPE MISMATCH raised in the body of FNB, called from the body of FNC, called
    from line 20: reported on line 0 — the DEF of FNB, the innermost function —
    not on line 10 (the DEF of FNC) and not on line 20 (the statement). -/
theorem nested_body_error_line :
    errOf3 (runTurns defaultFuel 2 ({ lines := nestedLines } : St Unit)) =
      some { err := .typeMismatch, loc := some { line := some 0, idx := 8 } } := by
  decide +kernel

end Demo3

#print axioms fn_error_line_exact
#print axioms fn_error_line_depth1

end Abasic.Props.C03
