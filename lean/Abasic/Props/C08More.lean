import Abasic.Props.C08
import Abasic.Props.C03Stmt
import Abasic.Proofs.InputLemmas
import Abasic.Proofs.DataRoundTrip
import Abasic.Ref.Prog3Input
/-
  C08 (continued) — INPUT suspends and resumes correctly wherever it sits.

  Throughout, the current line is `pre ++ INPUT :: target ++ rest` for ARBITRARY
  `pre` and `rest` (`At σ pre post`: the line is `pre ++ post`, the cursor stands
  at `|pre|`), and the state `σ` is otherwise arbitrary (any GOSUB / FN stack,
  any open loops, data cursor, functions, breakpoint, tracing flag, warnings).
  The exception to placement independence: `THEN INPUT … ELSE` on one line
  (`input_resumes_into_else`, `then_input_else_resumes_into_else`).
-/
namespace Abasic.Props.C08
open Abasic Abasic.ExprL Abasic.StmtL Abasic.InputL
open Abasic.Ref hiding storeCell

variable {F : Type} [NumOps F]

/-- a reply holds more than INPUT takes: a second item, or bytes the DATA
    parser did not consume -/
def surplus (more : List (DataElement F)) (n : Nat) (text : Str) : Bool :=
  !more.isEmpty || decide (n < len8 text)

def extraOut (b : Bool) : List Out := if b then [.extraIgnored] else []

omit [NumOps F] in
theorem extraOut_iff (b : Bool) : Out.extraIgnored ∈ extraOut b ↔ b = true := by
  cases b <;> simp [extraOut]

omit [NumOps F] in
theorem emitExtra_eq (b : Bool) (σ : St F) :
    (if b = true then emit .extraIgnored else pure PUnit.unit : M F PUnit) σ =
      .ok () { σ with out := extraOut b ++ σ.out } := by
  cases b <;> rfl

omit [NumOps F] in
theorem at_input_none {σ : St F} {pre post : List (Token F)} (h : At σ pre post) :
    At ({ σ with input := none } : St F) pre post := ⟨h.1, h.2⟩

omit [NumOps F] in
theorem at_behind {σ σ' : St F} {pre mid post : List (Token F)} (h : At σ pre (mid ++ post))
    (hl : lineToks σ' = lineToks σ) (hi : σ'.loc.idx = pre.length + mid.length) : At σ' (pre ++ mid) post :=
  ⟨by rw [hl, h.1, List.append_assoc], by rw [hi, List.length_append]⟩

theorem inputStatement_none (ev : Evals F) {σ : St F} {pre rest : List (Token F)}
    (hin : σ.input = none) (h : At σ (pre ++ [.kw .Input]) rest) :
    inputStatement ev σ =
      .ok () { σ with loc := { σ.loc with idx := pre.length }, state := .awaitingInput, reads := σ.reads + 1 } := by
  unfold inputStatement
  rw [bind_ok (takeInput_none hin)]
  exact rewind_behind (mid := []) h (fun _ h => nomatch h)

theorem readReply_accept {name text : Str} {first : DataElement F} {more : List (DataElement F)} {n : Nat} {v : Value F}
    (hpd : parseData (F := F) text = (first :: more, n)) (hco : Value.coerceFromData name first = .ok v) :
    readReply (F := F) name text = .accept v (surplus more n text) := by
  simp only [readReply, hpd, hco]; rfl

theorem readReply_reenter {name text : Str} {first : DataElement F} {more : List (DataElement F)} {n : Nat} {e : Err}
    (hpd : parseData (F := F) text = (first :: more, n)) (hco : Value.coerceFromData name first = .error e) :
    readReply (F := F) name text = .reenter := by
  simp only [readReply, hpd, hco]

theorem readReply_matches {name text : Str} {v : Value F} {extra : Bool}
    (h : readReply (F := F) name text = .accept v extra) : v.matchesName name = true := by
  unfold readReply at h
  split at h
  · cases h
  · rename_i first _ _ _
    cases hco : Value.coerceFromData name first with
    | ok w => rw [hco] at h; cases h; exact ArrayL.coerce_matches hco
    | error e => rw [hco] at h; cases h

/-- **INPUT with a reply pending is `readReply`** (Ref/Prog3Input.lean).  The reply is consumed and the target
    parsed (`lv`, in `σ₁`: any target, scalar or array cell); then the first item of the reply, coerced by the
    target's name, is assigned (`?EXTRA IGNORED` iff surplus), or `?REENTER` is emitted and the cursor goes back
    to the INPUT token.  Never an error of its own: the DATA parser returns at least one item
    (`parseData_spec`) and the coercion fails with DATA TYPE MISMATCH only. -/
theorem inputStatement_reply (ev : Evals F) {σ σ₁ : St F} {text : Str} {lv : LValue}
    (hin : σ.input = some text) (hlv : parseLValue ev ({ σ with input := none } : St F) = .ok lv σ₁) :
    inputStatement ev σ = match readReply (F := F) lv.name text with
      | .accept v extra => (assignValue lv v >>= fun _ => if extra then emit .extraIgnored else pure ()) σ₁
      | .reenter => rewindAndAwaitInput { σ₁ with out := .reenter :: σ₁.out } := by
  have hne := (DataRT.parseData_spec (F := F) text).1
  have htk := reply_parse σ text hin
  cases hpd : parseData (F := F) text with
  | mk items n =>
    rw [hpd] at hne htk
    cases items with
    | nil => exact absurd rfl hne
    | cons first more =>
      unfold inputStatement
      rw [bind_ok htk]
      show (parseLValue ev >>= _) _ = _
      rw [bind_ok hlv]
      cases hco : Value.coerceFromData lv.name first with
      | ok v => rw [readReply_accept hpd hco]; simp only [hco]; rfl
      | error e => cases ArrayL.coerce_err hco; rw [readReply_reenter hpd hco]; simp only [hco]; rfl

/-- … on a scalar target `name` (no `(` behind it); `rewind_behind` says where the rewind goes -/
theorem inputStatement_scalar (ev : Evals F) {σ : St F} {pre rest : List (Token F)} {text name : Str}
    (hin : σ.input = some text) (h : At σ pre (.symbol name :: rest))
    (hnp : ∀ t, rest.head? = some t → t.isKw .LeftParen = false) :
    inputStatement ev σ = match readReply (F := F) name text with
      | .accept v extra => .ok () { σ with input := none, loc := { σ.loc with idx := σ.loc.idx + 1 }, vars := alSet name v σ.vars, out := extraOut extra ++ σ.out, reads := σ.reads + 1 + 1 }
      | .reenter => rewindAndAwaitInput { σ with input := none, loc := { σ.loc with idx := σ.loc.idx + 1 }, out := .reenter :: σ.out, reads := σ.reads + 1 + 1 } := by
  rw [inputStatement_reply ev hin (parseLValue_scalar_at (at_input_none h) hnp)]
  cases hr : readReply (F := F) name text with
  | reenter => rfl
  | accept v extra =>
    have ha : ∀ s : St F, assignValue { name := name, index := none } v s =
        .ok () { s with vars := alSet name v s.vars } := by
      intro s
      simp only [assignValue, setVar, readReply_matches hr, ↓reduceIte, M.modify]
    simp only
    rw [bind_ok (ha _)]
    exact (emitExtra_eq _ _).trans rfl

theorem inputStatement_reenter (ev : Evals F) {σ : St F} {pre rest : List (Token F)} {text name : Str}
    (hin : σ.input = some text) (h : At σ (pre ++ [.kw .Input]) (.symbol name :: rest))
    (hnp : ∀ t, rest.head? = some t → t.isKw .LeftParen = false)
    (hr : readReply (F := F) name text = .reenter) :
    inputStatement ev σ =
      .ok () { σ with input := none, loc := { σ.loc with idx := pre.length }, state := .awaitingInput, out := .reenter :: σ.out, reads := σ.reads + 1 + 1 + 2 } := by
  rw [inputStatement_scalar ev hin h hnp, hr]
  refine Eq.trans (rewind_behind (pre := pre) (mid := [.symbol name]) (post := rest) ?_
    (fun _ h => List.mem_singleton.1 h ▸ rfl)) rfl
  exact ⟨by show lineToks σ = _; rw [h.1]; simp, by show σ.loc.idx + 1 = _; rw [h.2]; simp⟩

/-! ### the same with the line given as `tokens σ = .ok ts σ` and the tokens by their index -/

omit [NumOps F] in
theorem noParen_of_ne {ts : List (Token F)} {i : Nat} (h : ts[i]? ≠ some (.kw .LeftParen)) :
    ∀ t, (ts.drop i).head? = some t → t.isKw .LeftParen = false := by
  intro t ht
  rw [List.head?_drop] at ht
  cases hk : t.isKw .LeftParen with
  | false => rfl
  | true => exact absurd (ht.trans (congrArg some (isKw_eq hk))) h

/-- Reaching INPUT with no pending reply: the interpreter awaits input with the
    cursor back ON the INPUT token; nothing else changes (the read counter aside). -/
theorem input_suspend (ev : Evals F) (σ : St F) (ts : List (Token F)) (i : Nat) (t : Token F)
    (hin : σ.input = none)
    (hts : tokens σ = .ok ts σ)
    (hidx : σ.loc.idx = i + 1) (ht : ts[i]? = some t) (hk : t.isKw .Input = true) :
    inputStatement ev σ =
      .ok () { σ with loc := { σ.loc with idx := i }, state := .awaitingInput, reads := σ.reads + 1 } := by
  have hi : i < ts.length := (List.getElem?_eq_some_iff.mp ht).1
  have hAt := at_of_tokens hts (by omega)
  rw [hidx, List.take_add_one, ht, isKw_eq hk] at hAt
  rw [inputStatement_none ev hin hAt, List.length_take, Nat.min_eq_left (Nat.le_of_lt hi)]

/-- **input_resume_scalar.**  The resumed INPUT turn with a reply whose first
    item suits the (scalar) target: the turn is exactly the assignment of the
    coerced value, plus `?EXTRA IGNORED` precisely when the reply held more
    than one item or text after the terminating colon. -/
theorem input_resume_scalar (ev : Evals F) (σ : St F) (ts : List (Token F)) (text name : Str)
    (first : DataElement F) (rest : List (DataElement F)) (n : Nat) (v : Value F)
    (hin : σ.input = some text)
    (hts : tokens σ = .ok ts σ)
    (hsym : ts[σ.loc.idx]? = some (.symbol name))
    (hnp : ts[σ.loc.idx + 1]? ≠ some (.kw .LeftParen))
    (hpd : parseData (F := F) text = (first :: rest, n))
    (hco : Value.coerceFromData name first = .ok v) :
    inputStatement ev σ =
      .ok () { σ with input := none, loc := { σ.loc with idx := σ.loc.idx + 1 }, vars := alSet name v σ.vars, reads := σ.reads + 2, out := if (!rest.isEmpty || decide (n < len8 text)) = true then .extraIgnored :: σ.out else σ.out } := by
  rw [inputStatement_scalar ev hin (at_of_tokens_cons hts hsym) (noParen_of_ne hnp), readReply_accept hpd hco]
  unfold surplus
  cases (!rest.isEmpty || decide (n < len8 text)) <;> rfl

/-- **input_reenter_scalar.**  The resumed INPUT turn with a reply whose first
    item does not suit the (scalar, numeric) target: `?REENTER` is emitted, the
    reply is consumed, the interpreter awaits input again with the cursor back
    ON the INPUT token; variables, arrays, stack, loops (indeed everything
    else but the read counter) are untouched. -/
theorem input_reenter_scalar (ev : Evals F) (σ : St F) (ts : List (Token F)) (text name : Str)
    (first : DataElement F) (rest : List (DataElement F)) (n : Nat)
    (hin : σ.input = some text)
    (hts : tokens σ = .ok ts σ)
    (hidx : σ.loc.idx ≥ 1)
    (hinp : ts[σ.loc.idx - 1]? = some (.kw .Input))
    (hsym : ts[σ.loc.idx]? = some (.symbol name))
    (hnp : ts[σ.loc.idx + 1]? ≠ some (.kw .LeftParen))
    (hpd : parseData (F := F) text = (first :: rest, n))
    (hco : Value.coerceFromData name first = .error .dataTypeMismatch) :
    inputStatement ev σ =
      .ok () { σ with input := none, loc := { σ.loc with idx := σ.loc.idx - 1 }, state := .awaitingInput, out := .reenter :: σ.out, reads := σ.reads + 4 } := by
  obtain ⟨i, hi⟩ : ∃ i, σ.loc.idx = i + 1 := ⟨σ.loc.idx - 1, by omega⟩
  have hAt := at_of_tokens_cons hts hsym
  have hil : i < ts.length := by have := (List.getElem?_eq_some_iff.mp hsym).1; omega
  rw [hi, Nat.add_sub_cancel] at hinp
  rw [hi, List.take_add_one, hinp] at hAt
  rw [inputStatement_reenter ev hin hAt (noParen_of_ne (hi ▸ hnp)) (readReply_reenter hpd hco), List.length_take,
    Nat.min_eq_left (Nat.le_of_lt hil), hi, Nat.add_sub_cancel]

/-- **input_resume_array** (subscripts abstract).  The cursor stands just behind
    INPUT, on `name ( …`, and a reply is pending.  If evaluating the subscript
    list from there (reply already taken, name and `(` look-ahead read) yields
    `idx` in the state `σ₁`, and storing into the cell succeeds (`storeCell`:
    the array exists or is created with the default size, the subscripts are
    in range), then the statement ends in `σ₁` with that cell written, the
    undeclared-array warning when warnings are on, and `?EXTRA IGNORED`
    precisely when the reply had a surplus. The reply is gone (`σ₁.input` is
    what the subscripts left of `none`). -/
theorem input_resume_array (ev : Evals F) (σ σ₁ : St F) (pre post : List (Token F)) (text name : Str)
    (first : DataElement F) (more : List (DataElement F)) (n : Nat) (v : Value F) (idx : List Nat)
    (arrs' : List (Str × ArrayV F))
    (hin : σ.input = some text)
    (hAt : At σ pre (.symbol name :: .kw .LeftParen :: post))
    (hpd : parseData (F := F) text = (first :: more, n))
    (hco : Value.coerceFromData name first = .ok v)
    (hix : arrayIndex ev (mv ({ σ with input := none } : St F) 1 (σ.reads + 1 + 1)) = .ok idx σ₁)
    (hst : storeCell name idx v σ₁.arrays = some arrs') :
    inputStatement ev σ =
      .ok () { σ₁ with arrays := arrs',
                       out := extraOut (surplus more n text) ++ (warnOut name σ₁ ++ σ₁.out) } := by
  have ha : assignValue { name := name, index := some idx } v σ₁ =
      .ok () { σ₁ with arrays := arrs', out := warnOut name σ₁ ++ σ₁.out } := by
    unfold assignValue
    show (warnUndeclaredArray name >>= fun _ => arraySet name idx v) σ₁ = _
    rw [bind_ok (warnUndeclaredArray_eq name σ₁)]
    exact arraySet_of_storeCell name idx v _ arrs' hst
  rw [inputStatement_reply ev hin ((parseLValue_array_at (at_input_none hAt)).trans (bind_ok hix)),
    readReply_accept hpd hco]
  show (assignValue _ v >>= _) σ₁ = _
  rw [bind_ok ha]
  exact emitExtra_eq _ _

/-- **input_reenter_array** (subscripts abstract).  As above, but the first item
    of the reply does not suit the target (text for a numeric array).  The
    subscripts ARE evaluated first — whatever they did stays (`σ₁`) — then
    `?REENTER` is emitted and the cursor goes back ON the INPUT token, awaiting
    input.  The target array itself is not touched: in particular it is NOT
    auto-created (`arrays` is `σ₁.arrays`).  `mid` is the stretch between INPUT
    and the cursor of `σ₁` (the target), which must hold no INPUT token. -/
theorem input_reenter_array (ev : Evals F) (σ σ₁ : St F) (pre mid post post' : List (Token F))
    (text name : Str) (first : DataElement F) (more : List (DataElement F)) (n : Nat) (idx : List Nat)
    (hin : σ.input = some text)
    (hAt : At σ (pre ++ [.kw .Input]) (.symbol name :: .kw .LeftParen :: post))
    (hpd : parseData (F := F) text = (first :: more, n))
    (hco : Value.coerceFromData name first = .error .dataTypeMismatch)
    (hix : arrayIndex ev (mv ({ σ with input := none } : St F) 1 (σ.reads + 1 + 1)) = .ok idx σ₁)
    (hAt₁ : At σ₁ (pre ++ .kw .Input :: mid) post') (hmid : ∀ t ∈ mid, t.isKw .Input = false) :
    inputStatement ev σ =
      .ok () { σ₁ with loc := { σ₁.loc with idx := pre.length }, state := .awaitingInput,
                       out := .reenter :: σ₁.out, reads := σ₁.reads + (mid.length + 1) } := by
  rw [inputStatement_reply ev hin ((parseLValue_array_at (at_input_none hAt)).trans (bind_ok hix)),
    readReply_reenter hpd hco]
  exact rewind_behind (mid := mid) ⟨hAt₁.1, hAt₁.2⟩ hmid

/-- **input_resume_array_render.**  `INPUT name(e₁, …, eₖ)` with the subscripts
    written as expression trees (no GOSUB / FN frames, warnings off, room for
    their nesting): the subscripts have no side effects, so the resumed
    statement changes exactly: the reply (cleared), the cursor (behind the `)`),
    the cell of the array (`storeCell`, creating the default array when
    needed), the output (`?EXTRA IGNORED` iff surplus) and the read counter. -/
theorem input_resume_array_render (f : Nat) (σ : St F) (pre rest : List (Token F)) (text name : Str)
    (e : Expr F) (es : List (Expr F))
    (first : DataElement F) (more : List (DataElement F)) (n : Nat) (v : Value F) (idx : List Nat)
    (arrs' : List (Str × ArrayV F))
    (hin : σ.input = some text)
    (hAt : At σ pre (.symbol name :: .kw .LeftParen :: (renderSubs (e :: es) ++ .kw .RightParen :: rest)))
    (hq : Quiet σ) (hfit : SubsFit f σ (e :: es))
    (hpd : parseData (F := F) text = (first :: more, n))
    (hco : Value.coerceFromData name first = .ok v)
    (hv : subsVal (getVar σ) (e :: es) = some idx)
    (hst : storeCell name idx v σ.arrays = some arrs') :
    ∃ r, σ.reads < r ∧
      inputStatement (evalN f) σ =
        .ok () { σ with input := none,
                        loc := { σ.loc with idx := σ.loc.idx + (1 + (1 + (renderSubs (e :: es)).length + 1)) },
                        arrays := arrs', out := extraOut (surplus more n text) ++ σ.out, reads := r } := by
  have hAt1 := at_mv1 (at_input_none hAt) (σ.reads + 1 + 1)
  obtain ⟨r, hr, hix⟩ := arrayIndex_render f e es (mv ({ σ with input := none } : St F) 1 (σ.reads + 1 + 1))
    _ rest idx hAt1 hq hfit hv
  rw [mv_mv] at hix
  simp only [mv_reads] at hr
  refine ⟨r, by omega, ?_⟩
  rw [input_resume_array (evalN f) σ _ pre _ text name first more n v idx arrs' hin hAt hpd hco hix hst]
  have hw : warnOut name (mv ({ σ with input := none } : St F) (1 + (1 + (renderSubs (e :: es)).length + 1)) r) = [] :=
    warnOut_off hq.2
  rw [hw]
  rfl

/-- **input_reenter_array_render.**  The same statement with an unsuitable
    reply: nothing changes except that the reply is consumed, `?REENTER` is
    emitted, the cursor is back ON the INPUT token, the interpreter awaits
    input, and the read counter has grown.  In particular `arrays` is
    untouched: the target array is not auto-created by a rejected reply. -/
theorem input_reenter_array_render (f : Nat) (σ : St F) (pre rest : List (Token F)) (text name : Str)
    (e : Expr F) (es : List (Expr F))
    (first : DataElement F) (more : List (DataElement F)) (n : Nat) (idx : List Nat)
    (hin : σ.input = some text)
    (hAt : At σ (pre ++ [.kw .Input])
      (.symbol name :: .kw .LeftParen :: (renderSubs (e :: es) ++ .kw .RightParen :: rest)))
    (hq : Quiet σ) (hfit : SubsFit f σ (e :: es))
    (hpd : parseData (F := F) text = (first :: more, n))
    (hco : Value.coerceFromData name first = .error .dataTypeMismatch)
    (hv : subsVal (getVar σ) (e :: es) = some idx) :
    ∃ r, σ.reads < r ∧
      inputStatement (evalN f) σ =
        .ok () { σ with input := none, loc := { σ.loc with idx := pre.length }, state := .awaitingInput,
                        out := .reenter :: σ.out, reads := r } := by
  have hAt1 := at_mv1 (at_input_none hAt) (σ.reads + 1 + 1)
  obtain ⟨r, hr, hix⟩ := arrayIndex_render f e es (mv ({ σ with input := none } : St F) 1 (σ.reads + 1 + 1))
    _ rest idx hAt1 hq hfit hv
  rw [mv_mv] at hix
  simp only [mv_reads] at hr
  have hAt2 : At (mv ({ σ with input := none } : St F) (1 + (1 + (renderSubs (e :: es)).length + 1)) r)
      (pre ++ .kw .Input :: (.symbol name :: .kw .LeftParen :: (renderSubs (e :: es) ++ [.kw .RightParen]))) rest := by
    refine ⟨?_, ?_⟩
    · show lineToks σ = _
      rw [hAt.1]
      simp only [List.append_assoc, List.cons_append, List.nil_append]
    · show σ.loc.idx + (1 + (1 + (renderSubs (e :: es)).length + 1)) = _
      rw [hAt.2]
      simp only [List.length_append, List.length_cons, List.length_nil]
      omega
  have hmid : ∀ t ∈ (Token.symbol name :: .kw .LeftParen :: (renderSubs (e :: es) ++ [.kw .RightParen])),
      t.isKw .Input = false := by
    simp only [List.forall_mem_cons, List.forall_mem_append]
    exact ⟨rfl, rfl, renderSubs_not_input _, rfl, nofun⟩
  have h := input_reenter_array (evalN f) σ _ pre _ _ rest text name first more n idx hin hAt hpd hco hix hAt2 hmid
  refine ⟨r + ((Token.symbol (F := F) name :: .kw .LeftParen :: (renderSubs (e :: es) ++ [.kw .RightParen])).length + 1),
    by omega, ?_⟩
  rw [h]
  rfl

theorem stmtBody_input (ev : Evals F) (σ : St F) (pre post : List (Token F))
    (hAt : At σ pre (.kw .Input :: post)) :
    stmtBody ev σ = inputStatement ev (mv ({ σ with out := traceOut σ ++ σ.out } : St F) 1 (σ.reads + 1)) := by
  rw [stmtBody_at hAt rfl]

/-- **Suspension, statement level.**  The statement evaluator started ON an
    INPUT token with no reply pending: the interpreter awaits input with the
    cursor still ON the INPUT token; besides that only the trace record (when
    tracing a numbered line) and the read counter change. -/
theorem input_stmt_suspend (ev : Evals F) (σ : St F) (pre rest : List (Token F))
    (hin : σ.input = none) (hAt : At σ pre (.kw .Input :: rest)) :
    stmtBody ev σ =
      .ok () { σ with state := .awaitingInput, out := traceOut σ ++ σ.out, reads := σ.reads + 1 + 1 } := by
  rw [stmtBody_input ev σ pre rest hAt,
    inputStatement_none ev (by exact hin) (at_mv1 (σ := { σ with out := traceOut σ ++ σ.out }) ⟨hAt.1, hAt.2⟩ _),
    ← hAt.2]
  rfl

theorem input_stmt_reply (ev : Evals F) (σ : St F) (pre rest : List (Token F)) (text name : Str)
    (hin : σ.input = some text)
    (hAt : At σ pre (.kw .Input :: .symbol name :: rest))
    (hnp : ∀ t, rest.head? = some t → t.isKw .LeftParen = false) :
    stmtBody ev σ = match readReply (F := F) name text with
      | .accept v extra => .ok () { σ with input := none, loc := { σ.loc with idx := σ.loc.idx + 2 }, vars := alSet name v σ.vars, out := extraOut extra ++ (traceOut σ ++ σ.out), reads := σ.reads + 1 + 1 + 1 }
      | .reenter => .ok () { σ with input := none, state := .awaitingInput, out := .reenter :: (traceOut σ ++ σ.out), reads := σ.reads + 1 + 1 + 1 + 2 } := by
  have hAt1 := at_mv1 (σ := { σ with out := traceOut σ ++ σ.out }) ⟨hAt.1, hAt.2⟩ (σ.reads + 1)
  rw [stmtBody_input ev σ pre _ hAt]
  cases hr : readReply (F := F) name text with
  | accept v extra => rw [inputStatement_scalar ev (by exact hin) hAt1 hnp, hr]; rfl
  | reenter => rw [inputStatement_reenter ev (by exact hin) hAt1 hnp hr, ← hAt.2]; rfl

/-- **Resumption, statement level** (scalar target).  Started ON the INPUT token
    with a reply whose first item suits `name`: exactly the assignment
    `name := coerced first item`, the reply cleared, the cursor behind the
    statement, `?EXTRA IGNORED` iff surplus. -/
theorem input_stmt_resume (ev : Evals F) (σ : St F) (pre rest : List (Token F)) (text name : Str)
    (first : DataElement F) (more : List (DataElement F)) (n : Nat) (v : Value F)
    (hin : σ.input = some text)
    (hAt : At σ pre (.kw .Input :: .symbol name :: rest))
    (hnp : ∀ t, rest.head? = some t → t.isKw .LeftParen = false)
    (hpd : parseData (F := F) text = (first :: more, n))
    (hco : Value.coerceFromData name first = .ok v) :
    stmtBody ev σ =
      .ok () { σ with input := none, loc := { σ.loc with idx := σ.loc.idx + 2 },
                      vars := alSet name v σ.vars,
                      out := extraOut (surplus more n text) ++ (traceOut σ ++ σ.out),
                      reads := σ.reads + 1 + 1 + 1 } := by
  rw [input_stmt_reply ev σ pre rest text name hin hAt hnp, readReply_accept hpd hco]

/-- **Rejection, statement level** (scalar target).  Started ON the INPUT token
    with a reply whose first item does not suit `name`: `?REENTER`, reply
    consumed, awaiting input, cursor still ON the INPUT token; nothing else but
    the trace record and the read counter changes. -/
theorem input_stmt_reenter (ev : Evals F) (σ : St F) (pre rest : List (Token F)) (text name : Str)
    (first : DataElement F) (more : List (DataElement F)) (n : Nat)
    (hin : σ.input = some text)
    (hAt : At σ pre (.kw .Input :: .symbol name :: rest))
    (hnp : ∀ t, rest.head? = some t → t.isKw .LeftParen = false)
    (hpd : parseData (F := F) text = (first :: more, n))
    (hco : Value.coerceFromData name first = .error .dataTypeMismatch) :
    stmtBody ev σ =
      .ok () { σ with input := none, state := .awaitingInput,
                      out := .reenter :: (traceOut σ ++ σ.out), reads := σ.reads + 1 + 1 + 1 + 2 } := by
  rw [input_stmt_reply ev σ pre rest text name hin hAt hnp, readReply_reenter hpd hco]

theorem provide_continue (fuel : Nat) (text : Str) (σ : St F) (h : σ.state = .awaitingInput) :
    (provideInput text >>= fun _ => continueEvaluating fuel) σ =
      continueEvaluating fuel { σ with input := some text, state := .running } :=
  bind_ok (C01.reply_total text σ h)

theorem turn_suspend (fuel : Nat) (σ : St F) (pre rest : List (Token F))
    (hs : σ.state = .running) (hin : σ.input = none) (hAt : At σ pre (.kw .Input :: rest)) :
    continueEvaluating fuel σ =
      .ok () { σ with state := .awaitingInput, out := traceOut σ ++ σ.out, reads := σ.reads + 4 } :=
  continue_ok_more hs hAt (input_stmt_suspend (evalN fuel) (mv σ 0 (σ.reads + 1)) pre rest hin (at_mv0 hAt _))
    (pre' := pre) ⟨hAt.1, hAt.2⟩

theorem turn_resume (fuel : Nat) (σ : St F) (pre rest : List (Token F)) (text name : Str)
    (first : DataElement F) (more : List (DataElement F)) (n : Nat) (v : Value F)
    (hs : σ.state = .running) (hin : σ.input = some text)
    (hAt : At σ pre (.kw .Input :: .symbol name :: rest))
    (hnp : ∀ t, rest.head? = some t → t.isKw .LeftParen = false)
    (hpd : parseData (F := F) text = (first :: more, n))
    (hco : Value.coerceFromData name first = .ok v) :
    continueEvaluating fuel σ =
      .ok () (lineEndSt { σ with input := none, vars := alSet name v σ.vars, loc := { σ.loc with idx := σ.loc.idx + 2 },
                                 out := extraOut (surplus more n text) ++ (traceOut σ ++ σ.out), reads := σ.reads + 4 }) :=
  continue_ok hs hAt
    (input_stmt_resume (evalN fuel) (mv σ 0 (σ.reads + 1)) pre rest text name first more n v hin (at_mv0 hAt _) hnp hpd hco)
    (at_behind (mid := [.kw .Input, .symbol name]) hAt rfl (congrArg (· + 2) hAt.2))

/-- **input_turn.**  One whole INPUT turn on a scalar target, wherever it sits.
    From a running state with the cursor ON `INPUT name` and no reply pending:

    * `continue_evaluating` suspends: the state becomes `awaitingInput`, the
      cursor stays ON the INPUT token, nothing else changes (trace record and
      read counter aside);
    * `provide_input text` followed by `continue_evaluating` performs exactly
      `name := coerce (first item of text)`, emits `?EXTRA IGNORED` iff the
      reply had a surplus, and leaves the cursor behind the statement; then
      the ordinary end-of-statement bookkeeping `lineEndSt` runs (nothing but
      a read when more tokens follow on the line: `input_turn_more`). -/
theorem input_turn (fuel : Nat) (σ : St F) (pre rest : List (Token F)) (text name : Str)
    (first : DataElement F) (more : List (DataElement F)) (n : Nat) (v : Value F)
    (hs : σ.state = .running) (hin : σ.input = none)
    (hAt : At σ pre (.kw .Input :: .symbol name :: rest))
    (hnp : ∀ t, rest.head? = some t → t.isKw .LeftParen = false)
    (hpd : parseData (F := F) text = (first :: more, n))
    (hco : Value.coerceFromData name first = .ok v) :
    continueEvaluating fuel σ =
      .ok () { σ with state := .awaitingInput, out := traceOut σ ++ σ.out, reads := σ.reads + 4 } ∧
    (provideInput text >>= fun _ => continueEvaluating fuel)
        ({ σ with state := .awaitingInput, out := traceOut σ ++ σ.out, reads := σ.reads + 4 } : St F) =
      .ok () (lineEndSt { σ with vars := alSet name v σ.vars, loc := { σ.loc with idx := σ.loc.idx + 2 }, out := extraOut (surplus more n text) ++ (traceOut σ ++ (traceOut σ ++ σ.out)), reads := σ.reads + 8 }) := by
  refine ⟨turn_suspend fuel σ pre _ hs hin hAt, ?_⟩
  · rw [provide_continue fuel text _ rfl]
    refine Eq.trans (turn_resume fuel _ pre rest text name first more n v rfl rfl ⟨hAt.1, hAt.2⟩ hnp hpd hco) ?_
    -- `σ` is running with no reply pending already
    cases σ; cases hs; cases hin; rfl

/-- `input_turn` when more tokens follow the statement on its line (a colon, an
    ELSE, …): the end-of-statement bookkeeping is one more read. -/
theorem input_turn_more (fuel : Nat) (σ : St F) (pre post : List (Token F)) (t : Token F) (text name : Str)
    (first : DataElement F) (more : List (DataElement F)) (n : Nat) (v : Value F)
    (hs : σ.state = .running) (hin : σ.input = none)
    (hAt : At σ pre (.kw .Input :: .symbol name :: t :: post))
    (hnp : t.isKw .LeftParen = false)
    (hpd : parseData (F := F) text = (first :: more, n))
    (hco : Value.coerceFromData name first = .ok v) :
    continueEvaluating fuel σ =
      .ok () { σ with state := .awaitingInput, out := traceOut σ ++ σ.out, reads := σ.reads + 4 } ∧
    (provideInput text >>= fun _ => continueEvaluating fuel)
        ({ σ with state := .awaitingInput, out := traceOut σ ++ σ.out, reads := σ.reads + 4 } : St F) =
      .ok () { σ with vars := alSet name v σ.vars, loc := { σ.loc with idx := σ.loc.idx + 2 }, out := extraOut (surplus more n text) ++ (traceOut σ ++ (traceOut σ ++ σ.out)), reads := σ.reads + 9 } := by
  obtain ⟨h1, h2⟩ := input_turn fuel σ pre (t :: post) text name first more n v hs hin hAt
    (fun u hu => Option.some.inj hu ▸ hnp) hpd hco
  exact ⟨h1, h2.trans (congrArg (Res.ok ()) (lineEndSt_more (t := t)
    (at_behind (mid := [.kw .Input, .symbol name]) hAt rfl (congrArg (· + 2) hAt.2))))⟩

/-- **input_turn_reenter.**  The second half of the turn with an unsuitable
    reply: back to the suspended state — `awaitingInput`, cursor ON the INPUT
    token — with `?REENTER` (and a second trace record) in the output; the
    variables are untouched. -/
theorem input_turn_reenter (fuel : Nat) (σ : St F) (pre rest : List (Token F)) (text name : Str)
    (first : DataElement F) (more : List (DataElement F)) (n : Nat)
    (hin : σ.input = none)
    (hAt : At σ pre (.kw .Input :: .symbol name :: rest))
    (hnp : ∀ t, rest.head? = some t → t.isKw .LeftParen = false)
    (hpd : parseData (F := F) text = (first :: more, n))
    (hco : Value.coerceFromData name first = .error .dataTypeMismatch) :
    (provideInput text >>= fun _ => continueEvaluating fuel)
        ({ σ with state := .awaitingInput, out := traceOut σ ++ σ.out, reads := σ.reads + 4 } : St F) =
      .ok () { σ with state := .awaitingInput, out := .reenter :: (traceOut σ ++ (traceOut σ ++ σ.out)), reads := σ.reads + 11 } := by
  have hAt1 : At ({ σ with input := some text, state := .running, out := traceOut σ ++ σ.out, reads := σ.reads + 4 } : St F) pre
      (.kw .Input :: .symbol name :: rest) := ⟨hAt.1, hAt.2⟩
  rw [provide_continue fuel text _ rfl, continue_ok_more rfl hAt1
    (input_stmt_reenter (evalN fuel) (mv _ 0 _) pre rest text name first more n rfl (at_mv0 hAt1 _) hnp hpd hco)
    (pre' := pre) ⟨hAt.1, hAt.2⟩]
  -- `σ` has no reply pending already
  cases σ; cases hin; rfl

def litOf : Value F → Expr F
  | .num x => .num x
  | .str s => .str s

theorem foldE_litOf (env : Str → Value F) (v : Value F) : foldE env (litOf v) = .ok v := by
  cases v <;> simp [litOf, foldE]

theorem renderS_let_lit_length (name : Str) (v : Value F) :
    (renderS (.letS name (litOf v))).length = 4 := by
  cases v <;> simp [renderS, litOf, render_num, render_str]

/-- **input_equals_assignment.**  The resumed INPUT turn and the turn of
    `LET name = <literal of the coerced value>` standing in its place (same
    `pre`, same `rest`) are the same state transformer: `vars := alSet name v vars`,
    the cursor just behind the respective statement (2 resp. 4 tokens), then
    the same end-of-statement bookkeeping `lineEndSt`.  INPUT additionally
    clears the reply and may emit `?EXTRA IGNORED` (and the trace record, which
    `SReady` switches off for the LET side); the read counters differ.
    The LET side is `let_refines` (C03Stmt). -/
theorem input_equals_assignment (n : Nat) (σI σL : St F) (pre rest : List (Token F)) (text name : Str)
    (first : DataElement F) (more : List (DataElement F)) (k : Nat) (v : Value F)
    (hsI : σI.state = .running) (hsL : σL.state = .running)
    (hin : σI.input = some text)
    (hAtI : At σI pre (.kw .Input :: .symbol name :: rest))
    (hL : C03.SReady σL pre (.letS name (litOf v)) rest n)
    (hpd : parseData (F := F) text = (first :: more, k))
    (hco : Value.coerceFromData name first = .ok v) :
    ∃ kI kL,
      continueEvaluating n σI = .ok () (lineEndSt { σI with input := none, vars := alSet name v σI.vars, loc := { σI.loc with idx := pre.length + 2 }, out := extraOut (surplus more k text) ++ (traceOut σI ++ σI.out), reads := kI }) ∧
      continueEvaluating n σL = .ok () (lineEndSt { σL with vars := alSet name v σL.vars, loc := { σL.loc with idx := pre.length + 4 }, reads := kL }) := by
  have hm := ArrayL.coerce_matches hco
  have hnp : ∀ t, rest.head? = some t → t.isKw .LeftParen = false := by
    intro t ht
    rcases hL.ends.stmtEnd t ht with rfl | rfl <;> rfl
  have hcI := turn_resume n σI pre rest text name first more k v hsI hin hAtI hnp hpd hco
  rw [hAtI.2] at hcI
  have hL' : C03.SReady (mv σL 0 (σL.reads + 1)) pre (.letS name (litOf v)) rest n :=
    { hL with toks := ExprL.tokens_eq (σ := mv σL 0 (σL.reads + 1)) (C02.lineToks_of_tokens (σ := σL) hL.toks) }
  obtain ⟨kL, _, hstL⟩ := (C03.let_refines name (litOf v) n _ pre rest hL').1 v (foldE_litOf _ v) hm
  rw [renderS_let_lit_length] at hstL
  have hAtL : At σL pre (renderS (.letS name (litOf v)) ++ rest) := At.of_tokens hL.toks hL.idx
  obtain ⟨kw, ts, hhead⟩ := renderS_head (.letS name (litOf v))
  have hAtL0 : At σL pre (.kw kw :: (ts ++ rest)) := by rw [hhead] at hAtL; exact hAtL
  have hAtL2 : At ({ σL with vars := alSet name v σL.vars, loc := { σL.loc with idx := pre.length + 4 }, reads := kL } : St F)
      (pre ++ renderS (.letS name (litOf v))) rest :=
    at_behind hAtL rfl (by rw [renderS_let_lit_length])
  exact ⟨_, kL, hcI, continue_ok hsL hAtL0 hstL hAtL2⟩

/-- agreement of two states on everything but the program text, the cursor, the
    pending reply and the read counter -/
structure SameStore (σ σ' : St F) : Prop where
  bp : σ'.bp = σ.bp
  stack : σ'.stack = σ.stack
  loops : σ'.loops = σ.loops
  data : σ'.data = σ.data
  fns : σ'.fns = σ.fns
  nesting : σ'.nesting = σ.nesting
  out : σ'.out = σ.out
  state : σ'.state = σ.state
  rng : σ'.rng = σ.rng
  vars : σ'.vars = σ.vars
  arrays : σ'.arrays = σ.arrays
  warnings : σ'.warnings = σ.warnings
  tracing : σ'.tracing = σ.tracing
  accesses : σ'.accesses = σ.accesses

/-- **input_equals_assignment, on equal stores.**  If the INPUT program and the
    LET program are in states that agree as `SameStore`, the reply has exactly
    one item, and a token follows the statement on its line, then after the
    resumed INPUT turn resp. the LET turn they still agree, the reply is gone,
    and each cursor stands just behind its statement on its line. -/
theorem input_equals_assignment_same (n : Nat) (σI σL : St F) (pre post : List (Token F)) (t : Token F)
    (text name : Str) (first : DataElement F) (k : Nat) (v : Value F)
    (hsI : σI.state = .running)
    (hin : σI.input = some text) (hinL : σL.input = none)
    (hAtI : At σI pre (.kw .Input :: .symbol name :: t :: post))
    (hL : C03.SReady σL pre (.letS name (litOf v)) (t :: post) n)
    (hsame : SameStore σI σL)
    (hpd : parseData (F := F) text = ([first], k)) (hall : ¬ k < len8 text)
    (hco : Value.coerceFromData name first = .ok v) :
    ∃ σI' σL', continueEvaluating n σI = .ok () σI' ∧ continueEvaluating n σL = .ok () σL' ∧
      SameStore σI' σL' ∧ σI'.input = none ∧ σL'.input = none ∧
      σI'.vars = alSet name v σI.vars ∧
      σI'.loc = { σI.loc with idx := pre.length + 2 } ∧ σL'.loc = { σL.loc with idx := pre.length + 4 } ∧
      σI'.lines = σI.lines ∧ σI'.imm = σI.imm ∧ σL'.lines = σL.lines ∧ σL'.imm = σL.imm := by
  have hsL : σL.state = .running := by rw [hsame.state, hsI]
  obtain ⟨kI, kL, hI, hLt⟩ := input_equals_assignment n σI σL pre (t :: post) text name first [] k v hsI hsL hin hAtI hL hpd hco
  have htrI : σI.tracing = false := by rw [← hsame.tracing]; exact hL.tracing
  have hsur : surplus ([] : List (DataElement F)) k text = false := by
    simp only [surplus, List.isEmpty_nil, Bool.not_true, Bool.false_or, decide_eq_false_iff_not]
    exact hall
  replace hI := hI.trans (congrArg (Res.ok ()) (lineEndSt_more (t := t)
    (at_behind (mid := [.kw .Input, .symbol name]) hAtI rfl rfl)))
  replace hLt := hLt.trans (congrArg (Res.ok ()) (lineEndSt_more (t := t)
    (at_behind (At.of_tokens hL.toks hL.idx) rfl (by rw [renderS_let_lit_length]))))
  refine ⟨_, _, hI, hLt, ?_, rfl, hinL, rfl, rfl, rfl, rfl, rfl, rfl, rfl⟩
  have hout : extraOut (surplus ([] : List (DataElement F)) k text) ++ (traceOut σI ++ σI.out) = σI.out := by
    rw [hsur, traceOut_off htrI]; rfl
  exact { bp := hsame.bp, stack := hsame.stack, loops := hsame.loops, data := hsame.data, fns := hsame.fns,
          nesting := hsame.nesting, out := by show σL.out = _; rw [hout]; exact hsame.out,
          state := hsame.state, rng := hsame.rng,
          vars := by show alSet name v σL.vars = alSet name v σI.vars; rw [hsame.vars],
          arrays := hsame.arrays, warnings := hsame.warnings, tracing := hsame.tracing,
          accesses := hsame.accesses }

/-- everything INPUT never touches -/
structure Frame (σ σ' : St F) : Prop where
  lines : σ'.lines = σ.lines
  imm : σ'.imm = σ.imm
  line : σ'.loc.line = σ.loc.line
  bp : σ'.bp = σ.bp
  stack : σ'.stack = σ.stack
  loops : σ'.loops = σ.loops
  data : σ'.data = σ.data
  fns : σ'.fns = σ.fns
  nesting : σ'.nesting = σ.nesting
  rng : σ'.rng = σ.rng
  warnings : σ'.warnings = σ.warnings
  tracing : σ'.tracing = σ.tracing
  accesses : σ'.accesses = σ.accesses

omit [NumOps F] in
theorem Frame.refl (σ : St F) : Frame σ σ :=
  ⟨rfl, rfl, rfl, rfl, rfl, rfl, rfl, rfl, rfl, rfl, rfl, rfl, rfl⟩

/-- a frame whose thirteen equations hold by computation -/
local macro "frame_rfl" : term => `(⟨rfl, rfl, rfl, rfl, rfl, rfl, rfl, rfl, rfl, rfl, rfl, rfl, rfl⟩)

/-- **placement_independent (suspension).**  For ANY tokens `pre` in front of the
    INPUT and `rest` behind it, and ANY state (stack, loops, …): the statement
    evaluator started on the INPUT token with no reply pending changes only
    `state` (now awaiting input), `out` (trace record) and `reads`; the cursor
    is ON the INPUT token. -/
theorem placement_independent_suspend (ev : Evals F) (σ : St F) (pre rest : List (Token F))
    (hin : σ.input = none) (hAt : At σ pre (.kw .Input :: rest)) :
    ∃ σ', stmtBody ev σ = .ok () σ' ∧ Frame σ σ' ∧ σ'.state = .awaitingInput ∧ σ'.loc = σ.loc ∧
      σ'.input = none ∧ σ'.vars = σ.vars ∧ σ'.arrays = σ.arrays ∧ σ'.out = traceOut σ ++ σ.out :=
  ⟨_, input_stmt_suspend ev σ pre rest hin hAt, frame_rfl, rfl, rfl, hin, rfl, rfl, rfl⟩

/-- **placement_independent (resumption).**  Likewise with a suitable reply:
    only `input` (cleared), `loc.idx` (two tokens on), the target variable,
    `out` and `reads` change. -/
theorem placement_independent_resume (ev : Evals F) (σ : St F) (pre rest : List (Token F)) (text name : Str)
    (first : DataElement F) (more : List (DataElement F)) (n : Nat) (v : Value F)
    (hin : σ.input = some text)
    (hAt : At σ pre (.kw .Input :: .symbol name :: rest))
    (hnp : ∀ t, rest.head? = some t → t.isKw .LeftParen = false)
    (hpd : parseData (F := F) text = (first :: more, n))
    (hco : Value.coerceFromData name first = .ok v) :
    ∃ σ', stmtBody ev σ = .ok () σ' ∧ Frame σ σ' ∧ σ'.state = σ.state ∧ σ'.loc.idx = σ.loc.idx + 2 ∧
      σ'.input = none ∧ alGet name σ'.vars = some v ∧ (∀ y, y ≠ name → alGet y σ'.vars = alGet y σ.vars) ∧
      σ'.arrays = σ.arrays ∧ σ'.out = extraOut (surplus more n text) ++ (traceOut σ ++ σ.out) :=
  ⟨_, input_stmt_resume ev σ pre rest text name first more n v hin hAt hnp hpd hco, frame_rfl, rfl, rfl, rfl,
    C16.alGet_alSet_self name v σ.vars, fun y hy => Props.C16.alGet_alSet_ne name y v σ.vars hy, rfl, rfl⟩

/-- **placement_independent (rejection).**  Likewise with an unsuitable reply:
    only `input` (consumed), `state` (awaiting input again), `out` and `reads`
    change; the cursor is back ON the INPUT token. -/
theorem placement_independent_reenter (ev : Evals F) (σ : St F) (pre rest : List (Token F)) (text name : Str)
    (first : DataElement F) (more : List (DataElement F)) (n : Nat)
    (hin : σ.input = some text)
    (hAt : At σ pre (.kw .Input :: .symbol name :: rest))
    (hnp : ∀ t, rest.head? = some t → t.isKw .LeftParen = false)
    (hpd : parseData (F := F) text = (first :: more, n))
    (hco : Value.coerceFromData name first = .error .dataTypeMismatch) :
    ∃ σ', stmtBody ev σ = .ok () σ' ∧ Frame σ σ' ∧ σ'.state = .awaitingInput ∧ σ'.loc = σ.loc ∧
      σ'.input = none ∧ σ'.vars = σ.vars ∧ σ'.arrays = σ.arrays ∧
      σ'.out = .reenter :: (traceOut σ ++ σ.out) :=
  ⟨_, input_stmt_reenter ev σ pre rest text name first more n hin hAt hnp hpd hco, frame_rfl, rfl, rfl, rfl, rfl,
    rfl, rfl⟩

/-- **placement_independent** (whole turn).  `INPUT name` followed by any token
    `t` (a colon, an ELSE, …) after ANY prefix `pre` — THEN branch, ELSE branch,
    behind a colon, FOR body, subroutine — in ANY running state: the suspending
    call and the resuming call of `continue_evaluating` both leave program
    text, line, breakpoint, stack, loops, data cursor, functions, nesting,
    seed, flags and arrays alone; the suspended state differs from the start
    only in `state`, `out`, `reads`; the resumed state has the reply cleared,
    the cursor two tokens on, `name` set and every other variable as before. -/
theorem placement_independent (fuel : Nat) (σ : St F) (pre post : List (Token F)) (t : Token F) (text name : Str)
    (first : DataElement F) (more : List (DataElement F)) (n : Nat) (v : Value F)
    (hs : σ.state = .running) (hin : σ.input = none)
    (hAt : At σ pre (.kw .Input :: .symbol name :: t :: post))
    (hnp : t.isKw .LeftParen = false)
    (hpd : parseData (F := F) text = (first :: more, n))
    (hco : Value.coerceFromData name first = .ok v) :
    ∃ σs σr,
      continueEvaluating fuel σ = .ok () σs ∧
      Frame σ σs ∧ σs.state = .awaitingInput ∧ σs.loc = σ.loc ∧ σs.input = none ∧ σs.vars = σ.vars ∧
        σs.arrays = σ.arrays ∧
      (provideInput text >>= fun _ => continueEvaluating fuel) σs = .ok () σr ∧
      Frame σ σr ∧ σr.state = .running ∧ σr.loc.idx = σ.loc.idx + 2 ∧ σr.input = none ∧
        alGet name σr.vars = some v ∧ (∀ y, y ≠ name → alGet y σr.vars = alGet y σ.vars) ∧
        σr.arrays = σ.arrays ∧
        σr.out = extraOut (surplus more n text) ++ (traceOut σ ++ (traceOut σ ++ σ.out)) := by
  obtain ⟨h1, h2⟩ := input_turn_more fuel σ pre post t text name first more n v hs hin hAt hnp hpd hco
  exact ⟨_, _, h1, frame_rfl, rfl, rfl, hin, rfl, rfl, h2, frame_rfl, hs, rfl, hin,
    C16.alGet_alSet_self name v σ.vars, fun y hy => Props.C16.alGet_alSet_ne name y v σ.vars hy, rfl, rfl⟩

/-- **placement_independent (array target).**  `INPUT name(e₁, …, eₖ)` with
    subscripts written as expression trees, at the statement level
    (`inputStatement`, cursor just behind INPUT), after ANY `pre` and before ANY
    `rest`: a suitable reply changes only `input`, `loc.idx`, the array `name`
    (cell written, every other array as before), `out`, `reads`; an unsuitable
    one only `input`, `loc.idx` (back ON INPUT), `state`, `out`, `reads`. -/
theorem placement_independent_array (f : Nat) (σ : St F) (pre rest : List (Token F)) (text name : Str)
    (e : Expr F) (es : List (Expr F))
    (first : DataElement F) (more : List (DataElement F)) (n : Nat) (idx : List Nat)
    (hin : σ.input = some text)
    (hAt : At σ (pre ++ [.kw .Input])
      (.symbol name :: .kw .LeftParen :: (renderSubs (e :: es) ++ .kw .RightParen :: rest)))
    (hq : Quiet σ) (hfit : SubsFit f σ (e :: es))
    (hpd : parseData (F := F) text = (first :: more, n))
    (hv : subsVal (getVar σ) (e :: es) = some idx) :
    (∀ v arrs', Value.coerceFromData name first = .ok v → storeCell name idx v σ.arrays = some arrs' →
      ∃ σ', inputStatement (evalN f) σ = .ok () σ' ∧ Frame σ σ' ∧ σ'.state = σ.state ∧ σ'.input = none ∧
        σ'.loc.idx = σ.loc.idx + (1 + (1 + (renderSubs (e :: es)).length + 1)) ∧ σ'.vars = σ.vars ∧
        σ'.arrays = arrs' ∧ (∀ y, y ≠ name → alGet y σ'.arrays = alGet y σ.arrays) ∧
        σ'.out = extraOut (surplus more n text) ++ σ.out) ∧
    (Value.coerceFromData name first = .error .dataTypeMismatch →
      ∃ σ', inputStatement (evalN f) σ = .ok () σ' ∧ Frame σ σ' ∧ σ'.state = .awaitingInput ∧ σ'.input = none ∧
        σ'.loc.idx = pre.length ∧ σ'.vars = σ.vars ∧ σ'.arrays = σ.arrays ∧ σ'.out = .reenter :: σ.out) := by
  constructor
  · intro v arrs' hco hst
    obtain ⟨r, _, hr⟩ := input_resume_array_render f σ (pre ++ [.kw .Input]) rest text name e es first more n v idx
      arrs' hin hAt hq hfit hpd hco hv hst
    obtain ⟨_, _, _, _, _, _, _, _, _, _, _, hother⟩ := storeCell_spec hst
    exact ⟨_, hr, frame_rfl, rfl, rfl, rfl, rfl, rfl, hother, rfl⟩
  · intro hco
    obtain ⟨r, _, hr⟩ := input_reenter_array_render f σ pre rest text name e es first more n idx hin hAt hq hfit hpd
      hco hv
    exact ⟨_, hr, frame_rfl, rfl, rfl, rfl, rfl, rfl, rfl⟩

/-! ### the exception: `THEN INPUT … ELSE` on one line (KF-ELSE-RESUME) -/

theorem stmt_on_else (ev : Evals F) (σ : St F) (pre post : List (Token F))
    (hAt : At σ pre (.kw .Else :: post)) :
    stmtBody ev σ = .err { err := .syntax .unexpectedToken }
      (mv ({ σ with out := traceOut σ ++ σ.out } : St F) 1 (σ.reads + 1)) := by
  rw [stmtBody_at hAt rfl]
  rfl

theorem turn_on_else (fuel : Nat) (σ : St F) (pre post : List (Token F))
    (hs : σ.state = .running) (hAt : At σ pre (.kw .Else :: post)) :
    continueEvaluating fuel σ =
      .err { err := .syntax .unexpectedToken, loc := some { line := σ.loc.line, idx := pre.length } }
        { σ with state := .idle, loc := { σ.loc with idx := σ.loc.idx + 1 }, out := traceOut σ ++ σ.out, reads := σ.reads + 2 } := by
  rw [continue_eq hs hAt]
  have hst := stmt_on_else (evalN fuel) (mv σ 0 (σ.reads + 1)) pre post (at_mv0 hAt _)
  rw [C01.postprocess_of_err (bind_err hst)]
  have hidx : σ.loc.idx + 0 + 1 - 1 = pre.length := by rw [hAt.2]; omega
  simp only [St.populate, St.prevLoc, mv, hidx]
  rfl

/-- **input_resumes_into_else.**  `INPUT name ELSE …` (after any `pre`, e.g.
    `IF c THEN`), suspended ON the INPUT token.  The reply is accepted and
    `name` assigned as anywhere else, and the resumed turn ends normally — with
    the cursor ON the ELSE token, because the IF that would have discarded the
    ELSE part is no longer executing.  The next turn therefore runs `ELSE` as
    a statement and fails with `?SYNTAX ERROR` (UNEXPECTED TOKEN) at the ELSE;
    the interpreter goes idle.  The assignment survives. -/
theorem input_resumes_into_else (fuel : Nat) (σ : St F) (pre post : List (Token F)) (text name : Str)
    (first : DataElement F) (more : List (DataElement F)) (n : Nat) (v : Value F)
    (hs : σ.state = .awaitingInput)
    (hAt : At σ pre (.kw .Input :: .symbol name :: .kw .Else :: post))
    (hpd : parseData (F := F) text = (first :: more, n))
    (hco : Value.coerceFromData name first = .ok v) :
    ∃ σr, (provideInput text >>= fun _ => continueEvaluating fuel) σ = .ok () σr ∧
      σr = { σ with input := none, state := .running, vars := alSet name v σ.vars, loc := { σ.loc with idx := σ.loc.idx + 2 }, out := extraOut (surplus more n text) ++ (traceOut σ ++ σ.out), reads := σ.reads + 5 } ∧
      At σr (pre ++ [.kw .Input, .symbol name]) (.kw .Else :: post) ∧
      continueEvaluating fuel σr =
        .err { err := .syntax .unexpectedToken, loc := some { line := σ.loc.line, idx := pre.length + 2 } }
          { σr with state := .idle, loc := { σ.loc with idx := σ.loc.idx + 3 }, out := traceOut σ ++ σr.out, reads := σ.reads + 7 } := by
  have hc := (turn_resume fuel ({ σ with input := some text, state := .running } : St F) pre (.kw .Else :: post)
    text name first more n v rfl rfl ⟨hAt.1, hAt.2⟩ (fun u hu => Option.some.inj hu ▸ rfl) hpd hco).trans
    (congrArg (Res.ok ()) (lineEndSt_more (t := .kw .Else)
      (at_behind (mid := [.kw .Input, .symbol name]) hAt rfl (congrArg (· + 2) hAt.2))))
  have hAt3 : At ({ σ with input := none, state := .running, vars := alSet name v σ.vars, loc := { σ.loc with idx := σ.loc.idx + 2 }, out := extraOut (surplus more n text) ++ (traceOut σ ++ σ.out), reads := σ.reads + 5 } : St F)
      (pre ++ [.kw .Input, .symbol name]) (.kw .Else :: post) :=
    at_behind (mid := [.kw .Input, .symbol name]) hAt rfl (congrArg (· + 2) hAt.2)
  refine ⟨_, ?_, rfl, hAt3, ?_⟩
  · rw [provide_continue fuel text σ hs, hc]; rfl
  · rw [turn_on_else fuel _ _ post rfl hAt3, List.length_append]
    rfl

theorem ifRest_input (n : Nat) (σ : St F) (pre post : List (Token F))
    (hin : σ.input = none) (hAt : At σ pre (.kw .Input :: post)) (htr : σ.tracing = false)
    (hn : σ.nesting < Extracted.nestingLimit) :
    ifRest (evalN (n + 1)) true σ = .ok () { σ with state := .awaitingInput, reads := σ.reads + 4 } := by
  have hinner := input_stmt_suspend (evalN n) (nest (mv σ 0 (σ.reads + 1)) (σ.nesting + 1)) pre post hin
    ⟨hAt.1, hAt.2⟩
  rw [traceOut_off (σ := nest (mv σ 0 (σ.reads + 1)) (σ.nesting + 1)) htr] at hinner
  show (statementOrGoto (evalN (n + 1)) >>= fun _ => tailElse) σ = _
  rw [bind_ok ((statementOrGoto_kw hAt).trans (nested_ok (σ := mv σ 0 (σ.reads + 1)) hn hinner rfl))]
  have key : ∀ S : St F, At S pre (.kw .Input :: post) → tailElse S = .ok () (mv S 0 (S.reads + 1)) :=
    fun S h => tailElse_no h (fun u hu => Option.some.inj hu ▸ rfl)
  -- the state is left to the rewrite and the records are normalised by `simp only`: given as `⟨hAt.1, hAt.2⟩`
  -- resp. closed by `rfl`, the unifier first compares the nested record with `σ` field by field
  rw [key]
  · simp only [mv, nest, List.nil_append, Nat.add_zero, Nat.add_assoc]
  · simp only [At, lineToks, nest, mv, Nat.add_zero]
    exact hAt

/-- With a true condition the INPUT inside the THEN branch suspends like any
    other: the cursor ON the INPUT token (the IF and its condition lie behind
    it), the nesting counter restored. -/
theorem then_input_suspends (n : Nat) (σ : St F) (pre post : List (Token F)) (c : Expr F) (cv : Value F)
    (hs : σ.state = .running) (hin : σ.input = none)
    (hAt : At σ pre (.kw .If :: (render c ++ .kw .Then :: .kw .Input :: post)))
    (hq : Quiet σ) (htr : σ.tracing = false) (hd : depth c + 1 ≤ n)
    (hn : σ.nesting + (depth c + 1) ≤ Extracted.nestingLimit)
    (hc : foldE (getVar σ) c = .ok cv) (hb : cv.toBool = true) :
    ∃ k, σ.reads < k ∧
      continueEvaluating n σ =
        .ok () { σ with loc := { σ.loc with idx := σ.loc.idx + (1 + (render c).length + 1) }, state := .awaitingInput, reads := k } := by
  obtain ⟨n', rfl⟩ : ∃ n', n = n' + 1 := ⟨n - 1, by omega⟩
  have hAt0 := at_mv0 hAt (σ.reads + 1)
  have hif := if_cond c (n' + 1) (mv σ 0 (σ.reads + 1)) pre _ hAt0 (hq.mv _ _) htr hd hn
  rw [getVar_mv, hc] at hif
  obtain ⟨r, hr, hrun⟩ := hif
  simp only [mv_reads] at hr
  have hAt1 := if_at c hAt0 r
  rw [hb, ifRest_input n' _ _ post (by exact hin) hAt1 (by exact htr) (by show σ.nesting < _; omega)] at hrun
  exact ⟨r + 4 + 1, by omega, (continue_ok_more hs hAt hrun (t' := .kw .Input)
    (pre' := pre ++ [Token.kw .If] ++ render c ++ [Token.kw .Then]) (post' := post) ⟨hAt1.1, hAt1.2⟩).trans rfl⟩

/-- **then_input_else_resumes_into_else** (the known finding KF-ELSE-RESUME as a
    theorem about the model).  On a line `… IF c THEN INPUT name ELSE …` with a
    true condition, from a running state with the cursor on the IF:

    1. the first turn suspends ON the INPUT token (awaiting input);
    2. `provide_input` + `continue_evaluating` assign `name`, and end — running —
       with the cursor ON the ELSE token;
    3. the next `continue_evaluating` fails with `?SYNTAX ERROR` (UNEXPECTED
       TOKEN) located at that ELSE, and the interpreter is idle. -/
theorem then_input_else_resumes_into_else (n : Nat) (σ : St F) (pre post : List (Token F)) (c : Expr F)
    (cv : Value F) (text name : Str) (first : DataElement F) (more : List (DataElement F)) (m : Nat) (v : Value F)
    (hs : σ.state = .running) (hin : σ.input = none)
    (hAt : At σ pre (.kw .If :: (render c ++ .kw .Then :: .kw .Input :: .symbol name :: .kw .Else :: post)))
    (hq : Quiet σ) (htr : σ.tracing = false) (hd : depth c + 1 ≤ n)
    (hn : σ.nesting + (depth c + 1) ≤ Extracted.nestingLimit)
    (hc : foldE (getVar σ) c = .ok cv) (hb : cv.toBool = true)
    (hpd : parseData (F := F) text = (first :: more, m))
    (hco : Value.coerceFromData name first = .ok v) :
    ∃ σ₁ σ₂ σ₃,
      continueEvaluating n σ = .ok () σ₁ ∧ σ₁.state = .awaitingInput ∧
        At σ₁ (pre ++ [.kw .If] ++ render c ++ [.kw .Then]) (.kw .Input :: .symbol name :: .kw .Else :: post) ∧
      (provideInput text >>= fun _ => continueEvaluating n) σ₁ = .ok () σ₂ ∧ σ₂.state = .running ∧
        σ₂.vars = alSet name v σ.vars ∧
        At σ₂ (pre ++ [.kw .If] ++ render c ++ [.kw .Then] ++ [.kw .Input, .symbol name]) (.kw .Else :: post) ∧
      continueEvaluating n σ₂ =
        .err { err := .syntax .unexpectedToken,
               loc := some { line := σ.loc.line, idx := (pre ++ [Token.kw .If] ++ render c ++ [Token.kw .Then]).length + 2 } } σ₃ ∧
        σ₃.state = .idle ∧ σ₃.vars = alSet name v σ.vars := by
  obtain ⟨k, _, h1⟩ := then_input_suspends n σ pre (.symbol name :: .kw .Else :: post) c cv hs hin hAt hq htr hd hn hc hb
  have hAt1 : At ({ σ with loc := { σ.loc with idx := σ.loc.idx + (1 + (render c).length + 1) }, state := .awaitingInput, reads := k } : St F)
      (pre ++ [.kw .If] ++ render c ++ [.kw .Then]) (.kw .Input :: .symbol name :: .kw .Else :: post) := by
    have := if_at c hAt k
    exact ⟨this.1, this.2⟩
  obtain ⟨_, h2, rfl, hAt2, h3⟩ := input_resumes_into_else n _ _ post text name first more m v rfl hAt1 hpd hco
  exact ⟨_, _, _, h1, rfl, hAt1, h2, rfl, rfl, hAt2, h3, rfl, rfl⟩

/-- what a host sees of a result (the output oldest first) -/
structure Obs where
  err : Option Err
  eloc : Option Loc
  state : IState
  idx : Nat
  out : List Out
  vars : List Str
  arrays : List Str
  deriving DecidableEq

def observe (r : Res Unit Unit) : Obs :=
  match r with
  | .ok _ s => ⟨none, none, s.state, s.loc.idx, s.out.reverse, s.vars.map (·.1), s.arrays.map (·.1)⟩
  | .err e s => ⟨some e.err, e.loc, s.state, s.loc.idx, s.out.reverse, s.vars.map (·.1), s.arrays.map (·.1)⟩

def thenCall (r : Res Unit Unit) (m : M Unit Unit) : Res Unit Unit :=
  match r with
  | .ok _ s => m s
  | .err e s => .err e s

/-- `IF "A" THEN INPUT X$ ELSE PRINT "N"` -/
def elseLine : List (Token Unit) :=
  [.kw .If, .str ['A'], .kw .Then, .kw .Input, .symbol ['X', '$'], .kw .Else, .kw .Print, .str ['N']]

/-- KF-ELSE-RESUME on the executable model, default fuel: turn 1 suspends on the
    INPUT token (index 3); the reply `HI` is accepted (X$ set) and turn 2 ends
    running with the cursor on the ELSE token (index 5); turn 3 fails with
    SYNTAX ERROR (UNEXPECTED TOKEN) located at index 5 and the state is idle. -/
example :
    observe (continueEvaluating defaultFuel ({ imm := elseLine, state := .running } : St Unit)) =
      ⟨none, none, .awaitingInput, 3, [], [], []⟩ ∧
    observe (thenCall (thenCall (continueEvaluating defaultFuel ({ imm := elseLine, state := .running } : St Unit))
        (provideInput ['H', 'I'])) (continueEvaluating defaultFuel)) =
      ⟨none, none, .running, 5, [], [['X', '$']], []⟩ ∧
    observe (thenCall (thenCall (thenCall (continueEvaluating defaultFuel ({ imm := elseLine, state := .running } : St Unit))
        (provideInput ['H', 'I'])) (continueEvaluating defaultFuel)) (continueEvaluating defaultFuel)) =
      ⟨some (.syntax .unexpectedToken), some { line := none, idx := 5 }, .idle, 6, [], [['X', '$']], []⟩ := by
  refine ⟨?_, ?_, ?_⟩ <;> decide +kernel

/-- The hypotheses of `then_input_else_resumes_into_else` are satisfiable (that
    very line, any fuel ≥ 1). -/
example : ∃ σ₁ σ₂ σ₃,
    continueEvaluating 1 ({ imm := elseLine, state := .running } : St Unit) = .ok () σ₁ ∧
    σ₁.state = .awaitingInput ∧
    (provideInput ['H', 'I'] >>= fun _ => continueEvaluating 1) σ₁ = .ok () σ₂ ∧ σ₂.state = .running ∧
    continueEvaluating 1 σ₂ = .err { err := .syntax .unexpectedToken, loc := some { line := none, idx := 5 } } σ₃ ∧
    σ₃.state = .idle := by
  have hr : render (.str ['A'] : Expr Unit) = [.str ['A']] := render_str _
  have h := then_input_else_resumes_into_else (F := Unit) 1 { imm := elseLine, state := .running } [] [.kw .Print, .str ['N']]
    (.str ['A']) (.str ['A']) ['H', 'I'] ['X', '$'] (.str ['H', 'I']) [] 2 (.str ['H', 'I']) rfl rfl
    ⟨by rw [hr]; rfl, rfl⟩ ⟨rfl, rfl⟩ rfl (by simp [depth]) (by simp [depth, Extracted.nestingLimit])
    (by simp [foldE]) (by simp [Value.toBool]) rfl (by simp [Value.coerceFromData, endsWithDollar])
  obtain ⟨σ₁, σ₂, σ₃, h1, h2, _, h3, h4, _, _, h5, h6, _⟩ := h
  rw [hr] at h5
  exact ⟨σ₁, σ₂, σ₃, h1, h2, h3, h4, h5, h6⟩

/-- `INPUT A(B(1))` (numeric target) resumed with the reply `X`: REENTER, and
    the array `B` that the subscript touched has been auto-created and stays,
    while the target array `A` has not been created.  (Subscripts with side
    effects are evaluated before the reply is checked, and again on the next
    attempt.) -/
example :
    observe (inputStatement (evalN defaultFuel)
      ({ imm := [.kw .Input, .symbol ['A'], .kw .LeftParen, .symbol ['B'], .kw .LeftParen, .num (), .kw .RightParen, .kw .RightParen],
         loc := { idx := 1 }, input := some ['X'], state := .running } : St Unit)) =
      ⟨none, none, .awaitingInput, 0, [.reenter], [], [['B']]⟩ := by
  decide +kernel

/-- `INPUT A$(1)` resumed with `X, Y`: the cell is stored in the auto-created
    array, `?EXTRA IGNORED`, cursor behind the `)`. -/
example :
    observe (inputStatement (evalN defaultFuel)
      ({ imm := [.kw .Input, .symbol ['A', '$'], .kw .LeftParen, .num (), .kw .RightParen],
         loc := { idx := 1 }, input := some ['X', ',', 'Y'], state := .running } : St Unit)) =
      ⟨none, none, .running, 5, [.extraIgnored], [], [['A', '$']]⟩ := by
  decide +kernel

/-- The hypotheses of `input_resume_array_render` are satisfiable: `INPUT A$(1)`
    with the reply `X`. -/
example : ∃ r arrs',
    inputStatement (evalN 1)
      ({ imm := [.kw .Input, .symbol ['A', '$'], .kw .LeftParen, .num (), .kw .RightParen],
         loc := { idx := 1 }, input := some ['X'], state := .running } : St Unit) =
    .ok () { imm := [.kw .Input, .symbol ['A', '$'], .kw .LeftParen, .num (), .kw .RightParen],
             loc := { idx := 5 }, input := none, state := .running, arrays := arrs', reads := r } := by
  have hr : renderSubs [(.num () : Expr Unit)] = [.num ()] := by rw [renderSubs, render_num]
  obtain ⟨arrs', hst⟩ : ∃ arrs', storeCell (F := Unit) ['A', '$'] [0] (.str ['X']) [] = some arrs' :=
    Option.isSome_iff_exists.1 (by decide +kernel)
  obtain ⟨r, _, h⟩ := input_resume_array_render (F := Unit) 1
    { imm := [.kw .Input, .symbol ['A', '$'], .kw .LeftParen, .num (), .kw .RightParen],
      loc := { idx := 1 }, input := some ['X'], state := .running }
    [.kw .Input] [] ['X'] ['A', '$'] (.num ()) [] (.str ['X']) [] 1 (.str ['X']) [0] arrs' rfl
    ⟨by rw [hr]; rfl, rfl⟩ ⟨rfl, rfl⟩
    (by intro e he; simp only [List.mem_singleton] at he; subst he; simp [depth, Extracted.nestingLimit])
    rfl (by simp [Value.coerceFromData, endsWithDollar])
    (by simp [subsVal, subVal, foldE, NumOps.toI64]) hst
  refine ⟨r, arrs', ?_⟩
  rw [h, hr]
  rfl

end Abasic.Props.C08
