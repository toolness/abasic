import Abasic.Props.C17Trace
import Abasic.Props.C03Full
import Abasic.Proofs.ActCount
/-
  C09 — how many statement activations and trace records one host call makes.

  The number of NESTED statement activations of a turn is made a definition by
  instrumenting the evaluator (`Count.evalG`, Proofs/ActCount.lean: a mark is
  appended to the — otherwise unread — analyzer log whenever the statement
  evaluator is entered through its recursive entry point `ev.stmt`, i.e. under
  THEN / ELSE); `instrumented_turn` shows the instrumented turn is the real turn
  plus `nestedActivations` marks, and `nestedActivations_eq` that this number is
  `C17.activations - 1` (Props/C17Count.lean), whatever the state.  With tracing
  on, a turn that starts a statement on numbered line `ln` adds exactly
  `1 + nestedActivations` records, all `Out.trace ln` (`trace_count`).
  One statement per call is proved (a) for ALL programs at the level of the
  model and (b) for the programs covered by the reference machines of C03, as a
  count of reference steps.
-/
namespace Abasic.Props.C09
open Abasic Abasic.Hoare Abasic.Trace Abasic.Count

variable {F : Type} [NumOps F]

def runNextStatementG (fuel : Nat) : M F Unit := turnWith (evalG fuel)

/-- **the number of nested THEN / ELSE statement activations of a turn**: the
    marks the instrumented turn leaves in the log beyond what the real turn leaves -/
def nestedActivations (fuel : Nat) (σ : St F) : Nat :=
  (runNextStatementG fuel σ).final.accesses.length - (runNextStatement fuel σ).final.accesses.length

omit [NumOps F] in
theorem addMarks_length (c : Nat) (s : St F) : (addMarks c s).accesses.length = s.accesses.length + c := by
  simp [addMarks]

omit [NumOps F] in
theorem marks_unique {α : Type} {r rG : Res F α} {c : Nat} (h : rG = Acc.mapRes (addMarks c) r) :
    rG.final.accesses.length - r.final.accesses.length = c := by
  rw [h, final_mapRes, addMarks_length]
  omega

theorem stmtBody_notIf_congr {ev ev' : Evals F} (h : ev.expr = ev'.expr) (σ : St F)
    (hc : curTok σ ≠ some (.kw .If)) : stmtBody ev σ = stmtBody ev' σ := by
  rw [Indep.stmtBody_eq, Indep.stmtBody_eq, Indep.stmtHead_congr h]
  show M.bindM _ _ σ = M.bindM _ _ σ
  unfold M.bindM
  cases hh : Indep.stmtHead ev' σ with
  | err e s => rfl
  | ok r s =>
    cases r with
    | none => rfl
    | some th => exact absurd hh (stmtHead_notIf ev' σ hc th s)

theorem comm_sequence (d : Acc.Add) : Acc.Comm d (sequence (F := F)) := by
  unfold sequence returnToIdle
  exact Acc.Comm.bind Acc.comm_hasNext (fun b => by
    cases b
    · exact Acc.Comm.bind Acc.comm_nextLine (fun b' => by
        cases b'
        · exact Acc.Comm.bind (Acc.comm_setImmediate _) (fun _ => Acc.Comm.modify (fun _ => rfl))
        · exact Acc.Comm.pure _)
    · exact Acc.Comm.pure _)

theorem turn_marks (fuel : Nat) (σ : St F) :
    runNextStatementG fuel σ =
      Acc.mapRes (addMarks (if (curTok σ).isSome then C17.activations fuel (C17.turnStart σ) - 1 else 0))
        (runNextStatement fuel σ) := by
  rw [show runNextStatement fuel = turnWith (evalN fuel) from turn_anatomy fuel,
    show runNextStatementG fuel = turnWith (evalG (F := F) fuel) from rfl]
  cases hs : (curTok σ).isSome with
  | false => rw [(C17.turnWith_none (evalN fuel) hs).2]; exact (mapRes_zero _).symm
  | true =>
    rw [C17.turnWith_some _ hs, C17.turnWith_some _ hs]
    show M.bindM _ _ _ = Acc.mapRes _ (M.bindM _ _ _)
    unfold M.bindM
    rw [activation_marks]
    cases stmtBody (evalN fuel) (C17.turnStart σ) with
    | err e s => rfl
    | ok _ s => exact comm_marks comm_sequence _ s

theorem nestedActivations_eq (fuel : Nat) (σ : St F) :
    nestedActivations fuel σ = if (curTok σ).isSome then C17.activations fuel (C17.turnStart σ) - 1 else 0 :=
  marks_unique (turn_marks fuel σ)

/-- **instrumented_turn.**  The instrumented turn is the real turn plus
    `nestedActivations fuel σ` marks in the log: same outcome, same state
    otherwise.  (So `nestedActivations` does count what the instrumentation
    marks — the entries of the statement evaluator through `ev.stmt` — and the
    instrumentation does not disturb the run.) -/
theorem instrumented_turn (fuel : Nat) (σ : St F) (hn : σ.nesting ≤ Extracted.nestingLimit) :
    runNextStatementG fuel σ = Acc.mapRes (addMarks (nestedActivations fuel σ)) (runNextStatement fuel σ) := by
  rw [nestedActivations_eq]; exact turn_marks fuel σ

/-- **activations per call**: one host call makes at most `1 + nestingLimit`
    (= 49) statement activations — its own, and a chain of nested ones, each one
    nesting level deeper than its parent and refused at the cap
    (`nested_statement_costs_a_level`). -/
theorem activations_per_call (fuel : Nat) (σ : St F) (hn : σ.nesting ≤ Extracted.nestingLimit) :
    1 + nestedActivations fuel σ ≤ Extracted.nestingLimit + 1 - σ.nesting := by
  have := activations_room fuel (C17.turnStart σ) hn
  have : (C17.turnStart σ).nesting = σ.nesting := rfl
  rw [nestedActivations_eq]
  split <;> omega

theorem one_activation_unless_if (fuel : Nat) (σ : St F) (hn : σ.nesting ≤ Extracted.nestingLimit)
    (h : curTok σ ≠ some (.kw .If)) : nestedActivations fuel σ = 0 := by
  rw [nestedActivations_eq, C17.activations_not_if fuel (C17.turnStart σ) h]
  split <;> rfl

/-- **trace_count** (tracing on).  One `run_next_statement`, from a state whose
    nesting counter is within the cap (it is 0 at every turn boundary,
    `C01.nesting_preserved_*`): the trace records grow by `1 + N` copies of the
    line the turn's statement starts on (`C17.startLine σ`: `[ln]` when a
    statement starts on numbered line `ln`, `[]` when the line is exhausted or
    immediate), where `N = nestedActivations fuel σ` is the number of nested
    THEN / ELSE statement activations of the turn; `N` is at most the room under
    the nesting cap, and `N = 0` unless the statement starts with IF. -/
theorem trace_count (fuel : Nat) (σ : St F) (ht : σ.tracing = true) (hn : σ.nesting ≤ Extracted.nestingLimit) :
    traces (runNextStatement fuel σ).final.out =
      rep (1 + nestedActivations fuel σ) (C17.startLine σ) ++ traces σ.out ∧
    nestedActivations fuel σ + σ.nesting ≤ Extracted.nestingLimit ∧
    (curTok σ ≠ some (.kw .If) → nestedActivations fuel σ = 0) := by
  refine ⟨?_, by have := activations_per_call fuel σ hn; omega, one_activation_unless_if fuel σ hn⟩
  rw [(C17.turn_rep fuel σ).2.2, nestedActivations_eq, C17.startLine]
  by_cases hs : (curTok σ).isSome = true
  · rw [if_pos hs, if_pos hs, if_pos hs, C17.here_of_tracing σ ht, Nat.add_sub_cancel' (C17.activations_pos _ _)]
  · rw [if_neg hs, if_neg hs, if_neg hs, rep_zero, rep_nil]

/-- … as a count, for a turn that starts a statement on the numbered line `ln`:
    exactly `1 + N` records are added, all `Out.trace ln`, and `1 + N` is at most
    `nestingLimit + 1` (= 49). -/
theorem trace_count_numbered (fuel : Nat) (σ : St F) (ln : Nat) (ht : σ.tracing = true)
    (hn : σ.nesting ≤ Extracted.nestingLimit)
    (hl : σ.loc.line = some ln) (hs : (curTok σ).isSome = true) :
    traces (runNextStatement fuel σ).final.out =
      List.replicate (1 + nestedActivations fuel σ) ln ++ traces σ.out ∧
    (traces (runNextStatement fuel σ).final.out).length =
      (traces σ.out).length + (1 + nestedActivations fuel σ) ∧
    1 + nestedActivations fuel σ ≤ Extracted.nestingLimit + 1 := by
  obtain ⟨h1, h2, _⟩ := trace_count fuel σ ht hn
  have hsl : C17.startLine σ = [ln] := by
    unfold C17.startLine; rw [if_pos hs, hl]; rfl
  rw [hsl, rep_singleton] at h1
  refine ⟨h1, ?_, by omega⟩
  rw [h1, List.length_append, List.length_replicate]
  omega

theorem trace_count_none (fuel : Nat) (σ : St F) (ht : σ.tracing = true) (hn : σ.nesting ≤ Extracted.nestingLimit)
    (h : (curTok σ).isSome = false ∨ σ.loc.line = none) :
    traces (runNextStatement fuel σ).final.out = traces σ.out := by
  obtain ⟨h1, _, _⟩ := trace_count fuel σ ht hn
  have hsl : C17.startLine σ = [] := by
    unfold C17.startLine
    rcases h with h | h
    · rw [h]; rfl
    · rw [h]; split <;> rfl
  rw [h1, hsl, rep_nil]
  rfl

/-- **trace_count** (tracing off): no trace record is added, whatever the turn does. -/
theorem trace_count_off (fuel : Nat) (σ : St F) (ht : σ.tracing = false) (hn : σ.nesting ≤ Extracted.nestingLimit) :
    traces (runNextStatement fuel σ).final.out = traces σ.out := by
  have hh : here σ = [] := by unfold here; rw [ht]
  rw [(C17.turn_rep fuel σ).2.2, hh, rep_nil]
  rfl

omit [NumOps F] in
theorem postprocess_out {α : Type} (m : M F α) (σ : St F) :
    (postprocess m σ).final.out = (m σ).final.out := by
  unfold postprocess
  cases m σ <;> rfl

/-- **trace_count for the host call** `continue_evaluating` (a running
    interpreter): with tracing on it adds `1 + N` records `Out.trace ln` when the
    call starts a statement on numbered line `ln` — at most `nestingLimit + 1` —
    and with tracing off it adds none. -/
theorem trace_count_call (fuel : Nat) (σ : St F) (hrun : σ.state = .running)
    (hn : σ.nesting ≤ Extracted.nestingLimit) :
    (σ.tracing = true → ∀ ln, σ.loc.line = some ln → (curTok σ).isSome = true →
      traces (continueEvaluating fuel σ).final.out =
        List.replicate (1 + nestedActivations fuel σ) ln ++ traces σ.out ∧
      1 + nestedActivations fuel σ ≤ Extracted.nestingLimit + 1 ∧
      (curTok σ ≠ some (.kw .If) → nestedActivations fuel σ = 0)) ∧
    (σ.tracing = false → traces (continueEvaluating fuel σ).final.out = traces σ.out) := by
  rw [continue_is_one_turn fuel σ hrun, postprocess_out]
  refine ⟨fun ht ln hl hs => ?_, fun ht => trace_count_off fuel σ ht hn⟩
  obtain ⟨h1, _, h3⟩ := trace_count_numbered fuel σ ln ht hn hl hs
  exact ⟨h1, h3, (trace_count fuel σ ht hn).2.2⟩

/-- The bound is attained by the cap, not by the fuel: at the cap the nested
    activation is refused (`nested_statement_costs_a_level`), so the chain of
    nested activations — each one level deeper than its parent — has at most
    `nestingLimit - nesting` links. -/
example : Extracted.nestingLimit + 1 = 49 := by decide

/-- Non-vacuity: `10 IF "A" THEN IF "A" THEN PRINT` with tracing on — two nested
    activations, three records. -/
example :
    let σ : St Unit := { tracing := true, state := .running, loc := { line := some 10, idx := 0 },
                         lines := { map := [(10, [.kw .If, .str ['A'], .kw .Then, .kw .If, .str ['A'], .kw .Then,
                                                  .kw .Print])],
                                    sorted := [10] } }
    nestedActivations 5 σ = 2 ∧ traces (runNextStatement 5 σ).final.out = [10, 10, 10] := by
  decide +kernel

/-! ### (a) the model, for ALL programs

  `run_next_statement` contains exactly one call of the statement evaluator
  (`turn_anatomy`; `turnWith` makes the evaluator a parameter: it occurs once,
  as `stmtBody ev`), and that call happens iff a token is left on the line.
  The statement evaluator re-enters itself only through its recursive entry
  point `ev.stmt`, which it reaches only as `nested ev.stmt` in
  `statementOrGoto` — under THEN, or at the ELSE found by the ELSE search — and
  never when the statement does not start with IF (`reentry_only_under_if`, from
  Proofs/StmtIndep.lean and StmtHead.lean, where this is the equation
  `stmtBody_eq`).  Each such re-entry costs a nesting level, so a call makes at
  most `1 + nestingLimit` activations (`activations_per_call`). -/

theorem turn_is_turnWith (fuel : Nat) : runNextStatement (F := F) fuel = turnWith (evalN fuel) :=
  turn_anatomy fuel

/-- with no token left on the line (or the line missing) a turn evaluates no
    statement: it does not depend on the evaluator at all -/
theorem turn_no_statement (ev ev' : Evals F) (σ : St F) (h : curTok σ = none) :
    turnWith ev σ = turnWith ev' σ :=
  (C17.turnWith_none ev' (by rw [h]; rfl)).2 ev

theorem turn_one_statement (ev : Evals F) (σ : St F) (t : Token F) (h : curTok σ = some t) :
    turnWith ev σ =
      (stmtBody ev >>= fun _ => sequence) { σ with state := .running, reads := σ.reads + 1 } :=
  C17.turnWith_some ev (by rw [h]; rfl)

/-- **The statement evaluator re-enters itself only through THEN / ELSE.**
    (1) `stmtBody ev` depends on `ev.stmt` only through `statementOrGoto ev`;
    (2) `statementOrGoto ev` is: a line number → GOTO, anything else → the nested
        activation `nested ev.stmt`; it occurs only in `ifStatement` (after THEN)
        and `ifSkipLoop` (at ELSE);
    (3) an activation on a statement that does not start with IF is the same
        whatever `ev.stmt` is: it never re-enters;
    (4) the nested activation IS a statement activation, one fuel level down. -/
theorem reentry_only_under_if :
    (∀ ev ev' : Evals F, ev.expr = ev'.expr → statementOrGoto ev = statementOrGoto ev' →
      stmtBody ev = stmtBody ev') ∧
    (∀ ev : Evals F, statementOrGoto ev = (do
      match ← peek with
      | some (.num _) => gotoStatement
      | _ => nested ev.stmt)) ∧
    (∀ (ev ev' : Evals F) (σ : St F), ev.expr = ev'.expr → curTok σ ≠ some (.kw .If) →
      stmtBody ev σ = stmtBody ev' σ) ∧
    (∀ n, (evalN (F := F) (n + 1)).stmt = stmtBody (evalN n)) :=
  ⟨fun _ _ h hs => Indep.stmtBody_congr h hs, fun _ => rfl,
   fun _ _ σ h hc => stmtBody_notIf_congr h σ hc, fun _ => rfl⟩

/-! ### (b) covered programs: the statement count of a turn is the number of reference steps

  For the programs covered by the reference machines of C03 a turn is either
  exactly ONE reference step `RStep` — one statement; an IF together with the
  statement it selects is one statement of the reference syntax — or, when the
  cursor stands on the colon in front of a statement, none. -/

section covered
open Abasic.Ref Abasic.ProgL

/-- the number of statements (reference steps) the next turn executes: 1 when
    the cursor is on the first token of the statement at the program counter,
    0 when it is on the colon in front of it (or the program has ended) -/
def stmtCount (p : RProgram F) (r : RState F) (σ : St F) : Nat :=
  match r.pc with
  | none => 0
  | some (n, j) =>
    match p.line n with
    | none => 0
    | some ss => if σ.loc.idx = (preToks ss j).length then 1 else 0

/-- `c ≤ 1` reference steps -/
def refSteps (p : RProgram F) : Nat → RState F → RState F ⊕ (Err × Nat)
  | 0, r => .inl r
  | _ + 1, r => RStep p r

theorem stmtCount_le_one (p : RProgram F) (r : RState F) (σ : St F) : stmtCount p r σ ≤ 1 := by
  unfold stmtCount
  split
  · omega
  · split
    · omega
    · split <;> omega

/-- **one_statement_per_call** (first reference machine: LET, PRINT, GOTO, END,
    IF … THEN … [ELSE …]).  In a state related to the reference state `r` with
    the program running, the host call `continue_evaluating` executes
    `stmtCount p r σ ≤ 1` statements: its outcome is that of `stmtCount`
    reference steps — one `RStep` (same variables, same PRINT records, next
    position; or the same error on the same line), or none (the turn only
    steps over a colon). -/
theorem one_statement_per_call {p : RProgram F} {fuel : Nat} (hfit : Fits p fuel) {r : RState F} {σ : St F}
    (h : C03.Sim p r σ) {n j : Nat} (hpc : r.pc = some (n, j)) :
    stmtCount p r σ ≤ 1 ∧
    C03.TurnStep p r (continueEvaluating fuel σ) (refSteps p (stmtCount p r σ) r) := by
  refine ⟨stmtCount_le_one p r σ, ?_⟩
  have hpos := h.pos
  rw [hpc] at hpos
  obtain ⟨_, _, ss, hl, _, hcur⟩ := hpos
  have hsc : stmtCount p r σ = if σ.loc.idx = (preToks ss j).length then 1 else 0 := by
    unfold stmtCount
    rw [hpc]
    simp only [hl]
  rw [hsc]
  rcases hcur with hc | ⟨_, hc⟩
  · rw [if_pos hc]
    exact C03.turn_refines hfit h hpc hl hc
  · have hne : σ.loc.idx ≠ (preToks ss j).length := by omega
    rw [if_neg hne]
    obtain ⟨σ', h1, h2, _⟩ := C03.turn_colon (fuel := fuel) h hpc hl hc
    exact ⟨σ', h1, h2⟩

open Abasic.Prog2L in
/-- the same count for the second reference machine (FOR / NEXT, GOSUB / RETURN,
    READ / DATA / RESTORE, DIM, array assignment besides the above) -/
def stmtCount2 (p : RProgram2 F) (r : RState2 F) (σ : St F) : Nat :=
  match r.pc with
  | none => 0
  | some (n, j) =>
    match p.line n with
    | none => 0
    | some ss => if σ.loc.idx = (preToks2 ss j).length then 1 else 0

def refSteps2 (p : RProgram2 F) : Nat → RState2 F → RState2 F ⊕ (Err × Nat)
  | 0, r => .inl r
  | _ + 1, r => RStep2 p r

theorem stmtCount2_le_one (p : RProgram2 F) (r : RState2 F) (σ : St F) : stmtCount2 p r σ ≤ 1 := by
  unfold stmtCount2
  split
  · omega
  · split
    · omega
    · split <;> omega

open Abasic.Prog2L in
/-- **one_statement_per_call** (second reference machine).  A GOSUB, a RETURN,
    a FOR or a NEXT is one statement: the call that executes it makes exactly
    one reference step `RStep2`. -/
theorem one_statement_per_call2 {p : RProgram2 F} {fuel : Nat} (hfit : C03.Fits2 p fuel) {r : RState2 F} {σ : St F}
    (h : C03.Sim2 p r σ) {n j : Nat} (hpc : r.pc = some (n, j)) :
    stmtCount2 p r σ ≤ 1 ∧
    C03.TurnStep2 p r (continueEvaluating fuel σ) (refSteps2 p (stmtCount2 p r σ) r) := by
  refine ⟨stmtCount2_le_one p r σ, ?_⟩
  have h' := h
  unfold C03.Sim2 at h'
  rw [hpc] at h'
  obtain ⟨_, _, _, ss, hl, _, hcur⟩ := h'
  have hsc : stmtCount2 p r σ = if σ.loc.idx = (preToks2 ss j).length then 1 else 0 := by
    unfold stmtCount2
    rw [hpc]
    simp only [hl]
  rw [hsc]
  rcases hcur with hc | ⟨_, hc⟩
  · rw [if_pos hc]
    exact C03.turn2_refines hfit h hpc hl hc
  · have hne : σ.loc.idx ≠ (preToks2 ss j).length := by omega
    rw [if_neg hne]
    obtain ⟨σ', h1, h2, _⟩ := C03.turn2_colon (fuel := fuel) h hpc hl hc
    exact ⟨σ', h1, h2⟩

end covered

end Abasic.Props.C09
