import Abasic.Proofs.Host
/-
  C10 — RUN starts from a clean slate regardless of session history.

  `fresh σ` is a newly created interpreter that holds the same program, the same
  random-number state and the same flags as `σ` (plus the bookkeeping the model
  adds: the not-yet-taken output queue, the read counter).  The theorem says the
  RUN command cannot tell `σ` from `fresh σ`, whatever `σ`'s variables, arrays,
  loops, stack, functions, data cursor, breakpoint, location, immediate line or
  pending reply are.  The only hypothesis besides "idle" is that the nesting
  counter is 0, which is its value between host calls (`nested` restores it on
  every path); that invariant is part of C01's well-formedness.
-/
namespace Abasic.Props.C10
open Abasic

variable {F : Type} [NumOps F]

def fresh (σ : St F) : St F :=
  { lines := σ.lines, rng := σ.rng, warnings := σ.warnings, tracing := σ.tracing,
    out := σ.out, reads := σ.reads, accesses := σ.accesses }

/-- what the RUN command does to the state before executing the first statement -/
def resetForRun (s : St F) : St F :=
  ({ s with input := none, vars := [], arrays := [] }).runFromFirst

omit [NumOps F] in
/-- RUN's reset overwrites every piece of session history. -/
theorem reset_forgets (σ : St F) (hn : σ.nesting = 0) :
    resetForRun ({ σ.setImmediate [] with state := .running }) =
    resetForRun ({ (fresh σ).setImmediate [] with state := .running }) := by
  simp [resetForRun, St.runFromFirst, St.resetRuntime, St.setImmediate, fresh, hn]

/-- The RUN command, entered at the prompt of an idle interpreter, behaves
    exactly as in `fresh σ`: same outcome, same resulting state (hence, a host
    call being a function of the state, the same future for the same later calls). -/
theorem run_clean (fuel : Nat) (line : Str) (σ : St F)
    (hidle : σ.state = .idle) (hn : σ.nesting = 0)
    (hrun : (commandWord line).bind Command.ofWord = some .run) :
    startEvaluating fuel line σ = startEvaluating fuel line (fresh σ) := by
  rw [startEvaluating_run fuel hidle hrun, startEvaluating_run fuel (σ := fresh σ) rfl hrun]
  congr 1
  simp [St.runFromFirst, St.resetRuntime, St.setImmediate, fresh, hn, hidle]

omit [NumOps F] in
/-- … in particular nothing of the old run can be read back: variables, arrays,
    loops, stack, functions, data cursor, breakpoint and pending reply are at
    their initial values when the first statement starts. -/
theorem run_resets_everything (σ : St F) :
    let s := resetForRun (σ.setImmediate [])
    s.vars = [] ∧ s.arrays = [] ∧ s.loops = [] ∧ s.stack = [] ∧ s.fns = [] ∧ s.data = none ∧
    s.bp = none ∧ s.input = none ∧ s.imm = [] := by
  simp [resetForRun, St.runFromFirst, St.resetRuntime, St.setImmediate]
  cases σ.lines.first <;> simp

/-- Non-vacuity: a state full of history satisfies the hypotheses. -/
example : let σ : St Unit := { vars := [("X".toList, .str [])], bp := some (10, 2), input := some ['4'],
                               loops := [{ loc := {}, sym := ['I'], toV := (), stepV := () }] }
    σ.state = .idle ∧ σ.nesting = 0 ∧ (commandWord " run".toList).bind Command.ofWord = some .run := by
  decide

end Abasic.Props.C10
