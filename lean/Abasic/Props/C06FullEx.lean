import Abasic.Props.C14More
import Abasic.Analyzer
import Abasic.Props.C03Prog
import Abasic.Props.C06Prog
/-
  C06, checked examples about user-defined functions (DEF).

  C06: "a program on which the static analyzer reports no error never fails at run time with
  TYPE MISMATCH, a syntax error or UNDEFINED STATEMENT", under the side condition "function
  definitions are each unique and executed before any use".

  The analyzer walks the lines in TEXTUAL order and treats `NAME(` as a user function only if a
  `DEF NAME(` has already been seen (its `fns` table), otherwise as an array element; the interpreter
  takes the same decision at RUN time with the run-time `fns` table, i.e. in EXECUTION order.  The
  examples are concrete programs, given as SOURCE TEXT, analyzed by the real entry point
  `analyzeFile` and run by the real host loop (`startEvaluating "RUN"` then `continueEvaluating`,
  packaged as `C03.runTurns`), all by kernel evaluation (`decide +kernel`).  E3, E4, E5 show that the
  side condition of C06 is necessary and how it must be read.

  Carrier: the natural numbers with decimal numerals (`C14.natOps`: real `+`, `<=`, decimal
  `parse` / `render`), so that numerals tokenize from text and `FOR I = 0 TO 0` terminates.
-/
namespace Abasic.Props.C06
open Abasic

section Generic
variable {F : Type} [NumOps F]

def errOfR {α : Type} : Res F α → Option TErr
  | .ok _ _ => none
  | .err e _ => some e

def finalOf {α : Type} : Res F α → St F
  | .ok _ s => s
  | .err _ s => s

def errDiags : List Diag → List (Nat × TErr)
  | [] => []
  | .error f e :: ds => (f, e) :: errDiags ds
  | .warning _ _ _ :: ds => errDiags ds

theorem errDiags_nil {ds : List Diag} (h : errDiags ds = []) : ∀ f e, Diag.error f e ∉ ds := by
  induction ds with
  | nil => intro f e hm; cases hm
  | cons d ds ih =>
    cases d with
    | warning a b c =>
      intro f e hm
      rcases List.mem_cons.mp hm with h1 | h2
      · cases h1
      · exact ih (by simpa [errDiags] using h) f e h2
    | error f' e' => simp [errDiags] at h

/-- warnings such as "'X' is never defined." are allowed -/
def Silent (a : Analysis F) : Prop := a.panicked = none ∧ ∀ f e, Diag.error f e ∉ a.messages

omit [NumOps F] in
theorem silent_of {a : Analysis F} (hp : a.panicked = none) (hd : errDiags a.messages = []) : Silent a :=
  ⟨hp, errDiags_nil hd⟩

/-- a host session that types the program in, line by line -/
def entered (fuel : Nat) (text : List Str) : St F :=
  text.foldl (fun σ l => finalOf (startEvaluating fuel l σ)) {}

theorem turns_add (fuel a b : Nat) (σ : St F) : C03.turns fuel (a + b) σ =
    match C03.turns fuel a σ with
    | .ok _ σ' => C03.turns fuel b σ'
    | .err e σ' => .err e σ' := by
  induction a generalizing σ with
  | zero => simp [C03.turns]
  | succ a ih =>
    rw [Nat.add_right_comm]
    by_cases hr : σ.state = .running
    · simp only [C03.turns, hr, if_true]
      cases hc : continueEvaluating fuel σ with
      | ok u σ' => simp only [ih]
      | err e σ' => rfl
    · simp only [C03.turns, hr, if_false]
      exact (C03.turns_not_running fuel b σ hr).symm

theorem run_stable {fuel k : Nat} {σ : St F}
    (h : errOfR (C03.runTurns fuel k σ) ≠ none ∨ (finalOf (C03.runTurns fuel k σ)).state ≠ .running) (j : Nat) :
    C03.runTurns fuel (k + j) σ = C03.runTurns fuel k σ := by
  unfold C03.runTurns at h ⊢
  cases hs : startEvaluating fuel "RUN".toList σ with
  | err e σ' => rfl
  | ok u σ' =>
    simp only [hs] at h ⊢
    rw [turns_add]
    cases ht : C03.turns fuel k σ' with
    | err e σ'' => rfl
    | ok u' σ'' =>
      rw [ht] at h
      rcases h with h | h
      · exact absurd rfl h
      · exact C03.turns_not_running fuel j σ'' h

theorem run_err_forever {fuel k : Nat} {σ : St F} {e : TErr} (h : errOfR (C03.runTurns fuel k σ) = some e) (j : Nat) :
    errOfR (C03.runTurns fuel (k + j) σ) = some e := by
  rw [run_stable (.inl (by rw [h]; simp))]; exact h

theorem run_idle_forever {fuel k : Nat} {σ : St F} (h : (finalOf (C03.runTurns fuel k σ)).state = .idle) (j : Nat) :
    C03.runTurns fuel (k + j) σ = C03.runTurns fuel k σ :=
  run_stable (.inr (by rw [h]; decide)) j

def nextTurn (fuel : Nat) : Res F Unit → Res F Unit
  | .ok _ σ => C03.turns fuel 1 σ
  | .err e σ => .err e σ

theorem runTurns_succ (fuel k : Nat) (σ : St F) :
    C03.runTurns fuel (k + 1) σ = nextTurn fuel (C03.runTurns fuel k σ) := by
  unfold C03.runTurns
  cases startEvaluating fuel "RUN".toList σ with
  | err e σ' => rfl
  | ok u σ' =>
    show C03.turns fuel (k + 1) σ' = nextTurn fuel (C03.turns fuel k σ')
    rw [turns_add]
    cases C03.turns fuel k σ' <;> rfl

end Generic

section Examples
attribute [local instance] C14.natOps

/-- one `Str` per file line -/
abbrev analysis (text : List Str) : Analysis Nat := analyzeFile (F := Nat) defaultFuel text

/-- RUN and up to `k` more turns of the program the analyzer hands over (`into_interpreter`) -/
abbrev runLoaded (k : Nat) (text : List Str) : Res Nat Unit :=
  C03.runTurns defaultFuel k (analysis text).intoInterpreter

abbrev runEntered (k : Nat) (text : List Str) : Res Nat Unit :=
  C03.runTurns defaultFuel k (entered (F := Nat) defaultFuel text)

def fna : Str := "FNA".toList
def fnb : Str := "FNB".toList

/-- the arrays of a state: each name, flagged `true` when it is the array that a `DIM`-less use
    creates for a numeric name (one dimension, 11 cells) with all cells still 0 -/
def arraysView (σ : St Nat) : List (Str × Bool) :=
  σ.arrays.map fun (n, a) =>
    (n, match a with
        | .nums [11] cells => cells == List.replicate 11 0
        | _ => false)

def aobs (a : Analysis Nat) : Option String × List (Nat × TErr) × Nat × Option (List Str) :=
  (a.panicked, errDiags a.messages, a.messages.length, a.st.lines.list)

structure Obs where
  err : Option TErr
  state : IState
  loc : Loc
  out : List Out
  fns : List (Str × FnDef)
  arrays : List (Str × Bool)
  deriving DecidableEq, Repr

def obs (r : Res Nat Unit) : Obs :=
  { err := errOfR r, state := (finalOf r).state, loc := (finalOf r).loc, out := (finalOf r).out,
    fns := (finalOf r).fns, arrays := arraysView (finalOf r) }

/-- stated for a VARIABLE analysis (and `obs_spec` for a variable outcome): nothing is evaluated here -/
theorem aobs_spec {a : Analysis Nat} {p : Option String} {d : List (Nat × TErr)} {n : Nat} {l : Option (List Str)}
    (h : aobs a = (p, d, n, l)) :
    a.panicked = p ∧ errDiags a.messages = d ∧ a.messages.length = n ∧ a.st.lines.list = l := by
  simpa only [aobs, Prod.mk.injEq] using h

theorem obs_spec {r : Res Nat Unit} {o : Obs} (h : obs r = o) :
    errOfR r = o.err ∧ (finalOf r).state = o.state ∧ (finalOf r).loc = o.loc ∧ (finalOf r).out = o.out ∧
      (finalOf r).fns = o.fns ∧ arraysView (finalOf r) = o.arrays := by
  subst h; exact ⟨rfl, rfl, rfl, rfl, rfl, rfl⟩

theorem silent_of_aobs {a : Analysis Nat} {n : Nat} {l : Option (List Str)} (h : aobs a = (none, [], n, l)) :
    Silent a :=
  silent_of (aobs_spec h).1 (aobs_spec h).2.1

theorem err_of_obs {r : Res Nat Unit} {o : Obs} {e : TErr} (h : obs r = o) (he : o.err = some e) :
    ∃ σ', r = .err e σ' := by
  have h1 : errOfR r = some e := (obs_spec h).1.trans he
  cases r with
  | ok u s => cases h1
  | err e' s => exact ⟨s, by simp only [errOfR, Option.some.injEq] at h1; rw [h1]⟩

/-- All that is observed of a source text, so that one kernel evaluation per text yields it all: the analysis,
    which is by far the dearest part, and the first `k` turns are evaluated once. -/
structure Report where
  analysis : Option String × List (Nat × TErr) × Nat × Option (List Str)
  before : Obs
  last : Obs
  typed : Obs
  deriving DecidableEq

def report (k : Nat) (text : List Str) : Report :=
  { analysis := aobs (analysis text), before := obs (runLoaded k text),
    last := obs (nextTurn defaultFuel (runLoaded k text)), typed := obs (runEntered (k + 1) text) }

def Report.same (a : Option String × List (Nat × TErr) × Nat × Option (List Str)) (b l : Obs) : Report :=
  { analysis := a, before := b, last := l, typed := l }

theorem report_spec {k : Nat} {text : List Str} {a : Option String × List (Nat × TErr) × Nat × Option (List Str)}
    {b l : Obs} (h : report k text = .same a b l) :
    aobs (analysis text) = a ∧ obs (runLoaded k text) = b ∧ obs (runLoaded (k + 1) text) = l ∧
      obs (runEntered (k + 1) text) = l := by
  refine ⟨congrArg Report.analysis h, congrArg Report.before h, ?_, congrArg Report.typed h⟩
  unfold runLoaded
  rw [runTurns_succ]
  exact congrArg Report.last h

/-! #### E1: a clean program -/

def e1Text : List Str :=
  ["10 DEF FNA(X,Y$) = X + 1".toList, "20 FOR I = 0 TO 0 : PRINT FNA(B(I),\"S\") : NEXT I".toList]

/-- The 2 messages are warnings (`X`, `B` "never defined").  After RUN and 4 turns the run is still going, in
    front of the NEXT; after 5 turns it is back at the prompt. -/
theorem e1_report : report 4 e1Text = .same
    (none, [], 2, some ["10 DEF FNA ( X , Y$ ) = X + 1\n".toList,
                        "20 FOR I = 0 TO 0 : PRINT FNA ( B ( I ) , \"S\" ) : NEXT I\n".toList])
    { err := none, state := .running, loc := { line := some 20, idx := 18 },
      out := [.print "1\n".toList],
      fns := [(fna, { args := [['X'], ['Y', '$']], line := 10, idx := 8 })],
      arrays := [(['B'], true)] }
    { err := none, state := .idle, loc := {},
      out := [.print "1\n".toList],
      fns := [(fna, { args := [['X'], ['Y', '$']], line := 10, idx := 8 })],
      arrays := [(['B'], true)] } := by
  unfold e1Text
  literal_chars
  decide +kernel

/-- the stored program as LIST shows it: the text tokenizes as intended -/
theorem e1_listing : (analysis e1Text).st.lines.list =
    some ["10 DEF FNA ( X , Y$ ) = X + 1\n".toList,
          "20 FOR I = 0 TO 0 : PRINT FNA ( B ( I ) , \"S\" ) : NEXT I\n".toList] :=
  (aobs_spec (report_spec e1_report).1).2.2.2

theorem e1_analyzer_silent : Silent (analysis e1Text) := silent_of_aobs (report_spec e1_report).1

/-- The run ends WITHOUT ANY ERROR: after RUN and 5 more turns (FOR, `:`, PRINT, `:`, NEXT) the
    interpreter is back at the prompt, having printed `1` (= `B(0) + 1`), with the array `B`
    auto-created (and no other). -/
theorem e1_run_clean : ∀ j,
    errOfR (runLoaded (5 + j) e1Text) = none ∧
    (finalOf (runLoaded (5 + j) e1Text)).state = .idle ∧
    (finalOf (runLoaded (5 + j) e1Text)).out = [.print "1\n".toList] ∧
    arraysView (finalOf (runLoaded (5 + j) e1Text)) = [(['B'], true)] ∧
    (finalOf (runLoaded (5 + j) e1Text)).fns = [(fna, { args := [['X'], ['Y', '$']], line := 10, idx := 8 })] := by
  intro j
  have h := obs_spec (report_spec e1_report).2.2.1
  rw [show runLoaded (5 + j) e1Text = runLoaded 5 e1Text from run_idle_forever h.2.1 j]
  exact ⟨h.1, h.2.1, h.2.2.2.1, h.2.2.2.2.2, h.2.2.2.2.1⟩

/-- so "5" above is exact -/
theorem e1_run_needs_5 : errOfR (runLoaded 4 e1Text) = none ∧ (finalOf (runLoaded 4 e1Text)).state = .running ∧
    (finalOf (runLoaded 4 e1Text)).loc = { line := some 20, idx := 18 } :=
  have h := obs_spec (report_spec e1_report).2.1
  ⟨h.1, h.2.1, h.2.2.1⟩

theorem e1_run_clean_entered : ∀ j,
    errOfR (runEntered (5 + j) e1Text) = none ∧
    (finalOf (runEntered (5 + j) e1Text)).state = .idle ∧
    (finalOf (runEntered (5 + j) e1Text)).out = [.print "1\n".toList] := by
  intro j
  have h := obs_spec (report_spec e1_report).2.2.2
  rw [show runEntered (5 + j) e1Text = runEntered 5 e1Text from run_idle_forever h.2.1 j]
  exact ⟨h.1, h.2.1, h.2.2.2.1⟩

/-! #### E2: call before definition — an array cell, no error -/

def e2Text : List Str := ["10 PRINT FNA(1)".toList, "20 DEF FNA(X) = X".toList]

/-- The 1 message is the warning "'X' is never defined.".  RUN executes the PRINT, 1 more turn the DEF. -/
theorem e2_report : report 0 e2Text = .same
    (none, [], 1, some ["10 PRINT FNA ( 1 )\n".toList, "20 DEF FNA ( X ) = X\n".toList])
    { err := none, state := .running, loc := { line := some 20, idx := 0 },
      out := [.print "0\n".toList], fns := [], arrays := [(fna, true)] }
    { err := none, state := .idle, loc := {},
      out := [.print "0\n".toList],
      fns := [(fna, { args := [['X']], line := 20, idx := 6 })],
      arrays := [(fna, true)] } := by
  unfold e2Text
  literal_chars
  decide +kernel

theorem e2_listing : (analysis e2Text).st.lines.list =
    some ["10 PRINT FNA ( 1 )\n".toList, "20 DEF FNA ( X ) = X\n".toList] :=
  (aobs_spec (report_spec e2_report).1).2.2.2

/-- at line 10 no `DEF FNA` has been seen, `FNA(1)` is an array element -/
theorem e2_analyzer_silent : Silent (analysis e2Text) := silent_of_aobs (report_spec e2_report).1

/-- The run ends WITHOUT ANY ERROR.  The interpreter took `FNA(1)` for an ARRAY cell: it printed `0` (the
    default cell value — the function would have given `1`), and at the end `FNA` is BOTH an auto-created
    11-cell numeric array and a user function. -/
theorem e2_run_clean : ∀ j,
    errOfR (runLoaded (1 + j) e2Text) = none ∧
    (finalOf (runLoaded (1 + j) e2Text)).state = .idle ∧
    (finalOf (runLoaded (1 + j) e2Text)).out = [.print "0\n".toList] ∧
    arraysView (finalOf (runLoaded (1 + j) e2Text)) = [(fna, true)] ∧
    (finalOf (runLoaded (1 + j) e2Text)).fns = [(fna, { args := [['X']], line := 20, idx := 6 })] := by
  intro j
  have h := obs_spec (report_spec e2_report).2.2.1
  rw [show runLoaded (1 + j) e2Text = runLoaded 1 e2Text from run_idle_forever h.2.1 j]
  exact ⟨h.1, h.2.1, h.2.2.2.1, h.2.2.2.2.2, h.2.2.2.2.1⟩

theorem e2_run_clean_entered : ∀ j,
    errOfR (runEntered (1 + j) e2Text) = none ∧
    (finalOf (runEntered (1 + j) e2Text)).state = .idle ∧
    (finalOf (runEntered (1 + j) e2Text)).out = [.print "0\n".toList] ∧
    arraysView (finalOf (runEntered (1 + j) e2Text)) = [(fna, true)] := by
  intro j
  have h := obs_spec (report_spec e2_report).2.2.2
  rw [show runEntered (1 + j) e2Text = runEntered 1 e2Text from run_idle_forever h.2.1 j]
  exact ⟨h.1, h.2.1, h.2.2.2.1, h.2.2.2.2.2⟩

/-! #### E3: call before definition, executed again after the definition — TYPE MISMATCH -/

def e3Text : List Str := ["10 PRINT FNA(1)".toList, "20 DEF FNA(X$) = 1".toList, "30 GOTO 10".toList]

/-- The analysis produces NO MESSAGE AT ALL.  After RUN and 2 turns the run is still going, at the start of
    line 10; the third turn fails. -/
theorem e3_report : report 2 e3Text = .same
    (none, [], 0, some ["10 PRINT FNA ( 1 )\n".toList, "20 DEF FNA ( X$ ) = 1\n".toList, "30 GOTO 10\n".toList])
    { err := none, state := .running, loc := { line := some 10, idx := 0 },
      out := [.print "0\n".toList],
      fns := [(fna, { args := [['X', '$']], line := 20, idx := 6 })],
      arrays := [(fna, true)] }
    { err := some { err := .typeMismatch, loc := some { line := some 10, idx := 3 } },
      state := .idle, loc := { line := some 10, idx := 4 },
      out := [.print "0\n".toList],
      fns := [(fna, { args := [['X', '$']], line := 20, idx := 6 })],
      arrays := [(fna, true)] } := by
  unfold e3Text
  literal_chars
  decide +kernel

theorem e3_listing : (analysis e3Text).st.lines.list =
    some ["10 PRINT FNA ( 1 )\n".toList, "20 DEF FNA ( X$ ) = 1\n".toList, "30 GOTO 10\n".toList] :=
  (aobs_spec (report_spec e3_report).1).2.2.2

/-- not even a warning: at line 10 `FNA(1)` is an array element with a numeric subscript -/
theorem e3_analyzer_silent : Silent (analysis e3Text) ∧ (analysis e3Text).messages.length = 0 :=
  ⟨silent_of_aobs (report_spec e3_report).1, (aobs_spec (report_spec e3_report).1).2.2.1⟩

/-- The run FAILS WITH TYPE MISMATCH, on line 10 (token 3, the argument `1`): RUN executes the
    PRINT (array cell, prints `0`), turn 1 the DEF, turn 2 the GOTO, turn 3 the PRINT again — with `FNA`
    the function with the string parameter `X$`, applied to the number `1`. -/
theorem e3_run_type_mismatch : ∀ j,
    errOfR (runLoaded (3 + j) e3Text) =
      some { err := .typeMismatch, loc := some { line := some 10, idx := 3 } } :=
  run_err_forever (obs_spec (report_spec e3_report).2.2.1).1

theorem e3_run_before : errOfR (runLoaded 2 e3Text) = none ∧
    (finalOf (runLoaded 2 e3Text)).state = .running ∧
    (finalOf (runLoaded 2 e3Text)).loc = { line := some 10, idx := 0 } ∧
    (finalOf (runLoaded 2 e3Text)).out = [.print "0\n".toList] ∧
    arraysView (finalOf (runLoaded 2 e3Text)) = [(fna, true)] ∧
    (finalOf (runLoaded 2 e3Text)).fns = [(fna, { args := [['X', '$']], line := 20, idx := 6 })] :=
  have h := obs_spec (report_spec e3_report).2.1
  ⟨h.1, h.2.1, h.2.2.1, h.2.2.2.1, h.2.2.2.2.2, h.2.2.2.2.1⟩

theorem e3_run_type_mismatch_entered : ∀ j,
    errOfR (runEntered (3 + j) e3Text) =
      some { err := .typeMismatch, loc := some { line := some 10, idx := 3 } } :=
  run_err_forever (obs_spec (report_spec e3_report).2.2.2).1

/-- E3 refutes "analyzer silent ⇒ no TYPE MISMATCH" without the side condition on DEF. -/
theorem e3_counterexample : ∃ (text : List Str) (k : Nat) (te : TErr) (σ' : St Nat),
    Silent (analyzeFile (F := Nat) defaultFuel text) ∧
    C03.runTurns defaultFuel k (analyzeFile (F := Nat) defaultFuel text).intoInterpreter = .err te σ' ∧
    te.err = .typeMismatch := by
  obtain ⟨σ', h⟩ := err_of_obs (report_spec e3_report).2.2.1 rfl
  exact ⟨e3Text, 3, _, σ', e3_analyzer_silent.1, h, rfl⟩

/-! #### E3': the same statements with the DEF textually first — the analyzer does see it -/

def e3cText : List Str := ["10 DEF FNA(X$) = 1".toList, "20 PRINT FNA(1)".toList, "30 GOTO 20".toList]

/-- With the definition in front, the analyzer reports exactly one error (its only message), TYPE MISMATCH
    on file line 1 (the second line) at line 20, token 3; and the run fails with that very error at that
    very place, at the first PRINT (turn 1). -/
theorem e3c_analyzer_reports_and_run_fails :
    (analysis e3cText).panicked = none ∧
    errDiags (analysis e3cText).messages =
      [(1, { err := .typeMismatch, loc := some { line := some 20, idx := 3 } })] ∧
    ∀ j, errOfR (runLoaded (1 + j) e3cText) =
      some { err := .typeMismatch, loc := some { line := some 20, idx := 3 } } := by
  have h : aobs (analysis e3cText) =
      (none, [(1, { err := .typeMismatch, loc := some { line := some 20, idx := 3 } })], 1,
       some ["10 DEF FNA ( X$ ) = 1\n".toList, "20 PRINT FNA ( 1 )\n".toList, "30 GOTO 20\n".toList]) ∧
      errOfR (runLoaded 1 e3cText) = some { err := .typeMismatch, loc := some { line := some 20, idx := 3 } } := by
    unfold e3cText
    literal_chars
    decide +kernel
  exact ⟨(aobs_spec h.1).1, (aobs_spec h.1).2.1, run_err_forever h.2⟩

/-! #### E4: redefinition with another arity — SYNTAX ERROR -/

def e4Text : List Str :=
  ["10 DEF FNA(X) = X".toList, "20 PRINT FNA(1)".toList, "30 DEF FNA(X,Y) = X".toList, "40 GOTO 20".toList]

/-- The 2 messages are warnings ("'X' is never defined." for the two bodies).  After RUN and 3 turns the run is
    still going, at the start of line 20; the fourth turn fails. -/
theorem e4_report : report 3 e4Text = .same
    (none, [], 2, some ["10 DEF FNA ( X ) = X\n".toList, "20 PRINT FNA ( 1 )\n".toList,
                        "30 DEF FNA ( X , Y ) = X\n".toList, "40 GOTO 20\n".toList])
    { err := none, state := .running, loc := { line := some 20, idx := 0 },
      out := [.print "1\n".toList],
      fns := [(fna, { args := [['X'], ['Y']], line := 30, idx := 8 })],
      arrays := [] }
    { err := some { err := .syntax (.expectedToken .Comma), loc := some { line := some 20, idx := 4 } },
      state := .idle, loc := { line := some 20, idx := 5 },
      out := [.print "1\n".toList],
      fns := [(fna, { args := [['X'], ['Y']], line := 30, idx := 8 })],
      arrays := [] } := by
  unfold e4Text
  literal_chars
  decide +kernel

theorem e4_listing : (analysis e4Text).st.lines.list =
    some ["10 DEF FNA ( X ) = X\n".toList, "20 PRINT FNA ( 1 )\n".toList,
          "30 DEF FNA ( X , Y ) = X\n".toList, "40 GOTO 20\n".toList] :=
  (aobs_spec (report_spec e4_report).1).2.2.2

/-- at line 20 the analyzer knows the one-parameter `FNA`; the redefinition on line 30 is accepted without
    an error -/
theorem e4_analyzer_silent : Silent (analysis e4Text) := silent_of_aobs (report_spec e4_report).1

/-- The run FAILS WITH A SYNTAX ERROR ("expected `,`") on line 20 (token 4, the `)` after the
    argument `1`): RUN executes the first DEF, turn 1 the PRINT (prints `1`), turn 2 the second DEF,
    turn 3 the GOTO, turn 4 the PRINT again — with the two-parameter `FNA`. -/
theorem e4_run_syntax_error : ∀ j,
    errOfR (runLoaded (4 + j) e4Text) =
      some { err := .syntax (.expectedToken .Comma), loc := some { line := some 20, idx := 4 } } :=
  run_err_forever (obs_spec (report_spec e4_report).2.2.1).1

theorem e4_run_before : errOfR (runLoaded 3 e4Text) = none ∧
    (finalOf (runLoaded 3 e4Text)).state = .running ∧
    (finalOf (runLoaded 3 e4Text)).loc = { line := some 20, idx := 0 } ∧
    (finalOf (runLoaded 3 e4Text)).out = [.print "1\n".toList] ∧
    (finalOf (runLoaded 3 e4Text)).fns = [(fna, { args := [['X'], ['Y']], line := 30, idx := 8 })] :=
  have h := obs_spec (report_spec e4_report).2.1
  ⟨h.1, h.2.1, h.2.2.1, h.2.2.2.1, h.2.2.2.2.1⟩

theorem e4_run_syntax_error_entered : ∀ j,
    errOfR (runEntered (4 + j) e4Text) =
      some { err := .syntax (.expectedToken .Comma), loc := some { line := some 20, idx := 4 } } :=
  run_err_forever (obs_spec (report_spec e4_report).2.2.2).1

/-- E4 refutes "analyzer silent ⇒ no syntax error" when a function is defined twice. -/
theorem e4_counterexample : ∃ (text : List Str) (k : Nat) (te : TErr) (σ' : St Nat) (se : SynErr),
    Silent (analyzeFile (F := Nat) defaultFuel text) ∧
    C03.runTurns defaultFuel k (analyzeFile (F := Nat) defaultFuel text).intoInterpreter = .err te σ' ∧
    te.err = .syntax se := by
  obtain ⟨σ', h⟩ := err_of_obs (report_spec e4_report).2.2.1 rfl
  exact ⟨e4Text, 4, _, σ', .expectedToken .Comma, e4_analyzer_silent, h, rfl⟩

/-! #### E5: defined once and before every CALL, but named in a body before its definition -/

def e5Text : List Str :=
  ["10 DEF FNA(X) = FNB(X)".toList, "20 DEF FNB(X$) = 1".toList, "30 PRINT FNA(1)".toList]

/-- The 1 message is a warning.  After RUN and 1 turn both functions are defined, nothing called, no array
    created; the PRINT of the second turn fails. -/
theorem e5_report : report 1 e5Text = .same
    (none, [], 1, some ["10 DEF FNA ( X ) = FNB ( X )\n".toList, "20 DEF FNB ( X$ ) = 1\n".toList,
                        "30 PRINT FNA ( 1 )\n".toList])
    { err := none, state := .running, loc := { line := some 30, idx := 0 },
      out := [],
      fns := [(fna, { args := [['X']], line := 10, idx := 6 }), (fnb, { args := [['X', '$']], line := 20, idx := 6 })],
      arrays := [] }
    { err := some { err := .typeMismatch, loc := some { line := some 10, idx := 8 } },
      state := .idle, loc := { line := some 30, idx := 5 },
      out := [],
      fns := [(fna, { args := [['X']], line := 10, idx := 6 }), (fnb, { args := [['X', '$']], line := 20, idx := 6 })],
      arrays := [] } := by
  unfold e5Text
  literal_chars
  decide +kernel

theorem e5_listing : (analysis e5Text).st.lines.list =
    some ["10 DEF FNA ( X ) = FNB ( X )\n".toList, "20 DEF FNB ( X$ ) = 1\n".toList,
          "30 PRINT FNA ( 1 )\n".toList] :=
  (aobs_spec (report_spec e5_report).1).2.2.2

/-- the analyzer checks the body of `FNA` when it meets line 10, where `FNB(X)` is still an array element
    with a numeric subscript; at the call on line 30 it checks the arguments only -/
theorem e5_analyzer_silent : Silent (analysis e5Text) := silent_of_aobs (report_spec e5_report).1

/-- The run FAILS WITH TYPE MISMATCH, located INSIDE THE BODY of `FNA` (line 10, token 8: the `X`
    handed to `FNB`): RUN executes the first DEF, turn 1 the second, turn 2 the PRINT.  Both functions are
    defined exactly once, and both definitions are executed before the first call of either. -/
theorem e5_run_type_mismatch : ∀ j,
    errOfR (runLoaded (2 + j) e5Text) =
      some { err := .typeMismatch, loc := some { line := some 10, idx := 8 } } :=
  run_err_forever (obs_spec (report_spec e5_report).2.2.1).1

theorem e5_run_before : errOfR (runLoaded 1 e5Text) = none ∧
    (finalOf (runLoaded 1 e5Text)).state = .running ∧
    (finalOf (runLoaded 1 e5Text)).loc = { line := some 30, idx := 0 } ∧
    (finalOf (runLoaded 1 e5Text)).out = [] ∧
    (finalOf (runLoaded 1 e5Text)).fns =
      [(fna, { args := [['X']], line := 10, idx := 6 }), (fnb, { args := [['X', '$']], line := 20, idx := 6 })] ∧
    arraysView (finalOf (runLoaded 1 e5Text)) = [] :=
  obs_spec (report_spec e5_report).2.1

theorem e5_run_type_mismatch_entered : ∀ j,
    errOfR (runEntered (2 + j) e5Text) =
      some { err := .typeMismatch, loc := some { line := some 10, idx := 8 } } :=
  run_err_forever (obs_spec (report_spec e5_report).2.2.2).1

/-- E5 refutes "analyzer silent, every function defined once and before it is called ⇒ no TYPE MISMATCH". -/
theorem e5_counterexample : ∃ (text : List Str) (k : Nat) (te : TErr) (σ' : St Nat),
    Silent (analyzeFile (F := Nat) defaultFuel text) ∧
    C03.runTurns defaultFuel k (analyzeFile (F := Nat) defaultFuel text).intoInterpreter = .err te σ' ∧
    te.err = .typeMismatch := by
  obtain ⟨σ', h⟩ := err_of_obs (report_spec e5_report).2.2.1 rfl
  exact ⟨e5Text, 2, _, σ', e5_analyzer_silent, h, rfl⟩

def e5cText : List Str :=
  ["10 DEF FNB(X$) = 1".toList, "20 DEF FNA(X) = FNB(X)".toList, "30 PRINT FNA(1)".toList]

/-- With `FNB` defined textually before the body that names it, the analyzer reports the TYPE MISMATCH
    (file line 1, at line 20 token 8), and the run fails with it at that place. -/
theorem e5c_analyzer_reports_and_run_fails :
    (analysis e5cText).panicked = none ∧
    errDiags (analysis e5cText).messages =
      [(1, { err := .typeMismatch, loc := some { line := some 20, idx := 8 } })] ∧
    ∀ j, errOfR (runLoaded (2 + j) e5cText) =
      some { err := .typeMismatch, loc := some { line := some 20, idx := 8 } } := by
  have h : aobs (analysis e5cText) =
      (none, [(1, { err := .typeMismatch, loc := some { line := some 20, idx := 8 } })], 2,
       some ["10 DEF FNB ( X$ ) = 1\n".toList, "20 DEF FNA ( X ) = FNB ( X )\n".toList,
             "30 PRINT FNA ( 1 )\n".toList]) ∧
      errOfR (runLoaded 2 e5cText) = some { err := .typeMismatch, loc := some { line := some 20, idx := 8 } } := by
    unfold e5cText
    literal_chars
    decide +kernel
  exact ⟨(aobs_spec h.1).1, (aobs_spec h.1).2.1, run_err_forever h.2⟩

end Examples

end Abasic.Props.C06

