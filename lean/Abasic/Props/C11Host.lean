import Abasic.Props.C11
import Abasic.Props.C01WF
import Abasic.Props.C16Store
import Abasic.Proofs.RngRun
import Abasic.Proofs.InputLemmas
import Abasic.Proofs.ExprLemmasG
import Abasic.Proofs.DataIter
import Abasic.Proofs.TokFast
/-
  C11 at the host level — editing the program invalidates every runtime
  reference into it, as seen by whoever types the next line.

  The state after a successful edit is a function of the program text, variables, arrays, generator, flags, queues
  ONLY (`edit_forgets_runtime`).  The probes are `startEvaluating fuel LINE (afterEdit σ n ts)` for the literal lines
  CONT, RETURN, NEXT I, PRINT FNA(1), READ X, for every idle σ (nesting 0 where an expression is evaluated);
  fuel: any for CONT/RETURN/NEXT/READ, ≥ 1 for PRINT X, ≥ 2 for PRINT FNA(1).  None of them is about the edit: each
  answers as it does because one piece of runtime state is at its initial value (no subroutine frame, no loop, no data
  cursor, no function), so each is first stated for ANY idle interpreter of which that holds (`*_typed`), from the
  statement-level facts of Props/C11.lean and the turn layer (Proofs/Turn.lean); the edit only supplies `edit_clears`.
  `probe_hypotheses_reachable`: the side conditions hold in reachable states; `probes_nonvacuous`: a kernel-checked
  reachable mid-run state for which the un-edited interpreter answers all five probes differently.

  The expression evaluations use Proofs/C11Eval.lean and Proofs/RngRun.lean; `FNA (` is an array reference because that
  is what the name means when no function is defined (`Names.resolve`, Proofs/Expr2Names.lean).
-/
namespace Abasic.Props.C11
open Abasic Abasic.Props.C01 Abasic.ExprL Abasic.Proofs.C11Eval

variable {F : Type} [NumOps F]

def dropRuntime (σ : St F) : St F :=
  { σ with bp := none, stack := [], loops := [], fns := [], data := none, loc := {}, imm := [] }

omit [NumOps F] in
theorem edit_forgets_runtime (σ : St F) (n : Nat) (ts : List (Token F)) :
    afterEdit σ n ts = afterEdit (dropRuntime σ) n ts := by
  simp [afterEdit, dropRuntime, St.setNumberedLine, St.setImmediate]

theorem edit_then_same_future (fuel : Nat) (cs : List Call) (σ : St F) (n : Nat) (ts : List (Token F)) :
    applyCalls fuel cs (afterEdit σ n ts) = applyCalls fuel cs (afterEdit (dropRuntime σ) n ts) := by
  rw [← edit_forgets_runtime]

omit [NumOps F] in
/-- two states that differ only in runtime references into the program are indistinguishable after the
    same edit … -/
theorem edit_congr (σ₁ σ₂ : St F) (h : dropRuntime σ₁ = dropRuntime σ₂) (n : Nat) (ts : List (Token F)) :
    afterEdit σ₁ n ts = afterEdit σ₂ n ts := by
  rw [edit_forgets_runtime σ₁, edit_forgets_runtime σ₂, h]

/-- … by any later sequence of host calls. -/
theorem edit_future_congr (fuel : Nat) (cs : List Call) (σ₁ σ₂ : St F) (h : dropRuntime σ₁ = dropRuntime σ₂)
    (n : Nat) (ts : List (Token F)) :
    applyCalls fuel cs (afterEdit σ₁ n ts) = applyCalls fuel cs (afterEdit σ₂ n ts) := by
  rw [edit_congr σ₁ σ₂ h]

/-! The literal lines: `rfl` after the literals are replaced by their lists of characters (decoding them is what is slow
  in the unifier). -/

theorem tok_return : tokenize (F := F) "RETURN".toList 0 = .ok [.kw .Return] := by
  literal_chars
  rw [Fast.tokenize_eq]; rfl
theorem tok_next : tokenize (F := F) "NEXT I".toList 0 = .ok [.kw .Next, .symbol "I".toList] := by
  literal_chars
  rw [Fast.tokenize_eq]; rfl
theorem tok_read : tokenize (F := F) "READ X".toList 0 = .ok [.kw .Read, .symbol "X".toList] := by
  literal_chars
  rw [Fast.tokenize_eq]; rfl
theorem tok_printx : tokenize (F := F) "PRINT X".toList 0 = .ok [.kw .Print, .symbol "X".toList] := by
  literal_chars
  rw [Fast.tokenize_eq]; rfl

theorem cmd_return : (commandWord "RETURN".toList).bind Command.ofWord = none := by
  rw [Fast.ofWord_eq, String.toList_ofList]; decide +kernel
theorem cmd_next : (commandWord "NEXT I".toList).bind Command.ofWord = none := by
  rw [Fast.ofWord_eq, String.toList_ofList]; decide +kernel
theorem cmd_read : (commandWord "READ X".toList).bind Command.ofWord = none := by
  rw [Fast.ofWord_eq, String.toList_ofList]; decide +kernel
theorem cmd_printx : (commandWord "PRINT X".toList).bind Command.ofWord = none := by
  rw [Fast.ofWord_eq, String.toList_ofList]; decide +kernel
theorem cmd_printfna : (commandWord "PRINT FNA(1)".toList).bind Command.ofWord = none := by
  rw [Fast.ofWord_eq, String.toList_ofList]; decide +kernel

theorem start_err_idle {fuel : Nat} {line : Str} {σ σ' : St F} {e : TErr}
    (h : startEvaluating fuel line σ = .err e σ') : σ'.state = .idle :=
  start_error_is_value fuel line σ σ' e h

section typed
open Abasic.Turn

omit [NumOps F] in
theorem typed_stack (s : St F) (ts : List (Token F)) (hstack : s.stack = []) : (typed s ts).stack = [] := by
  show (if s.bp.isNone = true then [] else (s.setImmediate []).stack) = []
  split
  · rfl
  · show (if s.bp.isNone = true then [] else s.stack) = []
    rw [hstack]; split <;> rfl

theorem return_typed (fuel : Nat) (s : St F) (hidle : s.state = .idle) (hstack : s.stack = []) :
    ∃ σ' e, startEvaluating fuel "RETURN".toList s = .err e σ' ∧ e.err = .returnWithoutGosub ∧ σ'.state = .idle := by
  have hst : (mv (typed s [.kw .Return]) 1 (s.reads + 1 + 1)).stack = [] := typed_stack s [.kw .Return] hstack
  obtain ⟨s', hs⟩ := return_without_gosub _ hst
  exact ⟨_, _, start_typed_err fuel _ hidle cmd_return (by decide) tok_return
    ((stmtBody_typed fuel s _ _ rfl).trans hs), St.populate_err _ _, rfl⟩

theorem next_typed (fuel : Nat) (s : St F) (x : F) (hidle : s.state = .idle) (hl : s.loops = [])
    (hv : getVar s "I".toList = .num x) :
    ∃ σ' e, startEvaluating fuel "NEXT I".toList s = .err e σ' ∧ e.err = .nextWithoutFor ∧ σ'.state = .idle :=
  ⟨_, _, start_typed_err fuel _ hidle cmd_next (by decide) tok_next
    (next_stmt fuel s _ [] x hv (by rw [hl]; rfl)), St.populate_err _ _, rfl⟩

/-- the warning a reference to the variable `name` emits first when warnings are on and it was never assigned -/
def undeclared (name : Str) (s : St F) : List Out :=
  if (s.warnings && !alHas name s.vars) = true
  then [Out.warning ("Use of undeclared variable '".toList ++ name ++ "'.".toList) s.loc.line] else []

/-- a variable that no stack frame binds, as a whole expression, on any state: the variable leaf of the induction of
    Proofs/Expr2WarnInd.lean, which asks nothing of the state (`Inv.plain`) -/
theorem expr_var (f : Nat) (s : St F) (pre rest : List (Token F)) (name : Str)
    (hn : s.nesting < Extracted.nestingLimit) (hE : Ends 6 rest) (hAt : At s pre (.symbol name :: rest))
    (hst : findInStack name s.stack = none) :
    ∃ r, (evalN (f + 1)).expr s = .ok (getVar s name) { mv s 1 r with out := undeclared name s ++ s.out } := by
  have h := ExprL3.expr_eq2 .plain 0 (.var name) (ExprL3.P2_atom _ 0 _ (ExprL3.A2_var _ 0 name) rfl) (f + 1) s
    (ExprG.envOf s []) pre rest (by rw [Ref.depth2]; omega) (by rw [Ref.depth2]; omega) hE
    (by rw [ExprL2.render2_var]; exact hAt) (ExprG.tracks_envOf s []) trivial
  rw [Names.fold3, ExprL2.render2_var] at h
  obtain ⟨r, _, h⟩ := h
  refine ⟨r, h.trans ?_⟩
  unfold Names.readVar3 undeclared
  rw [ExprL3.lookup_eq (ExprG.tracks_envOf s []) name, hst,
    show Ref.lookupFrames name (ExprG.envOf s []).frames = none from (ExprL2.findInStack_eq name s.stack).symm.trans hst]
  by_cases hw : (s.warnings && !alHas name s.vars) = true
  · rw [if_pos hw, if_pos (by exact hw)]; rfl
  · rw [if_neg hw, if_neg (by exact hw)]; rfl

/-- the warning `PRINT X` emits first when warnings are on and X was never assigned -/
def undeclaredX (σ : St F) : List Out :=
  if (σ.warnings && !alHas "X".toList σ.vars) = true
  then [Out.warning ("Use of undeclared variable '".toList ++ "X".toList ++ "'.".toList) none] else []

theorem print_x_typed (fuel : Nat) (s : St F) (hidle : s.state = .idle) (hnest : s.nesting = 0)
    (hstack : s.stack = []) (hfuel : 1 ≤ fuel) :
    ∃ σ', startEvaluating fuel "PRINT X".toList s = .ok () σ' ∧
      σ'.out = .print (valueText (getVar s "X".toList) ++ ['\n']) :: (undeclaredX s ++ s.out) ∧
      σ'.vars = s.vars ∧ σ'.arrays = s.arrays ∧ σ'.state = .idle := by
  obtain ⟨k, rfl⟩ : ∃ k, fuel = k + 1 := ⟨fuel - 1, by omega⟩
  have hAt : At (typed s [.kw .Print, .symbol "X".toList]) [] [.kw .Print, .symbol "X".toList] := ⟨rfl, rfl⟩
  obtain ⟨r, hx⟩ := expr_var k _ [.kw .Print] [] "X".toList (by show s.nesting < _; rw [hnest]; decide) (ends_nil 6)
    (at_mv1 hAt ((typed s [.kw .Print, .symbol "X".toList]).reads + 1 + 1))
    (by show findInStack _ (typed s [.kw .Print, .symbol "X".toList]).stack = none; rw [typed_stack s _ hstack]; rfl)
  exact ⟨_, start_typed_ok (k + 1) _ hidle cmd_printx (by decide) tok_printx
    (Rng.Run.stmt_print_ok (evalN (k + 1)) hAt rfl hx ⟨rfl, rfl⟩) rfl rfl, rfl, rfl, rfl, rfl⟩

end typed

theorem cont_after_edit_host (fuel : Nat) (σ : St F) (n : Nat) (ts : List (Token F))
    (hidle : σ.state = .idle) :
    ∃ σ' e, startEvaluating fuel "CONT".toList (afterEdit σ n ts) = .err e σ' ∧
      e.err = .cannotContinue ∧ σ'.state = .idle :=
  cont_after_edit fuel _ _ hidle (edit_clears σ n ts).1 (by decide)

theorem return_after_edit_host (fuel : Nat) (σ : St F) (n : Nat) (ts : List (Token F))
    (hidle : σ.state = .idle) :
    ∃ σ' e, startEvaluating fuel "RETURN".toList (afterEdit σ n ts) = .err e σ' ∧
      e.err = .returnWithoutGosub ∧ σ'.state = .idle :=
  return_typed fuel _ hidle (edit_clears σ n ts).2.1

theorem next_after_edit_host (fuel : Nat) (σ : St F) (n : Nat) (ts : List (Token F)) (x : F)
    (hidle : σ.state = .idle) (hv : getVar σ "I".toList = .num x) :
    ∃ σ' e, startEvaluating fuel "NEXT I".toList (afterEdit σ n ts) = .err e σ' ∧
      e.err = .nextWithoutFor ∧ σ'.state = .idle :=
  next_typed fuel _ x hidle (edit_clears σ n ts).2.2.1 hv

theorem edit_keeps_values (σ : St F) (n : Nat) (ts : List (Token F)) :
    (∀ name, getVar (afterEdit σ n ts) name = getVar σ name) ∧
    (∀ name, alGet name (afterEdit σ n ts).arrays = alGet name σ.arrays) ∧
    (afterEdit σ n ts).vars = σ.vars ∧ (afterEdit σ n ts).arrays = σ.arrays :=
  ⟨fun _ => rfl, fun _ => rfl, rfl, rfl⟩

/-- PRINT X typed after an edit prints the value X had before the edit. -/
theorem print_after_edit_host (fuel : Nat) (σ : St F) (n : Nat) (ts : List (Token F))
    (hidle : σ.state = .idle) (hnest : σ.nesting = 0) (hfuel : 1 ≤ fuel) :
    ∃ σ', startEvaluating fuel "PRINT X".toList (afterEdit σ n ts) = .ok () σ' ∧
      σ'.out = .print (valueText (getVar σ "X".toList) ++ ['\n']) :: (undeclaredX σ ++ σ.out) ∧
      σ'.vars = σ.vars ∧ σ'.arrays = σ.arrays ∧ σ'.state = .idle :=
  print_x_typed fuel _ hidle hnest (edit_clears σ n ts).2.1 hfuel

/-! ### a former function name is an array name -/

theorem tok_printfna (x : F) (hp : NumOps.parse (F := F) ['1'] = some x) (hf : NumOps.isFinite x = true) :
    tokenize (F := F) "PRINT FNA(1)".toList 0
      = .ok [.kw .Print, .symbol "FNA".toList, .kw .LeftParen, .num x, .kw .RightParen] := by
  literal_chars
  exact (tokenize_iff_toks _ _).mpr (.cons rfl (by rw [Fast.nextTokenC_eq]; rfl) (.cons rfl (by rw [Fast.nextTokenC_eq]; rfl) (.cons rfl (by rw [Fast.nextTokenC_eq]; rfl)
    (Rng.Run.toks_digit_rparen '1' x rfl ⟨by rw [Fast.any_eq]; rfl, rfl, fun _ e => absurd (List.cons.inj e).1 (by decide)⟩ rfl hp hf))))

def fnaToks (x : F) : List (Token F) := [.kw .Print, .symbol "FNA".toList, .kw .LeftParen, .num x, .kw .RightParen]

/-- the warning `PRINT FNA(1)` emits first when warnings are on (no array FNA exists) -/
def undeclaredFNA (σ : St F) : List Out :=
  if σ.warnings = true
  then [Out.warning ("Use of undeclared array '".toList ++ "FNA".toList ++ "'.".toList) none] else []

/-- the default-dimensioned numeric array -/
def defaultFNA (F : Type) [NumOps F] : ArrayV F := .nums [11] (List.replicate 11 NumOps.zero)

section cell
open Abasic.Turn

/-- `NAME ( <number> )` as a unary operand, `NAME` no built-in and no function defined: the subscript
    is read, then the cell of the array `NAME` (which a first use creates) -/
theorem unary_cell (k : Nat) (s : St F) (pre rest : List (Token F)) (name : Str) (x : F)
    (hAt : At s pre (.symbol name :: .kw .LeftParen :: .num x :: .kw .RightParen :: rest))
    (hb : Ref.reserved name = false) (hf : s.fns = []) (hn : s.nesting < Extracted.nestingLimit) (hx : ¬ NumOps.toI64 x < 0) :
    ∃ r, unaryExpr (evalN (k + 1)) s =
      (warnUndeclaredArray name >>= fun _ => arrayGet name [(NumOps.toI64 x).toNat]) (mv s 4 r) := by
  have hAt4 := at_mv1 hAt (s.reads + 1 + 1 + 1 + 1)
  have h6 := expect_eq (k := .LeftParen) hAt4 rfl
  have hAt6 := at_mv1 hAt4 (s.reads + 1 + 1 + 1 + 1 + 1)
  have h7 : (evalN (k + 1)).expr _ = _ := expr_num (evalN k) _ _ (.kw .RightParen :: rest) x hAt6 (ends_rparen 6 _) hn
  have hAt7 := at_mv1 hAt6 (s.reads + 1 + 1 + 1 + 1 + 1 + 9)
  have h8 := accept_false (k := .Comma) hAt7 rfl
  have h9 := expect_eq (k := .RightParen) (at_mv0 hAt7 (s.reads + 1 + 1 + 1 + 1 + 1 + 9 + 1)) rfl
  simp only [mv_mv, mv_reads] at h6 h7 h8 h9
  refine ⟨s.reads + 1 + 1 + 1 + 1 + 1 + 9 + 1 + 1, ?_⟩
  rw [Rng.Run.unary_named _ hAt, show Names.resolve s name = .cell by
    unfold Names.resolve; rw [Names.resolveIn_unreserved _ _ hb, hf]; rfl]
  show (arrayIndex (evalN (k + 1)) >>= fun idx => warnUndeclaredArray name >>= fun _ => arrayGet name idx) _ = _
  unfold arrayIndex
  rw [bind_bind, bind_ok h6, bind_bind, bind_ok (lineBudget_eq (σ := mv s (1 + 1) (s.reads + 1 + 1 + 1 + 1 + 1)) hAt6.1), bind_bind, arrayIndexLoop, bind_bind,
    bind_ok h7]
  simp only [hx, ↓reduceIte, List.nil_append]
  rw [bind_bind, bind_ok h8]
  simp only [Bool.false_eq_true, ↓reduceIte]
  rw [bind_ok (pure_eq _ _), bind_bind, bind_ok h9, bind_ok (pure_eq _ _)]

theorem arrayGet_fna_new (S : St F) (hna : alGet "FNA".toList S.arrays = none) :
    arrayGet "FNA".toList [1] S =
      .ok (.num NumOps.zero) { S with arrays := alSet "FNA".toList (defaultFNA F) S.arrays } := by
  have hh : alHas "FNA".toList S.arrays = false := by unfold alHas; rw [hna]; rfl
  simp at hh
  simp [arrayGet, ensureArray, bind, M.bindM, M.get, M.set, pure, M.pureM, hh,
    ArrayV.create, dimSizes, Extracted.defaultArraySize, Extracted.maxDimTotalElements, endsWithDollar,
    linearIndex, linearIndexAux, ArrayV.dims, defaultFNA, C16.alGet_alSet_self]

theorem fna_cell_new (S : St F) (hna : alGet "FNA".toList S.arrays = none) (hl : S.loc.line = none) :
    (warnUndeclaredArray "FNA".toList >>= fun _ => arrayGet "FNA".toList [1]) S =
      .ok (.num NumOps.zero) { S with out := undeclaredFNA S ++ S.out,
                                       arrays := alSet "FNA".toList (defaultFNA F) S.arrays } := by
  have hh : alHas "FNA".toList S.arrays = false := by unfold alHas; rw [hna]; rfl
  have hw : InputL.warnOut "FNA".toList S = undeclaredFNA S := by
    simp only [InputL.warnOut, hh, Bool.not_false, Bool.and_true, hl, undeclaredFNA]
  rw [bind_ok (InputL.warnUndeclaredArray_eq _ S), hw]
  exact arrayGet_fna_new _ hna

theorem fna_cell_old (S : St F) (dims : List Nat) (cells : List F) (i : Nat) (v : F)
    (ha : alGet "FNA".toList S.arrays = some (.nums dims cells))
    (hi : linearIndex [1] dims = .ok i) (hv : cells[i]? = some v) :
    (warnUndeclaredArray "FNA".toList >>= fun _ => arrayGet "FNA".toList [1]) S = .ok (.num v) S := by
  have hh : alHas "FNA".toList S.arrays = true := by unfold alHas; rw [ha]; rfl
  have hw : InputL.warnOut "FNA".toList S = [] := by
    simp only [InputL.warnOut, hh, Bool.not_true, Bool.and_false, Bool.false_eq_true, ↓reduceIte]
  rw [bind_ok (InputL.warnUndeclaredArray_eq _ S), hw]
  simp at hh ha
  simp [arrayGet, ensureArray, bind, M.bindM, M.get, pure, M.pureM, hh, ha, hi, hv, ArrayV.dims]

theorem fna_not_builtin : Ref.reserved "FNA".toList = false := by decide

/-- `hcell`: what the cell `FNA(1)` yields -/
theorem print_fna_typed (fuel : Nat) (s : St F) (x v : F) (o : List Out) (A : List (Str × ArrayV F))
    (hp : NumOps.parse (F := F) ['1'] = some x) (hf : NumOps.isFinite x = true) (hx : NumOps.toI64 x = 1)
    (hidle : s.state = .idle) (hnest : s.nesting = 0) (hfns : s.fns = []) (hstack : s.stack = []) (hfuel : 2 ≤ fuel)
    (hcell : ∀ S : St F, S.arrays = s.arrays → S.warnings = s.warnings → S.out = s.out → S.loc.line = none →
      (warnUndeclaredArray "FNA".toList >>= fun _ => arrayGet "FNA".toList [1]) S =
        .ok (.num v) { S with out := o, arrays := A }) :
    ∃ σ', startEvaluating fuel "PRINT FNA(1)".toList s = .ok () σ' ∧
      σ'.out = .print (NumOps.render v ++ ['\n']) :: o ∧ σ'.arrays = A ∧ σ'.stack = [] ∧ σ'.fns = [] ∧
      σ'.vars = s.vars ∧ σ'.state = .idle := by
  obtain ⟨k, rfl⟩ : ∃ k, fuel = k + 2 := ⟨fuel - 2, by omega⟩
  have hAt : At (typed s (fnaToks x)) [] (fnaToks x) := ⟨rfl, rfl⟩
  have hAt1 := at_mv1 (t := .kw .Print) hAt ((typed s (fnaToks x)).reads + 1 + 1)
  have hx0 : ¬ NumOps.toI64 x < 0 := by rw [hx]; decide
  obtain ⟨r, hu⟩ := unary_cell k (nest (mv (typed s (fnaToks x)) 1 ((typed s (fnaToks x)).reads + 1 + 1)) (s.nesting + 1))
    [.kw .Print] [] "FNA".toList x (at_nest hAt1 _) fna_not_builtin hfns
    (by show s.nesting + 1 < _; rw [hnest]; decide) hx0
  rw [hx, show (1 : Int).toNat = 1 from rfl] at hu
  have he := exprBody_of_unary (evalN (k + 1)) _ _ _ (fnaToks x) [] (by show s.nesting < _; rw [hnest]; decide)
    (hu.trans (hcell _ rfl rfl rfl rfl)) rfl
    ⟨rfl, rfl⟩ (ends_nil 6)
  refine ⟨_, start_typed_ok (k + 2) _ hidle cmd_printfna (by decide) (tok_printfna x hp hf)
    (Rng.Run.stmt_print_ok (evalN (k + 2)) hAt rfl he ⟨rfl, rfl⟩) rfl rfl, ?_⟩
  -- the fields of the final state are read off through its updates first: left to the unifier, each comparison
  -- with a field of `s` tries to match the states whole, layer by layer
  dsimp only [typed, mv, nest, St.setImmediate, C17.turnStart]
  rw [hstack]
  exact ⟨rfl, rfl, by simp only [ite_self], hfns, rfl, rfl⟩

end cell

/-- PRINT FNA(1) typed after an edit: NOT a function call, whatever `σ.fns` held;
    the cell (1) of the default-dimensioned array FNA, i.e. zero. -/
theorem fn_after_edit_host (fuel : Nat) (σ : St F) (n : Nat) (ts : List (Token F)) (x : F)
    (hp : NumOps.parse (F := F) ['1'] = some x) (hf : NumOps.isFinite x = true) (hx : NumOps.toI64 x = 1)
    (hna : alGet "FNA".toList σ.arrays = none)
    (hidle : σ.state = .idle) (hnest : σ.nesting = 0) (hfuel : 2 ≤ fuel) :
    ∃ σ', startEvaluating fuel "PRINT FNA(1)".toList (afterEdit σ n ts) = .ok () σ' ∧
      σ'.out = .print (NumOps.render (NumOps.zero : F) ++ ['\n']) :: (undeclaredFNA σ ++ σ.out) ∧
      σ'.arrays = alSet "FNA".toList (defaultFNA F) σ.arrays ∧ σ'.stack = [] ∧ σ'.fns = [] ∧
      σ'.vars = σ.vars ∧ σ'.state = .idle :=
  print_fna_typed fuel (afterEdit σ n ts) x _ _ _ hp hf hx hidle hnest (edit_clears σ n ts).2.2.2.1
    (edit_clears σ n ts).2.1 hfuel fun S hA hW hO hL => by
      rw [fna_cell_new S (by rw [hA]; exact hna) hL, hA, hO]
      unfold undeclaredFNA
      rw [hW]
      rfl

/-- … and when an ARRAY called FNA exists (arrays survive the edit), `PRINT FNA(1)` prints its cell (1):
    still an array reference, never the function. -/
theorem fn_after_edit_host_array (fuel : Nat) (σ : St F) (n : Nat) (ts : List (Token F)) (x : F)
    (hp : NumOps.parse (F := F) ['1'] = some x) (hf : NumOps.isFinite x = true) (hx : NumOps.toI64 x = 1)
    (dims : List Nat) (cells : List F) (i : Nat) (v : F)
    (ha : alGet "FNA".toList σ.arrays = some (.nums dims cells))
    (hi : linearIndex [1] dims = .ok i) (hv : cells[i]? = some v)
    (hidle : σ.state = .idle) (hnest : σ.nesting = 0) (hfuel : 2 ≤ fuel) :
    ∃ σ', startEvaluating fuel "PRINT FNA(1)".toList (afterEdit σ n ts) = .ok () σ' ∧
      σ'.out = .print (NumOps.render v ++ ['\n']) :: σ.out ∧
      σ'.arrays = σ.arrays ∧ σ'.stack = [] ∧ σ'.fns = [] ∧ σ'.vars = σ.vars ∧ σ'.state = .idle :=
  print_fna_typed fuel (afterEdit σ n ts) x v _ _ hp hf hx hidle hnest (edit_clears σ n ts).2.2.2.1
    (edit_clears σ n ts).2.1 hfuel fun S hA _ hO _ => by
      rw [fna_cell_old S dims cells i v (by rw [hA]; exact ha) hi hv]
      show _ = Res.ok (Value.num v) { S with out := (afterEdit σ n ts).out, arrays := (afterEdit σ n ts).arrays }
      rw [← hA, ← hO]

/-- the first DATA item of a program, in line order (empty DATA statements skipped) -/
def firstItem (chunks : List (Loc × List (DataElement F))) : Option (DataElement F) :=
  (chunks.flatMap (·.2)).head?

omit [NumOps F] in
theorem dataIter_first (chunks : List (Loc × List (DataElement F))) :
    (DataIter.next { chunks := chunks } (chunks.length + 1)).1 = firstItem chunks := by
  have hf : firstItem chunks = ((Prog2L.flatItems chunks).map (·.2)).head? := by
    unfold firstItem Prog2L.flatItems
    rw [List.map_flatMap]
    simp only [List.map_map, Function.comp_def, List.map_id']
  obtain ⟨_, h0, h1⟩ := Prog2L.next_spec (chunks.length + 1) ({ chunks := chunks } : DataIter F) (Nat.lt_succ_self _)
  rw [hf, ← show Prog2L.remItems ({ chunks := chunks } : DataIter F) = Prog2L.flatItems chunks from Prog2L.remItems_fresh chunks 0]
  cases hr : Prog2L.remItems ({ chunks := chunks } : DataIter F) with
  | nil => exact (h0 hr).1
  | cons p tl => exact (h1 p.1 p.2 tl hr).1

theorem read_x_stmt (ev : Evals F) (s1 : St F) (it : DataIter F) (hAt : At s1 [.kw .Read] [.symbol "X".toList])
    (e : Option (DataElement F))
    (hnd : nextDataElement (mv s1 1 (s1.reads + 1 + 1)) = .ok e { mv s1 1 (s1.reads + 1 + 1) with data := some it }) :
    readStatement ev s1 =
      match (generalizing := false) e with
      | none => .err { err := .outOfData } { mv s1 1 (s1.reads + 1 + 1) with data := some it }
      | some (.str _) => .err { err := .dataTypeMismatch } { mv s1 1 (s1.reads + 1 + 1) with data := some it }
      | some (.num v) =>
        .ok () { mv s1 1 (s1.reads + 1 + 1 + 1) with data := some it, vars := alSet "X".toList (.num v) s1.vars } := by
  unfold readStatement
  rw [bind_ok (lineBudget_eq hAt.1)]
  show readLoop ev (1 + 1 + 1) s1 = _
  rw [readLoop, bind_ok (InputL.parseLValue_scalar_at hAt (by intro t ht; cases ht)), bind_ok hnd]
  cases e with
  | none => rfl
  | some d =>
    cases d with
    | str t => rfl
    | num v =>
      let S2 : St F := { mv s1 1 (s1.reads + 1 + 1) with data := some it }
      let S3 : St F := { S2 with vars := alSet "X".toList (.num v) s1.vars }
      have h1 : liftE (Value.coerceFromData "X".toList (.num v)) S2 = .ok (.num v) S2 := rfl
      have h2 : assignValue { name := "X".toList, index := none } (.num v) S2 = .ok () S3 := rfl
      have hacc := ExprL.accept_end (σ := S3) (pre := [.kw .Read, .symbol "X".toList]) (post := []) (k := .Comma)
        ⟨hAt.1, by show s1.loc.idx + 1 = 2; rw [hAt.2]; rfl⟩ nofun
      show (liftE (Value.coerceFromData "X".toList (.num v)) >>= fun v' =>
        assignValue { name := "X".toList, index := none } v' >>= fun _ =>
        accept .Comma >>= fun b => if b then readLoop ev (1 + 1) else pure ()) S2 = _
      rw [bind_ok h1, bind_ok h2, bind_ok hacc]
      rfl

open Abasic.Turn in
theorem read_typed (fuel : Nat) (s : St F) (chunks : List (Loc × List (DataElement F))) (hd : s.data = none)
    (hc : s.lines.dataChunks = some chunks) :
    ∃ s2 : St F, s2.vars = s.vars ∧ s2.loc = { line := none, idx := 2 } ∧ s2.imm = [.kw .Read, .symbol "X".toList] ∧
      s2.data = some (DataIter.next { chunks := chunks } (chunks.length + 1)).2 ∧
      stmtBody (evalN fuel) (typed s [.kw .Read, .symbol "X".toList]) =
        match firstItem chunks with
        | none => .err { err := .outOfData } s2
        | some (.str _) => .err { err := .dataTypeMismatch } s2
        | some (.num v) => .ok () { s2 with reads := s2.reads + 1, vars := alSet "X".toList (.num v) s.vars } := by
  have hnd := read_restarts (mv (mv (typed s [.kw .Read, .symbol "X".toList]) 1 (s.reads + 1 + 1)) 1
    (s.reads + 1 + 1 + 1 + 1)) hd chunks hc
  rw [dataIter_first] at hnd
  exact ⟨{ mv (typed s [.kw .Read, .symbol "X".toList]) 2 (s.reads + 1 + 1 + 1 + 1) with
      data := some (DataIter.next { chunks := chunks } (chunks.length + 1)).2 }, rfl, rfl, rfl, rfl,
    (stmtBody_typed fuel s _ _ rfl).trans (read_x_stmt (evalN fuel) _ _ ⟨rfl, rfl⟩ _ hnd)⟩

/-- READ X after an edit, in general: X receives the first DATA item of the EDITED program when it is
    a number; no item: OUT OF DATA; a string item: the data type mismatch.  `σ.data` plays no role. -/
theorem read_after_edit_host_first (fuel : Nat) (σ : St F) (n : Nat) (ts : List (Token F))
    (chunks : List (Loc × List (DataElement F)))
    (hidle : σ.state = .idle)
    (hc : (afterEdit σ n ts).lines.dataChunks = some chunks) :
    (∀ v, firstItem chunks = some (.num v) →
      ∃ σ', startEvaluating fuel "READ X".toList (afterEdit σ n ts) = .ok () σ' ∧
        getVar σ' "X".toList = .num v ∧ σ'.vars = alSet "X".toList (.num v) σ.vars ∧ σ'.state = .idle) ∧
    (firstItem chunks = none →
      ∃ σ' e, startEvaluating fuel "READ X".toList (afterEdit σ n ts) = .err e σ' ∧
        e.err = .outOfData ∧ σ'.vars = σ.vars ∧ σ'.state = .idle) ∧
    (∀ t, firstItem chunks = some (.str t) →
      ∃ σ' e, startEvaluating fuel "READ X".toList (afterEdit σ n ts) = .err e σ' ∧
        e.err = .dataTypeMismatch ∧ σ'.vars = σ.vars ∧ σ'.state = .idle) := by
  obtain ⟨s2, hvars, hloc, himm, _, h⟩ := read_typed fuel (afterEdit σ n ts) chunks (edit_clears σ n ts).2.2.2.2.1 hc
  have hst : (afterEdit σ n ts).state = .idle := hidle
  refine ⟨fun v hv => ?_, fun hv => ?_, fun t hv => ?_⟩
  · rw [hv] at h
    refine ⟨_, Turn.start_typed_ok fuel _ hst cmd_read (by decide) tok_read h (by rw [hloc]) (by rw [himm, hloc]; rfl),
      ?_, rfl, rfl⟩
    show (match alGet "X".toList (alSet "X".toList (Value.num v) _) with | some v => v | none => _) = _
    rw [C16.alGet_alSet_self]
  · rw [hv] at h
    exact ⟨_, _, Turn.start_typed_err fuel _ hst cmd_read (by decide) tok_read h, St.populate_err _ _, hvars, rfl⟩
  · rw [hv] at h
    exact ⟨_, _, Turn.start_typed_err fuel _ hst cmd_read (by decide) tok_read h, St.populate_err _ _, hvars, rfl⟩

theorem read_after_edit_host (fuel : Nat) (σ : St F) (n : Nat) (ts : List (Token F))
    (l : Loc) (v : F) (items : List (DataElement F)) (rest : List (Loc × List (DataElement F)))
    (hidle : σ.state = .idle)
    (hc : (afterEdit σ n ts).lines.dataChunks = some ((l, .num v :: items) :: rest)) :
    ∃ σ', startEvaluating fuel "READ X".toList (afterEdit σ n ts) = .ok () σ' ∧
      getVar σ' "X".toList = .num v ∧ σ'.vars = alSet "X".toList (.num v) σ.vars ∧
      σ'.data = some { chunks := (l, .num v :: items) :: rest, ci := 0, ii := 1 } ∧
      σ'.state = .idle := by
  obtain ⟨s2, _, hloc, himm, hdata, h⟩ := read_typed fuel (afterEdit σ n ts) _ (edit_clears σ n ts).2.2.2.2.1 hc
  have hst : (afterEdit σ n ts).state = .idle := hidle
  refine ⟨_, Turn.start_typed_ok fuel _ hst cmd_read (by decide) tok_read h (by rw [hloc]) (by rw [himm, hloc]; rfl),
    ?_, rfl, hdata, rfl⟩
  show (match alGet "X".toList (alSet "X".toList (Value.num v) _) with | some v => v | none => _) = _
  rw [C16.alGet_alSet_self]

theorem read_after_edit_host_nodata (fuel : Nat) (σ : St F) (n : Nat) (ts : List (Token F))
    (chunks : List (Loc × List (DataElement F)))
    (hidle : σ.state = .idle)
    (hc : (afterEdit σ n ts).lines.dataChunks = some chunks)
    (hnone : ∀ c ∈ chunks, c.2 = []) :
    ∃ σ' e, startEvaluating fuel "READ X".toList (afterEdit σ n ts) = .err e σ' ∧
      e.err = .outOfData ∧ σ'.vars = σ.vars ∧ σ'.state = .idle :=
  (read_after_edit_host_first fuel σ n ts chunks hidle hc).2.1
    (by rw [firstItem, List.flatMap_eq_nil_iff.2 hnone]; rfl)

/-- In a reachable state the nesting counter is 0, the numeric name I holds a number, and the edited
    program has a DATA index (the two line indexes agree): the probe theorems apply with no
    hypothesis beyond "idle" (and, for `PRINT FNA(1)`, that no ARRAY is called FNA). -/
theorem probe_hypotheses_reachable (fuel' : Nat) (σ : St F) (hr : Reachable fuel' σ) (n : Nat) (ts : List (Token F)) :
    σ.nesting = 0 ∧ (∃ x, getVar σ "I".toList = .num x) ∧
    ∃ chunks, (afterEdit σ n ts).lines.dataChunks = some chunks := by
  refine ⟨nesting_zero_of_reachable fuel' σ hr, ?_, ?_⟩
  · have h := C16.reachable_getVar fuel' σ hr "I".toList
    cases hv : getVar σ "I".toList with
    | num x => exact ⟨x, rfl⟩
    | str t => rw [hv] at h; simp [Value.matchesName, endsWithDollar] at h
  · have hwf : C04.WF (afterEdit σ n ts).lines := by
      have : (afterEdit σ n ts).lines = σ.lines.set n ts := rfl
      rw [this]
      exact C04.wf_set _ (wf_reachable fuel' σ hr).lines n ts
    obtain ⟨entries, he, _⟩ := C04.list_sorted _ hwf
    exact ⟨_, by unfold Lines.dataChunks; rw [he]; rfl⟩

/-- NEXT I after an edit in a reachable state: no typing hypothesis needed (C16's store invariant). -/
theorem next_after_edit_host_reachable (fuel fuel' : Nat) (σ : St F) (hr : Reachable fuel' σ)
    (n : Nat) (ts : List (Token F)) (hidle : σ.state = .idle) :
    ∃ σ' e, startEvaluating fuel "NEXT I".toList (afterEdit σ n ts) = .err e σ' ∧
      e.err = .nextWithoutFor ∧ σ'.state = .idle := by
  obtain ⟨_, ⟨x, hx⟩, _⟩ := probe_hypotheses_reachable fuel' σ hr n ts
  exact next_after_edit_host fuel σ n ts x hidle hx

/-- a session that stops (STOP) inside a GOSUB inside a FOR, after reading one of two DATA items,
    with a user function defined -/
def midRun : List Call :=
  [.start "10 DATA 5, 6".toList, .start "20 DEF FNA(X) = X + 41".toList, .start "30 FOR I = 1 TO 3".toList,
   .start "40 GOSUB 100".toList, .start "50 NEXT I".toList, .start "100 READ Z".toList, .start "110 STOP".toList,
   .start "RUN".toList, .cont, .cont, .cont, .cont, .cont]

def numOf : Value Toy → Option Int
  | .num x => some x
  | .str _ => none

def errOf {α : Type} : Res Toy α → Option Err
  | .ok _ _ => none
  | .err e _ => some e.err

def firstNum : Option (List (Loc × List (DataElement Toy))) → Option Int
  | some ((_, .num v :: _) :: _) => some v
  | _ => none

theorem numOf_some {v : Value Toy} {x : Int} (h : numOf v = some x) : v = .num x := by
  cases v with
  | str s => cases h
  | num y => exact congrArg (Value.num (F := Toy)) (Option.some.inj h : @Eq Toy y x)

theorem firstNum_some {c : Option (List (Loc × List (DataElement Toy)))} {x : Int} (h : firstNum c = some x) :
    ∃ l items rest, c = some ((l, .num x :: items) :: rest) := by
  unfold firstNum at h
  split at h
  · rename_i l v items rest
    have hv : @Eq Toy v x := Option.some.inj h
    exact ⟨l, items, rest, by rw [hv]⟩
  · cases h

/-- what the kernel checks about the mid-run state: where it stands … -/
def midCheck1 (s : St Toy) :=
  ((s.state, s.nesting, s.bp, s.stack.length), (s.loops.map (·.sym), s.fns.map (·.1), s.data.map (fun d => (d.ci, d.ii))))

/-- … what it answers to the five probes (no edit) … -/
def midCheck2 (s : St Toy) :=
  ((errOf (startEvaluating 60 "RETURN".toList s), errOf (startEvaluating 60 "CONT".toList s),
    errOf (startEvaluating 60 "NEXT I".toList s)), ((startEvaluating 60 "PRINT FNA(1)".toList s).final.out.head?,
    numOf (getVar (startEvaluating 60 "READ X".toList s).final "X".toList)))

/-- … and the hypotheses of the probe theorems for the edit `5 REM` -/
def midCheck3 (s : St Toy) :=
  (numOf (getVar s "I".toList), (alGet "FNA".toList s.arrays).isNone, firstNum (afterEdit s 5 [.remark []]).lines.dataChunks)

/-- the three together, so that the session is run once -/
def midOk (s : St Toy) : Bool :=
  decide ((midCheck1 s).1 = (.idle, 0, some (110, 1), 1)) &&
  decide ((midCheck1 s).2 = (["I".toList], ["FNA".toList], some (0, 1))) &&
  decide (midCheck2 s = ((none, none, none), (some (.print "42\n".toList), some 6))) &&
  decide (midCheck3 s = (some 1, true, some 5))

theorem midRun_ok : (runP (F := Toy) 60 midRun {}).any midOk = true := by
  unfold midRun midOk midCheck2 midCheck3
  simp only [runP_eq, Fast.start_eq]
  literal_chars
  decide +kernel

theorem errOf_err {α : Type} {r : Res Toy α} {x : Err} (h : ∃ σ' e, r = .err e σ' ∧ e.err = x ∧ σ'.state = .idle) :
    errOf r = some x := by
  obtain ⟨σ', e, hr, he, _⟩ := h
  rw [hr]
  exact congrArg some he

/-- **Non-vacuity.**  A state a host really reaches (protocol respected): stopped by STOP at line 110,
    inside the GOSUB of line 40, inside the FOR of line 30, having read one of the two DATA items, with
    FNA defined.  Before the edit all five probes succeed (RETURN returns, CONT continues, NEXT I loops,
    FNA(1) is the function value 42, READ X reads the SECOND item 6); the hypotheses of the probe
    theorems hold for it, so after entering the line `5 REM` they answer RETURN WITHOUT GOSUB, CAN'T
    CONTINUE, NEXT WITHOUT FOR, `0` (an array cell) and the FIRST item 5. -/
theorem probes_nonvacuous : ∃ s : St Toy, ReachableP 60 s ∧
    (s.state = .idle ∧ s.nesting = 0 ∧ s.bp = some (110, 1) ∧ s.stack.length = 1 ∧
      s.loops.map (·.sym) = ["I".toList] ∧ s.fns.map (·.1) = ["FNA".toList] ∧
      s.data.map (fun d => (d.ci, d.ii)) = some (0, 1)) ∧
    (errOf (startEvaluating 60 "RETURN".toList s) = none ∧ errOf (startEvaluating 60 "CONT".toList s) = none ∧
      errOf (startEvaluating 60 "NEXT I".toList s) = none ∧
      (startEvaluating 60 "PRINT FNA(1)".toList s).final.out.head? = some (.print "42\n".toList) ∧
      getVar (startEvaluating 60 "READ X".toList s).final "X".toList = .num (6 : Int)) ∧
    startEvaluating 60 "5 REM".toList s = .ok () (afterEdit s 5 [.remark []]) ∧
    (errOf (startEvaluating 60 "RETURN".toList (afterEdit s 5 [.remark []])) = some .returnWithoutGosub ∧
      errOf (startEvaluating 60 "CONT".toList (afterEdit s 5 [.remark []])) = some .cannotContinue ∧
      errOf (startEvaluating 60 "NEXT I".toList (afterEdit s 5 [.remark []])) = some .nextWithoutFor ∧
      (∃ σ', startEvaluating 60 "PRINT FNA(1)".toList (afterEdit s 5 [.remark []]) = .ok () σ' ∧
        σ'.out.head? = some (.print "0\n".toList) ∧ σ'.state = .idle) ∧
      (∃ σ', startEvaluating 60 "READ X".toList (afterEdit s 5 [.remark []]) = .ok () σ' ∧
        getVar σ' "X".toList = .num (5 : Int) ∧ σ'.state = .idle)) := by
  obtain ⟨s, hr, hs⟩ := (Option.any_eq_true _ _).1 midRun_ok
  simp only [midOk, Bool.and_eq_true, decide_eq_true_eq, midCheck1, midCheck2, midCheck3, Prod.mk.injEq] at hs
  obtain ⟨⟨⟨⟨hidle, hnest, hbp, hstack⟩, hloops, hfns, hdata⟩, ⟨o1, o2, o3⟩, o4, o5⟩, hI, hA, hD⟩ := hs
  have hI' := numOf_some hI
  have hA' : alGet "FNA".toList s.arrays = none := by simpa using hA
  obtain ⟨l, items, rest, hD'⟩ := firstNum_some hD
  refine ⟨s, runP_reachable 60 _ _ _ .init hr, ⟨hidle, hnest, hbp, hstack, hloops, hfns, hdata⟩,
    ⟨o1, o2, o3, o4, numOf_some o5⟩, ?_, ?_, ?_, ?_, ?_, ?_⟩
  · exact edit_result 60 _ s 5 1 _ hidle (by decide) (by decide) (by rfl)
  · exact errOf_err (return_after_edit_host 60 s 5 _ hidle)
  · exact errOf_err (cont_after_edit_host 60 s 5 _ hidle)
  · exact errOf_err (next_after_edit_host 60 s 5 _ (1 : Int) hidle hI')
  · obtain ⟨σ', h, hout, _, _, _, _, hst⟩ :=
      fn_after_edit_host 60 s 5 [.remark []] (1 : Int) (by rfl) (by rfl) (by rfl) hA' hidle hnest (by decide)
    exact ⟨σ', h, by rw [hout]; rfl, hst⟩
  · obtain ⟨σ', h, hx, _, _, hst⟩ := read_after_edit_host 60 s 5 [.remark []] l (5 : Int) items rest hidle hD'
    exact ⟨σ', h, hx, hst⟩

end Abasic.Props.C11
