import Abasic.Props.C07
import Abasic.Props.C10
import Abasic.Proofs.InspectLemmas
import Abasic.Props.C07Let
import Abasic.Proofs.NumberedInv
import Abasic.Proofs.HostFast
/-
  C07 (continued).  In every state of a run started by RUN the cursor, every
  return address and every FOR loop start is in a numbered line (or the run has
  ended), and no breakpoint is pending (`run_numbered`); hence the hypothesis
  `numbered` of `break_cont_run_transparent` holds throughout such a run
  (`break_cont_transparent_run`).  What expressions and PRINT leave alone
  (`expr_frame`, `print_frame`; `inspect_pure` is in Props/C07Inspect.lean).
  Assignment at a STOP, inside subroutines and FOR loops (`assign_at_stop_sub`)
  and outside them (`assign_at_stop`).
-/
namespace Abasic.Props.C07
open Abasic Abasic.Proofs.NumInv

variable {F : Type} [NumOps F]

/-- every stack frame's return line and every loop's line is numbered -/
def Numbered (σ : St F) : Prop := numbered σ

/-- the run has ended (END, the end of the program, an error) or is stopped at a
    breakpoint (STOP, break-in): the cursor is on the emptied immediate line and
    the interpreter is idle -/
def Ended (σ : St F) : Prop := σ.loc.line = none ∧ σ.imm = [] ∧ σ.state = .idle

def RunInv (σ : St F) : Prop :=
  Numbered σ ∧ ((σ.loc.line.isSome = true ∧ σ.bp = none) ∨ Ended σ)

def NumberedAt (σ : St F) : Prop :=
  Numbered σ ∧ (σ.loc.line.isSome = true ∨ Ended σ)

omit [NumOps F] in
theorem runInv_iff (σ : St F) : RunInv σ ↔ G True σ := by
  unfold RunInv Numbered numbered Ended G Live Dead StackNum LoopsNum
  constructor
  · rintro ⟨⟨h1, h2⟩, (⟨h3, h4⟩ | ⟨h3, h4, h5⟩)⟩
    · exact Or.inl ⟨h3, fun _ => h4, h1, h2⟩
    · exact Or.inr ⟨⟨h3, h4, h1, h2⟩, h5⟩
  · rintro (⟨h3, h4, h1, h2⟩ | ⟨⟨h3, h4, h1, h2⟩, h5⟩)
    · exact ⟨⟨h1, h2⟩, Or.inl ⟨h3, h4 trivial⟩⟩
    · exact ⟨⟨h1, h2⟩, Or.inr ⟨h3, h4, h5⟩⟩

omit [NumOps F] in
theorem numberedAt_iff (σ : St F) : NumberedAt σ ↔ G False σ := by
  unfold NumberedAt Numbered numbered Ended G Live Dead StackNum LoopsNum
  constructor
  · rintro ⟨⟨h1, h2⟩, (h3 | ⟨h3, h4, h5⟩)⟩
    · exact Or.inl ⟨h3, fun h => h.elim, h1, h2⟩
    · exact Or.inr ⟨⟨h3, h4, h1, h2⟩, h5⟩
  · rintro (⟨h3, _, h1, h2⟩ | ⟨⟨h3, h4, h1, h2⟩, h5⟩)
    · exact ⟨⟨h1, h2⟩, Or.inl h3⟩
    · exact ⟨⟨h1, h2⟩, Or.inr ⟨h3, h4, h5⟩⟩

omit [NumOps F] in
theorem RunInv.numberedAt {σ : St F} (h : RunInv σ) : NumberedAt σ :=
  ⟨h.1, h.2.elim (fun x => Or.inl x.1) Or.inr⟩

/-- `numbered_preserved` with no assumption on the breakpoint -/
theorem numbered_preserved_at (fuel : Nat) (σ : St F) (h : NumberedAt σ) :
    NumberedAt (continueEvaluating fuel σ).final ∧ ∀ text, NumberedAt (provideInput text σ).final :=
  ⟨(numberedAt_iff _).2 (g_continueEvaluating fuel σ ((numberedAt_iff _).1 h)),
   fun text => (numberedAt_iff _).2 (g_provideInput text σ ((numberedAt_iff _).1 h))⟩

theorem numbered_cont (fuel : Nat) (σ : St F) (h : Numbered σ) (hloc : σ.loc.line.isSome = true) :
    Numbered (continueEvaluating fuel σ).final ∧ ∀ text, Numbered (provideInput text σ).final :=
  ⟨(numbered_preserved_at fuel σ ⟨h, Or.inl hloc⟩).1.1,
   fun text => ((numbered_preserved_at fuel σ ⟨h, Or.inl hloc⟩).2 text).1⟩

theorem run_reset_numbered (σ : St F) :
    (C10.resetForRun (σ.setImmediate [])).stack = [] ∧ (C10.resetForRun (σ.setImmediate [])).loops = [] ∧
    Numbered (C10.resetForRun (σ.setImmediate [])) := by
  have h := runFromFirst_empty ({ σ.setImmediate [] with input := none, vars := [], arrays := [] } : St F)
  refine ⟨h.1, h.2, ?_⟩
  unfold Numbered numbered C10.resetForRun
  rw [h.1, h.2]
  exact ⟨rfl, rfl⟩

/-- `numbered_after_run` for any spelling of the RUN command -/
theorem numbered_after_run' (fuel : Nat) (line : Str) (σ : St F) (hidle : σ.state = .idle)
    (hrun : (commandWord line).bind Command.ofWord = some .run) :
    RunInv (startEvaluating fuel line σ).final :=
  (runInv_iff _).2 (g_run fuel line σ hidle hrun)

/-- **numbered_after_run.**  After the RUN turn of an idle interpreter — reset,
    then the first statement — the run invariant holds, whether the turn
    succeeded or failed. -/
theorem numbered_after_run (fuel : Nat) (σ : St F) (hidle : σ.state = .idle) :
    RunInv (startEvaluating fuel "RUN".toList σ).final :=
  numbered_after_run' fuel _ σ hidle word_run

/-- **numbered_preserved.**  `continue_evaluating` and `provide_input` keep the
    run invariant (on the success and on the error path): a GOSUB, function
    call or FOR executed at a numbered location pushes a numbered location,
    RETURN / NEXT / the end of a function call only go to stored — numbered —
    locations, and END / STOP / the end of the program leave the interpreter
    idle on the emptied immediate line. -/
theorem numbered_preserved (fuel : Nat) (σ : St F) (h : RunInv σ) :
    RunInv (continueEvaluating fuel σ).final ∧ ∀ text, RunInv (provideInput text σ).final :=
  ⟨(runInv_iff _).2 (g_continueEvaluating fuel σ ((runInv_iff _).1 h)),
   fun text => (runInv_iff _).2 (g_provideInput text σ ((runInv_iff _).1 h))⟩

theorem g_break {κ : Prop} (σ : St F) (h : G κ σ) : G κ (breakAtCurrentLocation σ).final := by
  refine Or.inr ⟨dead_progBreak (κ := κ) _ ?_, rfl⟩
  exact (g_j h).elim (fun x => Or.inl x) (fun x => Or.inr x)

/-- with a breakpoint pending the cursor goes back into the numbered line it was
    taken from; without one the command fails and the interpreter stays idle -/
theorem g_contCommand {κ : Prop} (fuel : Nat) (line : Str) (σ : St F)
    (hcmd : (commandWord line).bind Command.ofWord = some .cont) (h : G κ σ) :
    G κ (startEvaluating fuel line σ).final := by
  have hj := g_j h
  have hsn : StackNum σ := hj.elim (fun x => x.2.2.1) (fun x => x.2.2.1)
  have hln : LoopsNum σ := hj.elim (fun x => x.2.2.2) (fun x => x.2.2.2)
  unfold startEvaluating
  apply g_postprocess
  by_cases hidle : σ.state = .idle
  · cases hb : σ.bp with
    | some b =>
      obtain ⟨n, i⟩ := b
      rw [cont_command fuel line σ n i hidle hb hcmd]
      refine post_bind (rns_post fuel _ (Or.inl ⟨rfl, fun _ => rfl, hsn, hln⟩)) fun _ s hs => hs
    | none =>
      rw [cont_refused fuel line hidle hb hcmd]
      exact Or.inr (dead_setImmediate (κ := κ) _ (Or.inr (dead_setImmediate _ hj)))
  · rw [C01.evaluateImpl_not_idle fuel line hidle]
    exact hj

/-- the turns a host makes while a program runs -/
inductive Turn where
  | cont
  | reply (text : Str)
  | brk
  | contCmd

def Turn.run (fuel : Nat) : Turn → M F Unit
  | .cont => continueEvaluating fuel
  | .reply text => provideInput text
  | .brk => breakAtCurrentLocation
  | .contCmd => startEvaluating fuel "CONT".toList

/-- the state after a sequence of turns (whether each returned `Ok` or `Err`) -/
def afterTurns (fuel : Nat) (ts : List Turn) (σ : St F) : St F :=
  ts.foldl (fun s t => (t.run fuel s).final) σ

theorem runInv_afterTurns (fuel : Nat) (ts : List Turn) (σ : St F) (h : RunInv σ) :
    RunInv (afterTurns fuel ts σ) := by
  induction ts generalizing σ with
  | nil => exact h
  | cons t ts ih =>
    refine ih _ ?_
    cases t with
    | cont => exact (numbered_preserved fuel σ h).1
    | reply text => exact (numbered_preserved fuel σ h).2 text
    | brk => exact (runInv_iff _).2 (g_break σ ((runInv_iff _).1 h))
    | contCmd => exact (runInv_iff _).2 (g_contCommand fuel _ σ cont_word ((runInv_iff _).1 h))

/-- **run_numbered.**  Every state reached from RUN by any number of
    `continue_evaluating` / `provide_input` turns — and break-ins and CONT
    commands — in any order, succeeding or failing, has numbered return
    addresses and loops, and a numbered cursor with no breakpoint pending — or
    the run has ended / is stopped at a breakpoint (idle on the emptied
    immediate line). -/
theorem run_numbered (fuel : Nat) (σ₀ : St F) (hidle : σ₀.state = .idle) (ts : List Turn) :
    RunInv (afterTurns fuel ts (startEvaluating fuel "RUN".toList σ₀).final) :=
  runInv_afterTurns fuel ts _ (numbered_after_run fuel σ₀ hidle)

omit [NumOps F] in
theorem runInv_running (σ : St F) (h : RunInv σ) (hrun : σ.state = .running) :
    ∃ n i, σ.loc = { line := some n, idx := i } ∧ σ.bp = none ∧ numbered σ := by
  obtain ⟨hn, (⟨hl, hb⟩ | ⟨_, _, hi⟩)⟩ := h
  · cases hloc : σ.loc with
    | mk line idx =>
      rw [hloc] at hl
      cases line with
      | none => cases hl
      | some n => exact ⟨n, idx, rfl, hb, hn⟩
  · rw [hrun] at hi; cases hi

/-- **break_cont_transparent_run.**  In a run started by RUN the hypotheses of
    `break_cont_run_transparent` hold at every turn boundary: if the
    interpreter is still running then it is at a numbered location `(n, i)`
    with no breakpoint pending, and breaking in + CONT followed by `k` further
    turns has the same outcome as continuing undisturbed for the same number of
    turns — same result, same final state except the immediate line and the
    single BREAK record in the output queue. -/
theorem break_cont_transparent_run (fuel : Nat) (σ₀ : St F) (hidle : σ₀.state = .idle)
    (ts : List Turn) (k : Nat) :
    let σ := afterTurns fuel ts (startEvaluating fuel "RUN".toList σ₀).final
    σ.state = .running →
    ∃ n i, σ.loc = { line := some n, idx := i } ∧ σ.bp = none ∧
      sameModOut σ.out [.brk (some n)]
        ((do continueEvaluating fuel; contTurns fuel k) σ)
        ((do (do breakAtCurrentLocation; startEvaluating fuel "CONT".toList); contTurns fuel k) σ) := by
  intro σ hrun
  obtain ⟨n, i, hloc, hbp, hnum⟩ := runInv_running σ (run_numbered fuel σ₀ hidle ts) hrun
  exact ⟨n, i, hloc, hbp, break_cont_run_transparent fuel k σ n i hrun hloc hbp hnum⟩

/-- The same for the single interrupted turn. -/
theorem break_cont_transparent_run_turn (fuel : Nat) (σ₀ : St F) (hidle : σ₀.state = .idle)
    (ts : List Turn) :
    let σ := afterTurns fuel ts (startEvaluating fuel "RUN".toList σ₀).final
    σ.state = .running →
    ∃ n i, σ.loc = { line := some n, idx := i } ∧ σ.bp = none ∧
      sameModOut σ.out [.brk (some n)]
        (continueEvaluating fuel σ)
        ((do breakAtCurrentLocation; startEvaluating fuel "CONT".toList) σ) := by
  intro σ hrun
  obtain ⟨n, i, hloc, hbp, hnum⟩ := runInv_running σ (run_numbered fuel σ₀ hidle ts) hrun
  exact ⟨n, i, hloc, hbp, break_cont_transparent fuel σ n i hrun hloc hbp hnum⟩

/-- Non-vacuity: `10 FOR I = 0 TO 0 : :` — after the RUN turn the interpreter
    is still running, inside the loop. -/
example :
    let σ₀ : St Unit := { lines := { map := [(10, [.kw .For, .symbol ['I'], .kw .Equals, .num (), .kw .To, .num (),
                                                   .kw .Colon, .kw .Colon])], sorted := [10] } }
    σ₀.state = .idle ∧ (startEvaluating 5 "RUN".toList σ₀).final.state = .running ∧
      (startEvaluating 5 "RUN".toList σ₀).final.loops.length = 1 := by
  decide +kernel

section inspect
open Abasic.Proofs.XF Abasic.Proofs.Inspect Abasic.Hoare

/-- **expr_frame.**  Every expression evaluation — at every fuel, succeeding or
    failing, with user function calls, RND and array reads — leaves program
    lines, immediate line, the cursor's line, breakpoint, stack, loops, data
    cursor, functions, variables, pending reply, interpreter state and flags
    as they were, and changes the array table only by adding default arrays
    under new names (`RX`, Abasic/Proofs/ExprFrame.lean). -/
theorem expr_frame (n : Nat) (σ : St F) : RX σ ((evalN n).expr σ).final :=
  (rx_evalN_expr n).final σ

/-- **fn_call_err_restores_stack.**  A user function call that fails — in the
    argument list, at the stack cap, or inside the function body at any depth
    — leaves the GOSUB / function stack exactly as it found it, and the cursor
    in the line it was in (fix 61a7d08: the frame is popped on the error
    path). -/
theorem fn_call_err_restores_stack (n : Nat) (name : Str) (σ σ' : St F) (e : TErr)
    (h : userFunctionCall (evalN n) name σ = .err e σ') :
    σ'.stack = σ.stack ∧ σ'.loc.line = σ.loc.line := by
  have hr := (fr_userFunctionCall (R := RX) (evalN n) (rx_evalN_expr n) name).final σ
  rw [h] at hr
  exact ⟨hr.stack, hr.line⟩

/-- … the same for the call proper (frame pushed, body evaluated, frame
    popped): when the body fails the pushed frame is gone. -/
theorem fn_call_body_err_pops (n : Nat) (name : Str) (b : List (Str × Value F)) (σ σ' : St F) (e : TErr)
    (h : callBody (evalN n) name b σ = .err e σ') :
    σ'.stack = σ.stack ∧ σ'.loc.line = σ.loc.line := by
  have hr := (rx_callBody (evalN n) name b (rx_evalN_expr n)).final σ
  rw [h] at hr
  exact ⟨hr.stack, hr.line⟩

theorem fn_call_ok_restores_stack (n : Nat) (name : Str) (σ σ' : St F) (v : Option (Value F))
    (h : userFunctionCall (evalN n) name σ = .ok v σ') :
    σ'.stack = σ.stack ∧ σ'.loc.line = σ.loc.line := by
  have hr := (fr_userFunctionCall (R := RX) (evalN n) (rx_evalN_expr n) name).final σ
  rw [h] at hr
  exact ⟨hr.stack, hr.line⟩

theorem print_frame (n : Nat) (σ : St F) : RX σ (printStatement (evalN n) σ).final :=
  (rx_printStatement _ (rx_evalN_expr n)).final σ

/-- what the interrupted program can observe of an inspection (`IFrame`):
    breakpoint, stack, loops, data cursor, functions, variables and program
    lines unchanged; every array that existed unchanged, every new array a
    default array created by a read of an undeclared name -/
abbrev InspectFrame (σ σ' : St F) : Prop := IFrame σ σ'

/-- The array clause cannot be strengthened to "arrays unchanged": `PRINT A(0)`
    at a breakpoint, `A` undeclared, leaves the default array `A` behind. -/
theorem inspect_print_creates_array :
    let σ : St Unit := { bp := some (10, 1),
                         imm := [.kw .Print, .symbol ['A'], .kw .LeftParen, .num (), .kw .RightParen] }
    alHas ['A'] σ.arrays = false ∧
    alHas ['A'] (stmtBody (evalN 5) σ).final.arrays = true := by
  decide +kernel

/-- Non-vacuity of `inspect_pure`: the line `PRINT "A" : ? X` at a breakpoint. -/
example : ∃ ts : List (Token Unit),
    (commandWord "PRINT \"A\" : ? X".toList).bind Command.ofWord = none ∧
    parseLineNumber "PRINT \"A\" : ? X".toList = none ∧
    tokenize (F := Unit) "PRINT \"A\" : ? X".toList 0 = .ok ts ∧ PrintLine ts := by
  refine ⟨[.kw .Print, .str ['A'], .kw .Colon, .kw .QuestionMark, .symbol ['X']],
    by rw [Fast.ofWord_eq]; decide +kernel, by decide +kernel, by rw [Fast.tokenize_eq, String.toList_ofList]; rfl, ?_, ?_⟩
  · intro t ht
    simp only [List.getElem?_cons_zero, Option.some.injEq] at ht
    exact Or.inl ht.symm
  · intro p hp t ht
    rcases p with _ | _ | _ | _ | _ | p
    · simp at hp
    · simp at hp
    · simp at ht
      exact Or.inr (Or.inl ht.symm)
    · simp at hp
    · simp at hp
    · simp at hp

end inspect

section assign
open Abasic.Ref Abasic.ExprL Abasic.StmtL

omit [NumOps F] in
theorem at_of_line {σ : St F} {n : Nat} {pre post : List (Token F)} (L : Lines F)
    (hline : L.get n = some (pre ++ post)) (hloc : σ.loc = { line := some n, idx := pre.length }) :
    At ({ σ with lines := L } : St F) pre post := by
  refine ⟨?_, by show σ.loc.idx = _; rw [hloc]⟩
  unfold lineToks
  show (match σ.loc.line with | none => _ | some n => L.get n) = _
  rw [hloc]
  exact hline

theorem stop_stmt (fuel n : Nat) (σ : St F) (pre rest : List (Token F))
    (hAt : At σ pre (.kw .Stop :: rest)) (hline : σ.loc.line = some n) (htr : σ.tracing = false) :
    stmtBody (evalN fuel) σ = .ok ()
      { σ with state := .idle, out := .brk (some n) :: σ.out, bp := some (n, pre.length + 1),
               imm := [], loc := {}, reads := σ.reads + 1 } := by
  unfold stmtBody
  rw [bind_ok (traceHere_off htr)]
  unfold dispatch
  rw [bind_ok (next_eq hAt)]
  show breakAtCurrentLocation _ = _
  simp [breakAtCurrentLocation, M.modify, St.progBreak, St.setImmediate, mv, hline, hAt.2]

omit [NumOps F] in
/-- a stack of GOSUB frames is what a program without user-function calls in
    progress has -/
theorem findInStack_gosub (stack : List (Frame F)) (h : ∀ f ∈ stack, f.vars = []) (sym : Str) :
    findInStack sym stack = none := by
  induction stack with
  | nil => rfl
  | cons f rest ih =>
    have hf : f.vars = [] := h f (List.mem_cons_self ..)
    simp only [findInStack, hf, alGet]
    exact ih (fun g hg => h g (List.mem_cons_of_mem _ hg))

/-- **assign_at_stop_sub.**  `assign_at_stop` (below) for a STOP inside a
    subroutine and / or a FOR loop: the GOSUB stack `σ.stack` and the loop stack
    `σ.loops` are arbitrary, provided no frame on the stack binds a variable
    (true of GOSUB frames, `findInStack_gosub`; a frame of a user-function call
    in progress would shadow variables).  The GOSUB stack is kept by the break:
    a breakpoint is pending when the immediate line is installed and when it is
    reset. -/
theorem assign_at_stop_sub (x : Str) (e : Expr F) (fuel n : Nat) (σ : St F) (pre rest : List (Token F))
    (L' : Lines F)
    (hline : σ.lines.get n = some (pre ++ .kw .Stop :: rest))
    (hline' : L'.get n = some (pre ++ renderS (.letS x e) ++ rest))
    (hloc : σ.loc = { line := some n, idx := pre.length })
    (hbp : σ.bp = none) (himm : σ.imm = [])
    (hq : ∀ sym, findInStack sym σ.stack = none)
    (hw : σ.warnings = false) (htr : σ.tracing = false)
    (hnest : σ.nesting + sdepth (.letS x e) ≤ Extracted.nestingLimit) (hfuel : sdepth (.letS x e) ≤ fuel)
    (hrest : StmtEnd rest)
    (v : Value F) (hv : foldE (envOf σ.vars) e = .ok v) (hm : v.matchesName x = true) :
    ∃ σ₁ σ₂ σ₃ σB k₁ k₂,
      stmtBody (evalN fuel) σ = .ok () σ₁ ∧
      (do setImmediate (renderS (.letS x e)); stmtBody (evalN fuel)) σ₁ = .ok () σ₂ ∧
      continueFromBreakpoint σ₂ = .ok () σ₃ ∧
      stmtBody (evalN fuel) { σ with lines := L' } = .ok () σB ∧
      σ₃ = { σ with vars := alSet x v σ.vars, loc := { line := some n, idx := pre.length + 1 },
                    out := .brk (some n) :: σ.out, state := .idle, reads := k₁ } ∧
      σB = { σ with lines := L', vars := alSet x v σ.vars,
                    loc := { line := some n, idx := pre.length + (renderS (.letS x e)).length }, reads := k₂ } := by
  have hAt : At σ pre (.kw .Stop :: rest) := at_of_line σ.lines hline hloc
  have h1 := stop_stmt fuel n σ pre rest hAt (by rw [hloc]) htr
  let σ₁ : St F := { σ with state := .idle, out := .brk (some n) :: σ.out, bp := some (n, pre.length + 1),
                            imm := [], loc := {}, reads := σ.reads + 1 }
  let σ₁' : St F := σ₁.setImmediate (renderS (.letS x e))
  have hAt1 : At σ₁' [] (renderS (.letS x e) ++ []) := ⟨by rw [List.append_nil]; rfl, rfl⟩
  obtain ⟨k₁, _, h2⟩ := (let_refines_sub x e fuel σ₁' [] [] hAt1 hq hw htr hnest hfuel
    (fun t ht => by simp at ht)).1 v hv hm
  have hAt2 : At ({ σ with lines := L' } : St F) pre (renderS (.letS x e) ++ rest) :=
    at_of_line L' (by rw [← List.append_assoc]; exact hline') hloc
  obtain ⟨k₂, _, h3⟩ := (let_refines_sub x e fuel _ pre rest hAt2 hq hw htr hnest hfuel hrest).1 v hv hm
  let σ₂ : St F := { σ₁' with vars := alSet x v σ₁'.vars,
                              loc := { σ₁'.loc with idx := ([] : List (Token F)).length + (renderS (.letS x e)).length },
                              reads := k₁ }
  let σ₃ : St F := { σ₂ with imm := [], loc := { line := some n, idx := pre.length + 1 }, bp := none }
  refine ⟨σ₁, σ₂, σ₃, _, k₁, k₂, h1, h2, cont_restores σ₂ n (pre.length + 1) ?_, h3, ?_, ?_⟩
  · simp [σ₂, σ₁', σ₁, St.setImmediate]
  · simp [σ₃, σ₂, σ₁', σ₁, St.setImmediate, himm, hbp]
  · simp [hloc]

/-- … in particular inside subroutines: every frame on the stack is a GOSUB
    frame (`vars = []`, as `gosubLine` pushes them) -/
theorem assign_at_stop_gosub (x : Str) (e : Expr F) (fuel n : Nat) (σ : St F) (pre rest : List (Token F))
    (L' : Lines F)
    (hline : σ.lines.get n = some (pre ++ .kw .Stop :: rest))
    (hline' : L'.get n = some (pre ++ renderS (.letS x e) ++ rest))
    (hloc : σ.loc = { line := some n, idx := pre.length })
    (hbp : σ.bp = none) (himm : σ.imm = [])
    (hstack : ∀ f ∈ σ.stack, f.vars = [])
    (hw : σ.warnings = false) (htr : σ.tracing = false)
    (hnest : σ.nesting + sdepth (.letS x e) ≤ Extracted.nestingLimit) (hfuel : sdepth (.letS x e) ≤ fuel)
    (hrest : StmtEnd rest)
    (v : Value F) (hv : foldE (envOf σ.vars) e = .ok v) (hm : v.matchesName x = true) :
    ∃ σ₁ σ₂ σ₃ σB k₁ k₂,
      stmtBody (evalN fuel) σ = .ok () σ₁ ∧
      (do setImmediate (renderS (.letS x e)); stmtBody (evalN fuel)) σ₁ = .ok () σ₂ ∧
      continueFromBreakpoint σ₂ = .ok () σ₃ ∧
      stmtBody (evalN fuel) { σ with lines := L' } = .ok () σB ∧
      σ₃ = { σ with vars := alSet x v σ.vars, loc := { line := some n, idx := pre.length + 1 },
                    out := .brk (some n) :: σ.out, state := .idle, reads := k₁ } ∧
      σB = { σ with lines := L', vars := alSet x v σ.vars,
                    loc := { line := some n, idx := pre.length + (renderS (.letS x e)).length }, reads := k₂ } :=
  assign_at_stop_sub x e fuel n σ pre rest L' hline hline' hloc hbp himm (findInStack_gosub σ.stack hstack)
    hw htr hnest hfuel hrest v hv hm

/-- … and when the assignment fails, it fails with the same error at the
    breakpoint and in place (any stack without variable bindings, any loops). -/
theorem assign_at_stop_sub_error (x : Str) (e : Expr F) (fuel n : Nat) (σ : St F) (pre rest : List (Token F))
    (L' : Lines F)
    (hline : σ.lines.get n = some (pre ++ .kw .Stop :: rest))
    (hline' : L'.get n = some (pre ++ renderS (.letS x e) ++ rest))
    (hloc : σ.loc = { line := some n, idx := pre.length })
    (hq : ∀ sym, findInStack sym σ.stack = none)
    (hw : σ.warnings = false) (htr : σ.tracing = false)
    (hnest : σ.nesting + sdepth (.letS x e) ≤ Extracted.nestingLimit) (hfuel : sdepth (.letS x e) ≤ fuel)
    (hrest : StmtEnd rest)
    (err : Err)
    (hv : foldE (envOf σ.vars) e = .error err ∨
      (err = .typeMismatch ∧ ∃ v, foldE (envOf σ.vars) e = .ok v ∧ v.matchesName x = false)) :
    ∃ σ₁ σ₂ σB,
      stmtBody (evalN fuel) σ = .ok () σ₁ ∧
      (do setImmediate (renderS (.letS x e)); stmtBody (evalN fuel)) σ₁ = .err { err := err } σ₂ ∧
      stmtBody (evalN fuel) { σ with lines := L' } = .err { err := err } σB := by
  have hAt : At σ pre (.kw .Stop :: rest) := at_of_line σ.lines hline hloc
  have h1 := stop_stmt fuel n σ pre rest hAt (by rw [hloc]) htr
  let σ₁ : St F := { σ with state := .idle, out := .brk (some n) :: σ.out, bp := some (n, pre.length + 1),
                            imm := [], loc := {}, reads := σ.reads + 1 }
  let σ₁' : St F := σ₁.setImmediate (renderS (.letS x e))
  have hAt1 : At σ₁' [] (renderS (.letS x e) ++ []) := ⟨by rw [List.append_nil]; rfl, rfl⟩
  have hAt2 : At ({ σ with lines := L' } : St F) pre (renderS (.letS x e) ++ rest) :=
    at_of_line L' (by rw [← List.append_assoc]; exact hline') hloc
  have hA := let_refines_sub x e fuel σ₁' [] [] hAt1 hq hw htr hnest hfuel (fun t ht => by simp at ht)
  have hB := let_refines_sub x e fuel _ pre rest hAt2 hq hw htr hnest hfuel hrest
  rcases hv with hv | ⟨rfl, v, hv, hm⟩
  · obtain ⟨s2, h2, _⟩ := hA.2.2 err hv
    obtain ⟨s3, h3, _⟩ := hB.2.2 err hv
    exact ⟨σ₁, s2, s3, h1, h2, h3⟩
  · obtain ⟨s2, h2, _⟩ := hA.2.1 v hv hm
    obtain ⟨s3, h3, _⟩ := hB.2.1 v hv hm
    exact ⟨σ₁, s2, s3, h1, h2, h3⟩

/-- **assign_at_stop** (statement level).  A program stopped by a STOP that
    stands at `pre` in line `n`; at the breakpoint the user enters `LET x = e`
    (the tokens `renderS (.letS x e)` are made the immediate line and one
    statement is executed); then CONT restores the cursor
    (`continueFromBreakpoint`; by `cont_command` the CONT turn is
    `runNextStatement` from the state it yields).  Compared with one activation
    of the statement evaluator on the program `L'` that has `LET x = e` in
    place of the STOP: when the right-hand side has the value `v` of the kind
    `x` asks for, both end with `x` set to `v` and every other variable, the
    arrays, the (empty) stack, loops, functions, data cursor, generator,
    pending reply and flags as they were; the cursor is just behind the STOP
    in the one and just behind the LET in the other.  The stopped-and-continued
    run differs in: the BREAK record in `out`, `state` (idle until the CONT
    turn sets it running), the read counter; the emptied immediate line is the
    same in both (the running program had none).

    Hypotheses: those of `let_refines` (the refinement layer covers expressions
    over numbers, strings, variables, operators, ABS, INT evaluated outside
    subroutines with warnings and tracing off), no breakpoint pending, and the
    program had an empty immediate line. -/
theorem assign_at_stop (x : Str) (e : Expr F) (fuel n : Nat) (σ : St F) (pre rest : List (Token F))
    (L' : Lines F)
    (hline : σ.lines.get n = some (pre ++ .kw .Stop :: rest))
    (hline' : L'.get n = some (pre ++ renderS (.letS x e) ++ rest))
    (hloc : σ.loc = { line := some n, idx := pre.length })
    (hbp : σ.bp = none) (himm : σ.imm = []) (hstack : σ.stack = [])
    (hw : σ.warnings = false) (htr : σ.tracing = false)
    (hnest : σ.nesting + sdepth (.letS x e) ≤ Extracted.nestingLimit) (hfuel : sdepth (.letS x e) ≤ fuel)
    (hrest : StmtEnd rest)
    (v : Value F) (hv : foldE (envOf σ.vars) e = .ok v) (hm : v.matchesName x = true) :
    ∃ σ₁ σ₂ σ₃ σB k₁ k₂,
      stmtBody (evalN fuel) σ = .ok () σ₁ ∧
      (do setImmediate (renderS (.letS x e)); stmtBody (evalN fuel)) σ₁ = .ok () σ₂ ∧
      continueFromBreakpoint σ₂ = .ok () σ₃ ∧
      stmtBody (evalN fuel) { σ with lines := L' } = .ok () σB ∧
      σ₃ = { σ with vars := alSet x v σ.vars, loc := { line := some n, idx := pre.length + 1 },
                    out := .brk (some n) :: σ.out, state := .idle, reads := k₁ } ∧
      σB = { σ with lines := L', vars := alSet x v σ.vars,
                    loc := { line := some n, idx := pre.length + (renderS (.letS x e)).length }, reads := k₂ } :=
  assign_at_stop_sub x e fuel n σ pre rest L' hline hline' hloc hbp himm (fun _ => by rw [hstack]; rfl)
    hw htr hnest hfuel hrest v hv hm

/-- … and when the assignment fails (the right-hand side has a value of the
    wrong kind, or its evaluation fails with `err`), it fails with the same
    error at the breakpoint and in place. -/
theorem assign_at_stop_error (x : Str) (e : Expr F) (fuel n : Nat) (σ : St F) (pre rest : List (Token F))
    (L' : Lines F)
    (hline : σ.lines.get n = some (pre ++ .kw .Stop :: rest))
    (hline' : L'.get n = some (pre ++ renderS (.letS x e) ++ rest))
    (hloc : σ.loc = { line := some n, idx := pre.length })
    (hstack : σ.stack = [])
    (hw : σ.warnings = false) (htr : σ.tracing = false)
    (hnest : σ.nesting + sdepth (.letS x e) ≤ Extracted.nestingLimit) (hfuel : sdepth (.letS x e) ≤ fuel)
    (hrest : StmtEnd rest)
    (err : Err)
    (hv : foldE (envOf σ.vars) e = .error err ∨
      (err = .typeMismatch ∧ ∃ v, foldE (envOf σ.vars) e = .ok v ∧ v.matchesName x = false)) :
    ∃ σ₁ σ₂ σB,
      stmtBody (evalN fuel) σ = .ok () σ₁ ∧
      (do setImmediate (renderS (.letS x e)); stmtBody (evalN fuel)) σ₁ = .err { err := err } σ₂ ∧
      stmtBody (evalN fuel) { σ with lines := L' } = .err { err := err } σB :=
  assign_at_stop_sub_error x e fuel n σ pre rest L' hline hline' hloc (fun _ => by rw [hstack]; rfl)
    hw htr hnest hfuel hrest err hv

/-- **assign_at_stop_sub_turns.**  `assign_at_stop_turns` (below) inside
    subroutines / loops. -/
theorem assign_at_stop_sub_turns (x : Str) (e : Expr F) (fuel n : Nat) (σ : St F) (pre rest : List (Token F))
    (L' : Lines F) (line : Str)
    (hline : σ.lines.get n = some (pre ++ .kw .Stop :: rest))
    (hline' : L'.get n = some (pre ++ renderS (.letS x e) ++ rest))
    (hloc : σ.loc = { line := some n, idx := pre.length })
    (hrun : σ.state = .running)
    (hbp : σ.bp = none) (himm : σ.imm = [])
    (hq : ∀ sym, findInStack sym σ.stack = none)
    (hw : σ.warnings = false) (htr : σ.tracing = false)
    (hnest : σ.nesting + sdepth (.letS x e) ≤ Extracted.nestingLimit) (hfuel : sdepth (.letS x e) ≤ fuel)
    (hrest : StmtEnd rest)
    (hcmd : (commandWord line).bind Command.ofWord = none)
    (hnum : parseLineNumber line = none)
    (htok : tokenize (F := F) line 0 = .ok (renderS (.letS x e)))
    (v : Value F) (hv : foldE (envOf σ.vars) e = .ok v) (hm : v.matchesName x = true) :
    ∃ σ₁ σ₂ σ₃ σB k₁ k₂,
      continueEvaluating fuel σ = .ok () σ₁ ∧ σ₁.state = .idle ∧
      startEvaluating fuel line σ₁ = .ok () σ₂ ∧ σ₂.state = .idle ∧
      startEvaluating fuel "CONT".toList σ₂ = postprocess (do runNextStatement fuel; pure ()) σ₃ ∧
      stmtBody (evalN fuel) { σ with lines := L' } = .ok () σB ∧
      σ₃ = { σ with vars := alSet x v σ.vars, loc := { line := some n, idx := pre.length + 1 },
                    out := .brk (some n) :: σ.out, state := .idle, reads := k₁ } ∧
      σB = { σ with lines := L', vars := alSet x v σ.vars,
                    loc := { line := some n, idx := pre.length + (renderS (.letS x e)).length }, reads := k₂ } := by
  -- turn 1: the STOP
  have hlt : lineToks σ = some (pre ++ .kw .Stop :: rest) := (at_of_line σ.lines hline hloc).1
  have hidx : (pre ++ Token.kw (F := F) .Stop :: rest)[σ.loc.idx]? = some (.kw .Stop) := by
    rw [hloc]; simp
  let σ0 : St F := C17.turnStart σ
  have hAt0 : At σ0 pre (.kw .Stop :: rest) := ⟨hlt, by show σ.loc.idx = _; rw [hloc]⟩
  have hstop := stop_stmt fuel n σ0 pre rest hAt0 (by show σ.loc.line = _; rw [hloc]) htr
  let s1 : St F := { σ0 with state := .idle, out := .brk (some n) :: σ0.out, bp := some (n, pre.length + 1),
                             imm := [], loc := {}, reads := σ0.reads + 1 }
  let σ₁ : St F := { ({ s1 with reads := s1.reads + 1 } : St F).setImmediate [] with state := .idle }
  have hT1 : continueEvaluating fuel σ = .ok () σ₁ := by
    rw [C01.continueEvaluating_running fuel hrun]
    refine C01.postprocess_of_ok ?_
    rw [Turn.turn_tok fuel hlt hidx, bind_ok hstop, Turn.sequence_eq (σ := s1) (ts := []) rfl,
      Turn.lineEndSt_imm (s := s1) rfl rfl]
  -- turn 2: the immediate LET
  obtain ⟨kw, tl, hts⟩ := renderS_head (.letS x e)
  let σi' : St F := Turn.typed σ₁ (renderS (.letS x e))
  have hAti : At σi' [] (renderS (.letS x e) ++ []) := ⟨by rw [List.append_nil]; rfl, rfl⟩
  obtain ⟨k₁, _, h2⟩ := (let_refines_sub x e fuel σi' [] [] hAti hq hw htr hnest hfuel
    (fun t ht => by simp at ht)).1 v hv hm
  let s2 : St F := { σi' with vars := alSet x v σi'.vars,
                              loc := { σi'.loc with idx := ([] : List (Token F)).length + (renderS (.letS x e)).length },
                              reads := k₁ }
  let σ₂ : St F := { ({ s2 with reads := s2.reads + 1 } : St F).setImmediate [] with state := .idle }
  have hT2 : startEvaluating fuel line σ₁ = .ok () σ₂ := by
    rw [hts] at htok
    refine Turn.start_typed_ok fuel line rfl hcmd hnum htok (by rw [← hts]; exact h2) rfl ?_
    show (renderS (.letS x e))[([] : List (Token F)).length + (renderS (.letS x e)).length]? = none
    simp
  -- turn 3: CONT
  have hbp2 : σ₂.bp = some (n, pre.length + 1) := rfl
  have hT3 := cont_command fuel "CONT".toList σ₂ n (pre.length + 1) rfl hbp2 cont_word
  let σ₃ : St F := { σ₂ with imm := [], loc := { line := some n, idx := pre.length + 1 }, bp := none }
  -- in place
  have hAt2 : At ({ σ with lines := L' } : St F) pre (renderS (.letS x e) ++ rest) :=
    at_of_line L' (by rw [← List.append_assoc]; exact hline') hloc
  obtain ⟨k₂, _, h3⟩ := (let_refines_sub x e fuel _ pre rest hAt2 hq hw htr hnest hfuel hrest).1 v hv hm
  refine ⟨σ₁, σ₂, σ₃, _, k₁ + 1, k₂, hT1, rfl, hT2, rfl, ?_, h3, ?_, ?_⟩
  · unfold startEvaluating postprocess
    rw [hT3]
  · simp [σ₃, σ₂, s2, σi', Turn.typed, C17.turnStart, σ₁, s1, σ0, St.setImmediate, himm, hbp]
  · simp [hloc]

/-- Non-vacuity of `assign_at_stop_gosub`: inside a subroutine and a FOR loop. -/
example : let σ : St Unit := { loc := { line := some 10, idx := 3 }, state := .running,
                               stack := [{ ret := { line := some 5, idx := 1 }, vars := [] }],
                               loops := [{ loc := { line := some 7, idx := 6 }, sym := ['I'], toV := (), stepV := () }] }
    σ.bp = none ∧ σ.imm = [] ∧ (∀ f ∈ σ.stack, f.vars = []) ∧ σ.stack ≠ [] ∧ σ.loops ≠ [] := by
  refine ⟨rfl, rfl, ?_, ?_, ?_⟩
  · intro f hf
    rcases List.mem_singleton.1 hf with rfl
    rfl
  · exact fun h => by cases h
  · exact fun h => by cases h

/-- **assign_at_stop_turns.**  The same comparison with the three host calls
    spelled out: the turn that executes the STOP (`continue_evaluating`), the
    immediate line `line` — any text that is not a command, has no line number
    and tokenises to `LET x = e` — entered at the idle prompt
    (`start_evaluating`), and `CONT` (`start_evaluating`), which is
    `run_next_statement` from `σ₃`.  `σ₃` and the state `σB` behind the LET in
    the program that has the LET in place of the STOP are as in
    `assign_at_stop`. -/
theorem assign_at_stop_turns (x : Str) (e : Expr F) (fuel n : Nat) (σ : St F) (pre rest : List (Token F))
    (L' : Lines F) (line : Str)
    (hline : σ.lines.get n = some (pre ++ .kw .Stop :: rest))
    (hline' : L'.get n = some (pre ++ renderS (.letS x e) ++ rest))
    (hloc : σ.loc = { line := some n, idx := pre.length })
    (hrun : σ.state = .running)
    (hbp : σ.bp = none) (himm : σ.imm = []) (hstack : σ.stack = [])
    (hw : σ.warnings = false) (htr : σ.tracing = false)
    (hnest : σ.nesting + sdepth (.letS x e) ≤ Extracted.nestingLimit) (hfuel : sdepth (.letS x e) ≤ fuel)
    (hrest : StmtEnd rest)
    (hcmd : (commandWord line).bind Command.ofWord = none)
    (hnum : parseLineNumber line = none)
    (htok : tokenize (F := F) line 0 = .ok (renderS (.letS x e)))
    (v : Value F) (hv : foldE (envOf σ.vars) e = .ok v) (hm : v.matchesName x = true) :
    ∃ σ₁ σ₂ σ₃ σB k₁ k₂,
      continueEvaluating fuel σ = .ok () σ₁ ∧ σ₁.state = .idle ∧
      startEvaluating fuel line σ₁ = .ok () σ₂ ∧ σ₂.state = .idle ∧
      startEvaluating fuel "CONT".toList σ₂ = postprocess (do runNextStatement fuel; pure ()) σ₃ ∧
      stmtBody (evalN fuel) { σ with lines := L' } = .ok () σB ∧
      σ₃ = { σ with vars := alSet x v σ.vars, loc := { line := some n, idx := pre.length + 1 },
                    out := .brk (some n) :: σ.out, state := .idle, reads := k₁ } ∧
      σB = { σ with lines := L', vars := alSet x v σ.vars,
                    loc := { line := some n, idx := pre.length + (renderS (.letS x e)).length }, reads := k₂ } :=
  assign_at_stop_sub_turns x e fuel n σ pre rest L' line hline hline' hloc hrun hbp himm (fun _ => by rw [hstack]; rfl)
    hw htr hnest hfuel hrest hcmd hnum htok v hv hm

end assign

end Abasic.Props.C07
