import Abasic.Analyzer
/-
  C06 — the analyzer is a fork of the evaluator: both forks have, in the Rust
  source, the same operator tiers in the same order and dispatch
  statements on the same tokens; and the model's two walkers use exactly those.

  `Extracted.anaChain`, `anaUnary`, `evalStmtKws`, `anaStmtKws` … are regenerated
  on every run by tools/extract.py from expression.rs, expression_analyzer.rs,
  statement.rs and statement_analyzer.rs.  A statement or operator added to one
  fork only stops these theorems from checking.
-/
namespace Abasic.Props.C06
open Abasic

variable {F : Type} [NumOps F]

theorem source_same_tiers : Extracted.anaChain = Extracted.evalChain ∧ Extracted.anaUnary = Extracted.evalUnary := by
  decide

theorem source_same_dispatch :
    (∀ k, k ∈ Extracted.evalStmtKws ↔ k ∈ Extracted.anaStmtKws) ∧ Extracted.evalStmtOther = Extracted.anaStmtOther := by
  refine ⟨fun k => ?_, by decide⟩
  cases k <;> decide

/-- the same tiers as the model's evaluator, and hence, by `C02.tiers_from_source`, as the source -/
theorem model_analyzer_tiers (ev : AEvals F) :
    aOrExpr ev =
      aLevel (aLevel (aLevel (aLevel (aLevel (aLevel (aUnary ev) powOps .arith) mulOps .arith) addOps .arith) cmpOps .cmp) andOps .logic) orOps .logic :=
  rfl

theorem dispatch_unknown_kw (ev : Evals F) (k : Kw) (hk : k ∉ Extracted.evalStmtKws) (σ σ' : St F)
    (h : next σ = .ok (some (.kw k)) σ') :
    dispatch ev σ = .err { err := .syntax .unexpectedToken } σ' := by
  unfold dispatch
  simp only [bind, M.bindM, h]
  cases k <;> first | (exact absurd (by decide) hk) | rfl

theorem aStmt_unknown_kw (ev : AEvals F) (k : Kw) (hk : k ∉ Extracted.anaStmtKws) (σ σ' : St F)
    (h : next σ = .ok (some (.kw k)) σ') :
    aStmtBody ev σ = .err { err := .syntax .unexpectedToken } σ' := by
  unfold aStmtBody
  simp only [bind, M.bindM, h]
  cases k <;> first | (exact absurd (by decide) hk) | rfl

theorem dispatch_literal (ev : Evals F) (aev : AEvals F) (σ σ' : St F) (t : Token F)
    (ht : (∃ s, t = .str s) ∨ (∃ x, t = .num x)) (h : next σ = .ok (some t) σ') :
    dispatch ev σ = .err { err := .syntax .unexpectedToken } σ' ∧
    aStmtBody aev σ = .err { err := .syntax .unexpectedToken } σ' := by
  rcases ht with ⟨s, rfl⟩ | ⟨x, rfl⟩ <;> (constructor <;> (first | unfold dispatch | unfold aStmtBody) <;> simp only [bind, M.bindM, h] <;> rfl)

end Abasic.Props.C06
