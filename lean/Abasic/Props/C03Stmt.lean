import Abasic.Props.C02More
import Abasic.Proofs.StmtLemmas
import Abasic.Props.C07Let
/-
  C03, statement level: the statement evaluator of Stmt.lean refines the
  reference semantics of Abasic/Ref/Stmt.lean.

  For a statement tree `s` (LET, PRINT, GOTO, END, IF … THEN … [ELSE …]) whose
  rendering `renderS s` stands on the current line at the cursor, one activation
  `stmtBody (evalN n)` of the real statement evaluator does what the reference
  step `RStmt.exec σ.vars s` says: the same variables afterwards, the same PRINT
  records appended to the output queue, and the control outcome

    next      cursor just behind the statement
    skipLine  cursor at the end of the line
    jump m    cursor at the start of line m (breakpoint cleared), or
              UNDEFINED STATEMENT when there is no line m
    stop      immediate line emptied, cursor on it (what END does)
    error x   the run fails with x (no location attached)

  and nothing else in the state changes except the read counter (`Refines`,
  Abasic/Proofs/StmtSteps.lean).

  Hypotheses (`SReady`; they document what this layer does not cover): the line
  is `pre ++ renderS s ++ rest` with the cursor at `|pre|`; `rest` is empty or
  begins with `:` (after a statement that is not an IF it may also begin with
  ELSE); no GOSUB / function frames and warnings off (a variable is read from
  `vars`); tracing off; `sdepth s` levels of room under the nesting cap and in
  the fuel; the statement is `Covered` (see Ref/Stmt.lean: separated PRINT
  lists, GOTO targets that survive `ofNat`/`toU64`, and IF trees whose rendering
  has a single reading — `dangling_else` below shows the restriction is needed).
  IF needs in addition that no stored line begins with ELSE (`NoElseLine`),
  because after `THEN GOTO m` the evaluator looks for an ELSE at the new cursor.
-/
namespace Abasic.Props.C03
open Abasic Abasic.Ref Abasic.ExprL Abasic.StmtL

variable {F : Type} [NumOps F]

structure SReady (σ : St F) (pre : List (Token F)) (s : RStmt F) (rest : List (Token F)) (n : Nat) : Prop where
  toks : tokens σ = .ok (pre ++ renderS s ++ rest) σ
  idx : σ.loc.idx = pre.length
  stack : σ.stack = []
  warnings : σ.warnings = false
  tracing : σ.tracing = false
  nesting : σ.nesting + sdepth s ≤ Extracted.nestingLimit
  fuel : sdepth s ≤ n
  covered : s.Covered
  ends : EndFor s rest

theorem SReady.quiet {σ : St F} {pre rest : List (Token F)} {s : RStmt F} {n : Nat}
    (h : SReady σ pre s rest n) : Quiet σ := ⟨h.stack, h.warnings⟩

/-- One activation of the statement evaluator on the rendering of a covered
    statement realises the reference step. -/
theorem stmt_refines (s : RStmt F) (n : Nat) (σ : St F) (pre rest : List (Token F))
    (h : SReady σ pre s rest n) (hNE : NoElseLine σ) :
    Refines (stmtBody (evalN n) σ) σ (pre.length + (renderS s).length)
      (pre ++ (renderS s ++ rest)).length (RStmt.exec σ.vars s) :=
  stmt_run s n σ pre rest (.of_tokens h.toks h.idx) h.quiet h.tracing hNE h.fuel h.nesting h.covered h.ends

/-- LET.  With `foldE` the value of the right-hand side under the current
    variables: a value of the kind the name asks for is stored with `alSet` and
    the cursor ends just behind the statement; a value of the other kind is a
    TYPE MISMATCH; an error of the expression is the error of the statement. -/
theorem let_refines (x : Str) (e : Expr F) (n : Nat) (σ : St F) (pre rest : List (Token F))
    (h : SReady σ pre (.letS x e) rest n) :
    (∀ v, foldE (envOf σ.vars) e = .ok v → v.matchesName x = true → ∃ k, σ.reads < k ∧
      stmtBody (evalN n) σ = .ok ()
        { σ with vars := alSet x v σ.vars,
                 loc := { σ.loc with idx := pre.length + (renderS (.letS x e)).length }, reads := k }) ∧
    (∀ v, foldE (envOf σ.vars) e = .ok v → v.matchesName x = false → ∃ σ',
      stmtBody (evalN n) σ = .err { err := .typeMismatch } σ' ∧ σ'.nesting = σ.nesting) ∧
    (∀ err, foldE (envOf σ.vars) e = .error err → ∃ σ',
      stmtBody (evalN n) σ = .err { err := err } σ' ∧ σ'.nesting = σ.nesting) :=
  C07.let_refines_sub x e n σ pre rest (.of_tokens h.toks h.idx) (fun _ => by rw [h.stack]; rfl) h.warnings h.tracing h.nesting h.fuel
    h.ends.stmtEnd

/-- PRINT.  The output queue gains exactly one record, the reference text
    `printText` of the list; or the statement fails with the error of the first
    failing expression (and then nothing is printed: the run is an `.err`). -/
theorem print_refines (items : List (PItem F)) (n : Nat) (σ : St F) (pre rest : List (Token F))
    (h : SReady σ pre (.printS items) rest n) :
    (∀ text, printText (envOf σ.vars) items false [] = .ok text → ∃ k, σ.reads < k ∧
      stmtBody (evalN n) σ = .ok ()
        { σ with out := .print text :: σ.out,
                 loc := { σ.loc with idx := pre.length + (renderS (.printS items)).length }, reads := k }) ∧
    (∀ err, printText (envOf σ.vars) items false [] = .error err → ∃ σ',
      stmtBody (evalN n) σ = .err { err := err } σ' ∧ σ'.nesting = σ.nesting) := by
  have hR := print_run items n σ pre rest 0 (.of_tokens h.toks h.idx) h.quiet h.tracing h.fuel h.nesting h.covered
    h.ends.stmtEnd
  refine ⟨fun text hp => ?_, fun err hp => ?_⟩
  · simp only [RStmt.exec, hp] at hR
    exact hR
  · simp only [RStmt.exec, hp] at hR
    exact hR

/-- GOTO.  The cursor moves to the start of line `m` and the breakpoint is
    cleared; without a line `m` the statement fails with UNDEFINED STATEMENT. -/
theorem goto_refines (m : Nat) (n : Nat) (σ : St F) (pre rest : List (Token F))
    (h : SReady σ pre (.gotoS m) rest n) :
    (σ.lines.has m = true → ∃ k, σ.reads < k ∧
      stmtBody (evalN n) σ = .ok ()
        { σ with bp := none, loc := { line := some m, idx := 0 }, reads := k }) ∧
    (σ.lines.has m = false → ∃ σ',
      stmtBody (evalN n) σ = .err { err := .undefinedStatement } σ' ∧ σ'.nesting = σ.nesting) :=
  goto_run m n σ pre rest 0 0 (.of_tokens h.toks h.idx) h.tracing h.covered

/-- END.  The immediate line is emptied and the cursor put on it. -/
theorem end_refines (n : Nat) (σ : St F) (pre rest : List (Token F))
    (h : SReady σ pre .endS rest n) :
    ∃ k, σ.reads < k ∧ stmtBody (evalN n) σ = .ok () { σ with imm := [], loc := {}, reads := k } :=
  end_run n σ pre rest 0 0 (.of_tokens h.toks h.idx) h.tracing h.stack

theorem exec_if_error (vars : List (Str × Value F)) (c : Expr F) (t : RStmt F) (el : Option (RStmt F)) (x : Err)
    (hc : foldE (envOf vars) c = .error x) :
    RStmt.exec vars (.ifS c t el) = { vars := vars, out := [], ctl := .error x } := by
  cases el <;> simp only [RStmt.exec, hc]

theorem exec_if_true_else (vars : List (Str × Value F)) (c : Expr F) (t e : RStmt F) (v : Value F)
    (hc : foldE (envOf vars) c = .ok v) (hb : v.toBool = true) :
    RStmt.exec vars (.ifS c t (some e)) = (RStmt.exec vars t).closeLine := by
  simp only [RStmt.exec, hc, hb, ↓reduceIte]

theorem exec_if_false_else (vars : List (Str × Value F)) (c : Expr F) (t e : RStmt F) (v : Value F)
    (hc : foldE (envOf vars) c = .ok v) (hb : v.toBool = false) :
    RStmt.exec vars (.ifS c t (some e)) = RStmt.exec vars e := by
  simp only [RStmt.exec, hc, hb, Bool.false_eq_true, ↓reduceIte]

theorem exec_if_true (vars : List (Str × Value F)) (c : Expr F) (t : RStmt F) (v : Value F)
    (hc : foldE (envOf vars) c = .ok v) (hb : v.toBool = true) :
    RStmt.exec vars (.ifS c t none) = RStmt.exec vars t := by
  simp only [RStmt.exec, hc, hb, ↓reduceIte]

theorem exec_if_false (vars : List (Str × Value F)) (c : Expr F) (t : RStmt F) (v : Value F)
    (hc : foldE (envOf vars) c = .ok v) (hb : v.toBool = false) :
    RStmt.exec vars (.ifS c t none) = { vars := vars, out := [], ctl := .skipLine } := by
  simp only [RStmt.exec, hc, hb, Bool.false_eq_true, ↓reduceIte]

/-- IF (partial: the `Covered` trees — under IF without ELSE the THEN branch
    contains no ELSE, under IF with ELSE the THEN branch is not an IF; see
    `dangling_else`).  The model evaluates the condition, takes its truth value
    and behaves as the reference step of the selected branch; in front of an
    ELSE a completed THEN branch abandons the rest of the line, and a false
    condition without ELSE abandons the line as well. -/
theorem if_refines_partial (c : Expr F) (t : RStmt F) (el : Option (RStmt F)) (n : Nat) (σ : St F)
    (pre rest : List (Token F)) (h : SReady σ pre (.ifS c t el) rest n) (hNE : NoElseLine σ) :
    Refines (stmtBody (evalN n) σ) σ (pre.length + (renderS (.ifS c t el)).length)
      (pre ++ (renderS (.ifS c t el) ++ rest)).length (RStmt.exec σ.vars (.ifS c t el)) :=
  stmt_refines _ n σ pre rest h hNE

/-! ### non-vacuity -/

theorem sready_immediate (s : RStmt F) (rest : List (Token F)) (vars : List (Str × Value F)) (n : Nat)
    (hd : sdepth s ≤ Extracted.nestingLimit) (hn : sdepth s ≤ n) (hcov : s.Covered) (hrest : EndFor s rest) :
    SReady ({ imm := [] ++ renderS s ++ rest, vars := vars } : St F) [] s rest n where
  toks := rfl
  idx := rfl
  stack := rfl
  warnings := rfl
  tracing := rfl
  nesting := by show 0 + sdepth s ≤ _; omega
  fuel := hn
  covered := hcov
  ends := hrest

omit [NumOps F] in
theorem noElseLine_of_no_lines (σ : St F) (h : σ.lines.map = []) : NoElseLine σ := by
  intro n ts hg
  simp [Lines.get, h, Lines.getMap] at hg

/-- `IF "A" THEN PRINT "X"; ELSE LET A$ = "B"` -/
def demoStmt : RStmt F :=
  .ifS (.str ['A']) (.printS [.expr (.str ['X']), .semi]) (some (.letS ['A', '$'] (.str ['B'])))

/-- `IF "A" THEN PRINT "X"; ELSE LET A$ = "B" : END` -/
def demoLine : List (Token F) :=
  [.kw .If, .str ['A'], .kw .Then, .kw .Print, .str ['X'], .kw .Semicolon, .kw .Else,
   .kw .Let, .symbol ['A', '$'], .kw .Equals, .str ['B'], .kw .Colon, .kw .End]

theorem demoStmt_render : renderS (demoStmt : RStmt F) =
    [.kw .If, .str ['A'], .kw .Then, .kw .Print, .str ['X'], .kw .Semicolon, .kw .Else,
     .kw .Let, .symbol ['A', '$'], .kw .Equals, .str ['B']] := by
  simp [demoStmt, renderS, renderItems, PItem.render, render_str]

theorem demoLine_eq : (demoLine : List (Token F)) = [] ++ renderS demoStmt ++ [.kw .Colon, .kw .End] := by
  simp [demoLine, demoStmt_render]

/-- End to end on the real statement evaluator with the default fuel: on the
    immediate line `IF "A" THEN PRINT "X"; ELSE LET A$ = "B" : END` one activation
    prints `X` (no newline), leaves the variables alone and abandons the rest of
    the line (cursor at 13 = end of line), as the reference step says. -/
example : ∃ k, stmtBody (evalN defaultFuel) ({ imm := demoLine } : St F) =
    .ok () { imm := demoLine, out := [.print ['X']], loc := { idx := 13 }, reads := k } := by
  have hS : SReady ({ imm := [] ++ renderS demoStmt ++ [.kw .Colon, .kw .End], vars := [] } : St F) []
      demoStmt [.kw .Colon, .kw .End] defaultFuel :=
    sready_immediate demoStmt _ [] defaultFuel
      (by simp [demoStmt, sdepth, itemsDepth, depth, Extracted.nestingLimit])
      (by simp [demoStmt, sdepth, itemsDepth, depth, defaultFuel, Extracted.nestingLimit])
      (by simp [demoStmt, RStmt.Covered, RStmt.simple, separated])
      (Or.inl (fun t ht => by simp at ht; exact ht.symm))
  have h := stmt_refines demoStmt defaultFuel _ [] _ hS (noElseLine_of_no_lines _ rfl)
  have hr : RStmt.exec ([] : List (Str × Value F)) demoStmt = { vars := [], out := [['X']], ctl := .skipLine } := by
    simp [demoStmt, RStmt.exec, foldE, Value.toBool, printText, valueText, RResult.closeLine]
  rw [show ({ imm := [] ++ renderS demoStmt ++ [.kw .Colon, .kw .End], vars := [] } : St F).vars = [] from rfl,
    hr] at h
  obtain ⟨k, _, hk⟩ := h
  rw [← demoLine_eq] at hk
  refine ⟨k, ?_⟩
  rw [hk]
  simp [outRecs, demoStmt_render]

/-- LET, end to end: `LET A$ = "B"` on a fresh interpreter stores the value. -/
example : ∃ k, stmtBody (evalN defaultFuel)
      ({ imm := [.kw .Let, .symbol ['A', '$'], .kw .Equals, .str ['B']] } : St F) =
    .ok () { imm := [.kw .Let, .symbol ['A', '$'], .kw .Equals, .str ['B']],
             vars := [(['A', '$'], .str ['B'])], loc := { idx := 4 }, reads := k } := by
  have hS : SReady ({ imm := [] ++ renderS (.letS ['A', '$'] (.str ['B'])) ++ [], vars := [] } : St F) []
      (.letS ['A', '$'] (.str ['B'])) [] defaultFuel :=
    sready_immediate _ _ [] defaultFuel
      (by simp [sdepth, depth, Extracted.nestingLimit])
      (by simp [sdepth, depth, defaultFuel, Extracted.nestingLimit])
      (by simp [RStmt.Covered])
      (Or.inl (fun t ht => by simp at ht))
  obtain ⟨k, _, hk⟩ := (let_refines _ _ _ _ _ _ hS).1 (.str ['B']) (by simp [foldE])
    (by simp [Value.matchesName, endsWithDollar])
  refine ⟨k, ?_⟩
  have hl : ([] ++ renderS (.letS ['A', '$'] (.str ['B'] : Expr F)) ++ [] : List (Token F)) =
      [.kw .Let, .symbol ['A', '$'], .kw .Equals, .str ['B']] := by
    simp [renderS, render_str]
  rw [hl] at hk
  rw [hk]
  simp [alSet, renderS, render_str]

/-! ### the restriction on IF trees is needed -/

/-- `IF "" THEN IF "A" THEN PRINT "X" ELSE PRINT "Y"` read as
    `IF "" THEN (IF "A" THEN PRINT "X" ELSE PRINT "Y")` — not `Covered`. -/
def danglingTree : RStmt F :=
  .ifS (.str []) (.ifS (.str ['A']) (.printS [.expr (.str ['X'])]) (some (.printS [.expr (.str ['Y'])]))) none

def printed {α : Type} : Res F α → List Out
  | .ok _ s => s.out
  | .err _ s => s.out

/-- **Counterexample to the unrestricted IF statement (the dangling ELSE).**
    For the tree above the reference step prints nothing (the outer condition is
    false), while the statement evaluator, run on its rendering, prints `Y`:
    a false condition skips to the first ELSE on the line, whichever IF it was
    written for.  Hence `if_refines_partial` cannot hold for all trees. -/
theorem dangling_else :
    (RStmt.exec ([] : List (Str × Value Unit)) danglingTree).out = [] ∧
    renderS (danglingTree : RStmt Unit) =
      [.kw .If, .str [], .kw .Then, .kw .If, .str ['A'], .kw .Then, .kw .Print, .str ['X'],
       .kw .Else, .kw .Print, .str ['Y']] ∧
    printed (stmtBody (evalN defaultFuel)
      ({ imm := [.kw .If, .str [], .kw .Then, .kw .If, .str ['A'], .kw .Then, .kw .Print, .str ['X'],
                 .kw .Else, .kw .Print, .str ['Y']] } : St Unit)) = [.print ['Y', '\n']] := by
  refine ⟨?_, ?_, ?_⟩
  · simp [danglingTree, RStmt.exec, foldE, Value.toBool]
  · simp [danglingTree, renderS, renderItems, PItem.render, render_str]
  · decide +kernel

end Abasic.Props.C03
