import Abasic.Proofs.TokenizerRel
/-
  C12 — spacing and letter case outside literal text never change meaning.

  `Ins w r r'` says: `r'` is `r` with at most one extra character `w` inserted
  somewhere.  A matcher *respects* insertions of a blank when, run on related
  inputs, it gives the same token (or both fail) and related rests.  Proved
  here for the blank-skipping primitive (`respects_ins`; for letter case
  `respects_caseEq`); for the keyword matcher and the keyword table
  (`chomp_keyword`, `chomp_any_keyword`) and the operator matcher it follows by
  the lifting of Proofs/TokenizerRel.lean (`chompKeyword_rel`, …).  Also here:
  the main loop does not see a leading blank (`tokLoop_leading_blank`).
  Continued in C12More.lean (whole lines: a line whose tokens are all
  keywords / numbers / identifiers tokenizes to the same tokens with blanks
  inserted or removed anywhere), C12Case.lean (the same for letter case),
  C12Fuel.lean (fuel is never the limit; the iff form), C12Prot.lean (lines that
  also contain string / REM / DATA tokens, where the edit must avoid the
  protected text; blanks around DATA items) and C12Close.lean (blanks in a DATA
  payload on whole lines).
-/
namespace Abasic.Props.C12
open Abasic

/-- `r'` is `r` with at most one `w` inserted. -/
inductive Ins (w : Char) : Str → Str → Prop
  | same (r : Str) : Ins w r r
  | here (r : Str) : Ins w r (w :: r)
  | cons (c : Char) {r r' : Str} : Ins w r r' → Ins w (c :: r) (c :: r')

theorem Ins.at (w : Char) : ∀ (l : Str) (m : Nat), Ins w l (l.take m ++ w :: l.drop m)
  | l, 0 => Ins.here l
  | [], _ + 1 => Ins.here []
  | c :: l, m + 1 => Ins.cons c (Ins.at w l m)

def InsRes {α : Type} (w : Char) : Option (α × Str) → Option (α × Str) → Prop
  | none, none => True
  | some (a, r), some (a', r') => a = a' ∧ Ins w r r'
  | _, _ => False

theorem skipWs_ins (w : Char) (hw : isBasicWs w = true) {r r' : Str} (h : Ins w r r') :
    Ins w (skipWs r) (skipWs r') := by
  induction h with
  | same r => exact Ins.same _
  | here r => rw [skipWs_blank w r hw]; exact Ins.same _
  | cons c h ih =>
    simp only [skipWs]
    split
    · exact ih
    · exact Ins.cons c h

theorem skipWs_ins_cases (w : Char) (hw : isBasicWs w = true) {r r' : Str} (h : Ins w r r') :
    (skipWs r = [] ∧ skipWs r' = []) ∨
    (∃ c t t', skipWs r = c :: t ∧ skipWs r' = c :: t' ∧ Ins w t t') := by
  have hs := skipWs_ins w hw h
  generalize ha : skipWs r = a at hs
  generalize hb : skipWs r' = b at hs
  cases hs with
  | same =>
    cases a with
    | nil => exact Or.inl ⟨rfl, rfl⟩
    | cons c t => exact Or.inr ⟨c, t, t, rfl, rfl, Ins.same _⟩
  | here =>
    -- impossible: the result of `skipWs` never starts with a blank
    rw [C13.skipWs_nonblank r' w a hb] at hw
    cases hw
  | cons c hrest => exact Or.inr ⟨c, _, _, rfl, rfl, hrest⟩

/-- An inserted blank is invisible to the matchers. -/
theorem respects_ins (w : Char) (hw : isBasicWs w = true) : Respects (Ins w) := ⟨fun h =>
  ⟨skipWs_ins w hw h, (skipWs_ins_cases w hw h).imp id
    fun ⟨c, t, t', h1, h2, h3⟩ => ⟨c, c, t, t', h1, h2, rfl, h3⟩⟩⟩

def InsOpt (w : Char) : Option Str → Option Str → Prop
  | none, none => True
  | some t, some t' => Ins w t t'
  | _, _ => False

theorem InsOpt.of_rel {w : Char} {a b : Option Str} : Option.Rel (Ins w) a b → InsOpt w a b
  | .none => trivial
  | .some h => h

theorem InsRes.of_rel {α : Type} {w : Char} {a b : Option (α × Str)} : ResRel (Ins w) a b → InsRes w a b
  | .none => trivial
  | .some h => h

/-- `chomp_keyword` respects inserted blanks, wherever they are. -/
theorem chompKeyword_ins (w : Char) (hw : isBasicWs w = true) (kw : Str) {r r' : Str} (h : Ins w r r') :
    InsOpt w (chompKeyword kw r) (chompKeyword kw r') :=
  .of_rel (chompKeyword_rel (respects_ins w hw) kw h)

theorem chompKeywordTable_ins (w : Char) (hw : isBasicWs w = true) (tbl : List (String × Kw)) {r r' : Str}
    (h : Ins w r r') : InsRes w (chompKeywordTable tbl r) (chompKeywordTable tbl r') :=
  .of_rel (chompKeywordTable_rel (respects_ins w hw) tbl h)

/-- `chomp_any_keyword` respects inserted blanks: `G O T O` is `GOTO`. -/
theorem chompAnyKeyword_ins (w : Char) (hw : isBasicWs w = true) {r r' : Str} (h : Ins w r r') :
    InsRes w (chompAnyKeyword r) (chompAnyKeyword r') :=
  chompKeywordTable_ins w hw _ h

/-- `chomp_one_or_two_characters` respects inserted blanks: `< =` is `<=`. -/
theorem chompOneOrTwo_ins (w : Char) (hw : isBasicWs w = true) {r r' : Str} (h : Ins w r r') :
    InsRes w (chompOneOrTwo r) (chompOneOrTwo r') :=
  .of_rel (chompOneOrTwo_rel (respects_ins w hw) h)

/-- Two texts that differ only in the case of ASCII letters. -/
inductive CaseEq : Str → Str → Prop
  | nil : CaseEq [] []
  | cons {c d : Char} {r r' : Str} : asciiUpper c = asciiUpper d → isBasicWs c = isBasicWs d →
      CaseEq r r' → CaseEq (c :: r) (d :: r')

def CaseEqOpt : Option Str → Option Str → Prop
  | none, none => True
  | some t, some t' => CaseEq t t'
  | _, _ => False

theorem skipWs_caseEq {r r' : Str} (h : CaseEq r r') : CaseEq (skipWs r) (skipWs r') := by
  induction h with
  | nil => exact CaseEq.nil
  | cons h1 h2 h3 ih =>
    simp only [skipWs, h2]
    split
    · exact ih
    · exact CaseEq.cons h1 h2 h3

theorem skipWs_caseEq_cases {r r' : Str} (h : CaseEq r r') :
    (skipWs r = [] ∧ skipWs r' = []) ∨
    (∃ c d t t', skipWs r = c :: t ∧ skipWs r' = d :: t' ∧ asciiUpper c = asciiUpper d ∧ CaseEq t t') := by
  have hs := skipWs_caseEq h
  generalize skipWs r = a at hs
  generalize skipWs r' = b at hs
  cases hs with
  | nil => exact Or.inl ⟨rfl, rfl⟩
  | cons h1 _ h3 => exact Or.inr ⟨_, _, _, _, rfl, rfl, h1, h3⟩

/-- Letter case is invisible to the matchers. -/
theorem respects_caseEq : Respects CaseEq := ⟨fun h => ⟨skipWs_caseEq h, skipWs_caseEq_cases h⟩⟩

theorem CaseEqOpt.of_rel {a b : Option Str} : Option.Rel CaseEq a b → CaseEqOpt a b
  | .none => trivial
  | .some h => h

/-- Letter case: the keyword matcher only ever looks at `asciiUpper c`, so
    `print`, `Print` and `PRINT` match alike, and what is left is again equal up to case. -/
theorem chompKeyword_caseEq (kw : Str) {r r' : Str} (h : CaseEq r r') :
    CaseEqOpt (chompKeyword kw r) (chompKeyword kw r') :=
  .of_rel (chompKeyword_rel respects_caseEq kw h)

variable {F : Type} [NumOps F]

/-- A blank before the statement text changes no token: the main loop only sees
    what follows the blanks. -/
theorem tokLoop_leading_blank (fuel : Nat) (w : Char) (cs : Str) (idx : Nat) (acc : List (RangedToken F))
    (hw : isBasicWs w = true) :
    ((tokLoop fuel (w :: cs) idx acc).1.map (·.1), (tokLoop fuel (w :: cs) idx acc).2.isSome) =
    ((tokLoop fuel cs (idx + w.utf8Size) acc).1.map (·.1), (tokLoop fuel cs (idx + w.utf8Size) acc).2.isSome) := by
  cases fuel with
  | zero => simp [tokLoop]
  | succ fuel =>
    unfold tokLoop
    simp only [skipWs_blank w cs hw]
    obtain ⟨_, _, _, hlen, _⟩ := C13.skipWs_suffix' cs
    have : idx + (len8 (w :: cs) - len8 (skipWs cs)) = idx + w.utf8Size + (len8 cs - len8 (skipWs cs)) := by
      simp only [len8]; omega
    rw [this]

/-- Non-vacuity: `G O T O` and `goto` match the keyword GOTO like `GOTO` does. -/
example : (chompKeyword "GOTO".toList "G O T O 10".toList).isSome = true ∧
          (chompKeyword "GOTO".toList "goto10".toList).isSome = true ∧
          Ins ' ' "GOTO".toList "GO TO".toList := by
  refine ⟨by decide, by decide, ?_⟩
  exact Ins.cons 'G' (Ins.cons 'O' (Ins.here _))

end Abasic.Props.C12
