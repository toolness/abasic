import Abasic.Proofs.Stmt3Input
import Abasic.Props.C03Full
import Abasic.Props.C08More
/-
  C03 / C08 — INPUT inside the unified reference machine.

  The reference machine is Abasic/Ref/Prog3Input.lean (`RStepI`: the statements
  of Ref/Stmt3.lean and `INPUT x`, run against a list of replies), the relation
  between its states and the states of the model is `Sync`
  (Abasic/Proofs/Stmt3Input.lean).  Proved here, about the model of the real
  code: a turn on a colon stutters (whatever the statements around the colon
  are); a turn on an INPUT that has not shown its prompt leaves the interpreter
  awaiting input, the cursor ON the INPUT token — exactly the reference step
  that shows the prompt; `provide_input text` + `continue_evaluating` on an
  awaiting interpreter is exactly the reference step that takes the reply
  `text`: store and go on with the NEXT statement (`?EXTRA IGNORED` iff surplus),
  or `?REENTER` and await again; whole runs of the host loop (`runHost`) against
  runs of the reference machine with the same replies, GIVEN that the statements
  of Ref/Stmt3.lean refine on lines that also hold INPUT statements (`BaseTurns`,
  see below); across the suspension nothing but the INPUT is executed
  (`input_only_reexecutes_itself`).

  What is assumed.  `turn3_refines` (C03All.lean) is a theorem about programs
  ALL of whose lines are renderings of `RStmt3` statements (`Holds σ.lines p`
  for an `RProgram3`); a program with INPUT is not of that form, so the theorem
  does not apply to the non-INPUT turns of such a program.  Its statement for
  `RProgramI` is the hypothesis `BaseTurns` of the run theorems; it is proved
  for every program in C03InputAll.lean (`baseTurns`).  Everything about INPUT
  itself, about colons and about the sequencing behind an INPUT is proved
  here without it.

  INPUT as the THEN / ELSE branch of an IF is not part of `RStmtI` (the branches
  of `RStmt3.ifS` are `RStmt3` statements): the known finding KF-ELSE-RESUME
  lives there (`C08.then_input_else_resumes_into_else`).
-/
set_option linter.unusedSectionVars false

namespace Abasic.Props.C03
open Abasic Abasic.Ref Abasic.ExprL Abasic.ExprL2 Abasic.StmtL Abasic.ProgL Abasic.Prog3L Abasic.Prog3I
open Abasic.InputL

variable {F : Type} [NumOps F]

theorem rstepI_prompt {q : RProgramI F} {x : RStateI F} {n j : Nat} {ss : List (RStmtI F)} {t : ITarget F}
    (hpc : x.st.pc = some (n, j)) (hl : q.line n = some ss) (hs : ss[j]? = some (.input t))
    (hp : x.prompted = false) (replies : List Str) :
    RStepI q x replies = .inl ({ x with prompted := true }, replies) := by
  simp only [RStepI, hpc, hl, hs, hp, ↓reduceIte]

theorem rstepI_wait {q : RProgramI F} {x : RStateI F} {n j : Nat} {ss : List (RStmtI F)} {t : ITarget F}
    (hpc : x.st.pc = some (n, j)) (hl : q.line n = some ss) (hs : ss[j]? = some (.input t))
    (hp : x.prompted = true) : RStepI q x [] = .inl (x, []) := by
  simp only [RStepI, hpc, hl, hs, hp, Bool.true_eq_false, ↓reduceIte]

theorem rstepI_accept {q : RProgramI F} {x : RStateI F} {n j : Nat} {ss : List (RStmtI F)} {t : ITarget F}
    (hpc : x.st.pc = some (n, j)) (hl : q.line n = some ss) (hs : ss[j]? = some (.input t))
    (hp : x.prompted = true) {text : Str} {rest : List Str} {v : Value F} {extra : Bool}
    (hr : readReply (F := F) t.name text = .accept v extra) :
    RStepI q x (text :: rest) = .inl (x.accepted t.name v extra (q.resume n (j + 1)), rest) := by
  simp only [RStepI, hpc, hl, hs, hp, Bool.true_eq_false, ↓reduceIte, hr]

theorem rstepI_reenter {q : RProgramI F} {x : RStateI F} {n j : Nat} {ss : List (RStmtI F)} {t : ITarget F}
    (hpc : x.st.pc = some (n, j)) (hl : q.line n = some ss) (hs : ss[j]? = some (.input t))
    (hp : x.prompted = true) {text : Str} {rest : List Str}
    (hr : readReply (F := F) t.name text = .reenter) :
    RStepI q x (text :: rest) = .inl (x.rejected, rest) := by
  simp only [RStepI, hpc, hl, hs, hp, Bool.true_eq_false, ↓reduceIte, hr]

theorem sync_pos_iff {q : RProgramI F} {x : RStateI F} {σ : St F} {n j : Nat}
    (hpc : x.st.pc = some (n, j)) (hp : x.prompted = false) : Sync q x σ ↔ CoreI q x σ ∧ PosI q n j σ := by
  unfold Sync; rw [hpc, hp]; exact Iff.rfl

theorem sync_await_iff {q : RProgramI F} {x : RStateI F} {σ : St F} {n j : Nat}
    (hpc : x.st.pc = some (n, j)) (hp : x.prompted = true) : Sync q x σ ↔ CoreI q x σ ∧ AwaitI q n j σ := by
  unfold Sync; rw [hpc, hp]; exact Iff.rfl

theorem sync_final {q : RProgramI F} {x : RStateI F} {σ : St F} (h : Sync q x σ) (hpc : x.st.pc = none) :
    FinalI x σ := by
  unfold Sync at h; rw [hpc] at h; exact h

theorem input_at {q : RProgramI F} {σ : St F} (henv : EnvI q σ) {n j : Nat} {ss : List (RStmtI F)} {name : Str}
    (hl : q.line n = some ss) (hs : ss[j]? = some (.input (.scalar name)))
    (hloc : σ.loc = { line := some n, idx := (preToksI ss j).length }) :
    At σ (preToksI ss j) (.kw .Input :: .symbol name :: renderTailI (ss.drop (j + 1))) := by
  refine ⟨?_, by rw [hloc]⟩
  rw [SeqL.lineToks_of henv.lines.seq hl (by rw [hloc]), SeqL.line_split ss j _ hs]
  rfl

/-- what follows an INPUT statement on its line is nothing or a colon: never `(` -/
theorem tail_not_paren (ss : List (RStmtI F)) (k : Nat) :
    ∀ t, (renderTailI (ss.drop k)).head? = some t → t.isKw .LeftParen = false := by
  intro t ht
  cases hd : ss.drop k with
  | nil => rw [hd] at ht; cases ht
  | cons a rest =>
    rw [hd] at ht
    simp only [renderTailI, List.head?_cons, Option.some.injEq] at ht
    subst ht
    rfl

theorem rnsI_prompt {q : RProgramI F} {fuel : Nat} {x : RStateI F} {σ : St F} (hc : CoreI q x σ)
    {n j : Nat} {ss : List (RStmtI F)} {t : ITarget F}
    (hpc : x.st.pc = some (n, j)) (hl : q.line n = some ss) (hs : ss[j]? = some (.input t))
    (hloc : σ.loc = { line := some n, idx := (preToksI ss j).length }) :
    runNextStatement fuel σ = .ok () { σ with state := .awaitingInput, reads := σ.reads + 1 + 1 + 1 + 1 } ∧
      Sync q { x with prompted := true } ({ σ with state := .awaitingInput, reads := σ.reads + 1 + 1 + 1 + 1 } : St F) := by
  cases t with
  | scalar name =>
    have hAt := input_at hc.env hl hs hloc
    have hst := C08.input_stmt_suspend (evalN fuel) (C17.turnStart σ) _ _ (by exact hc.mem.input) ⟨hAt.1, hAt.2⟩
    rw [traceOut_off (σ := C17.turnStart σ) hc.env.tracing] at hst
    refine ⟨(rns_ok_more hAt hst (pre' := preToksI ss j) ⟨hAt.1, hAt.2⟩).trans rfl,
      (sync_await_iff (x := { x with prompted := true }) (n := n) (j := j) hpc rfl).2 ⟨?_, rfl, ss, _, hl, hs, hloc⟩⟩
    exact ⟨⟨hc.env.lines, hc.env.warnings, hc.env.tracing⟩,
      (hc.mem.pc x.st.pc true).congr rfl rfl rfl rfl rfl rfl rfl rfl rfl rfl, hc.inv, hc.nesting⟩

theorem rinv_assign {r : RState3 F} (h : RInv3 r) {name : Str} {v : Value F}
    (hm : v.matchesName name = true) (out : List Str) (pc : Option (Nat × Nat)) :
    RInv3 { r with vars := alSet name v r.vars, out := out, pc := pc } := by
  refine ⟨fun k v' hk => ?_, h.arrs, h.rng, h.rets⟩
  change alGet k (alSet name v r.vars) = some v' at hk
  by_cases hkn : k = name
  · subst hkn
    rw [C16.alGet_alSet_self] at hk
    cases hk
    exact hm
  · rw [Props.C16.alGet_alSet_ne name k v r.vars hkn] at hk
    exact h.typed k v' hk

theorem out_accept {x : RStateI F} {σ : St F} (ho : σ.out = x.output.reverse) (b : Bool) :
    ∀ (name : Str) (v : Value F) (pc : Option (Nat × Nat)),
      C08.extraOut b ++ σ.out = ((x.accepted name v b pc).output).reverse := by
  intro name v pc
  rw [ho]
  cases b <;> simp [C08.extraOut, RStateI.output, RStateI.accepted]

theorem out_reenter {x : RStateI F} {σ : St F} (ho : σ.out = x.output.reverse) :
    Out.reenter :: σ.out = (x.rejected.output).reverse := by
  rw [ho]
  simp [RStateI.output, RStateI.rejected]

/-- The reference step that takes the reply.  The INPUT, seen by the turn, is a statement that ends with `next`
    (`SeqL.turn`), and sequencing changes nothing `SeqFrame` lists. -/
theorem reply_sync {q : RProgramI F} {fuel : Nat} (hwf : q.WF) {x : RStateI F} {σ : St F} (hc : CoreI q x σ)
    (hst : σ.state = .awaitingInput) {n j : Nat} {ss : List (RStmtI F)} {name : Str}
    (hpc : x.st.pc = some (n, j)) (hl : q.line n = some ss) (hs : ss[j]? = some (.input (.scalar name)))
    (hloc : σ.loc = { line := some n, idx := (preToksI ss j).length }) (text : Str) :
    ∃ σ', (provideInput text >>= fun _ => continueEvaluating fuel) σ = .ok () σ' ∧
      match readReply (F := F) name text with
      | .accept v extra => Sync q (x.accepted name v extra (q.resume n (j + 1))) σ' ∧
          SeqFrame ({ σ with vars := alSet name v σ.vars, out := C08.extraOut extra ++ σ.out } : St F) σ'
      | .reenter => Sync q x.rejected σ' := by
  rw [C08.provide_continue fuel text σ hst, C09.continue_is_one_turn fuel _ rfl]
  have hAt : At ({ σ with input := some text, state := .running } : St F) _ _ :=
    input_at ⟨hc.env.lines, hc.env.warnings, hc.env.tracing⟩ hl hs hloc
  have hb := C08.input_stmt_reply (evalN fuel) (C17.turnStart { σ with input := some text, state := .running }) _ _
    text name rfl ⟨hAt.1, hAt.2⟩ (tail_not_paren ss (j + 1))
  rw [traceOut_off (σ := C17.turnStart { σ with input := some text, state := .running }) hc.env.tracing] at hb
  cases hr : readReply (F := F) name text with
  | accept v extra =>
    rw [hr] at hb
    obtain ⟨σ', hσ', hland⟩ := SeqL.turn (ctl := .next) (D := fun _ => False)
      (σ := { σ with input := some text, state := .running })
      (frameS q (x.accepted name v extra x.st.pc) _) hwf.seq hc.env.lines.seq hl hs hloc
      ⟨_, hb, ⟨⟨⟨⟨hc.env.lines, hc.env.warnings, hc.env.tracing⟩,
        ⟨congrArg (alSet name v) hc.mem.vars, hc.mem.arrays, hc.mem.rng, hc.mem.loops, hc.mem.stack, hc.mem.data,
          out_accept (σ := σ) hc.mem.out _ name v x.st.pc, hc.mem.fns.congr rfl rfl, hc.mem.fnLines, rfl⟩,
        rinv_assign hc.inv (C08.readReply_matches hr) [] x.st.pc, hc.nesting⟩, SeqFrame.refl _⟩, rfl⟩,
        by show σ.loc.line = _; rw [hloc], .inl (by show σ.loc.idx + 2 = _; rw [hloc]; rfl)⟩
    obtain ⟨hsync, hfr⟩ := sync_of_landsS hland
    rw [← Prog3I.resume_eq] at hsync
    exact ⟨σ', C01.postprocess_of_ok hσ', hsync,
      ⟨hfr.vars, hfr.arrays, hfr.loops, hfr.data, hfr.fns, hfr.rng, hfr.out, hfr.input.trans hc.mem.input.symm⟩⟩
  | reenter =>
    rw [hr] at hb
    refine ⟨_, C01.postprocess_of_ok (rns_ok_more hAt hb (pre' := preToksI ss j) ⟨hAt.1, hAt.2⟩),
      (sync_await_iff (x := x.rejected) (n := n) (j := j) hpc rfl).2 ⟨?_, rfl, ss, _, hl, hs, hloc⟩⟩
    exact ⟨⟨hc.env.lines, hc.env.warnings, hc.env.tracing⟩,
      ⟨hc.mem.vars, hc.mem.arrays, hc.mem.rng, hc.mem.loops, hc.mem.stack, hc.mem.data, out_reenter (σ := σ) hc.mem.out,
        hc.mem.fns.congr rfl rfl, hc.mem.fnLines, rfl⟩, ⟨hc.inv.typed, hc.inv.arrs, hc.inv.rng, hc.inv.rets⟩, hc.nesting⟩

/-- the outcome of a host call against the outcome of a reference step from `x`
    (`TurnStep3` of C03All.lean for the machine with INPUT) -/
def TurnStepI (q : RProgramI F) (x : RStateI F) (res : Res F Unit) : (RStateI F × List Str) ⊕ (Err × Nat) → Prop
  | .inl (x', _) => ∃ σ', res = .ok () σ' ∧ Sync q x' σ'
  | .inr (e, ln) => ∃ σ' l, res = .err { err := e, loc := some l } σ' ∧
      (l.line = some ln ∨ ∃ name m, alGet name x.st.fnLines = some m ∧ l.line = some m) ∧
      σ'.state = .idle ∧ σ'.out = x.output.reverse

/-- **A turn on a colon.**  With the cursor on the colon in front of the statement
    the reference machine is at (an INPUT or not), a turn moves the cursor to the
    first token of that statement and changes nothing else `Sync` sees. -/
theorem turnI_colon {q : RProgramI F} {fuel : Nat} {x : RStateI F} {σ : St F}
    (h : Sync q x σ) {n j : Nat} {ss : List (RStmtI F)} (hpc : x.st.pc = some (n, j)) (hp : x.prompted = false)
    (hl : q.line n = some ss) (hidx : σ.loc.idx + 1 = (preToksI ss j).length) :
    ∃ σ', continueEvaluating fuel σ = .ok () σ' ∧ Sync q x σ' ∧ σ'.loc.idx = (preToksI ss j).length ∧
      σ'.vars = σ.vars ∧ σ'.arrays = σ.arrays ∧ σ'.out = σ.out := by
  obtain ⟨hc, hpos⟩ := (sync_pos_iff hpc hp).1 h
  obtain ⟨σ', h1, h2, h3⟩ := SeqL.colon_lands (frameS q x σ) (fuel := fuel) ⟨⟨hc, SeqFrame.refl σ⟩, hpos⟩ hl hidx
  exact ⟨σ', h1, (sync_pos_iff hpc hp).2 ⟨h2.1.1, h2.2⟩, h3, h2.1.2.vars, h2.1.2.arrays, h2.1.2.out⟩

/-- **The first visit of an INPUT is the reference step that shows the prompt.**
    With the cursor on `INPUT x`, `continue_evaluating` leaves the interpreter
    awaiting input, the cursor ON the INPUT token, and everything `Sync` sees
    unchanged. -/
theorem turn3_input_prompt {q : RProgramI F} {fuel : Nat} {x : RStateI F} {σ : St F} (h : Sync q x σ)
    {n j : Nat} {ss : List (RStmtI F)} {t : ITarget F}
    (hpc : x.st.pc = some (n, j)) (hp : x.prompted = false) (hl : q.line n = some ss)
    (hs : ss[j]? = some (.input t)) (hidx : σ.loc.idx = (preToksI ss j).length) (replies : List Str) :
    TurnStepI q x (continueEvaluating fuel σ) (RStepI q x replies) ∧
      ∃ σ', continueEvaluating fuel σ = .ok () σ' ∧ σ'.state = .awaitingInput ∧ σ'.loc = σ.loc ∧
        σ'.vars = σ.vars ∧ σ'.arrays = σ.arrays ∧ σ'.out = σ.out := by
  obtain ⟨hc, hrun, hline, _⟩ := (sync_pos_iff hpc hp).1 h
  obtain ⟨hr, hsync⟩ := rnsI_prompt (fuel := fuel) hc hpc hl hs (by rw [← hidx, ← hline])
  have hcont := (C09.continue_is_one_turn fuel σ hrun).trans (C01.postprocess_of_ok hr)
  rw [rstepI_prompt hpc hl hs hp, hcont]
  exact ⟨⟨_, rfl, hsync⟩, _, rfl, rfl, rfl, rfl, rfl, rfl⟩

/-- **`provide_input` + `continue_evaluating` is the reference step that takes the
    reply.**  From an interpreter awaiting input at `INPUT x` (`Sync` with a
    prompted reference state): the reply is read as DATA items, the first is
    coerced by the name of `x`; if it suits, it is stored, `?EXTRA IGNORED` is
    emitted iff there was a surplus, and the run goes on with the NEXT
    statement; if not, `?REENTER` and the interpreter awaits input again.  Never
    an error. -/
theorem turn3_input_reply {q : RProgramI F} {fuel : Nat} (hwf : q.WF) {x : RStateI F} {σ : St F} (h : Sync q x σ)
    {n j : Nat} (hpc : x.st.pc = some (n, j)) (hp : x.prompted = true) (text : Str) (rest : List Str) :
    TurnStepI q x ((provideInput text >>= fun _ => continueEvaluating fuel) σ) (RStepI q x (text :: rest)) ∧
      ∃ x', RStepI q x (text :: rest) = .inl (x', rest) := by
  obtain ⟨hc, hst, ss, t, hl, hs, hloc⟩ := (sync_await_iff hpc hp).1 h
  cases t with
  | scalar name =>
    obtain ⟨σ', hσ', hm⟩ := reply_sync (fuel := fuel) hwf hc hst hpc hl hs hloc text
    rw [hσ']
    cases hr : readReply (F := F) name text with
    | accept v extra =>
      rw [hr] at hm
      rw [rstepI_accept hpc hl hs hp hr]
      exact ⟨⟨σ', rfl, hm.1⟩, _, rfl⟩
    | reenter =>
      rw [hr] at hm
      rw [rstepI_reenter hpc hl hs hp hr]
      exact ⟨⟨σ', rfl, hm⟩, _, rfl⟩

theorem rstepsI_ok {q : RProgramI F} {x x' : RStateI F} {rs rs' : List Str} (n : Nat)
    (h : RStepI q x rs = .inl (x', rs')) : RStepsI q (n + 1) x rs = RStepsI q n x' rs' := by
  simp only [RStepsI, h]

theorem rstepsI_err {q : RProgramI F} {x : RStateI F} {rs : List Str} {e : Err} {ln : Nat} (n : Nat)
    (h : RStepI q x rs = .inr (e, ln)) : RStepsI q (n + 1) x rs = .inr (e, ln, x) := by
  simp only [RStepsI, h]

/-- **One INPUT turn = await + reply + resume, in `Sync`.**  From a running
    state in `Sync` with the cursor on an INPUT that has not shown its prompt,
    and a reply `text`: the first host call suspends (awaiting input), the
    second (`provide_input text`, `continue_evaluating`) ends in `Sync` with the
    reference state two steps on (prompt, reply taken), the reply consumed. -/
theorem turn3_input_refines {q : RProgramI F} {fuel : Nat} (hwf : q.WF) {x : RStateI F} {σ : St F} (h : Sync q x σ)
    {n j : Nat} {ss : List (RStmtI F)} {t : ITarget F}
    (hpc : x.st.pc = some (n, j)) (hp : x.prompted = false) (hl : q.line n = some ss)
    (hs : ss[j]? = some (.input t)) (hidx : σ.loc.idx = (preToksI ss j).length) (text : Str) (rest : List Str) :
    ∃ σ₁ σ₂ x₂,
      continueEvaluating fuel σ = .ok () σ₁ ∧ σ₁.state = .awaitingInput ∧
        Sync q { x with prompted := true } σ₁ ∧
      (provideInput text >>= fun _ => continueEvaluating fuel) σ₁ = .ok () σ₂ ∧
      RStepsI q 2 x (text :: rest) = .inl (x₂, rest) ∧ Sync q x₂ σ₂ := by
  obtain ⟨hc, hrun, hline, _⟩ := (sync_pos_iff hpc hp).1 h
  obtain ⟨h1, hsync1⟩ := rnsI_prompt (fuel := fuel) hc hpc hl hs (by rw [← hidx, ← hline])
  obtain ⟨h2, x₂, hstep2⟩ := turn3_input_reply (fuel := fuel) hwf hsync1 (x := { x with prompted := true }) hpc rfl text rest
  rw [hstep2] at h2
  obtain ⟨σ₂, hσ₂, hsync2⟩ := h2
  exact ⟨_, σ₂, x₂, (C09.continue_is_one_turn fuel σ hrun).trans (C01.postprocess_of_ok h1), rfl, hsync1, hσ₂,
    by rw [rstepsI_ok 1 (rstepI_prompt hpc hl hs hp (text :: rest)), rstepsI_ok 0 hstep2]; rfl, hsync2⟩

/-- the side conditions of `turn3_refines` on one reference state (`StepOk` of C03All.lean) -/
structure StepOkI (q : RProgramI F) (fuel : Nat) (x : RStateI F) : Prop where
  bodies : ∀ name d, alGet name x.st.fns = some d → Resolved x.st.fns d.body
  stmt : ∀ n j ss s, x.st.pc = some (n, j) → q.line n = some ss → ss[j]? = some (.base s) →
    ResolvedS x.st.fns s ∧ sdepth3 x.st.fns s ≤ fuel ∧ sdepth3 x.st.fns s ≤ Extracted.nestingLimit

def SafeRunI (q : RProgramI F) (fuel : Nat) (x : RStateI F) (rs : List Str) : Prop :=
  ∀ m x' rs', RStepsI q m x rs = .inl (x', rs') → StepOkI q fuel x'

structure FitsI (q : RProgramI F) : Prop where
  wf : q.WF
  covered : ∀ l ∈ q, ∀ s, RStmtI.base s ∈ l.2 → s.Covered

/-- the outcome `res` of `run_next_statement` from `σ` against a reference step from `x`
    (`SeqL.StepsTo` of Proofs/SeqLTurn.lean in terms of `Sync`) -/
def StepsToI (q : RProgramI F) (x : RStateI F) (res : Res F Unit) (σ : St F) :
    (RStateI F × List Str) ⊕ (Err × Nat) → Prop
  | .inl (x', _) => ∃ σ', res = .ok () σ' ∧ Sync q x' σ'
  | .inr (e, ln) => ∃ σ' te l, res = .err te σ' ∧ σ'.out = σ.out ∧
      σ'.populate te = { err := e, loc := some l } ∧
      (l.line = some ln ∨ ∃ name m, alGet name x.st.fnLines = some m ∧ l.line = some m)

/-- **The assumption of the run theorems**: `rns3_refines` (the core of
    `turn3_refines` and `run3_start`, C03All.lean) with `RProgramI` in place of
    `RProgram3` — a turn with the cursor on a statement of Ref/Stmt3.lean is the
    reference step of that statement also when other statements of the program
    are INPUTs.  (C03All.lean proves this for programs without INPUT; its proof
    looks at the other statements of the program only through the store
    `Holds`, the DATA chunks and the return addresses.) -/
def BaseTurns (q : RProgramI F) (fuel : Nat) : Prop :=
  ∀ (x : RStateI F) (σ : St F) (n j : Nat) (ss : List (RStmtI F)) (s : RStmt3 F) (replies : List Str),
    StepOkI q fuel x → CoreI q x σ → x.prompted = false → x.st.pc = some (n, j) → q.line n = some ss →
    ss[j]? = some (.base s) → σ.loc = { line := some n, idx := (preToksI ss j).length } →
    StepsToI q x (runNextStatement fuel σ) σ (RStepI q x replies)

theorem turnStepI_of_stepsTo {q : RProgramI F} {x : RStateI F} {σ : St F} {m : M F Unit}
    (y : (RStateI F × List Str) ⊕ (Err × Nat)) (hout : σ.out = x.output.reverse) (h : StepsToI q x (m σ) σ y) :
    TurnStepI q x (postprocess m σ) y := by
  cases y with
  | inl xr =>
    obtain ⟨σ', hσ', hland⟩ := h
    exact ⟨σ', by unfold postprocess; rw [hσ'], hland⟩
  | inr eln =>
    obtain ⟨e, ln⟩ := eln
    obtain ⟨σ', te, l, hσ', ho, hpop, hl⟩ := h
    refine ⟨{ σ' with state := .idle }, l, ?_, hl, rfl, by show σ'.out = _; rw [ho, hout]⟩
    unfold postprocess
    rw [hσ']
    show Res.err (σ'.populate te) _ = _
    rw [hpop]

theorem rstepI_replies {q : RProgramI F} {x x' : RStateI F} {rs rs' : List Str} (hp : x.prompted = false)
    (h : RStepI q x rs = .inl (x', rs')) : rs' = rs := by
  unfold RStepI at h
  split at h
  · cases h; rfl
  · split at h
    · cases h; rfl
    · split at h
      · cases h; rfl
      · split at h
        · cases h; rfl
        · cases h
      · rw [if_pos hp] at h; cases h; rfl

/-- The host loop with replies: up to `k` host turns.  A turn is
    `continue_evaluating` while the interpreter is running, and
    `provide_input reply` followed by `continue_evaluating` while it awaits input;
    the loop stops when the interpreter is idle, on an error, and when input is
    awaited and no reply is left.  Result: the outcome and the replies not used. -/
def hostTurns (fuel : Nat) : Nat → List Str → St F → Res F Unit × List Str
  | 0, rs, σ => (.ok () σ, rs)
  | k + 1, rs, σ =>
    if σ.state = .running then
      match continueEvaluating fuel σ with
      | .ok _ σ' => hostTurns fuel k rs σ'
      | .err e σ' => (.err e σ', rs)
    else if σ.state = .awaitingInput then
      match rs with
      | [] => (.ok () σ, [])
      | text :: rest =>
        match (provideInput text >>= fun _ => continueEvaluating fuel) σ with
        | .ok _ σ' => hostTurns fuel k rest σ'
        | .err e σ' => (.err e σ', rest)
    else (.ok () σ, rs)

def runHost (fuel : Nat) (replies : List Str) (k : Nat) (σ : St F) : Res F Unit × List Str :=
  match startEvaluating fuel "RUN".toList σ with
  | .ok _ σ' => hostTurns fuel k replies σ'
  | .err e σ' => (.err e σ', replies)

/-- The outcome of a run of the host loop against the outcome of a run of the
    reference machine: states in `Sync` and the same replies left; or the same
    error after the same output, located on the same line — or, for an error
    raised in the body of a user function, on the line of the definition of one
    of the functions defined when the failing step started (as in `TurnStep3`). -/
def RunMatchI (q : RProgramI F) (res : Res F Unit × List Str) :
    (RStateI F × List Str) ⊕ (Err × Nat × RStateI F) → Prop
  | .inl (x', rs') => ∃ σ', res.1 = .ok () σ' ∧ Sync q x' σ' ∧ res.2 = rs'
  | .inr (e, ln, xf) => ∃ σ' l, res.1 = .err { err := e, loc := some l } σ' ∧
      (l.line = some ln ∨ ∃ name m, alGet name xf.st.fnLines = some m ∧ l.line = some m) ∧
      σ'.state = .idle ∧ σ'.out = xf.output.reverse

theorem hostTurns_running (fuel k : Nat) (rs : List Str) {σ σ' : St F} (hr : σ.state = .running)
    (h : continueEvaluating fuel σ = .ok () σ') : hostTurns fuel (k + 1) rs σ = hostTurns fuel k rs σ' := by
  simp only [hostTurns, hr, ↓reduceIte, h]

theorem hostTurns_running_err (fuel k : Nat) (rs : List Str) {σ σ' : St F} {e : TErr} (hr : σ.state = .running)
    (h : continueEvaluating fuel σ = .err e σ') : hostTurns fuel (k + 1) rs σ = (.err e σ', rs) := by
  simp only [hostTurns, hr, ↓reduceIte, h]

theorem hostTurns_reply (fuel k : Nat) (text : Str) (rest : List Str) {σ σ' : St F} (hr : σ.state = .awaitingInput)
    (h : (provideInput text >>= fun _ => continueEvaluating fuel) σ = .ok () σ') :
    hostTurns fuel (k + 1) (text :: rest) σ = hostTurns fuel k rest σ' := by
  simp only [hostTurns, hr, reduceCtorEq, ↓reduceIte, h]

theorem hostTurns_wait (fuel k : Nat) {σ : St F} (hr : σ.state = .awaitingInput) :
    hostTurns fuel k [] σ = (.ok () σ, []) := by
  cases k with
  | zero => rfl
  | succ k =>
    simp only [hostTurns, hr, reduceCtorEq, ↓reduceIte]

theorem hostTurns_idle (fuel k : Nat) (rs : List Str) {σ : St F} (hr : σ.state = .idle) :
    hostTurns fuel k rs σ = (.ok () σ, rs) := by
  cases k with
  | zero => rfl
  | succ k =>
    simp only [hostTurns, hr, reduceCtorEq, ↓reduceIte]

theorem SafeRunI.here {q : RProgramI F} {fuel : Nat} {x : RStateI F} {rs : List Str} (h : SafeRunI q fuel x rs) :
    StepOkI q fuel x := h 0 x rs rfl

theorem SafeRunI.step {q : RProgramI F} {fuel : Nat} {x x' : RStateI F} {rs rs' : List Str}
    (h : SafeRunI q fuel x rs) (hs : RStepI q x rs = .inl (x', rs')) : SafeRunI q fuel x' rs' :=
  fun m x'' rs'' hm => h (m + 1) x'' rs'' (by rw [rstepsI_ok m hs]; exact hm)

def SyncSafe (q : RProgramI F) (fuel : Nat) (a : RStateI F × List Str) (c : List Str × St F) : Prop :=
  c.1 = a.2 ∧ Sync q a.1 c.2 ∧ SafeRunI q fuel a.1 a.2

theorem start_of_turnStepI {q : RProgramI F} {fuel : Nat} {x : RStateI F} {rs : List Str} {res : Res F Unit}
    {R : Nat → Res F Unit × List Str} (hT : TurnStepI q x res (RStepI q x rs)) (hp : x.prompted = false)
    (hsafe : SafeRunI q fuel x rs) (hok : ∀ σ', res = .ok () σ' → ∀ k, R k = hostTurns fuel k rs σ')
    (herr : ∀ e σ', res = .err e σ' → ∀ k, R k = (.err e σ', rs)) :
    RunSim.Start (fun k c => hostTurns fuel k c.1 c.2) (fun n a => RStepsI q n a.1 a.2) (SyncSafe q fuel) (RunMatchI q)
      R (x, rs) := by
  cases hstep : RStepI q x rs with
  | inl xr =>
    obtain ⟨x', rs'⟩ := xr
    rw [hstep] at hT
    obtain ⟨σ', hσ', hsim⟩ := hT
    cases rstepI_replies hp hstep
    exact .step (a' := (x', rs)) (c' := (rs, σ')) (hok σ' hσ') (fun n => rstepsI_ok n hstep)
      ⟨rfl, hsim, hsafe.step hstep⟩
  | inr eln =>
    obtain ⟨e, ln⟩ := eln
    rw [hstep] at hT
    obtain ⟨σ', l, hσ', hloc, hidle, hout⟩ := hT
    exact .fail (herr _ σ' hσ') (fun n => rstepsI_err n hstep) ⟨σ', l, rfl, hloc, hidle, hout⟩

/-- a host turn from related configurations: none after the end and while input is awaited with no reply left; a
    reply is the step that takes it; on a colon no step, then a turn on the statement; on a statement its step
    (for an INPUT: the step that shows the prompt) -/
theorem turnI_cases {q : RProgramI F} {fuel : Nat} (hfit : FitsI q) (hbase : BaseTurns q fuel)
    (a : RStateI F × List Str) (c : List Str × St F) (h : SyncSafe q fuel a c) :
    RunSim.Turn (fun k c => hostTurns fuel k c.1 c.2) (fun n a => RStepsI q n a.1 a.2) (SyncSafe q fuel) (RunMatchI q)
      1 a c := by
  obtain ⟨x, rs⟩ := a
  obtain ⟨rs', σ⟩ := c
  obtain ⟨hrs, h, hsafe⟩ := h
  cases (hrs : rs' = rs)
  cases hpc : x.st.pc with
  | none =>
    have hidle := (sync_final h hpc).1
    exact .halt (fun k => hostTurns_idle fuel k rs hidle)
      (fun n => rstepsI_ok n (by simp only [RStepI, hpc]))
  | some nj =>
    obtain ⟨n0, j⟩ := nj
    cases hp : x.prompted with
    | true =>
      obtain ⟨-, hst, ss, t, hl, hs, hloc⟩ := (sync_await_iff hpc hp).1 h
      cases rs with
      | nil =>
        exact .halt (fun k => hostTurns_wait fuel k hst)
          (fun n => rstepsI_ok n (rstepI_wait hpc hl hs hp))
      | cons text rest =>
        obtain ⟨hT, x', hstep⟩ := turn3_input_reply (fuel := fuel) hfit.wf h hpc hp text rest
        rw [hstep] at hT
        obtain ⟨σ', hσ', hsim⟩ := hT
        exact .now (.step (a' := (x', rest)) (c' := (rest, σ')) (fun k => hostTurns_reply fuel k text rest hst hσ')
          (fun n => rstepsI_ok n hstep) ⟨rfl, hsim, hsafe.step hstep⟩)
    | false =>
      obtain ⟨-, hrun, hline, ss, hl, hj, hcur⟩ := (sync_pos_iff hpc hp).1 h
      have atStmt : ∀ {d : Nat} (σ : St F), Sync q x σ → σ.loc.idx = (preToksI ss j).length →
          RunSim.Turn (fun k c => hostTurns fuel k c.1 c.2) (fun n a => RStepsI q n a.1 a.2) (SyncSafe q fuel)
            (RunMatchI q) d (x, rs) (rs, σ) := by
        intro d σ h hidx
        obtain ⟨hc, hrun, hline, _⟩ := (sync_pos_iff hpc hp).1 h
        have hloc : σ.loc = { line := some n0, idx := (preToksI ss j).length } := by rw [← hidx, ← hline]
        have hsj : ss[j]? = some ss[j] := by simp [hj]
        have hT : TurnStepI q x (continueEvaluating fuel σ) (RStepI q x rs) := by
          cases hsj' : ss[j] with
          | base s =>
            rw [hsj'] at hsj
            rw [C09.continue_is_one_turn fuel σ hrun]
            exact turnStepI_of_stepsTo _ hc.mem.out (hbase x σ n0 j ss s rs hsafe.here hc hp hpc hl hsj hloc)
          | input t =>
            rw [hsj'] at hsj
            exact (turn3_input_prompt (fuel := fuel) h hpc hp hl hsj hidx rs).1
        exact .now (start_of_turnStepI hT hp hsafe (fun σ' hσ' k => hostTurns_running fuel k rs hrun hσ')
          (fun e σ' hσ' k => hostTurns_running_err fuel k rs hrun hσ'))
      rcases hcur with hidx | ⟨_, hidx⟩
      · exact atStmt σ h hidx
      · obtain ⟨σ', hσ', hsim, hidx', _⟩ := turnI_colon (fuel := fuel) h hpc hp hl hidx
        exact .stutter (c' := (rs, σ')) (fun k => hostTurns_running fuel k rs hrun hσ') ⟨rfl, hsim, hsafe⟩
          (atStmt σ' hsim hidx')

theorem runMatchI_zero {q : RProgramI F} {fuel : Nat} (a : RStateI F × List Str) (c : List Str × St F)
    (h : SyncSafe q fuel a c) : RunMatchI q (hostTurns fuel 0 c.1 c.2) (RStepsI q 0 a.1 a.2) :=
  ⟨c.2, rfl, h.2.1, h.1⟩

/-- **`k` host turns are at most `k` reference steps**, with the same replies
    consumed (a turn on a colon is no step; the first visit of an INPUT is the
    step that shows the prompt; a reply is the step that takes it). -/
theorem hostTurns_refines {q : RProgramI F} {fuel : Nat} (hfit : FitsI q) (hbase : BaseTurns q fuel) :
    ∀ (k : Nat) (x : RStateI F) (rs : List Str) (σ : St F), Sync q x σ → SafeRunI q fuel x rs →
      ∃ n, n ≤ k ∧ RunMatchI q (hostTurns fuel k rs σ) (RStepsI q n x rs) :=
  fun k x rs σ h hsafe =>
    RunSim.by_turns runMatchI_zero (turnI_cases hfit hbase) k (x, rs) (rs, σ) ⟨rfl, h, hsafe⟩

/-- what RUN needs of the state it is typed into (`PReady3` of C03All.lean) -/
structure PReadyI (q : RProgramI F) (σ : St F) : Prop where
  idle : σ.state = .idle
  lines : HoldsI σ.lines q
  warnings : σ.warnings = false
  tracing : σ.tracing = false
  nesting : σ.nesting = 0
  out : σ.out = []
  rng : σ.rng < Extracted.rngModulus

theorem coreI_start {q : RProgramI F} {σ : St F} (h : PReadyI q σ) (loc : Loc) :
    CoreI q (q.start σ.rng)
      ({ (({ σ.setImmediate [] with input := none, vars := [], arrays := [] } : St F).resetRuntime) with loc := loc }) where
  env := ⟨h.lines, h.warnings, h.tracing⟩
  mem := {
    vars := rfl
    arrays := rfl
    rng := rfl
    loops := Prog2L.Rel2.nil
    stack := Prog2L.Rel2.nil
    data := rfl
    out := h.out
    fns := ⟨fun _ _ => rfl, fun name d hd => by cases hd⟩
    fnLines := fun name fd hfd => by cases hfd
    input := rfl }
  inv := ⟨fun k v h => by simp [RProgramI.start, alGet] at h, fun k a h => by simp [RProgramI.start, alGet] at h,
    h.rng, Nat.zero_le _⟩
  nesting := h.nesting

/-- **RUN on a program that begins with INPUT** (no assumption): RUN clears
    variables, arrays, stacks, the DATA cursor, the function table and a pending
    reply, puts the cursor on the first line and returns with the interpreter
    awaiting input — the reference step that shows the prompt. -/
theorem runI_start_input {q : RProgramI F} {fuel : Nat} {σ : St F} (h : PReadyI q σ)
    {n : Nat} {ss : List (RStmtI F)} {t : ITarget F} (hfirstq : q.first = some n) (hl : q.line n = some ss)
    (hs : ss[0]? = some (.input t)) (rs : List Str) :
    TurnStepI q (q.start σ.rng) (startEvaluating fuel "RUN".toList σ) (RStepI q (q.start σ.rng) rs) := by
  rw [startEvaluating_run fuel σ h.idle]
  have hfirst : σ.lines.first = some n := by rw [SeqL.holds_first h.lines.seq]; exact hfirstq
  have hc : CoreI q (q.start σ.rng) (runInit σ) := by
    rw [runInit_first hfirst]
    exact coreI_start h _
  have hpc : (q.start σ.rng).st.pc = some (n, 0) := by
    show (q.first.map fun n => (n, 0)) = _
    rw [hfirstq]; rfl
  obtain ⟨hr, hsync⟩ := rnsI_prompt (fuel := fuel) hc hpc hl hs (by rw [runInit_first hfirst, preToksI_zero]; rfl)
  rw [rstepI_prompt hpc hl hs rfl rs, C01.postprocess_of_ok hr]
  exact ⟨_, rfl, hsync⟩

/-- **RUN is the first reference step**: it clears variables, arrays, stacks, the
    DATA cursor, the function table and a pending reply, puts the cursor on the
    first line and runs its first statement in the same call — if that is an
    INPUT, RUN returns with the interpreter awaiting input. -/
theorem runI_start {q : RProgramI F} {fuel : Nat} (hfit : FitsI q) (hbase : BaseTurns q fuel) {σ : St F}
    (h : PReadyI q σ) (rs : List Str) (hok : StepOkI q fuel (q.start σ.rng)) :
    TurnStepI q (q.start σ.rng) (startEvaluating fuel "RUN".toList σ) (RStepI q (q.start σ.rng) rs) := by
  rw [startEvaluating_run fuel σ h.idle]
  cases hf : q.first with
  | none =>
    have hq : q = [] := by cases q with | nil => rfl | cons _ _ => cases hf
    subst hq
    obtain ⟨σ', hσ', hfin⟩ := run_no_lines fuel (σ := σ) (by rw [SeqL.holds_first h.lines.seq]; rfl) h.out
    exact ⟨σ', C01.postprocess_of_ok hσ', hfin⟩
  | some n =>
    obtain ⟨ss, hl, hlen, hinit⟩ := runInit_line hfit.wf.seq h.lines.seq hf
    have hs : ss[0]? = some ss[0] := List.getElem?_eq_getElem hlen
    have hpc : (q.start σ.rng).st.pc = some (n, 0) := by
      show (q.first.map fun n => (n, 0)) = _
      rw [hf]; rfl
    cases hs0 : ss[0] with
    | base s =>
      rw [hs0] at hs
      have hc : CoreI q (q.start σ.rng) (runInit σ) := by rw [hinit]; exact coreI_start h _
      exact turnStepI_of_stepsTo _ hc.mem.out (hbase _ _ n 0 ss s rs hok hc rfl hpc hl hs (by rw [hinit]))
    | input t =>
      rw [hs0] at hs
      have := runI_start_input (fuel := fuel) h hf hl hs rs
      rw [startEvaluating_run fuel σ h.idle] at this
      exact this

/-- **Whole runs with INPUT.**  RUN followed by `k` turns of the host loop with
    the replies `replies` does what `n` steps of the reference machine with the
    same replies do, for some `n` between 1 and `k + 1`: the final states are in
    `Sync` (same output records in the same order — PRINT, `?REENTER`,
    `?EXTRA IGNORED` —, same variables and arrays, the model awaiting input
    exactly when the reference machine stands at a prompted INPUT) and the same
    replies are left; or both fail with the same error, after the same output,
    on the same line. -/
theorem run3_input_refines {q : RProgramI F} {fuel : Nat} (hfit : FitsI q) (hbase : BaseTurns q fuel) {σ : St F}
    (h : PReadyI q σ) (replies : List Str) (hsafe : SafeRunI q fuel (q.start σ.rng) replies) (k : Nat) :
    ∃ n, 1 ≤ n ∧ n ≤ k + 1 ∧ RunMatchI q (runHost fuel replies k σ) (RStepsI q n (q.start σ.rng) replies) :=
  RunSim.run_by_turns runMatchI_zero (turnI_cases hfit hbase)
    (start_of_turnStepI (R := fun k => runHost fuel replies k σ) (runI_start hfit hbase h replies hsafe.here) rfl hsafe
      (fun σ' hσ' k => by unfold runHost; rw [hσ']) (fun e σ' hσ' k => by unfold runHost; rw [hσ'])) k

/-! ### C08's placement claim at the level of whole programs -/

/-- **Across the suspension only the INPUT is executed.**  `INPUT name` stands as
    statement `j` of line `n` — behind any statements `0 … j - 1` on that line,
    in front of any others — in a running program (`Sync`), the cursor on it; the
    reply `text` suits `name`.  Then:

    1. the first host call suspends: awaiting input, cursor, variables, arrays
       and output as they were;
    2. `provide_input text` + `continue_evaluating` succeeds, and compared with
       the state BEFORE the suspension the only differences in what the program
       can observe are: `name` holds the coerced item, and `?EXTRA IGNORED` was
       emitted iff the reply had a surplus.  No PRINT record, no other variable,
       no array, loop, DATA position, function or generator state has changed:
       the statements in front of the INPUT on its line have not been executed
       a second time (and the INPUT's own assignment exactly once);
    3. the model is in `Sync` with the reference state whose program counter is
       `resume n (j + 1)` — the statement behind the INPUT, else the next line —
       and that is two reference steps from the start (prompt, reply).  By
       `hostTurns_refines` the following host turns are the reference steps
       from there: the statement after the INPUT runs next, and once. -/
theorem input_only_reexecutes_itself {q : RProgramI F} {fuel : Nat} (hwf : q.WF) {x : RStateI F} {σ : St F}
    (h : Sync q x σ) {n j : Nat} {ss : List (RStmtI F)} {name : Str}
    (hpc : x.st.pc = some (n, j)) (hp : x.prompted = false) (hl : q.line n = some ss)
    (hs : ss[j]? = some (.input (.scalar name))) (hidx : σ.loc.idx = (preToksI ss j).length)
    (text : Str) (rest : List Str) {first : DataElement F} {more : List (DataElement F)} {k : Nat} {v : Value F}
    (hpd : parseData (F := F) text = (first :: more, k)) (hco : Value.coerceFromData name first = .ok v) :
    ∃ σ₁ σ₂,
      continueEvaluating fuel σ = .ok () σ₁ ∧ σ₁.state = .awaitingInput ∧ σ₁.loc = σ.loc ∧ σ₁.vars = σ.vars ∧
        σ₁.arrays = σ.arrays ∧ σ₁.out = σ.out ∧
      (provideInput text >>= fun _ => continueEvaluating fuel) σ₁ = .ok () σ₂ ∧
        σ₂.out = C08.extraOut (C08.surplus more k text) ++ σ.out ∧ σ₂.vars = alSet name v σ.vars ∧
        σ₂.arrays = σ.arrays ∧ σ₂.loops = σ.loops ∧ σ₂.data = σ.data ∧ σ₂.fns = σ.fns ∧ σ₂.rng = σ.rng ∧
      RStepsI q 2 x (text :: rest) =
        .inl (x.accepted name v (C08.surplus more k text) (q.resume n (j + 1)), rest) ∧
      Sync q (x.accepted name v (C08.surplus more k text) (q.resume n (j + 1))) σ₂ := by
  obtain ⟨hc, hrun, hline, _⟩ := (sync_pos_iff hpc hp).1 h
  have hloc : σ.loc = { line := some n, idx := (preToksI ss j).length } := by rw [← hidx, ← hline]
  obtain ⟨h1, hsync1⟩ := rnsI_prompt (fuel := fuel) hc hpc hl hs hloc
  have hr := C08.readReply_accept (name := name) hpd hco
  have hc1 := ((sync_await_iff (x := { x with prompted := true }) hpc rfl).1 hsync1).1
  obtain ⟨σ₂, hσ₂, hm⟩ := reply_sync (fuel := fuel) hwf hc1 rfl hpc hl hs hloc text
  rw [hr] at hm
  obtain ⟨hsync, hfr⟩ := hm
  refine ⟨_, σ₂, (C09.continue_is_one_turn fuel σ hrun).trans (C01.postprocess_of_ok h1), rfl, rfl, rfl, rfl, rfl,
    hσ₂, hfr.out, hfr.vars, hfr.arrays, hfr.loops, hfr.data, hfr.fns, hfr.rng, ?_, hsync⟩
  rw [rstepsI_ok 1 (rstepI_prompt hpc hl hs hp (text :: rest)),
    rstepsI_ok 0 (rstepI_accept (x := { x with prompted := true }) (t := .scalar name) hpc hl hs rfl hr)]
  rfl

/-! ### non-vacuity (on the degenerate carrier `Unit`: no text parses as a number) -/

namespace DemoI

/-- ```
    10 PRINT "A"; : INPUT X$ : PRINT X$;
    20 INPUT N : PRINT "B";
    ``` -/
def prog : RProgramI Unit :=
  [ (10, [ .base (.printS [.expr (.str ['A']), .semi]), .input (.scalar ['X', '$']),
           .base (.printS [.expr (.var ['X', '$']), .semi]) ]),
    (20, [ .input (.scalar ['N']), .base (.printS [.expr (.str ['B']), .semi]) ]) ]

/-- what a host sees of a run: error, state, output (oldest first), names of the variables, replies left -/
def obs (r : Res Unit Unit × List Str) : Option Err × IState × List Out × List Str × List Str :=
  match r.1 with
  | .ok _ s => (none, s.state, s.out.reverse, s.vars.map (·.1), r.2)
  | .err e s => (some e.err, s.state, s.out.reverse, s.vars.map (·.1), r.2)

/-- the same of a run of the reference machine -/
def robs (r : (RStateI Unit × List Str) ⊕ (Err × Nat × RStateI Unit)) :
    Option Err × Bool × List Out × List Str × List Str :=
  match r with
  | .inl (x, rs) => (none, x.awaits, x.output, x.st.vars.map (·.1), rs)
  | .inr (e, _, x) => (some e, x.awaits, x.output, x.st.vars.map (·.1), [])

def rpc (r : (RStateI Unit × List Str) ⊕ (Err × Nat × RStateI Unit)) : Option (Nat × Nat) :=
  match r with
  | .inl (x, _) => x.st.pc
  | .inr (_, _, x) => x.st.pc

def replies : List Str := ["HI, THERE".toList, "X".toList, "1".toList]

def progLines : Lines Unit :=
  { map := [ (10, [.kw .Print, .str ['A'], .kw .Semicolon, .kw .Colon, .kw .Input, .symbol ['X', '$'], .kw .Colon,
                   .kw .Print, .symbol ['X', '$'], .kw .Semicolon]),
             (20, [.kw .Input, .symbol ['N'], .kw .Colon, .kw .Print, .str ['B'], .kw .Semicolon]) ],
    sorted := [10, 20] }

theorem prog_compile : compilePI prog = progLines := by
  simp [compilePI, prog, progLines, renderLineI, renderTailI, renderSI, ITarget.render, renderS3, renderItems3,
    PItem3.render, render2]

/-- By computation on the model: RUN and the host loop with the replies `HI, THERE`,
    `X`, `1`.  `A` is printed once (the PRINT in front of the first INPUT is not
    repeated), the first reply is accepted with `?EXTRA IGNORED`, `HI` is printed
    once, `INPUT N` rejects `X` and `1` (on this carrier nothing is a number) with
    `?REENTER` each, and the interpreter awaits input with no reply left. -/
theorem model_run : obs (runHost defaultFuel replies 12 ({ lines := compilePI prog } : St Unit)) =
    (none, .awaitingInput, [.print ['A'], .extraIgnored, .print ['H', 'I'], .reenter, .reenter], [['X', '$']], []) := by
  rw [prog_compile]
  decide +kernel

/-- ```
    10 RESTORE : INPUT X$ : RESTORE
    20 INPUT N : END
    ```
    (statements that evaluate no expression: the reference machine can then be run
    by `decide`; `fold2` is defined by well-founded recursion) -/
def progR : RProgramI Unit :=
  [ (10, [ .base .restoreS, .input (.scalar ['X', '$']), .base .restoreS ]),
    (20, [ .input (.scalar ['N']), .base .endS ]) ]

def progRLines : Lines Unit :=
  { map := [ (10, [.kw .Restore, .kw .Colon, .kw .Input, .symbol ['X', '$'], .kw .Colon, .kw .Restore]),
             (20, [.kw .Input, .symbol ['N'], .kw .Colon, .kw .End]) ],
    sorted := [10, 20] }

theorem progR_compile : compilePI progR = progRLines := by
  simp [compilePI, progR, progRLines, renderLineI, renderTailI, renderSI, ITarget.render, renderS3]

/-- By computation, the model and the reference machine on `progR` with the same
    replies: the same output records (`?EXTRA IGNORED` for the first reply,
    `?REENTER` twice for `INPUT N`), the same variables, the same replies left
    (none), the model awaiting input and the reference machine standing at the
    prompted INPUT of line 20. -/
theorem both_run :
    obs (runHost defaultFuel replies 12 ({ lines := compilePI progR } : St Unit)) =
      (none, .awaitingInput, [.extraIgnored, .reenter, .reenter], [['X', '$']], []) ∧
    robs (RStepsI progR 9 (progR.start 0) replies) =
      (none, true, [.extraIgnored, .reenter, .reenter], [['X', '$']], []) ∧
    rpc (RStepsI progR 9 (progR.start 0) replies) = some (20, 0) := by
  rw [progR_compile]
  refine ⟨?_, ?_, ?_⟩
  · decide +kernel
  · decide +kernel
  · decide +kernel

/-- `10 INPUT X$ : PRINT X$;` -/
def prog2 : RProgramI Unit :=
  [ (10, [ .input (.scalar ['X', '$']), .base (.printS [.expr (.var ['X', '$']), .semi]) ]) ]

theorem ready2 : PReadyI prog2 ({ lines := compilePI prog2 } : St Unit) :=
  ⟨rfl, holds_compileI prog2, rfl, rfl, rfl, rfl, by show (0 : Nat) < Extracted.rngModulus; decide⟩

theorem wf2 : prog2.WF := ⟨by decide, by intro l hl; simp [prog2] at hl; subst hl; simp⟩

/-- By the theorems (no assumption): RUN leaves the interpreter awaiting input in
    `Sync` with the prompted start state; the reply `HI` leads to a state in `Sync`
    with the reference state two steps from the start. -/
example : ∃ σ₁ σ₂ x₂,
    startEvaluating defaultFuel "RUN".toList ({ lines := compilePI prog2 } : St Unit) = .ok () σ₁ ∧
    σ₁.state = .awaitingInput ∧
    (provideInput "HI".toList >>= fun _ => continueEvaluating defaultFuel) σ₁ = .ok () σ₂ ∧
    RStepsI prog2 2 (prog2.start 0) ["HI".toList] = .inl (x₂, []) ∧ Sync prog2 x₂ σ₂ := by
  have hpc : (prog2.start (F := Unit) 0).st.pc = some (10, 0) := rfl
  have hl : prog2.line 10 = some [ .input (.scalar ['X', '$']), .base (.printS [.expr (.var ['X', '$']), .semi]) ] := rfl
  have h1 := runI_start_input (fuel := defaultFuel) ready2 (n := 10) rfl hl rfl ["HI".toList]
  have hstep1 := rstepI_prompt (x := prog2.start (F := Unit) 0) hpc hl rfl rfl ["HI".toList]
  rw [show ({ lines := compilePI prog2 } : St Unit).rng = 0 from rfl, hstep1] at h1
  obtain ⟨σ₁, hσ₁, hsync1⟩ := h1
  have hst : σ₁.state = .awaitingInput := ((sync_await_iff (x := { prog2.start (F := Unit) 0 with prompted := true }) hpc rfl).1 hsync1).2.1
  obtain ⟨h2, x₂, hstep2⟩ := turn3_input_reply (fuel := defaultFuel) wf2 hsync1 hpc rfl "HI".toList []
  rw [hstep2] at h2
  obtain ⟨σ₂, hσ₂, hsync2⟩ := h2
  exact ⟨σ₁, σ₂, x₂, hσ₁, hst, hσ₂, by rw [rstepsI_ok 1 hstep1, rstepsI_ok 0 hstep2]; rfl, hsync2⟩

end DemoI

end Abasic.Props.C03
