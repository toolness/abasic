import Abasic.Props.C16
/-
  C03 — programs behave as an independent reference interpreter says they should.

  The reference interpreter lives in the harness (verif/harness/src/refint.rs:
  an interpreter over syntax trees written from the documented semantics) and is
  the oracle of the failing-input search.  Proved here, about the model of the
  real code, are the semantic rules the property names, each for every state:
  a FOR body always runs at least once with limit and step fixed at entry; NEXT
  forgets inner loops; undefined variables and cells read as 0 or the empty
  string; implicit arrays have indices 0..10.
  Whole programs against reference machines written in Lean are in C03Prog.lean
  (LET, PRINT, GOTO, END, IF), C03Full.lean (loops, subroutines, DATA, arrays),
  C03All.lean (the whole statement language, INPUT apart) and C03Input.lean /
  C03InputAll.lean (with INPUT).
-/
namespace Abasic.Props.C03
open Abasic

variable {F : Type} [NumOps F]

omit [NumOps F] in
/-- NEXT forgets inner loops: what remains below the loop being closed is a
    suffix of the loop stack that starts strictly after it — every loop opened
    later (nearer the top) is gone. -/
theorem next_forgets_inner (sym : Str) (loops : List (LoopInfo F)) (info : LoopInfo F) (rest : List (LoopInfo F))
    (h : removeLoop sym loops = some (info, rest)) :
    ∃ inner, loops = inner ++ info :: rest ∧ info.sym = sym ∧ ∀ l ∈ inner, l.sym ≠ sym :=
  let ⟨hs, inner, hl, hi⟩ := C16.removeLoop_some sym loops info rest h
  ⟨inner, hl, hs, hi⟩

/-- Undefined variables read as 0 or the empty string (by the name's suffix). -/
theorem undefined_reads_default (σ : St F) (name : Str) (h : alGet name σ.vars = none) :
    getVar σ name = (if endsWithDollar name then .str [] else .num NumOps.zero) := by
  simp [getVar, h, Value.defaultFor]

/-- An array that does not exist yet is created on first use with indices 0..10 in every dimension. -/
theorem implicit_array_shape (name : Str) (arity : Nat) (a : ArrayV F)
    (h : ArrayV.create name (List.replicate arity Extracted.defaultArraySize) = .ok a) :
    a.dims = List.replicate arity 11 := by
  obtain ⟨_, total, _, _, rfl⟩ := ArrayL.create_ok h
  split <;> simp [ArrayV.dims, Extracted.defaultArraySize]

/-- … so subscript 10 is inside and subscript 11 is a BAD SUBSCRIPT. -/
theorem implicit_array_bounds (i : Nat) :
    (linearIndex [i] [11] = .ok i ↔ i ≤ 10) ∧ (11 ≤ i → linearIndex [i] [11] = .error .badSubscript) := by
  constructor
  · constructor
    · intro h
      by_cases hi : i ≥ 11
      · simp [linearIndex, linearIndexAux, hi] at h
      · omega
    · intro h
      have : ¬ i ≥ 11 := by omega
      simp [linearIndex, linearIndexAux, this]
  · intro h
    simp [linearIndex, linearIndexAux, h]

/-- A cell of a fresh array reads as 0 / the empty string. -/
theorem fresh_cells_default (name : Str) (idx : List Nat) (a : ArrayV F) (h : ArrayV.create name idx = .ok a) :
    match a with
    | .strs _ cells => ∀ c ∈ cells, c = []
    | .nums _ cells => ∀ c ∈ cells, c = NumOps.zero := by
  obtain ⟨_, total, _, _, ha⟩ := ArrayL.create_ok h
  split at ha <;> subst ha <;> intro c hc <;> exact (List.mem_replicate.mp hc).2

omit [NumOps F] in
/-- FOR never tests its limit: when it succeeds the cursor has not moved (the
    body is what comes next, so it runs at least once), the loop on top of the
    stack records the position, and the limit and step computed at entry, and
    the variable holds the start value. -/
theorem for_enters_body (sym : Str) (a b c : F) (σ σ' : St F)
    (h : startLoop sym a b c σ = .ok () σ') :
    σ'.loc = σ.loc ∧
    (∃ rest, σ'.loops = { loc := σ.loc, sym := sym, toV := b, stepV := c } :: rest) ∧
    alGet sym σ'.vars = some (.num a) := by
  rw [C16.startLoop_eq] at h
  split at h
  · cases h
  · split at h
    · cases h; exact ⟨rfl, ⟨_, rfl⟩, C16.alGet_alSet_self _ _ _⟩
    · cases h

/-- the test NEXT makes: against the limit and with the sign of the step that
    were stored when the FOR was entered -/
def nextAgain (cur : F) (info : LoopInfo F) : Bool :=
  if NumOps.ge info.stepV NumOps.zero then NumOps.le (NumOps.add cur info.stepV) info.toV
  else NumOps.ge (NumOps.add cur info.stepV) info.toV

/-- NEXT uses the stored limit and step: the variable is advanced by the stored
    step; if the test against the stored limit succeeds the loop stays open
    (inner loops forgotten) and control goes back to the stored position … -/
theorem next_uses_stored_again (sym : Str) (σ : St F) (cur : F) (info : LoopInfo F) (rest : List (LoopInfo F))
    (hv : getVar σ sym = .num cur) (hr : removeLoop sym σ.loops = some (info, rest))
    (hm : (Value.num (NumOps.add cur info.stepV) : Value F).matchesName sym = true)
    (hc : nextAgain cur info = true) :
    endLoop sym σ = .ok ()
      { σ with loops := info :: rest, loc := info.loc, vars := alSet sym (.num (NumOps.add cur info.stepV)) σ.vars } := by
  unfold nextAgain at hc
  simp [endLoop, setVar, bind, M.bindM, M.get, hv, hr, M.set, M.modify, hc, hm]

/-- … otherwise the loop is closed and control falls through. -/
theorem next_uses_stored_done (sym : Str) (σ : St F) (cur : F) (info : LoopInfo F) (rest : List (LoopInfo F))
    (hv : getVar σ sym = .num cur) (hr : removeLoop sym σ.loops = some (info, rest))
    (hm : (Value.num (NumOps.add cur info.stepV) : Value F).matchesName sym = true)
    (hc : nextAgain cur info = false) :
    endLoop sym σ = .ok ()
      { σ with loops := rest, vars := alSet sym (.num (NumOps.add cur info.stepV)) σ.vars } := by
  unfold nextAgain at hc
  simp [endLoop, setVar, bind, M.bindM, M.get, hv, hr, M.set, M.modify, hc, hm]

theorem next_uses_stored (sym : Str) (σ : St F) (cur : F) (info : LoopInfo F) (rest : List (LoopInfo F))
    (hv : getVar σ sym = .num cur) (hr : removeLoop sym σ.loops = some (info, rest))
    (hm : (Value.num (NumOps.add cur info.stepV) : Value F).matchesName sym = true) :
    endLoop sym σ = .ok ()
      (let newV := NumOps.add cur info.stepV
       let again := if NumOps.ge info.stepV NumOps.zero then NumOps.le newV info.toV else NumOps.ge newV info.toV
       if again = true then { σ with loops := info :: rest, loc := info.loc, vars := alSet sym (.num newV) σ.vars }
       else { σ with loops := rest, vars := alSet sym (.num newV) σ.vars }) := by
  cases hc : nextAgain cur info with
  | true =>
    rw [next_uses_stored_again sym σ cur info rest hv hr hm hc]
    unfold nextAgain at hc
    simp only [hc, ↓reduceIte]
  | false =>
    rw [next_uses_stored_done sym σ cur info rest hv hr hm hc]
    unfold nextAgain at hc
    simp only [hc, Bool.false_eq_true, ↓reduceIte]

omit [NumOps F] in
theorem listTokens_keys (l : Lines F) (entries : List (Nat × List (Token F)))
    (h : l.listTokens = some entries) : entries.map (·.1) = l.sorted := by
  unfold Lines.listTokens at h
  generalize l.sorted = keys at h
  induction keys generalizing entries with
  | nil => simp at h; simp [h]
  | cons k ks ih =>
    simp only [List.mapM_cons] at h
    cases hk : l.get k with
    | none => simp [hk] at h
    | some ts =>
      cases hrest : List.mapM (fun n => Option.map (fun ts => (n, ts)) (l.get n)) ks with
      | none => simp [hk, hrest] at h
      | some es =>
        simp [hk, hrest] at h
        rw [← h]
        simp [ih es hrest]

def lineChunks (e : Nat × List (Token F)) : List (Loc × List (DataElement F)) :=
  (e.2.zipIdx).filterMap (fun (t, i) =>
    match t with
    | .data items => some ({ line := some e.1, idx := i }, items)
    | _ => none)

omit [NumOps F] in
theorem lineChunks_line (e : Nat × List (Token F)) (c : Loc × List (DataElement F))
    (hc : c ∈ lineChunks e) : c.1.line = some e.1 := by
  unfold lineChunks at hc
  obtain ⟨p, _, hp⟩ := List.mem_filterMap.mp hc
  obtain ⟨t, i⟩ := p
  cases t <;> simp at hp
  rw [← hp]

omit [NumOps F] in
theorem chunks_sorted (entries : List (Nat × List (Token F)))
    (hs : (entries.map (·.1)).Pairwise (· < ·)) :
    ∃ ns : List Nat, (entries.flatMap lineChunks).map (·.1.line) = ns.map some ∧
      ns.Pairwise (· ≤ ·) ∧ ∀ n ∈ ns, n ∈ entries.map (·.1) := by
  induction entries with
  | nil => exact ⟨[], by simp, by simp, by simp⟩
  | cons e es ih =>
    simp only [List.map_cons, List.pairwise_cons] at hs
    obtain ⟨ns, h1, h2, h3⟩ := ih hs.2
    refine ⟨(lineChunks e).map (fun _ => e.1) ++ ns, ?_, ?_, ?_⟩
    · simp only [List.flatMap_cons, List.map_append, List.map_map, h1]
      congr 1
      apply List.map_congr_left
      intro c hc
      simpa using lineChunks_line e c hc
    · rw [List.pairwise_append]
      refine ⟨?_, h2, ?_⟩
      · apply List.pairwise_of_forall_mem_list
        intro a ha b hb
        obtain ⟨_, _, rfl⟩ := List.mem_map.mp ha
        obtain ⟨_, _, rfl⟩ := List.mem_map.mp hb
        exact Nat.le_refl _
      · intro a ha b hb
        have : a = e.1 := by
          obtain ⟨_, _, rfl⟩ := List.mem_map.mp ha; rfl
        rw [this]
        exact Nat.le_of_lt (hs.1 b (h3 b hb))
    · intro n hn
      rcases List.mem_append.mp hn with hn | hn
      · obtain ⟨_, _, rfl⟩ := List.mem_map.mp hn
        simp
      · simp only [List.map_cons, List.mem_cons]; exact .inr (h3 n hn)

omit [NumOps F] in
/-- READ consumes DATA in line order: the chunks `data_iterator` yields carry
    numbered-line locations whose line numbers never decrease (and are stored
    line numbers). -/
theorem read_line_order (l : Lines F) (chunks : List (Loc × List (DataElement F)))
    (hs : l.sorted.Pairwise (· < ·)) (h : Lines.dataChunks l = some chunks) :
    ∃ ns : List Nat, chunks.map (·.1.line) = ns.map some ∧ ns.Pairwise (· ≤ ·) ∧ ∀ n ∈ ns, n ∈ l.sorted := by
  unfold Lines.dataChunks at h
  cases he : l.listTokens with
  | none => simp [he] at h
  | some entries =>
    have hk := listTokens_keys l entries he
    simp only [he, Option.map_some, Option.some.injEq] at h
    rw [← hk] at hs ⊢
    have := chunks_sorted entries hs
    rw [← h]
    exact this


/-- Non-vacuity: a two-loop stack where NEXT of the outer variable forgets the inner one. -/
example : (removeLoop (F := Unit) ['I'] [{ loc := {}, sym := ['J'], toV := (), stepV := () },
                                          { loc := {}, sym := ['I'], toV := (), stepV := () }]).isSome = true := by
  decide

end Abasic.Props.C03
