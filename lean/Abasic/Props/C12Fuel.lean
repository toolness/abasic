import Abasic.Props.C12More
import Abasic.Props.C13More
/-
  The tokenizer's iteration budget is never the limit: it counts tokens and every token
  takes at least one character (Proofs/TokLoop.lean), so `length + 1` iterations always
  suffice and any larger budget gives the same result.  Removing a blank, on whole lines.
-/
namespace Abasic.Props.C12
open Abasic

variable {F : Type} [NumOps F]

theorem tokLoop_fuel_irrelevant (fuel : Nat) : ∀ (fuel' : Nat) (cs : Str) (idx : Nat) (acc : List (RangedToken F)),
    cs.length < fuel → cs.length < fuel' → tokLoop fuel cs idx acc = tokLoop fuel' cs idx acc := by
  intro fuel' cs idx acc h1 h2
  obtain ⟨out, e, h, hl, he, hlen⟩ := tokLoop_lexed_of_lt (F := F) h1 idx acc
  rw [h, hl.tokLoop_eq he fuel' acc (by omega)]

theorem tokenizeRanges_not_outOfFuel (line : Str) (skip : Nat) :
    (tokenizeRanges (F := F) line skip).2 ≠ some .outOfFuel :=
  C13.tokenize_total line skip

/-- Removing a blank from a line whose tokens are all unprotected changes no token. -/
theorem tokenize_del_unprotected (w : Char) (hw : isBasicWs w = true) {line line' : Str}
    (h : Ins w line line') (ts : List (Token F)) (hok : tokenize (F := F) line' 0 = .ok ts)
    (hun : ∀ t ∈ ts, Unprotected t = true) : tokenize (F := F) line 0 = .ok ts := by
  rw [tokenize_iff_toks] at hok ⊢
  exact toks_rel (respects_ins w hw).flip hok h hun

/-- Spacing, both ways: two lines related by one inserted/removed blank have the same
    unprotected tokenization. -/
theorem tokenize_ins_iff_unprotected (w : Char) (hw : isBasicWs w = true) {line line' : Str}
    (h : Ins w line line') (ts : List (Token F)) (hun : ∀ t ∈ ts, Unprotected t = true) :
    tokenize (F := F) line 0 = .ok ts ↔ tokenize (F := F) line' 0 = .ok ts :=
  ⟨fun hok => tokenize_ins_unprotected w hw h ts hok hun,
   fun hok => tokenize_del_unprotected w hw h ts hok hun⟩

end Abasic.Props.C12
