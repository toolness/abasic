import Abasic.Expr
/-
  C02 — the operator tiers of the model are the ones of the Rust source.

  `Extracted.evalChain` / `evalUnary` are regenerated on every run from
  abasic-core/src/expression.rs and operators.rs (tools/extract.py follows the
  call chain from `evaluate_expression` inwards and records, per tier, the
  tokens its loop accepts).  The theorems say that the hand-written model uses
  exactly those operator sets in exactly that nesting order; if a tier gains or
  loses an operator, or two tiers are swapped in the source, they stop checking.
-/
namespace Abasic.Props.C02
open Abasic

variable {F : Type}

def modelTiers : List (Token F → Option BinOp) := [orOps, andOps, cmpOps, addOps, mulOps, powOps]

theorem orExpr_nests_modelTiers [NumOps F] (ev : Evals F) :
    orExpr ev = (modelTiers (F := F)).foldr (fun ops sub => level sub ops) (unaryExpr ev) := rfl

theorem tiers_from_source (k : Kw) :
    Extracted.evalChain.length = 6 ∧
    (k ∈ Extracted.evalChain[0]! ↔ (orOps (F := F) (.kw k)).isSome) ∧
    (k ∈ Extracted.evalChain[1]! ↔ (andOps (F := F) (.kw k)).isSome) ∧
    (k ∈ Extracted.evalChain[2]! ↔ (cmpOps (F := F) (.kw k)).isSome) ∧
    (k ∈ Extracted.evalChain[3]! ↔ (addOps (F := F) (.kw k)).isSome) ∧
    (k ∈ Extracted.evalChain[4]! ↔ (mulOps (F := F) (.kw k)).isSome) ∧
    (k ∈ Extracted.evalChain[5]! ↔ (powOps (F := F) (.kw k)).isSome) ∧
    (k ∈ Extracted.evalUnary ↔ (UnOp.ofToken (F := F) (.kw k)).isSome) := by
  -- `decide` keyword by keyword (the tactic itself refuses the free `F`)
  cases k <;> exact of_decide_eq_true rfl

theorem tiers_only_keywords (t : Token F) (h : ∀ k, t ≠ .kw k) :
    orOps t = none ∧ andOps t = none ∧ cmpOps t = none ∧ addOps t = none ∧ mulOps t = none ∧ powOps t = none ∧
    UnOp.ofToken t = none := by
  cases t with
  | kw k => exact absurd rfl (h k)
  | _ => exact ⟨rfl, rfl, rfl, rfl, rfl, rfl, rfl⟩

end Abasic.Props.C02
