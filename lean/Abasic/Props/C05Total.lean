import Abasic.Props.C05Eval
import Abasic.Proofs.BudgetAnalyzerFuel
import Abasic.Proofs.AnalyzerFrame
import Abasic.Proofs.Cursor
import Abasic.Proofs.TokFast
/-
  C05, continued — the statement pass of a file, with its budgets.

  `analyzeStatements` (one iteration per statement of a line) and `analyzeProgram`
  (one iteration per stored line) carry iteration budgets of the model; an
  exhausted budget would set `Analysis.panicked`.  Neither ever is:

  * every statement analysis that succeeds consumed at least the token
    `hasNext` saw, and stays on the same line (`Budget.wp_aStmtBody`, on both
    paths); so `rem + 1` iterations suffice for a line and `analyzeProgram`
    passes `length + 2`;
  * `nextLine` moves to a strictly greater stored line number (`C04.after_least`),
    so the number of stored lines after the current one decreases; at most one
    line is stored per line of the file, and `analyzeFile` passes `lines.length + 2`.

  With the budget in hand each loop is ONE induction over its rounds (the equations of
  a round, and that the evaluator's invariant excludes the panic sites: C05Eval.lean), and says what
  the loop returns: the analysis it was given with another interpreter state and
  further diagnostics (`analyzeStatements_run`, `analyzeProgram_run`) — nothing
  else changes, the panic flag included.  `stmtPass` is that for a whole file.
  What follows for the finished analysis is in C05File.lean.
-/
namespace Abasic.Props.C05
open Abasic Abasic.AInv Abasic.Budget

variable {F : Type} [NumOps F]

def NoFuelDiag (d : Diag) : Prop := ∀ f e, d = .error f e → e.err ≠ .outOfFuel

def NoFuelMsgs (a : Analysis F) : Prop := ∀ d ∈ a.messages, NoFuelDiag d

/-- the analyzer's recursion fuel suffices from the state `s` -/
def FuelOK (fuel : Nat) (s : St F) : Prop :=
  Extracted.nestingLimit + 1 ≤ fuel + s.nesting ∧ s.nesting ≤ Extracted.nestingLimit

omit [NumOps F] in
theorem FuelOK.congr {fuel : Nat} {s s' : St F} (h : s'.nesting = s.nesting) (hf : FuelOK fuel s) :
    FuelOK fuel s' := by
  unfold FuelOK at hf ⊢
  rw [h]; exact hf

/-- A diagnostic of the statement pass: a plain evaluator error (no panic, no tokenization error, no
    DATA type mismatch) on the file line its location maps to; when `ok` — the recursion fuel
    suffices — it is not the model's `outOfFuel`. -/
def StmtMsg (m : FileMap) (ok : Prop) (d : Diag) : Prop :=
  ∃ f e loc x y, d = .error f e ∧ plain e.err = true ∧ e.loc = some loc ∧ m.mapLoc loc = some (f, x, y) ∧
    (ok → e.err ≠ .outOfFuel)

omit [NumOps F] in
theorem StmtMsg.mono {m : FileMap} {ok ok' : Prop} {d : Diag} (h : StmtMsg m ok d) (hok : ok' → ok) :
    StmtMsg m ok' d :=
  let ⟨f, e, loc, x, y, h1, h2, h3, h4, h5⟩ := h
  ⟨f, e, loc, x, y, h1, h2, h3, h4, fun h => h5 (hok h)⟩

omit [NumOps F] in
theorem StmtMsg.noFuel {m : FileMap} {ok : Prop} {d : Diag} (h : StmtMsg m ok d) (hok : ok) : NoFuelDiag d := by
  obtain ⟨f, e, _, _, _, rfl, _, _, _, h5⟩ := h
  intro f' e' heq
  cases heq
  exact h5 hok

omit [NumOps F] in
theorem noFuelMsgs_append {a : Analysis F} {m : FileMap} {ok : Prop} {st : St F} {extra : List Diag}
    (hold : NoFuelMsgs a) (hnew : ∀ d ∈ extra, StmtMsg m ok d) (hok : ok) :
    NoFuelMsgs ({ a with st := st, messages := a.messages ++ extra } : Analysis F) :=
  fun d hd => (List.mem_append.mp hd).elim (hold d) fun hd => (hnew d hd).noFuel hok

/-- The budget: above the number of tokens left on the line. -/
theorem analyzeStatements_run {L : Lines F} {m : FileMap} (hLM : LinesMapped L m) (fuel : Nat) :
    ∀ (n : Nat) (a : Analysis F), SInv L a.st → a.map = m → rem a.st < n →
      ∃ st extra, analyzeStatements fuel n a = { a with st := st, messages := a.messages ++ extra } ∧
        SInv L st ∧ Fr a.st st ∧ ∀ d ∈ extra, StmtMsg m (FuelOK fuel a.st) d := by
  intro n
  induction n with
  | zero => intro a _ _ h; omega
  | succ n ih =>
    intro a hs hm hn
    obtain ⟨b, st, hhn, hst⟩ := hasNext_ok hs
    obtain ⟨rfl, hb⟩ := wp_ok (wp_hasNext (E := FrE) a.st) hhn
    cases b with
    | false => exact ⟨_, [], by rw [analyzeStatements_noNext _ _ _ _ hhn, List.append_nil], hst, fr_rd _, fun _ h => nomatch h⟩
    | true =>
      have hcur : cur (Cur.rd a.st) ≠ none := by
        intro h
        rw [cur_rd] at h
        rw [h] at hb
        cases hb
      have hgood := good_aStmtBody (good_aEvalN (F := F) (L := L) fuel).1 (good_aEvalN (F := F) (L := L) fuel).2 _ hst
      have hw := wp_aStmtBody_frE (aEvOK_aEvalN (F := F) fuel) (Cur.rd a.st)
      cases hres : aStmtBody (aEvalN fuel) (Cur.rd a.st) with
      | ok u st' =>
        -- the statement consumed at least the token `hasNext` saw
        rw [hres] at hgood
        obtain ⟨hf, hlt⟩ := wp_ok hw hres
        have hlt' := hlt hcur
        rw [rem_rd] at hlt'
        obtain ⟨st2, extra, r1, r2, r3, r4⟩ := ih { a with st := st' } hgood.1 hm (by show rem st' < n; omega)
        exact ⟨st2, extra, (analyzeStatements_ok fuel n a hhn hres).trans r1, r2, (fr_rd _).trans (hf.trans r3),
          fun d hd => (r4 d hd).mono fun hfu => hfu.congr hf.nesting⟩
      | err e st' =>
        -- a plain error at a location on a stored line: it maps, and is the fuel error only if the fuel is short
        rw [hres] at hgood
        obtain ⟨hst', _, he⟩ := hgood
        obtain ⟨hplain, loc, hloc, hlocok⟩ := populate_ok hst' he
        obtain ⟨f, x, y, hmap⟩ := mapLoc_of_locOk hLM hlocok
        have hnf : NF (Extracted.nestingLimit + 2 - fuel) (Cur.rd a.st) e st' :=
          wp_err (sat_aStmtBodyD (aEvOKd_aEvalN (F := F) fuel) (Cur.rd a.st)) hres
        refine ⟨st', _, analyzeStatements_err fuel n a hhn hres (fun site h => by rw [h] at hplain; cases hplain) hloc
          (hm ▸ hmap), hst', (fr_rd _).trans (wp_err hw hres), fun d hd => ?_⟩
        cases List.mem_singleton.mp hd
        refine ⟨f, _, loc, x, y, rfl, hplain, hloc, hmap, fun hfu => ?_⟩
        rw [St.populate_err]
        refine hnf ?_ hfu.2
        have := hfu.1
        show Extracted.nestingLimit + 2 - fuel ≤ a.st.nesting + 1
        omega

/-- The statement budget is never exhausted. -/
theorem analyzeStatements_total {L : Lines F} {m : FileMap} (hLM : LinesMapped L m) (fuel : Nat) :
    ∀ (n : Nat) (a : Analysis F), SInv L a.st → a.map = m → a.panicked = none → rem a.st < n →
      (analyzeStatements fuel n a).panicked = none ∧ Fr a.st (analyzeStatements fuel n a).st ∧
      (FuelOK fuel a.st → NoFuelMsgs a → NoFuelMsgs (analyzeStatements fuel n a)) := by
  intro n a hs hm hp hn
  obtain ⟨st, extra, h, _, hfr, hmsg⟩ := analyzeStatements_run hLM fuel n a hs hm hn
  rw [h]
  exact ⟨hp, hfr, fun hfu hold => noFuelMsgs_append hold hmsg hfu⟩

/-- the number of stored lines after the current one -/
def later (L : Lines F) (s : St F) : Nat :=
  match s.loc.line with
  | some n => (L.sorted.filter fun k => decide (n < k)).length
  | none => 0

omit [NumOps F] in
theorem later_le (L : Lines F) (s : St F) : later L s ≤ L.sorted.length := by
  unfold later
  cases s.loc.line with
  | none => exact Nat.zero_le _
  | some n => exact List.length_filter_le _ _

theorem filter_length_lt (l : List Nat) (n m : Nat) (hnm : n < m) (hm : m ∈ l) :
    (l.filter fun k => decide (m < k)).length < (l.filter fun k => decide (n < k)).length := by
  -- the lines after `m` are those of the lines after `n` that are after `m`, and `m` is not among them
  have h : (l.filter fun k => decide (m < k)) = (l.filter fun k => decide (n < k)).filter fun k => decide (m < k) := by
    rw [List.filter_filter]
    congr 1
    funext k
    by_cases hk : m < k
    · have : n < k := by omega
      simp only [hk, this, decide_true, Bool.and_self]
    · simp only [hk, decide_false, Bool.false_and]
  rw [h]
  exact List.length_filter_lt_length_iff_exists.mpr
    ⟨m, List.mem_filter.mpr ⟨hm, decide_eq_true hnm⟩, by simp only [Nat.lt_irrefl, decide_false]; exact Bool.false_ne_true⟩

omit [NumOps F] in
theorem nextLine_true {s st : St F} (h : nextLine s = .ok true st) :
    ∃ n k, s.loc.line = some n ∧ s.lines.after n = some k ∧ st.loc.line = some k := by
  rw [Cur.nextLine_eq] at h
  cases hb : s.loc.line.bind s.lines.after with
  | none => rw [hb] at h; cases h
  | some k =>
    rw [hb] at h
    cases h
    obtain ⟨n, hn, hk⟩ := Option.bind_eq_some_iff.mp hb
    exact ⟨n, k, hn, hk, rfl⟩

omit [NumOps F] in
theorem later_nextLine {L : Lines F} (hwf : C04.WF L) {s st : St F} (hl : s.lines = L)
    (h : nextLine s = .ok true st) : later L st < later L s := by
  obtain ⟨n, k, h1, h2, h3⟩ := nextLine_true h
  rw [hl] at h2
  obtain ⟨hmem, hlt, _⟩ := (C04.after_least L hwf n).1 k h2
  unfold later
  rw [h1, h3]
  exact filter_length_lt _ n k hlt hmem

/-- The budget: above the number of stored lines after the current one. -/
theorem analyzeProgram_run {L : Lines F} {m : FileMap} (hwf : C04.WF L) (hLM : LinesMapped L m) (fuel : Nat) :
    ∀ (n : Nat) (a : Analysis F), SInv L a.st → a.map = m → a.panicked = none → later L a.st < n →
      ∃ st extra, analyzeProgram fuel n a = { a with st := st, messages := a.messages ++ extra } ∧
        SInv L st ∧ st.nesting = a.st.nesting ∧ ∀ d ∈ extra, StmtMsg m (FuelOK fuel a.st) d := by
  intro n
  induction n with
  | zero => intro a _ _ _ h; omega
  | succ n ih =>
    intro a hs hm hp hn
    obtain ⟨_, ts, _, _, _, hc⟩ := hs.toks
    have hts : toks a.st = some ts := hc
    have hrem : rem a.st < ts.length + 2 := by
      unfold rem
      rw [hts]
      simp only
      omega
    obtain ⟨st1, extra1, t1, h1, t2, t3⟩ := analyzeStatements_run hLM fuel (ts.length + 2) a hs hm hrem
    obtain ⟨b, st, hnl, hst⟩ := nextLine_ok hwf h1
    have heq := analyzeProgram_succ fuel n a hp (by rw [Cur.tokens_eq, hc]) (by rw [t1]; exact hp) (by rw [t1]; exact hnl)
    rw [t1] at heq
    have hnest := (nextLine_nesting hnl).trans t2.nesting
    cases b with
    | false => exact ⟨st, extra1, heq, hst, hnest, t3⟩
    | true =>
      have hdec := later_nextLine hwf h1.lines hnl
      have hsame : later L st1 = later L a.st := by
        unfold later
        rw [t2.line]
      obtain ⟨st2, extra2, r1, r2, r3, r4⟩ := ih { a with st := st, messages := a.messages ++ extra1 } hst hm hp
        (by show later L st < n; omega)
      refine ⟨st2, extra1 ++ extra2, heq.trans (r1.trans (by simp only [List.append_assoc])), r2, r3.trans hnest,
        fun d hd => ?_⟩
      rcases List.mem_append.mp hd with hd | hd
      · exact t3 d hd
      · exact (r4 d hd).mono fun hfu => hfu.congr hnest

/-- The line budget is never exhausted. -/
theorem analyzeProgram_total {L : Lines F} {m : FileMap} (hwf : C04.WF L) (hLM : LinesMapped L m)
    (fuel : Nat) : ∀ (n : Nat) (a : Analysis F), SInv L a.st → a.map = m → a.panicked = none →
      later L a.st < n → (analyzeProgram fuel n a).panicked = none ∧
        (FuelOK fuel a.st → NoFuelMsgs a → NoFuelMsgs (analyzeProgram fuel n a)) := by
  intro n a hs hm hp hn
  obtain ⟨st, extra, h, _, _, hmsg⟩ := analyzeProgram_run hwf hLM fuel n a hs hm hp hn
  rw [h]
  exact ⟨hp, fun hfu hold => noFuelMsgs_append hold hmsg hfu⟩

theorem insertSorted_length (n : Nat) (l : List Nat) : (Lines.insertSorted n l).length ≤ l.length + 1 := by
  induction l with
  | nil => simp [Lines.insertSorted]
  | cons k ks ih =>
    simp only [Lines.insertSorted]
    split
    · simp
    · split
      · simp
      · simp only [List.length_cons]; omega

theorem eraseSorted_length (n : Nat) (l : List Nat) : (Lines.eraseSorted n l).length ≤ l.length := by
  induction l with
  | nil => simp [Lines.eraseSorted]
  | cons k ks ih =>
    simp only [Lines.eraseSorted]
    split
    · simp only [List.length_cons]; omega
    · simp only [List.length_cons]; omega

omit [NumOps F] in
theorem set_sorted_length (L : Lines F) (n : Nat) (ts : List (Token F)) :
    (L.set n ts).sorted.length ≤ L.sorted.length + 1 := by
  unfold Lines.set
  split
  · have := eraseSorted_length n L.sorted
    show (Lines.eraseSorted n L.sorted).length ≤ _
    omega
  · exact insertSorted_length n L.sorted

theorem analyzeLine_sorted (a : Analysis F) (i : Nat) (line : Str) :
    (analyzeLine a i line).st.lines.sorted.length ≤ a.st.lines.sorted.length + 1 := by
  rw [analyzeLine_eq]
  cases C15.lineEdit F line with
  | none => exact Nat.le_succ _
  | some e => exact set_sorted_length a.st.lines e.1 _

theorem analyzeLines_sorted (a : Analysis F) (i : Nat) (lines : List Str) :
    (analyzeLines a i lines).st.lines.sorted.length ≤ a.st.lines.sorted.length + lines.length := by
  induction lines generalizing a i with
  | nil => exact Nat.le_refl _
  | cons l ls ih =>
    have h1 := ih (analyzeLine a i l) (i + 1)
    have h2 := analyzeLine_sorted a i l
    show (analyzeLines (analyzeLine a i l) (i + 1) ls).st.lines.sorted.length ≤ _
    simp only [List.length_cons]
    omega

/-- The statement pass of a file.  The line pass has stored at most one BASIC line per file line and
    left the line store and the file map in step (`LineInv`); from its first stored line `analyzeProgram`
    runs under the evaluator's invariant and within both budgets, and hands back what the line pass left `a0`
    with another interpreter state — same program, nesting counter back at 0, every recorded symbol access at a
    location that maps (so the symbol pass will not panic, `symbolWarnings_run`) — and further diagnostics. -/
theorem stmtPass (fuel : Nat) (lines : List Str) {a0 : Analysis F}
    (h0 : a0 = analyzeLines ({ lines := lines } : Analysis F) 0 lines) :
    ∃ st extra, analyzeProgram fuel (lines.length + 2) { a0 with st := a0.st.runFromFirst } =
        { a0 with st := st, messages := a0.messages ++ extra } ∧
      st.lines = a0.st.lines ∧ st.nesting = 0 ∧
      (∀ d ∈ extra, StmtMsg a0.map (Extracted.nestingLimit + 1 ≤ fuel) d) ∧
      ∀ x ∈ st.accesses, (a0.map.mapLoc { line := some x.2.1, idx := x.2.2.1 }).isSome = true := by
  have hinv := analyzeLines_lineInv ({ lines := lines } : Analysis F) 0 lines (lineInv_init lines)
  have hpan := (analyzeLines_file (F := F) lines).2.2.2
  have hlen : (analyzeLines ({ lines := lines } : Analysis F) 0 lines).st.lines.sorted.length ≤ lines.length := by
    have := analyzeLines_sorted ({ lines := lines } : Analysis F) 0 lines
    have h0 : ({ lines := lines } : Analysis F).st.lines.sorted.length = 0 := rfl
    omega
  have hnest : (analyzeLines ({ lines := lines } : Analysis F) 0 lines).st.nesting = 0 :=
    AFrame.analyzeLines_nesting _ 0 lines
  rw [← h0] at hinv hpan hlen hnest
  have hn : a0.st.runFromFirst.nesting = 0 := (runFromFirst_nesting a0.st).trans hnest
  obtain ⟨hno, hstart⟩ := runFromFirst_start hinv
  rcases hstart with ⟨hline, himm⟩ | hs
  · -- no BASIC line: nothing runs
    rw [analyzeProgram_nothing fuel (lines.length + 1) { a0 with st := a0.st.runFromFirst } hpan hline himm]
    refine ⟨{ a0.st.runFromFirst with reads := a0.st.runFromFirst.reads + 1 }, [], by rw [List.append_nil],
      (runFromFirst_facts a0.st).1, hn, (fun _ h => nomatch h), fun x hx => ?_⟩
    rw [show ({ a0.st.runFromFirst with reads := a0.st.runFromFirst.reads + 1 } : St F).accesses = [] from hno] at hx
    cases hx
  · -- the evaluator runs under its invariant, within both budgets
    have hlater : later a0.st.lines ({ a0 with st := a0.st.runFromFirst } : Analysis F).st < lines.length + 2 := by
      have := later_le a0.st.lines ({ a0 with st := a0.st.runFromFirst } : Analysis F).st
      omega
    obtain ⟨st, extra, h, hst, hnst, hmsg⟩ := analyzeProgram_run hinv.wf hinv.mapped fuel (lines.length + 2)
      { a0 with st := a0.st.runFromFirst } hs rfl hpan hlater
    refine ⟨st, extra, h, hst.lines, hnst.trans hn, fun d hd => (hmsg d hd).mono fun hf => ?_, fun x hx => ?_⟩
    · exact ⟨by show Extracted.nestingLimit + 1 ≤ fuel + a0.st.runFromFirst.nesting; omega,
        by show a0.st.runFromFirst.nesting ≤ Extracted.nestingLimit; omega⟩
    · obtain ⟨f, u, v, hmap⟩ := mapLoc_of_locOk hinv.mapped (hst.acc x hx)
      exact (congrArg Option.isSome hmap :)

/-! ### the budgeted loops of the analyzer's evaluator, one by one

  As for the interpreter (C01Budget.lean): with a budget above `rem σ` the
  result does not depend on the budget, and the loop raises no `outOfFuel`
  unless the recursive entry points do.  `aEvalN n` satisfies the assumption
  `AEvOKd (nestingLimit + 2 - n)` (`Budget.aEvOKd_aEvalN`). -/

section aloops
variable {d : Nat} {ev : AEvals F}

theorem aArrayIndexLoop_budget_irrelevant (hev : AEvOKd d ev) (b1 b2 arity : Nat) (σ : St F)
    (h1 : rem σ < b1) (h2 : rem σ < b2) : aArrayIndexLoop ev b1 arity σ = aArrayIndexLoop ev b2 arity σ :=
  (aArrayIndexLoop_wp2 hev b1 b2 arity σ h1 h2).1

theorem aArrayIndexLoop_not_exhausted (hev : AEvOKd d ev) (b arity : Nat) (σ : St F) (hb : rem σ < b)
    (h1 : d ≤ σ.nesting + 1) (h2 : σ.nesting ≤ Extracted.nestingLimit) (e : TErr) (σ' : St F)
    (he : aArrayIndexLoop ev b arity σ = .err e σ') : e.err ≠ .outOfFuel :=
  wp_err (aArrayIndexLoop_wp2 hev b b arity σ hb hb).2 he h1 h2

theorem aLevelLoop_budget_irrelevant {sub : M F VT} (hsub : Sat (NF d) Fr sub) (ops : Token F → Option BinOp)
    (tier : ATier) (b1 b2 : Nat) (v : VT) (σ : St F) (h1 : rem σ < b1) (h2 : rem σ < b2) :
    aLevelLoop sub ops tier b1 v σ = aLevelLoop sub ops tier b2 v σ :=
  (aLevelLoop_wp2 hsub ops tier b1 b2 v σ h1 h2).1

theorem aLevelLoop_not_exhausted {sub : M F VT} (hsub : Sat (NF d) Fr sub) (ops : Token F → Option BinOp)
    (tier : ATier) (b : Nat) (v : VT) (σ : St F) (hb : rem σ < b)
    (h1 : d ≤ σ.nesting + 1) (h2 : σ.nesting ≤ Extracted.nestingLimit) (e : TErr) (σ' : St F)
    (he : aLevelLoop sub ops tier b v σ = .err e σ') : e.err ≠ .outOfFuel :=
  wp_err (aLevelLoop_wp2 hsub ops tier b b v σ hb hb).2 he h1 h2

theorem aReadLoop_budget_irrelevant (hev : AEvOKd d ev) (b1 b2 : Nat) (σ : St F)
    (h1 : rem σ < b1) (h2 : rem σ < b2) : aReadLoop ev b1 σ = aReadLoop ev b2 σ :=
  (aReadLoop_wp2 hev b1 b2 σ h1 h2).1

theorem aReadLoop_not_exhausted (hev : AEvOKd d ev) (b : Nat) (σ : St F) (hb : rem σ < b)
    (h1 : d ≤ σ.nesting + 1) (h2 : σ.nesting ≤ Extracted.nestingLimit) (e : TErr) (σ' : St F)
    (he : aReadLoop ev b σ = .err e σ') : e.err ≠ .outOfFuel :=
  wp_err (aReadLoop_wp2 hev b b σ hb hb).2 he h1 h2

theorem aPrintLoop_budget_irrelevant (hev : AEvOKd d ev) (b1 b2 : Nat) (σ : St F)
    (h1 : rem σ < b1) (h2 : rem σ < b2) : aPrintLoop ev b1 σ = aPrintLoop ev b2 σ :=
  (aPrintLoop_wp2 hev b1 b2 σ h1 h2).1

theorem aPrintLoop_not_exhausted (hev : AEvOKd d ev) (b : Nat) (σ : St F) (hb : rem σ < b)
    (h1 : d ≤ σ.nesting + 1) (h2 : σ.nesting ≤ Extracted.nestingLimit) (e : TErr) (σ' : St F)
    (he : aPrintLoop ev b σ = .err e σ') : e.err ≠ .outOfFuel :=
  wp_err (aPrintLoop_wp2 hev b b σ hb hb).2 he h1 h2

end aloops

/-- the analyzer's recursion fuel: as `evalN_expr_not_outOfFuel` / `evalN_stmt_not_outOfFuel` -/
theorem aEvalN_not_outOfFuel (n : Nat) (σ : St F) (h2 : σ.nesting ≤ Extracted.nestingLimit) :
    (Extracted.nestingLimit + 1 ≤ n + σ.nesting →
      ∀ e σ', (aEvalN n).expr σ = .err e σ' → e.err ≠ .outOfFuel) ∧
    (Extracted.nestingLimit + 2 ≤ n + σ.nesting →
      ∀ e σ', (aEvalN n).stmt σ = .err e σ' → e.err ≠ .outOfFuel) :=
  ⟨fun h1 _ _ he => wp_err ((aEvOKd_aEvalN n).expr σ) he (by omega) h2,
   fun h1 _ _ he => wp_err ((aEvOKd_aEvalN n).stmt σ) he (by omega) h2⟩

/-- Non-vacuity: a multi-statement, multi-line file, analysed with no recursion
    fuel at all — the flag is clear (the fuel shortage is an error diagnostic). -/
example :
    (analyzeFile (F := Unit) 0 ["10 A = 1 : B = 2 : PRINT A; B".toList, "20 GOTO 10".toList]).panicked = none := by
  literal_chars
  decide +kernel

end Abasic.Props.C05
