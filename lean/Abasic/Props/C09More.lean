import Abasic.Props.C09
import Abasic.Proofs.CostLift
/-
  C09, the work bound: the token-cursor reads (`St.reads`, the `verif-hooks`
  counter: incremented by `peek`, through which every cursor primitive goes, and
  by INPUT's rewind) made by one host call are bounded linearly by the length of
  the line the call starts on, when the program has defined no function.

  Formulation of "no user-defined function": `σ.fns = []` at the start of the
  turn.  This is what holds after RUN / NEW / any program edit until a DEF
  statement is executed (`resetRuntime`, `setNumberedLine` clear the table), and
  it is the formulation under which the evaluator provably never enters the
  call protocol (`userFunctionCall` answers `none` at once).  A DEF statement
  executed *during* the turn is covered: nothing is evaluated after it in the
  same turn.

  `len` is the length of the line the turn STARTS on (`tlen σ`): after a jump
  (GOTO, GOSUB, RETURN, NEXT, END, STOP) at most a constant number of reads
  happen on the destination line, so its length does not enter.

  The accounting (Abasic/Proofs/Cost.lean, CostLift.lean): every token the
  cursor passes pays for 11 reads (a lone variable in an expression is looked
  at 10 times: 3 on the way down, 1 for a following `(`, 6 tier loops on the
  way up); INPUT's rewind costs one read per token it steps back.
-/
namespace Abasic.Props.C09
open Abasic Abasic.Cost Abasic.Hoare

variable {F : Type} [NumOps F]

/-! ### the cursor primitives

  `ECost c out m`: started with `c` credits on a line-internal cursor, `m` stays
  on the line, moves the cursor forward only, and ends with `out result`
  credits, where a read costs 1 and a token passed yields 11.  So `c ↦ c - 1`
  is "exactly one read, cursor unmoved", `c ↦ c - 1 + 11` "one read, one token". -/

omit [NumOps F] in
theorem peek_cost (σ : St F) :
    (peek σ).final = { σ with reads := σ.reads + 1 } ∧
    ∀ t σ', peek σ = .ok t σ' → t = (toks σ)[σ.loc.idx]? := by
  rcases peek_spec σ with h | ⟨e, h⟩
  · rw [h]; exact ⟨rfl, fun t σ' h' => by simp only [Res.ok.injEq] at h'; exact h'.1.symm⟩
  · rw [h]; exact ⟨rfl, fun t σ' h' => by cases h'⟩

omit [NumOps F] in
theorem next_cost (σ : St F) :
    (next σ).final.reads = σ.reads + 1 ∧
    (∀ σ', next σ = .ok none σ' → σ' = { σ with reads := σ.reads + 1 }) ∧
    (∀ t σ', next σ = .ok (some t) σ' → σ.loc.idx < tlen σ ∧
      σ' = { σ with reads := σ.reads + 1, loc := { σ.loc with idx := σ.loc.idx + 1 } }) := by
  rcases next_spec σ with ⟨h, _⟩ | ⟨t, h, ht⟩ | ⟨e, h⟩
  · rw [h]
    refine ⟨rfl, ?_, ?_⟩
    · intro σ' h'
      simp only [Res.ok.injEq, true_and] at h'
      exact h'.symm
    · intro t σ' h'
      simp only [Res.ok.injEq] at h'
      cases h'.1
  · rw [h]
    refine ⟨rfl, ?_, ?_⟩
    · intro σ' h'
      simp only [Res.ok.injEq] at h'
      cases h'.1
    · intro t' σ' h'
      simp only [Res.ok.injEq] at h'
      exact ⟨lt_of_getElem?_some ht, h'.2.symm⟩
  · rw [h]
    refine ⟨rfl, ?_, ?_⟩
    · intro σ' h'; cases h'
    · intro t σ' h'; cases h'

omit [NumOps F] in
theorem hasNext_cost {c : Nat} (h : 1 ≤ c) : ECost c (fun _ => c - 1) (hasNext (F := F)) := by
  obtain ⟨c, rfl⟩ := Nat.exists_eq_add_of_le' h; exact Cost.hasNext_cost
omit [NumOps F] in
theorem nextUnwrapped_cost {c : Nat} (h : 1 ≤ c) : ECost c (fun _ => c - 1 + 11) (nextUnwrapped (F := F)) := by
  obtain ⟨c, rfl⟩ := Nat.exists_eq_add_of_le' h; exact Cost.nextUnwrapped_cost
omit [NumOps F] in
theorem expect_cost {c : Nat} (k : Kw) (h : 1 ≤ c) : ECost c (fun _ => c - 1 + 11) (expect (F := F) k) := by
  obtain ⟨c, rfl⟩ := Nat.exists_eq_add_of_le' h; exact Cost.expect_cost k
omit [NumOps F] in
theorem accept_cost {c : Nat} (k : Kw) (h : 1 ≤ c) :
    ECost c (fun b => if b then c - 1 + 11 else c - 1) (accept (F := F) k) := by
  obtain ⟨c, rfl⟩ := Nat.exists_eq_add_of_le' h; exact Cost.accept_cost k
omit [NumOps F] in
theorem peekIsKw_cost {c : Nat} (k : Kw) (h : 1 ≤ c) : ECost c (fun _ => c - 1) (peekIsKw (F := F) k) := by
  obtain ⟨c, rfl⟩ := Nat.exists_eq_add_of_le' h; exact Cost.peekIsKw_cost k
omit [NumOps F] in
theorem tryNext_cost {α : Type} {c : Nat} (f : Token F → Option α) (h : 1 ≤ c) :
    ECost c (fun o => if o.isSome then c - 1 + 11 else c - 1) (tryNext f) := by
  obtain ⟨c, rfl⟩ := Nat.exists_eq_add_of_le' h; exact Cost.tryNext_cost f
omit [NumOps F] in
theorem discardRemaining_cost {c : Nat} : ECost c (fun _ => c) (discardRemaining (F := F)) :=
  Cost.discardRemaining_cost
omit [NumOps F] in
theorem rewindBeforeInput_cost (σ : St F) (h : σ.loc.idx ≤ tlen σ) :
    (rewindBeforeInput σ).final.reads ≤ σ.reads + tlen σ := by
  rcases rewindBeforeInput_cases σ with ⟨e, hr⟩ | ⟨i, hr⟩ <;> rw [hr]
  · show σ.reads ≤ _; omega
  · show σ.reads + (σ.loc.idx - i) ≤ _; omega

/-- Without user functions, an expression evaluation stays on its line, moves the cursor
    forward, and reads every token it passes fewer than 11 times on average; a failing one
    is bounded by the rest of the line. -/
theorem expr_cost (n : Nat) (σ : St F) (hf : σ.fns = []) (hi : σ.loc.idx ≤ tlen σ) :
    (∀ v σ', (evalN n).expr σ = .ok v σ' →
      toks σ' = toks σ ∧ σ'.fns = [] ∧ σ.loc.idx ≤ σ'.loc.idx ∧ σ'.loc.idx ≤ tlen σ ∧
      σ'.reads + 1 ≤ σ.reads + 11 * (σ'.loc.idx - σ.loc.idx)) ∧
    (∀ e σ', (evalN n).expr σ = .err e σ' → σ'.reads ≤ σ.reads + 11 * (tlen σ - σ.loc.idx) + 3) := by
  have h := (cost_evalN (F := F) n).1 0 σ ⟨hf, hi⟩
  constructor
  · intro v σ' hv
    obtain ⟨hs, h1, h2, h3⟩ := h.1 v σ' hv
    dsimp only at h3
    exact ⟨hs.toks, hs.fns.trans hf, h1, h2, by omega⟩
  · intro e σ' he
    exact h.2 e σ' he

/-- Without user functions, one statement activation (nested THEN / ELSE statements included,
    whatever line it ends on) makes at most 11 reads per remaining token of the line it starts on,
    plus the length of that line (INPUT's rewind), plus one. -/
theorem stmt_cost (n : Nat) (σ : St F) (hf : σ.fns = []) (hi : σ.loc.idx ≤ tlen σ) :
    ((evalN n).stmt σ).final.reads ≤ σ.reads + 11 * (tlen σ - σ.loc.idx) + tlen σ + 1 := by
  have h := (cost_evalN (F := F) n).2 0 σ ⟨hf, hi⟩
  cases hr : (evalN n).stmt σ with
  | ok a s => have := h.1 a s hr; unfold SBound at this; simp only [Res.final]; omega
  | err e s => have := h.2 e s hr; unfold SBound at this; simp only [Res.final]; omega

omit [NumOps F] in
theorem sequence_flat : Flat 1 (sequence (F := F)) := by
  unfold sequence
  refine flat_bind (b := 0) hasNext_flat (fun b => ?_)
  cases b
  · refine flat_of_rr ?_
    simp only [Bool.not_false, ↓reduceIte]
    refine respects_bind rr_nextLine (fun b' => ?_)
    cases b'
    · simp only [Bool.not_false, ↓reduceIte]
      exact respects_bind (rr_setImmediate _) (fun _ => rr_returnToIdle)
    · simp only [Bool.not_true, Bool.false_eq_true, ↓reduceIte]
      exact respects_pure _
  · simp only [Bool.not_true, Bool.false_eq_true, ↓reduceIte]
    exact flat_pure _ _

/-- a turn in the credit accounting: three credits suffice besides those of the line -/
theorem turn_scost (fuel : Nat) (c : Nat) : SCost (c + 3) c (runNextStatement (F := F) fuel) := by
  rw [turn_anatomy]
  have hmod : Respects RK (M.modify fun s : St F => { s with state := .running }) := by
    apply respects_modify
    intro σ; exact ⟨rfl, rfl, rfl, rfl, rfl⟩
  refine scost_bind (ecost_of_rk' hmod) (fun _ => scost_bind Cost.hasNext_cost fun b => ?_)
  cases b
  · exact scost_of_flat sequence_flat (by omega)
  · have hev := cost_evalN (F := F) fuel
    exact scost_bind_flat (k := 1) (cost_stmtBody _ hev.1 hev.2 (c + 1)) (fun _ => sequence_flat) (by omega)

theorem turn_exhausted (fuel : Nat) (σ : St F) (h : tlen σ ≤ σ.loc.idx) :
    (runNextStatement fuel σ).final.reads ≤ σ.reads + 2 := by
  rw [turn_anatomy]
  let σ1 : St F := { σ with state := .running }
  have hnone : (toks σ1)[σ1.loc.idx]? = none := by
    apply List.getElem?_eq_none
    exact h
  show (M.bindM (M.modify fun s => { s with state := .running }) _ σ).final.reads ≤ _
  simp only [M.bindM, M.modify]
  show (M.bindM hasNext _ σ1).final.reads ≤ _
  rcases peek_spec σ1 with hk | ⟨e, hk⟩
  · have hh : hasNext σ1 = .ok false { σ1 with reads := σ1.reads + 1 } := by
      simp only [hasNext, bind, M.bindM, hk, hnone]; rfl
    simp only [M.bindM, hh, Bool.false_eq_true, ↓reduceIte]
    have := sequence_flat (F := F) { σ1 with reads := σ1.reads + 1 }
    have h1 : ({ σ1 with reads := σ1.reads + 1 } : St F).reads = σ.reads + 1 := rfl
    rw [h1] at this
    exact this
  · have hh : hasNext σ1 = .err e { σ1 with reads := σ1.reads + 1 } := by
      simp only [hasNext, bind, M.bindM, hk]
    simp only [M.bindM, hh]
    show σ.reads + 1 ≤ _
    omega

/-- One turn (`run_next_statement`) of a program that has defined no function makes at most
    `11 * (tokens left on the line) + len + 3` reads, on the success and on the error path alike. -/
theorem turn_cost (fuel : Nat) (σ : St F) (hf : σ.fns = []) :
    (runNextStatement fuel σ).final.reads ≤ σ.reads + 11 * (tlen σ - σ.loc.idx) + tlen σ + 3 := by
  by_cases hi : σ.loc.idx ≤ tlen σ
  · have h := turn_scost (F := F) fuel 0 σ ⟨hf, hi⟩
    cases hr : runNextStatement fuel σ with
    | ok a s => have := h.1 a s hr; unfold SBound at this; simp only [Res.final]; omega
    | err e s => have := h.2 e s hr; unfold SBound at this; simp only [Res.final]; omega
  · have := turn_exhausted fuel σ (by omega)
    omega

omit [NumOps F] in
theorem postprocess_reads {α : Type} (m : M F α) (σ : St F) : (postprocess m σ).final.reads = (m σ).final.reads := by
  unfold postprocess
  cases m σ <;> rfl

/-- **C09, work bound.**  With `K = 12`, `K' = 3`: one host call `continue_evaluating`, in any state
    whose function table is empty, makes at most `K * len + K'` token-cursor reads, where `len` is
    the number of tokens of the line the call starts on; on the success and on the error path. -/
theorem work_bound (fuel : Nat) (σ : St F) (hf : σ.fns = []) :
    (continueEvaluating fuel σ).final.reads - σ.reads ≤ 12 * tlen σ + 3 := by
  have key : (continueEvaluating fuel σ).final.reads ≤ σ.reads + 11 * (tlen σ - σ.loc.idx) + tlen σ + 3 := by
    unfold continueEvaluating
    simp only [bind, M.bindM, M.get]
    by_cases hs : (σ.state != .running) = true
    · rw [if_pos hs]; show σ.reads ≤ _; omega
    · rw [if_neg hs, postprocess_reads]; exact turn_cost fuel σ hf
  omega

/-- the same with the constants existentially packaged, as the property is phrased -/
theorem work_bound_exists : ∃ K K' : Nat, ∀ (fuel : Nat) (σ : St F), σ.fns = [] →
    (∀ u σ', continueEvaluating fuel σ = .ok u σ' → σ'.reads - σ.reads ≤ K * tlen σ + K') ∧
    (∀ e σ', continueEvaluating fuel σ = .err e σ' → σ'.reads - σ.reads ≤ K * tlen σ + K') := by
  refine ⟨12, 3, fun fuel σ hf => ?_⟩
  have h := work_bound fuel σ hf
  constructor
  · intro u σ' hr; rw [hr] at h; exact h
  · intro e σ' hr; rw [hr] at h; exact h

/-- the same bound for the turn itself -/
theorem work_bound_run (fuel : Nat) (σ : St F) (hf : σ.fns = []) :
    (runNextStatement fuel σ).final.reads - σ.reads ≤ 12 * tlen σ + 3 := by
  have := turn_cost fuel σ hf
  omega

end Abasic.Props.C09
