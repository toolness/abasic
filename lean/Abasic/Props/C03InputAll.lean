import Abasic.Proofs.RunSim
import Abasic.Proofs.Stmt3TProg
import Abasic.Props.C03Input
import Abasic.Proofs.Stmt3TAll
import Abasic.Props.C03All
/-
  C03 / C08 — the run theorems of the reference machine with INPUT
  (Props/C03Input.lean) without their hypothesis `BaseTurns q fuel`: a turn with
  the cursor on a statement of Ref/Stmt3.lean is the reference step of that
  statement ALSO when other statements of the program (of the same line, too)
  are INPUTs.

  The statement lemmas of Proofs/Stmt3Base … Stmt3Def are proved for a
  `ProgView`: they look at the program only through `Sync` / `Pos` / `Outcome3` /
  `Mem3`, and Proofs/Stmt3TRel.lean gives that view of a program with INPUT
  statements (`ProgT`).  What INPUT contributes: its rendering holds no DATA
  token, begins with a token that is neither `:` nor ELSE, and has a fixed
  length — so DATA chunks, return addresses, loop addresses and the ELSE / colon
  tests behind a statement are what they are without it.  Two differences to
  `Mem3` of Stmt3Rel.lean are carried along: the output of the model is the
  PRINT records of the reference state in front of the log of the INPUT machine
  (`ProgT.base`), and no reply is pending (`Mem3.input`; no statement of
  Ref/Stmt3.lean touches it).
-/

namespace Abasic.Props.C03
open Abasic Abasic.Ref Abasic.ExprL Abasic.ExprL2 Abasic.StmtL Abasic.ProgL Abasic.Prog3L Abasic.Prog3I
open Abasic.InputL

variable {F : Type} [NumOps F]

/-- A turn (`run_next_statement`) with the cursor on a statement of Ref/Stmt3.lean
    standing on a line of a program with INPUT statements — on the same line or
    elsewhere — is the reference step of that statement (`RStepI`): the model lands
    in `Sync` with the next reference state, or fails with the same error, nothing
    printed, located on the same line (or, for an error in the body of a user
    function, on the line of a definition). -/
theorem baseTurns (q : RProgramI F) (fuel : Nat) (hfit : FitsI q) : BaseTurns q fuel := by
  intro x σ n j ss s replies hok hc hp hpc hl hs hloc
  have hc3 := Stmt3T.core3_of_coreI hc
  have hready : Stmt3T.SReady3 (Stmt3T.progOf q x) x.st (C17.turnStart σ) n j ss s fuel :=
    { wf := hfit.wf
      env := ⟨hc.env.lines, hc.env.warnings, hc.env.tracing⟩
      mem := hc3.mem.congr rfl rfl rfl rfl rfl rfl rfl rfl rfl
      inv := hc.inv
      nesting := hc.nesting
      line := hl
      stmt := hs
      locline := by show σ.loc.line = _; rw [hloc]
      idx := by show σ.loc.idx = _; rw [hloc]
      covered := hfit.covered (n, ss) (SeqL.line_mem (L := Prog3I.lang) hl) s (List.mem_of_getElem? hs)
      bodies := hok.bodies
      resolved := (hok.stmt n j ss s hpc hl hs).1
      fuel := (hok.stmt n j ss s hpc hl hs).2.1
      nest := (hok.stmt n j ss s hpc hl hs).2.2 }
  -- the turn goes where `seq` sends the statement's `Ctl2` …
  have hT : SeqL.StepsTo Prog3I.lang q (CoreI q { x with st := (s.exec (allDataI q) n j x.st).1, prompted := false })
      (FinalI { x with st := (s.exec (allDataI q) n j x.st).1, prompted := false }) (DefLine x.st) σ
      (runNextStatement fuel σ) (SeqL.seq Prog3I.lang q n j (s.exec (allDataI q) n j x.st).2) :=
    SeqL.turn (Prog3I.frame q _) hfit.wf.seq hc.env.lines.seq hl hs hloc
    (Stmt3T.outcome_seq hready.env hready.mem hc.nesting rfl (Stmt3L.exec3_inv (allDataI q) n j s x.st hc.inv)
      (Stmt3T.stmt3_run hready))
  -- … and so does the machine
  have hstep : RStepI q x replies =
      match RStepB q x.st n j s with
      | .inl r' => .inl ({ x with st := r' }, replies)
      | .inr e => .inr e := by
    simp only [RStepI, hpc, hl, hs]
    rfl
  rw [hstep, rstepB_seq]
  cases hq : SeqL.seq Prog3I.lang q n j (s.exec (allDataI q) n j x.st).2 with
  | inl pc =>
    rw [hq] at hT
    obtain ⟨σ', hσ', hland⟩ := hT
    have hx : ({ x with st := { (s.exec (allDataI q) n j x.st).1 with pc := pc }, prompted := false } : RStateI F) =
        { x with st := { (s.exec (allDataI q) n j x.st).1 with pc := pc } } := by
      cases x; simp only at hp; subst hp; rfl
    exact ⟨σ', hσ', hx ▸ sync_of_lands hland⟩
  | inr eln =>
    rw [hq] at hT
    obtain ⟨σ', te, l, h1, h2, h3, h4⟩ := hT
    exact ⟨σ', te, l, h1, h2, h3, h4.imp_right fun ⟨m, ⟨name, hm⟩, hl⟩ => ⟨name, m, hm, hl⟩⟩

theorem hostTurns_refines' {q : RProgramI F} {fuel : Nat} (hfit : FitsI q)
    (k : Nat) (x : RStateI F) (rs : List Str) (σ : St F) (h : Sync q x σ) (hsafe : SafeRunI q fuel x rs) :
    ∃ n, n ≤ k ∧ RunMatchI q (hostTurns fuel k rs σ) (RStepsI q n x rs) :=
  hostTurns_refines hfit (baseTurns q fuel hfit) k x rs σ h hsafe

theorem runI_start' {q : RProgramI F} {fuel : Nat} (hfit : FitsI q) {σ : St F}
    (h : PReadyI q σ) (rs : List Str) (hok : StepOkI q fuel (q.start σ.rng)) :
    TurnStepI q (q.start σ.rng) (startEvaluating fuel "RUN".toList σ) (RStepI q (q.start σ.rng) rs) :=
  runI_start hfit (baseTurns q fuel hfit) h rs hok

/-- **Whole runs with INPUT.** RUN followed by `k` turns of the host loop with the
    replies `replies` does what `n` steps of the reference machine of
    Ref/Prog3Input.lean with the same replies do, for some `n` between 1 and
    `k + 1`: the final states are in `Sync` and the same replies are left; or both fail
    with the same error, after the same output, on the same line.  Hypotheses: the
    program is well formed and its `base` statements are `Covered` (`FitsI`), the
    state RUN is typed into holds the program (`PReadyI`), and the side conditions
    on names, fuel and nesting hold along the reference run (`SafeRunI`). -/
theorem run3_input_refines' {q : RProgramI F} {fuel : Nat} (hfit : FitsI q) {σ : St F}
    (h : PReadyI q σ) (replies : List Str) (hsafe : SafeRunI q fuel (q.start σ.rng) replies) (k : Nat) :
    ∃ n, 1 ≤ n ∧ n ≤ k + 1 ∧ RunMatchI q (runHost fuel replies k σ) (RStepsI q n (q.start σ.rng) replies) :=
  run3_input_refines hfit (baseTurns q fuel hfit) h replies hsafe k

/-! ### a sufficient condition on the program text for `SafeRunI` (as `Static` of C03All.lean) -/

open Abasic.Stmt3L (Defines exec_fns)

def DefAtI (q : RProgramI F) (m : Nat) (name : Str) (d : FnDefSpec F) : Prop :=
  ∃ ss s, q.line m = some ss ∧ RStmtI.base s ∈ ss ∧ Defines s name d

def FnsOfI (q : RProgramI F) (fns : List (Str × FnDefSpec F)) : Prop :=
  ∀ name d, alGet name fns = some d → ∃ m, DefAtI q m name d

/-- For every function table made of definitions that occur in the program: the
    bodies and all `base` statements of the program use names consistently with
    it, and all `base` statements fit the fuel and the nesting cap. -/
structure StaticI (q : RProgramI F) (fuel : Nat) : Prop where
  ok : ∀ fns : List (Str × FnDefSpec F), FnsOfI q fns →
    (∀ name d, alGet name fns = some d → Resolved fns d.body) ∧
    ∀ l ∈ q, ∀ s, RStmtI.base s ∈ l.2 → ResolvedS fns s ∧ sdepth3 fns s ≤ fuel ∧ sdepth3 fns s ≤ Extracted.nestingLimit

theorem rstepsI_iterates (q : RProgramI F) :
    RunSim.Iterates (fun a : RStateI F × List Str => RStepI q a.1 a.2) (fun a e => (e.1, e.2, a.1))
      (fun n a => RStepsI q n a.1 a.2) :=
  ⟨fun _ => rfl, fun k _ _ h => rstepsI_ok k h, fun k _ e h => rstepsI_err k (e := e.1) (ln := e.2) h⟩

theorem fnsOfI_step {q : RProgramI F} {x x' : RStateI F} {rs rs' : List Str} (h : FnsOfI q x.st.fns)
    (hs : RStepI q x rs = .inl (x', rs')) : FnsOfI q x'.st.fns := by
  unfold RStepI at hs
  split at hs
  · cases hs; exact h
  · rename_i n j _
    split at hs
    · cases hs; exact h
    · rename_i ss hl
      split at hs
      · cases hs; exact h
      · rename_i s hsj
        split at hs
        · rename_i r' hb
          cases hs
          rw [rstepB_seq] at hb
          cases hq : SeqL.seq Prog3I.lang q n j (s.exec (allDataI q) n j x.st).2 <;> rw [hq] at hb <;> cases hb
          intro name d hd
          rcases (exec_fns (allDataI q) n j s x.st).1 name d hd with h' | h'
          · exact h name d h'
          · exact ⟨n, ss, s, hl, List.mem_of_getElem? hsj, h'⟩
        · cases hs
      · repeat' split at hs
        all_goals cases hs; exact h

theorem stepOkI_of_static {q : RProgramI F} {fuel : Nat} (h : StaticI q fuel) {x : RStateI F}
    (ht : FnsOfI q x.st.fns) : StepOkI q fuel x := by
  obtain ⟨h1, h2⟩ := h.ok x.st.fns ht
  exact ⟨h1, fun n j ss s _ hl hs => h2 (n, ss) (SeqL.line_mem (L := Prog3I.lang) hl) s (List.mem_of_getElem? hs)⟩

theorem safeRunI_of_static {q : RProgramI F} {fuel : Nat} (h : StaticI q fuel) (g : Nat) (rs : List Str) :
    SafeRunI q fuel (q.start g) rs :=
  fun m x' rs' hm => stepOkI_of_static h ((rstepsI_iterates q).keeps (I := fun a => FnsOfI q a.1.st.fns)
    (fun _ _ hI hs => fnsOfI_step hI hs) m (q.start g, rs) (x', rs') (fun name d hd => by cases hd) hm)

/-- **Whole runs with INPUT, static hypotheses only.**  For a program that is
    well formed, whose `base` statements are covered (`FitsI`) and use names,
    fuel and nesting consistently (`StaticI`): RUN and `k` turns of the host
    loop with ANY replies do what between 1 and `k + 1` steps of the reference
    machine with INPUT do with the same replies. -/
theorem run3_input_refines_static {q : RProgramI F} {fuel : Nat} (hfit : FitsI q) (hst : StaticI q fuel) {σ : St F}
    (h : PReadyI q σ) (replies : List Str) (k : Nat) :
    ∃ n, 1 ≤ n ∧ n ≤ k + 1 ∧ RunMatchI q (runHost fuel replies k σ) (RStepsI q n (q.start σ.rng) replies) :=
  run3_input_refines' hfit h replies (safeRunI_of_static hst σ.rng replies) k

/-! ### non-vacuity: `DemoI.prog` of C03Input.lean — PRINT and INPUT on the same line

  ```
  10 PRINT "A"; : INPUT X$ : PRINT X$;
  20 INPUT N : PRINT "B";
  ``` -/

namespace DemoI

theorem prog_fits : FitsI prog where
  wf := ⟨by decide, by simp [prog]⟩
  covered := by simp [prog, RStmt3.Covered, RStmt3.CoveredB, RStmt3.isLine, separated3]

theorem prog_nofns {fns : List (Str × FnDefSpec Unit)} (h : FnsOfI prog fns) (name : Str) : alGet name fns = none := by
  cases hg : alGet name fns with
  | none => rfl
  | some d =>
    obtain ⟨m, ss, s, hl, hs, hd⟩ := h name d hg
    have hmem : (m, ss) ∈ prog := SeqL.line_mem (L := Prog3I.lang) hl
    simp [prog] at hmem
    rcases hmem with ⟨_, rfl⟩ | ⟨_, rfl⟩
    · simp at hs
      rcases hs with rfl | rfl <;> exact hd.elim
    · simp at hs
      subst hs
      exact hd.elim

theorem prog_static : StaticI prog defaultFuel where
  ok := by
    intro fns hf
    refine ⟨fun name d hg => (by rw [prog_nofns hf name] at hg; cases hg), ?_⟩
    simp [prog, ResolvedS, ResolvedItems, Resolved, sdepth3, itemsDepth3, edepth, depth2, defaultFuel,
      Extracted.nestingLimit]

theorem prog_ready : PReadyI prog ({ lines := compilePI prog } : St Unit) :=
  ⟨rfl, holds_compileI prog, rfl, rfl, rfl, rfl, by show (0 : Nat) < Extracted.rngModulus; decide⟩

/-- No assumption left: the run of `model_run` (C03Input.lean) — RUN and 12 host
    turns with the replies `HI, THERE`, `X`, `1` on a program that has PRINT
    statements in front of and behind an INPUT on the same line — is a run of the
    reference machine with INPUT with the same replies. -/
example : ∃ n, 1 ≤ n ∧ n ≤ 13 ∧
    RunMatchI prog (runHost defaultFuel replies 12 ({ lines := compilePI prog } : St Unit))
      (RStepsI prog n (prog.start 0) replies) :=
  run3_input_refines_static prog_fits prog_static prog_ready replies 12

end DemoI

end Abasic.Props.C03
