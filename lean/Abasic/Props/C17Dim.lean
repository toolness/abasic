import Abasic.Stmt
/-
  C17 — `DIM X` without parentheses declares nothing (an implementation that stores the default value there makes the
  later "use of undeclared variable" warning disappear).

  For the immediate line / numbered line whose tokens at the cursor are `X` followed by anything but `(` (or by nothing):
  the DIM statement succeeds, moves the cursor past the name, counts two token reads, and leaves variables, arrays and
  the output queue exactly as they were - so whether a later read of X warns is what it was before the DIM.
-/
namespace Abasic.Props.C17
open Abasic

variable {F : Type} [NumOps F]

theorem dim_scalar_declares_nothing (ev : Evals F) (σ : St F) (name : Str) (rest : List (Token F))
    (himm : σ.loc.line = none) (hidx : σ.loc.idx = 0) (htoks : σ.imm = Token.symbol name :: rest)
    (hnot : ∀ t, rest.head? = some t → t.isKw .LeftParen = false) :
    ∃ σ', dimStatement ev σ = .ok () σ' ∧ σ'.vars = σ.vars ∧ σ'.arrays = σ.arrays ∧ σ'.out = σ.out ∧
      σ'.loc.idx = 1 ∧ σ'.imm = σ.imm := by
  cases hr : rest with
  | nil =>
    subst hr
    refine ⟨{ σ with reads := σ.reads + 1 + 1, loc := { σ.loc with idx := σ.loc.idx + 1 } }, ?_, ?_⟩
    · simp [dimStatement, parseLValue, next, peek, advance, optionalArrayIndex, peekIsKw, tokens, tokensForLine,
        bind, M.bindM, M.get, M.modify, pure, M.pureM, himm, hidx, htoks]
    · simp [hidx]
  | cons t ts =>
    subst hr
    have ht : t.isKw .LeftParen = false := hnot t rfl
    refine ⟨{ σ with reads := σ.reads + 1 + 1, loc := { σ.loc with idx := σ.loc.idx + 1 } }, ?_, ?_⟩
    · simp [dimStatement, parseLValue, next, peek, advance, optionalArrayIndex, peekIsKw, tokens, tokensForLine,
        bind, M.bindM, M.get, M.modify, pure, M.pureM, himm, hidx, htoks, ht]
    · simp [hidx]

/-- in particular X is as unassigned after `DIM X` as it was before: the lookup a read makes is unchanged -/
theorem dim_scalar_keeps_unassigned (ev : Evals F) (σ : St F) (name : Str) (rest : List (Token F))
    (himm : σ.loc.line = none) (hidx : σ.loc.idx = 0) (htoks : σ.imm = Token.symbol name :: rest)
    (hnot : ∀ t, rest.head? = some t → t.isKw .LeftParen = false) (x : Str) :
    ∃ σ', dimStatement ev σ = .ok () σ' ∧ alGet x σ'.vars = alGet x σ.vars := by
  obtain ⟨σ', h, hv, _⟩ := dim_scalar_declares_nothing ev σ name rest himm hidx htoks hnot
  exact ⟨σ', h, by rw [hv]⟩

/-- non-vacuity: the immediate line `X` (what is left of `DIM X` behind the keyword), nothing stored -/
example (ev : Evals Unit) : ∃ σ', dimStatement ev ({ imm := [Token.symbol "X".toList] } : St Unit) = .ok () σ' ∧
    alGet "X".toList σ'.vars = none := by
  obtain ⟨σ', h, hv⟩ := dim_scalar_keeps_unassigned ev ({ imm := [Token.symbol "X".toList] } : St Unit) "X".toList [] rfl rfl rfl
    (by intro t ht; cases ht) "X".toList
  exact ⟨σ', h, by rw [hv]; rfl⟩

end Abasic.Props.C17
