import Abasic.Proofs.BudgetEval
/-
  C01 — termination: the model's iteration budgets and its recursion fuel
  are never the limit.

  The Rust evaluator uses unbounded `loop {}` / `while` and native recursion;
  the model gives each loop a budget (`lineBudget` = tokens of the line + 1) and
  the recursion a fuel (`evalN n`), and fails with `Err.outOfFuel` when one runs
  out.  Each iteration of a budgeted loop consumes a token or exits, so any two
  budgets above `rem σ` (the tokens left on the current line) give the same
  result and none is exhausted, as long as the recursive entry points raise no
  `outOfFuel`; the callers pass `lineBudget`, which is such a budget.  `evalN n`
  raises no `outOfFuel` from a state with nesting counter `k ≤ nestingLimit`
  when `nestingLimit + 1 ≤ n + k` (expressions) resp. `nestingLimit + 2 ≤ n + k`
  (statements) — in particular `defaultFuel` from `k = 0`; the bound for
  expressions is sharp.

  (The analyzer's budgets: Abasic/Props/C05Total.lean.)
  The assumption on the recursive entry points is `Budget.EvOK d ev`; it holds
  of `evalN n` for `d = nestingLimit + 2 - n` (`Budget.evOK_evalN`) and, with
  `d = nestingLimit + 2` (no claim about errors), of every `ev` whose `expr`
  keeps the frame and consumes a token and whose `stmt` keeps the nesting
  counter (`Budget.evOK_of_frame`).
-/
namespace Abasic.Props.C01
open Abasic Abasic.Budget

variable {F : Type} [NumOps F]

def NoFuelErr {α : Type} (m : M F α) (σ : St F) : Prop :=
  ∀ e σ', m σ = .err e σ' → e.err ≠ .outOfFuel

/-- the nesting counter of `σ` is in the window where `EvOK d` speaks about errors -/
def InWindow (d : Nat) (σ : St F) : Prop := d ≤ σ.nesting + 1 ∧ σ.nesting ≤ Extracted.nestingLimit

omit [NumOps F] in
theorem noFuelErr_of_wp {α : Type} {d : Nat} {m : M F α} {Q : α → St F → Prop} {σ : St F}
    (h : wp (NF d) m Q σ) (hw : InWindow d σ) : NoFuelErr m σ :=
  fun _ _ hm => wp_err h hm hw.1 hw.2

omit [NumOps F] in
theorem noFuelErr_of_sat {α : Type} {d : Nat} {R : St F → St F → Prop} {m : M F α} (h : Sat (NF d) R m)
    {σ : St F} (hw : InWindow d σ) : NoFuelErr m σ :=
  noFuelErr_of_wp (h σ) hw

omit [NumOps F] in
theorem inWindow_evalN {n : Nat} {σ : St F} (h1 : Extracted.nestingLimit + 1 ≤ n + σ.nesting)
    (h2 : σ.nesting ≤ Extracted.nestingLimit) : InWindow (Extracted.nestingLimit + 2 - n) σ :=
  ⟨by omega, h2⟩

section loops
variable {d : Nat} {ev : Evals F}

theorem arrayIndexLoop_budget_irrelevant (hev : EvOK d ev) (b1 b2 : Nat) (acc : List Nat) (σ : St F)
    (h1 : rem σ < b1) (h2 : rem σ < b2) : arrayIndexLoop ev b1 acc σ = arrayIndexLoop ev b2 acc σ :=
  (arrayIndexLoop_wp2 hev b1 b2 acc σ h1 h2).1

theorem arrayIndexLoop_not_exhausted (hev : EvOK d ev) (b : Nat) (acc : List Nat) (σ : St F)
    (hb : rem σ < b) (hw : InWindow d σ) : NoFuelErr (arrayIndexLoop ev b acc) σ :=
  noFuelErr_of_wp (arrayIndexLoop_wp2 hev b b acc σ hb hb).2 hw

theorem arrayIndex_noFuelErr (hev : EvOK d ev) (σ : St F) (hw : InWindow d σ) : NoFuelErr (arrayIndex ev) σ :=
  noFuelErr_of_sat (sat_arrayIndex hev) hw

theorem levelLoop_budget_irrelevant {sub : M F (Value F)} (hsub : Sat (NF d) Fr sub)
    (ops : Token F → Option BinOp) (b1 b2 : Nat) (v : Value F) (σ : St F) (h1 : rem σ < b1) (h2 : rem σ < b2) :
    levelLoop sub ops b1 v σ = levelLoop sub ops b2 v σ :=
  (levelLoop_wp2 hsub ops b1 b2 v σ h1 h2).1

theorem levelLoop_not_exhausted {sub : M F (Value F)} (hsub : Sat (NF d) Fr sub)
    (ops : Token F → Option BinOp) (b : Nat) (v : Value F) (σ : St F) (hb : rem σ < b) (hw : InWindow d σ) :
    NoFuelErr (levelLoop sub ops b v) σ :=
  noFuelErr_of_wp (levelLoop_wp2 hsub ops b b v σ hb hb).2 hw

theorem level_noFuelErr {sub : M F (Value F)} (hsub : SatS (NF d) sub) (ops : Token F → Option BinOp)
    (σ : St F) (hw : InWindow d σ) : NoFuelErr (level sub ops) σ :=
  noFuelErr_of_wp (satS_level hsub ops σ) hw

theorem orExpr_noFuelErr (hev : EvOK d ev) (σ : St F) (hw : InWindow d σ) : NoFuelErr (orExpr ev) σ :=
  noFuelErr_of_wp (satS_orExpr hev σ) hw

theorem ifSkipLoop_budget_irrelevant (hev : EvOK d ev) (b1 b2 : Nat) (σ : St F)
    (h1 : rem σ < b1) (h2 : rem σ < b2) : ifSkipLoop ev b1 σ = ifSkipLoop ev b2 σ :=
  (ifSkipLoop_wp2 hev b1 b2 σ h1 h2).1

theorem ifSkipLoop_not_exhausted (hev : EvOK d ev) (b : Nat) (σ : St F) (hb : rem σ < b) (hw : InWindow d σ) :
    NoFuelErr (ifSkipLoop ev b) σ :=
  noFuelErr_of_wp (ifSkipLoop_wp2 hev b b σ hb hb).2 hw

theorem ifStatement_noFuelErr (hev : EvOK d ev) (σ : St F) (hw : InWindow d σ) : NoFuelErr (ifStatement ev) σ :=
  noFuelErr_of_sat (sat_ifStatement hev) hw

theorem readLoop_budget_irrelevant (hev : EvOK d ev) (b1 b2 : Nat) (σ : St F)
    (h1 : rem σ < b1) (h2 : rem σ < b2) : readLoop ev b1 σ = readLoop ev b2 σ :=
  (readLoop_wp2 hev b1 b2 σ h1 h2).1

theorem readLoop_not_exhausted (hev : EvOK d ev) (b : Nat) (σ : St F) (hb : rem σ < b) (hw : InWindow d σ) :
    NoFuelErr (readLoop ev b) σ :=
  noFuelErr_of_wp (readLoop_wp2 hev b b σ hb hb).2 hw

theorem readStatement_noFuelErr (hev : EvOK d ev) (σ : St F) (hw : InWindow d σ) :
    NoFuelErr (readStatement ev) σ :=
  noFuelErr_of_sat (sat_readStatement hev) hw

theorem printLoop_budget_irrelevant (hev : EvOK d ev) (b1 b2 : Nat) (semi : Bool) (acc : Str) (σ : St F)
    (h1 : rem σ < b1) (h2 : rem σ < b2) : printLoop ev b1 semi acc σ = printLoop ev b2 semi acc σ :=
  (printLoop_wp2 hev b1 b2 semi acc σ h1 h2).1

theorem printLoop_not_exhausted (hev : EvOK d ev) (b : Nat) (semi : Bool) (acc : Str) (σ : St F)
    (hb : rem σ < b) (hw : InWindow d σ) : NoFuelErr (printLoop ev b semi acc) σ :=
  noFuelErr_of_wp (printLoop_wp2 hev b b semi acc σ hb hb).2 hw

theorem printStatement_noFuelErr (hev : EvOK d ev) (σ : St F) (hw : InWindow d σ) :
    NoFuelErr (printStatement ev) σ :=
  noFuelErr_of_sat (sat_printStatement hev) hw

end loops

/-! `defArgsLoop`, `skipToColonLoop` (DEF): no recursive entry point involved -/

omit [NumOps F] in
theorem defArgsLoop_budget_irrelevant (b1 b2 : Nat) (acc : List Str) (σ : St F)
    (h1 : rem σ < b1) (h2 : rem σ < b2) : defArgsLoop b1 acc σ = defArgsLoop b2 acc σ :=
  (defArgsLoop_wp2 (E := NF 0) b1 b2 acc σ h1 h2).1

omit [NumOps F] in
theorem defArgsLoop_not_exhausted (b : Nat) (acc : List Str) (σ : St F) (hb : rem σ < b)
    (hl : σ.nesting ≤ Extracted.nestingLimit) : NoFuelErr (defArgsLoop b acc) σ :=
  noFuelErr_of_wp (defArgsLoop_wp2 (E := NF 0) b b acc σ hb hb).2 ⟨Nat.zero_le _, hl⟩

omit [NumOps F] in
theorem skipToColonLoop_budget_irrelevant (b1 b2 : Nat) (σ : St F)
    (h1 : rem σ < b1) (h2 : rem σ < b2) : skipToColonLoop b1 σ = skipToColonLoop b2 σ :=
  (skipToColonLoop_wp2 (E := NF 0) b1 b2 σ h1 h2).1

omit [NumOps F] in
theorem skipToColonLoop_not_exhausted (b : Nat) (σ : St F) (hb : rem σ < b)
    (hl : σ.nesting ≤ Extracted.nestingLimit) : NoFuelErr (skipToColonLoop b) σ :=
  noFuelErr_of_wp (skipToColonLoop_wp2 (E := NF 0) b b σ hb hb).2 ⟨Nat.zero_le _, hl⟩

omit [NumOps F] in
theorem defStatement_noFuelErr (σ : St F) (hl : σ.nesting ≤ Extracted.nestingLimit) :
    NoFuelErr (defStatement (F := F)) σ :=
  noFuelErr_of_sat (sat_defStatement (E := NF 0)) ⟨Nat.zero_le _, hl⟩

/-! For the model's own evaluator budget irrelevance needs no condition on the fuel (only the frame of
  `evalN n`); budget non-exhaustion is about `outOfFuel`, which `evalN n` itself
  raises when `n` is too small, hence the window `nestingLimit + 1 ≤ n + nesting`. -/

section evalN
variable (n : Nat)

theorem arrayIndexLoop_evalN_budget_irrelevant (b1 b2 : Nat) (acc : List Nat) (σ : St F)
    (h1 : rem σ < b1) (h2 : rem σ < b2) :
    arrayIndexLoop (evalN n) b1 acc σ = arrayIndexLoop (evalN n) b2 acc σ :=
  arrayIndexLoop_budget_irrelevant (evOK_evalN n) b1 b2 acc σ h1 h2

theorem ifSkipLoop_evalN_budget_irrelevant (b1 b2 : Nat) (σ : St F) (h1 : rem σ < b1) (h2 : rem σ < b2) :
    ifSkipLoop (evalN n) b1 σ = ifSkipLoop (evalN n) b2 σ :=
  ifSkipLoop_budget_irrelevant (evOK_evalN n) b1 b2 σ h1 h2

theorem readLoop_evalN_budget_irrelevant (b1 b2 : Nat) (σ : St F) (h1 : rem σ < b1) (h2 : rem σ < b2) :
    readLoop (evalN n) b1 σ = readLoop (evalN n) b2 σ :=
  readLoop_budget_irrelevant (evOK_evalN n) b1 b2 σ h1 h2

theorem printLoop_evalN_budget_irrelevant (b1 b2 : Nat) (semi : Bool) (acc : Str) (σ : St F)
    (h1 : rem σ < b1) (h2 : rem σ < b2) :
    printLoop (evalN n) b1 semi acc σ = printLoop (evalN n) b2 semi acc σ :=
  printLoop_budget_irrelevant (evOK_evalN n) b1 b2 semi acc σ h1 h2

variable {n}

theorem arrayIndexLoop_evalN_not_exhausted (b : Nat) (acc : List Nat) (σ : St F) (hb : rem σ < b)
    (h1 : Extracted.nestingLimit + 1 ≤ n + σ.nesting) (h2 : σ.nesting ≤ Extracted.nestingLimit) :
    NoFuelErr (arrayIndexLoop (evalN n) b acc) σ :=
  arrayIndexLoop_not_exhausted (evOK_evalN n) b acc σ hb (inWindow_evalN h1 h2)

theorem ifSkipLoop_evalN_not_exhausted (b : Nat) (σ : St F) (hb : rem σ < b)
    (h1 : Extracted.nestingLimit + 1 ≤ n + σ.nesting) (h2 : σ.nesting ≤ Extracted.nestingLimit) :
    NoFuelErr (ifSkipLoop (evalN n) b) σ :=
  ifSkipLoop_not_exhausted (evOK_evalN n) b σ hb (inWindow_evalN h1 h2)

theorem readLoop_evalN_not_exhausted (b : Nat) (σ : St F) (hb : rem σ < b)
    (h1 : Extracted.nestingLimit + 1 ≤ n + σ.nesting) (h2 : σ.nesting ≤ Extracted.nestingLimit) :
    NoFuelErr (readLoop (evalN n) b) σ :=
  readLoop_not_exhausted (evOK_evalN n) b σ hb (inWindow_evalN h1 h2)

theorem printLoop_evalN_not_exhausted (b : Nat) (semi : Bool) (acc : Str) (σ : St F) (hb : rem σ < b)
    (h1 : Extracted.nestingLimit + 1 ≤ n + σ.nesting) (h2 : σ.nesting ≤ Extracted.nestingLimit) :
    NoFuelErr (printLoop (evalN n) b semi acc) σ :=
  printLoop_not_exhausted (evOK_evalN n) b semi acc σ hb (inWindow_evalN h1 h2)

theorem orExpr_evalN_noFuelErr (σ : St F)
    (h1 : Extracted.nestingLimit + 1 ≤ n + σ.nesting) (h2 : σ.nesting ≤ Extracted.nestingLimit) :
    NoFuelErr (orExpr (evalN n)) σ :=
  orExpr_noFuelErr (evOK_evalN n) σ (inWindow_evalN h1 h2)

end evalN

/-- **Expressions.**  Every recursive entry passes through `nested`, which raises the
    nesting counter and refuses at the cap with OUT OF MEMORY first. -/
theorem evalN_expr_not_outOfFuel (n : Nat) (σ : St F)
    (h1 : Extracted.nestingLimit + 1 ≤ n + σ.nesting) (h2 : σ.nesting ≤ Extracted.nestingLimit) :
    NoFuelErr (evalN n).expr σ :=
  noFuelErr_of_wp ((evOK_evalN n).expr σ) (inWindow_evalN h1 h2)

/-- **Statements**: one more unit, because `stmtBody` is entered without `nested`. -/
theorem evalN_stmt_not_outOfFuel (n : Nat) (σ : St F)
    (h1 : Extracted.nestingLimit + 2 ≤ n + σ.nesting) (h2 : σ.nesting ≤ Extracted.nestingLimit) :
    NoFuelErr (evalN n).stmt σ :=
  noFuelErr_of_wp ((evOK_evalN n).stmt σ) ⟨by omega, h2⟩

theorem stmtBody_evalN_not_outOfFuel (fuel : Nat) (σ : St F)
    (h1 : Extracted.nestingLimit + 1 ≤ fuel + σ.nesting) (h2 : σ.nesting ≤ Extracted.nestingLimit) :
    NoFuelErr (stmtBody (evalN fuel)) σ :=
  noFuelErr_of_sat (sat_stmtBody (evOK_evalN fuel)) (inWindow_evalN h1 h2)

/-- `defaultFuel` is enough from every state within the cap — in particular
    from the reachable ones, where the counter is 0 (C01). -/
theorem defaultFuel_expr_not_outOfFuel (σ : St F) (h : σ.nesting ≤ Extracted.nestingLimit) :
    NoFuelErr (evalN defaultFuel).expr σ :=
  evalN_expr_not_outOfFuel defaultFuel σ (by unfold defaultFuel; omega) h

theorem defaultFuel_stmt_not_outOfFuel (σ : St F) (h : σ.nesting ≤ Extracted.nestingLimit) :
    NoFuelErr (evalN defaultFuel).stmt σ :=
  evalN_stmt_not_outOfFuel defaultFuel σ (by unfold defaultFuel; omega) h

theorem defaultFuel_stmtBody_not_outOfFuel (σ : St F) (h : σ.nesting ≤ Extracted.nestingLimit) :
    NoFuelErr (stmtBody (evalN defaultFuel)) σ :=
  stmtBody_evalN_not_outOfFuel defaultFuel σ (by unfold defaultFuel; omega) h

theorem enough_fuel_not_outOfFuel (n : Nat) (hn : Extracted.nestingLimit + 2 ≤ n) (σ : St F)
    (h : σ.nesting = 0) : NoFuelErr (evalN n).expr σ ∧ NoFuelErr (evalN n).stmt σ :=
  ⟨evalN_expr_not_outOfFuel n σ (by omega) (by omega), evalN_stmt_not_outOfFuel n σ (by omega) (by omega)⟩

theorem startEvaluating_not_outOfFuel (fuel : Nat) (line : Str) (σ : St F)
    (h1 : Extracted.nestingLimit + 1 ≤ fuel + σ.nesting) (h2 : σ.nesting ≤ Extracted.nestingLimit) :
    NoFuelErr (startEvaluating fuel line) σ :=
  noFuelErr_of_sat (sat_startEvaluating fuel (Nat.le_refl _) line) (inWindow_evalN h1 h2)

theorem continueEvaluating_not_outOfFuel (fuel : Nat) (σ : St F)
    (h1 : Extracted.nestingLimit + 1 ≤ fuel + σ.nesting) (h2 : σ.nesting ≤ Extracted.nestingLimit) :
    NoFuelErr (continueEvaluating fuel) σ :=
  noFuelErr_of_sat (sat_continueEvaluating fuel (Nat.le_refl _)) (inWindow_evalN h1 h2)

/-- With `defaultFuel`, from the states the host can reach (nesting counter 0,
    C01): whatever line is submitted, the outcome is never `outOfFuel` — the
    fuel and the budgets of the model are invisible. -/
theorem host_never_outOfFuel (σ : St F) (h : σ.nesting = 0) :
    (∀ line, NoFuelErr (startEvaluating defaultFuel line) σ) ∧ NoFuelErr (continueEvaluating defaultFuel) σ :=
  ⟨fun line => startEvaluating_not_outOfFuel defaultFuel line σ (by unfold defaultFuel; omega) (by omega),
   continueEvaluating_not_outOfFuel defaultFuel σ (by unfold defaultFuel; omega) (by omega)⟩

/-- The bound for expressions is sharp: with `n + k = nestingLimit` the fuel
    does run out (an opening parenthesis, one level below the cap, fuel 1). -/
example : ∃ σ' : St Unit,
    (evalN (F := Unit) 1).expr { imm := [.kw .LeftParen, .num ()], nesting := Extracted.nestingLimit - 1 } =
      .err { err := .outOfFuel } σ' :=
  ⟨_, rfl⟩

end Abasic.Props.C01
