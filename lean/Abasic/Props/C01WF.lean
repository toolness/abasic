import Abasic.Proofs.WFStmt
import Abasic.Proofs.Host
import Abasic.Proofs.TokLoop
import Abasic.Props.C01More
import Abasic.Props.C13More
import Abasic.Props.C19More
import Abasic.Proofs.HostFast
/-
  C01 / C19 — no host call panics: the well-formedness invariant of interpreter states.

  `WFσ` (Proofs/WF.lean) holds in every state a host can reach (`wf_reachable`, for ANY
  sequence of calls, protocol-respecting or not); from a state with `WFσ`, a call made in
  the state the protocol allows it in never returns a panic (`no_panic`): none of
  `tokens_for_line`'s unwrap, `exit_nested`'s underflow, "function must exist", "stack
  must not be empty", the DATA iterator's unwrap, `rewind_before_token`, the array
  unwraps / index checks, the RNG multiplication overflow, `data[0]` of INPUT, LIST's
  unwrap can fire; rendering the caret lines of a reported error does not panic either
  (`caret_total`).  Together: `coreTotal`, the hypothesis `C19.CoreTotal fuel {}` of the
  page theorems, discharged.
-/
namespace Abasic.Props.C01
open Abasic Abasic.WF M

variable {F : Type} [NumOps F]

omit [NumOps F] in
@[good] theorem good_returnToIdle : Good ER T (returnToIdle : M F Unit) :=
  good_modify_inert (by inert)

@[good] theorem good_runNextStatement (fuel : Nat) : Good SR T (runNextStatement (F := F) fuel) := by
  unfold runNextStatement
  have := good_evalN (F := F) fuel
  have : Good ER T (M.modify fun s : St F => { s with state := .running }) := good_modify_inert (by inert)
  good_auto

omit [NumOps F] in
theorem runFromFirst_nesting_lines (s : St F) :
    s.runFromFirst.nesting = s.nesting ∧ s.runFromFirst.lines = s.lines := by
  unfold St.runFromFirst
  simp only
  split <;> exact ⟨rfl, rfl⟩

theorem list_some {L : Lines F} (h : C04.WF L) : ∃ ls, L.list = some ls := by
  obtain ⟨entries, he, _, _⟩ := C04.list_sorted L h
  exact ⟨_, by unfold Lines.list; rw [he]; rfl⟩

theorem good_act (fuel : Nat) (c : Command) : Good SR T (c.act (F := F) fuel) := by
  have hmod : ∀ f : St F → St F, Inert f → Good SR T (M.modify f) := fun f hf => (good_modify_inert hf).sr
  cases c with
  | run =>
    refine Good.bind (Q := T) (fun s hs => ?_) fun _ _ => good_runNextStatement fuel
    have hnl := runFromFirst_nesting_lines ({ s with input := none, vars := [], arrays := [] } : St F)
    exact GoodAt.modify (s0 := s) (wf_runFromFirst { hs with arrays := nofun }) ⟨hnl.1, hnl.2⟩
  | list =>
    refine Good.get_bind' fun s hs => ?_
    obtain ⟨ls, hls⟩ := list_some hs.lines
    simp only [hls]
    exact GoodAt.set { hs with } ⟨rfl, rfl⟩
  | cont => exact Good.bind (Q := T) good_continueFromBreakpoint fun _ _ => good_runNextStatement fuel
  | internals | stats => exact (good_emit _).sr
  | _ => exact hmod _ (by inert)

/-- `m` preserves `WFσ` on the ok and on the err path, leaves the nesting counter and the
    line store as it found them, and its errors are located non-panics. -/
abbrev Pres {α : Type} (m : M F α) : Prop := Good SR T m

/-- `Good ER`: expressions even keep the stack, the functions, the immediate line and the cursor's line, and never
    move the cursor back -/
theorem pres_evalN (n : Nat) :
    Good ER T (evalN (F := F) n).expr ∧ Pres (evalN (F := F) n).expr ∧ Pres (evalN (F := F) n).stmt :=
  ⟨(good_evalN n).1, (good_evalN n).1.sr, (good_evalN n).2⟩

theorem stmt_no_panic (n : Nat) {s : St F} (hs : WFσ s) :
    (∀ a s', (evalN (F := F) n).stmt s = .ok a s' → WFσ s' ∧ s'.nesting = s.nesting) ∧
    (∀ e s', (evalN (F := F) n).stmt s = .err e s' → WFσ s' ∧ s'.nesting = s.nesting ∧ e.err.isPanic = false) := by
  have h := (good_evalN (F := F) n).2 s hs
  constructor
  · intro a s' hr; rw [hr] at h; exact ⟨h.1, h.2.1.nesting⟩
  · intro e s' hr; rw [hr] at h; exact ⟨h.1, h.2.1.nesting, plain_not_panic h.2.2.plain⟩

/-- an error a host call may report about the submitted `line` -/
structure HErr (line : Str) (L : Lines F) (e : TErr) : Prop where
  notPanic : e.err.isPanic = false
  loc : ∀ loc, e.loc = some loc → LocOk L loc
  tok : ∀ t, e.err = .syntax (.tokenization t) → ∃ skip, tokenize (F := F) line skip = .error t

theorem herr_of_eok {line : Str} {L : Lines F} {e : TErr} (h : EOk L e) : HErr line L e :=
  ⟨plain_not_panic h.plain, h.loc, fun t ht => by have := h.plain; rw [ht] at this; cases this⟩

def HPost (line : Str) {α : Type} : Res F α → Prop
  | .ok _ s' => WFσ s'
  | .err e s' => WFσ s' ∧ HErr line s'.lines e

theorem HPost.of_post {line : Str} {α : Type} {R : St F → St F → Prop} {Q : α → Prop} {s0 : St F}
    {r : Res F α} (h : Post R Q s0 r) : HPost line r := by
  cases r with
  | ok a s' => exact h.1
  | err e s' => exact ⟨h.1, herr_of_eok h.2.2⟩

theorem HPost.ok {line : Str} {α : Type} {r : Res F α} {a : α} {s' : St F} (h : HPost line r)
    (hr : r = .ok a s') : WFσ s' := by
  subst hr; exact h

theorem HPost.err {line : Str} {α : Type} {r : Res F α} {e : TErr} {s' : St F} (h : HPost line r)
    (hr : r = .err e s') : WFσ s' ∧ HErr line s'.lines e := by
  subst hr; exact h

theorem HPost.final {line : Str} {α : Type} {r : Res F α} (h : HPost line r) : WFσ r.final := by
  cases r with
  | ok a s' => exact h
  | err e s' => exact h.1

omit [NumOps F] in
theorem wf_idle {s : St F} (hs : WFσ s) : WFσ { s with state := .idle } :=
  { hs with }

theorem postprocess_hpost {line : Str} {α : Type} {m : M F α} {s : St F} (h : HPost line (m s)) :
    HPost line (postprocess m s) := by
  unfold postprocess
  cases hms : m s with
  | ok a s' => rw [hms] at h; exact h
  | err e s' =>
    rw [hms] at h
    obtain ⟨hw, he⟩ := h
    refine ⟨wf_idle hw, ?_, populate_loc hw he.loc, ?_⟩
    · rw [St.populate_err]; exact he.notPanic
    · rw [St.populate_err]; exact he.tok

theorem hpost_tokErr {line : Str} {skip : Nat} {e : TokErr} {s : St F} (hs : WFσ s)
    (h : tokenize (F := F) line skip = .error e) :
    HPost line (.err { err := .syntax (.tokenization e) } s : Res F Unit) :=
  ⟨hs, rfl, nofun, fun _ ht => by cases ht; exact ⟨skip, h⟩⟩

theorem evaluateImpl_hpost (fuel : Nat) (line : Str) {s : St F} (hs : WFσ s) (hidle : s.state = .idle) :
    HPost line (evaluateImpl fuel line s) := by
  have hw := wf_setImmediate hs []
  cases hc : (commandWord line).bind Command.ofWord with
  | some c =>
    rw [evaluateImpl_command fuel hidle hc]
    exact .of_post (good_act fuel c _ hw)
  | none =>
    rw [evaluateImpl_line fuel line hidle hc]
    split <;> split
    · exact hpost_tokErr hw ‹_›
    · exact wf_setNumberedLine hw _ _
    · exact hpost_tokErr hw ‹_›
    · exact .of_post (good_runNextStatement fuel _ (wf_setImmediate hw _))

theorem start_hpost (fuel : Nat) (line : Str) {s : St F} (hs : WFσ s) (hidle : s.state = .idle) :
    HPost line (startEvaluating fuel line s) :=
  postprocess_hpost (evaluateImpl_hpost fuel line hs hidle)

theorem cont_hpost (fuel : Nat) {s : St F} (hs : WFσ s) (hrun : s.state = .running) :
    HPost ([] : Str) (continueEvaluating fuel s) := by
  rw [continueEvaluating_running fuel hrun]
  exact postprocess_hpost (HPost.of_post (good_runNextStatement fuel s hs))

/-- the state the protocol allows a call in (interpreter.rs asserts the first three) -/
def Call.allowed (c : Call) (s : St F) : Prop :=
  match c with
  | .start _ => s.state = .idle
  | .cont => s.state = .running
  | .reply _ => s.state = .awaitingInput
  | _ => True

def Call.line : Call → Str
  | .start text => text
  | _ => []

theorem call_hpost (fuel : Nat) (c : Call) {s : St F} (hs : WFσ s) (ha : c.allowed s) :
    HPost c.line (c.run fuel s) := by
  cases c with
  | start text => exact start_hpost fuel text hs ha
  | cont => exact cont_hpost fuel hs ha
  | reply text =>
    show HPost [] (provideInput text s)
    rw [reply_total text s ha]
    show WFσ _
    exact { hs with }
  | brk => exact .of_post (good_breakAtCurrentLocation s hs)
  | seed n => exact hs.setRng (C18.seed_reduced n).2
  | output => exact ({ hs with } : WFσ (takeOutput s).2)

omit [NumOps F] in
theorem wf_init : WFσ ({} : St F) where
  lines := C04.wf_empty
  loc := locOk_imm _ _
  bp := by intro _ _ h; cases h
  stack := by intro _ h; cases h
  loops := by intro _ h; cases h
  fns := by intro _ h; cases h
  data := by intro _ h; cases h
  arrays := by intro _ h; cases h
  rng := by show (0 : Nat) < 2 ^ 33; omega
  nest := Nat.zero_le _

/-- Every host call, allowed by the protocol or not, succeeding or failing, keeps the state well formed. -/
theorem wf_applyCall (fuel : Nat) (c : Call) {s : St F} (hs : WFσ s) : WFσ (applyCall fuel c s) := by
  by_cases ha : c.allowed s
  · exact (call_hpost fuel c hs ha).final
  · -- outside the protocol an entry point returns its assertion panic: `start` leaves the state idle, the other two as it was
    cases c with
    | start text =>
      show WFσ (startEvaluating fuel text s).final
      rw [startEvaluating_not_idle fuel text ha]
      exact wf_idle hs
    | cont =>
      show WFσ (continueEvaluating fuel s).final
      rw [continueEvaluating_not_running fuel ha]
      exact hs
    | reply text =>
      show WFσ (provideInput text s).final
      rw [provideInput_not_awaiting text ha]
      exact hs
    | _ => exact absurd trivial ha

/-- `WFσ` holds in every state a host can bring a new interpreter into. -/
theorem wf_reachable (fuel : Nat) (s : St F) (h : Reachable fuel s) : WFσ s := by
  induction h with
  | init => exact wf_init
  | step c _ ih => exact wf_applyCall fuel c ih

/-- From a well-formed state, a call the protocol allows does not return a panic. -/
theorem no_panic_call (fuel : Nat) (c : Call) {s : St F} (hs : WFσ s) (ha : c.allowed s)
    (e : TErr) (s' : St F) (h : c.run fuel s = .err e s') : e.err.isPanic = false :=
  ((call_hpost fuel c hs ha).err h).2.notPanic

/-- states reachable by calls the protocol allows -/
inductive ReachableP (fuel : Nat) : St F → Prop where
  | init : ReachableP fuel {}
  | step {σ : St F} (c : Call) : ReachableP fuel σ → c.allowed σ → ReachableP fuel (applyCall fuel c σ)

theorem ReachableP.reachable {fuel : Nat} {s : St F} (h : ReachableP fuel s) : Reachable fuel s := by
  induction h with
  | init => exact .init
  | step c _ _ ih => exact .step c ih

/-- **C01.** No protocol-respecting host call from a reachable state returns a panic error. -/
theorem no_panic (fuel : Nat) (s : St F) (hr : ReachableP fuel s) (c : Call) (ha : c.allowed s)
    (e : TErr) (s' : St F) (h : c.run fuel s = .err e s') : e.err.isPanic = false :=
  no_panic_call fuel c (wf_reachable fuel s hr.reachable) ha e s' h

theorem reachable_wf_nesting (fuel : Nat) (s : St F) (hr : Reachable fuel s) : WFσ s ∧ s.nesting = 0 :=
  ⟨wf_reachable fuel s hr, nesting_zero_of_reachable fuel s hr⟩

theorem tok_range_ok (line : Str) (skip : Nat) (t : TokErr) (h : tokenize (F := F) line skip = .error t) :
    ¬ (t.range line).2 < (t.range line).1 := by
  have hl := (tokenizeRanges_lexed (F := F) line skip).1
  have h2 : (tokenizeRanges (F := F) line skip).2 = some t := by
    unfold tokenize at h
    split at h
    · cases h
    · rename_i e heq
      simp only [Except.error.injEq] at h
      rw [heq, h]
  rw [h2] at hl
  cases t with
  | illegalChar i => simp only [TokErr.range]; split <;> simp only <;> omega
  | unterminated i =>
    have := hl.unterminated_le
    have := (C13.dropBytes_len8 skip line).resolve_left this.1
    simp only [TokErr.range]; omega
  | invalidNumber x y =>
    have := hl.errPos
    simp only [C13.ErrPosOk] at this
    simp only [TokErr.range]; omega
  | outOfFuel => simp [TokErr.range]

theorem progCaret_isSome {s : St F} {loc : Loc} (h : LocOk s.lines loc) : (progCaret s loc).isSome = true := by
  unfold progCaret
  cases hn : loc.line with
  | none => rfl
  | some n =>
    obtain ⟨ts, hg, _⟩ := h n hn
    simp only [hg]
    rfl

/-- `get_line_with_pointer_caret` does not panic on an error a host call reported about `line`. -/
theorem caret_total {line : Str} {s : St F} {e : TErr} (he : HErr line s.lines e) :
    (caretLines s e (some line)).isSome = true := by
  unfold caretLines
  dsimp only
  split
  · rename_i h
    cases hl : e.loc with
    | none => rw [hl] at h; cases h
    | some loc =>
      have := progCaret_isSome (he.loc loc hl)
      rw [hl] at h
      rw [show progCaret s loc = none from h] at this
      cases this
  · rfl
  · split
    · rename_i text t heq1 heq2
      cases heq1
      obtain ⟨skip, hskip⟩ := he.tok t heq2
      have := tok_range_ok (F := F) line skip t hskip
      generalize t.range line = p at this
      obtain ⟨a, b⟩ := p
      simp only at this ⊢
      rw [if_neg this]
      rfl
    · rfl

theorem caret_total_start (fuel : Nat) (line : Str) {s : St F} (hs : WFσ s) (hidle : s.state = .idle)
    (e : TErr) (s' : St F) (h : startEvaluating fuel line s = .err e s') :
    e.err.isPanic = false ∧ (caretLines s' e (some line)).isSome = true := by
  have hp := (start_hpost fuel line hs hidle).err h
  exact ⟨hp.2.notPanic, caret_total hp.2⟩

theorem wf_reach (fuel : Nat) {s0 s : St F} (h0 : WFσ s0) (h : C19.Reach fuel s0 s) : WFσ s := by
  induction h with
  | base => exact h0
  | init => exact wf_init
  | startOk _ hi h ih => exact (call_hpost fuel (.start _) ih hi).ok h
  | startErr _ hi h _ ih => exact ((call_hpost fuel (.start _) ih hi).err h).1
  | contOk _ hi h ih => exact (call_hpost fuel .cont ih hi).ok h
  | contErr _ hi h _ ih => exact ((call_hpost fuel .cont ih hi).err h).1
  | input _ hi h ih => exact (call_hpost fuel (.reply _) ih hi).ok h
  | brk _ _ h ih => exact (call_hpost fuel .brk ih trivial).ok h
  | take _ ih => exact call_hpost fuel .output ih trivial

theorem coreTotal_of_wf (fuel : Nat) {s0 : St F} (h0 : WFσ s0) : C19.CoreTotal fuel s0 := by
  intro s hr
  have hs := wf_reach fuel h0 hr
  constructor
  · intro hidle line e s' h
    exact caret_total_start fuel line hs hidle e s' h
  · intro hrun e s' h
    exact ((cont_hpost fuel hs hrun).err h).2.notPanic

/-- **`C19.CoreTotal` holds.**  From the interpreter as created, on every core state the page can
    produce, `start_evaluating` called when idle and `continue_evaluating` called when running do
    not panic, and the caret lines of a reported error render. -/
theorem coreTotal (fuel : Nat) : C19.CoreTotal fuel ({} : St F) :=
  coreTotal_of_wf fuel wf_init

/-- No admissible sequence of page events traps: `C19.page_events_inv` without hypothesis. -/
theorem page_events_total (fuel : Nat) (es : List C19.Event) (hadm : C19.Admissible fuel es ({} : Page F)) :
    ∃ p', C19.run fuel es ({} : Page F) = some p' ∧ C19.PageInv fuel {} p' :=
  C19.page_events_inv fuel (coreTotal fuel) es hadm

instance (c : Call) (s : St F) : Decidable (c.allowed s) := by
  cases c <;> unfold Call.allowed <;> infer_instance

def runP (fuel : Nat) : List Call → St F → Option (St F)
  | [], s => some s
  | c :: cs, s => if c.allowed s then runP fuel cs (applyCall fuel c s) else none

theorem runP_reachable (fuel : Nat) (cs : List Call) (s s' : St F) (hr : ReachableP fuel s)
    (h : runP fuel cs s = some s') : ReachableP fuel s' := by
  induction cs generalizing s with
  | nil =>
    simp only [runP, Option.some.injEq] at h
    rw [← h]; exact hr
  | cons c cs ih =>
    simp only [runP] at h
    split at h
    · rename_i ha
      exact ih _ (.step c hr ha) h
    · cases h

/-- the action of a call, with `Fast.startC` for `start`: what `runPC` evaluates -/
def Call.runC (fuel : Nat) : Call → M F Unit
  | .start text => Fast.startC fuel text
  | c => c.run fuel

theorem Call.runC_eq (fuel : Nat) (c : Call) : c.run (F := F) fuel = c.runC fuel := by
  cases c <;> first | rfl | exact Fast.start_eq fuel _

/-- `runP` for evaluation -/
def runPC (fuel : Nat) : List Call → St F → Option (St F)
  | [], s => some s
  | c :: cs, s => if c.allowed s then runPC fuel cs (c.runC fuel s).final else none

theorem runP_eq (fuel : Nat) (cs : List Call) (s : St F) : runP fuel cs s = runPC fuel cs s := by
  induction cs generalizing s with
  | nil => rfl
  | cons c cs ih => simp only [runP, runPC, applyCall, ih, Call.runC_eq]

/-- a small number carrier for checked examples (the degenerate `Unit` carrier has no numerals):
    integers, written as digit strings -/
def Toy := Int

def toyParse : List Char → Nat → Option Nat
  | [], acc => some acc
  | c :: cs, acc => if isAsciiDigit c then toyParse cs (acc * 10 + (c.toNat - '0'.toNat)) else none

instance : NumOps Toy where
  zero := (0 : Int)
  one := (1 : Int)
  add := fun (a b : Int) => a + b
  sub := fun (a b : Int) => a - b
  mul := fun (a b : Int) => a * b
  div := fun (a b : Int) => a / b
  pow := fun (a b : Int) => a ^ b.toNat
  neg := fun (a : Int) => -a
  abs := fun (a : Int) => (a.natAbs : Int)
  floor := fun a => a
  lt := fun (a b : Int) => decide (a < b)
  le := fun (a b : Int) => decide (a ≤ b)
  eq := fun (a b : Int) => decide (a = b)
  toI64 := fun (a : Int) => a
  toU64 := fun (a : Int) => a.toNat
  ofNat := fun n => (n : Int)
  parse := fun cs => if cs.isEmpty then none else (toyParse cs 0).map fun n => (n : Int)
  render := fun (a : Int) => if a < 0 then '-' :: natToStr a.natAbs else natToStr a.toNat
  isFinite := fun _ => true

def staleSession : List Call := [.start "100 STOP".toList, .start "GOSUB 100".toList, .cont]

theorem staleSession_end : ∃ s : St Toy, ReachableP 60 s ∧
    (s.state = .idle ∧ s.imm.length = 0 ∧ s.stack.map (·.ret) = [{ line := none, idx := 2 }]) ∧
    (dispatch (evalN 60) (s.setImmediate [.kw .Return])).final.loc = { line := none, idx := 2 } ∧
    (dispatch (evalN 60) (s.setImmediate [.kw .Return])).final.imm.length = 1 := by
  have h : (runP (F := Toy) 60 staleSession {}).map (fun s => (s.state, s.imm.length, s.stack.map (·.ret),
      (dispatch (evalN 60) (s.setImmediate [.kw .Return])).final.loc,
      (dispatch (evalN 60) (s.setImmediate [.kw .Return])).final.imm.length)) =
      some (.idle, 0, [{ line := none, idx := 2 }], { line := none, idx := 2 }, 1) := by
    rw [runP_eq]
    unfold staleSession
    literal_chars
    decide +kernel
  cases hr : runP (F := Toy) 60 staleSession {} with
  | none => rw [hr] at h; cases h
  | some s =>
    rw [hr] at h
    simp only [Option.map_some, Option.some.injEq, Prod.mk.injEq] at h
    exact ⟨s, runP_reachable 60 _ _ _ .init hr, ⟨h.1, h.2.1, h.2.2.1⟩, h.2.2.2⟩

/-- **Why an immediate location carries no index bound in `LocOk`.**  `idx ≤ imm.length` is NOT an
    invariant for stored immediate locations: a protocol-respecting session after which the interpreter
    is idle with an empty immediate line and a GOSUB frame that returns to index 2 of "the" immediate
    line.  (Harmless in the model: every access is `ts[idx]?`.) -/
theorem immediate_idx_not_invariant :
    ∃ s : St Toy, ReachableP 60 s ∧ s.state = .idle ∧ s.imm.length = 0 ∧
      s.stack.map (·.ret) = [{ line := none, idx := 2 }] :=
  let ⟨s, hr, h, _⟩ := staleSession_end
  ⟨s, hr, h⟩

/-- While a call runs, the cursor itself can be past the end of the immediate line: RETURN typed
    after `staleSession` resumes at index 2 of the one-token line `RETURN`. -/
theorem immediate_cursor_stale :
    ∃ s : St Toy, ReachableP 60 s ∧
      ((dispatch (evalN 60) (s.setImmediate [.kw .Return])).final.loc = { line := none, idx := 2 } ∧
       (dispatch (evalN 60) (s.setImmediate [.kw .Return])).final.imm.length = 1) :=
  let ⟨s, hr, _, h⟩ := staleSession_end
  ⟨s, hr, h⟩

/-- the session of the non-vacuity example: a user function, DIM/READ/DATA, INPUT into an array cell
    indexed by a function call, a rejected reply (re-enter: `rewind_before_token`), RND, GOSUB/RETURN,
    FOR/NEXT, END -/
def demoSession : List Call :=
  [.start "10 DEF FNA(X) = X * 2".toList, .start "20 DIM B(3): READ B(1), C$: DATA 4, HI".toList,
   .start "30 INPUT B(FNA(1))".toList, .start "40 PRINT B(2) + RND(1): GOSUB 60".toList,
   .start "50 END".toList, .start "60 FOR I = 1 TO 2: NEXT I: RETURN".toList, .start "RUN".toList,
   .cont, .cont, .cont, .cont, .cont, .cont, .reply "X".toList, .cont, .reply "7".toList] ++
  List.replicate 12 .cont

/-- Non-vacuity: the session respects the protocol at every call, so every state along it is
    reachable, well formed and none of its calls panicked; it ends idle having printed `7`. -/
example : ∃ s : St Toy, runP 60 demoSession {} = some s ∧ ReachableP 60 s ∧ WFσ s ∧ s.state = .idle ∧
    s.out = [.print "7\n".toList, .reenter] := by
  have h : (runP (F := Toy) 60 demoSession {}).map (fun s => (s.state, s.out)) =
      some (.idle, [.print "7\n".toList, .reenter]) := by
    rw [runP_eq]
    unfold demoSession
    literal_chars
    decide +kernel
  cases hr : runP (F := Toy) 60 demoSession {} with
  | none => rw [hr] at h; cases h
  | some s =>
    rw [hr] at h
    simp only [Option.map_some, Option.some.injEq, Prod.mk.injEq] at h
    have hreach := runP_reachable 60 _ _ _ .init hr
    exact ⟨s, rfl, hreach, wf_reachable 60 s hreach.reachable, h.1, h.2⟩

/-- The protocol precondition matters: continuing an idle interpreter trips the assertion. -/
example : ∃ e s', continueEvaluating (F := Unit) 5 {} = .err e s' ∧ e.err.isPanic = true :=
  ⟨_, _, rfl, rfl⟩

end Abasic.Props.C01
