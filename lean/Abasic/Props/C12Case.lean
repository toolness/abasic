import Abasic.Props.C12
import Abasic.Proofs.TokFast
/-
  C12, letter case: two texts that differ only in the case of ASCII letters
  (`CaseEq`) tokenize alike outside literal text: the same lifting through the
  matchers, one `chomp_next_token` step and the loop as for inserted blanks.
-/
namespace Abasic.Props.C12
open Abasic

theorem CaseEq.refl (r : Str) : CaseEq r r := by
  induction r with
  | nil => exact CaseEq.nil
  | cons c r ih => exact CaseEq.cons rfl rfl ih

/-- `CaseEq` of two given texts, as two equations that evaluation decides. -/
theorem CaseEq.of_map : ∀ {a b : Str}, a.map asciiUpper = b.map asciiUpper →
    a.map isBasicWs = b.map isBasicWs → CaseEq a b
  | [], [], _, _ => .nil
  | _ :: _, _ :: _, h1, h2 =>
    .cons (List.cons.inj h1).1 (List.cons.inj h2).1 (of_map (List.cons.inj h1).2 (List.cons.inj h2).2)

theorem CaseEq.symm {r r' : Str} (h : CaseEq r r') : CaseEq r' r := by
  induction h with
  | nil => exact CaseEq.nil
  | cons h1 h2 _ ih => exact CaseEq.cons h1.symm h2.symm ih

theorem CaseEq.length_eq {r r' : Str} (h : CaseEq r r') : r.length = r'.length := by
  induction h with
  | nil => rfl
  | cons _ _ _ ih => simp only [List.length_cons, ih]

def CaseEqRes {α : Type} : Option (α × Str) → Option (α × Str) → Prop
  | none, none => True
  | some (a, r), some (a', r') => a = a' ∧ CaseEq r r'
  | _, _ => False

theorem CaseEqRes.of_rel {α : Type} {a b : Option (α × Str)} : ResRel CaseEq a b → CaseEqRes a b
  | .none => trivial
  | .some h => h

/-- The keyword table does not see letter case: `goto`, `GoTo`, `GOTO`. -/
theorem chompAnyKeyword_caseEq {r r' : Str} (h : CaseEq r r') :
    CaseEqRes (chompAnyKeyword r) (chompAnyKeyword r') :=
  .of_rel (chompAnyKeyword_rel respects_caseEq h)

theorem chompOneOrTwo_caseEq {r r' : Str} (h : CaseEq r r') :
    CaseEqRes (chompOneOrTwo r) (chompOneOrTwo r') :=
  .of_rel (chompOneOrTwo_rel respects_caseEq h)

theorem numLoop_caseEq {r r' : Str} (h : CaseEq r r') :
    (numLoop r).1 = (numLoop r').1 ∧ CaseEq (numLoop r).2 (numLoop r').2 :=
  numLoop_rel respects_caseEq h

theorem symLoop_caseEq (first : Bool) {r r' : Str} (h : CaseEq r r') :
    (symLoop first r).1 = (symLoop first r').1 ∧ CaseEq (symLoop first r).2 (symLoop first r').2 :=
  symLoop_rel respects_caseEq first h

variable {F : Type} [NumOps F]

def ChompCase : Chomp F → Chomp F → Prop
  | .tok t r, .tok t' r' => t = t' ∧ CaseEq r r'
  | .illegalChar, .illegalChar => True
  | .invalidNumber r, .invalidNumber r' => CaseEq r r'
  | _, _ => False

omit [NumOps F] in
theorem CaseEq.head {c d : Char} {t t' : Str} (h : CaseEq (c :: t) (d :: t')) : asciiUpper c = asciiUpper d := by
  cases h with | cons h1 _ _ => exact h1

theorem nextToken_caseEq_cases {c d : Char} {t t' : Str} (h : CaseEq (c :: t) (d :: t')) :
    ChompCase (nextToken (F := F) (c :: t)) (nextToken (F := F) (d :: t')) ∨
    (ProtectedOutcome (nextToken (F := F) (c :: t)) ∧ ProtectedOutcome (nextToken (F := F) (d :: t'))) :=
  (nextToken_rel respects_caseEq h.head h).outcome (fun _ _ _ hr => ⟨rfl, hr⟩) trivial fun _ _ hr => hr

theorem nextToken_caseEq_unprotected {c d : Char} {t t' : Str} (h : CaseEq (c :: t) (d :: t'))
    (tk : Token F) (rest : Str) (hu : Unprotected tk = true)
    (hn : nextToken (F := F) (c :: t) = .tok tk rest) :
    ∃ rest', nextToken (F := F) (d :: t') = .tok tk rest' ∧ CaseEq rest rest' :=
  (nextToken_rel respects_caseEq h.head h).unprotected hu hn

theorem tokLoop_caseEq_unprotected (fuel : Nat) :
    ∀ {cs cs' : Str}, CaseEq cs cs' → ∀ (fuel' idx idx' : Nat) (acc acc' : List (RangedToken F)),
    fuel ≤ fuel' → acc.map (·.1) = acc'.map (·.1) →
    (tokLoop fuel cs idx acc).2 = none →
    (∀ x ∈ (tokLoop fuel cs idx acc).1, Unprotected x.1 = true) →
    (tokLoop fuel' cs' idx' acc').2 = none ∧
    (tokLoop fuel' cs' idx' acc').1.map (·.1) = (tokLoop fuel cs idx acc).1.map (·.1) :=
  fun h fuel' idx idx' acc acc' => tokLoop_rel_unprotected respects_caseEq h fuel fuel' idx idx' acc acc'

/-- A line that tokenizes without error into unprotected tokens only tokenizes into the
    very same tokens when the case of any of its ASCII letters is changed. -/
theorem tokenize_caseEq_unprotected {line line' : Str} (h : CaseEq line line') (ts : List (Token F))
    (hok : tokenize (F := F) line 0 = .ok ts) (hun : ∀ t ∈ ts, Unprotected t = true) :
    tokenize (F := F) line' 0 = .ok ts := by
  rw [tokenize_iff_toks] at hok ⊢
  exact toks_rel respects_caseEq hok h hun

/-- Non-vacuity: `print a1` and `PRINT A1` are `CaseEq`, and the first yields the two
    unprotected tokens PRINT and `A1`. -/
example : CaseEq "print a1".toList "PRINT A1".toList ∧
    tokenize (F := Unit) "print a1".toList 0 = .ok [.kw .Print, .symbol "A1".toList] := by
  exact ⟨.of_map (by decide) (by decide), by rw [Fast.tokenize_eq]; rfl⟩

end Abasic.Props.C12
