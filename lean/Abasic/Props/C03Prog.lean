import Abasic.Proofs.StmtLemmasG
import Abasic.Proofs.ProgLemmas
import Abasic.Proofs.RunSim
import Abasic.Props.C07
import Abasic.Proofs.StmtLemmas
/-
  C03, program level: the turn-by-turn execution of a stored program refines
  the reference machine of Abasic/Ref/Prog.lean.

  A program `p : RProgram F` (numbered lines of covered statements LET, PRINT,
  GOTO, END, IF … THEN … [ELSE …], several to a line with `:`) is stored as
  `compileP p` (or any store that `Holds` its lines).  RUN and every following `continueEvaluating` is one *turn*
  (`runNextStatement`); the reference machine makes one *step* `RStep` per
  statement.  How the two line up, as the model does it (`runNextStatement`,
  `dispatch`):

  * a turn runs ONE statement; when that exhausts the line, the same turn moves
    the cursor to the start of the next greater line (or makes the interpreter
    idle); after a GOTO the turn ends at the start of the target line;
  * a colon is NOT consumed by the turn of the statement in front of it: that
    turn ends with the cursor ON the colon, and the next turn consumes the colon
    and nothing else (for `dispatch` the colon is a statement of its own);
    so the first statement of a line costs one turn, every other one two.

  Hence the simulation relation `Sim` lets the cursor stand either at the first
  token of the statement the reference machine is at, or — if that statement is
  not the first of its line — on the colon in front of it.

  Hypotheses (`Fits`): ascending line numbers, no empty line, every statement
  `Covered` (Ref/Stmt.lean; for GOTO this is `toU64 (ofNat n) = n`) and its
  depth `sdepth` within the fuel and the nesting cap.  The start state (`Ready`)
  is idle, its store holds the lines of `p` (`Holds`: the token map answers with
  the rendered lines, the ordered index lists the numbers — true of `compileP p`,
  of the store after the lines were typed in (`holds_load`) and of every
  well-formed store with these contents (`holds_of_wf`), whatever the order of
  entry), warnings and tracing are off, nesting is 0 and the output queue empty.
  That no stored line begins with ELSE (`NoElseLine`, needed by the IF theorem)
  is derived, not assumed.  Error attribution rests on the error clause of the statement
  refinement (`FailsWith`, Proofs/ErrKeepG.lean): a covered statement that fails, fails
  with the cursor on the line it started on and without having printed.
-/
set_option linter.unusedSectionVars false

namespace Abasic.Props.C03
open Abasic Abasic.Ref Abasic.ExprL Abasic.StmtL Abasic.ProgL

variable {F : Type} [NumOps F]

def Pos (p : RProgram F) : Option (Nat × Nat) → St F → Prop
  | none, σ => σ.state = .idle
  | some (n, j), σ => σ.state = .running ∧ σ.loc.line = some n ∧
      ∃ ss, p.line n = some ss ∧ j < ss.length ∧
        (σ.loc.idx = (preToks ss j).length ∨ (0 < j ∧ σ.loc.idx + 1 = (preToks ss j).length))

/-- `core`: the store holds the lines of the program (`Holds`), the
    variables are the reference variables, the output queue holds the reference
    PRINT records (`outRecs`: as `Out.print`, newest first), no GOSUB / function
    frames, warnings and tracing off, nesting 0, no user functions.  `pos`: the
    cursor stands where the program counter says (`Pos`). -/
structure Sim (p : RProgram F) (r : RState F) (σ : St F) : Prop where
  core : Core p r.vars r.out σ
  pos : Pos p r.pc σ

/-- the outcome of a turn (or of RUN) against the outcome of a reference step from `r` -/
def TurnStep (p : RProgram F) (r : RState F) (res : Res F Unit) : RState F ⊕ (Err × Nat) → Prop
  | .inl r' => ∃ σ', res = .ok () σ' ∧ Sim p r' σ'
  | .inr (e, ln) => ∃ σ' i, res = .err { err := e, loc := some { line := some ln, idx := i } } σ' ∧
      σ'.state = .idle ∧ σ'.out = outRecs r.out

theorem sim_lands {p : RProgram F} {r : RState F} {σ : St F} :
    Sim p r σ ↔ SeqL.Lands ProgL.lang p (Core p r.vars r.out) (Ended p r.vars r.out) r.pc σ := by
  refine ⟨fun ⟨hc, hp⟩ => ?_, fun h => ?_⟩
  · cases hpc : r.pc with
    | none => rw [hpc] at hp; exact ⟨hc, hp⟩
    | some nj => rw [hpc] at hp; exact ⟨hc, hp⟩
  · cases hpc : r.pc with
    | none => rw [hpc] at h; exact ⟨h.1, by rw [hpc]; exact h.2⟩
    | some nj => rw [hpc] at h; exact ⟨h.1, by rw [hpc]; exact h.2⟩

theorem turnStep_of_seq {p : RProgram F} {r : RState F} {vs : List (Str × Value F)} {os : List Str} {σ : St F}
    {m : M F Unit} {x : Option (Nat × Nat) ⊕ (Err × Nat)} (hout : σ.out = outRecs r.out)
    (h : SeqL.StepsTo ProgL.lang p (Core p vs os) (Ended p vs os) (fun _ => False) σ (m σ) x) :
    TurnStep p r (postprocess m σ) (x.map (fun pc => { vars := vs, out := os, pc := pc }) id) := by
  cases x with
  | inl pc =>
    obtain ⟨σ', hσ', hland⟩ := h
    exact ⟨σ', C01.postprocess_of_ok hσ', sim_lands.2 hland⟩
  | inr eln =>
    obtain ⟨e, ln⟩ := eln
    obtain ⟨σ', te, l, hσ', ho, hpop, hl⟩ := h
    rcases hl with hl | ⟨_, hf, _⟩
    · refine ⟨{ σ' with state := .idle }, l.idx, ?_, rfl, by show σ'.out = _; rw [ho, hout]⟩
      unfold postprocess
      rw [hσ']
      show Res.err (σ'.populate te) _ = _
      rw [hpop, ← hl]
    · exact hf.elim

theorem rns_refines {p : RProgram F} {fuel : Nat} (hfit : Fits p fuel) {r : RState F} {σ : St F}
    (hc : Core p r.vars r.out σ) {n j : Nat} {ss : List (RStmt F)} {s : RStmt F}
    (hpc : r.pc = some (n, j)) (hl : p.line n = some ss) (hs : ss[j]? = some s)
    (hloc : σ.loc = { line := some n, idx := (preToks ss j).length }) :
    TurnStep p r (postprocess (runNextStatement fuel) σ) (RStep p r) := by
  have hmem := line_mem hl
  have hsmem : s ∈ ss := List.mem_of_getElem? hs
  have hcov := hfit.covered _ hmem s hsmem
  obtain ⟨hdf, hdn⟩ := hfit.depth _ hmem s hsmem
  have hc0 : Core p r.vars r.out (C17.turnStart σ) :=
    ⟨hc.lines, hc.vars, hc.out, hc.stack, hc.warnings, hc.tracing, hc.nesting, hc.fns⟩
  have hAt : At (C17.turnStart σ) (preToks ss j) (renderS s ++ renderTail (ss.drop (j + 1))) :=
    ⟨by rw [SeqL.lineToks_of hc0.lines.seq hl (by show σ.loc.line = _; rw [hloc]), SeqL.line_split ss j s hs],
     by show σ.loc.idx = _; rw [hloc]⟩
  have hq : ExprG.Quiet (C17.turnStart σ) := ExprG.quiet_of_nil hc.stack hc.warnings
  have hNE : NoElseLine (C17.turnStart σ) := SeqL.noElse hfit.wf.seq hc0.lines.seq
  have hLE : LineEnd (renderTail (ss.drop (j + 1))) := (SeqL.tail_lineEnd3 (L := ProgL.lang) ss j).lineEnd
  have hnest : (C17.turnStart σ).nesting + sdepth s ≤ Extracted.nestingLimit := by
    show σ.nesting + sdepth s ≤ _
    rw [hc.nesting]; omega
  have hR := StmtG.stmt_run s fuel _ _ _ hAt hq hc.tracing hNE hdf hnest hcov (Or.inl hLE)
  rw [show (C17.turnStart σ).vars = r.vars from hc.vars] at hR
  rw [← SeqL.line_split (L := ProgL.lang) ss j s hs] at hR
  rw [rstep_seq hpc hl hs]
  exact turnStep_of_seq hc.out (SeqL.turn (frame p _ _) hfit.wf.seq hc.lines.seq hl hs hloc
    (outcome_seq hc0 rfl (by show σ.loc.line = _; rw [hloc]) hR (fun _ h => exec_nd _ s h)))

/-- With the cursor on the colon in front of the statement the reference machine is
    at, a turn succeeds, moves the cursor to the first token of that statement and
    changes nothing the simulation relation sees: the reference machine does not
    move. -/
theorem turn_colon {p : RProgram F} {fuel : Nat} {r : RState F} {σ : St F}
    (h : Sim p r σ) {n j : Nat} {ss : List (RStmt F)} (hpc : r.pc = some (n, j)) (hl : p.line n = some ss)
    (hidx : σ.loc.idx + 1 = (preToks ss j).length) :
    ∃ σ', continueEvaluating fuel σ = .ok () σ' ∧ Sim p r σ' ∧ σ'.loc.idx = (preToks ss j).length := by
  have hL := sim_lands.1 h
  rw [hpc] at hL
  obtain ⟨σ', h1, h2, h3⟩ := SeqL.colon_lands (frame p _ _) (fuel := fuel) hL hl hidx
  exact ⟨σ', h1, sim_lands.2 (by rw [hpc]; exact h2), h3⟩

/-- **A turn on a statement is one reference step.**  With the cursor on the
    first token of the statement at the program counter, `continueEvaluating`
    does what `RStep` says: on `.inl r'` it succeeds in a state related to `r'`
    (variables, PRINT records, next position — on the colon if the next statement
    is on the same line, at the start of the next or of the target line, or idle
    at the end); on `.inr (e, ln)` it fails with `e` located on line `ln`, the
    interpreter is idle and nothing has been printed by the failing statement. -/
theorem turn_refines {p : RProgram F} {fuel : Nat} (hfit : Fits p fuel) {r : RState F} {σ : St F}
    (h : Sim p r σ) {n j : Nat} {ss : List (RStmt F)} (hpc : r.pc = some (n, j)) (hl : p.line n = some ss)
    (hidx : σ.loc.idx = (preToks ss j).length) :
    TurnStep p r (continueEvaluating fuel σ) (RStep p r) := by
  have hpos := h.pos
  rw [hpc] at hpos
  obtain ⟨hrun, hline, ss', hl', hj, _⟩ := hpos
  rw [hl] at hl'
  cases hl'
  rw [C09.continue_is_one_turn fuel σ hrun]
  exact rns_refines hfit h.core hpc hl (List.getElem?_eq_getElem hj) (by rw [← hidx, ← hline])

/-- what RUN needs of the state it is typed into -/
structure Ready (p : RProgram F) (σ : St F) : Prop where
  idle : σ.state = .idle
  lines : Holds σ.lines p
  warnings : σ.warnings = false
  tracing : σ.tracing = false
  nesting : σ.nesting = 0
  out : σ.out = []

theorem startEvaluating_run (fuel : Nat) (σ : St F) (hi : σ.state = .idle) :
    startEvaluating fuel "RUN".toList σ = postprocess (runNextStatement fuel) (runInit σ) :=
  Abasic.startEvaluating_run fuel hi word_run

/-- **RUN is the first reference step**: it clears the variables, puts the cursor
    on the first line and runs its first statement in the same call. -/
theorem run_start {p : RProgram F} {fuel : Nat} (hfit : Fits p fuel) {σ : St F} (h : Ready p σ) :
    TurnStep p p.start (startEvaluating fuel "RUN".toList σ) (RStep p p.start) := by
  rw [startEvaluating_run fuel σ h.idle]
  cases hf : p.first with
  | none =>
    have hp : p = [] := by cases p with | nil => rfl | cons _ _ => cases hf
    subst hp
    have hfirst : σ.lines.first = none := by rw [holds_first h.lines]; rfl
    refine ⟨_, C01.postprocess_of_ok (turn_imm fuel (runInit σ) (by rw [runInit_none hfirst]; rfl)
      (by rw [runInit_none hfirst]; rfl)), ⟨?_, rfl⟩⟩
    rw [runInit_none hfirst]
    exact ⟨h.lines, rfl, h.out, rfl, h.warnings, h.tracing, h.nesting, rfl⟩
  | some n =>
    obtain ⟨ss, hl, hlen, hinit⟩ := runInit_line hfit.wf.seq h.lines.seq hf
    have hc : Core p p.start.vars p.start.out (runInit σ) := by
      rw [hinit]
      exact ⟨h.lines, rfl, h.out, rfl, h.warnings, h.tracing, h.nesting, rfl⟩
    exact rns_refines hfit hc (by show (p.first.map fun n => (n, 0)) = _; rw [hf]; rfl) hl
      (List.getElem?_eq_getElem hlen) (by rw [hinit])

/-- the host loop: up to `k` more turns, as long as the interpreter is running -/
def turns (fuel : Nat) : Nat → St F → Res F Unit
  | 0, σ => .ok () σ
  | k + 1, σ =>
    if σ.state = .running then
      match continueEvaluating fuel σ with
      | .ok _ σ' => turns fuel k σ'
      | .err e σ' => .err e σ'
    else .ok () σ

def runTurns (fuel k : Nat) (σ : St F) : Res F Unit :=
  match startEvaluating fuel "RUN".toList σ with
  | .ok _ σ' => turns fuel k σ'
  | .err e σ' => .err e σ'

/-- the outcome of a run of the model against the outcome of a run of the
    reference machine: the same variables, PRINT records and position, or the
    same error on the same line with the same PRINT records before it -/
def RunMatch (p : RProgram F) (res : Res F Unit) : RState F ⊕ (Err × Nat × List Str) → Prop
  | .inl r' => ∃ σ', res = .ok () σ' ∧ Sim p r' σ'
  | .inr (e, ln, out) => ∃ σ' i, res = .err { err := e, loc := some { line := some ln, idx := i } } σ' ∧
      σ'.state = .idle ∧ σ'.out = outRecs out

theorem turns_ok (fuel k : Nat) {σ σ' : St F} (hr : σ.state = .running)
    (h : continueEvaluating fuel σ = .ok () σ') : turns fuel (k + 1) σ = turns fuel k σ' := by
  simp only [turns, hr, ↓reduceIte, h]

theorem turns_err (fuel k : Nat) {σ σ' : St F} {e : TErr} (hr : σ.state = .running)
    (h : continueEvaluating fuel σ = .err e σ') : turns fuel (k + 1) σ = .err e σ' := by
  simp only [turns, hr, ↓reduceIte, h]

theorem turns_eq_contTurns (fuel k : Nat) (σ : St F) : turns fuel k σ = C07.contTurns fuel k σ := by
  induction k generalizing σ with
  | zero => rfl
  | succ k ih =>
    by_cases hr : σ.state = .running
    · rw [C07.contTurns_running fuel k σ hr]
      show turns fuel (k + 1) σ = M.bindM _ _ σ
      unfold M.bindM
      rw [← C01.continueEvaluating_running fuel hr]
      cases hc : continueEvaluating fuel σ with
      | ok a s => rw [turns_ok fuel k hr hc]; exact ih s
      | err e s => rw [turns_err fuel k hr hc]
    · rw [C07.contTurns_not_running fuel _ σ hr]
      simp [turns, hr]

theorem turns_not_running (fuel k : Nat) (σ : St F) (h : σ.state ≠ .running) : turns fuel k σ = .ok () σ :=
  (turns_eq_contTurns fuel k σ).trans (C07.contTurns_not_running fuel k σ h)

theorem turns_idle (fuel k : Nat) (σ : St F) (h : σ.state = .idle) : turns fuel k σ = .ok () σ :=
  turns_not_running fuel k σ (by simp [h])

end Abasic.Props.C03

namespace Abasic.SeqL
open Abasic Abasic.Props.C03

variable {F : Type} [NumOps F] {S R ε ε' : Type}

/-- **A reference machine with a program counter, run against the host loop.**  The machines of Ref/Prog.lean,
    Ref/Prog2.lean and Ref/Prog3.lean differ in their states, their side conditions and the way a failing run is
    matched; the host loop (`turns`, `runTurns`) meets each of them in the same way.  A level supplies: its machine
    (`step` iterated by `steps`, `pc`), the predicates `G r` / `Fin r` for which `SeqL.Lands` is its simulation
    relation, what a reference run carries along besides (`I`), its relation `Q` between outcomes of runs — which is
    used through `ok` and `err` only, so the error clauses stay the level's own — and ONE fact about the
    interpreter: a call with the cursor on the statement at the program counter is `Q` against one step (`turn`).
    It gets what `RunSim.by_turns`, `by_steps`, `run_by_turns`, `run_by_steps` ask for: `Run.zero`, `Run.turn_cases`
    (a call from related states: none after the end; on a colon one that is no step, by `colon_lands`, and then one
    on the statement; on the statement the step) and `Run.first` (RUN as the first call). -/
structure Run (L : Lang F S) (p : Prog S) (fuel : Nat) (pc : R → Option (Nat × Nat))
    (step : R → R ⊕ ε) (fail : R → ε → ε') (steps : Nat → R → R ⊕ ε')
    (G Fin : R → St F → Prop) (I : R → Prop) (Q : Res F Unit → R ⊕ ε' → Prop) : Prop where
  iter : RunSim.Iterates step fail steps
  ended : ∀ {r}, pc r = none → step r = .inl r
  keeps : ∀ {r r'}, I r → step r = .inl r' → I r'
  frame : ∀ r, Frame L p (G r) (Fin r)
  idle : ∀ {r σ}, Fin r σ → σ.state = .idle
  ok : ∀ {res r}, Q res (.inl r) ↔ ∃ σ, res = .ok () σ ∧ Lands L p (G r) (Fin r) (pc r) σ
  err : ∀ {res x}, Q res (.inr x) → ∃ e σ, res = .err e σ
  turn : ∀ {r σ n j ss}, I r → pc r = some (n, j) → Lands L p (G r) (Fin r) (some (n, j)) σ →
    L.line p n = some ss → σ.loc.idx = (L.pre ss j).length → Q (continueEvaluating fuel σ) (steps 1 r)

namespace Run
variable {L : Lang F S} {p : Prog S} {fuel : Nat} {pc : R → Option (Nat × Nat)}
  {step : R → R ⊕ ε} {fail : R → ε → ε'} {steps : Nat → R → R ⊕ ε'}
  {G Fin : R → St F → Prop} {I : R → Prop} {Q : Res F Unit → R ⊕ ε' → Prop}
  (A : Run L p fuel pc step fail steps G Fin I Q)

def Sim (_ : Run L p fuel pc step fail steps G Fin I Q) (r : R) (σ : St F) : Prop :=
  Lands L p (G r) (Fin r) (pc r) σ ∧ I r

theorem zero (r : R) (σ : St F) (h : A.Sim r σ) : Q (turns fuel 0 σ) (steps 0 r) := by
  rw [A.iter.zero]
  exact A.ok.2 ⟨σ, rfl, h.1⟩

/-- a call that is `Q` against the step from `r`, as the first call of the loop `H` that goes on with `turns` -/
theorem start {r : R} {res : Res F Unit} {H : Nat → Res F Unit} (hq : Q res (steps 1 r)) (hI : I r)
    (hok : ∀ σ', res = .ok () σ' → ∀ k, H k = turns fuel k σ') (herr : ∀ e σ', res = .err e σ' → ∀ k, H k = .err e σ') :
    RunSim.Start (turns fuel) steps A.Sim Q H r := by
  cases hstep : step r with
  | inl r' =>
    rw [A.iter.ok 0 r r' hstep, A.iter.zero] at hq
    obtain ⟨σ', hσ', hl⟩ := A.ok.1 hq
    exact .step (hok σ' hσ') (fun n => A.iter.ok n r r' hstep) ⟨hl, A.keeps hI hstep⟩
  | inr x =>
    rw [A.iter.err 0 r x hstep] at hq
    obtain ⟨e, σ', hσ'⟩ := A.err hq
    exact .fail (herr e σ' hσ') (fun n => A.iter.err n r x hstep) (hσ' ▸ hq)

theorem turn_cases (r : R) (σ : St F) (h : A.Sim r σ) : RunSim.Turn (turns fuel) steps A.Sim Q 1 r σ := by
  obtain ⟨h, hI⟩ := h
  cases hpc : pc r with
  | none =>
    rw [hpc] at h
    exact .halt (fun k => turns_idle fuel k σ (A.idle h)) (fun n => A.iter.ok n r r (A.ended hpc))
  | some nj =>
    obtain ⟨n, j⟩ := nj
    rw [hpc] at h
    obtain ⟨_, _, _, ss, hl, _, hcur⟩ := id h
    have atStmt : ∀ {d : Nat} (σ : St F), Lands L p (G r) (Fin r) (some (n, j)) σ → σ.loc.idx = (L.pre ss j).length →
        RunSim.Turn (turns fuel) steps A.Sim Q d r σ := fun σ h hidx =>
      .now (A.start (A.turn hI hpc h hl hidx) hI (fun σ' hσ' k => turns_ok fuel k h.2.1 hσ')
        (fun e σ' hσ' k => turns_err fuel k h.2.1 hσ'))
    rcases hcur with hidx | ⟨_, hidx⟩
    · exact atStmt σ h hidx
    · obtain ⟨σ', hσ', h', hidx'⟩ := colon_lands (A.frame r) (fuel := fuel) h hl hidx
      exact .stutter (fun k => turns_ok fuel k h.2.1 hσ') ⟨hpc ▸ h', hI⟩ (atStmt σ' h' hidx')

theorem first {r : R} {σ : St F} (hq : Q (startEvaluating fuel "RUN".toList σ) (steps 1 r)) (hI : I r) :
    RunSim.Start (turns fuel) steps A.Sim Q (fun k => runTurns fuel k σ) r :=
  A.start hq hI (fun σ' hσ' k => by unfold runTurns; rw [hσ']) (fun e σ' hσ' k => by unfold runTurns; rw [hσ'])

end Run
end Abasic.SeqL

namespace Abasic.Props.C03
open Abasic Abasic.Ref Abasic.ExprL Abasic.StmtL Abasic.ProgL

variable {F : Type} [NumOps F]

theorem rsteps_ok {p : RProgram F} {r r' : RState F} (n : Nat) (h : RStep p r = .inl r') :
    RSteps p (n + 1) r = RSteps p n r' := by
  simp only [RSteps, h]

theorem rsteps_err {p : RProgram F} {r : RState F} {e : Err} {ln : Nat} (n : Nat) (h : RStep p r = .inr (e, ln)) :
    RSteps p (n + 1) r = .inr (e, ln, r.out) := by
  simp only [RSteps, h]

theorem rsteps_iterates (p : RProgram F) : RunSim.Iterates (RStep p) (fun r x => (x.1, x.2, r.out)) (RSteps p) :=
  ⟨fun _ => rfl, fun k _ _ h => rsteps_ok k h, fun k _ x h => rsteps_err k (e := x.1) (ln := x.2) h⟩

theorem rstep_ended {p : RProgram F} {r : RState F} (h : r.pc = none) : RStep p r = .inl r := by
  simp only [RStep, h]

theorem turnStep_run {p : RProgram F} {r : RState F} {res : Res F Unit} (h : TurnStep p r res (RStep p r)) :
    RunMatch p res (RSteps p 1 r) := by
  unfold RSteps
  cases hs : RStep p r <;> rw [hs] at h <;> exact h

theorem run_machine {p : RProgram F} {fuel : Nat} (hfit : Fits p fuel) :
    SeqL.Run ProgL.lang p fuel RState.pc (RStep p) (fun r x => (x.1, x.2, r.out)) (RSteps p)
      (fun r => Core p r.vars r.out) (fun r => Ended p r.vars r.out) (fun _ => True) (RunMatch p) where
  iter := rsteps_iterates p
  ended := rstep_ended
  keeps _ _ := trivial
  frame r := frame p _ _
  idle h := h.2
  ok := exists_congr fun _ => and_congr_right fun _ => sim_lands
  err {_ x} h := by obtain ⟨e, ln, o⟩ := x; obtain ⟨σ, i, h, _⟩ := h; exact ⟨_, σ, h⟩
  turn _ hpc h hl hidx := turnStep_run (turn_refines hfit (sim_lands.2 (hpc ▸ h)) hpc hl hidx)

/-- `n ≤ k`: a turn on a colon is no reference step -/
theorem turns_refines {p : RProgram F} {fuel : Nat} (hfit : Fits p fuel) :
    ∀ (k : Nat) (r : RState F) (σ : St F), Sim p r σ →
      ∃ n, n ≤ k ∧ RunMatch p (turns fuel k σ) (RSteps p n r) :=
  fun k r σ h => RunSim.by_turns (run_machine hfit).zero (run_machine hfit).turn_cases k r σ ⟨sim_lands.1 h, trivial⟩

theorem steps_refines {p : RProgram F} {fuel : Nat} (hfit : Fits p fuel) :
    ∀ (n : Nat) (r : RState F) (σ : St F), Sim p r σ →
      ∃ k, k ≤ 2 * n ∧ RunMatch p (turns fuel k σ) (RSteps p n r) :=
  fun n r σ h => RunSim.by_steps (run_machine hfit).zero (run_machine hfit).turn_cases n r σ ⟨sim_lands.1 h, trivial⟩

/-- **Whole runs, by turns.**  RUN followed by `k` turns of the host loop does
    what `n` reference steps from the start of the program do, for some `n`
    between 1 and `k + 1`: equal variables, equal printed output, the cursor
    where the program counter says; or the same error, attributed to the same
    line, after the same output. -/
theorem run_refines {p : RProgram F} {fuel : Nat} (hfit : Fits p fuel) {σ : St F} (h : Ready p σ) (k : Nat) :
    ∃ n, 1 ≤ n ∧ n ≤ k + 1 ∧ RunMatch p (runTurns fuel k σ) (RSteps p n p.start) :=
  RunSim.run_by_turns (run_machine hfit).zero (run_machine hfit).turn_cases
    ((run_machine hfit).first (turnStep_run (run_start hfit h)) trivial) k

/-- **Whole runs, by reference steps.**  `n + 1` reference steps from the start of
    the program are RUN followed by some `k ≤ 2 n` turns of the host loop. -/
theorem run_refines_steps {p : RProgram F} {fuel : Nat} (hfit : Fits p fuel) {σ : St F} (h : Ready p σ) (n : Nat) :
    ∃ k, k ≤ 2 * n ∧ RunMatch p (runTurns fuel k σ) (RSteps p (n + 1) p.start) :=
  RunSim.run_by_steps (run_machine hfit).zero (run_machine hfit).turn_cases
    ((run_machine hfit).first (turnStep_run (run_start hfit h)) trivial) n

theorem takeOutput_outRecs {σ : St F} {os : List Str} (h : σ.out = outRecs os) :
    (takeOutput σ).1 = os.map Out.print := by
  simp only [takeOutput, h, outRecs, List.reverse_reverse]

/-- **A program that ends, ends the same way in the model**: if the reference
    machine has reached its end after `n + 1` steps, then RUN and some `k ≤ 2 n`
    turns leave the interpreter idle, holding the reference variables, and the
    host takes exactly the reference PRINT records from the output queue. -/
theorem run_ends {p : RProgram F} {fuel : Nat} (hfit : Fits p fuel) {σ : St F} (h : Ready p σ) (n : Nat)
    {r' : RState F} (hr : RSteps p (n + 1) p.start = .inl r') (hend : r'.pc = none) :
    ∃ k σ', k ≤ 2 * n ∧ runTurns fuel k σ = .ok () σ' ∧ σ'.state = .idle ∧ σ'.vars = r'.vars ∧
      (takeOutput σ').1 = r'.out.map Out.print := by
  obtain ⟨k, hk, hm⟩ := run_refines_steps hfit h n
  rw [hr] at hm
  obtain ⟨σ', hσ', hsim⟩ := hm
  have hpos := hsim.pos
  rw [hend] at hpos
  exact ⟨k, σ', hk, hσ', hpos, hsim.core.vars, takeOutput_outRecs hsim.core.out⟩

/-- **A program that fails, fails the same way in the model**: the same error,
    attributed to the same line, after the same printed output. -/
theorem run_fails {p : RProgram F} {fuel : Nat} (hfit : Fits p fuel) {σ : St F} (h : Ready p σ) (n : Nat)
    {e : Err} {ln : Nat} {out : List Str} (hr : RSteps p (n + 1) p.start = .inr (e, ln, out)) :
    ∃ k σ' i, k ≤ 2 * n ∧
      runTurns fuel k σ = .err { err := e, loc := some { line := some ln, idx := i } } σ' ∧
      σ'.state = .idle ∧ (takeOutput σ').1 = out.map Out.print := by
  obtain ⟨k, hk, hm⟩ := run_refines_steps hfit h n
  rw [hr] at hm
  obtain ⟨σ', i, hσ', hidle, hout⟩ := hm
  exact ⟨k, σ', i, hk, hσ', hidle, takeOutput_outRecs hout⟩

/-! ### non-vacuity (on the degenerate carrier `Unit`, where `toU64 (ofNat n) = 0`: the only GOTO target is line 0) -/

/-- ```
    0 IF A$ THEN END
    10 LET A$ = "X" : PRINT A$;
    20 GOTO 0
    ``` -/
def demoProg : RProgram Unit :=
  [ (0, [.ifS (.var ['A', '$']) .endS none]),
    (10, [.letS ['A', '$'] (.str ['X']), .printS [.expr (.var ['A', '$']), .semi]]),
    (20, [.gotoS 0]) ]

def demoLines : Lines Unit :=
  { map := [ (0, [.kw .If, .symbol ['A', '$'], .kw .Then, .kw .End]),
             (10, [.kw .Let, .symbol ['A', '$'], .kw .Equals, .str ['X'], .kw .Colon,
                   .kw .Print, .symbol ['A', '$'], .kw .Semicolon]),
             (20, [.kw .Goto, .num ()]) ],
    sorted := [0, 10, 20] }

theorem demo_compile : compileP demoProg = demoLines := by
  simp [compileP, demoProg, demoLines, renderLine, renderTail, renderS, renderItems, PItem.render,
    render_str, render_var, NumOps.ofNat]

def demoStart : St Unit := { lines := demoLines }

/-- by computation on the model: RUN and five turns (IF; LET; the colon; PRINT; GOTO; IF … END —
    RUN is the first of them) print `X` and leave the interpreter idle; after four it is still running -/
example : (runTurns defaultFuel 5 demoStart).final.state = .idle ∧
    (takeOutput (runTurns defaultFuel 5 demoStart).final).1 = [.print ['X']] ∧
    (runTurns defaultFuel 4 demoStart).final.state = .running := by
  decide +kernel

/-- the reference machine: five steps to the end -/
example : ∃ r', RSteps demoProg 5 demoProg.start = .inl r' ∧ r'.pc = none ∧ r'.out = [['X']] :=
  ⟨_, rfl, rfl, rfl⟩

theorem demo_fits : Fits demoProg defaultFuel where
  wf := ⟨by decide, by simp [demoProg]⟩
  covered := by simp [demoProg, RStmt.Covered, RStmt.elseFree, separated, NumOps.toU64]
  depth := by simp [demoProg, sdepth, itemsDepth, depth, defaultFuel, Extracted.nestingLimit]

theorem demo_ready : Ready demoProg demoStart where
  idle := rfl
  lines := by show Holds demoLines demoProg; rw [← demo_compile]; exact holds_compile _
  warnings := rfl
  tracing := rfl
  nesting := rfl
  out := rfl

/-- … and the same by the theorems: `demoProg` satisfies their hypotheses, the reference machine ends
    after five steps having printed `X`, hence so does the model within 8 turns after RUN. -/
example : ∃ k σ', k ≤ 8 ∧ runTurns defaultFuel k demoStart = .ok () σ' ∧ σ'.state = .idle ∧
    (takeOutput σ').1 = [.print ['X']] := by
  obtain ⟨k, σ', hk, hrun, hidle, _, hout⟩ :=
    run_ends demo_fits demo_ready 4 (r' := { vars := [(['A', '$'], .str ['X'])], out := [['X']], pc := none }) rfl rfl
  exact ⟨k, σ', hk, hrun, hidle, hout⟩

/-- ```
    10 PRINT "A"
    20 GOTO 0
    ``` -/
def badProg : RProgram Unit :=
  [ (10, [.printS [.expr (.str ['A'])]]), (20, [.gotoS 0]) ]

def badLines : Lines Unit :=
  { map := [ (10, [.kw .Print, .str ['A']]), (20, [.kw .Goto, .num ()]) ], sorted := [10, 20] }

theorem bad_compile : compileP badProg = badLines := by
  simp [compileP, badProg, badLines, renderLine, renderTail, renderS, renderItems, PItem.render,
    render_str, NumOps.ofNat]

def errOf {α : Type} : Res Unit α → Option TErr
  | .ok _ _ => none
  | .err e _ => some e

/-- by computation on the model: the PRINT record, then UNDEF'D STATEMENT located on line 20 -/
example : errOf (runTurns defaultFuel 1 ({ lines := badLines } : St Unit)) =
      some { err := .undefinedStatement, loc := some { line := some 20, idx := 1 } } ∧
    (takeOutput (runTurns defaultFuel 1 ({ lines := badLines } : St Unit)).final).1 = [.print ['A', '\n']] := by
  decide +kernel

theorem bad_fits : Fits badProg defaultFuel where
  wf := ⟨by decide, by simp [badProg]⟩
  covered := by simp [badProg, RStmt.Covered, separated, NumOps.toU64]
  depth := by simp [badProg, sdepth, itemsDepth, depth, defaultFuel, Extracted.nestingLimit]

/-- the same by the theorems (error kind, line attribution, output before the error) -/
example : ∃ k σ' i, k ≤ 2 ∧ runTurns defaultFuel k ({ lines := badLines } : St Unit) =
      .err { err := .undefinedStatement, loc := some { line := some 20, idx := i } } σ' ∧
    σ'.state = .idle ∧ (takeOutput σ').1 = [.print ['A', '\n']] :=
  run_fails bad_fits (σ := ({ lines := badLines } : St Unit))
    ⟨rfl, by show Holds badLines badProg; rw [← bad_compile]; exact holds_compile _, rfl, rfl, rfl, rfl⟩ 1
    (e := .undefinedStatement) (ln := 20) (out := [['A', '\n']]) rfl

end Abasic.Props.C03
