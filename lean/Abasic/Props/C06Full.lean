import Abasic.Proofs.Typing2Fold
import Abasic.Props.C02Full
/-
  C06 for the FULL expression language: array cells, RND and calls of
  user-defined functions inside expressions.

  `typeOf2 sig e` (Abasic/Proofs/TypeOf2.lean) is the spec's static typing of an
  `Expr2` tree relative to the signatures `sig` of the functions whose DEF the
  analyzer has seen; `sigOf σ.fns` are the signatures recorded in a state.  The
  analyzer's expression pass on `render2 e` returns `typeOf2 (sigOf σ.fns) e`
  (`analyze_render2`).  In an environment whose variables, frames, arrays AND
  function table agree with the signatures (`EnvTyped sig env`, in particular
  `FnsTyped`: the functions defined at run time are exactly those of `sig`, with
  parameters of the recorded kinds and bodies that are themselves typed), a typed
  tree evaluates to a value of its static kind, or fails with a `RunErr2` error:
  never `.syntax _`, `.typeMismatch`, `.undefinedStatement` (`fold2_typed`,
  Abasic/Proofs/Typing2Fold.lean).  `sound_expr2` puts the two together.  Its
  hypothesis `EnvTyped (sigOf σa.fns) env` is the property's side condition
  "function definitions are each unique and executed before any use", stated
  dynamically: at the moment of the evaluation the run-time function table holds
  exactly THE definitions the analyzer had seen when it checked this expression.
  `Abasic/Props/C06FullEx.lean` shows that it cannot be dropped.

  DEF FN in the analyzer's statement pass is Abasic/Proofs/AnalyzerDef.lean (the
  analyzer records the signature FIRST and then checks the body against the new
  signatures); statement and program level are Abasic/Proofs/Typing3.lean (same
  namespace).
-/
set_option linter.unusedSectionVars false

namespace Abasic.Props.C06
open Abasic Abasic.Ref Abasic.ExprL Abasic.ExprL2 Abasic.AnaL M

variable {F : Type} [NumOps F]

/-- The hypotheses of `analyze_render2` (as `AReady`): the cursor of `σ` stands on
    the numbered line `ln`, whose tokens are `pre ++ render2 e ++ rest`, at index
    `|pre|`; names are used consistently with the function table of `σ`
    (`Resolved2`); there is room for the nested `evaluate_expression` levels of
    the rendering (parentheses, built-in arguments, subscripts, arguments — the
    analyzer does not enter function bodies) below the nesting cap and in the fuel. -/
structure AReady2 (σ : St F) (ln : Nat) (pre : List (Token F)) (e : Expr2 F) (rest : List (Token F))
    (n : Nat) : Prop where
  line : σ.loc.line = some ln
  toks : tokens σ = .ok (pre ++ render2 e ++ rest) σ
  idx : σ.loc.idx = pre.length
  resolved : Resolved2 (sigOf σ.fns) e
  nesting : σ.nesting + adepth e < Extracted.nestingLimit
  fuel : adepth e + 1 ≤ n
  follows : C02.Follows rest

/-- For every tree `e`, the six analyzer tiers run on `render2 e` return
    `typeOf2 (sigOf σ.fns) e`, having consumed exactly `render2 e`, logged
    exactly `accs2 (sigOf σ.fns) ln |pre| e`, and changed nothing else; if
    `typeOf2` is an error the run fails with that error, the nesting counter
    restored. -/
theorem analyze_render2 (e : Expr2 F) (n ln : Nat) (σ : St F) (pre rest : List (Token F))
    (h : AReady2 σ ln pre e rest n) :
    (∀ t, typeOf2 (sigOf σ.fns) e = .ok t → ∃ r, σ.reads < r ∧
      aOrExpr (aEvalN n) σ =
        .ok t { σ with loc := { σ.loc with idx := pre.length + (render2 e).length }, reads := r,
                       accesses := σ.accesses ++ accs2 (sigOf σ.fns) ln pre.length e }) ∧
    (∀ x, typeOf2 (sigOf σ.fns) e = .error x → ∃ σ',
      aOrExpr (aEvalN n) σ = .err { err := x } σ' ∧ σ'.nesting = σ.nesting) := by
  have hA := (atier_run e (Ctx.at σ ln) _ n 6 (by have := h.fuel; omega)
    (by have := h.nesting; show σ.nesting + _ ≤ _; omega)
    (by have := prec2_bounds e; unfold lv2; omega) (Nat.le_refl _) h.resolved).run (.of_tokens h.toks h.idx) h.line
    (C02.ends_of_follows h.follows)
  rw [atier_six] at hA
  exact hA.final h.idx

/-- the same for the recursive entry `aExprBody` = `(aEvalN (n+1)).expr` (one
    nesting level deeper, restored on exit), the entry used by statements -/
theorem analyze_render2_body (e : Expr2 F) (n ln : Nat) (σ : St F) (pre rest : List (Token F))
    (h : AReady2 σ ln pre e rest n) :
    (∀ t, typeOf2 (sigOf σ.fns) e = .ok t → ∃ r, σ.reads < r ∧
      aExprBody (aEvalN n) σ =
        .ok t { σ with loc := { σ.loc with idx := pre.length + (render2 e).length }, reads := r,
                       accesses := σ.accesses ++ accs2 (sigOf σ.fns) ln pre.length e }) ∧
    (∀ x, typeOf2 (sigOf σ.fns) e = .error x → ∃ σ',
      aExprBody (aEvalN n) σ = .err { err := x } σ' ∧ σ'.nesting = σ.nesting) := by
  have hA := (aexpr_run e (Ctx.at σ ln) _ (n + 1) (by have := h.fuel; omega)
    (by have := h.nesting; show σ.nesting + _ ≤ _; omega) h.resolved).run (.of_tokens h.toks h.idx)
    h.line (C02.ends_of_follows h.follows)
  have hb : (aEvalN (F := F) (n + 1)).expr = aExprBody (aEvalN n) := rfl
  rw [hb] at hA
  exact hA.final h.idx

theorem analyze_render2_outcome (e : Expr2 F) (n ln : Nat) (σ : St F) (pre rest : List (Token F))
    (h : AReady2 σ ln pre e rest n) :
    C02.outcome (aOrExpr (aEvalN n) σ) =
      (match typeOf2 (sigOf σ.fns) e with
       | .ok t => .ok t
       | .error x => .error { err := x }) := by
  obtain ⟨h1, h2⟩ := analyze_render2 e n ln σ pre rest h
  cases hev : typeOf2 (sigOf σ.fns) e with
  | ok t => obtain ⟨r, _, hr⟩ := h1 t hev; rw [hr]; rfl
  | error x => obtain ⟨σ', hσ', _⟩ := h2 x hev; rw [hσ']; rfl

theorem analyzer_accepts_iff2 (e : Expr2 F) (n ln : Nat) (σ : St F) (pre rest : List (Token F))
    (h : AReady2 σ ln pre e rest n) (t : VT) :
    (∃ σ', aOrExpr (aEvalN n) σ = .ok t σ') ↔ typeOf2 (sigOf σ.fns) e = .ok t := by
  obtain ⟨h1, h2⟩ := analyze_render2 e n ln σ pre rest h
  exact accepts_iff_of_clauses h1 h2 t

/-- the errors of the analyzer's expression pass on a rendering: TYPE MISMATCH or a syntax error -/
theorem analyzer_rejects2 (e : Expr2 F) (n ln : Nat) (σ σ' : St F) (pre rest : List (Token F)) (te : TErr)
    (h : AReady2 σ ln pre e rest n) (hrej : aOrExpr (aEvalN n) σ = .err te σ') :
    ∃ x, typeOf2 (sigOf σ.fns) e = .error x ∧ te = { err := x } ∧ (x = .typeMismatch ∨ ∃ s, x = .syntax s) := by
  obtain ⟨h1, h2⟩ := analyze_render2 e n ln σ pre rest h
  cases hev : typeOf2 (sigOf σ.fns) e with
  | ok t =>
    obtain ⟨r, _, hr⟩ := h1 t hev
    rw [hr] at hrej
    cases hrej
  | error x =>
    obtain ⟨σ'', hσ'', _⟩ := h2 x hev
    rw [hσ''] at hrej
    simp only [Res.err.injEq] at hrej
    exact ⟨x, rfl, hrej.1.symm, typeOf2_error _ e x hev⟩

/-- **C06 for expressions with cells, RND and user-function calls.**  If the
    analyzer accepts the rendering of `e` with type `t` (run from a state `σa`
    standing on it, on a numbered line), then the evaluator run on the same
    tokens — from any state `σ` standing on a rendering of `e` (C02's `Ready2`,
    realising the environment `env`) in which variables, frames, arrays and the
    FUNCTION TABLE agree with the signatures the analyzer had
    (`EnvTyped (sigOf σa.fns) env`) — never fails with TYPE MISMATCH, a syntax
    error or UNDEF'D STATEMENT (only with a `RunErr2` error: DIVISION BY ZERO,
    BAD SUBSCRIPT, ILLEGAL QUANTITY, OUT OF MEMORY, …), any value it returns has
    kind `t`, and the environment it leaves is typed again. -/
theorem sound_expr2 (e : Expr2 F) (t : VT)
    (na ln : Nat) (σa σa' : St F) (prea resta : List (Token F))
    (ha : AReady2 σa ln prea e resta na) (hacc : aOrExpr (aEvalN na) σa = .ok t σa')
    (k n : Nat) (σ : St F) (env : RefEnv F) (pre rest : List (Token F))
    (hr : C02.Ready2 σ env pre e rest k n) (hty : EnvTyped (sigOf σa.fns) env) :
    typeOf2 (sigOf σa.fns) e = .ok t ∧
    (∀ te σ', orExpr (evalN n) σ = .err te σ' →
      RunErr2 te.err ∧ te.err ≠ .typeMismatch ∧ (∀ s, te.err ≠ .syntax s) ∧ te.err ≠ .undefinedStatement) ∧
    (∀ v σ', orExpr (evalN n) σ = .ok v σ' →
      kindOf v = t ∧ ∃ env', C02.EnvOf σ' env' ∧ EnvTyped (sigOf σa.fns) env') := by
  have htyp : typeOf2 (sigOf σa.fns) e = .ok t :=
    (analyzer_accepts_iff2 e na ln σa prea resta ha t).1 ⟨σa', hacc⟩
  refine ⟨htyp, ?_⟩
  obtain ⟨h1, h2⟩ := C02.eval_render2 e k n σ env pre rest hr
  obtain ⟨f1, f2⟩ := fold2_typed (sigOf σa.fns) k e env t hty htyp
  cases hf : fold2 k env e with
  | ok p =>
    obtain ⟨v, env'⟩ := p
    obtain ⟨r, _, hrun, henv'⟩ := h1 v env' hf
    obtain ⟨hk, hty'⟩ := f1 v env' hf
    rw [hrun]
    refine ⟨fun te σ' h => (by cases h), fun w σ' h => ?_⟩
    simp only [Res.ok.injEq] at h
    rw [← h.1, ← h.2]
    exact ⟨hk, env', henv', hty'⟩
  | error x =>
    obtain ⟨te, σ'', hrun, hx, _⟩ := h2 x hf
    have hx2 := f2 x hf
    rw [hrun]
    refine ⟨fun te' σ' h => ?_, fun w σ' h => by cases h⟩
    simp only [Res.err.injEq] at h
    rw [← h.1, hx]
    exact ⟨hx2, hx2.not_static⟩

/-! ### examples -/

/-- `FNA(B(I), "S")` -/
def exE : Expr2 F := .call "FNA".toList [.cell ['B'] [.var ['I']], .str ['S']]

def exToks : List (Token F) :=
  [.symbol "FNA".toList, .kw .LeftParen, .symbol ['B'], .kw .LeftParen, .symbol ['I'], .kw .RightParen,
   .kw .Comma, .str ['S'], .kw .RightParen]

def exFns : List (Str × FnDef) := [("FNA".toList, { args := [['X'], ['Y', '$']], line := 5, idx := 0 })]

def exState : St F := { lineState 10 exToks [] with fns := exFns }

theorem ex_render : render2 (exE : Expr2 F) = exToks := by
  simp [exE, exToks, render2_call, render2_cell, renderArgs_cons, renderArgs_one, render2_var, render2_str]

theorem ex_depth : adepth (exE : Expr2 F) = 2 := by
  simp [exE, depthArgs, adepth, depth2]

theorem ex_type : typeOf2 (sigOf exFns) (exE : Expr2 F) = .ok .num := by
  simp [exE, typeOf2, typeIdx, typeArgs, sigOf, exFns, alGet, VT.ofName, endsWithDollar]

theorem ex_ready : AReady2 (exState : St F) 10 [] exE [] defaultFuel where
  line := rfl
  toks := by
    rw [ex_render]
    simp [tokens, tokensForLine, exState, lineState, Lines.get, Lines.getMap]
  idx := rfl
  resolved := by
    simp [exE, Resolved2, Resolved2L, reserved, sigOf, exState, exFns, alGet]
    decide
  nesting := by
    rw [ex_depth]
    show 0 + 2 < Extracted.nestingLimit
    decide
  fuel := by rw [ex_depth]; unfold defaultFuel; omega
  follows := C02.follows_nil

/-- Non-vacuity of `analyze_render2`, end to end: on line 10 holding `FNA ( B ( I ) , "S" )`, with
    `DEF FNA(X, Y$)` recorded, the analyzer answers "number", logs the read of `FNA` (token 0) before its
    arguments, of `I` (token 4), and of the array `B` (token 2) after its subscript. -/
theorem ex_run : ∃ r, aOrExpr (aEvalN defaultFuel) (exState : St F) =
    .ok .num { (exState : St F) with loc := { line := some 10, idx := 9 }, reads := r, accesses := [("FNA".toList, 10, 0, .read), (['I'], 10, 4, .read), (['B'], 10, 2, .read)] } := by
  obtain ⟨r, _, hr⟩ := (analyze_render2 (exE : Expr2 F) defaultFuel 10 exState [] [] ex_ready).1 .num ex_type
  refine ⟨r, ?_⟩
  rw [hr, ex_render]
  simp [exE, exToks, accs2, accsArgs, sigOf, exState, exFns, alGet, lineState]

/-- … and with one argument too few, `FNA ( B ( I ) )`, the verdict is the syntax error of the missing comma -/
theorem ex_too_few : typeOf2 (sigOf exFns) (.call "FNA".toList [.cell ['B'] [.var ['I']]] : Expr2 F)
    = .error (.syntax (.expectedToken .Comma)) := by
  simp [typeOf2, typeIdx, typeArgs, sigOf, exFns, alGet, VT.ofName, endsWithDollar]

/-- … with a number for `Y$`, TYPE MISMATCH -/
theorem ex_bad_kind : typeOf2 (sigOf exFns) (.call "FNA".toList [.var ['I'], .var ['J']] : Expr2 F)
    = .error .typeMismatch := by
  simp [typeOf2, typeArgs, sigOf, exFns, alGet, VT.ofName, endsWithDollar]

/-- … and before the DEF has been seen, `FNA ( B ( I ) , "S" )` is an array cell with a string subscript -/
theorem ex_undefined : typeOf2 (sigOf []) (exE : Expr2 F) = .error .typeMismatch := by
  simp [exE, typeOf2, typeIdx, sigOf, alGet, VT.ofName, endsWithDollar]

end Abasic.Props.C06
