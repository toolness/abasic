import Abasic.Proofs.StmtLemmasG
/-
  C07 / C03 — one LET statement against the reference semantics, for any stack that binds no variable
  (`assign_at_stop_sub` uses it inside subroutines; `C03.let_refines` is the case of an empty stack).
-/
namespace Abasic.Props.C07
open Abasic Abasic.Ref Abasic.ExprL Abasic.StmtL

variable {F : Type} [NumOps F]

/-- `C03.let_refines` without the hypothesis `σ.stack = []`: it is enough that no frame
    on the stack binds a variable (`ExprG.Quiet`).  FOR loops are unconstrained. -/
theorem let_refines_sub (x : Str) (e : Expr F) (n : Nat) (σ : St F) (pre rest : List (Token F))
    (hAt : At σ pre (renderS (.letS x e) ++ rest))
    (hq : ∀ sym, findInStack sym σ.stack = none) (hw : σ.warnings = false) (htr : σ.tracing = false)
    (hnest : σ.nesting + sdepth (.letS x e) ≤ Extracted.nestingLimit) (hfuel : sdepth (.letS x e) ≤ n)
    (hrest : StmtEnd rest) :
    (∀ v, foldE (envOf σ.vars) e = .ok v → v.matchesName x = true → ∃ k, σ.reads < k ∧
      stmtBody (evalN n) σ = .ok ()
        { σ with vars := alSet x v σ.vars,
                 loc := { σ.loc with idx := pre.length + (renderS (.letS x e)).length }, reads := k }) ∧
    (∀ v, foldE (envOf σ.vars) e = .ok v → v.matchesName x = false → ∃ σ',
      stmtBody (evalN n) σ = .err { err := .typeMismatch } σ' ∧ σ'.nesting = σ.nesting) ∧
    (∀ err, foldE (envOf σ.vars) e = .error err → ∃ σ',
      stmtBody (evalN n) σ = .err { err := err } σ' ∧ σ'.nesting = σ.nesting) := by
  have hR := StmtG.let_run x e n σ pre rest 0 hAt ⟨hq, hw⟩ htr hfuel hnest (ends_of_stmtEnd hrest 6)
  refine ⟨fun v hv hm => ?_, fun v hv hm => ?_, fun err hv => ?_⟩
  · simp only [RStmt.exec, hv, hm, ↓reduceIte] at hR
    exact hR
  · simp only [RStmt.exec, hv, hm, Bool.false_eq_true, ↓reduceIte] at hR
    exact let ⟨s, h1, h2, _⟩ := hR; ⟨s, h1, h2⟩
  · simp only [RStmt.exec, hv] at hR
    exact let ⟨s, h1, h2, _⟩ := hR; ⟨s, h1, h2⟩

end Abasic.Props.C07
