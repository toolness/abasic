import Abasic.Proofs.TokLoop
/-
  C13, continued — the ranges of a whole run, read off the loop relation `Lexed`
  (Proofs/TokLoop.lean).
-/
namespace Abasic.Props.C13
open Abasic

variable {F : Type} [NumOps F]

/-- `lo ≤ start₁ ≤ end₁ ≤ start₂ ≤ end₂ ≤ …` -/
def Chain : Nat → List (RangedToken F) → Prop
  | _, [] => True
  | lo, (_, a, b) :: rest => lo ≤ a ∧ a ≤ b ∧ Chain b rest

omit [NumOps F] in
theorem chain_mono {lo lo' : Nat} (h : lo' ≤ lo) : ∀ l : List (RangedToken F), Chain lo l → Chain lo' l
  | [], _ => trivial
  | (_, _, _) :: _, ⟨h1, h2, h3⟩ => ⟨Nat.le_trans h h1, h2, h3⟩

theorem _root_.Abasic.Lexed.chain {cs : Str} {idx : Nat} {out : List (RangedToken F)} {e : Option TokErr}
    (h : Lexed cs idx out e) : Chain idx out := by
  induction h with
  | tok _ _ _ _ _ ih => exact ⟨Nat.le_add_right _ _, Nat.le_add_right _ _, ih⟩
  | _ => trivial

theorem tokLoop_chain (fuel : Nat) (cs : Str) (idx : Nat) (acc : List (RangedToken F)) :
    ∃ out, (tokLoop fuel cs idx acc).1 = acc.reverse ++ out ∧ Chain idx out :=
  let ⟨out, h, hl⟩ := tokLoop_lexed' fuel cs idx acc
  ⟨out, h, hl.chain⟩

/-- Ranges are ordered, non-overlapping, and begin at or after the skipped prefix. -/
theorem ranges_chain (line : Str) (skip : Nat) :
    Chain skip (tokenizeRanges (F := F) line skip).1 :=
  (tokenizeRanges_lexed line skip).1.chain

def ErrPosOk (lo : Nat) : TokErr → Prop
  | .illegalChar i => lo ≤ i
  | .unterminated i => lo ≤ i
  | .invalidNumber a b => lo ≤ a ∧ a ≤ b
  | .outOfFuel => True

theorem errPosOk_mono {lo lo' : Nat} (h : lo' ≤ lo) (e : TokErr) (he : ErrPosOk lo e) : ErrPosOk lo' e := by
  cases e <;> simp only [ErrPosOk] at * <;> omega

theorem _root_.Abasic.Lexed.errPos {cs : Str} {idx : Nat} {out : List (RangedToken F)} {e : TokErr}
    (h : Lexed cs idx out (some e)) : ErrPosOk idx e := by
  generalize he : some e = e' at h
  induction h with
  | done => cases he
  | tok _ _ _ _ _ ih => exact errPosOk_mono (by omega) e (ih he)
  | _ => cases he; simp only [ErrPosOk]; try omega

/-- The error position reported for a line that does not tokenize lies at or
    after the end of the last token: everything before it tokenized. -/
theorem tokLoop_error_pos (fuel : Nat) (cs : Str) (idx : Nat) (acc : List (RangedToken F)) (e : TokErr)
    (h : (tokLoop fuel cs idx acc).2 = some e) : ErrPosOk idx e :=
  let ⟨_, _, hl⟩ := tokLoop_lexed' fuel cs idx acc
  (h ▸ hl).errPos

theorem error_after_skip (line : Str) (skip : Nat) (e : TokErr)
    (h : (tokenizeRanges (F := F) line skip).2 = some e) : ErrPosOk skip e :=
  (h ▸ (tokenizeRanges_lexed line skip).1).errPos

/-- Non-vacuity: a chain with two real tokens. -/
example : Chain (F := Unit) 2 [(.kw .Print, 3, 8), (.kw .Colon, 9, 10)] := by
  simp [Chain]

/-- Every reported range is non-empty and lies inside the line
    (no hypothesis on `skip` is needed). -/
theorem ranges_in_bounds_strict (line : Str) (skip : Nat) :
    ∀ t a b, (t, a, b) ∈ (tokenizeRanges (F := F) line skip).1 →
      skip ≤ a ∧ a < b ∧ b ≤ len8 line := by
  intro t a b hmem
  obtain ⟨p, c, m, rest, hcs, rfl, rfl, _, _⟩ := (tokenizeRanges_lexed (F := F) line skip).1.mem t a b hmem
  have hpos := len8_cons_pos c m
  have hl : len8 (dropBytes skip line) = len8 p + (len8 (c :: m) + len8 rest) := by
    rw [hcs, len8_append, len8_append, Nat.add_assoc]
  rcases dropBytes_len8 skip line with h | h
  · rw [h] at hcs; simp at hcs
  · omega

theorem ranges_in_bounds_strict_zero (line : Str) :
    ∀ t a b, (t, a, b) ∈ (tokenizeRanges (F := F) line 0).1 → a < b ∧ b ≤ len8 line :=
  fun t a b h => (ranges_in_bounds_strict line 0 t a b h).2

/-- The tokenizer's iteration budget is never exhausted. -/
theorem tokenize_total (line : Str) (skip : Nat) :
    (tokenizeRanges (F := F) line skip).2 ≠ some .outOfFuel :=
  (tokenizeRanges_lexed line skip).2

/-- `[a, b)` is the byte range of a non-empty run `m` of whole characters of
    `whole` (so `a` and `b` are character boundaries and `a < b ≤ len8 whole`),
    the run starts with a non-blank and — unless the token is a remark or a
    `DATA` token — also ends with a non-blank. -/
def RangeExact (whole : Str) (t : Token F) (a b : Nat) : Prop :=
  ∃ p m s, whole = p ++ m ++ s ∧ len8 p = a ∧ a + len8 m = b ∧
    (∃ x m', m = x :: m' ∧ isBasicWs x = false) ∧
    ((∀ s, t ≠ .remark s) → (∀ d, t ≠ .data d) → ∃ m' x, m = m' ++ [x] ∧ isBasicWs x = false)

omit [NumOps F] in
theorem RangeExact.bounds {whole : Str} {t : Token F} {a b : Nat} (h : RangeExact whole t a b) :
    a < b ∧ b ≤ len8 whole := by
  obtain ⟨p, m, s, hw, hp, hm, ⟨x, m', hx, _⟩, _⟩ := h
  have h1 : 0 < len8 m := by rw [hx]; exact len8_cons_pos x m'
  have h2 : len8 whole = len8 p + len8 m + len8 s := by
    rw [hw, len8_append, len8_append]
  omega

theorem _root_.Abasic.Lexed.rangeExact {cs : Str} {idx : Nat} {out : List (RangedToken F)} {e : Option TokErr}
    (hl : Lexed cs idx out e) {whole done : Str} (hw : whole = done ++ cs) (hidx : len8 done = idx) :
    ∀ t a b, (t, a, b) ∈ out → RangeExact whole t a b := by
  intro t a b hmem
  obtain ⟨p, c, m, rest, rfl, rfl, rfl, hc, hn⟩ := hl.mem t a b hmem
  refine ⟨done ++ p, c :: m, rest, by rw [hw]; simp, by rw [len8_append, hidx], rfl,
    ⟨c, m, rfl, hc⟩, fun hrem hdata => ?_⟩
  obtain ⟨pre, x, hx, hxb⟩ := nonblank_ends _ t rest hn hrem hdata
  exact ⟨pre, x, List.append_cancel_right (by rw [hx]; simp : (c :: m) ++ rest = (pre ++ [x]) ++ rest), hxb⟩

theorem tokLoop_exact (fuel : Nat) (cs : Str) (idx : Nat) (acc : List (RangedToken F))
    (whole done : Str) (hw : whole = done ++ cs) (hidx : len8 done = idx) :
    ∃ out, (tokLoop fuel cs idx acc).1 = acc.reverse ++ out ∧
      ∀ t a b, (t, a, b) ∈ out → RangeExact whole t a b :=
  let ⟨out, hout, hl⟩ := tokLoop_lexed' fuel cs idx acc
  ⟨out, hout, hl.rangeExact hw hidx⟩

/-- Every range reported for a whole line is exact. -/
theorem ranges_exact_zero (line : Str) :
    ∀ t a b, (t, a, b) ∈ (tokenizeRanges (F := F) line 0).1 → RangeExact line t a b :=
  (tokenizeRanges_lexed line 0).1.rangeExact (done := []) (C12.dropBytes_zero line).symm rfl

/-- … and for a skip that falls on a character boundary. -/
theorem ranges_exact (line : Str) (skip : Nat)
    (hskip : ∃ pre, line = pre ++ dropBytes skip line ∧ len8 pre = skip) :
    ∀ t a b, (t, a, b) ∈ (tokenizeRanges (F := F) line skip).1 → RangeExact line t a b :=
  let ⟨_, hline, hpre⟩ := hskip
  (tokenizeRanges_lexed line skip).1.rangeExact hline hpre

theorem ranges_in_bounds_strict_skip (line : Str) (skip : Nat)
    (hskip : ∃ pre, line = pre ++ dropBytes skip line ∧ len8 pre = skip) :
    ∀ t a b, (t, a, b) ∈ (tokenizeRanges (F := F) line skip).1 → a < b ∧ b ≤ len8 line :=
  fun t a b h => (ranges_exact line skip hskip t a b h).bounds

/-- Non-vacuity of `RangeExact`: `PRINT` at bytes 3..8 of `10 PRINT`. -/
example : RangeExact (F := Unit) "10 PRINT".toList (.kw .Print) 3 8 :=
  ⟨"10 ".toList, "PRINT".toList, [], by decide, by decide, by decide,
    ⟨'P', "RINT".toList, by decide, by decide⟩, fun _ _ => ⟨"PRIN".toList, 'T', by decide, by decide⟩⟩

end Abasic.Props.C13
