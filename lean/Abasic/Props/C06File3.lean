import Abasic.Proofs.After3
import Abasic.Proofs.Analyzer3
import Abasic.Proofs.Typing3
/-
  C06 for the unified machine (`RProgram3`: every statement kind, expressions of
  the full language, DEF FN): from the analyzer's verdict on a source file to the
  static check `typeOfP3`, and on to the run-time theorem `sound_program3`.

  The language is an instance (`Lang3`) of the one pass `ALang` of C06Prog.lean; its context is the
  signatures the analyzer holds.  The statement pass over all lines gives exactly one located error
  diagnostic per line that has a static error w.r.t. the signatures THE ANALYZER has accumulated when
  it reaches the line (`lineErrs3`: after a line that failed, these are the signatures of
  `sigWalkStmts`, not those of `sigAt` — the rest of a failing line is not analysed, a DEF with a
  rejected body has been recorded).  `DefsAgree` is discharged here for programs without DEF and by an
  invariant; the static criterion `DefsFirst` is Props/C06Defs.lean, which also holds the theorem
  `checked` of the example `File3` set up at the end of this file.

  The analyzer's own side conditions (`AFits3`): every statement is covered, fits the
  analyzer's fuel and the nesting cap with its ANALYZER depth (`asdepth`: function
  bodies are not entered) and uses names consistently with the signatures the
  analyzer holds when it reaches it (`ResolvedS2`).
-/
set_option linter.unusedSectionVars false

namespace Abasic.Props.C06
open Abasic Abasic.Ref Abasic.ExprL Abasic.ExprL2 Abasic.AnaL Abasic.StmtL Abasic.AnaS Abasic.ProgL Abasic.ProgT
open Abasic.Prog3L M Abasic.AInv

variable {F : Type} [NumOps F]

/-- Let the cursor of `σ` stand on the numbered line `ln`, at the rendering of the covered statement `s`
    followed by the end of the line or a colon, with `asdepth s` levels of room in the fuel and under the
    nesting cap, names used consistently with the signatures of `σ`. Then the analyzer reports no error on
    the statement iff the statement is typed (`Typed3`) w.r.t. the signatures of `σ` and the stored lines. -/
theorem analyzer_accepts_iff_typed3 (s : RStmt3 F) (n ln : Nat) (σ : St F) (pre rest : List (Token F))
    (hAt : At σ pre (renderS3 s ++ rest)) (hl : σ.loc.line = some ln) (hd : asdepth s ≤ n)
    (hn : σ.nesting + asdepth s ≤ Extracted.nestingLimit) (hcov : s.Covered) (hE : LineEnd rest)
    (hres : ResolvedS2 (sigOf σ.fns) s) :
    (∃ σ', aStmtBody (aEvalN n) σ = .ok () σ') ↔ Typed3 (sigOf σ.fns) σ.lines.has s := by
  have hA := astmt3_run s n ln σ.lines.has hd hcov.1 hcov.2 (sigOf σ.fns) σ pre rest hAt hl rfl rfl hn
    (Or.inl hE) hres
  rw [typeOfS3A_covered _ s _ hcov.2] at hA
  rw [← typeOfS3_ok_iff]
  cases hty : typeOfS3 (sigOf σ.fns) σ.lines.has s with
  | ok u =>
    rw [hty] at hA
    obtain ⟨σ', hσ', _⟩ := hA
    exact ⟨fun _ => rfl, fun _ => ⟨σ', hσ'⟩⟩
  | error x =>
    rw [hty] at hA
    obtain ⟨σ', hσ', _⟩ := hA
    constructor
    · rintro ⟨σ'', hσ''⟩; rw [hσ'] at hσ''; cases hσ''
    · intro h; cases h

/-- … and a statement that is not typed is reported with one of the three static errors -/
theorem analyzer_rejects_untyped3 (s : RStmt3 F) (n ln : Nat) (σ : St F) (pre rest : List (Token F))
    (hAt : At σ pre (renderS3 s ++ rest)) (hl : σ.loc.line = some ln) (hd : asdepth s ≤ n)
    (hn : σ.nesting + asdepth s ≤ Extracted.nestingLimit) (hcov : s.Covered) (hE : LineEnd rest)
    (hres : ResolvedS2 (sigOf σ.fns) s) (hty : ¬ Typed3 (sigOf σ.fns) σ.lines.has s) :
    ∃ x σ', aStmtBody (aEvalN n) σ = .err { err := x } σ' ∧
      (x = .typeMismatch ∨ (∃ se, x = .syntax se) ∨ x = .undefinedStatement) := by
  have hA := astmt3_run s n ln σ.lines.has hd hcov.1 hcov.2 (sigOf σ.fns) σ pre rest hAt hl rfl rfl hn
    (Or.inl hE) hres
  rw [typeOfS3A_covered _ s _ hcov.2] at hA
  cases h : typeOfS3 (sigOf σ.fns) σ.lines.has s with
  | ok u => exact absurd ((typeOfS3_ok_iff _ _ s).1 h) hty
  | error x =>
    rw [h] at hA
    obtain ⟨σ', hσ', _⟩ := hA
    exact ⟨x, σ', hσ', typeOfS3_error _ _ s x h⟩

/-- the signatures after the analyzer has walked the statements of a line: it stops at the first error -/
def sigWalkStmts (le : Nat → Bool) : Sig → List (RStmt3 F) → Sig
  | sig, [] => sig
  | sig, s :: rest =>
    match typeOfS3 sig le s with
    | .ok _ => sigWalkStmts le (sigAfterS sig s) rest
    | .error _ => sigFailS le sig s

theorem sigWalkStmts_ok (le : Nat → Bool) (ln : Nat) : ∀ (ss : List (RStmt3 F)) (sig : Sig),
    typeOfStmts3 le ln sig ss = .ok () → sigWalkStmts le sig ss = sigAfterStmts sig ss
  | [], _, _ => rfl
  | s :: rest, sig, h => by
    simp only [typeOfStmts3] at h
    cases hs : typeOfS3 sig le s with
    | error x => rw [hs] at h; cases h
    | ok u =>
      rw [hs] at h
      simp only [sigWalkStmts, hs, sigAfterStmts]
      exact sigWalkStmts_ok le ln rest _ h

/-- what the analyzer needs of the statements of a line it reaches with the signatures `sig` -/
def StmtsFit3 (fa : Nat) : Sig → List (RStmt3 F) → Prop
  | _, [] => True
  | sig, s :: rest =>
    s.Covered ∧ asdepth s ≤ fa ∧ asdepth s ≤ Extracted.nestingLimit ∧ ResolvedS2 sig s ∧
      StmtsFit3 fa (sigAfterS sig s) rest

def LinesFit3 (fa : Nat) (le : Nat → Bool) : Sig → RProgram3 F → Prop
  | _, [] => True
  | sig, l :: rest => StmtsFit3 fa sig l.2 ∧ LinesFit3 fa le (sigWalkStmts le sig l.2) rest

/-- The analyzer's side conditions on a program: well formed; every statement covered, within the
    analyzer's fuel `fa` and the nesting cap (analyzer depth), names used consistently with the signatures
    the analyzer holds when it reaches the statement. -/
structure AFits3 (p : RProgram3 F) (fa : Nat) : Prop where
  wf : p.WF
  lines : LinesFit3 fa p.hasLine (fun _ => none) p

/-- the first static error of each line, in program order, each line checked w.r.t. the signatures the
    analyzer has accumulated when it reaches it -/
def lineErrs3 (le : Nat → Bool) : Sig → RProgram3 F → List (Err × Nat)
  | _, [] => []
  | sig, l :: rest =>
    match typeOfStmts3 le l.1 sig l.2 with
    | .ok _ => lineErrs3 le (sigWalkStmts le sig l.2) rest
    | .error x => x :: lineErrs3 le (sigWalkStmts le sig l.2) rest

theorem lineErrs3_nil_iff (le : Nat → Bool) : ∀ (p : RProgram3 F) (sig : Sig),
    lineErrs3 le sig p = [] ↔ typeOfLines3 le sig p = .ok ()
  | [], _ => by simp [lineErrs3, typeOfLines3]
  | l :: rest, sig => by
    cases hs : typeOfStmts3 le l.1 sig l.2 with
    | ok u =>
      simp only [lineErrs3, typeOfLines3, hs, sigWalkStmts_ok le l.1 l.2 sig hs]
      exact lineErrs3_nil_iff le rest _
    | error x => simp [lineErrs3, typeOfLines3, hs]

/-- the full language: the analyzer accumulates the signatures of the functions defined so far -/
@[reducible] def Lang3 : ALang F where
  S := RStmt3 F
  lang := Prog3L.lang
  C := Sig
  Inv c σ := sigOf σ.fns = c
  check le c s := typeOfS3 c le s
  okC := sigAfterS
  errC := sigFailS
  Fit fa c s := s.Covered ∧ asdepth s ≤ fa ∧ asdepth s ≤ Extracted.nestingLimit ∧ ResolvedS2 c s
  checks le n c ss := typeOfStmts3 le n c ss
  walkC := sigWalkStmts
  Fits := StmtsFit3
  errs := lineErrs3
  LinesFit := LinesFit3
  checks_nil _ _ _ := rfl
  checks_cons _ _ _ _ _ := rfl
  walkC_nil _ _ := rfl
  walkC_cons _ _ _ _ := rfl
  fits_cons h := ⟨⟨h.1, h.2.1, h.2.2.1, h.2.2.2.1⟩, h.2.2.2.2⟩
  errs_nil _ _ := rfl
  errs_cons _ _ _ _ := rfl
  linesFit_cons h := h

theorem Lang3.sound : (Lang3 (F := F)).Sound where
  inv_fns h e := (congrArg sigOf e).trans h
  static h := typeOfS3_error _ _ _ _ h
  run {_ _ _ n _ _ _} h hAt hl hn hc hE := by
    have hA := astmt3_run _ _ n _ h.2.1 h.1.1 h.1.2 _ _ _ _ hAt hl rfl hc (by rw [hn]; have := h.2.2.1; omega)
      (Or.inl hE) h.2.2.2
    rw [typeOfS3A_covered _ _ _ h.1.2] at hA
    exact hA

/-- `LineOut` (Abasic/Props/C06Prog.lean), and the signatures of the state the pass leaves -/
def LineOut3 (L : Lines F) (n : Nat) (a a' : Analysis F) (v : Except (Err × Nat) Unit) (sig' : Sig) : Prop :=
  LineOut L n a a' v ∧ sigOf a'.st.fns = sig'

/-- The statement pass on one line of an `RProgram3`, reached with the signatures `sig`: nothing
    if every statement of the line is typed w.r.t. the signatures accumulated along the line, otherwise
    exactly one error diagnostic, the first static error of the line, located on it; the signatures
    of the state it leaves are `sigWalkStmts le sig ss`. -/
theorem walk_line3 (fuel n : Nat) (le : Nat → Bool) (L : Lines F) (m : FileMap) (hLM : C05.LinesMapped L m)
    (hle : L.has = le) (sig : Sig) (ss : List (RStmt3 F)) (hne : ss ≠ []) (hfit : StmtsFit3 fuel sig ss)
    (a : Analysis F) (hAt : At a.st [] (renderLine3 ss)) (hl : a.st.loc.line = some n)
    (hn : a.st.nesting = 0) (hs : SInv L a.st) (hsig : sigOf a.st.fns = sig) (hm : a.map = m)
    (hp : a.panicked = none) :
    LineOut3 L n a (analyzeStatements fuel ((renderLine3 ss).length + 2) a) (typeOfStmts3 le n sig ss)
      (sigWalkStmts le sig ss) := by
  obtain ⟨st, rest, rfl⟩ := List.exists_cons_of_ne_nil hne
  exact hle ▸ ALang.walk_line Lang3.sound fuel n L m hLM rest st sig hfit _ a [] hAt hl hn hs hsig hm hp
    (Nat.lt_succ_self _)

theorem walk_lines3 (fuel : Nat) (p : RProgram3 F) (hwf : p.WF) (L : Lines F) (hH : Holds L p)
    (m : FileMap) (hLM : C05.LinesMapped L m) :
    ∀ (q done : RProgram3 F) (n : Nat) (ss : List (RStmt3 F)), p = done ++ (n, ss) :: q →
    ∀ (sig : Sig) (b : Nat) (a : Analysis F), LinesFit3 fuel p.hasLine sig ((n, ss) :: q) → q.length < b →
      SInv L a.st → a.st.loc = { line := some n, idx := 0 } →
      a.st.nesting = 0 → sigOf a.st.fns = sig → a.map = m → a.panicked = none →
      ProgOut a (analyzeProgram fuel b a) (lineErrs3 p.hasLine sig ((n, ss) :: q)) :=
  ALang.walk_lines Lang3.sound fuel p hwf.seq L hH.seq m hLM

/-- where the statement pass starts (as `AStart2`, for a program of `RProgram3`): moreover no function
    is defined -/
structure AStart3 (p : RProgram3 F) (a : Analysis F) : Prop where
  holds : Holds a.st.lines p
  mapped : C05.LinesMapped a.st.lines a.map
  loc : a.st.loc = { line := p.first, idx := 0 }
  imm : a.st.imm = []
  nesting : a.st.nesting = 0
  accesses : a.st.accesses = []
  fns : a.st.fns = []
  panicked : a.panicked = none

/-- The analyzer's statement pass on a stored program of the unified machine: no panic, store and
    file map untouched, and exactly one error diagnostic per line with a static error — the first static
    error of that line w.r.t. the signatures accumulated so far (`lineErrs3`), located on it — in program
    order. -/
theorem analyze_program3 (fuel : Nat) (p : RProgram3 F) (hfit : AFits3 p fuel) (a : Analysis F)
    (h : AStart3 p a) (b : Nat) (hb : p.length < b) :
    ProgOut a (analyzeProgram fuel b a) (lineErrs3 p.hasLine (fun _ => none) p) :=
  ALang.analyze Lang3.sound fuel p hfit.wf.seq a h.holds.seq h.mapped h.loc h.imm h.nesting h.accesses h.panicked
    (fun _ => none) (by show sigOf a.st.fns = _; rw [h.fns]; rfl) hfit.lines b hb

/-- Silent ⇔ checked: the analyzer's statement pass over the stored program
    adds no message iff the program passes the static check `typeOfP3`. -/
theorem analyzer_silent_iff3 (fuel : Nat) (p : RProgram3 F) (hfit : AFits3 p fuel) (a : Analysis F)
    (h : AStart3 p a) (b : Nat) (hb : p.length < b) :
    (analyzeProgram fuel b a).messages = a.messages ↔ typeOfP3 p = .ok () := by
  unfold typeOfP3
  rw [← lineErrs3_nil_iff]
  exact progOut_silent_iff (analyze_program3 fuel p hfit a h b hb)

/-- If the analyzer's statement pass over the stored program `p` reports nothing, then `p` passes
    `typeOfP3`, and — under the hypotheses of `sound_program3` — no run of `p` fails with a syntax
    error, a TYPE MISMATCH or UNDEF'D STATEMENT. -/
theorem sound_analyzed_program3 {p : RProgram3 F} {fa fuel : Nat} (hfa : AFits3 p fa) (hfit : C03.Fits3 p)
    (a : Analysis F) (ha : AStart3 p a) (b : Nat) (hb : p.length < b)
    (hsilent : (analyzeProgram fa b a).messages = a.messages)
    {σ : St F} (h : C03.PReady3 p σ) (hsafe : C03.SafeRun p fuel (p.start σ.rng)) (hda : DefsAgree p σ.rng)
    (k : Nat) :
    typeOfP3 p = .ok () ∧
    (∀ te σ', C03.runTurns fuel k σ = .err te σ' →
      RunErr3 te.err ∧ te.err ≠ .typeMismatch ∧ (∀ se, te.err ≠ .syntax se) ∧
      te.err ≠ .undefinedStatement) ∧
    (∀ σ', C03.runTurns fuel k σ = .ok () σ' → WellTyped σ') :=
  ⟨(analyzer_silent_iff3 fa p hfa a ha b hb).1 hsilent,
   sound_program3 hfit h hsafe ((analyzer_silent_iff3 fa p hfa a ha b hb).1 hsilent) hda k⟩

/-- the tokens a file must denote, line by line, to be a text of `p` -/
def editsOf3 (p : RProgram3 F) : List (Nat × List (Token F)) := p.map fun l => (l.1, renderLine3 l.2)

/-- what needs no `DefsAgree`: a `GoodFile` text of `p` whose analysis contains no error diagnostic yields an
    interpreter ready to run `p`, and `p` passes `typeOfP3` -/
theorem analyzed_file3_checked {p : RProgram3 F} {fa : Nat} (hfa : AFits3 p fa)
    (lines : List Str) (hgood : C15.GoodFile F lines (editsOf3 p))
    (hnoerr : ∀ f e, Diag.error f e ∉ (analyzeFile (F := F) fa lines).messages) :
    C03.PReady3 p (analyzeFile (F := F) fa lines).intoInterpreter ∧ typeOfP3 p = .ok () := by
  obtain ⟨hH, hn, he⟩ := ALang.file Lang3.sound fa p hfa.wf.seq lines hgood (fun _ => none)
    (fun σ h => by show sigOf σ.fns = _; rw [h]; rfl) hfa.lines
  exact ⟨⟨rfl, Prog3L.holds_of_seq hH, rfl, rfl, hn, rfl, by show 0 < Extracted.rngModulus; unfold Extracted.rngModulus; omega⟩,
    (lineErrs3_nil_iff _ p _).1 (he hnoerr)⟩

/-- Let the lines of a source file be numbered and tokenize to the lines of the program `p` of the unified
    machine (`GoodFile`), let `p` satisfy the analyzer's side conditions (`AFits3`). If the analysis of the
    file (`analyzeFile`: all three passes) contains NO ERROR diagnostic, then the interpreter the analysis is
    turned into is ready to run `p` and `p` passes the static check `typeOfP3`; if moreover `p` fits the
    covered fragment (`Fits3`), every state the reference machine reaches satisfies the side conditions on
    names and nesting (`SafeRun`), and every definition is in force exactly where the analyzer assumed it
    (`DefsAgree`, the property's dynamic side condition), then no run — RUN followed by any number of host
    turns — fails with a syntax error, a TYPE MISMATCH or UNDEF'D STATEMENT: a failure is one of `RunErr3`.
    (The generator state of a freshly loaded interpreter is 0.) -/
theorem sound_analyzed_file3 {p : RProgram3 F} {fa fuel : Nat} (hfa : AFits3 p fa) (hfit : C03.Fits3 p)
    (lines : List Str) (hgood : C15.GoodFile F lines (editsOf3 p))
    (hnoerr : ∀ f e, Diag.error f e ∉ (analyzeFile (F := F) fa lines).messages)
    (hsafe : C03.SafeRun p fuel (p.start 0)) (hda : DefsAgree p 0) (k : Nat) :
    C03.PReady3 p (analyzeFile (F := F) fa lines).intoInterpreter ∧
    typeOfP3 p = .ok () ∧
    (∀ te σ', C03.runTurns fuel k (analyzeFile (F := F) fa lines).intoInterpreter = .err te σ' →
      RunErr3 te.err ∧ te.err ≠ .typeMismatch ∧ (∀ se, te.err ≠ .syntax se) ∧
      te.err ≠ .undefinedStatement) ∧
    (∀ σ', C03.runTurns fuel k (analyzeFile (F := F) fa lines).intoInterpreter = .ok () σ' → WellTyped σ') := by
  have h := analyzed_file3_checked hfa lines hgood hnoerr
  exact ⟨h.1, h.2, sound_program3 hfit h.1 hsafe h.2 hda k⟩

/-- A proof principle for `DefsAgree`: an invariant of the reference machine that holds at the start,
    is kept by every reference step, and implies the agreement at the program counter. -/
theorem defsAgree_of_inv {p : RProgram3 F} {g : Nat} (I : RState3 F → Prop) (h0 : I (p.start g))
    (hstep : ∀ r r', I r → RStep3 p r = .inl r' → I r')
    (hI : ∀ r n j, I r → r.pc = some (n, j) → FnsTyped (sigAt p n j) r.fns) : DefsAgree p g := by
  intro m r' n j hm hpc
  exact hI r' n j ((C03.rsteps3_iterates p).keeps hstep m _ r' h0 hm) hpc

theorem sigAfterStmts_defFree : ∀ (ss : List (RStmt3 F)) (sig : Sig), (∀ s ∈ ss, defFree s = true) →
    sigAfterStmts sig ss = sig
  | [], _, _ => rfl
  | s :: rest, sig, h => by
    simp only [sigAfterStmts]
    rw [sigAfterS_defFree s sig (h s List.mem_cons_self)]
    exact sigAfterStmts_defFree rest sig (fun s' hs' => h s' (List.mem_cons_of_mem _ hs'))

theorem sigAtL_defFree : ∀ (p : RProgram3 F) (sig : Sig) (n j : Nat), (∀ l ∈ p, ∀ s ∈ l.2, defFree s = true) →
    sigAtL sig p n j = sig
  | [], _, _, _, _ => rfl
  | (k, ss) :: rest, sig, n, j, h => by
    simp only [sigAtL]
    by_cases hk : (k == n) = true
    · rw [if_pos hk]
      exact sigAfterStmts_defFree _ sig (fun s hs => h (k, ss) List.mem_cons_self s (List.mem_of_mem_take hs))
    · rw [if_neg hk, sigAfterStmts_defFree ss sig (h (k, ss) List.mem_cons_self)]
      exact sigAtL_defFree rest sig n j (fun l hl => h l (List.mem_cons_of_mem _ hl))

theorem defsAgree_of_noDef {p : RProgram3 F} (hnd : ∀ l ∈ p, ∀ s ∈ l.2, defFree s = true) (g : Nat) :
    DefsAgree p g := by
  intro m r' n j hm _
  have htab := Stmt3L.tableOf_steps m _ r' (Stmt3L.tableOf_start p g) hm
  have hnone := C03.fnsOf_nil_of_noDef
    (fun l hl s hs name d => not_defines_of_defFree s name d (hnd l hl s hs)) htab.1
  unfold sigAt
  rw [sigAtL_defFree p _ n j hnd]
  intro f
  simp only [hnone f]

/-! ### an example (on the degenerate carrier `Unit`; no numeral tokenizes there) -/

namespace File3
open Abasic.Stmt3L

def fna : Str := ['F', 'N', 'A']
def fnaDef : FnDefSpec Unit := { params := [['X']], body := .var ['X'] }

/-- ```
    10 DEF FNA(X) = X
    20 PRINT FNA(A);
    ``` -/
def prog : RProgram3 Unit :=
  [ (10, [ .defS fna [['X']] (.var ['X']) ]),
    (20, [ .printS [.expr (.call fna [.var ['A']]), .semi] ]) ]

def text : List Str := ["10 DEF FNA(X) = X".toList, "20 PRINT FNA(A);".toList]

theorem edits : editsOf3 prog =
    [ (10, [.kw .Def, .symbol fna, .kw .LeftParen, .symbol ['X'], .kw .RightParen, .kw .Equals, .symbol ['X']]),
      (20, [.kw .Print, .symbol fna, .kw .LeftParen, .symbol ['A'], .kw .RightParen, .kw .Semicolon]) ] := by
  simp [editsOf3, prog, renderLine3, renderTail3, renderS3, renderTargets, renderItems3, PItem3.render, render2_var,
    render2_call, renderArgs_one]

theorem good : C15.GoodFile Unit text (editsOf3 prog) := by
  rw [edits]
  refine C15.goodFile_of_lineEdits (by decide) ?_
  unfold text
  literal_chars
  decide +kernel

theorem fits : C03.Fits3 prog where
  wf := ⟨by decide, by intro l hl; simp [prog] at hl; rcases hl with rfl | rfl <;> simp⟩
  covered := by
    intro l hl s hs
    simp [prog] at hl
    rcases hl with rfl | rfl
    · simp at hs; subst hs; exact ⟨rfl, by simp [RStmt3.CoveredB]⟩
    · simp at hs; subst hs; exact ⟨rfl, by simp [RStmt3.CoveredB, separated3]⟩

theorem afits : AFits3 prog defaultFuel where
  wf := fits.wf
  lines := by
    simp only [prog, LinesFit3, StmtsFit3, and_true]
    refine ⟨⟨⟨rfl, by simp [RStmt3.CoveredB]⟩, ?_, ?_, ?_⟩, ⟨⟨rfl, by simp [RStmt3.CoveredB, separated3]⟩, ?_, ?_, ?_⟩⟩
    · simp [asdepth, adepth, depth2, defaultFuel]
    · simp [asdepth, adepth, depth2, Extracted.nestingLimit]
    · simp [ResolvedS2, Resolved2]
    · simp [asdepth, aitemsDepth, adepth, depth2, depthArgs, defaultFuel]
    · simp [asdepth, aitemsDepth, adepth, depth2, depthArgs, Extracted.nestingLimit]
    · simp only [ResolvedS2, ResolvedItems2, Resolved2, Resolved2L, and_true]
      decide

theorem noerr : ∀ f e, Diag.error f e ∉ (analyzeFile (F := Unit) defaultFuel text).messages := by
  have h : (analyzeFile (F := Unit) defaultFuel text).messages.all (fun d => !isErr d) = true := by
    unfold text
    literal_chars
    decide +kernel
  intro f e hmem
  have := List.all_eq_true.mp h _ hmem
  simp [isErr] at this

/-- the only definition the program contains -/
theorem prog_defs {fns : List (Str × FnDefSpec Unit)} (h : FnsOf prog fns) (name : Str) (d : FnDefSpec Unit)
    (hg : alGet name fns = some d) : name = fna ∧ d = fnaDef := by
  simpa [prog, Defines, fnaDef] using fnsOf_mem h hg

theorem call_depth {fns : List (Str × FnDefSpec Unit)} (h : FnsOf prog fns) :
    depth2 fns callFuel (.call fna [.var ['A']]) = 1 := by
  cases hg : alGet fna fns with
  | none =>
    rw [depth2.eq_def]
    simp [depthArgs, depth2, hg]
  | some d =>
    obtain ⟨_, rfl⟩ := prog_defs h fna d hg
    show depth2 fns (32 + 1) _ = 1
    rw [depth2_call_some fns 32 _ _ fnaDef hg]
    simp [depthArgs, depth2, fnaDef]

theorem static : C03.Static prog defaultFuel where
  ok := by
    intro fns hf
    refine ⟨fun name d hg => ?_, fun l hl s hs => ?_⟩
    · obtain ⟨_, rfl⟩ := prog_defs hf name d hg
      simp [fnaDef, Resolved]
    · simp [prog] at hl
      rcases hl with rfl | rfl
      · simp at hs; subst hs
        simp [ResolvedS, sdepth3]
      · simp at hs; subst hs
        refine ⟨?_, ?_, ?_⟩
        · simp only [ResolvedS, ResolvedItems, Resolved, ResolvedL, and_true]
          decide
        · simp [sdepth3, itemsDepth3, edepth, call_depth hf, defaultFuel, Extracted.nestingLimit]
        · simp [sdepth3, itemsDepth3, edepth, call_depth hf, Extracted.nestingLimit]

end File3

end Abasic.Props.C06
