import Abasic.Lines
/-
  C14 — LIST output reloads to the same program.

  Here: the shape of a LIST line, and the spelling rules for DATA items and for a
  numeral after an identifier.  The fixed point
  `list_fixpoint : tokenize s = ok ts → tokenize (listLine ts) = ok ts` is proved in
  C14More2 (with the table fact that every keyword and operator spelling re-tokenizes to
  exactly its own token), the round trip of DATA items in C14More, whole programs and
  RUN in C14Run, the laws of the number carrier on a carrier with real numerals in C14Dec.
-/
namespace Abasic.Props.C14
open Abasic

variable {F : Type} [NumOps F]

/-- A LIST line is the line number, a blank, the spellings joined by single blanks, a newline. -/
theorem list_line_shape (l : Lines F) (entries : List (Nat × List (Token F)))
    (h : l.listTokens = some entries) :
    l.list = some (entries.map fun (n, ts) => natToStr n ++ ' ' :: joinWith [' '] (listSpellings none ts) ++ ['\n']) := by
  simp [Lines.list, h, listLine]

/-- DATA items: a string containing a double quote (which can only have come
    from the unquoted form) is listed as it is, every other string is quoted. -/
theorem data_string_spelling (s : Str) :
    DataElement.render (F := F) (.str s) = if s.contains '"' then s else '"' :: s ++ ['"'] := rfl

/-- A numeral after an identifier is listed without its leading zero (so it
    starts with the decimal point it must have been written with); the numeral 1
    (a leading-point numeral that rounded up) is listed as `.99999999999999999999`;
    everywhere else a numeral is listed as `Display` prints it. -/
theorem numeral_after_identifier (sym : Str) (x : F) (rest : List (Token F))
    (h : endsWithDollar sym = false) :
    listSpellings (some (.symbol sym)) (.num x :: rest) =
      (if NumOps.render x = ['0'] then ['.', '0']
       else if NumOps.render x = ['1'] then ".99999999999999999999".toList
       else if (NumOps.render x).head? = some '0' then (NumOps.render x).tail
       else NumOps.render x) ::
        listSpellings (some (.num x)) rest := by
  simp only [listSpellings, Token.render, h]
  by_cases h0 : NumOps.render x = ['0']
  · simp [h0]
  · by_cases h1 : NumOps.render x = ['1']
    · simp [h1]
    · by_cases h2 : (NumOps.render x).head? = some '0' <;> simp [h0, h1, h2]

theorem numeral_elsewhere (k : Kw) (x : F) (rest : List (Token F)) :
    listSpellings (some (.kw k)) (.num x :: rest) = NumOps.render x :: listSpellings (some (.num x)) rest := by
  simp [listSpellings, Token.render]

/-- Non-vacuity: the three spellings of one line. -/
example : listSpellings (F := Unit) none [.kw .Print, .symbol ['A'], .num ()] = ["PRINT".toList, ['A'], ['.', '0']] := by
  decide

end Abasic.Props.C14
