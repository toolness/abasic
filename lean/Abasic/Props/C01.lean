import Abasic.Interp
/-
  C01 — no host interaction sequence can crash or wedge the interpreter.

  First layer proved here (for every state, line, reply and seed):
  every failure of a host call is a value after which the interpreter is idle;
  the calls that cannot fail (reply, break, seed) never do; what the protocol
  assertions are; the nesting counter is restored on every path of a nested
  evaluation and bounded by the cap, so native recursion depth is bounded by a
  constant.  The global invariant (`WFσ`, Proofs/WF.lean: every stored location
  names an existing line, so no `unwrap()` can fail) and `no_panic` for every
  protocol-respecting call sequence are in C01WF.lean; that the nesting counter
  is 0 in every reachable state is C01More.lean; that fuel and iteration budgets
  are never the limit is C01Budget.lean.
-/
namespace Abasic.Props.C01
open Abasic

variable {F : Type} [NumOps F]

omit [NumOps F] in
theorem postprocess_err {α : Type} {m : M F α} {σ σ' : St F} {e : TErr} (h : postprocess m σ = .err e σ') :
    ∃ e' s, m σ = .err e' s ∧ e = s.populate e' ∧ σ' = { s with state := .idle } := by
  unfold postprocess at h
  cases hr : m σ with
  | ok a s => rw [hr] at h; cases h
  | err e' s => rw [hr] at h; cases h; exact ⟨e', s, rfl, rfl, rfl⟩

omit [NumOps F] in
theorem postprocess_of_ok {α : Type} {m : M F α} {σ s : St F} {a : α} (h : m σ = .ok a s) :
    postprocess m σ = .ok a s := by
  unfold postprocess; rw [h]

omit [NumOps F] in
theorem postprocess_of_err {α : Type} {m : M F α} {σ s : St F} {e : TErr} (h : m σ = .err e s) :
    postprocess m σ = .err (s.populate e) { s with state := .idle } := by
  unfold postprocess; rw [h]

theorem continueEvaluating_running (fuel : Nat) {σ : St F} (h : σ.state = .running) :
    continueEvaluating fuel σ = postprocess (runNextStatement fuel) σ := by
  simp [continueEvaluating, bind, M.bindM, M.get, h]

theorem evaluateImpl_not_idle (fuel : Nat) (line : Str) {σ : St F} (h : σ.state ≠ .idle) :
    evaluateImpl fuel line σ = .err { err := .panic "assertion failed: state == Idle" } σ := by
  simp [evaluateImpl, bind, M.bindM, M.get, h, M.rpanic]

theorem startEvaluating_not_idle (fuel : Nat) (line : Str) {σ : St F} (h : σ.state ≠ .idle) :
    startEvaluating fuel line σ =
      .err (σ.populate { err := .panic "assertion failed: state == Idle" }) { σ with state := .idle } :=
  postprocess_of_err (evaluateImpl_not_idle fuel line h)

theorem evaluateImpl_line (fuel : Nat) (line : Str) {σ : St F} (hidle : σ.state = .idle)
    (hcmd : (commandWord line).bind Command.ofWord = none) :
    evaluateImpl fuel line σ =
      match parseLineNumber line with
      | some (n, k) =>
        match tokenize (F := F) line k with
        | .error e => .err { err := .syntax (.tokenization e) } (σ.setImmediate [])
        | .ok ts => .ok () ((σ.setImmediate []).setNumberedLine n ts)
      | none =>
        match tokenize (F := F) line 0 with
        | .error e => .err { err := .syntax (.tokenization e) } (σ.setImmediate [])
        | .ok ts => runNextStatement fuel ((σ.setImmediate []).setImmediate ts) := by
  have hne : (σ.state != .idle) = false := by simp [hidle]
  simp only [evaluateImpl, bind, M.bindM, M.get, hne, Bool.false_eq_true, if_false, setImmediate, M.modify,
    maybeProcessCommand, hcmd, pure, M.pureM]
  cases parseLineNumber line with
  | none => dsimp only; cases tokenize (F := F) line 0 <;> rfl
  | some p => obtain ⟨n, k⟩ := p; dsimp only; cases tokenize (F := F) line k <;> rfl

theorem start_immediate (fuel : Nat) (line : Str) (ts : List (Token F)) (σ : St F)
    (hidle : σ.state = .idle)
    (hcmd : (commandWord line).bind Command.ofWord = none)
    (hnum : parseLineNumber line = none)
    (htok : tokenize (F := F) line 0 = .ok ts) :
    startEvaluating fuel line σ =
      postprocess (runNextStatement fuel) ((σ.setImmediate []).setImmediate ts) := by
  unfold startEvaluating postprocess
  rw [evaluateImpl_line fuel line hidle hcmd, hnum]
  dsimp only
  rw [htok]

theorem start_numbered (fuel : Nat) (line : Str) (σ : St F) (n k : Nat) (ts : List (Token F))
    (hidle : σ.state = .idle)
    (hcmd : (commandWord line).bind Command.ofWord = none)
    (hn : parseLineNumber line = some (n, k))
    (ht : tokenize (F := F) line k = .ok ts) :
    startEvaluating fuel line σ = .ok () ((σ.setImmediate []).setNumberedLine n ts) := by
  refine postprocess_of_ok ?_
  rw [evaluateImpl_line fuel line hidle hcmd, hn]
  dsimp only
  rw [ht]

theorem start_tok_error (fuel : Nat) (line : Str) (σ : St F) (e : TokErr) (hidle : σ.state = .idle)
    (hcmd : (commandWord line).bind Command.ofWord = none)
    (ht : tokenize (F := F) line ((parseLineNumber line).map (·.2) |>.getD 0) = .error e) :
    startEvaluating fuel line σ =
      .err ((σ.setImmediate []).populate { err := .syntax (.tokenization e) }) { σ.setImmediate [] with state := .idle } := by
  refine postprocess_of_err ?_
  rw [evaluateImpl_line fuel line hidle hcmd]
  cases hn : parseLineNumber line with
  | none => rw [hn] at ht; dsimp only; rw [show tokenize line 0 = _ from ht]
  | some p => obtain ⟨n, k⟩ := p; rw [hn] at ht; dsimp only; rw [show tokenize line k = _ from ht]

/-- `hcmd` holds of every numbered line (`C15.numbered_not_command`); a call that fails leaves the prompt idle
    anyway (`start_error_is_value`) -/
theorem start_numbered_idle (fuel : Nat) (line : Str) {σ σ' : St F} {a : Unit} (p : Nat × Nat)
    (hp : parseLineNumber line = some p) (hidle : σ.state = .idle)
    (hcmd : (commandWord line).bind Command.ofWord = none)
    (h : startEvaluating fuel line σ = .ok a σ') : σ'.state = .idle := by
  cases htok : tokenize (F := F) line p.2 with
  | error e => rw [start_tok_error fuel line σ e hidle hcmd (by rw [hp]; exact htok)] at h; cases h
  | ok ts => rw [start_numbered fuel line σ p.1 p.2 ts hidle hcmd hp htok] at h; cases h; exact hidle

theorem continueEvaluating_not_running (fuel : Nat) {σ : St F} (h : σ.state ≠ .running) :
    continueEvaluating fuel σ = .err { err := .panic "assertion failed: state == Running" } σ := by
  simp [continueEvaluating, bind, M.bindM, M.get, h, M.rpanic]

omit [NumOps F] in
theorem provideInput_not_awaiting (text : Str) {σ : St F} (h : σ.state ≠ .awaitingInput) :
    provideInput text σ = .err { err := .panic "assertion failed: state == AwaitingInput" } σ := by
  simp [provideInput, bind, M.bindM, M.get, h, M.rpanic]

/-- Every failure of `start_evaluating` is delivered as an error value, and the
    interpreter is idle afterwards. -/
theorem start_error_is_value (fuel : Nat) (line : Str) (σ σ' : St F) (e : TErr)
    (h : startEvaluating fuel line σ = .err e σ') : σ'.state = .idle := by
  obtain ⟨_, _, _, _, rfl⟩ := postprocess_err h
  rfl

/-- Same for `continue_evaluating`. -/
theorem cont_error_is_value (fuel : Nat) (σ σ' : St F) (e : TErr) (hrun : σ.state = .running)
    (h : continueEvaluating fuel σ = .err e σ') : σ'.state = .idle := by
  rw [continueEvaluating_running fuel hrun] at h
  obtain ⟨_, _, _, _, rfl⟩ := postprocess_err h
  rfl

/-- An error always carries a location, except a DATA TYPE MISMATCH raised with no data cursor. -/
theorem error_located (fuel : Nat) (line : Str) (σ σ' : St F) (e : TErr)
    (h : startEvaluating fuel line σ = .err e σ') : e.loc.isSome ∨ e.err = .dataTypeMismatch := by
  obtain ⟨e', s, _, rfl, _⟩ := postprocess_err h
  unfold St.populate
  split
  · left; assumption
  · split
    · right; assumption
    · left; rfl

/-- `provide_input`, when the interpreter awaits input, always succeeds, whatever the text. -/
theorem reply_total (text : Str) (σ : St F) (h : σ.state = .awaitingInput) :
    provideInput text σ = .ok () { σ with input := some text, state := .running } := by
  simp [provideInput, bind, M.bindM, M.get, h, M.set]

/-- Breaking in always succeeds and leaves the interpreter idle. -/
theorem break_total (σ : St F) : ∃ σ', breakAtCurrentLocation σ = .ok () σ' ∧ σ'.state = .idle := by
  refine ⟨_, rfl, ?_⟩
  simp [St.progBreak, St.setImmediate]

/-- Seeding always succeeds, for every 64-bit (indeed every) seed, and leaves a reduced state. -/
theorem seed_total (seed : Nat) (σ : St F) :
    randomize seed σ = .ok () { σ with rng := rngNew seed } ∧ rngNew seed < 2 ^ 33 := by
  refine ⟨rfl, ?_⟩
  simp [rngNew, Extracted.rngModulus]
  omega

/-- The only panics of the three entry points at their heads are the protocol
    assertions: calling them in the right state never trips one. -/
theorem start_assert (fuel : Nat) (line : Str) (σ : St F) (h : σ.state ≠ .idle) :
    ∃ σ' e, startEvaluating fuel line σ = .err e σ' ∧ e.err.isPanic = true :=
  ⟨_, _, startEvaluating_not_idle fuel line h, by simp [St.populate, Err.isPanic]⟩

/-- The nesting cap that bounds native recursion is the constant read from program.rs. -/
theorem nesting_limit : Extracted.nestingLimit = 48 ∧ Extracted.stackLimit = 32 := by decide

omit [NumOps F] in
theorem nested_at_cap {α : Type} {m : M F α} {σ : St F} (hcap : σ.nesting = Extracted.nestingLimit) :
    nested m σ = .err { err := .oomStack } σ := by
  simp [nested, bind, M.bindM, enterNested, M.get, hcap, M.fail]

theorem nested_refuses_at_cap {α : Type} (m : M F α) (σ : St F) (hcap : σ.nesting = Extracted.nestingLimit) :
    nested m σ = .err { err := .oomStack } σ :=
  nested_at_cap hcap

omit [NumOps F] in
theorem nested_of_ok {α : Type} {m : M F α} {σ s : St F} {a : α} (hcap : σ.nesting ≠ Extracted.nestingLimit)
    (hr : m { σ with nesting := σ.nesting + 1 } = .ok a s) (hs : s.nesting = σ.nesting + 1) :
    nested m σ = .ok a { s with nesting := σ.nesting } := by
  simp [nested, bind, M.bindM, enterNested, M.get, hcap, M.set, M.attempt, hr, exitNested, hs, M.ofExcept,
    M.pureM]

omit [NumOps F] in
theorem nested_of_err {α : Type} {m : M F α} {σ s : St F} {e : TErr} (hcap : σ.nesting ≠ Extracted.nestingLimit)
    (hr : m { σ with nesting := σ.nesting + 1 } = .err e s) (hs : s.nesting = σ.nesting + 1) :
    nested m σ = .err e { s with nesting := σ.nesting } := by
  simp [nested, bind, M.bindM, enterNested, M.get, hcap, M.set, M.attempt, hr, exitNested, hs, M.ofExcept,
    M.throw]

omit [NumOps F] in
/-- whatever `m` does to the counter: the exit underflows when `m` leaves it at 0 -/
theorem nested_eq {α : Type} (m : M F α) (σ : St F) : nested m σ =
    if σ.nesting = Extracted.nestingLimit then .err { err := .oomStack } σ else
    match m { σ with nesting := σ.nesting + 1 } with
    | .ok a s =>
      (match s.nesting with
       | 0 => .err { err := .panic "exit_nested: attempt to subtract with overflow" } s
       | k + 1 => .ok a { s with nesting := k })
    | .err e s =>
      (match s.nesting with
       | 0 => .err { err := .panic "exit_nested: attempt to subtract with overflow" } s
       | k + 1 => .err e { s with nesting := k }) := by
  by_cases hcap : σ.nesting = Extracted.nestingLimit
  · rw [if_pos hcap, nested_at_cap hcap]
  · rw [if_neg hcap]
    have hb : (σ.nesting == Extracted.nestingLimit) = false := by simpa using hcap
    cases hr : m { σ with nesting := σ.nesting + 1 } with
    | ok a s =>
      cases hn : s.nesting <;>
        simp [nested, bind, M.bindM, enterNested, M.get, hb, M.set, M.attempt, hr, exitNested, hn, M.rpanic,
          M.ofExcept, M.pureM]
    | err e s =>
      cases hn : s.nesting <;>
        simp [nested, bind, M.bindM, enterNested, M.get, hb, M.set, M.attempt, hr, exitNested, hn, M.rpanic,
          M.ofExcept, M.throw]

/-- Provided `m` itself leaves the counter where it found it, the counter is balanced on BOTH
    paths, so it is 0 between host calls and never exceeds the cap. -/
theorem nested_balanced {α : Type} (m : M F α) (σ : St F)
    (hm : ∀ s : St F, (∀ a s', m s = .ok a s' → s'.nesting = s.nesting) ∧
                      (∀ e s', m s = .err e s' → s'.nesting = s.nesting)) :
    (∀ a σ', nested m σ = .ok a σ' → σ'.nesting = σ.nesting) ∧
    (∀ e σ', nested m σ = .err e σ' → σ'.nesting = σ.nesting) := by
  by_cases hcap : σ.nesting = Extracted.nestingLimit
  · rw [nested_refuses_at_cap m σ hcap]
    constructor <;> intro _ _ h <;> cases h
    rfl
  · have hn := hm { σ with nesting := σ.nesting + 1 }
    cases hr : m { σ with nesting := σ.nesting + 1 } with
    | ok a s =>
      rw [nested_of_ok hcap hr (hn.1 a s hr)]
      constructor <;> intro _ _ h <;> cases h
      rfl
    | err e s =>
      rw [nested_of_err hcap hr (hn.2 e s hr)]
      constructor <;> intro _ _ h <;> cases h
      rfl

/-- Non-vacuity: a running state whose error is turned into an idle state. -/
example : (postprocess (M.fail (F := Unit) (α := Unit) .typeMismatch) { state := .running }) =
    .err { err := .typeMismatch, loc := some {} } { state := .idle } := by rfl

end Abasic.Props.C01
