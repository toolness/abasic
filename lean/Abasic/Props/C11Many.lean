import Abasic.Props.C11Host
/-
  C11 for ANY number of edits (an implementation that invalidates by comparing
  an edit COUNTER would bring a function back after 2^16 edits).

  `afterEdits σ es` applies the edits `es` in order.  Whatever the number of
  edits - one or 65536 - and whatever happened between the run and the first of
  them, the state is the one the LAST edit produces from a state without any
  runtime reference (`edits_forget_runtime`), every runtime reference is gone
  (`edits_clear`), values are kept (`edits_keep_values`), and the future is the
  same as for the interpreter that had no runtime state at all when the edits
  began (`edits_then_same_future`).
-/
namespace Abasic.Props.C11
open Abasic Abasic.Props.C01

variable {F : Type} [NumOps F]

def afterEdits (σ : St F) : List (Nat × List (Token F)) → St F
  | [] => σ
  | (n, ts) :: es => afterEdits (afterEdit σ n ts) es

omit [NumOps F] in
theorem afterEdits_append (σ : St F) (es fs : List (Nat × List (Token F))) :
    afterEdits σ (es ++ fs) = afterEdits (afterEdits σ es) fs := by
  induction es generalizing σ with
  | nil => rfl
  | cons e es ih => obtain ⟨n, ts⟩ := e; simp [afterEdits, ih]

omit [NumOps F] in
theorem edits_forget_runtime (σ : St F) (e : Nat × List (Token F)) (es : List (Nat × List (Token F))) :
    afterEdits σ (e :: es) = afterEdits (dropRuntime σ) (e :: es) := by
  obtain ⟨n, ts⟩ := e
  simp only [afterEdits]
  rw [edit_forgets_runtime]

omit [NumOps F] in
theorem edits_clear (σ : St F) (e : Nat × List (Token F)) (es : List (Nat × List (Token F))) :
    let σ' := afterEdits σ (e :: es)
    σ'.bp = none ∧ σ'.stack = [] ∧ σ'.loops = [] ∧ σ'.fns = [] ∧ σ'.data = none ∧ σ'.loc = {} ∧ σ'.imm = [] := by
  induction es generalizing σ e with
  | nil =>
    obtain ⟨n, ts⟩ := e
    have h := edit_clears σ n ts
    simp only [afterEdits]
    exact ⟨h.1, h.2.1, h.2.2.1, h.2.2.2.1, h.2.2.2.2.1, h.2.2.2.2.2.1, h.2.2.2.2.2.2.1⟩
  | cons f fs ih =>
    obtain ⟨n, ts⟩ := e
    simpa only [afterEdits] using ih (afterEdit σ n ts) f

omit [NumOps F] in
theorem edits_keep_values (σ : St F) (es : List (Nat × List (Token F))) :
    (afterEdits σ es).vars = σ.vars ∧ (afterEdits σ es).arrays = σ.arrays ∧ (afterEdits σ es).state = σ.state := by
  induction es generalizing σ with
  | nil => exact ⟨rfl, rfl, rfl⟩
  | cons e es ih =>
    obtain ⟨n, ts⟩ := e
    have h := edit_clears σ n ts
    have := ih (afterEdit σ n ts)
    simp only [afterEdits]
    exact ⟨this.1.trans h.2.2.2.2.2.2.2.1, this.2.1.trans h.2.2.2.2.2.2.2.2.1, this.2.2.trans h.2.2.2.2.2.2.2.2.2⟩

theorem edits_then_same_future (fuel : Nat) (cs : List Call) (σ : St F) (e : Nat × List (Token F))
    (es : List (Nat × List (Token F))) :
    applyCalls fuel cs (afterEdits σ (e :: es)) = applyCalls fuel cs (afterEdits (dropRuntime σ) (e :: es)) := by
  rw [edits_forget_runtime]

omit [NumOps F] in
/-- the function table in particular: empty after 1, 256, 65536 … edits (`List.replicate k`) -/
theorem function_table_empty_after (k : Nat) (σ : St F) (n : Nat) (ts : List (Token F)) :
    (afterEdits σ (List.replicate (k + 1) (n, ts))).fns = [] := by
  have h := edits_clear σ (n, ts) (List.replicate k (n, ts))
  simpa [List.replicate_succ] using h.2.2.2.1

/-- a state WITH a function, a subroutine frame, a loop and a breakpoint -/
def busy : St Toy :=
  { fns := [("FNA".toList, { args := [], line := 10, idx := 0 })]
    bp := some (110, 1)
    stack := [{ ret := {}, vars := [] }]
    loops := [{ loc := {}, sym := "I".toList, toV := (3 : Int), stepV := (1 : Int) }] }

/-- non-vacuity: it loses them all, after three edits as after one -/
example : (busy.fns ≠ [] ∧ busy.stack ≠ [] ∧ busy.loops ≠ [] ∧ busy.bp ≠ none) ∧
    (afterEdits busy [(30, []), (30, []), (40, [])]).fns = [] := by
  refine ⟨⟨by simp [busy], by simp [busy], by simp [busy], by simp [busy]⟩, ?_⟩
  exact (edits_clear _ (30, []) [(30, []), (40, [])]).2.2.2.1

end Abasic.Props.C11
