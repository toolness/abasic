import Abasic.Extracted
import Abasic.Num
import Abasic.Text
import Abasic.Token
import Abasic.LineNumber
import Abasic.Data
import Abasic.Tokenizer
import Abasic.State
import Abasic.Lines
import Abasic.Program
import Abasic.Arrays
import Abasic.Expr
import Abasic.Stmt
import Abasic.Interp
import Abasic.Exec.Dec
import Abasic.Exec.FloatInst
import Abasic.Exec.Codec
import Abasic.Exec.Driver
import Abasic.Props.C18
import Abasic.Proofs.LinesLemmas
import Abasic.Props.C04
import Abasic.Proofs.TokStep
import Abasic.Proofs.Matchers
import Abasic.Proofs.TokFast
import Abasic.Proofs.TokLoop
import Abasic.Proofs.TokenEq
import Abasic.Proofs.TokenizerRel
import Abasic.Props.C12
import Abasic.Props.C12More
import Abasic.Props.C12Case
import Abasic.Props.C12Fuel
import Abasic.Props.C13
import Abasic.Proofs.TextLemmas
import Abasic.Props.C13More
import Abasic.Props.C01
import Abasic.Props.C07
import Abasic.Props.C08
import Abasic.Props.C09
import Abasic.Props.C10
import Abasic.Props.C11
import Abasic.Props.C16
import Abasic.Props.C17
import Abasic.Props.C14
import Abasic.Ref.Expr
import Abasic.Proofs.ExprCursor
import Abasic.Proofs.Turn
import Abasic.Proofs.Host
import Abasic.Proofs.HostFast
import Abasic.Proofs.ExprLemmas
import Abasic.Props.C02
import Abasic.Props.C02More
import Abasic.Props.C03
import Abasic.Analyzer
import Abasic.Front
import Abasic.Props.C05
import Abasic.Props.C06
import Abasic.Props.C20
import Abasic.Props.C15
import Abasic.Props.C19
import Abasic.Ref.Stmt
import Abasic.Proofs.AnalyzerInv
import Abasic.Proofs.AnalyzerLemmas
import Abasic.Proofs.ArrayLemmas
import Abasic.Proofs.ArrayCells
import Abasic.Proofs.C12Suffix
import Abasic.Proofs.Cursor
import Abasic.Proofs.DataLemmas
import Abasic.Proofs.Hoare
import Abasic.Proofs.WalkAttr
import Abasic.Proofs.CallBody
import Abasic.Proofs.Walk
import Abasic.Proofs.Lift
import Abasic.Proofs.Prims
import Abasic.Proofs.RelA
import Abasic.Proofs.RelB
import Abasic.Proofs.RelL
import Abasic.Proofs.StmtSteps
import Abasic.Proofs.StmtLemmas
import Abasic.Proofs.Commute
import Abasic.Proofs.CommuteLift
import Abasic.Proofs.Transp
import Abasic.Proofs.TranspLift
import Abasic.Proofs.Transparency
import Abasic.Props.C01More
import Abasic.Props.C07Let
import Abasic.Props.C03Stmt
import Abasic.Props.C04More
import Abasic.Props.C05Eval
import Abasic.Props.C05More
import Abasic.Props.C06More
import Abasic.Props.C10More
import Abasic.Props.C10Source
import Abasic.Props.C12Prot
import Abasic.Props.C13Self
import Abasic.Proofs.DataRun
import Abasic.Props.C14More
import Abasic.Props.C16More
import Abasic.Props.C17More
import Abasic.Props.C20More
import Abasic.Proofs.DataRoundTrip
import Abasic.Proofs.ListFixLemmas
import Abasic.Proofs.LoadLine
import Abasic.Props.C19More
import Abasic.Proofs.AWalk
import Abasic.Proofs.AnalyzerKeeps
import Abasic.Proofs.AnalyzerFrame
import Abasic.Proofs.AccFrame
import Abasic.Props.C15More
import Abasic.Props.C14More2
import Abasic.Proofs.ArrOk
import Abasic.Proofs.StoreInv
import Abasic.Props.C16Store
import Abasic.Proofs.AnalyzerStmt
import Abasic.Props.C06Stmt
import Abasic.Proofs.TraceFrame
import Abasic.Proofs.TraceStmt
import Abasic.Props.C17Trace
import Abasic.Props.C17Dim
import Abasic.Props.C17Count
import Abasic.Props.C02Source
import Abasic.Props.C06Source
import Abasic.Ref.Prog
import Abasic.Proofs.ExprFrame
import Abasic.Proofs.ExprLift
import Abasic.Proofs.Step
import Abasic.Proofs.InspectLemmas
import Abasic.Proofs.NumberedInv
import Abasic.Proofs.SeqLang
import Abasic.Proofs.SeqLTurn
import Abasic.Proofs.SeqLData
import Abasic.Proofs.ProgLemmas
import Abasic.Proofs.RunSim
import Abasic.Props.C03Prog
import Abasic.Props.C07More
import Abasic.Proofs.Cost
import Abasic.Proofs.CostLift
import Abasic.Props.C09More
import Abasic.Proofs.WFAttr
import Abasic.Proofs.WF
import Abasic.Proofs.WFLift
import Abasic.Proofs.WFStmt
import Abasic.Props.C01WF
import Abasic.Ref.Expr2
import Abasic.Ref.Prog2
import Abasic.Ref.Stmt2
import Abasic.Proofs.Budget
import Abasic.Proofs.BudgetAnalyzer
import Abasic.Proofs.BudgetAnalyzerFuel
import Abasic.Proofs.BudgetEval
import Abasic.Proofs.Data2Lemmas
import Abasic.Proofs.DataIter
import Abasic.Proofs.ErrKeepG
import Abasic.Proofs.Expr2Spec
import Abasic.Proofs.Expr2Lemmas
import Abasic.Proofs.ExprLemmasG
import Abasic.Proofs.InputLemmas
import Abasic.Proofs.Prog2Lemmas
import Abasic.Proofs.Prog2Rel
import Abasic.Proofs.Prog2Store
import Abasic.Proofs.ProgTyping
import Abasic.Proofs.Stmt2All
import Abasic.Proofs.Stmt2Arrays
import Abasic.Proofs.Stmt2Lemmas
import Abasic.Proofs.StmtLemmasG
import Abasic.Props.C01Budget
import Abasic.Props.C02Full
import Abasic.Props.C03Full
import Abasic.Props.C05Total
import Abasic.Props.C05File
import Abasic.Props.C06Prog
import Abasic.Props.C08More
import Abasic.Ref.Lsp
import Abasic.Props.C20Server
import Abasic.Props.C15General
import Abasic.Ref.Prog3
import Abasic.Ref.Stmt3
import Abasic.Proofs.Stmt3All
import Abasic.Proofs.Stmt2Image
import Abasic.Proofs.Stmt3Arr
import Abasic.Proofs.Stmt3Base
import Abasic.Proofs.Stmt3Seq
import Abasic.Proofs.StmtCalc
import Abasic.Proofs.ProgView
import Abasic.Proofs.Stmt3Ctl
import Abasic.Proofs.Stmt3Def
import Abasic.Proofs.Stmt3Frame
import Abasic.Proofs.Stmt3If
import Abasic.Proofs.Stmt3Lemmas
import Abasic.Proofs.Stmt3Prog
import Abasic.Proofs.Stmt3Rel
import Abasic.Proofs.Stmt3Static
import Abasic.Proofs.Stmt3Store
import Abasic.Proofs.Stmt3Toks
import Abasic.Props.C03All
import Abasic.Proofs.InspectFrame
import Abasic.Proofs.StmtIndep
import Abasic.Proofs.StmtHead
import Abasic.Proofs.ActCount
import Abasic.Props.C07Inspect
import Abasic.Props.C09Count
import Abasic.Proofs.C11Eval
import Abasic.Props.C11Host
import Abasic.Props.C11Many
import Abasic.Proofs.RngFrame
import Abasic.Proofs.RngRun
import Abasic.Props.C18Host
import Abasic.Proofs.LinesNorm
import Abasic.Proofs.LNorm
import Abasic.Proofs.LNormLift
import Abasic.Props.C14Run
import Abasic.Proofs.C12Data
import Abasic.Props.C12Close
import Abasic.Proofs.LoopsTyping
import Abasic.Proofs.LoopsAnalyzer
import Abasic.Props.C06Loops
import Abasic.Props.C17Repeat
import Abasic.Props.C03Read
import Abasic.Props.C03Order
import Abasic.Props.C03Line
import Abasic.Ref.Prog3Input
import Abasic.Proofs.Stmt3Input
import Abasic.Props.C03Input
import Abasic.Proofs.TypeOf2
import Abasic.Proofs.Typing2
import Abasic.Proofs.Typing2Fold
import Abasic.Proofs.Analyzer2
import Abasic.Proofs.TypeOf3
import Abasic.Proofs.Typing3
import Abasic.Props.C06Full
import Abasic.Props.C06FullEx
import Abasic.Proofs.Builtins
import Abasic.Proofs.Expr2Names
import Abasic.Proofs.Expr2Warn
import Abasic.Proofs.Expr2WarnInd
import Abasic.Props.C02Names
import Abasic.Proofs.AnalyzerDef
import Abasic.Proofs.Analyzer3
import Abasic.Proofs.AnalyzerFns
import Abasic.Proofs.Stmt3TAll
import Abasic.Proofs.Stmt3TProg
import Abasic.Proofs.Stmt3TRel
import Abasic.Props.C03InputAll
import Abasic.Props.C06File3
import Abasic.Props.C02Arity
import Abasic.Props.C14Dec
import Abasic.Props.C07Fail
import Abasic.Props.C18Exact
import Abasic.Proofs.After3
import Abasic.Proofs.DefsFirst
import Abasic.Props.C06Defs
import Abasic.Ref.LspMulti
import Abasic.Props.C20Multi
import Abasic.Props.C06Known
